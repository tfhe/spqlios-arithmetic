/-
  C10 / C04, translator tie of the q120 REFERENCE arithmetic: the terms GENERATED by tools/c2lean.py from the C
  source of `spqlios/q120/q120_arithmetic_ref.c` and `q120_arithmetic_simple.c` (`lean/Gen/CSrc.lean`), run by the
  CIR interpreter, compute the model functions of `lean/Spq/Q120.lean` that `Properties/C10.lean` / `C04.lean`
  are about.

  * operands are buffers of 64-bit cells holding uint64 lanes (`natBuf X`, `X : Array Nat`, lanes `< 2^64`);
    layout c is two uint32 words per cell (little endian), read and written through the IR's 32-bit views;
  * the precomputation struct (`q120_mat1col_product_{baa,bbb,bbc}_precomp*`) is a buffer of 64-bit cells laid out
    as the C struct (`h`, then the `…_pow_red[4]` arrays; offsets computed by the translator from the struct
    definition, cross-checked by the stream `cs_q120`, which passes the LIVE object cell by cell).  The theorems
    hold for EVERY content `pc` of that buffer with `pc.h < 64` (the shifts `<< h`, `>> h`); `Properties/C10.lean`
    instantiates the model with the values of `lean/Gen/ProdPrecomp.lean`, read from the live library on every run;
  * exact-size operands, every `ell` / `nn` (0 included), no out-of-bounds access for any fuel.
-/
import Gen.CSrc
import SpqProofs.Lemmas.SrcQ120
import SpqProofs.Lemmas.SrcSymQ120Ref
import SpqProofs.Lemmas.SrcQ120Znx
import SpqProofs.Lemmas.SrcQ120C
import SpqProofs.Lemmas.SrcVec
import SpqProofs.Lemmas.Q120ConvGen
import SpqProofs.Lemmas.C04ProductsGen
namespace Spq.Src
open Spq Spq.CIR Spq.Q120

/-! ### block extract / save -/

theorem src_q120x2_extract_1blk_from_q120b_ref_eq_model (nn blk : Nat) (hnn : nn < 2305843009213693952)
    (hblk : 8 * blk + 8 ≤ 4 * nn) (mem : Mem) (dst src : Nat) (S : Array Nat)
    (hd : (buf mem dst).size = 8) (hs : buf mem src = natBuf S) (hS : S.size = 4 * nn) :
    ∀ fuel, 8 ≤ fuel →
      run fuel Gen.CSrc.q120x2_extract_1blk_from_q120b_ref [(nn : Int), (blk : Int)] [some (dst, 0), some (src, 0)] mem
        = .ok (mem.setIfInBounds dst (natBuf (extract1blk nn blk S))) := by
  intro fuel hf
  let g : Nat → Int := fun i => ((S.getD (8 * blk + i) 0 : Nat) : Int)
  rw [set_natBuf_eq_fillMem mem dst _ 8 g hd (by simp [extract1blk])
    (fun i hi => by simp [extract1blk, Array.getD, hi, g])]
  cir_enter Gen.CSrc.q120x2_extract_1blk_from_q120b_ref
  have pp0 : ∀ env, ptrAt [some (dst, 0), some (src, 0)] env (.param 0) 0 = .ok (some (dst, 0)) :=
    fun env => ptrAt_param_zero _ env 0 dst 0 rfl
  have pp1 : ∀ env, ptrAt [some (dst, 0), some (src, 0)] env (.param 1) 0 = .ok (some (src, 0)) :=
    fun env => ptrAt_param_zero _ env 1 src 0 rfl
  repeat (first | cir_simp | simp only [pp0, pp1, encPtr_some])
  conv => lhs; rw [show mem = fillMem mem dst g 0 from (set_fill_zero mem dst g).symm]
  rw [count_for _ _ _ _ _ _ _ (fun k => fillMem mem dst g k) 0 8 0 rfl (by omega) (by omega) (by simp) ?he0 ?hhi ?hbody
    fuel (by omega)]
  · rfl
  case he0 => rfl
  case hhi => intro k _ _; rfl
  case hbody =>
    intro k _ hk f _
    have hmul : (8 % 18446744073709551616 * (blk : Int) % 18446744073709551616 + (k : Int)) % 18446744073709551616
        = ((8 * blk + k : Nat) : Int) := by omega
    cirq_simp
    rw [hmul, ptrAt_pvar_nat _ _ 2 src 0 (8 * blk + k) _ rfl rfl rfl, ptrAt_pvar_nat _ _ 4 dst 0 k _ rfl rfl rfl]
    cirq_simp
    simp only [Nat.zero_add]
    rw [pload_fill mem dst src g k (8 * blk + k) (by rw [hs, size_natBuf]; omega) (by omega)]
    cirq_simp
    rw [pstore_fill mem dst g k _ (by omega) (by rw [hs, getD_natBuf])]
    rfl

theorem src_q120x2b_save_1blk_to_q120b_ref_eq_model (nn blk : Nat) (hnn : nn < 2305843009213693952)
    (hblk : 8 * blk + 8 ≤ 4 * nn) (mem : Mem) (dest src : Nat) (D S : Array Nat) (hne : src ≠ dest)
    (hd : buf mem dest = natBuf D) (hD : D.size = 4 * nn) (hs : buf mem src = natBuf S) (hS : S.size = 8) :
    ∀ fuel, 8 ≤ fuel →
      run fuel Gen.CSrc.q120x2b_save_1blk_to_q120b_ref [(nn : Int), (blk : Int)] [some (dest, 0), some (src, 0)] mem
        = .ok (mem.setIfInBounds dest (natBuf (save1blk nn blk D S))) := by
  intro fuel hf
  have hdm : dest < mem.size := lt_size_of_buf_size_pos mem dest (by rw [hd, size_natBuf]; omega)
  let A : Nat → Array Nat := fun k =>
    (List.range k).foldl (fun d i => d.setIfInBounds (8 * blk + i) (S.getD i 0)) D
  have hA : ∀ k, (A k).size = 4 * nn := by
    intro k
    induction k with
    | zero => exact hD
    | succ k ih => simp only [A, List.range_succ, List.foldl_append, List.foldl_cons, List.foldl_nil,
        Array.size_setIfInBounds]; exact ih
  cir_enter Gen.CSrc.q120x2b_save_1blk_to_q120b_ref
  have pp0 : ∀ env, ptrAt [some (dest, 0), some (src, 0)] env (.param 0) 0 = .ok (some (dest, 0)) :=
    fun env => ptrAt_param_zero _ env 0 dest 0 rfl
  have pp1 : ∀ env, ptrAt [some (dest, 0), some (src, 0)] env (.param 1) 0 = .ok (some (src, 0)) :=
    fun env => ptrAt_param_zero _ env 1 src 0 rfl
  repeat (first | cir_simp | simp only [pp0, pp1, encPtr_some])
  rw [count_for _ _ _ _ _ _ _ (fun k => mem.setIfInBounds dest (natBuf (A k))) 0 8 0
    (by show mem = mem.setIfInBounds dest (natBuf D); rw [← hd, set_buf_self]) (by omega) (by omega) (by simp)
    ?he0 ?hhi ?hbody fuel (by omega)]
  · rfl
  case he0 => rfl
  case hhi => intro k _ _; rfl
  case hbody =>
    intro k _ hk f _
    have hmul : (8 % 18446744073709551616 * (blk : Int) % 18446744073709551616 + (k : Int)) % 18446744073709551616
        = ((8 * blk + k : Nat) : Int) := by omega
    cirq_simp
    rw [hmul, ptrAt_pvar_nat _ _ 2 src 0 k _ rfl rfl rfl, ptrAt_pvar_nat _ _ 4 dest 0 (8 * blk + k) _ rfl rfl rfl]
    cirq_simp
    simp only [Nat.zero_add]
    rw [pload_other mem dest src _ k hne (by rw [hs, size_natBuf]; omega), hs, getD_natBuf]
    cirq_simp
    rw [pstore_natBuf mem dest _ _ _ hdm (by rw [hA]; omega)]
    cirq_simp
    simp only [A, List.range_succ, List.foldl_append, List.foldl_cons, List.foldl_nil]

theorem src_q120x2_extract_1blk_from_contiguous_q120b_ref_eq_model (nn nrows blk : Nat)
    (hnn : nn < 2305843009213693952) (hnr : nrows < 18446744073709551616)
    (hblk : 8 * blk + 8 ≤ 4 * nn) (mem : Mem) (dst src : Nat) (S : Array Nat) (hne : src ≠ dst)
    (hd : (buf mem dst).size = 8 * nrows) (hs : buf mem src = natBuf S) (hS : S.size = 4 * nn * nrows) :
    ∀ fuel, nrows + 8 ≤ fuel →
      run fuel Gen.CSrc.q120x2_extract_1blk_from_contiguous_q120b_ref [(nn : Int), (nrows : Int), (blk : Int)]
          [some (dst, 0), some (src, 0)] mem
        = .ok (mem.setIfInBounds dst (natBuf (extractContiguous nn nrows blk S))) := by
  intro fuel hf
  let g : Nat → Int := fun k => ((S.getD (4 * nn * (k / 8) + 8 * blk + k % 8) 0 : Nat) : Int)
  rw [set_natBuf_eq_fillMem mem dst _ (8 * nrows) g hd (by simp [extractContiguous])
    (fun i hi => by simp [extractContiguous, Array.getD, hi, g])]
  cir_enter Gen.CSrc.q120x2_extract_1blk_from_contiguous_q120b_ref
  have pp0 : ∀ env, ptrAt [some (dst, 0), some (src, 0)] env (.param 0) 0 = .ok (some (dst, 0)) :=
    fun env => ptrAt_param_zero _ env 0 dst 0 rfl
  have pp1 : ∀ env, ptrAt [some (dst, 0), some (src, 0)] env (.param 1) 0 = .ok (some (src, 0)) :=
    fun env => ptrAt_param_zero _ env 1 src 0 rfl
  repeat (first | cir_simp | simp only [pp0, pp1, encPtr_some])
  conv => lhs; rw [show mem = fillMem mem dst g 0 from (set_fill_zero mem dst g).symm]
  let Sr : Nat → State := fun row =>
    ⟨[(nn : Int), (nrows : Int), (blk : Int), (src : Int), ((4 * nn * row : Nat) : Int), (dst : Int),
      ((8 * row : Nat) : Int), (row : Int), if row = 0 then 0 else 8], fillMem mem dst g (8 * row)⟩
  rw [exec_for_range _ _ _ _ _ _ Sr 0 nrows 8 (Nat.zero_le _) ?hi0 ?hc ?hs ?hx fuel (by omega)]
  · rfl
  case hi0 => intro f; rfl
  case hc =>
    intro row _ hr
    simp only [Sr]
    cir_simp
    exact ok_decide_true (by omega)
  case hx =>
    simp only [Sr]
    cir_simp
    exact ok_decide_false (by omega)
  case hs =>
    intro row _ hr f hf'
    simp only [Sr]
    cir_simp
    rw [count_for _ _ _ _ _ _ (fillMem mem dst g (8 * row)) (fun k => fillMem mem dst g (8 * row + k)) 0 8 0 (by simp only [Nat.add_zero]) (by omega) (by omega) (by simp)
      ?he0 ?hhi ?hbody f (by omega)]
    case he0 => rfl
    case hhi => intro k _ _; rfl
    case hbody =>
      intro k _ hk f _
      have hmul : (8 % 18446744073709551616 * (blk : Int) % 18446744073709551616 + (k : Int)) % 18446744073709551616
          = ((8 * blk + k : Nat) : Int) := by omega
      cirq_simp
      rw [hmul, ptrAt_pvar_nat _ _ 3 src (4 * nn * row) (8 * blk + k) _ rfl rfl rfl,
        ptrAt_pvar_nat _ _ 5 dst (8 * row) k _ rfl rfl rfl]
      cirq_simp
      have hle : 4 * nn * row + 4 * nn ≤ 4 * nn * nrows := by
        have := Nat.mul_le_mul_left (4 * nn) (show row + 1 ≤ nrows by omega)
        rw [Nat.mul_add, Nat.mul_one] at this; exact this
      rw [pload_other mem dst src _ _ hne (by rw [hs, size_natBuf]; omega), hs, getD_natBuf]
      cirq_simp
      rw [pstore_fill mem dst g (8 * row + k) _ (by omega) (by
        simp only [g]
        rw [show (8 * row + k) / 8 = row by omega, show (8 * row + k) % 8 = k by omega, Nat.add_assoc])]
      rfl
    cir_simp
    have h4 : (4 % 18446744073709551616 * (nn : Int)) % 18446744073709551616 = ((4 * nn : Nat) : Int) := by omega
    rw [h4, ptrAt_pvar_nat _ _ 3 src (4 * nn * row) (4 * nn) _ rfl rfl rfl]
    repeat (first | cir_simp | simp only [encPtr_some])
    rw [ptrAt_pvar_nat _ _ 5 dst (8 * row) 8 (8 : Int) (by rfl) rfl rfl]
    repeat (first | cir_simp | simp only [encPtr_some])
    have e1 : ((row : Int) + 1) % 18446744073709551616 = ((row + 1 : Nat) : Int) := by omega
    rw [e1, if_neg (Nat.add_one_ne_zero row), show 4 * nn * (row + 1) = 4 * nn * row + 4 * nn by rw [Nat.mul_add, Nat.mul_one],
      show 8 * (row + 1) = 8 * row + 8 by omega]
    rfl

theorem src_q120_add_bbb_simple_eq_model (nn : Nat) (hnn : nn < 2305843009213693952) (mem : Mem) (r x y : Nat)
    (X Y : Array Nat) (hr : (buf mem r).size = 4 * nn) (hx : buf mem x = natBuf X) (hX : X.size = 4 * nn)
    (hy : buf mem y = natBuf Y) (hY : Y.size = 4 * nn) :
    ∀ fuel, nn ≤ fuel →
      run fuel Gen.CSrc.q120_add_bbb_simple [(nn : Int)] [some (r, 0), some (x, 0), some (y, 0)] mem
        = .ok (mem.setIfInBounds r (natBuf (addBbb curParams nn X Y))) := by
  intro fuel hf
  let g : Nat → Int := fun i => ((addBbbLane (Gen.q120_q (i % 4)) (X.getD i 0) (Y.getD i 0) : Nat) : Int)
  rw [set_natBuf_eq_fillMem mem r _ (4 * nn) g hr (by simp [addBbb])
    (fun i hi => by simp [addBbb, Array.getD, hi, g, curParams])]
  cir_enter Gen.CSrc.q120_add_bbb_simple
  have pp0 : ∀ env, ptrAt [some (r, 0), some (x, 0), some (y, 0)] env (.param 0) 0 = .ok (some (r, 0)) :=
    fun env => ptrAt_param_zero _ env 0 r 0 rfl
  have pp1 : ∀ env, ptrAt [some (r, 0), some (x, 0), some (y, 0)] env (.param 1) 0 = .ok (some (x, 0)) :=
    fun env => ptrAt_param_zero _ env 1 x 0 rfl
  have pp2 : ∀ env, ptrAt [some (r, 0), some (x, 0), some (y, 0)] env (.param 2) 0 = .ok (some (y, 0)) :=
    fun env => ptrAt_param_zero _ env 2 y 0 rfl
  repeat (first | cir_simp | simp only [pp0, pp1, pp2, encPtr_some])
  conv => lhs; rw [show mem = fillMem mem r g 0 from (set_fill_zero mem r g).symm]
  let Sr : Nat → State := fun k =>
    ⟨[(nn : Int), (x : Int), ((0 : Nat) : Int), (y : Int), ((0 : Nat) : Int), (r : Int), ((0 : Nat) : Int),
      ((4 * k : Nat) : Int)], fillMem mem r g (4 * k)⟩
  rw [exec_for_range _ _ _ _ _ _ Sr 0 nn 0 (Nat.zero_le _) ?hi0 ?hc ?hs ?hx fuel (by omega)]
  · rfl
  case hi0 => intro f; rfl
  case hc =>
    intro k _ hk
    simp only [Sr]
    cir_simp
    exact ok_decide_true (by omega)
  case hx =>
    simp only [Sr]
    cir_simp
    exact ok_decide_false (by omega)
  case hs =>
    intro k _ hk f _
    simp only [Sr]
    -- one lane: `res[i + c] = x[i + c] % (Qc << 33) + y[i + c] % (Qc << 33)`
    have lane : ∀ (c : Nat) (ci : Int) (_ : ci = (c : Int)) (j : Nat) (_ : j = 4 * k + c)
        (cq : Int) (h0 : 0 ≤ cq) (h1 : cq < 8192), c < 4 →
        ((Gen.q120_q c : Nat) : Int) = 1073741825 - cq * 131072 → ∀ f,
        exec [some (r, 0), some (x, 0), some (y, 0)]
          (.pstore (.pvar 5) (.bin .add .u64 (.var 7) (.cast .u64 (.lit ci)))
            (.bin .add .u64
              (.bin .mod .u64 (.pload (.pvar 1) (.bin .add .u64 (.var 7) (.cast .u64 (.lit ci))))
                (.bin .shl .u64 (.cast .u64 (.bin .add .u32 (.bin .sub .u32 (.bin .shl .u32 (.lit 1) (.lit 30))
                  (.bin .mul .u32 (.cast .u32 (.lit cq)) (.bin .shl .u32 (.lit 1) (.lit 17)))) (.cast .u32 (.lit 1))))
                  (.lit 33)))
              (.bin .mod .u64 (.pload (.pvar 3) (.bin .add .u64 (.var 7) (.cast .u64 (.lit ci))))
                (.bin .shl .u64 (.cast .u64 (.bin .add .u32 (.bin .sub .u32 (.bin .shl .u32 (.lit 1) (.lit 30))
                  (.bin .mul .u32 (.cast .u32 (.lit cq)) (.bin .shl .u32 (.lit 1) (.lit 17)))) (.cast .u32 (.lit 1))))
                  (.lit 33))))) f
          ⟨[(nn : Int), (x : Int), ((0 : Nat) : Int), (y : Int), ((0 : Nat) : Int), (r : Int), ((0 : Nat) : Int),
            ((4 * k : Nat) : Int)], fillMem mem r g j⟩
        = .ok (.norm, ⟨[(nn : Int), (x : Int), ((0 : Nat) : Int), (y : Int), ((0 : Nat) : Int), (r : Int),
            ((0 : Nat) : Int), ((4 * k : Nat) : Int)], fillMem mem r g (j + 1)⟩) := by
      intro c ci hci j hj cq h0 h1 hc hq f
      subst hci; subst hj
      have hidx : (((4 * k : Nat) : Int) + (c : Int) % 18446744073709551616) % 18446744073709551616
          = ((4 * k + c : Nat) : Int) := by omega
      simp only [exec_pstore, eval_bin, eval_var, eval_cast, eval_lit, eval_pload, ↓eval_qShl33 _ _ cq h0 h1,
        R.bind_ok, lget_zero, lget_succ, evalBin_add_u64, wrap_u64, evalBin_mod_u64, hidx]
      rw [ptrAt_pvar_nat _ _ 1 x 0 (4 * k + c) _ rfl rfl rfl, ptrAt_pvar_nat _ _ 3 y 0 (4 * k + c) _ rfl rfl rfl,
        ptrAt_pvar_nat _ _ 5 r 0 (4 * k + c) _ rfl rfl rfl]
      simp only [R.bind_ok, Nat.zero_add]
      rw [pload_fill mem r x g _ _ (by rw [hx, size_natBuf]; omega) (Nat.le_refl _),
        pload_fill mem r y g _ _ (by rw [hy, size_natBuf]; omega) (Nat.le_refl _), hx, hy, getD_natBuf, getD_natBuf]
      simp only [R.bind_ok]
      have hm : (1073741825 - cq * 131072) * 8589934592 ≠ 0 := by omega
      simp only [if_neg hm, R.bind_ok]
      rw [pstore_fill mem r g (4 * k + c) _ (by omega) ?hv]
      case hv =>
        simp only [g, addBbbLane, add64]
        rw [show (4 * k + c) % 4 = c by omega]
        generalize X.getD (4 * k + c) 0 = xv
        generalize Y.getD (4 * k + c) 0 = yv
        generalize Gen.q120_q c = q at hq
        have hq' : (q : Int) = 1073741825 - cq * 131072 := hq
        rw [← hq', Nat.mod_eq_of_lt (show q * 8589934592 < 18446744073709551616 by omega)]
        have em : ((q : Int) * 8589934592) = ((q * 8589934592 : Nat) : Int) := by push_cast; rfl
        rw [em, ← Int.natCast_emod, ← Int.natCast_emod]
        omega
      rfl
    have l0 := lane 0 0 rfl (4 * k) rfl 2 (by decide) (by decide) (by decide) (by decide) f
    have l1 := lane 1 1 rfl (4 * k + 1) rfl 17 (by decide) (by decide) (by decide) (by decide) f
    have l2 := lane 2 2 rfl (4 * k + 1 + 1) rfl 23 (by decide) (by decide) (by decide) (by decide) f
    have l3 := lane 3 3 rfl (4 * k + 1 + 1 + 1) rfl 42 (by decide) (by decide) (by decide) (by decide) f
    simp only [exec_seq, seqK_norm, l0, l1, l2, l3]
    cir_simp
    have e1 : (((4 * k : Nat) : Int) + 4 % 18446744073709551616) % 18446744073709551616 = ((4 * (k + 1) : Nat) : Int) := by
      omega
    rw [e1, show 4 * (k + 1) = 4 * k + 1 + 1 + 1 + 1 by omega]

theorem src_q120_vec_mat1col_product_baa_ref_eq_model (P : BaaPrecomp) (hh : P.h < 64)
    (ell : Nat) (hell : ell < 2305843009213693952) (mem : Mem) (pc r x y : Nat) (X Y : Array Nat)
    (hpc : buf mem pc = natBuf #[P.h, P.hpow 0, P.hpow 1, P.hpow 2, P.hpow 3]) (hrp : r ≠ pc)
    (hr : (buf mem r).size = 4) (hx : buf mem x = natBuf X) (hX : X.size = 4 * ell)
    (hy : buf mem y = natBuf Y) (hY : Y.size = 4 * ell) :
    ∀ fuel, ell + 4 ≤ fuel →
      run fuel Gen.CSrc.q120_vec_mat1col_product_baa_ref [(ell : Int)]
          [some (pc, 0), some (r, 0), some (x, 0), some (y, 0)] mem
        = .ok (mem.setIfInBounds r (natBuf (baaRef P ell X Y))) := by
  intro fuel hf
  let F : Nat → Nat → Nat × Nat := fun n k => (laneTerms n X Y 4 k 4 k).foldl (baaRefStep (2 ^ P.h)) (0, 0)
  let C : Nat → Sym.Ctx := fun n =>
    BaaRef.ctx [some (pc, 0), some (r, 0), some (x, 0), some (y, 0)] mem ell P.h x y n (F n)
  have hH : Sym.den (C 0) Q120Avx.H2 = P.h := Q120Avx.den_H2 (C 0) pc (baaCells P) rfl rfl hpc
  refine Sym.sexec_run_rows 6 BaaRef.loop BaaRef.fin C (C 0) ell (Q120Ref.test4 7) _ BaaRef.split rfl
    (by decide) rfl
    (fun _ => ⟨rfl, rfl, rfl⟩) ⟨rfl, rfl⟩ (pre := BaaRef.pre_runs)
    (preNeeds := (Q120Avx.tbl_met (C 0) pc r x y _ rfl rfl hpc _ 1
      (List.forall_mem_singleton.2 (lt_of_eq_of_lt hH hh)) (by simp)).good)
    (start := fun i l _ => BaaRef.start_den mem ell x y pc r (F 0) P hpc (fun _ => rfl) i l)
    (row := BaaRef.row_runs) (test := rfl)
    (testVal := fun n _ => ⟨⟨trivial, trivial, trivial⟩, Q120Ref.den_test4 (C n) 7 n ell rfl rfl hell⟩)
    (rowNeeds := fun n hn => (BaaRef.row_needs _ mem ell P.h x y n (F n) X Y hx hy hh (by omega) (by omega) (by omega)).good)
    (next := fun n hn i q hq => BaaRef.row_next _ mem ell P.h x y n (F n) X Y hx hy (F (n + 1))
      (fun k => foldl_laneTerms_succ _ _ n X Y 4 k 4 k) (by omega) i q hq)
    fuel hf fun e H => ?_
  exact Sym.sexec_fills_natBuf BaaRef.fin_runs rfl rfl rfl _ Array.size_ofFn hr
    (Q120Avx.fin_needs (C ell) pc r x y _ rfl rfl hpc [] 5 hrp nofun (Nat.le_refl 5))
    (fun q hq => (BaaRef.fin_out _ mem ell x y ell pc (F ell) P rfl hpc q hq).trans
      (by simp [baaRef, baaRefLane, Array.getD, hq, F]))
    fuel (by omega) e H

theorem src_q120_vec_mat1col_product_bbb_ref_eq_model (P : BbbPrecomp) (hh : P.h < 64)
    (ell : Nat) (hell : ell < 2305843009213693952) (mem : Mem) (pc r x y : Nat) (X Y : Array Nat)
    (hpc : buf mem pc = natBuf (bbbCells P)) (hrp : r ≠ pc)
    (hr : (buf mem r).size = 4) (hx : buf mem x = natBuf X) (hX : X.size = 4 * ell)
    (hy : buf mem y = natBuf Y) (hY : Y.size = 4 * ell) :
    ∀ fuel, ell + 4 ≤ fuel →
      run fuel Gen.CSrc.q120_vec_mat1col_product_bbb_ref [(ell : Int)]
          [some (pc, 0), some (r, 0), some (x, 0), some (y, 0)] mem
        = .ok (mem.setIfInBounds r (natBuf (bbbRef P ell X Y))) := by
  intro fuel hf
  let F : Nat → Nat → S4 := fun n k => (laneTerms n X Y 4 k 4 k).foldl bbbRefStep ⟨0, 0, 0, 0⟩
  let C : Nat → Sym.Ctx := fun n =>
    BbbRef.ctx [some (pc, 0), some (r, 0), some (x, 0), some (y, 0)] mem ell x y n (F n)
  refine Sym.sexec_run_rows 8 BbbRef.loop BbbRef.fin C (C 0) ell (Q120Ref.test4 9) _ BbbRef.split rfl
    (by decide) rfl
    (fun _ => ⟨rfl, rfl, rfl⟩) ⟨rfl, rfl⟩ (pre := BbbRef.pre_runs)
    (preNeeds := (Q120Avx.tbl_met (C 0) pc r x y _ rfl rfl hpc [.lit 32] 0
      (List.forall_mem_singleton.2 (by decide : 32 < 64)) (Nat.zero_le _)).good)
    (start := fun i l _ => BbbRef.start_den mem ell x y pc r (F 0) (fun _ => rfl) i l)
    (row := BbbRef.row_runs) (test := rfl)
    (testVal := fun n _ => ⟨⟨trivial, trivial, trivial⟩, Q120Ref.den_test4 (C n) 9 n ell rfl rfl hell⟩)
    (rowNeeds := fun n hn => (BbbRef.row_needs _ mem ell x y n (F n) X Y hx hy (by omega) (by omega) (by omega)).good)
    (next := fun n hn i q hq => BbbRef.row_next _ mem ell x y n (F n) X Y hx hy (F (n + 1))
      (fun k => foldl_laneTerms_succ _ _ n X Y 4 k 4 k) (by omega) i q hq)
    fuel hf fun e H => ?_
  exact Sym.sexec_fills_natBuf BbbRef.fin_runs rfl rfl rfl _ Array.size_ofFn hr
    (Q120Avx.fin_needs (C ell) pc r x y _ rfl rfl hpc _ 29 hrp (List.forall_mem_singleton.2
      (lt_of_eq_of_lt (Q120Avx.den_H2 (C ell) pc (bbbCells P) rfl rfl hpc) hh)) (Nat.le_refl 29))
    (fun q hq => (BbbRef.fin_out _ mem ell x y ell pc (F ell) P rfl hpc q hq).trans
      (by simp [bbbRef, bbbRefLane, Array.getD, hq, F]))
    fuel (by omega) e H

theorem src_q120_vec_mat1col_product_bbc_ref_eq_model (P : BbcPrecomp) (hh : P.h < 64)
    (ell : Nat) (hell : ell < 1152921504606846976) (mem : Mem) (pc r x y : Nat) (X Y : Array Nat)
    (hpc : buf mem pc = natBuf (bbcCells P)) (hrp : r ≠ pc)
    (hr : (buf mem r).size = 4) (hx : buf mem x = natBuf X) (hX : X.size = 4 * ell)
    (hXb : ∀ i, X.getD i 0 < 18446744073709551616)
    (hy : buf mem y = natBuf Y) (hY : Y.size = 4 * ell) (hYb : ∀ i, Y.getD i 0 < 18446744073709551616) :
    ∀ fuel, ell + 4 ≤ fuel →
      run fuel Gen.CSrc.q120_vec_mat1col_product_bbc_ref [(ell : Int)]
          [some (pc, 0), some (r, 0), some (x, 0), some (y, 0)] mem
        = .ok (mem.setIfInBounds r (natBuf (bbcRef P ell X Y))) := by
  intro fuel hf
  let F : Nat → Nat → Nat × Nat := fun n k => (laneTerms n X Y 4 k 4 k).foldl bbcRefStep (0, 0)
  let C : Nat → Sym.Ctx := fun n =>
    BbcRef.ctx [some (pc, 0), some (r, 0), some (x, 0), some (y, 0)] mem ell x y n (F n)
  refine Sym.sexec_run_rows 3 BbcRef.loop BbcRef.fin C (C 0) ell BbcRef.test _ BbcRef.split rfl
    (by decide) rfl
    (fun _ => ⟨rfl, rfl, rfl⟩) ⟨rfl, rfl⟩ (pre := BbcRef.pre_runs)
    (preNeeds := (Q120Avx.tbl_met (C 0) pc r x y _ rfl rfl hpc [] 0 nofun (Nat.zero_le _)).good)
    (start := fun i l _ => BbcRef.start_den mem ell x y pc r (F 0) (fun _ => rfl) i l)
    (row := BbcRef.row_runs) (test := rfl)
    (testVal := fun _ _ => ⟨⟨trivial, trivial⟩, rfl⟩)
    (rowNeeds := fun n hn => (BbcRef.row_needs _ mem ell x y n (F n) X Y (by omega) (by omega) (by omega) hx hy).good)
    (next := fun n hn i q hq => BbcRef.row_next _ mem ell x y n (F n) X Y hx hy (F (n + 1))
      (fun k => foldl_laneTerms_succ _ _ n X Y 4 k 4 k) hXb hYb (by omega) i q hq)
    fuel hf fun e H => ?_
  exact Sym.sexec_fills_natBuf BbcRef.fin_runs rfl rfl rfl _ Array.size_ofFn hr
    (Q120Avx.fin_needs (C ell) pc r x y _ rfl rfl hpc _ 9 hrp (List.forall_mem_singleton.2
      (lt_of_eq_of_lt (Q120Avx.den_H2 (C ell) pc (bbcCells P) rfl rfl hpc) hh)) (Nat.le_refl 9))
    (fun q hq => (Q120Ref.den_bbcOut (C ell) pc P rfl rfl hpc q).trans (by
      show bbcRefFinal P (q % 4) (F ell q) = _
      simp [bbcRef, bbcRefLane, Array.getD, hq, F, Nat.mod_eq_of_lt hq]))
    fuel (by omega) e H

set_option linter.unusedSimpArgs false in
theorem src_q120_b_from_znx64_simple_eq_model (nn : Nat) (hnn : nn < 2305843009213693952) (mem : Mem) (r x : Nat)
    (hr : (buf mem r).size = 4 * nn) (hx : (buf mem x).size = nn) (hrx : x ≠ r) :
    ∀ fuel, nn ≤ fuel →
      run fuel Gen.CSrc.q120_b_from_znx64_simple [(nn : Int)] [some (r, 0), some (x, 0)] mem
        = .ok (mem.setIfInBounds r (natBuf (bFromZnx64 curParams nn (buf mem x)))) := by
  intro fuel hf
  let X := buf mem x
  let g : Nat → Int := fun i => ((bFromZnx64Lane (Gen.q120_q (i % 4)) (X.getD (i / 4) 0) : Nat) : Int)
  rw [set_natBuf_eq_fillMem mem r _ (4 * nn) g hr (by simp [bFromZnx64])
    (fun i hi => by simp [bFromZnx64, Array.getD, hi, g, curParams, X])]
  cir_enter Gen.CSrc.q120_b_from_znx64_simple
  have pp0 : ∀ env, ptrAt [some (r, 0), some (x, 0)] env (.param 0) 0 = .ok (some (r, 0)) :=
    fun env => ptrAt_param_zero _ env 0 r 0 rfl
  have e0 : (0 : Int) % 18446744073709551616 = 0 := by decide
  simp (config := { decide := true }) only [exec_seq, exec_assign, exec_passign, eval_cast, eval_lit, eval_un, eval_var,
    eval_bin, ↓eval_qCast64 _ _ 2 (by decide) (by decide), ↓eval_qCast64 _ _ 17 (by decide) (by decide),
    ↓eval_qCast64 _ _ 23 (by decide) (by decide), ↓eval_qCast64 _ _ 42 (by decide) (by decide),
    R.bind_ok, seqK_norm, wrap_i64, wrap_u64, evalUn_bnot_i64, maskhi_val, masklo_val, evalBin_mod_u64, evalBin_sub_u64,
    lget_zero, lget_succ, lset_zero, lset_succ, if_false, pp0, encPtr_some, e0]
  have ho0 : ((1073741825 : Int) - 2 * 131072 - 9223372036854775808 % (1073741825 - 2 * 131072)) % 18446744073709551616
      = ((oq (Gen.q120_q 0) : Nat) : Int) := by rfl
  have ho1 : ((1073741825 : Int) - 17 * 131072 - 9223372036854775808 % (1073741825 - 17 * 131072)) % 18446744073709551616
      = ((oq (Gen.q120_q 1) : Nat) : Int) := by rfl
  have ho2 : ((1073741825 : Int) - 23 * 131072 - 9223372036854775808 % (1073741825 - 23 * 131072)) % 18446744073709551616
      = ((oq (Gen.q120_q 2) : Nat) : Int) := by rfl
  have ho3 : ((1073741825 : Int) - 42 * 131072 - 9223372036854775808 % (1073741825 - 42 * 131072)) % 18446744073709551616
      = ((oq (Gen.q120_q 3) : Nat) : Int) := by rfl
  rw [ho0, ho1, ho2, ho3]
  conv => lhs; rw [show mem = fillMem mem r g 0 from (set_fill_zero mem r g).symm]
  let O : Nat → Int := fun c => ((oq (Gen.q120_q c) : Nat) : Int)
  -- leftovers of `xj_lo`, `xj_hi` from the previous iteration, kept opaque
  obtain ⟨L, hL0, hL⟩ : ∃ L : Nat → Int, L 0 = 0 ∧ ∀ k, L (k + 1) = znxLo (X.getD k 0) :=
    ⟨fun k => if k = 0 then 0 else znxLo (X.getD (k - 1) 0), rfl, fun k => by
      simp only [Nat.add_one_ne_zero, if_false, Nat.add_sub_cancel]⟩
  obtain ⟨H, hH0, hH⟩ : ∃ H : Nat → Int, H 0 = 0 ∧ ∀ k, H (k + 1) = znxHi (X.getD k 0) :=
    ⟨fun k => if k = 0 then 0 else znxHi (X.getD (k - 1) 0), rfl, fun k => by
      simp only [Nat.add_one_ne_zero, if_false, Nat.add_sub_cancel]⟩
  let Sr : Nat → State := fun k =>
    ⟨znxEnv nn r k (-9223372036854775808) 9223372036854775807 (O 0) (O 1) (O 2) (O 3) (L k) (H k),
      fillMem mem r g (4 * k)⟩
  rw [exec_for_range _ _ _ _ _ _ Sr 0 nn 0 (Nat.zero_le _) ?hi0 ?hc ?hs ?hx fuel (by omega)]
  · rfl
  case hi0 =>
    intro f
    simp only [Sr, znxEnv, hL0, hH0]
    rfl
  case hc =>
    intro k _ hk
    simp only [Sr, znxEnv]
    cir_simp
    exact ok_decide_true (by omega)
  case hx =>
    simp only [Sr, znxEnv]
    cir_simp
    exact ok_decide_false (by omega)
  case hs =>
    intro k _ hk f _
    -- the two masks of x[j] (values kept opaque inside the environment), then the four lanes
    have hxl : loadCell (fillMem mem r g (4 * k)) (some (x, 0)) (k : Int) = .ok (X.getD k 0) :=
      load_other mem r x _ k hrx (by omega)
    have h11 : ∀ env', lget env' 10 = (k : Int) → lget env' 2 = 9223372036854775807 →
        eval [some (r, 0), some (x, 0)] ⟨env', fillMem mem r g (4 * k)⟩
          (.cast .u64 (.bin .band .i64 (.load 1 (.var 10)) (.var 2))) = .ok (znxLo (X.getD k 0)) := by
      intro env' e1 e2
      simp only [eval_cast, eval_bin, eval_load, eval_var, e1, e2, List.getD_cons_zero, List.getD_cons_succ, R.bind_ok, hxl,
        evalBin_band_i64, wrap_u64, znx_lo, znxLo]
    have h12 : ∀ env', lget env' 10 = (k : Int) → lget env' 1 = -9223372036854775808 →
        eval [some (r, 0), some (x, 0)] ⟨env', fillMem mem r g (4 * k)⟩
          (.cast .u64 (.bin .band .i64 (.load 1 (.var 10)) (.var 1))) = .ok (znxHi (X.getD k 0)) := by
      intro env' e1 e2
      simp only [eval_cast, eval_bin, eval_load, eval_var, e1, e2, List.getD_cons_zero, List.getD_cons_succ, R.bind_ok, hxl,
        evalBin_band_i64, wrap_u64, znx_hi, znxHi]
    have hval : ∀ c, c < 4 → (znxLo (X.getD k 0) + (if znxHi (X.getD k 0) ≠ 0 then O c
            else 0 % 18446744073709551616)) % 18446744073709551616 = g (4 * k + c) := by
      intro c hc
      simp only [g, O, bFromZnx64Lane, add64, znxLo, znxHi]
      rw [show (4 * k + c) % 4 = c by omega, show (4 * k + c) / 4 = k by omega]
      exact znx_lane_val _ _
    have hst := znx_step nn r x k mem g O hnn hr hk (znxLo (X.getD k 0)) (znxHi (X.getD k 0)) (L k) (H k) h11 h12 hval f
    rw [← hL k, ← hH k] at hst
    exact hst

theorem src_q120_c_from_b_simple_eq_model (nn : Nat) (hnn : nn < 2305843009213693952) (mem : Mem) (r x : Nat)
    (X : Array Nat) (hr : (buf mem r).size = 4 * nn) (hx : buf mem x = natBuf X) (hX : X.size = 4 * nn) :
    ∀ fuel, nn ≤ fuel →
      run fuel Gen.CSrc.q120_c_from_b_simple [(nn : Int)] [some (r, 0), some (x, 0)] mem
        = .ok (mem.setIfInBounds r (natBuf (packW (cFromB curParams nn X)))) := by
  intro fuel hf
  let g : Nat → Int := fun c =>
    (((cFromBLane (Gen.q120_q (c % 4)) (X.getD c 0)).1
      + 4294967296 * (cFromBLane (Gen.q120_q (c % 4)) (X.getD c 0)).2 : Nat) : Int)
  rw [set_natBuf_eq_fillMem mem r _ (4 * nn) g hr (by rw [size_packW, size_cFromB]; omega)
    (fun i hi => by rw [getD_pack_cFromB _ _ _ _ hi]; rfl)]
  cir_enter Gen.CSrc.q120_c_from_b_simple
  have pp0 : ∀ env, ptrAt [some (r, 0), some (x, 0)] env (.param 0) 0 = .ok (some (r, 0)) :=
    fun env => ptrAt_param_zero _ env 0 r 0 rfl
  have pp1 : ∀ env, ptrAt [some (r, 0), some (x, 0)] env (.param 1) 0 = .ok (some (x, 0)) :=
    fun env => ptrAt_param_zero _ env 1 x 0 rfl
  repeat (first | cir_simp | simp only [pp0, pp1, encPtr_some])
  conv => lhs; rw [show mem = fillMem mem r g 0 from (set_fill_zero mem r g).symm]
  let Sr : Nat → State := fun k =>
    ⟨[(nn : Int), (x : Int), ((0 : Nat) : Int), (r : Int), ((0 : Nat) : Int),
      ((4 * k : Nat) : Int), ((8 * k : Nat) : Int)], fillMem mem r g (4 * k)⟩
  rw [exec_for_range _ _ _ _ _ _ Sr 0 nn 0 (Nat.zero_le _) ?hi0 ?hc ?hs ?hx fuel (by omega)]
  · rfl
  case hi0 => intro f; rfl
  case hc =>
    intro k _ hk
    simp only [Sr]
    cir_simp
    exact ok_decide_true (by omega)
  case hx =>
    simp only [Sr]
    cir_simp
    exact ok_decide_false (by omega)
  case hs =>
    intro k _ hk f _
    simp only [Sr]
    have pair : ∀ (p : Nat) (c0 c1 cx : Int) (_ : c0 = ((2 * p : Nat) : Int)) (_ : c1 = ((2 * p + 1 : Nat) : Int))
        (_ : cx = (p : Int)) (j : Nat) (_ : j = 4 * k + p)
        (cq : Int) (h0 : 0 ≤ cq) (h1 : cq < 8192), p < 4 →
        ((Gen.q120_q p : Nat) : Int) = 1073741825 - cq * 131072 → ∀ f,
        exec [some (r, 0), some (x, 0)]
          (.seq
            (.pstore32 (.pvar 3) (.bin .add .u64 (.var 6) (.cast .u64 (.lit c0)))
              (.cast .u32 (.bin .mod .u64 (.pload (.pvar 1) (.bin .add .u64 (.var 5) (.cast .u64 (.lit cx))))
                (.cast .u64 (.bin .add .u32 (.bin .sub .u32 (.bin .shl .u32 (.lit 1) (.lit 30))
                  (.bin .mul .u32 (.cast .u32 (.lit cq)) (.bin .shl .u32 (.lit 1) (.lit 17)))) (.cast .u32 (.lit 1)))))))
            (.pstore32 (.pvar 3) (.bin .add .u64 (.var 6) (.cast .u64 (.lit c1)))
              (.cast .u32 (.bin .mod .u64
                (.bin .shl .u64 (.cast .u64 (.pload32 (.pvar 3) (.bin .add .u64 (.var 6) (.cast .u64 (.lit c0)))))
                  (.lit 32))
                (.cast .u64 (.bin .add .u32 (.bin .sub .u32 (.bin .shl .u32 (.lit 1) (.lit 30))
                  (.bin .mul .u32 (.cast .u32 (.lit cq)) (.bin .shl .u32 (.lit 1) (.lit 17)))) (.cast .u32 (.lit 1)))))))) f
          ⟨[(nn : Int), (x : Int), ((0 : Nat) : Int), (r : Int), ((0 : Nat) : Int),
            ((4 * k : Nat) : Int), ((8 * k : Nat) : Int)], fillMem mem r g j⟩
        = .ok (.norm, ⟨[(nn : Int), (x : Int), ((0 : Nat) : Int), (r : Int), ((0 : Nat) : Int),
            ((4 * k : Nat) : Int), ((8 * k : Nat) : Int)], fillMem mem r g (j + 1)⟩) := by
      intro p c0 c1 cx hc0 hc1 hcx j hj cq h0 h1 hp hq f
      subst hc0; subst hc1; subst hcx; subst hj
      have hi0 : (((8 * k : Nat) : Int) + ((2 * p : Nat) : Int) % 18446744073709551616) % 18446744073709551616
          = ((2 * (4 * k + p) : Nat) : Int) := by omega
      have hi1 : (((8 * k : Nat) : Int) + ((2 * p + 1 : Nat) : Int) % 18446744073709551616) % 18446744073709551616
          = ((2 * (4 * k + p) + 1 : Nat) : Int) := by omega
      have hix : (((4 * k : Nat) : Int) + (p : Int) % 18446744073709551616) % 18446744073709551616
          = ((4 * k + p : Nat) : Int) := by omega
      have hm : (1073741825 - cq * 131072 = 0) = False := by
        apply propext; constructor
        · intro h; omega
        · intro h; exact h.elim
      refine pair32_fill _ _ 3 r mem g (4 * k + p) _ _ _ _
        ((((X.getD (4 * k + p) 0 : Nat) : Int) % (1073741825 - cq * 131072)) % 4294967296) ?v1 f (by omega) rfl rfl
        ?hi0 ?he0 ?hi1 ?he1 ?hg
      case hi0 =>
        simp only [eval_bin, eval_var, eval_cast, eval_lit, R.bind_ok, lget_zero, lget_succ, evalBin_add_u64,
          wrap_u64, hi0]
      case hi1 =>
        simp only [eval_bin, eval_var, eval_cast, eval_lit, R.bind_ok, lget_zero, lget_succ, evalBin_add_u64,
          wrap_u64, hi1]
      case he0 =>
        simp only [eval_bin, eval_var, eval_cast, eval_lit, eval_pload, ↓eval_qCast64 _ _ cq h0 h1, R.bind_ok,
          lget_zero, lget_succ, evalBin_add_u64, wrap_u64, evalBin_mod_u64, hix, wrap_u32]
        rw [ptrAt_pvar_nat _ _ 1 x 0 (4 * k + p) _ rfl rfl rfl]
        simp only [R.bind_ok, Nat.zero_add]
        rw [pload_fill mem r x g _ _ (by rw [hx, size_natBuf]; omega) (Nat.le_refl _), hx, getD_natBuf]
        simp only [R.bind_ok, hm, if_false]
      case he1 =>
        simp only [eval_bin, eval_var, eval_cast, eval_lit, eval_pload32, ↓eval_qCast64 _ _ cq h0 h1, R.bind_ok,
          lget_zero, lget_succ, evalBin_add_u64, wrap_u64, evalBin_mod_u64, evalBin_shl_u64, hi0, wrap_u32,
          natCast_not_neg, if_false, even_div2, even_mod2]
        rw [ptrAt_pvar_nat _ _ 3 r 0 (4 * k + p) _ rfl rfl rfl]
        simp only [R.bind_ok, Nat.zero_add]
        rw [pload_mid mem r r g _ _ (by omega) (by omega)]
        simp (config := { decide := true }) only [R.bind_ok, if_true, half32_setHalf32_lo, hm, if_false]
        rfl
      case hg =>
        simp only [g, cFromBLane, mul64]
        rw [show (4 * k + p) % 4 = p by omega]
        generalize X.getD (4 * k + p) 0 = xv
        generalize Gen.q120_q p = q at hq
        rw [← hq, show (2 : Int) ^ Int.toNat 32 = 4294967296 from rfl]
        have e1 : ((xv : Nat) : Int) % (q : Int) = ((xv % q : Nat) : Int) := (Int.natCast_emod _ _).symm
        rw [e1]
        generalize xv % q = a
        have e2 : ((a : Int) % 4294967296 % 4294967296 % 18446744073709551616 * 4294967296 % 18446744073709551616)
            = ((a % 4294967296 * 4294967296 % 18446744073709551616 : Nat) : Int) := by omega
        rw [e2, ← Int.natCast_emod]
        generalize a % 4294967296 * 4294967296 % 18446744073709551616 % q = b
        omega
    have p0 := pair 0 0 1 0 rfl rfl rfl (4 * k) rfl 2 (by decide) (by decide) (by decide) (by decide) f
    have p1 := pair 1 2 3 1 rfl rfl rfl (4 * k + 1) rfl 17 (by decide) (by decide) (by decide) (by decide) f
    have p2 := pair 2 4 5 2 rfl rfl rfl (4 * k + 1 + 1) rfl 23 (by decide) (by decide) (by decide) (by decide) f
    have p3 := pair 3 6 7 3 rfl rfl rfl (4 * k + 1 + 1 + 1) rfl 42 (by decide) (by decide) (by decide) (by decide) f
    rw [exec_seq_assoc, exec_seq, p0, seqK_norm, exec_seq_assoc, exec_seq, p1, seqK_norm,
      exec_seq_assoc, exec_seq, p2, seqK_norm, p3]
    cir_simp
    have e1 : (((4 * k : Nat) : Int) + 4 % 18446744073709551616) % 18446744073709551616 = ((4 * (k + 1) : Nat) : Int) := by
      omega
    have e2 : (((8 * k : Nat) : Int) + 8 % 18446744073709551616) % 18446744073709551616 = ((8 * (k + 1) : Nat) : Int) := by
      omega
    rw [e1, e2, show 4 * (k + 1) = 4 * k + 1 + 1 + 1 + 1 by omega]

theorem src_q120_add_ccc_simple_eq_model (nn : Nat) (hnn : nn < 2305843009213693952) (mem : Mem) (r x y : Nat)
    (X Y : Array Nat) (hr : (buf mem r).size = 4 * nn)
    (hx : buf mem x = natBuf (packW X)) (hX : X.size = 8 * nn) (hXb : ∀ i, X.getD i 0 < 4294967296)
    (hy : buf mem y = natBuf (packW Y)) (hY : Y.size = 8 * nn) (hYb : ∀ i, Y.getD i 0 < 4294967296) :
    ∀ fuel, nn ≤ fuel →
      run fuel Gen.CSrc.q120_add_ccc_simple [(nn : Int)] [some (r, 0), some (x, 0), some (y, 0)] mem
        = .ok (mem.setIfInBounds r (natBuf (packW (addCcc curParams nn X Y)))) := by
  intro fuel hf
  let g : Nat → Int := fun c =>
    ((addCccWord (Gen.q120_q (c % 4)) (X.getD (2 * c) 0) (Y.getD (2 * c) 0)
      + 4294967296 * addCccWord (Gen.q120_q (c % 4)) (X.getD (2 * c + 1) 0) (Y.getD (2 * c + 1) 0) : Nat) : Int)
  rw [set_natBuf_eq_fillMem mem r _ (4 * nn) g hr (by rw [size_packW, size_addCcc]; omega)
    (fun i hi => by rw [getD_pack_addCcc _ _ _ _ _ hi]; rfl)]
  cir_enter Gen.CSrc.q120_add_ccc_simple
  have pp0 : ∀ env, ptrAt [some (r, 0), some (x, 0), some (y, 0)] env (.param 0) 0 = .ok (some (r, 0)) :=
    fun env => ptrAt_param_zero _ env 0 r 0 rfl
  have pp1 : ∀ env, ptrAt [some (r, 0), some (x, 0), some (y, 0)] env (.param 1) 0 = .ok (some (x, 0)) :=
    fun env => ptrAt_param_zero _ env 1 x 0 rfl
  have pp2 : ∀ env, ptrAt [some (r, 0), some (x, 0), some (y, 0)] env (.param 2) 0 = .ok (some (y, 0)) :=
    fun env => ptrAt_param_zero _ env 2 y 0 rfl
  repeat (first | cir_simp | simp only [pp0, pp1, pp2, encPtr_some])
  conv => lhs; rw [show mem = fillMem mem r g 0 from (set_fill_zero mem r g).symm]
  let Sr : Nat → State := fun k =>
    ⟨[(nn : Int), (x : Int), ((0 : Nat) : Int), (y : Int), ((0 : Nat) : Int), (r : Int), ((0 : Nat) : Int),
      ((8 * k : Nat) : Int)], fillMem mem r g (4 * k)⟩
  rw [exec_for_range _ _ _ _ _ _ Sr 0 nn 0 (Nat.zero_le _) ?hi0 ?hc ?hs ?hx fuel (by omega)]
  · rfl
  case hi0 => intro f; rfl
  case hc =>
    intro k _ hk
    simp only [Sr]
    cir_simp
    exact ok_decide_true (by omega)
  case hx =>
    simp only [Sr]
    cir_simp
    exact ok_decide_false (by omega)
  case hs =>
    intro k _ hk f _
    simp only [Sr]
    have hxs : (buf mem x).size = 4 * nn := by rw [hx, size_natBuf, size_packW]; omega
    have hys : (buf mem y).size = 4 * nn := by rw [hy, size_natBuf, size_packW]; omega
    have pair : ∀ (p : Nat) (c0 c1 : Int) (_ : c0 = ((2 * p : Nat) : Int)) (_ : c1 = ((2 * p + 1 : Nat) : Int))
        (j : Nat) (_ : j = 4 * k + p)
        (cq : Int) (h0 : 0 ≤ cq) (h1 : cq < 8192), p < 4 →
        ((Gen.q120_q p : Nat) : Int) = 1073741825 - cq * 131072 → ∀ f,
        exec [some (r, 0), some (x, 0), some (y, 0)]
          (.seq
            (.pstore32 (.pvar 5) (.bin .add .u64 (.var 7) (.cast .u64 (.lit c0)))
              (.cast .u32 (.bin .mod .u64
                (.bin .add .u64 (.cast .u64 (.pload32 (.pvar 1) (.bin .add .u64 (.var 7) (.cast .u64 (.lit c0)))))
                  (.cast .u64 (.pload32 (.pvar 3) (.bin .add .u64 (.var 7) (.cast .u64 (.lit c0))))))
                (.cast .u64 (.bin .add .u32 (.bin .sub .u32 (.bin .shl .u32 (.lit 1) (.lit 30))
                  (.bin .mul .u32 (.cast .u32 (.lit cq)) (.bin .shl .u32 (.lit 1) (.lit 17)))) (.cast .u32 (.lit 1)))))))
            (.pstore32 (.pvar 5) (.bin .add .u64 (.var 7) (.cast .u64 (.lit c1)))
              (.cast .u32 (.bin .mod .u64
                (.bin .add .u64 (.cast .u64 (.pload32 (.pvar 1) (.bin .add .u64 (.var 7) (.cast .u64 (.lit c1)))))
                  (.cast .u64 (.pload32 (.pvar 3) (.bin .add .u64 (.var 7) (.cast .u64 (.lit c1))))))
                (.cast .u64 (.bin .add .u32 (.bin .sub .u32 (.bin .shl .u32 (.lit 1) (.lit 30))
                  (.bin .mul .u32 (.cast .u32 (.lit cq)) (.bin .shl .u32 (.lit 1) (.lit 17)))) (.cast .u32 (.lit 1)))))))) f
          ⟨[(nn : Int), (x : Int), ((0 : Nat) : Int), (y : Int), ((0 : Nat) : Int), (r : Int), ((0 : Nat) : Int),
            ((8 * k : Nat) : Int)], fillMem mem r g j⟩
        = .ok (.norm, ⟨[(nn : Int), (x : Int), ((0 : Nat) : Int), (y : Int), ((0 : Nat) : Int), (r : Int),
            ((0 : Nat) : Int), ((8 * k : Nat) : Int)], fillMem mem r g (j + 1)⟩) := by
      intro p c0 c1 hc0 hc1 j hj cq h0 h1 hp hq f
      subst hc0; subst hc1; subst hj
      have hi0 : (((8 * k : Nat) : Int) + ((2 * p : Nat) : Int) % 18446744073709551616) % 18446744073709551616
          = ((2 * (4 * k + p) : Nat) : Int) := by omega
      have hi1 : (((8 * k : Nat) : Int) + ((2 * p + 1 : Nat) : Int) % 18446744073709551616) % 18446744073709551616
          = ((2 * (4 * k + p) + 1 : Nat) : Int) := by omega
      have hm : (1073741825 - cq * 131072 = 0) = False := by
        apply propext; constructor
        · intro h; omega
        · intro h; exact h.elim
      have hxc : (buf mem x).getD (4 * k + p) 0 = ((X.getD (2 * (4 * k + p)) 0
          + 4294967296 * X.getD (2 * (4 * k + p) + 1) 0 : Nat) : Int) := by
        rw [hx, getD_natBuf, getD_packW _ _ (by omega)]
      have hyc : (buf mem y).getD (4 * k + p) 0 = ((Y.getD (2 * (4 * k + p)) 0
          + 4294967296 * Y.getD (2 * (4 * k + p) + 1) 0 : Nat) : Int) := by
        rw [hy, getD_natBuf, getD_packW _ _ (by omega)]
      refine pair32_fill _ _ 5 r mem g (4 * k + p) _ _ _ _ ?v0 ?v1 f (by omega) rfl rfl
        ?hi0 ?he0 ?hi1 ?he1 ?hg
      case hi0 =>
        simp only [eval_bin, eval_var, eval_cast, eval_lit, R.bind_ok, lget_zero, lget_succ, evalBin_add_u64,
          wrap_u64, hi0]
      case he0 =>
        simp only [eval_bin, eval_var, eval_cast, eval_lit, eval_pload32, ↓eval_qCast64 _ _ cq h0 h1, R.bind_ok,
          lget_zero, lget_succ, evalBin_add_u64, wrap_u64, evalBin_mod_u64, hi0, wrap_u32,
          natCast_not_neg, if_false, even_div2, even_mod2]
        rw [ptrAt_pvar_nat _ _ 1 x 0 (4 * k + p) _ rfl rfl rfl, ptrAt_pvar_nat _ _ 3 y 0 (4 * k + p) _ rfl rfl rfl]
        simp only [R.bind_ok, Nat.zero_add]
        rw [pload_fill mem r x g _ _ (by omega) (Nat.le_refl _), pload_fill mem r y g _ _ (by omega) (Nat.le_refl _),
          hxc, hyc]
        simp only [R.bind_ok, hm, if_false, half32_pack_lo _ _ (hXb _), half32_pack_lo _ _ (hYb _)]
        rfl
      case hi1 =>
        simp only [eval_bin, eval_var, eval_cast, eval_lit, R.bind_ok, lget_zero, lget_succ, evalBin_add_u64,
          wrap_u64, hi1]
      case he1 =>
        simp only [eval_bin, eval_var, eval_cast, eval_lit, eval_pload32, ↓eval_qCast64 _ _ cq h0 h1, R.bind_ok,
          lget_zero, lget_succ, evalBin_add_u64, wrap_u64, evalBin_mod_u64, hi1, wrap_u32,
          natCast_not_neg, if_false, odd_div2, odd_mod2]
        rw [ptrAt_pvar_nat _ _ 1 x 0 (4 * k + p) _ rfl rfl rfl, ptrAt_pvar_nat _ _ 3 y 0 (4 * k + p) _ rfl rfl rfl]
        simp only [R.bind_ok, Nat.zero_add]
        rw [pload_mid mem r x g _ _ (by omega) (by omega), pload_mid mem r y g _ _ (by omega) (by omega)]
        simp only [R.bind_ok]
        rw [half32_mid_hi_ite (x = r) _ _ _ (fun h => by rw [h]), half32_mid_hi_ite (y = r) _ _ _ (fun h => by rw [h]),
          hxc, hyc]
        simp only [R.bind_ok, hm, if_false, half32_pack_hi _ _ (hXb _) (hXb _), half32_pack_hi _ _ (hYb _) (hYb _)]
        rfl
      case hg =>
        simp only [g, addCccWord, add64]
        rw [show (4 * k + p) % 4 = p by omega]
        have bx0 := hXb (2 * (4 * k + p)); have bx1 := hXb (2 * (4 * k + p) + 1)
        have by0 := hYb (2 * (4 * k + p)); have by1 := hYb (2 * (4 * k + p) + 1)
        generalize X.getD (2 * (4 * k + p)) 0 = a0 at bx0 ⊢
        generalize X.getD (2 * (4 * k + p) + 1) 0 = a1 at bx1 ⊢
        generalize Y.getD (2 * (4 * k + p)) 0 = b0 at by0 ⊢
        generalize Y.getD (2 * (4 * k + p) + 1) 0 = b1 at by1 ⊢
        generalize Gen.q120_q p = q at hq
        rw [← hq]
        have e0 : ((a0 : Int) % 18446744073709551616 + (b0 : Int) % 18446744073709551616) % 18446744073709551616
            = (((a0 + b0) % 18446744073709551616 : Nat) : Int) := by omega
        have e1 : ((a1 : Int) % 18446744073709551616 + (b1 : Int) % 18446744073709551616) % 18446744073709551616
            = (((a1 + b1) % 18446744073709551616 : Nat) : Int) := by omega
        rw [e0, e1, ← Int.natCast_emod, ← Int.natCast_emod]
        generalize (a0 + b0) % 18446744073709551616 % q = u0
        generalize (a1 + b1) % 18446744073709551616 % q = u1
        omega
    have p0 := pair 0 0 1 rfl rfl (4 * k) rfl 2 (by decide) (by decide) (by decide) (by decide) f
    have p1 := pair 1 2 3 rfl rfl (4 * k + 1) rfl 17 (by decide) (by decide) (by decide) (by decide) f
    have p2 := pair 2 4 5 rfl rfl (4 * k + 1 + 1) rfl 23 (by decide) (by decide) (by decide) (by decide) f
    have p3 := pair 3 6 7 rfl rfl (4 * k + 1 + 1 + 1) rfl 42 (by decide) (by decide) (by decide) (by decide) f
    rw [exec_seq_assoc, exec_seq, p0, seqK_norm, exec_seq_assoc, exec_seq, p1, seqK_norm,
      exec_seq_assoc, exec_seq, p2, seqK_norm, p3]
    cir_simp
    have e2 : (((8 * k : Nat) : Int) + 8 % 18446744073709551616) % 18446744073709551616 = ((8 * (k + 1) : Nat) : Int) := by
      omega
    rw [e2, show 4 * (k + 1) = 4 * k + 1 + 1 + 1 + 1 by omega]

/-! ### no out-of-bounds access (nor any error other than running out of fuel), for every fuel -/

theorem src_q120x2_extract_1blk_from_q120b_ref_no_oob (nn blk : Nat) (hnn : nn < 2305843009213693952)
    (hblk : 8 * blk + 8 ≤ 4 * nn) (mem : Mem) (dst src : Nat) (S : Array Nat)
    (hd : (buf mem dst).size = 8) (hs : buf mem src = natBuf S) (hS : S.size = 4 * nn) :
    ∀ fuel e, e ≠ .fuel →
      run fuel Gen.CSrc.q120x2_extract_1blk_from_q120b_ref [(nn : Int), (blk : Int)] [some (dst, 0), some (src, 0)] mem ≠ .err e :=
  run_no_other_error _ _ _ _ _ (8) (src_q120x2_extract_1blk_from_q120b_ref_eq_model nn blk hnn hblk mem dst src S hd hs hS)

theorem src_q120x2b_save_1blk_to_q120b_ref_no_oob (nn blk : Nat) (hnn : nn < 2305843009213693952)
    (hblk : 8 * blk + 8 ≤ 4 * nn) (mem : Mem) (dest src : Nat) (D S : Array Nat) (hne : src ≠ dest)
    (hd : buf mem dest = natBuf D) (hD : D.size = 4 * nn) (hs : buf mem src = natBuf S) (hS : S.size = 8) :
    ∀ fuel e, e ≠ .fuel →
      run fuel Gen.CSrc.q120x2b_save_1blk_to_q120b_ref [(nn : Int), (blk : Int)] [some (dest, 0), some (src, 0)] mem ≠ .err e :=
  run_no_other_error _ _ _ _ _ (8) (src_q120x2b_save_1blk_to_q120b_ref_eq_model nn blk hnn hblk mem dest src D S hne hd hD hs hS)

theorem src_q120x2_extract_1blk_from_contiguous_q120b_ref_no_oob (nn nrows blk : Nat)
    (hnn : nn < 2305843009213693952) (hnr : nrows < 18446744073709551616)
    (hblk : 8 * blk + 8 ≤ 4 * nn) (mem : Mem) (dst src : Nat) (S : Array Nat) (hne : src ≠ dst)
    (hd : (buf mem dst).size = 8 * nrows) (hs : buf mem src = natBuf S) (hS : S.size = 4 * nn * nrows) :
    ∀ fuel e, e ≠ .fuel →
      run fuel Gen.CSrc.q120x2_extract_1blk_from_contiguous_q120b_ref [(nn : Int), (nrows : Int), (blk : Int)] [some (dst, 0), some (src, 0)] mem ≠ .err e :=
  run_no_other_error _ _ _ _ _ (nrows + 8) (src_q120x2_extract_1blk_from_contiguous_q120b_ref_eq_model nn nrows blk hnn hnr hblk mem dst src S hne hd hs hS)

theorem src_q120_add_bbb_simple_no_oob (nn : Nat) (hnn : nn < 2305843009213693952) (mem : Mem) (r x y : Nat)
    (X Y : Array Nat) (hr : (buf mem r).size = 4 * nn) (hx : buf mem x = natBuf X) (hX : X.size = 4 * nn)
    (hy : buf mem y = natBuf Y) (hY : Y.size = 4 * nn) :
    ∀ fuel e, e ≠ .fuel →
      run fuel Gen.CSrc.q120_add_bbb_simple [(nn : Int)] [some (r, 0), some (x, 0), some (y, 0)] mem ≠ .err e :=
  run_no_other_error _ _ _ _ _ (nn) (src_q120_add_bbb_simple_eq_model nn hnn mem r x y X Y hr hx hX hy hY)

theorem src_q120_vec_mat1col_product_baa_ref_no_oob (P : BaaPrecomp) (hh : P.h < 64)
    (ell : Nat) (hell : ell < 2305843009213693952) (mem : Mem) (pc r x y : Nat) (X Y : Array Nat)
    (hpc : buf mem pc = natBuf #[P.h, P.hpow 0, P.hpow 1, P.hpow 2, P.hpow 3]) (hrp : r ≠ pc)
    (hr : (buf mem r).size = 4) (hx : buf mem x = natBuf X) (hX : X.size = 4 * ell)
    (hy : buf mem y = natBuf Y) (hY : Y.size = 4 * ell) :
    ∀ fuel e, e ≠ .fuel →
      run fuel Gen.CSrc.q120_vec_mat1col_product_baa_ref [(ell : Int)] [some (pc, 0), some (r, 0), some (x, 0), some (y, 0)] mem ≠ .err e :=
  run_no_other_error _ _ _ _ _ (ell + 4) (src_q120_vec_mat1col_product_baa_ref_eq_model P hh ell hell mem pc r x y X Y hpc hrp hr hx hX hy hY)

theorem src_q120_vec_mat1col_product_bbb_ref_no_oob (P : BbbPrecomp) (hh : P.h < 64)
    (ell : Nat) (hell : ell < 2305843009213693952) (mem : Mem) (pc r x y : Nat) (X Y : Array Nat)
    (hpc : buf mem pc = natBuf (bbbCells P)) (hrp : r ≠ pc)
    (hr : (buf mem r).size = 4) (hx : buf mem x = natBuf X) (hX : X.size = 4 * ell)
    (hy : buf mem y = natBuf Y) (hY : Y.size = 4 * ell) :
    ∀ fuel e, e ≠ .fuel →
      run fuel Gen.CSrc.q120_vec_mat1col_product_bbb_ref [(ell : Int)] [some (pc, 0), some (r, 0), some (x, 0), some (y, 0)] mem ≠ .err e :=
  run_no_other_error _ _ _ _ _ (ell + 4) (src_q120_vec_mat1col_product_bbb_ref_eq_model P hh ell hell mem pc r x y X Y hpc hrp hr hx hX hy hY)

theorem src_q120_vec_mat1col_product_bbc_ref_no_oob (P : BbcPrecomp) (hh : P.h < 64)
    (ell : Nat) (hell : ell < 1152921504606846976) (mem : Mem) (pc r x y : Nat) (X Y : Array Nat)
    (hpc : buf mem pc = natBuf (bbcCells P)) (hrp : r ≠ pc)
    (hr : (buf mem r).size = 4) (hx : buf mem x = natBuf X) (hX : X.size = 4 * ell)
    (hXb : ∀ i, X.getD i 0 < 18446744073709551616)
    (hy : buf mem y = natBuf Y) (hY : Y.size = 4 * ell) (hYb : ∀ i, Y.getD i 0 < 18446744073709551616) :
    ∀ fuel e, e ≠ .fuel →
      run fuel Gen.CSrc.q120_vec_mat1col_product_bbc_ref [(ell : Int)] [some (pc, 0), some (r, 0), some (x, 0), some (y, 0)] mem ≠ .err e :=
  run_no_other_error _ _ _ _ _ (ell + 4) (src_q120_vec_mat1col_product_bbc_ref_eq_model P hh ell hell mem pc r x y X Y hpc hrp hr hx hX hXb hy hY hYb)

theorem src_q120_b_from_znx64_simple_no_oob (nn : Nat) (hnn : nn < 2305843009213693952) (mem : Mem) (r x : Nat)
    (hr : (buf mem r).size = 4 * nn) (hx : (buf mem x).size = nn) (hrx : x ≠ r) :
    ∀ fuel e, e ≠ .fuel →
      run fuel Gen.CSrc.q120_b_from_znx64_simple [(nn : Int)] [some (r, 0), some (x, 0)] mem ≠ .err e :=
  run_no_other_error _ _ _ _ _ (nn) (src_q120_b_from_znx64_simple_eq_model nn hnn mem r x hr hx hrx)

theorem src_q120_c_from_b_simple_no_oob (nn : Nat) (hnn : nn < 2305843009213693952) (mem : Mem) (r x : Nat)
    (X : Array Nat) (hr : (buf mem r).size = 4 * nn) (hx : buf mem x = natBuf X) (hX : X.size = 4 * nn) :
    ∀ fuel e, e ≠ .fuel →
      run fuel Gen.CSrc.q120_c_from_b_simple [(nn : Int)] [some (r, 0), some (x, 0)] mem ≠ .err e :=
  run_no_other_error _ _ _ _ _ (nn) (src_q120_c_from_b_simple_eq_model nn hnn mem r x X hr hx hX)

theorem src_q120_add_ccc_simple_no_oob (nn : Nat) (hnn : nn < 2305843009213693952) (mem : Mem) (r x y : Nat)
    (X Y : Array Nat) (hr : (buf mem r).size = 4 * nn)
    (hx : buf mem x = natBuf (packW X)) (hX : X.size = 8 * nn) (hXb : ∀ i, X.getD i 0 < 4294967296)
    (hy : buf mem y = natBuf (packW Y)) (hY : Y.size = 8 * nn) (hYb : ∀ i, Y.getD i 0 < 4294967296) :
    ∀ fuel e, e ≠ .fuel →
      run fuel Gen.CSrc.q120_add_ccc_simple [(nn : Int)] [some (r, 0), some (x, 0), some (y, 0)] mem ≠ .err e :=
  run_no_other_error _ _ _ _ _ (nn) (src_q120_add_ccc_simple_eq_model nn hnn mem r x y X Y hr hx hX hXb hy hY hYb)

end Spq.Src
