/-
  C07 / translator tie, AVX limb-vector wrappers: the C SOURCE of `vec_znx_add_avx`, `vec_znx_sub_avx`,
  `vec_znx_negate_avx` (`spqlios/arithmetic/vec_znx_avx.c`), translated on every run (limb loops calling the
  GENERATED terms of the AVX kernels `znx_add/sub/negate_i64_avx`, and of `znx_copy/zero_i64_ref` through the
  `#define znx_copy_i64_avx znx_copy_i64_ref` of the C file), simulates the SAME heap model `VecZnx.add/sub/negate`
  as the reference wrappers (`Properties/SrcVec.lean`), for every `nn` the AVX kernels accept (1, 2, positive
  multiples of 4), all limb counts and strides, per-limb identical or disjoint windows.  Hence, with the theorems
  of `SrcVec.lean`, generated AVX wrapper term = generated reference wrapper term on those inputs
  (`src_vec_znx_*_avx_eq_ref`).  Proofs: the phases of `Lemmas/SrcVecLoop.lean`, as for the reference wrappers,
  with the kernel lemmas `arena_*_avx` (`Lemmas/SrcAvxKern.lean`).
-/
import SpqProofs.Lemmas.SrcVecC08
import SpqProofs.Lemmas.SrcVecKernAut
import SpqProofs.Lemmas.SrcAvxKern
import SpqProofs.Properties.SrcVec
namespace Spq.Src
open Spq Spq.CIR Spq.Heap

theorem src_vec_znx_negate_avx_eq_model (nn rsz rsl asz asl res a : Nat) (hnn : nn < 2305843009213693952)
    (hacc : nn = 1 ∨ nn = 2 ∨ (4 ≤ nn ∧ nn % 4 = 0))
    (hrsz : rsz < 18446744073709551616)
    (m0 : Mem) (B : Nat) (hB : B < m0.size) (X : Array Int) (hX : X.size < 18446744073709551616)
    (hA : ∀ i, i < min rsz asz → SameOrDisj nn (res + i * rsl) (a + i * asl))
    (hok : (VecZnx.negate i64Ops nn ⟨X, true⟩ res rsz rsl a asz asl).ok = true) :
    ∀ fuel, rsz + nn ≤ fuel →
      run fuel Gen.CSrc.vec_znx_negate_avx [(nn : Int), (rsz : Int), (rsl : Int), (asz : Int), (asl : Int)]
          [some (B, res), some (B, a)] (m0.setIfInBounds B X)
        = .ok (m0.setIfInBounds B (VecZnx.negate i64Ops nn ⟨X, true⟩ res rsz rsl a asz asl).mem) := by
  intro fuel hf
  have hs1 : min rsz asz ≤ rsz := Nat.min_le_left _ _
  have hok1 := (Good.forLimbs _ _ fun _ => good_limb0 _ _).mono _ hok
  cir_enter Gen.CSrc.vec_znx_negate_avx
  cir_simp
  rw [min_cond]; cir_simp
  refine memOf_seqK_eq (for_limb1 m0 B nn res rsl ⟨X, true⟩ 0 (min rsz asz) nn hX (Nat.zero_le _)
    (Nat.lt_of_le_of_lt hs1 hrsz) _ (size_kneg nn) a asl (fun k _ hk => hA k hk) (fun X ro ao hr ha hd => arena_negate_avx m0 B hB X nn (Nat.lt_trans hnn (by decide)) ro ao hr ha hd hacc)
    hok1 rfl rfl (fun _ => rfl) (fun _ => rfl) (fun _ => rfl) (fun _ => rfl) (fun _ => rfl) (fun _ _ => rfl) fuel (fuel_le (Nat.min_le_left _ _) hf)) ?_
  exact memOf_eq (for_limb0 m0 B nn res rsl _ (min rsz asz) rsz 0
    (((Good.forLimbs _ _ fun _ => good_limb1 nn _ _ _).size ⟨X, true⟩).trans_lt hX) hs1 hrsz _ (size_kzero nn)
    (fun X ro hr f _ => arena_zero m0 B hB X nn hnn ro hr f) hok rfl (fun _ => rfl) (fun _ => rfl) (fun _ => rfl) (fun _ => rfl)
    (fun _ _ => rfl) fuel (fuel_le0 (Nat.le_refl _) hf)) rfl

theorem src_vec_znx_add_avx_eq_model (nn rsz rsl asz asl bsz bsl res a b : Nat) (hnn : nn < 2305843009213693952)
    (hacc : nn = 1 ∨ nn = 2 ∨ (4 ≤ nn ∧ nn % 4 = 0))
    (hrsz : rsz < 18446744073709551616) (hasz : asz < 18446744073709551616) (hbsz : bsz < 18446744073709551616)
    (m0 : Mem) (B : Nat) (hB : B < m0.size) (X : Array Int) (hX : X.size < 18446744073709551616)
    (hA : ∀ i, i < min rsz asz → SameOrDisj nn (res + i * rsl) (a + i * asl))
    (hBd : ∀ i, i < min rsz bsz → SameOrDisj nn (res + i * rsl) (b + i * bsl))
    (hok : (VecZnx.add i64Ops nn ⟨X, true⟩ res rsz rsl a asz asl b bsz bsl).ok = true) :
    ∀ fuel, rsz + nn ≤ fuel →
      run fuel Gen.CSrc.vec_znx_add_avx
          [(nn : Int), (rsz : Int), (rsl : Int), (asz : Int), (asl : Int), (bsz : Int), (bsl : Int)]
          [some (B, res), some (B, a), some (B, b)] (m0.setIfInBounds B X)
        = .ok (m0.setIfInBounds B (VecZnx.add i64Ops nn ⟨X, true⟩ res rsz rsl a asz asl b bsz bsl).mem) := by
  intro fuel hf
  have hnn64 : nn < 18446744073709551616 := Nat.lt_trans hnn (by decide)
  cir_enter Gen.CSrc.vec_znx_add_avx
  cir_simp
  by_cases hab : asz ≤ bsz
  · have hd : decide ((asz : Int) ≤ (bsz : Int)) = true := decide_eq_true (Int.ofNat_le.mpr hab)
    simp only [hd, if_true]
    rw [min_cond]; cir_simp
    rw [min_cond]; cir_simp
    have hs1 : min rsz asz ≤ min rsz bsz := min_le_min_of_le hab
    have hs2 : min rsz bsz ≤ rsz := Nat.min_le_left _ _
    unfold VecZnx.add at hok ⊢
    simp only [if_pos hab] at hok ⊢
    have hok2 := (Good.forLimbs _ _ fun _ => good_limb0 _ _).mono _ hok
    have hok1 := (Good.forLimbs _ _ fun _ => good_limb1 nn _ _ _).mono _ hok2
    refine memOf_seqK_eq (for_limb2 m0 B nn res rsl ⟨X, true⟩ 0 (min rsz asz) nn hX (Nat.zero_le _)
      (Nat.lt_of_le_of_lt (Nat.le_trans hs1 hs2) hrsz) _ (size_kadd nn) a asl b bsl (fun k _ hk => hA k hk)
      (fun k _ hk => hBd k (lt_min_of_le hk hab)) (fun X ro ao bo hr ha hb hda hdb =>
        arena_add_avx m0 B hB X nn hnn64 ro ao bo hr ha hb hda hdb hacc) hok1 rfl rfl rfl
      (fun _ => rfl) (fun _ => rfl) (fun _ => rfl) (fun _ => rfl) (fun _ => rfl) (fun _ => rfl) (fun _ _ => rfl) fuel (fuel_le (Nat.min_le_left _ _) hf)) ?_
    refine memOf_seq_eq (for_limb1 m0 B nn res rsl _ (min rsz asz) (min rsz bsz) 0 (((Good.forLimbs _ _ fun _ => good_limb2 nn _ _ _ _).size ⟨X, true⟩).trans_lt hX) hs1
      (Nat.lt_of_le_of_lt hs2 hrsz)
      _ (size_kcopy nn) b bsl (fun k _ hk => hBd k hk) (fun X ro ao hr ha hd f _ => arena_copy m0 B hB X nn hnn ro ao hr ha hd f) hok2 rfl rfl
      (fun _ => rfl) (fun _ => rfl) (fun _ => rfl) (fun _ => rfl) (fun _ => rfl) (fun _ _ => rfl) fuel (fuel_le0 (Nat.min_le_left _ _) hf)) ?_
    exact memOf_eq (for_limb0 m0 B nn res rsl _ (min rsz bsz) rsz 0 
      ((((Good.forLimbs _ _ fun _ => good_limb1 nn _ _ _).size _).trans ((Good.forLimbs _ _ fun _ => good_limb2 nn _ _ _ _).size ⟨X, true⟩)).trans_lt hX) hs2 hrsz
      _ (size_kzero nn) (fun X ro hr f _ => arena_zero m0 B hB X nn hnn ro hr f) hok rfl (fun _ => rfl) (fun _ => rfl)
      (fun _ => rfl) (fun _ => rfl) (fun _ _ => rfl) fuel (fuel_le0 (Nat.le_refl _) hf)) rfl
  · have hd : decide ((asz : Int) ≤ (bsz : Int)) = false := decide_eq_false (fun h => hab (Int.ofNat_le.mp h))
    have hba : bsz ≤ asz := Nat.le_of_not_le hab
    simp only [hd, Bool.false_eq_true, if_false]
    rw [min_cond]; cir_simp
    rw [min_cond]; cir_simp
    have hs1 : min rsz bsz ≤ min rsz asz := min_le_min_of_le hba
    have hs2 : min rsz asz ≤ rsz := Nat.min_le_left _ _
    unfold VecZnx.add at hok ⊢
    simp only [if_neg hab] at hok ⊢
    have hok2 := (Good.forLimbs _ _ fun _ => good_limb0 _ _).mono _ hok
    have hok1 := (Good.forLimbs _ _ fun _ => good_limb1 nn _ _ _).mono _ hok2
    refine memOf_seqK_eq (for_limb2 m0 B nn res rsl ⟨X, true⟩ 0 (min rsz bsz) nn hX (Nat.zero_le _)
      (Nat.lt_of_le_of_lt (Nat.le_trans hs1 hs2) hrsz) _ (size_kadd nn) a asl b bsl (fun k _ hk => hA k (lt_min_of_le hk hba))
      (fun k _ hk => hBd k hk) (fun X ro ao bo hr ha hb hda hdb =>
        arena_add_avx m0 B hB X nn hnn64 ro ao bo hr ha hb hda hdb hacc) hok1 rfl rfl rfl
      (fun _ => rfl) (fun _ => rfl) (fun _ => rfl) (fun _ => rfl) (fun _ => rfl) (fun _ => rfl) (fun _ _ => rfl) fuel (fuel_le (Nat.min_le_left _ _) hf)) ?_
    refine memOf_seq_eq (for_limb1 m0 B nn res rsl _ (min rsz bsz) (min rsz asz) 0 (((Good.forLimbs _ _ fun _ => good_limb2 nn _ _ _ _).size ⟨X, true⟩).trans_lt hX) hs1
      (Nat.lt_of_le_of_lt hs2 hrsz)
      _ (size_kcopy nn) a asl (fun k _ hk => hA k hk) (fun X ro ao hr ha hd f _ => arena_copy m0 B hB X nn hnn ro ao hr ha hd f) hok2 rfl rfl
      (fun _ => rfl) (fun _ => rfl) (fun _ => rfl) (fun _ => rfl) (fun _ => rfl) (fun _ _ => rfl) fuel (fuel_le0 (Nat.min_le_left _ _) hf)) ?_
    exact memOf_eq (for_limb0 m0 B nn res rsl _ (min rsz asz) rsz 0 
      ((((Good.forLimbs _ _ fun _ => good_limb1 nn _ _ _).size _).trans ((Good.forLimbs _ _ fun _ => good_limb2 nn _ _ _ _).size ⟨X, true⟩)).trans_lt hX) hs2 hrsz
      _ (size_kzero nn) (fun X ro hr f _ => arena_zero m0 B hB X nn hnn ro hr f) hok rfl (fun _ => rfl) (fun _ => rfl)
      (fun _ => rfl) (fun _ => rfl) (fun _ _ => rfl) fuel (fuel_le0 (Nat.le_refl _) hf)) rfl

theorem src_vec_znx_sub_avx_eq_model (nn rsz rsl asz asl bsz bsl res a b : Nat) (hnn : nn < 2305843009213693952)
    (hacc : nn = 1 ∨ nn = 2 ∨ (4 ≤ nn ∧ nn % 4 = 0))
    (hrsz : rsz < 18446744073709551616) (hasz : asz < 18446744073709551616) (hbsz : bsz < 18446744073709551616)
    (m0 : Mem) (B : Nat) (hB : B < m0.size) (X : Array Int) (hX : X.size < 18446744073709551616)
    (hA : ∀ i, i < min rsz asz → SameOrDisj nn (res + i * rsl) (a + i * asl))
    (hBd : ∀ i, i < min rsz bsz → SameOrDisj nn (res + i * rsl) (b + i * bsl))
    (hok : (VecZnx.sub i64Ops nn ⟨X, true⟩ res rsz rsl a asz asl b bsz bsl).ok = true) :
    ∀ fuel, rsz + nn ≤ fuel →
      run fuel Gen.CSrc.vec_znx_sub_avx
          [(nn : Int), (rsz : Int), (rsl : Int), (asz : Int), (asl : Int), (bsz : Int), (bsl : Int)]
          [some (B, res), some (B, a), some (B, b)] (m0.setIfInBounds B X)
        = .ok (m0.setIfInBounds B (VecZnx.sub i64Ops nn ⟨X, true⟩ res rsz rsl a asz asl b bsz bsl).mem) := by
  intro fuel hf
  have hnn64 : nn < 18446744073709551616 := Nat.lt_trans hnn (by decide)
  cir_enter Gen.CSrc.vec_znx_sub_avx
  cir_simp
  by_cases hab : asz ≤ bsz
  · have hd : decide ((asz : Int) ≤ (bsz : Int)) = true := decide_eq_true (Int.ofNat_le.mpr hab)
    simp only [hd, if_true]
    rw [min_cond]; cir_simp
    rw [min_cond]; cir_simp
    have hs1 : min rsz asz ≤ min rsz bsz := min_le_min_of_le hab
    have hs2 : min rsz bsz ≤ rsz := Nat.min_le_left _ _
    unfold VecZnx.sub at hok ⊢
    simp only [if_pos hab] at hok ⊢
    have hok2 := (Good.forLimbs _ _ fun _ => good_limb0 _ _).mono _ hok
    have hok1 := (Good.forLimbs _ _ fun _ => good_limb1 nn _ _ _).mono _ hok2
    refine memOf_seqK_eq (for_limb2 m0 B nn res rsl ⟨X, true⟩ 0 (min rsz asz) nn hX (Nat.zero_le _)
      (Nat.lt_of_le_of_lt (Nat.le_trans hs1 hs2) hrsz) _ (size_ksub nn) a asl b bsl (fun k _ hk => hA k hk)
      (fun k _ hk => hBd k (lt_min_of_le hk hab)) (fun X ro ao bo hr ha hb hda hdb =>
        arena_sub_avx m0 B hB X nn hnn64 ro ao bo hr ha hb hda hdb hacc) hok1 rfl rfl rfl
      (fun _ => rfl) (fun _ => rfl) (fun _ => rfl) (fun _ => rfl) (fun _ => rfl) (fun _ => rfl) (fun _ _ => rfl) fuel (fuel_le (Nat.min_le_left _ _) hf)) ?_
    refine memOf_seq_eq (for_limb1 m0 B nn res rsl _ (min rsz asz) (min rsz bsz) nn (((Good.forLimbs _ _ fun _ => good_limb2 nn _ _ _ _).size ⟨X, true⟩).trans_lt hX) hs1
      (Nat.lt_of_le_of_lt hs2 hrsz)
      _ (size_kneg nn) b bsl (fun k _ hk => hBd k hk) (fun X ro ao hr ha hd => arena_negate_avx m0 B hB X nn hnn64 ro ao hr ha hd hacc) hok2 rfl rfl
      (fun _ => rfl) (fun _ => rfl) (fun _ => rfl) (fun _ => rfl) (fun _ => rfl) (fun _ _ => rfl) fuel (fuel_le (Nat.min_le_left _ _) hf)) ?_
    exact memOf_eq (for_limb0 m0 B nn res rsl _ (min rsz bsz) rsz 0 
      ((((Good.forLimbs _ _ fun _ => good_limb1 nn _ _ _).size _).trans ((Good.forLimbs _ _ fun _ => good_limb2 nn _ _ _ _).size ⟨X, true⟩)).trans_lt hX) hs2 hrsz
      _ (size_kzero nn) (fun X ro hr f _ => arena_zero m0 B hB X nn hnn ro hr f) hok rfl (fun _ => rfl) (fun _ => rfl)
      (fun _ => rfl) (fun _ => rfl) (fun _ _ => rfl) fuel (fuel_le0 (Nat.le_refl _) hf)) rfl
  · have hd : decide ((asz : Int) ≤ (bsz : Int)) = false := decide_eq_false (fun h => hab (Int.ofNat_le.mp h))
    have hba : bsz ≤ asz := Nat.le_of_not_le hab
    simp only [hd, Bool.false_eq_true, if_false]
    rw [min_cond]; cir_simp
    rw [min_cond]; cir_simp
    have hs1 : min rsz bsz ≤ min rsz asz := min_le_min_of_le hba
    have hs2 : min rsz asz ≤ rsz := Nat.min_le_left _ _
    unfold VecZnx.sub at hok ⊢
    simp only [if_neg hab] at hok ⊢
    have hok2 := (Good.forLimbs _ _ fun _ => good_limb0 _ _).mono _ hok
    have hok1 := (Good.forLimbs _ _ fun _ => good_limb1 nn _ _ _).mono _ hok2
    refine memOf_seqK_eq (for_limb2 m0 B nn res rsl ⟨X, true⟩ 0 (min rsz bsz) nn hX (Nat.zero_le _)
      (Nat.lt_of_le_of_lt (Nat.le_trans hs1 hs2) hrsz) _ (size_ksub nn) a asl b bsl (fun k _ hk => hA k (lt_min_of_le hk hba))
      (fun k _ hk => hBd k hk) (fun X ro ao bo hr ha hb hda hdb =>
        arena_sub_avx m0 B hB X nn hnn64 ro ao bo hr ha hb hda hdb hacc) hok1 rfl rfl rfl
      (fun _ => rfl) (fun _ => rfl) (fun _ => rfl) (fun _ => rfl) (fun _ => rfl) (fun _ => rfl) (fun _ _ => rfl) fuel (fuel_le (Nat.min_le_left _ _) hf)) ?_
    refine memOf_seq_eq (for_limb1 m0 B nn res rsl _ (min rsz bsz) (min rsz asz) 0 (((Good.forLimbs _ _ fun _ => good_limb2 nn _ _ _ _).size ⟨X, true⟩).trans_lt hX) hs1
      (Nat.lt_of_le_of_lt hs2 hrsz)
      _ (size_kcopy nn) a asl (fun k _ hk => hA k hk) (fun X ro ao hr ha hd f _ => arena_copy m0 B hB X nn hnn ro ao hr ha hd f) hok2 rfl rfl
      (fun _ => rfl) (fun _ => rfl) (fun _ => rfl) (fun _ => rfl) (fun _ => rfl) (fun _ _ => rfl) fuel (fuel_le0 (Nat.min_le_left _ _) hf)) ?_
    exact memOf_eq (for_limb0 m0 B nn res rsl _ (min rsz asz) rsz 0 
      ((((Good.forLimbs _ _ fun _ => good_limb1 nn _ _ _).size _).trans ((Good.forLimbs _ _ fun _ => good_limb2 nn _ _ _ _).size ⟨X, true⟩)).trans_lt hX) hs2 hrsz
      _ (size_kzero nn) (fun X ro hr f _ => arena_zero m0 B hB X nn hnn ro hr f) hok rfl (fun _ => rfl) (fun _ => rfl)
      (fun _ => rfl) (fun _ => rfl) (fun _ _ => rfl) fuel (fuel_le0 (Nat.le_refl _) hf)) rfl

/-! ### generated AVX wrapper term = generated reference wrapper term -/

theorem src_vec_znx_negate_avx_eq_ref (nn rsz rsl asz asl res a : Nat) (hnn : nn < 2305843009213693952)
    (hacc : nn = 1 ∨ nn = 2 ∨ (4 ≤ nn ∧ nn % 4 = 0))
    (hrsz : rsz < 18446744073709551616)
    (m0 : Mem) (B : Nat) (hB : B < m0.size) (X : Array Int) (hX : X.size < 18446744073709551616)
    (hA : ∀ i, i < min rsz asz → SameOrDisj nn (res + i * rsl) (a + i * asl))
    (hok : (VecZnx.negate i64Ops nn ⟨X, true⟩ res rsz rsl a asz asl).ok = true) :
    ∀ fuel, rsz + nn ≤ fuel →
      run fuel Gen.CSrc.vec_znx_negate_avx [(nn : Int), (rsz : Int), (rsl : Int), (asz : Int), (asl : Int)]
          [some (B, res), some (B, a)] (m0.setIfInBounds B X)
        = run fuel Gen.CSrc.vec_znx_negate_ref [(nn : Int), (rsz : Int), (rsl : Int), (asz : Int), (asl : Int)]
          [some (B, res), some (B, a)] (m0.setIfInBounds B X) := by
  intro fuel hf
  rw [src_vec_znx_negate_avx_eq_model nn rsz rsl asz asl res a hnn hacc hrsz m0 B hB X hX hA hok fuel hf,
    src_vec_znx_negate_ref_eq_model nn rsz rsl asz asl res a hnn hrsz m0 B hB X hX hA hok fuel hf]

theorem src_vec_znx_add_avx_eq_ref (nn rsz rsl asz asl bsz bsl res a b : Nat) (hnn : nn < 2305843009213693952)
    (hacc : nn = 1 ∨ nn = 2 ∨ (4 ≤ nn ∧ nn % 4 = 0))
    (hrsz : rsz < 18446744073709551616) (hasz : asz < 18446744073709551616) (hbsz : bsz < 18446744073709551616)
    (m0 : Mem) (B : Nat) (hB : B < m0.size) (X : Array Int) (hX : X.size < 18446744073709551616)
    (hA : ∀ i, i < min rsz asz → SameOrDisj nn (res + i * rsl) (a + i * asl))
    (hBd : ∀ i, i < min rsz bsz → SameOrDisj nn (res + i * rsl) (b + i * bsl))
    (hok : (VecZnx.add i64Ops nn ⟨X, true⟩ res rsz rsl a asz asl b bsz bsl).ok = true) :
    ∀ fuel, rsz + nn ≤ fuel →
      run fuel Gen.CSrc.vec_znx_add_avx
          [(nn : Int), (rsz : Int), (rsl : Int), (asz : Int), (asl : Int), (bsz : Int), (bsl : Int)]
          [some (B, res), some (B, a), some (B, b)] (m0.setIfInBounds B X)
        = run fuel Gen.CSrc.vec_znx_add_ref
          [(nn : Int), (rsz : Int), (rsl : Int), (asz : Int), (asl : Int), (bsz : Int), (bsl : Int)]
          [some (B, res), some (B, a), some (B, b)] (m0.setIfInBounds B X) := by
  intro fuel hf
  rw [src_vec_znx_add_avx_eq_model nn rsz rsl asz asl bsz bsl res a b hnn hacc hrsz hasz hbsz m0 B hB X hX hA hBd hok
      fuel hf,
    src_vec_znx_add_ref_eq_model nn rsz rsl asz asl bsz bsl res a b hnn hrsz hasz hbsz m0 B hB X hX hA hBd hok fuel hf]

theorem src_vec_znx_sub_avx_eq_ref (nn rsz rsl asz asl bsz bsl res a b : Nat) (hnn : nn < 2305843009213693952)
    (hacc : nn = 1 ∨ nn = 2 ∨ (4 ≤ nn ∧ nn % 4 = 0))
    (hrsz : rsz < 18446744073709551616) (hasz : asz < 18446744073709551616) (hbsz : bsz < 18446744073709551616)
    (m0 : Mem) (B : Nat) (hB : B < m0.size) (X : Array Int) (hX : X.size < 18446744073709551616)
    (hA : ∀ i, i < min rsz asz → SameOrDisj nn (res + i * rsl) (a + i * asl))
    (hBd : ∀ i, i < min rsz bsz → SameOrDisj nn (res + i * rsl) (b + i * bsl))
    (hok : (VecZnx.sub i64Ops nn ⟨X, true⟩ res rsz rsl a asz asl b bsz bsl).ok = true) :
    ∀ fuel, rsz + nn ≤ fuel →
      run fuel Gen.CSrc.vec_znx_sub_avx
          [(nn : Int), (rsz : Int), (rsl : Int), (asz : Int), (asl : Int), (bsz : Int), (bsl : Int)]
          [some (B, res), some (B, a), some (B, b)] (m0.setIfInBounds B X)
        = run fuel Gen.CSrc.vec_znx_sub_ref
          [(nn : Int), (rsz : Int), (rsl : Int), (asz : Int), (asl : Int), (bsz : Int), (bsl : Int)]
          [some (B, res), some (B, a), some (B, b)] (m0.setIfInBounds B X) := by
  intro fuel hf
  rw [src_vec_znx_sub_avx_eq_model nn rsz rsl asz asl bsz bsl res a b hnn hacc hrsz hasz hbsz m0 B hB X hX hA hBd hok
      fuel hf,
    src_vec_znx_sub_ref_eq_model nn rsz rsl asz asl bsz bsl res a b hnn hrsz hasz hbsz m0 B hB X hX hA hBd hok fuel hf]

/-! ### composition with C08 (declared extents, aliasing contract): no out-of-bounds access -/

theorem src_vec_znx_negate_avx_no_oob (nn rsz rsl asz asl res a : Nat) (hnn : nn < 2305843009213693952)
    (hacc : nn = 1 ∨ nn = 2 ∨ (4 ≤ nn ∧ nn % 4 = 0))
    (hrsz : rsz < 18446744073709551616)
    (m0 : Mem) (B : Nat) (hB : B < m0.size) (X : Array Int) (hX : X.size < 18446744073709551616)
    (hres : C08.InBounds nn X.size res rsz rsl) (ha : C08.InBounds nn X.size a (min asz rsz) asl)
    (hsa : Heap.SrcOK nn res rsz rsl a asz asl) :
    ∀ fuel, rsz + nn ≤ fuel →
      run fuel Gen.CSrc.vec_znx_negate_avx [(nn : Int), (rsz : Int), (rsl : Int), (asz : Int), (asl : Int)]
          [some (B, res), some (B, a)] (m0.setIfInBounds B X)
        = .ok (m0.setIfInBounds B (VecZnx.negate i64Ops nn ⟨X, true⟩ res rsz rsl a asz asl).mem) :=
  src_vec_znx_negate_avx_eq_model nn rsz rsl asz asl res a hnn hacc hrsz m0 B hB X hX
    (sameOrDisj_of_srcOK nn res rsz rsl a asz asl hsa)
    (C08.negate_no_fault i64Ops nn ⟨X, true⟩ res rsz rsl a asz asl hres ha)

theorem src_vec_znx_add_avx_no_oob (nn rsz rsl asz asl bsz bsl res a b : Nat) (hnn : nn < 2305843009213693952)
    (hacc : nn = 1 ∨ nn = 2 ∨ (4 ≤ nn ∧ nn % 4 = 0))
    (hrsz : rsz < 18446744073709551616) (hasz : asz < 18446744073709551616) (hbsz : bsz < 18446744073709551616)
    (m0 : Mem) (B : Nat) (hB : B < m0.size) (X : Array Int) (hX : X.size < 18446744073709551616)
    (hres : C08.InBounds nn X.size res rsz rsl) (ha : C08.InBounds nn X.size a (min asz rsz) asl)
    (hb : C08.InBounds nn X.size b (min bsz rsz) bsl)
    (hsa : Heap.SrcOK nn res rsz rsl a asz asl) (hsb : Heap.SrcOK nn res rsz rsl b bsz bsl) :
    ∀ fuel, rsz + nn ≤ fuel →
      run fuel Gen.CSrc.vec_znx_add_avx
          [(nn : Int), (rsz : Int), (rsl : Int), (asz : Int), (asl : Int), (bsz : Int), (bsl : Int)]
          [some (B, res), some (B, a), some (B, b)] (m0.setIfInBounds B X)
        = .ok (m0.setIfInBounds B (VecZnx.add i64Ops nn ⟨X, true⟩ res rsz rsl a asz asl b bsz bsl).mem) :=
  src_vec_znx_add_avx_eq_model nn rsz rsl asz asl bsz bsl res a b hnn hacc hrsz hasz hbsz m0 B hB X hX
    (sameOrDisj_of_srcOK nn res rsz rsl a asz asl hsa) (sameOrDisj_of_srcOK nn res rsz rsl b bsz bsl hsb)
    (C08.add_no_fault i64Ops nn ⟨X, true⟩ res rsz rsl a asz asl b bsz bsl hres ha hb)

theorem src_vec_znx_sub_avx_no_oob (nn rsz rsl asz asl bsz bsl res a b : Nat) (hnn : nn < 2305843009213693952)
    (hacc : nn = 1 ∨ nn = 2 ∨ (4 ≤ nn ∧ nn % 4 = 0))
    (hrsz : rsz < 18446744073709551616) (hasz : asz < 18446744073709551616) (hbsz : bsz < 18446744073709551616)
    (m0 : Mem) (B : Nat) (hB : B < m0.size) (X : Array Int) (hX : X.size < 18446744073709551616)
    (hres : C08.InBounds nn X.size res rsz rsl) (ha : C08.InBounds nn X.size a (min asz rsz) asl)
    (hb : C08.InBounds nn X.size b (min bsz rsz) bsl)
    (hsa : Heap.SrcOK nn res rsz rsl a asz asl) (hsb : Heap.SrcOK nn res rsz rsl b bsz bsl) :
    ∀ fuel, rsz + nn ≤ fuel →
      run fuel Gen.CSrc.vec_znx_sub_avx
          [(nn : Int), (rsz : Int), (rsl : Int), (asz : Int), (asl : Int), (bsz : Int), (bsl : Int)]
          [some (B, res), some (B, a), some (B, b)] (m0.setIfInBounds B X)
        = .ok (m0.setIfInBounds B (VecZnx.sub i64Ops nn ⟨X, true⟩ res rsz rsl a asz asl b bsz bsl).mem) :=
  src_vec_znx_sub_avx_eq_model nn rsz rsl asz asl bsz bsl res a b hnn hacc hrsz hasz hbsz m0 B hB X hX
    (sameOrDisj_of_srcOK nn res rsz rsl a asz asl hsa) (sameOrDisj_of_srcOK nn res rsz rsl b bsz bsl hsb)
    (C08.sub_no_fault i64Ops nn ⟨X, true⟩ res rsz rsl a asz asl b bsz bsl hres ha hb)

end Spq.Src
