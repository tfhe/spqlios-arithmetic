/-
  SrcNorm: the C SOURCE equals the hand-written model, for all inputs — znx_normalize, six pointer shapes (property C05).
  Conventions of the statements:
  * `mem : Mem` is the whole memory (array of buffers of 64-bit cells); pointer parameter `i` is bound to
    `some (b, 0)` = start of buffer `b`; the buffers passed have EXACTLY `nn` cells (`(buf mem b).size = nn`);
  * buffer indices may coincide where the C contract allows aliasing (element-wise kernels: any aliasing);
  * `∀ fuel, F nn ≤ fuel → …`: explicit sufficient fuel (one unit per loop iteration);
  * `src_<f>_no_oob`: for EVERY fuel the run is not an out-of-bounds / null / overlap / ub / unsupported error
    (it is the model result, or `Err.fuel` when the fuel is below the bound).
-/
import Gen.CSrc
import Spq.Coeffs
import SpqProofs.Lemmas.SrcFill
import SpqProofs.Lemmas.SrcFuel
import SpqProofs.Lemmas.SrcNorm
import SpqProofs.Lemmas.SrcNormKern
namespace Spq.Src
open Spq Spq.CIR

/-! ### `znx_normalize(nn, base_k, out, carry_out, in, carry_in)`: one statement per pointer shape (null pointers
    select one of the six loops of the C function; the helpers `get_base_k_digit` / `get_base_k_carry` are inlined
    by the translator).  Every `nn < 2^64`, `1 ≤ base_k ≤ 63` (the shifts by `64 - base_k` and `base_k` must be
    `< 64`), ANY aliasing of `out` / `carry_out` with `in` / `carry_in` (the in-place uses of the library), `out` and
    `carry_out` different buffers.  The model returns the pair (digits, carries); the C code stores the components
    whose pointer is non-null. -/

theorem src_znx_normalize_out_eq_model (nn : Nat) (hnn : nn < 18446744073709551616) (k : Nat)
    (hk1 : 1 ≤ k) (hk2 : k ≤ 63) (mem : Mem) (o i : Nat) (ho : (buf mem o).size = nn) (hi : (buf mem i).size = nn) :
    ∀ fuel, nn ≤ fuel →
      run fuel Gen.CSrc.znx_normalize [(nn : Int), (k : Int)] [some (o, 0), none, some (i, 0), none] mem
        = .ok (mem.setIfInBounds o (Coeffs.znxNormalize nn k (buf mem i) none).1) := by
  intro fuel hf
  have h := znx_normalize_out_windows nn hnn k hk1 hk2 mem i 0 (by omega) o 0 (by omega) (fun _ => .inl rfl) fuel hf
  rwa [win_whole _ _ hi, wset_whole _ _ _ (by rw [ho, size_znxNormalize_fst])] at h

theorem src_znx_normalize_out_cin_eq_model (nn : Nat) (hnn : nn < 18446744073709551616) (k : Nat)
    (hk1 : 1 ≤ k) (hk2 : k ≤ 63) (mem : Mem) (o i ci : Nat) (ho : (buf mem o).size = nn) (hi : (buf mem i).size = nn) (hci : (buf mem ci).size = nn) :
    ∀ fuel, nn ≤ fuel →
      run fuel Gen.CSrc.znx_normalize [(nn : Int), (k : Int)] [some (o, 0), none, some (i, 0), some (ci, 0)] mem
        = .ok (mem.setIfInBounds o (Coeffs.znxNormalize nn k (buf mem i) (some (buf mem ci))).1) := by
  intro fuel hf
  have h := znx_normalize_out_cin_windows nn hnn k hk1 hk2 mem i 0 (by omega) o 0 (by omega) (fun _ => .inl rfl) ci 0 (by omega) (fun _ => .inl rfl)
    fuel hf
  rwa [win_whole _ _ hi, win_whole _ _ hci, wset_whole _ _ _ (by rw [ho, size_znxNormalize_fst])] at h

theorem src_znx_normalize_out_cout_eq_model (nn : Nat) (hnn : nn < 18446744073709551616) (k : Nat)
    (hk1 : 1 ≤ k) (hk2 : k ≤ 63) (mem : Mem) (o c i : Nat) (hoc : c ≠ o) (ho : (buf mem o).size = nn) (hc : (buf mem c).size = nn)
    (hi : (buf mem i).size = nn) :
    ∀ fuel, nn ≤ fuel →
      run fuel Gen.CSrc.znx_normalize [(nn : Int), (k : Int)] [some (o, 0), some (c, 0), some (i, 0), none] mem
        = .ok ((mem.setIfInBounds o (Coeffs.znxNormalize nn k (buf mem i) none).1).setIfInBounds c
            (Coeffs.znxNormalize nn k (buf mem i) none).2) := by
  intro fuel hf
  have h := znx_normalize_out_cout_windows nn hnn k hk1 hk2 mem i 0 (by omega) o 0 c 0 (fun h => absurd h hoc) (by omega)
    (by omega) (fun _ => .inl rfl) (fun _ => .inl rfl) fuel hf
  rwa [win_whole _ _ hi, wset_whole _ _ _ (by rw [buf_wset_ne _ _ _ _ _ hoc, hc, size_znxNormalize_snd]),
    wset_whole _ _ _ (by rw [ho, size_znxNormalize_fst])] at h

theorem src_znx_normalize_out_cout_cin_eq_model (nn : Nat) (hnn : nn < 18446744073709551616) (k : Nat)
    (hk1 : 1 ≤ k) (hk2 : k ≤ 63) (mem : Mem) (o c i ci : Nat) (hoc : c ≠ o) (ho : (buf mem o).size = nn) (hc : (buf mem c).size = nn)
    (hi : (buf mem i).size = nn) (hci : (buf mem ci).size = nn) :
    ∀ fuel, nn ≤ fuel →
      run fuel Gen.CSrc.znx_normalize [(nn : Int), (k : Int)] [some (o, 0), some (c, 0), some (i, 0), some (ci, 0)] mem
        = .ok ((mem.setIfInBounds o (Coeffs.znxNormalize nn k (buf mem i) (some (buf mem ci))).1).setIfInBounds c
            (Coeffs.znxNormalize nn k (buf mem i) (some (buf mem ci))).2) := by
  intro fuel hf
  have h := znx_normalize_out_cout_cin_windows nn hnn k hk1 hk2 mem i 0 (by omega) o 0 c 0 (fun h => absurd h hoc)
    (by omega) (by omega) (fun _ => .inl rfl) (fun _ => .inl rfl) ci 0 (by omega) (fun _ => .inl rfl) (fun _ => .inl rfl) fuel hf
  rwa [win_whole _ _ hi, win_whole _ _ hci, wset_whole _ _ _ (by rw [buf_wset_ne _ _ _ _ _ hoc, hc, size_znxNormalize_snd]),
    wset_whole _ _ _ (by rw [ho, size_znxNormalize_fst])] at h

theorem src_znx_normalize_cout_eq_model (nn : Nat) (hnn : nn < 18446744073709551616) (k : Nat)
    (hk1 : 1 ≤ k) (hk2 : k ≤ 63) (mem : Mem) (c i : Nat) (hc : (buf mem c).size = nn) (hi : (buf mem i).size = nn) :
    ∀ fuel, nn ≤ fuel →
      run fuel Gen.CSrc.znx_normalize [(nn : Int), (k : Int)] [none, some (c, 0), some (i, 0), none] mem
        = .ok (mem.setIfInBounds c (Coeffs.znxNormalize nn k (buf mem i) none).2) := by
  intro fuel hf
  have h := znx_normalize_cout_windows nn hnn k hk1 hk2 mem i 0 (by omega) c 0 (by omega) (fun _ => .inl rfl) fuel hf
  rwa [win_whole _ _ hi, wset_whole _ _ _ (by rw [hc, size_znxNormalize_snd])] at h

theorem src_znx_normalize_cout_cin_eq_model (nn : Nat) (hnn : nn < 18446744073709551616) (k : Nat)
    (hk1 : 1 ≤ k) (hk2 : k ≤ 63) (mem : Mem) (c i ci : Nat) (hc : (buf mem c).size = nn) (hi : (buf mem i).size = nn) (hci : (buf mem ci).size = nn) :
    ∀ fuel, nn ≤ fuel →
      run fuel Gen.CSrc.znx_normalize [(nn : Int), (k : Int)] [none, some (c, 0), some (i, 0), some (ci, 0)] mem
        = .ok (mem.setIfInBounds c (Coeffs.znxNormalize nn k (buf mem i) (some (buf mem ci))).2) := by
  intro fuel hf
  have h := znx_normalize_cout_cin_windows nn hnn k hk1 hk2 mem i 0 (by omega) c 0 (by omega) (fun _ => .inl rfl) ci 0 (by omega) (fun _ => .inl rfl)
    fuel hf
  rwa [win_whole _ _ hi, win_whole _ _ hci, wset_whole _ _ _ (by rw [hc, size_znxNormalize_snd])] at h

theorem src_znx_normalize_out_no_oob (nn : Nat) (hnn : nn < 18446744073709551616) (k : Nat)
    (hk1 : 1 ≤ k) (hk2 : k ≤ 63) (mem : Mem) (o i : Nat) (ho : (buf mem o).size = nn) (hi : (buf mem i).size = nn) :
    ∀ fuel e, e ≠ .fuel →
      run fuel Gen.CSrc.znx_normalize [(nn : Int), (k : Int)] [some (o, 0), none, some (i, 0), none] mem ≠ .err e :=
  run_no_other_error _ _ _ _ _ nn (src_znx_normalize_out_eq_model nn hnn k hk1 hk2 mem o i ho hi)

theorem src_znx_normalize_out_cin_no_oob (nn : Nat) (hnn : nn < 18446744073709551616) (k : Nat)
    (hk1 : 1 ≤ k) (hk2 : k ≤ 63) (mem : Mem) (o i ci : Nat) (ho : (buf mem o).size = nn) (hi : (buf mem i).size = nn) (hci : (buf mem ci).size = nn) :
    ∀ fuel e, e ≠ .fuel →
      run fuel Gen.CSrc.znx_normalize [(nn : Int), (k : Int)] [some (o, 0), none, some (i, 0), some (ci, 0)] mem ≠ .err e :=
  run_no_other_error _ _ _ _ _ nn (src_znx_normalize_out_cin_eq_model nn hnn k hk1 hk2 mem o i ci ho hi hci)

theorem src_znx_normalize_out_cout_no_oob (nn : Nat) (hnn : nn < 18446744073709551616) (k : Nat)
    (hk1 : 1 ≤ k) (hk2 : k ≤ 63) (mem : Mem) (o c i : Nat) (hoc : c ≠ o) (ho : (buf mem o).size = nn) (hc : (buf mem c).size = nn)
    (hi : (buf mem i).size = nn) :
    ∀ fuel e, e ≠ .fuel →
      run fuel Gen.CSrc.znx_normalize [(nn : Int), (k : Int)] [some (o, 0), some (c, 0), some (i, 0), none] mem ≠ .err e :=
  run_no_other_error _ _ _ _ _ nn (src_znx_normalize_out_cout_eq_model nn hnn k hk1 hk2 mem o c i hoc ho hc hi)

theorem src_znx_normalize_out_cout_cin_no_oob (nn : Nat) (hnn : nn < 18446744073709551616) (k : Nat)
    (hk1 : 1 ≤ k) (hk2 : k ≤ 63) (mem : Mem) (o c i ci : Nat) (hoc : c ≠ o) (ho : (buf mem o).size = nn) (hc : (buf mem c).size = nn)
    (hi : (buf mem i).size = nn) (hci : (buf mem ci).size = nn) :
    ∀ fuel e, e ≠ .fuel →
      run fuel Gen.CSrc.znx_normalize [(nn : Int), (k : Int)] [some (o, 0), some (c, 0), some (i, 0), some (ci, 0)] mem ≠ .err e :=
  run_no_other_error _ _ _ _ _ nn (src_znx_normalize_out_cout_cin_eq_model nn hnn k hk1 hk2 mem o c i ci hoc ho hc hi hci)

theorem src_znx_normalize_cout_no_oob (nn : Nat) (hnn : nn < 18446744073709551616) (k : Nat)
    (hk1 : 1 ≤ k) (hk2 : k ≤ 63) (mem : Mem) (c i : Nat) (hc : (buf mem c).size = nn) (hi : (buf mem i).size = nn) :
    ∀ fuel e, e ≠ .fuel →
      run fuel Gen.CSrc.znx_normalize [(nn : Int), (k : Int)] [none, some (c, 0), some (i, 0), none] mem ≠ .err e :=
  run_no_other_error _ _ _ _ _ nn (src_znx_normalize_cout_eq_model nn hnn k hk1 hk2 mem c i hc hi)

theorem src_znx_normalize_cout_cin_no_oob (nn : Nat) (hnn : nn < 18446744073709551616) (k : Nat)
    (hk1 : 1 ≤ k) (hk2 : k ≤ 63) (mem : Mem) (c i ci : Nat) (hc : (buf mem c).size = nn) (hi : (buf mem i).size = nn) (hci : (buf mem ci).size = nn) :
    ∀ fuel e, e ≠ .fuel →
      run fuel Gen.CSrc.znx_normalize [(nn : Int), (k : Int)] [none, some (c, 0), some (i, 0), some (ci, 0)] mem ≠ .err e :=
  run_no_other_error _ _ _ _ _ nn (src_znx_normalize_cout_cin_eq_model nn hnn k hk1 hk2 mem c i ci hc hi hci)

/-- `znx_normalize` in place (`out == in`, `carry_out == carry_in`), base 2^3: digits in [-4, 4), exact carries;
    `base_k = 64` is rejected by the source-level semantics (shift by 64 in `get_base_k_carry`), and a call with
    `out == carry_out == NULL` dereferences a null pointer. -/
example :
    run 3 Gen.CSrc.znx_normalize [3, 3] [some (0, 0), some (1, 0), some (0, 0), some (1, 0)]
        #[#[5, -9, 100], #[1, 0, -1]] = .ok #[#[-2, -1, 3], #[1, -1, 12]]
    ∧ run 3 Gen.CSrc.znx_normalize [3, 64] [some (0, 0), some (1, 0), some (0, 0), some (1, 0)]
        #[#[5, -9, 100], #[1, 0, -1]] = .err .ub
    ∧ run 3 Gen.CSrc.znx_normalize [3, 3] [none, none, some (0, 0), none] #[#[5, -9, 100]] = .err .null := by
  decide


end Spq.Src
