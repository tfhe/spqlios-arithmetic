/-
  C17 — block layouts and complex-vector kernels are faithful and mutually inverse.

  The model is `Spq/Reim4.lean` (tied to the C code, bit for bit, by the streams `r4_layout` and `r4_arith`).

  Layout (full proofs, any element type `α`, every `m`, every block index `blk < m/4`, every
  row count including 0, every stride): extraction returns evaluations `4blk..4blk+3` (real parts
  then imaginary parts) of every row, saving is its inverse and touches only the 8 addressed cells,
  `to_cplx ∘ from_cplx` is the identity on all `2m` doubles; the AVX/FMA variants are *equal* to the
  reference ones (pure data movement).

  Arithmetic, exact: the kernels are run on the arithmetic `RArith.ofRing R` of an arbitrary
  commutative ring `R` (`fma a b c = a*b + c`, `fms a b c = a*b - c`) and compared with the complex
  numbers `Cx R`, `(a+ib)(c+id) = (ac−bd) + i(ad+bc)` (`Spq.Cx`, `SpqProofs/Lemmas/Reim4Cx.lean`).
  `cx x i j` is the complex number stored in cells `(i, j)` of `x`; `ev idx x i` is evaluation `i` of
  a vector in layout `idx` (`idxReim4`: block `i/4` lane `i%4`; `idxReim m`: cells `(i, i+m)`;
  `idxCplx`: cells `(2i, 2i+1)`), and `Pointwise idx m r res val` says: `res` has the size of `r`,
  evaluation `i < m` of `res` is `val i`, and every cell from `2m` on is unchanged.  Sums are
  `Finset` sums, over `range nrows` (dot products) or over the index pairs of the convolution; every
  length including 0 is covered (an empty sum is 0).  As corollaries the SIMD variants (their own
  operation order: two accumulators subtracted at the end, alternating-sign `fmsub`, `fmaddsub` on
  interleaved data) return the same arrays as the reference code in exact arithmetic.

  Rounding (`dot_err_*`): for an arithmetic satisfying the standard model of floating-point
  arithmetic with unit roundoff `u` (`StdModel`, every operation exact up to a relative error `u`;
  binary64 without overflow/underflow: `u = 2^-53`) the accumulating products are within
  `((1+u)^(n+2) − 1)·Σ(|a_i c_i| + |b_i d_i|)` of the exact sums — reference order (`n` terms of
  three roundings each, `n` additions), AVX2 order (FMA chains combined at the end) and the
  convolution window.  That binary64 satisfies `StdModel` on the inputs at hand (no overflow, no
  underflow) is not proved here; the stream `r4_arith` checks the real outputs against this bound
  (with a subnormal allowance).
-/
import SpqProofs.Lemmas.Reim4Layout
import SpqProofs.Lemmas.Reim4Fftvec
import SpqProofs.Lemmas.Reim4Err
import SpqProofs.Lemmas.Reim4Chain
namespace Spq.C17
open Spq Reim4
variable {α : Type}

/-! ## layout -/

/-- `reim4_extract_1blk_from_reim_{ref,avx}`: `dst[k] = src[4blk+k]`, `dst[4+k] = src[m+4blk+k]`;
    nothing else of `dst` changes.  (`_hblk`, `_hsrc` are the memory-safety domain of the C function;
    the equations do not depend on them.) -/
theorem extract_spec (z : α) (m blk : Nat) (dst src : Array α)
    (_hblk : blk < m / 4) (_hsrc : 2 * m ≤ src.size) (hdst : 8 ≤ dst.size) :
    (extract1blkFromReimRef z m blk dst src).size = dst.size ∧
    (∀ k, k < 4 →
      (extract1blkFromReimRef z m blk dst src).getD k z = src.getD (4 * blk + k) z ∧
      (extract1blkFromReimRef z m blk dst src).getD (4 + k) z = src.getD (m + 4 * blk + k) z) ∧
    (∀ x, 8 ≤ x → (extract1blkFromReimRef z m blk dst src).getD x z = dst.getD x z) ∧
    extract1blkFromReimAvx z m blk dst src = extract1blkFromReimRef z m blk dst src := by
  have e : extract1blkFromReimRef z m blk dst src =
      V4.store (V4.store dst 0 (V4.load z src (4 * blk))) 4 (V4.load z src (4 * blk + m)) := rfl
  refine ⟨by rw [e]; simp, ?_, ?_, rfl⟩
  · intro k hk
    constructor
    · have h0 := V4.getD_store_in dst 0 (V4.load z src (4 * blk)) k z hk (by omega)
      rw [Nat.zero_add] at h0
      rw [e, V4.getD_store_out _ _ _ _ _ (by omega), h0, V4.lane_load _ _ _ _ hk]
    · have h1 : 4 * blk + m + k = m + 4 * blk + k := by omega
      rw [e, V4.getD_store_in _ _ _ _ _ hk (by rw [V4.size_store]; omega), V4.lane_load _ _ _ _ hk, h1]
  · intro x hx
    rw [e, V4.getD_store_out _ _ _ _ _ (by omega), V4.getD_store_out _ _ _ _ _ (by omega)]

/-- `reim4_extract_1blk_from_contiguous_reim_{ref,avx}`: row `i` of the source starts at `i·2m`;
    every row count including 0. -/
theorem extract_rows_spec (z : α) (m nrows blk : Nat) (dst src : Array α)
    (_hblk : blk < m / 4) (_hsrc : nrows * (2 * m) ≤ src.size) (hdst : 8 * nrows ≤ dst.size) :
    (extract1blkFromContiguousReimRef z m nrows blk dst src).size = dst.size ∧
    (∀ i k, i < nrows → k < 4 →
      (extract1blkFromContiguousReimRef z m nrows blk dst src).getD (8 * i + k) z = src.getD (i * (2 * m) + 4 * blk + k) z ∧
      (extract1blkFromContiguousReimRef z m nrows blk dst src).getD (8 * i + 4 + k) z = src.getD (i * (2 * m) + m + 4 * blk + k) z) ∧
    (∀ x, 8 * nrows ≤ x → (extract1blkFromContiguousReimRef z m nrows blk dst src).getD x z = dst.getD x z) ∧
    extract1blkFromContiguousReimAvx z m nrows blk dst src = extract1blkFromContiguousReimRef z m nrows blk dst src := by
  rw [extractC_eq_mapV4]
  obtain ⟨s1, s2, _, s3⟩ := mapV4_contig z (2 * nrows) (fun i _ => V4.load z src (4 * blk + i * m)) dst (by omega)
  refine ⟨s1, ?_, fun x hx => s3 x (by omega), rfl⟩
  · intro i k hi hk
    constructor
    · have := s2 (2 * i) (by omega) k hk
      have e : 8 * i + k = 4 * (2 * i) + k := by omega
      have e2 : 4 * blk + 2 * i * m + k = i * (2 * m) + 4 * blk + k := by ring
      rw [e, this, V4.lane_load _ _ _ _ hk, e2]
    · have := s2 (2 * i + 1) (by omega) k hk
      have e : 8 * i + 4 + k = 4 * (2 * i + 1) + k := by omega
      have e2 : 4 * blk + (2 * i + 1) * m + k = i * (2 * m) + m + 4 * blk + k := by ring
      rw [e, this, V4.lane_load _ _ _ _ hk, e2]

/-- `reim4_extract_1blk_from_contiguous_reim_sl_{ref,avx}`: row `i` of the source starts at `i·sl`;
    every stride (`_hsl` is the domain in which rows do not overlap). -/
theorem extract_rows_sl_spec (z : α) (m sl nrows blk : Nat) (dst src : Array α)
    (_hblk : blk < m / 4) (_hsl : 2 * m ≤ sl) (_hsrc : nrows * sl ≤ src.size + (sl - 2 * m)) (hdst : 8 * nrows ≤ dst.size) :
    (extract1blkFromContiguousReimSlRef z m sl nrows blk dst src).size = dst.size ∧
    (∀ i k, i < nrows → k < 4 →
      (extract1blkFromContiguousReimSlRef z m sl nrows blk dst src).getD (8 * i + k) z = src.getD (i * sl + 4 * blk + k) z ∧
      (extract1blkFromContiguousReimSlRef z m sl nrows blk dst src).getD (8 * i + 4 + k) z = src.getD (i * sl + m + 4 * blk + k) z) ∧
    (∀ x, 8 * nrows ≤ x → (extract1blkFromContiguousReimSlRef z m sl nrows blk dst src).getD x z = dst.getD x z) ∧
    extract1blkFromContiguousReimSlAvx z m sl nrows blk dst src = extract1blkFromContiguousReimSlRef z m sl nrows blk dst src := by
  rw [extractSl_eq_mapV4x2]
  obtain ⟨s1, s2, s3⟩ := mapV4x2_spec z nrows (fun i => 8 * i) (fun i => 8 * i + 4)
    (fun i _ _ => (V4.load z src (4 * blk + i * sl), V4.load z src (4 * blk + i * sl + m))) dst
    (by intro j j' _ _ _; omega) (by intro j j' _ _ _; omega) (by intro j j' _ _; omega) (by intro j hj; omega)
  refine ⟨s1, ?_, ?_, rfl⟩
  · intro i k hi hk
    obtain ⟨a, b⟩ := s2 i hi k hk
    constructor
    · have e1 : 4 * blk + i * sl + k = i * sl + 4 * blk + k := by omega
      rw [a, V4.lane_load _ _ _ _ hk, e1]
    · have e1 : 4 * blk + i * sl + m + k = i * sl + m + 4 * blk + k := by omega
      rw [b, V4.lane_load _ _ _ _ hk, e1]
  · intro x hx
    apply s3
    intro j hj
    omega

/-- `reim4_save_1blk_to_reim_{ref,avx}`: `dst[4blk+k] = src[k]`, `dst[m+4blk+k] = src[4+k]`, and
    saving only changes the 8 addressed cells. -/
theorem save_spec (z : α) (m blk : Nat) (dst src : Array α)
    (hblk : blk < m / 4) (hdst : 2 * m ≤ dst.size) :
    (save1blkToReimRef z m blk dst src).size = dst.size ∧
    (∀ k, k < 4 →
      (save1blkToReimRef z m blk dst src).getD (4 * blk + k) z = src.getD k z ∧
      (save1blkToReimRef z m blk dst src).getD (m + 4 * blk + k) z = src.getD (4 + k) z) ∧
    (∀ x, ¬ (4 * blk ≤ x ∧ x < 4 * blk + 4) → ¬ (m + 4 * blk ≤ x ∧ x < m + 4 * blk + 4) →
      (save1blkToReimRef z m blk dst src).getD x z = dst.getD x z) ∧
    save1blkToReimAvx z m blk dst src = save1blkToReimRef z m blk dst src := by
  have e : save1blkToReimRef z m blk dst src =
      V4.store (V4.store dst (4 * blk) (V4.load z src 0)) (4 * blk + m) (V4.load z src 4) := rfl
  refine ⟨by rw [e]; simp, ?_, ?_, rfl⟩
  · intro k hk
    constructor
    · rw [e, V4.getD_store_out _ _ _ _ _ (by omega), V4.getD_store_in _ _ _ _ _ hk (by omega),
        V4.lane_load _ _ _ _ hk, Nat.zero_add]
    · have h0 : m + 4 * blk + k = 4 * blk + m + k := by omega
      rw [e, h0, V4.getD_store_in _ _ _ _ _ hk (by rw [V4.size_store]; omega), V4.lane_load _ _ _ _ hk]
  · intro x h1 h2
    rw [e, V4.getD_store_out _ _ _ _ _ (by omega), V4.getD_store_out _ _ _ _ _ (by omega)]

/-- saving block `blk` and extracting block `blk` again returns the 8 saved values -/
theorem extract_save_inverse (z : α) (m blk : Nat) (vec v out : Array α)
    (hblk : blk < m / 4) (hvec : 2 * m ≤ vec.size) (hout : 8 ≤ out.size) :
    ∀ k, k < 8 → (extract1blkFromReimRef z m blk out (save1blkToReimRef z m blk vec v)).getD k z = v.getD k z := by
  intro k hk
  obtain ⟨ss, sv, _, _⟩ := save_spec z m blk vec v hblk hvec
  obtain ⟨_, ev, _, _⟩ := extract_spec z m blk out (save1blkToReimRef z m blk vec v) hblk (by rw [ss]; exact hvec) hout
  by_cases h4 : k < 4
  · rw [(ev k h4).1, (sv k h4).1]
  · have e : k = 4 + (k - 4) := by omega
    rw [e, (ev (k - 4) (by omega)).2, (sv (k - 4) (by omega)).2]

/-- extracting block `blk` and saving it back leaves the vector unchanged -/
theorem save_extract_inverse (z : α) (m blk : Nat) (vec out : Array α)
    (hblk : blk < m / 4) (hvec : 2 * m ≤ vec.size) (hout : 8 ≤ out.size) :
    save1blkToReimRef z m blk vec (extract1blkFromReimRef z m blk out vec) = vec := by
  obtain ⟨ss, sv, sf, _⟩ := save_spec z m blk vec (extract1blkFromReimRef z m blk out vec) hblk hvec
  obtain ⟨_, ev, _, _⟩ := extract_spec z m blk out vec hblk hvec hout
  apply ext_getD z ss
  intro x _
  by_cases h1 : 4 * blk ≤ x ∧ x < 4 * blk + 4
  · have e : x = 4 * blk + (x - 4 * blk) := by omega
    rw [e, (sv (x - 4 * blk) (by omega)).1, (ev (x - 4 * blk) (by omega)).1]
  · by_cases h2 : m + 4 * blk ≤ x ∧ x < m + 4 * blk + 4
    · have e : x = m + 4 * blk + (x - (m + 4 * blk)) := by omega
      rw [e, (sv (x - (m + 4 * blk)) (by omega)).2, (ev (x - (m + 4 * blk)) (by omega)).2]
    · exact sf x h1 h2

/-- `reim4_from_cplx_{ref,fma}`: block `b` of the output is block `b` of the input shuffled by the
    involution `perm8 = (1 4)(3 6)`: reals `r0 r2 r1 r3`, then imaginaries `i0 i2 i1 i3`;
    cells from `8·(m/4)` on are untouched; the FMA variant is equal to the reference one. -/
theorem from_cplx_spec (z : α) (m : Nat) (r x : Array α) (hr : 2 * m ≤ r.size) :
    (fromCplxRef z m r x).size = r.size ∧
    (∀ b u, b < m / 4 → u < 8 → (fromCplxRef z m r x).getD (8 * b + u) z = x.getD (8 * b + perm8 u) z) ∧
    (∀ i, 8 * (m / 4) ≤ i → (fromCplxRef z m r x).getD i z = r.getD i z) ∧
    (m % 4 = 0 → fromCplxFma z m r x = some (fromCplxRef z m r x)) := by
  rw [fromCplxRef_eq_mapV4x2]
  obtain ⟨a, b, c⟩ := shuffle8_spec z (m / 4) r x (by omega)
  exact ⟨a, b, c, fun h => by rw [← fromCplxRef_eq_mapV4x2]; exact unpackLoopFma_eq z m h r x⟩

/-- `reim4_to_cplx_{ref,fma}`: the same block shuffle -/
theorem to_cplx_spec (z : α) (m : Nat) (y a : Array α) (hy : 2 * m ≤ y.size) :
    (toCplxRef z m y a).size = y.size ∧
    (∀ b u, b < m / 4 → u < 8 → (toCplxRef z m y a).getD (8 * b + u) z = a.getD (8 * b + perm8 u) z) ∧
    (∀ i, 8 * (m / 4) ≤ i → (toCplxRef z m y a).getD i z = y.getD i z) ∧
    (m % 4 = 0 → toCplxFma z m y a = some (toCplxRef z m y a)) := by
  rw [toCplxRef_eq_fromCplxRef]
  exact from_cplx_spec z m y a hy

/-- `to_cplx (from_cplx x) = x` on all `2m` doubles, for every `m` multiple of 4 and every pairing of
    the reference / FMA variants; cells past `2m` of the destination are untouched. -/
theorem cplx_reim4_roundtrip (z : α) (m : Nat) (hm : m % 4 = 0) (x r y : Array α)
    (hr : 2 * m ≤ r.size) (hy : 2 * m ≤ y.size) :
    (∀ i, i < 2 * m → (toCplxRef z m y (fromCplxRef z m r x)).getD i z = x.getD i z) ∧
    (∀ i, 2 * m ≤ i → (toCplxRef z m y (fromCplxRef z m r x)).getD i z = y.getD i z) ∧
    (toCplxRef z m y (fromCplxRef z m r x)).size = y.size ∧
    ((fromCplxFma z m r x).bind (fun r4 => toCplxFma z m y r4) = some (toCplxRef z m y (fromCplxRef z m r x))) := by
  obtain ⟨_, fv, _, ff⟩ := from_cplx_spec z m r x hr
  obtain ⟨ts, tv, tf, tt⟩ := to_cplx_spec z m y (fromCplxRef z m r x) hy
  refine ⟨?_, ?_, ts, ?_⟩
  · intro i hi
    have e : i = 8 * (i / 8) + i % 8 := by omega
    have hb : i / 8 < m / 4 := by omega
    have hu : i % 8 < 8 := by omega
    rw [e, tv (i / 8) (i % 8) hb hu, fv (i / 8) (perm8 (i % 8)) hb (perm8_lt _ hu), perm8_invol]
  · intro i hi
    exact tf i (by omega)
  · rw [ff hm]
    simp only [Option.bind_some]
    exact tt hm

/-! concrete, non-trivial instances of the layout statements (hypotheses satisfiable, values as stated) -/

/-- `m = 8`, block 1 of `0..15`: evaluations 4..7, real parts then imaginary parts; cell 8 of `dst` untouched -/
example : ((1 : Nat) < 8 / 4 ∧ 2 * 8 ≤ (Array.range 16).size ∧ 8 ≤ (Array.replicate 9 99).size) ∧
    extract1blkFromReimRef (0 : Nat) 8 1 (Array.replicate 9 99) (Array.range 16) = #[4, 5, 6, 7, 12, 13, 14, 15, 99] := by
  decide
/-- two rows with stride `sl = 2m + 4 = 20`, block 1 -/
example : extract1blkFromContiguousReimSlAvx (0 : Nat) 8 20 2 1 (Array.replicate 17 99) (Array.range 36)
    = #[4, 5, 6, 7, 12, 13, 14, 15, 24, 25, 26, 27, 32, 33, 34, 35, 99] := by decide
/-- zero rows: nothing is written -/
example : extract1blkFromContiguousReimRef (0 : Nat) 8 0 1 (Array.replicate 3 99) (Array.range 16) = Array.replicate 3 99 := by decide
/-- the in-block order of the conversion: `r0 r2 r1 r3 | i0 i2 i1 i3` -/
example : fromCplxRef (0 : Nat) 4 (Array.replicate 8 77) (Array.range 8) = #[0, 4, 2, 6, 1, 5, 3, 7] := by decide
/-- round trip on `m = 8` (all 16 doubles), cell 16 of the destination untouched -/
example : toCplxRef (0 : Nat) 8 (Array.replicate 17 99) (fromCplxRef 0 8 (Array.replicate 16 77) (Array.range 16))
    = (Array.range 16).push 99 := by decide

/-! ## arithmetic in exact arithmetic -/

section exact
open Finset
variable {R : Type} [CommRing R]

/-- `reim4_add`: lane-wise complex sum -/
theorem reim4_add_exact (dst u v : Array R) (hb : 8 ≤ dst.size) :
    (Reim4.add (RArith.ofRing R) dst u v).size = dst.size ∧
    (∀ k, k < 4 → cx (Reim4.add (RArith.ofRing R) dst u v) k (k + 4) = cx u k (k + 4) + cx v k (k + 4)) ∧
    (∀ x, 8 ≤ x → (Reim4.add (RArith.ofRing R) dst u v).getD x 0 = dst.getD x 0) := by
  unfold Reim4.add
  obtain ⟨s1, s2, s3⟩ := lanes_block_spec (0 : R) 0
    (fun k _ => (RArith.ofRing R).add (u.getD k 0) (v.getD k 0))
    (fun k _ => (RArith.ofRing R).add (u.getD (k + 4) 0) (v.getD (k + 4) 0)) dst (by omega)
  simp only [Nat.zero_add] at s1 s2 s3
  refine ⟨s1, fun k hk => ?_, fun x hx => s3 x (Or.inr hx)⟩
  obtain ⟨e1, e2⟩ := s2 k hk
  ext
  · simp only [cx_re, Cx.add_re]; exact e1
  · simp only [cx_im, Cx.add_im]; exact e2

/-- `reim4_mul`: lane-wise complex product -/
theorem reim4_mul_exact (dst u v : Array R) (hb : 8 ≤ dst.size) :
    (Reim4.mul (RArith.ofRing R) dst u v).size = dst.size ∧
    (∀ k, k < 4 → cx (Reim4.mul (RArith.ofRing R) dst u v) k (k + 4) = cx u k (k + 4) * cx v k (k + 4)) ∧
    (∀ x, 8 ≤ x → (Reim4.mul (RArith.ofRing R) dst u v).getD x 0 = dst.getD x 0) := by
  unfold Reim4.mul
  obtain ⟨s1, s2, s3⟩ := lanes_block_spec (0 : R) 0
    (fun k _ => reRef (RArith.ofRing R) (u.getD k 0) (u.getD (k + 4) 0) (v.getD k 0) (v.getD (k + 4) 0))
    (fun k _ => imRef (RArith.ofRing R) (u.getD k 0) (u.getD (k + 4) 0) (v.getD k 0) (v.getD (k + 4) 0)) dst (by omega)
  simp only [Nat.zero_add] at s1 s2 s3
  refine ⟨s1, fun k hk => ?_, fun x hx => s3 x (Or.inr hx)⟩
  obtain ⟨e1, e2⟩ := s2 k hk
  ext
  · simp only [cx_re, cx_im, Cx.mul_re]; exact e1
  · simp only [cx_re, cx_im, Cx.mul_im]; exact e2

/-- `reim4_add_mul`: `dst += u·v` lane-wise -/
theorem reim4_add_mul_exact (dst u v : Array R) (hb : 8 ≤ dst.size) :
    (addMul (RArith.ofRing R) dst u v).size = dst.size ∧
    (∀ k, k < 4 → cx (addMul (RArith.ofRing R) dst u v) k (k + 4) = cx dst k (k + 4) + cx u k (k + 4) * cx v k (k + 4)) ∧
    (∀ x, 8 ≤ x → (addMul (RArith.ofRing R) dst u v).getD x 0 = dst.getD x 0) := by
  obtain ⟨s1, s2, s3⟩ := addMulAt_exact dst 0 u 0 v 0 (by omega)
  refine ⟨s1, ?_, fun x hx => s3 x (by omega)⟩
  intro k hk
  have := s2 k hk
  simp only [Nat.zero_add] at this
  exact this

/-- `reim4_vec_mat1col_product_ref`: `dst = Σ_{i<nrows} u_i · v_i` lane-wise, for every `nrows` including 0 -/
theorem mat1col_ref_exact (nrows : Nat) (dst u v : Array R) (hb : 8 ≤ dst.size) :
    (vecMat1colProductRef (RArith.ofRing R) nrows dst u v).size = dst.size ∧
    (∀ k, k < 4 → cx (vecMat1colProductRef (RArith.ofRing R) nrows dst u v) k (k + 4) =
      ∑ i ∈ range nrows, cx u (8 * i + k) (8 * i + k + 4) * cx v (8 * i + k) (8 * i + k + 4)) ∧
    (∀ x, 8 ≤ x → (vecMat1colProductRef (RArith.ofRing R) nrows dst u v).getD x 0 = dst.getD x 0) := by
  obtain ⟨s1, s2, s3⟩ := dotAt_exact nrows 0 (fun t => 8 * t) (fun t => 8 * t) dst u v (by omega)
  simp only [Nat.zero_add] at s2
  exact ⟨s1, s2, fun x hx => s3 x (Or.inr (by omega))⟩

/-- `reim4_vec_mat1col_product_avx2` (two partial accumulators for the real part, subtracted at the end):
    the same sums, and in exact arithmetic the same array as the reference code -/
theorem mat1col_avx2_exact (nrows : Nat) (dst u v : Array R) (hb : 8 ≤ dst.size) :
    (∀ k, k < 4 → cx (vecMat1colProductAvx2 (RArith.ofRing R) nrows dst u v) k (k + 4) =
      ∑ i ∈ range nrows, cx u (8 * i + k) (8 * i + k + 4) * cx v (8 * i + k) (8 * i + k + 4)) ∧
    vecMat1colProductAvx2 (RArith.ofRing R) nrows dst u v = vecMat1colProductRef (RArith.ofRing R) nrows dst u v := by
  have vals : ∀ k, k < 4 → cx (vecMat1colProductAvx2 (RArith.ofRing R) nrows dst u v) k (k + 4) =
      ∑ i ∈ range nrows, cx u (8 * i + k) (8 * i + k + 4) * cx v (8 * i + k) (8 * i + k + 4) := by
    intro k hk
    obtain ⟨_, c1, c2⟩ := VmpErr.mat1colAvx2_cells' (RArith.ofRing R) nrows dst u v hb k hk
    obtain ⟨e1, e2⟩ := VmpErr.dot_ofRing .av1 (VmpErr.uRe 0 u k) (VmpErr.uIm 0 u k) (VmpErr.vRe 0 v 8 0 k) (VmpErr.vIm 0 v 8 0 k)
      nrows (fun h => by cases h)
    ext
    · rw [Cx.sum_re, cx_re]; exact c1.trans e1
    · rw [Cx.sum_im, cx_im]; exact c2.trans e2
  refine ⟨vals, ?_⟩
  obtain ⟨r1, r2, r3⟩ := mat1col_ref_exact nrows dst u v hb
  apply eq_of_blocks 1 _ _ (by rw [r1, (VmpErr.mat1colAvx2_cells' (RArith.ofRing R) nrows dst u v hb 0 (by omega)).1])
  · intro t k ht hk
    obtain rfl : t = 0 := by omega
    simp only [Nat.mul_zero, Nat.zero_add]
    rw [vals k hk, r2 k hk]
  · intro x hx
    rw [r3 x (by omega), mat1colAvx2_frame _ _ _ _ _ x (by omega)]

/-- `reim4_vec_mat2cols_product_ref`: both columns, `dst[0..7] = Σ u_i·v_i^{(0)}`, `dst[8..15] = Σ u_i·v_i^{(1)}`
    (row `i` of `v` is 16 doubles: column 0 then column 1), every `nrows` including 0 -/
theorem mat2cols_ref_exact (nrows : Nat) (dst u v : Array R) (hb : 16 ≤ dst.size) :
    (vecMat2colsProductRef (RArith.ofRing R) nrows dst u v).size = dst.size ∧
    (∀ k, k < 4 →
      cx (vecMat2colsProductRef (RArith.ofRing R) nrows dst u v) k (k + 4) =
        ∑ i ∈ range nrows, cx u (8 * i + k) (8 * i + k + 4) * cx v (16 * i + k) (16 * i + k + 4) ∧
      cx (vecMat2colsProductRef (RArith.ofRing R) nrows dst u v) (8 + k) (8 + k + 4) =
        ∑ i ∈ range nrows, cx u (8 * i + k) (8 * i + k + 4) * cx v (16 * i + 8 + k) (16 * i + 8 + k + 4)) ∧
    (∀ x, 16 ≤ x → (vecMat2colsProductRef (RArith.ofRing R) nrows dst u v).getD x 0 = dst.getD x 0) := by
  refine ⟨(VmpErr.mat2colsRef_cells (RArith.ofRing R) nrows dst u v hb 0 (by omega)).1, fun k hk => ?_,
    fun x hx => VmpErr.mat2colsRef_frame (RArith.ofRing R) nrows dst u v hb x hx⟩
  obtain ⟨_, c1, c2, c3, c4⟩ := VmpErr.mat2colsRef_cells (RArith.ofRing R) nrows dst u v hb k hk
  obtain ⟨e1, e2⟩ := VmpErr.dot_ofRing .ref (VmpErr.uRe 0 u k) (VmpErr.uIm 0 u k) (VmpErr.vRe 0 v 16 0 k) (VmpErr.vIm 0 v 16 0 k)
    nrows (fun h => by cases h)
  obtain ⟨e3, e4⟩ := VmpErr.dot_ofRing .ref (VmpErr.uRe 0 u k) (VmpErr.uIm 0 u k) (VmpErr.vRe 0 v 16 8 k) (VmpErr.vIm 0 v 16 8 k)
    nrows (fun h => by cases h)
  constructor
  · ext
    · rw [Cx.sum_re, cx_re]; exact c1.trans e1
    · rw [Cx.sum_im, cx_im]; exact c2.trans e2
  · ext
    · rw [Cx.sum_re, cx_re]; exact c3.trans e3
    · rw [Cx.sum_im, cx_im]; exact c4.trans e4

/-- `reim4_vec_mat2cols_product_avx2` (alternating-sign `fmsub`: `re ← x·y − re` twice per row): the same sums,
    and in exact arithmetic the same array as the reference code -/
theorem mat2cols_avx2_exact (nrows : Nat) (dst u v : Array R) (hb : 16 ≤ dst.size) :
    (∀ k, k < 4 →
      cx (vecMat2colsProductAvx2 (RArith.ofRing R) nrows dst u v) k (k + 4) =
        ∑ i ∈ range nrows, cx u (8 * i + k) (8 * i + k + 4) * cx v (16 * i + k) (16 * i + k + 4) ∧
      cx (vecMat2colsProductAvx2 (RArith.ofRing R) nrows dst u v) (8 + k) (8 + k + 4) =
        ∑ i ∈ range nrows, cx u (8 * i + k) (8 * i + k + 4) * cx v (16 * i + 8 + k) (16 * i + 8 + k + 4)) ∧
    vecMat2colsProductAvx2 (RArith.ofRing R) nrows dst u v = vecMat2colsProductRef (RArith.ofRing R) nrows dst u v := by
  have vals : ∀ k, k < 4 →
      cx (vecMat2colsProductAvx2 (RArith.ofRing R) nrows dst u v) k (k + 4) =
        ∑ i ∈ range nrows, cx u (8 * i + k) (8 * i + k + 4) * cx v (16 * i + k) (16 * i + k + 4) ∧
      cx (vecMat2colsProductAvx2 (RArith.ofRing R) nrows dst u v) (8 + k) (8 + k + 4) =
        ∑ i ∈ range nrows, cx u (8 * i + k) (8 * i + k + 4) * cx v (16 * i + 8 + k) (16 * i + 8 + k + 4) := by
    intro k hk
    obtain ⟨_, c1, c2, c3, c4⟩ := VmpErr.mat2colsAvx2_cells (RArith.ofRing R) nrows dst u v hb k hk
    obtain ⟨e1, e2⟩ := VmpErr.dot_ofRing .av2 (VmpErr.uRe 0 u k) (VmpErr.uIm 0 u k) (VmpErr.vRe 0 v 16 0 k) (VmpErr.vIm 0 v 16 0 k)
      nrows (fun h => by cases h)
    obtain ⟨e3, e4⟩ := VmpErr.dot_ofRing .av2 (VmpErr.uRe 0 u k) (VmpErr.uIm 0 u k) (VmpErr.vRe 0 v 16 8 k) (VmpErr.vIm 0 v 16 8 k)
      nrows (fun h => by cases h)
    constructor
    · ext
      · rw [Cx.sum_re, cx_re]; exact c1.trans e1
      · rw [Cx.sum_im, cx_im]; exact c2.trans e2
    · ext
      · rw [Cx.sum_re, cx_re]; exact c3.trans e3
      · rw [Cx.sum_im, cx_im]; exact c4.trans e4
  refine ⟨vals, ?_⟩
  obtain ⟨r1, r2, r3⟩ := mat2cols_ref_exact nrows dst u v hb
  apply eq_of_blocks 2 _ _ (by rw [r1, (VmpErr.mat2colsAvx2_cells (RArith.ofRing R) nrows dst u v hb 0 (by omega)).1])
  · intro t k ht hk
    rcases t with _ | _ | t
    · simp only [Nat.mul_zero, Nat.zero_add]
      rw [(vals k hk).1, (r2 k hk).1]
    · simp only [Nat.zero_add, Nat.mul_one]
      rw [(vals k hk).2, (r2 k hk).2]
    · omega
  · intro x hx
    rw [r3 x (by omega), mat2colsAvx2_frame _ _ _ _ _ x (by omega)]

/-- the window `jmin..jmax-1` the code iterates over is exactly the set of index pairs of the definition
    (`convCoeff`: all `j < sizeb` with `j ≤ k` and `k - j < sizea`); past the end of the product it is empty -/
theorem convolution_window (a : Array R) (sizea : Nat) (b : Array R) (sizeb : Nat) (k l : Nat) :
    convCoeff a sizea b sizeb k l =
      if k < sizea + sizeb then ∑ j ∈ Ico (convJmin k sizea) (convJmax k sizeb), convTerm a b k l j else 0 := by
  unfold convCoeff
  split
  · rename_i h; rw [conv_window k sizea sizeb h]
  · rename_i h; rw [conv_window_empty k sizea sizeb (by omega), sum_empty]

/-- `reim4_convolution_1coeff_ref`: coefficient `k` of the product, `Σ_{i+j=k} a_i·b_j` lane-wise, for all
    sizes including 0 and every `k` (0 past the end) -/
theorem convolution_1coeff_exact (k : Nat) (dest a : Array R) (sizea : Nat) (b : Array R) (sizeb : Nat)
    (hb : 8 ≤ dest.size) :
    (convolution1coeffRef (RArith.ofRing R) k dest a sizea b sizeb).size = dest.size ∧
    (∀ l, l < 4 → cx (convolution1coeffRef (RArith.ofRing R) k dest a sizea b sizeb) l (l + 4) = convCoeff a sizea b sizeb k l) ∧
    (∀ x, 8 ≤ x → (convolution1coeffRef (RArith.ofRing R) k dest a sizea b sizeb).getD x 0 = dest.getD x 0) := by
  unfold convolution1coeffRef
  obtain ⟨s1, s2, s3⟩ := conv1At_exact k dest 0 a sizea b sizeb (by omega)
  refine ⟨s1, ?_, fun x hx => s3 x (by omega)⟩
  intro l hl
  have := s2 l hl
  simp only [Nat.zero_add] at this
  exact this

/-- `reim4_convolution_2coeff_ref`: coefficients `k` and `k+1` -/
theorem convolution_2coeff_exact (k : Nat) (dest a : Array R) (sizea : Nat) (b : Array R) (sizeb : Nat)
    (hb : 16 ≤ dest.size) :
    (convolution2coeffRef (RArith.ofRing R) k dest a sizea b sizeb).size = dest.size ∧
    (∀ l, l < 4 →
      cx (convolution2coeffRef (RArith.ofRing R) k dest a sizea b sizeb) l (l + 4) = convCoeff a sizea b sizeb k l ∧
      cx (convolution2coeffRef (RArith.ofRing R) k dest a sizea b sizeb) (8 + l) (8 + l + 4) = convCoeff a sizea b sizeb (k + 1) l) ∧
    (∀ x, 16 ≤ x → (convolution2coeffRef (RArith.ofRing R) k dest a sizea b sizeb).getD x 0 = dest.getD x 0) := by
  unfold convolution2coeffRef
  obtain ⟨s1, s2, s3⟩ := conv1At_exact k dest 0 a sizea b sizeb (by omega)
  obtain ⟨t1, t2, t3⟩ := conv1At_exact (k + 1) (convolution1coeffAt (RArith.ofRing R) k dest 0 a sizea b sizeb) 8 a sizea b sizeb
    (by rw [s1]; omega)
  refine ⟨by rw [t1, s1], ?_, fun x hx => by rw [t3 x (by omega), s3 x (by omega)]⟩
  intro l hl
  constructor
  · have := s2 l hl
    simp only [Nat.zero_add] at this
    rw [← this]
    ext
    · simp only [cx_re]; exact t3 l (by omega)
    · simp only [cx_im]; exact t3 (l + 4) (by omega)
  · exact t2 l hl

/-- `reim4_convolution_ref`: block `t < dest_size` of `dest` receives coefficient `t + dest_offset`; nothing else is
    written; every window (size 0, offsets before / across / past the product) -/
theorem convolution_exact (dest : Array R) (destSize destOffset : Nat) (a : Array R) (sizea : Nat) (b : Array R) (sizeb : Nat)
    (hb : 8 * destSize ≤ dest.size) :
    (convolutionRef (RArith.ofRing R) dest destSize destOffset a sizea b sizeb).size = dest.size ∧
    (∀ t l, t < destSize → l < 4 →
      cx (convolutionRef (RArith.ofRing R) dest destSize destOffset a sizea b sizeb) (8 * t + l) (8 * t + l + 4) =
        convCoeff a sizea b sizeb (t + destOffset) l) ∧
    (∀ x, 8 * destSize ≤ x →
      (convolutionRef (RArith.ofRing R) dest destSize destOffset a sizea b sizeb).getD x 0 = dest.getD x 0) := by
  unfold convolutionRef
  obtain ⟨ms, mv, mf⟩ := fold_local (0 : R) destSize
    (fun t r => convolution1coeffAt (RArith.ofRing R) (t + destOffset) r (8 * t) a sizea b sizeb)
    (fun t x => 8 * t ≤ x ∧ x < 8 * t + 8)
    (fun t => conv1At_local (RArith.ofRing R) (t + destOffset) (8 * t) a sizea b sizeb) dest
    (by intro j j' x _ _ _ hx hx'; omega)
  refine ⟨ms, ?_, fun x hx => mf x (fun t ht => by omega)⟩
  intro t l ht hl
  -- block `t` is written by step `t` alone, which computes it from `a` and `b`
  obtain ⟨_, v, _⟩ := conv1At_exact (t + destOffset) dest (8 * t) a sizea b sizeb (by omega)
  rw [← v l hl]
  ext
  · simp only [cx_re]; exact mv t ht (8 * t + l) (by omega)
  · simp only [cx_im]; exact mv t ht (8 * t + l + 4) (by omega)

/-- `reim4_fftvec_mul_{ref,fma}`: evaluation-wise complex product on the reim4 layout; FMA = reference -/
theorem reim4_fftvec_mul_exact (m : Nat) (hm : m % 4 = 0) (r a b : Array R) (hr : 2 * m ≤ r.size) :
    Pointwise idxReim4 m r (reim4FftvecMulRef (RArith.ofRing R) m r a b) (fun i => ev idxReim4 a i * ev idxReim4 b i) ∧
    reim4FftvecMulFma (RArith.ofRing R) m r a b = some (reim4FftvecMulRef (RArith.ofRing R) m r a b) := by
  have h1 : Pointwise idxReim4 m r (reim4FftvecMulRef (RArith.ofRing R) m r a b) _ := blocks_lanes_pointwise m hm _ _ r hr
  have h3 := mulFma_pointwise (splitLayout_reim4 (m / 4)) r a b (by omega)
  rw [show 4 * (m / 4) = m by omega] at h3
  refine ⟨h1, ?_⟩
  unfold reim4FftvecMulFma
  simp only [hm, bne_self_eq_false, Bool.false_eq_true, if_false, ofRing_zero]
  exact congrArg some (Pointwise.unique (covers_reim4 m hm) h3 h1)

/-- `reim4_fftvec_addmul_{ref,fma}`: `r_i += a_i·b_i` on the reim4 layout; FMA = reference -/
theorem reim4_fftvec_addmul_exact (m : Nat) (hm : m % 4 = 0) (r a b : Array R) (hr : 2 * m ≤ r.size) :
    Pointwise idxReim4 m r (reim4FftvecAddmulRef (RArith.ofRing R) m r a b)
      (fun i => ev idxReim4 r i + ev idxReim4 a i * ev idxReim4 b i) ∧
    reim4FftvecAddmulFma (RArith.ofRing R) m r a b = some (reim4FftvecAddmulRef (RArith.ofRing R) m r a b) := by
  have h1 : Pointwise idxReim4 m r (reim4FftvecAddmulRef (RArith.ofRing R) m r a b) _ := blocks_lanes_pointwise m hm _ _ r hr
  have h3 := addmulFma_pointwise (splitLayout_reim4 (m / 4)) r a b (by omega)
  rw [show 4 * (m / 4) = m by omega] at h3
  refine ⟨h1, ?_⟩
  unfold reim4FftvecAddmulFma
  simp only [hm, bne_self_eq_false, Bool.false_eq_true, if_false, ofRing_zero]
  exact congrArg some (Pointwise.unique (covers_reim4 m hm) h3 h1)

/-- `reim_fftvec_mul_{ref,fma}` on the split layout (the reference code for every `m`, the FMA code for `4 | m`) -/
theorem reim_fftvec_mul_exact (m : Nat) (r a b : Array R) (hr : 2 * m ≤ r.size) :
    Pointwise (idxReim m) m r (reimFftvecMulRef (RArith.ofRing R) m r a b) (fun i => ev (idxReim m) a i * ev (idxReim m) b i) ∧
    (m % 4 = 0 → reimFftvecMulFma (RArith.ofRing R) m r a b = some (reimFftvecMulRef (RArith.ofRing R) m r a b)) := by
  have h1 : Pointwise (idxReim m) m r (reimFftvecMulRef (RArith.ofRing R) m r a b) _ :=
    mulRef_pointwise (scalarLayout_reim m) r a b hr
  refine ⟨h1, fun hm => ?_⟩
  have h3 := mulFma_pointwise (splitLayout_reim m hm) r a b (by omega)
  rw [show 4 * (m / 4) = m by omega] at h3
  unfold reimFftvecMulFma
  simp only [hm, bne_self_eq_false, Bool.false_eq_true, if_false, ofRing_zero]
  exact congrArg some (Pointwise.unique (covers_reim m) h3 h1)

/-- `reim_fftvec_addmul_{ref,fma}` -/
theorem reim_fftvec_addmul_exact (m : Nat) (r a b : Array R) (hr : 2 * m ≤ r.size) :
    Pointwise (idxReim m) m r (reimFftvecAddmulRef (RArith.ofRing R) m r a b)
      (fun i => ev (idxReim m) r i + ev (idxReim m) a i * ev (idxReim m) b i) ∧
    (m % 4 = 0 → reimFftvecAddmulFma (RArith.ofRing R) m r a b = some (reimFftvecAddmulRef (RArith.ofRing R) m r a b)) := by
  have h1 : Pointwise (idxReim m) m r (reimFftvecAddmulRef (RArith.ofRing R) m r a b) _ :=
    addmulRef_pointwise (scalarLayout_reim m) r a b hr
  refine ⟨h1, fun hm => ?_⟩
  have h3 := addmulFma_pointwise (splitLayout_reim m hm) r a b (by omega)
  rw [show 4 * (m / 4) = m by omega] at h3
  unfold reimFftvecAddmulFma
  simp only [hm, bne_self_eq_false, Bool.false_eq_true, if_false, ofRing_zero]
  exact congrArg some (Pointwise.unique (covers_reim m) h3 h1)

/-- `cplx_fftvec_mul_{ref,fma}` on the interleaved layout (reference: every `m`; AVX2 `do…while`: `8 | m`, `m > 0`) -/
theorem cplx_fftvec_mul_exact (m : Nat) (r a b : Array R) (hr : 2 * m ≤ r.size) :
    Pointwise idxCplx m r (cplxFftvecMulRef (RArith.ofRing R) m r a b) (fun i => ev idxCplx a i * ev idxCplx b i) ∧
    (m % 8 = 0 → 0 < m → cplxFftvecMulFma (RArith.ofRing R) m r a b = cplxFftvecMulRef (RArith.ofRing R) m r a b) := by
  have h1 : Pointwise idxCplx m r (cplxFftvecMulRef (RArith.ofRing R) m r a b) _ :=
    mulRef_pointwise (scalarLayout_cplx m) r a b hr
  refine ⟨h1, fun hm h0 => ?_⟩
  have h3 := mapV4_pointwise (m / 2) (fun j _ => cplxMulV (RArith.ofRing R) (V4.load 0 a (4 * j)) (V4.load 0 b (4 * j)))
    (fun i _ => ev idxCplx a i * ev idxCplx b i) r (by omega)
    (fun j e he v => by rw [pairOf_cplxMulV _ _ _ he, pairOf_load_cplx _ _ _ he, pairOf_load_cplx _ _ _ he])
  rw [show 2 * (m / 2) = m by omega] at h3
  unfold cplxFftvecMulFma
  simp only [ofRing_zero]
  rw [doWhile_exact (m / 2) 4 (by omega) (by omega)]
  exact Pointwise.unique (covers_cplx m) h3 h1

/-- `cplx_fftvec_addmul_{ref,fma,sse,avx512}` (AVX2: `4 | m`; SSE: `2 | m`; AVX-512: `8 | m`; `m > 0`) -/
theorem cplx_fftvec_addmul_exact (m : Nat) (r a b : Array R) (hr : 2 * m ≤ r.size) :
    Pointwise idxCplx m r (cplxFftvecAddmulRef (RArith.ofRing R) m r a b)
      (fun i => ev idxCplx r i + ev idxCplx a i * ev idxCplx b i) ∧
    (m % 4 = 0 → 0 < m → cplxFftvecAddmulFma (RArith.ofRing R) m r a b = cplxFftvecAddmulRef (RArith.ofRing R) m r a b) ∧
    (m % 2 = 0 → 0 < m → cplxFftvecAddmulSse (RArith.ofRing R) m r a b = cplxFftvecAddmulRef (RArith.ofRing R) m r a b) ∧
    (m % 8 = 0 → 0 < m → cplxFftvecAddmulAvx512 (RArith.ofRing R) m r a b = cplxFftvecAddmulRef (RArith.ofRing R) m r a b) := by
  have h1 : Pointwise idxCplx m r (cplxFftvecAddmulRef (RArith.ofRing R) m r a b) _ :=
    addmulRef_pointwise (scalarLayout_cplx m) r a b hr
  refine ⟨h1, fun hm h0 => ?_, fun hm h0 => ?_, fun hm h0 => ?_⟩
  · exact Pointwise.unique (covers_cplx m) (cplxFftvecAddmulSimd_spec 2 _ m
      (by have := doWhile_exact (m / 2) 2 (by omega) (by omega); omega) r a b hr) h1
  · exact Pointwise.unique (covers_cplx m) (cplxFftvecAddmulSimd_spec 1 _ m
      (by have := doWhile_exact m 2 (by omega) h0; omega) r a b hr) h1
  · exact Pointwise.unique (covers_cplx m) (cplxFftvecAddmulSimd_spec 4 _ m
      (by have := doWhile_exact (m / 4) 2 (by omega) (by omega); omega) r a b hr) h1

end exact

/-! ## rounding error of the accumulating products (standard model) -/

section err
open Finset
variable {K : Type} [Field K] [LinearOrder K] [IsStrictOrderedRing K]

/-- `reim4_vec_mat1col_product_ref`: real part (cell `k`) and imaginary part (cell `k+4`) of lane `k` are within
    `((1+ε)^(nrows+2) − 1)·Σ|·|` of the exact sums, for every `nrows` including 0 -/
theorem dot_err_ref (ar : RArith K) (ε : K) (sm : StdModel ar ε) (nrows : Nat) (dst u v : Array K) (hb : 8 ≤ dst.size)
    (k : Nat) (hk : k < 4) :
    |(vecMat1colProductRef ar nrows dst u v).getD k 0 - ∑ i ∈ range nrows, reX 0 u v (8 * i + k) (8 * i + k)| ≤
      ((1 + ε) ^ (nrows + 2) - 1) * ∑ i ∈ range nrows, reM 0 u v (8 * i + k) (8 * i + k) ∧
    |(vecMat1colProductRef ar nrows dst u v).getD (k + 4) 0 - ∑ i ∈ range nrows, imX 0 u v (8 * i + k) (8 * i + k)| ≤
      ((1 + ε) ^ (nrows + 2) - 1) * ∑ i ∈ range nrows, imM 0 u v (8 * i + k) (8 * i + k) := by
  have h := dotAt_err ar ε sm nrows 0 (fun t => 8 * t) (fun t => 8 * t) dst u v (by omega) k hk
  simp only [Nat.zero_add] at h
  exact h

/-- `reim4_vec_mat1col_product_avx2`: four FMA chains (`nrows` roundings each) and one final subtraction/addition;
    same bound (in fact with exponent `nrows+1`) -/
theorem dot_err_avx2 (ar : RArith K) (ε : K) (sm : StdModel ar ε) (nrows : Nat) (dst u v : Array K) (hb : 8 ≤ dst.size)
    (k : Nat) (hk : k < 4) :
    |(vecMat1colProductAvx2 ar nrows dst u v).getD k 0 - ∑ i ∈ range nrows, reX 0 u v (8 * i + k) (8 * i + k)| ≤
      ((1 + ε) ^ (nrows + 1) - 1) * ∑ i ∈ range nrows, reM 0 u v (8 * i + k) (8 * i + k) ∧
    |(vecMat1colProductAvx2 ar nrows dst u v).getD (k + 4) 0 - ∑ i ∈ range nrows, imX 0 u v (8 * i + k) (8 * i + k)| ≤
      ((1 + ε) ^ (nrows + 1) - 1) * ∑ i ∈ range nrows, imM 0 u v (8 * i + k) (8 * i + k) := by
  obtain ⟨c1, c2⟩ := mat1colAvx2_cells ar nrows dst u v hb k hk
  have q : ∀ i, 8 * i + 4 + k = 8 * i + k + 4 := by intro i; omega
  simp only [q, sm.zero] at c1 c2
  rw [c1, c2, pow_succ]
  have r := fun p q => fmaChain_err ar ε sm p q nrows
  constructor
  · have := combine_err ε ((1 + ε) ^ nrows) _ _ _ _ _ _ (ar.sub _ _) (-1) sm.u_nonneg (Or.inr rfl)
      (r (fun i => u.getD (8 * i + k) 0) (fun i => v.getD (8 * i + k) 0))
      (r (fun i => u.getD (8 * i + k + 4) 0) (fun i => v.getD (8 * i + k + 4) 0))
      (abs_sum_le_sum_abs _ _) (abs_sum_le_sum_abs _ _)
      (by simp only [neg_one_mul, ← sub_eq_add_neg]; exact sm.sub _ _)
    simp only [neg_one_mul, ← sub_eq_add_neg, ← sum_sub_distrib, ← sum_add_distrib] at this
    exact this
  · have := combine_err ε ((1 + ε) ^ nrows) _ _ _ _ _ _ (ar.add _ _) 1 sm.u_nonneg (Or.inl rfl)
      (r (fun i => u.getD (8 * i + k) 0) (fun i => v.getD (8 * i + k + 4) 0))
      (r (fun i => u.getD (8 * i + k + 4) 0) (fun i => v.getD (8 * i + k) 0))
      (abs_sum_le_sum_abs _ _) (abs_sum_le_sum_abs _ _)
      (by simp only [one_mul]; exact sm.add _ _)
    simp only [one_mul, ← sum_add_distrib] at this
    exact this

/-- `reim4_convolution_1coeff_ref`, `k` inside the product: the window `jmin..jmax-1` accumulates with the same bound,
    `n = jmax − jmin` terms -/
theorem convolution_1coeff_err (ar : RArith K) (ε : K) (sm : StdModel ar ε) (k : Nat) (dest a : Array K) (sizea : Nat)
    (b : Array K) (sizeb : Nat) (hb : 8 ≤ dest.size) (hk : k < sizea + sizeb) (l : Nat) (hl : l < 4) :
    |(convolution1coeffRef ar k dest a sizea b sizeb).getD l 0 -
        ∑ j ∈ Ico (convJmin k sizea) (convJmax k sizeb), reX 0 a b (8 * (k - j) + l) (8 * j + l)| ≤
      ((1 + ε) ^ (convJmax k sizeb - convJmin k sizea + 2) - 1) *
        ∑ j ∈ Ico (convJmin k sizea) (convJmax k sizeb), reM 0 a b (8 * (k - j) + l) (8 * j + l) ∧
    |(convolution1coeffRef ar k dest a sizea b sizeb).getD (l + 4) 0 -
        ∑ j ∈ Ico (convJmin k sizea) (convJmax k sizeb), imX 0 a b (8 * (k - j) + l) (8 * j + l)| ≤
      ((1 + ε) ^ (convJmax k sizeb - convJmin k sizea + 2) - 1) *
        ∑ j ∈ Ico (convJmin k sizea) (convJmax k sizeb), imM 0 a b (8 * (k - j) + l) (8 * j + l) := by
  unfold convolution1coeffRef convolution1coeffAt
  have hk' : ¬ (k ≥ sizea + sizeb) := by omega
  simp only [hk', if_false]
  have h := dotAt_err ar ε sm (convJmax k sizeb - convJmin k sizea) 0
    (fun t => 8 * (k - (convJmin k sizea + t))) (fun t => 8 * (convJmin k sizea + t)) dest a b (by omega) l hl
  simp only [Nat.zero_add] at h
  simp only [sum_Ico_eq_sum_range]
  exact h

/-- the standard model is satisfiable: exact arithmetic, `u = 0` -/
example : StdModel (RArith.ofRing K) 0 := stdModel_ofRing

end err

/-! concrete instances over `ℤ` (two rows; both operation orders give the same array) -/

example : vecMat1colProductRef (RArith.ofRing Int) 2 (Array.replicate 8 7)
    #[1, 2, 3, 4, 5, 6, 7, 8, 1, 0, -1, 0, 0, 1, 0, -1] #[1, 1, 1, 1, 1, 1, 1, 1, 2, 3, 4, 5, 6, 7, 8, 9]
    = #[-2, -11, -8, 5, 12, 11, 2, 7] := by decide
example : vecMat1colProductAvx2 (RArith.ofRing Int) 2 (Array.replicate 8 7)
    #[1, 2, 3, 4, 5, 6, 7, 8, 1, 0, -1, 0, 0, 1, 0, -1] #[1, 1, 1, 1, 1, 1, 1, 1, 2, 3, 4, 5, 6, 7, 8, 9]
    = #[-2, -11, -8, 5, 12, 11, 2, 7] := by decide
/-- length 0: the result is 0 -/
example : vecMat2colsProductAvx2 (RArith.ofRing Int) 0 (Array.replicate 17 7) #[] #[]
    = (Array.replicate 16 (0 : Int)).push 7 := by decide
-- window of 3 coefficients starting at coefficient 1 of a 2×2-block product: the last one is past the end (0)
set_option maxRecDepth 4096 in
example : convolutionRef (RArith.ofRing Int) (Array.replicate 24 7) 3 1
    #[1, 2, 3, 4, 5, 6, 7, 8, 1, 1, 1, 1, 0, 0, 0, 0] 2 #[1, 0, 0, 0, 0, 1, 0, 0, 2, 2, 2, 2, 1, 1, 1, 1] 2
    = #[-2, -2, -1, 0, 11, 15, 17, 20, 2, 2, 2, 2, 1, 1, 1, 1, 0, 0, 0, 0, 0, 0, 0, 0] := by decide

end Spq.C17
