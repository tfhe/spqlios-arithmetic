/-
  C13 with the out-of-bounds flag.  The `*_call_indep` / `*_inplace*` theorems of `Properties/C13.lean` conclude equality
  of the output cells only, and their `SameSrc` hypothesis compares `getD` reads — so they also hold when a source
  extent lies outside the heap and both reads default to zero, and they say nothing about the model's
  out-of-bounds flag `.ok`.

  Here: under the in-bounds hypotheses of C08 (`InBounds … a (min asz rsz) asl` for every source of both calls,
  the hypotheses of `C08.*_no_fault`) and `ok = true` on entry, the aliased call and the separate-buffer call BOTH
  finish with `ok = true` (no access of either call is out of bounds, so every compared source read is a real read)
  AND every output coefficient is the same.

  In the `*_inplace*_ok` forms the aliased source needs no extra hypothesis: its extent `(res, min asz rsz, rsl)` is
  inside the output extent `(res, rsz, rsl)`.
-/
import SpqProofs.Properties.C13
namespace Spq.C13
open Spq Heap C08
variable {α : Type}

/-! ### any aliasing pattern (each source = the output, or separate), both calls in bounds -/

theorem add_call_indep_ok (o : Ops α) (nn : Nat) (h h2 : Heap α)
    (res rsz rsl a asz asl b bsz bsl res' rsl' a' asl' b' bsl' : Nat)
    (hok : h.ok = true) (hok2 : h2.ok = true)
    (hsl : nn ≤ rsl) (hres : InBounds nn h.mem.size res rsz rsl)
    (ha : SrcOK nn res rsz rsl a asz asl) (hb : SrcOK nn res rsz rsl b bsz bsl)
    (hain : InBounds nn h.mem.size a (min asz rsz) asl) (hbin : InBounds nn h.mem.size b (min bsz rsz) bsl)
    (hsl' : nn ≤ rsl') (hres' : InBounds nn h2.mem.size res' rsz rsl')
    (ha' : SrcOK nn res' rsz rsl' a' asz asl') (hb' : SrcOK nn res' rsz rsl' b' bsz bsl')
    (hain' : InBounds nn h2.mem.size a' (min asz rsz) asl') (hbin' : InBounds nn h2.mem.size b' (min bsz rsz) bsl')
    (sa : SameSrc o.zero nn rsz h.mem a asz asl h2.mem a' asl')
    (sb : SameSrc o.zero nn rsz h.mem b bsz bsl h2.mem b' bsl') :
    (VecZnx.add o nn h res rsz rsl a asz asl b bsz bsl).ok = true ∧
    (VecZnx.add o nn h2 res' rsz rsl' a' asz asl' b' bsz bsl').ok = true ∧
    ∀ i c, i < rsz → c < nn →
      (VecZnx.add o nn h res rsz rsl a asz asl b bsz bsl).mem[res + i * rsl + c]? =
      (VecZnx.add o nn h2 res' rsz rsl' a' asz asl' b' bsz bsl').mem[res' + i * rsl' + c]? :=
  ⟨(add_no_fault o nn h res rsz rsl a asz asl b bsz bsl hres hain hbin).trans hok,
   (add_no_fault o nn h2 res' rsz rsl' a' asz asl' b' bsz bsl' hres' hain' hbin').trans hok2,
   add_call_indep o nn h h2 res rsz rsl a asz asl b bsz bsl res' rsl' a' asl' b' bsl'
     hsl hres ha hb hsl' hres' ha' hb' sa sb⟩

theorem sub_call_indep_ok (o : Ops α) (nn : Nat) (h h2 : Heap α)
    (res rsz rsl a asz asl b bsz bsl res' rsl' a' asl' b' bsl' : Nat)
    (hok : h.ok = true) (hok2 : h2.ok = true)
    (hsl : nn ≤ rsl) (hres : InBounds nn h.mem.size res rsz rsl)
    (ha : SrcOK nn res rsz rsl a asz asl) (hb : SrcOK nn res rsz rsl b bsz bsl)
    (hain : InBounds nn h.mem.size a (min asz rsz) asl) (hbin : InBounds nn h.mem.size b (min bsz rsz) bsl)
    (hsl' : nn ≤ rsl') (hres' : InBounds nn h2.mem.size res' rsz rsl')
    (ha' : SrcOK nn res' rsz rsl' a' asz asl') (hb' : SrcOK nn res' rsz rsl' b' bsz bsl')
    (hain' : InBounds nn h2.mem.size a' (min asz rsz) asl') (hbin' : InBounds nn h2.mem.size b' (min bsz rsz) bsl')
    (sa : SameSrc o.zero nn rsz h.mem a asz asl h2.mem a' asl')
    (sb : SameSrc o.zero nn rsz h.mem b bsz bsl h2.mem b' bsl') :
    (VecZnx.sub o nn h res rsz rsl a asz asl b bsz bsl).ok = true ∧
    (VecZnx.sub o nn h2 res' rsz rsl' a' asz asl' b' bsz bsl').ok = true ∧
    ∀ i c, i < rsz → c < nn →
      (VecZnx.sub o nn h res rsz rsl a asz asl b bsz bsl).mem[res + i * rsl + c]? =
      (VecZnx.sub o nn h2 res' rsz rsl' a' asz asl' b' bsz bsl').mem[res' + i * rsl' + c]? :=
  ⟨(sub_no_fault o nn h res rsz rsl a asz asl b bsz bsl hres hain hbin).trans hok,
   (sub_no_fault o nn h2 res' rsz rsl' a' asz asl' b' bsz bsl' hres' hain' hbin').trans hok2,
   sub_call_indep o nn h h2 res rsz rsl a asz asl b bsz bsl res' rsl' a' asl' b' bsl'
     hsl hres ha hb hsl' hres' ha' hb' sa sb⟩

theorem copy_call_indep_ok (o : Ops α) (nn : Nat) (h h2 : Heap α)
    (res rsz rsl a asz asl res' rsl' a' asl' : Nat)
    (hok : h.ok = true) (hok2 : h2.ok = true)
    (hsl : nn ≤ rsl) (hres : InBounds nn h.mem.size res rsz rsl) (ha : SrcOK nn res rsz rsl a asz asl)
    (hain : InBounds nn h.mem.size a (min asz rsz) asl)
    (hsl' : nn ≤ rsl') (hres' : InBounds nn h2.mem.size res' rsz rsl') (ha' : SrcOK nn res' rsz rsl' a' asz asl')
    (hain' : InBounds nn h2.mem.size a' (min asz rsz) asl')
    (sa : SameSrc o.zero nn rsz h.mem a asz asl h2.mem a' asl') :
    (VecZnx.copy o nn h res rsz rsl a asz asl).ok = true ∧
    (VecZnx.copy o nn h2 res' rsz rsl' a' asz asl').ok = true ∧
    ∀ i c, i < rsz → c < nn →
      (VecZnx.copy o nn h res rsz rsl a asz asl).mem[res + i * rsl + c]? =
      (VecZnx.copy o nn h2 res' rsz rsl' a' asz asl').mem[res' + i * rsl' + c]? :=
  ⟨(copy_no_fault o nn h res rsz rsl a asz asl hres hain).trans hok,
   (copy_no_fault o nn h2 res' rsz rsl' a' asz asl' hres' hain').trans hok2,
   copy_call_indep o nn h h2 res rsz rsl a asz asl res' rsl' a' asl' hsl hres ha hsl' hres' ha' sa⟩

theorem negate_call_indep_ok (o : Ops α) (nn : Nat) (h h2 : Heap α)
    (res rsz rsl a asz asl res' rsl' a' asl' : Nat)
    (hok : h.ok = true) (hok2 : h2.ok = true)
    (hsl : nn ≤ rsl) (hres : InBounds nn h.mem.size res rsz rsl) (ha : SrcOK nn res rsz rsl a asz asl)
    (hain : InBounds nn h.mem.size a (min asz rsz) asl)
    (hsl' : nn ≤ rsl') (hres' : InBounds nn h2.mem.size res' rsz rsl') (ha' : SrcOK nn res' rsz rsl' a' asz asl')
    (hain' : InBounds nn h2.mem.size a' (min asz rsz) asl')
    (sa : SameSrc o.zero nn rsz h.mem a asz asl h2.mem a' asl') :
    (VecZnx.negate o nn h res rsz rsl a asz asl).ok = true ∧
    (VecZnx.negate o nn h2 res' rsz rsl' a' asz asl').ok = true ∧
    ∀ i c, i < rsz → c < nn →
      (VecZnx.negate o nn h res rsz rsl a asz asl).mem[res + i * rsl + c]? =
      (VecZnx.negate o nn h2 res' rsz rsl' a' asz asl').mem[res' + i * rsl' + c]? :=
  ⟨(negate_no_fault o nn h res rsz rsl a asz asl hres hain).trans hok,
   (negate_no_fault o nn h2 res' rsz rsl' a' asz asl' hres' hain').trans hok2,
   negate_call_indep o nn h h2 res rsz rsl a asz asl res' rsl' a' asl' hsl hres ha hsl' hres' ha' sa⟩

/-- rotation, any `nn`, any `p`; the kernel fact `rotateInplace = rotate` is C09 (`rotate_inplace_eq`) -/
theorem rotate_call_indep_ok (o : Ops α) (nn : Nat) (p : Int) (h h2 : Heap α)
    (res rsz rsl a asz asl res' rsl' a' asl' : Nat)
    (hok : h.ok = true) (hok2 : h2.ok = true)
    (hsl : nn ≤ rsl) (hres : InBounds nn h.mem.size res rsz rsl) (ha : SrcOK nn res rsz rsl a asz asl)
    (hain : InBounds nn h.mem.size a (min asz rsz) asl)
    (hsl' : nn ≤ rsl') (hres' : InBounds nn h2.mem.size res' rsz rsl') (ha' : SrcOK nn res' rsz rsl' a' asz asl')
    (hain' : InBounds nn h2.mem.size a' (min asz rsz) asl')
    (sa : SameSrc o.zero nn rsz h.mem a asz asl h2.mem a' asl') :
    (VecZnx.rotate o nn p h res rsz rsl a asz asl).ok = true ∧
    (VecZnx.rotate o nn p h2 res' rsz rsl' a' asz asl').ok = true ∧
    ∀ i c, i < rsz → c < nn →
      (VecZnx.rotate o nn p h res rsz rsl a asz asl).mem[res + i * rsl + c]? =
      (VecZnx.rotate o nn p h2 res' rsz rsl' a' asz asl').mem[res' + i * rsl' + c]? :=
  ⟨(rotate_no_fault o nn p h res rsz rsl a asz asl hres hain).trans hok,
   (rotate_no_fault o nn p h2 res' rsz rsl' a' asz asl' hres' hain').trans hok2,
   rotate_call_indep o nn p h h2 res rsz rsl a asz asl res' rsl' a' asl'
     (fun x hx => C09.rotate_inplace_eq o nn p x hx) hsl hres ha hsl' hres' ha' sa⟩

/-- automorphism, `nn = 2^t` (`t ≤ 64`), odd `p`; the kernel fact is C09 (`autom_inplace_eq`) -/
theorem automorphism_call_indep_ok (o : Ops α) (t : Nat) (ht : t ≤ 64) (p : Int) (hp : p % 2 = 1) (h h2 : Heap α)
    (res rsz rsl a asz asl res' rsl' a' asl' : Nat)
    (hok : h.ok = true) (hok2 : h2.ok = true)
    (hsl : 2 ^ t ≤ rsl) (hres : InBounds (2 ^ t) h.mem.size res rsz rsl) (ha : SrcOK (2 ^ t) res rsz rsl a asz asl)
    (hain : InBounds (2 ^ t) h.mem.size a (min asz rsz) asl)
    (hsl' : 2 ^ t ≤ rsl') (hres' : InBounds (2 ^ t) h2.mem.size res' rsz rsl')
    (ha' : SrcOK (2 ^ t) res' rsz rsl' a' asz asl')
    (hain' : InBounds (2 ^ t) h2.mem.size a' (min asz rsz) asl')
    (sa : SameSrc o.zero (2 ^ t) rsz h.mem a asz asl h2.mem a' asl') :
    (VecZnx.automorphism o (2 ^ t) p h res rsz rsl a asz asl).ok = true ∧
    (VecZnx.automorphism o (2 ^ t) p h2 res' rsz rsl' a' asz asl').ok = true ∧
    ∀ i c, i < rsz → c < 2 ^ t →
      (VecZnx.automorphism o (2 ^ t) p h res rsz rsl a asz asl).mem[res + i * rsl + c]? =
      (VecZnx.automorphism o (2 ^ t) p h2 res' rsz rsl' a' asz asl').mem[res' + i * rsl' + c]? :=
  ⟨(automorphism_no_fault o (2 ^ t) p h res rsz rsl a asz asl hres hain).trans hok,
   (automorphism_no_fault o (2 ^ t) p h2 res' rsz rsl' a' asz asl' hres' hain').trans hok2,
   automorphism_call_indep o (2 ^ t) p h h2 res rsz rsl a asz asl res' rsl' a' asl'
     (fun x z hx hz => C09.autom_inplace_eq o t ht p hp x z hx hz) hsl hres ha hsl' hres' ha' sa⟩

/-! ### in-place = out-of-place, with the bounds flag.  Call 1 is the aliased call on `h`; call 2 uses a separate output
    `(res', rsl')` on `h2` whose sources are separate from it (`Sep`), in bounds, and hold the data call 1 reads. -/

/-- `vec_znx_add(res, res, b)`: `res == a` -/
theorem add_inplace_a_ok (o : Ops α) (nn : Nat) (h h2 : Heap α)
    (res rsz rsl asz b bsz bsl res' rsl' a' asl' b' bsl' : Nat)
    (hok : h.ok = true) (hok2 : h2.ok = true)
    (hsl : nn ≤ rsl) (hres : InBounds nn h.mem.size res rsz rsl) (hb : SrcOK nn res rsz rsl b bsz bsl)
    (hbin : InBounds nn h.mem.size b (min bsz rsz) bsl)
    (hsl' : nn ≤ rsl') (hres' : InBounds nn h2.mem.size res' rsz rsl')
    (ha' : Sep nn res' rsz rsl' a' asz asl') (hb' : Sep nn res' rsz rsl' b' bsz bsl')
    (hain' : InBounds nn h2.mem.size a' (min asz rsz) asl') (hbin' : InBounds nn h2.mem.size b' (min bsz rsz) bsl')
    (sa : SameSrc o.zero nn rsz h.mem res asz rsl h2.mem a' asl')
    (sb : SameSrc o.zero nn rsz h.mem b bsz bsl h2.mem b' bsl') :
    (VecZnx.add o nn h res rsz rsl res asz rsl b bsz bsl).ok = true ∧
    (VecZnx.add o nn h2 res' rsz rsl' a' asz asl' b' bsz bsl').ok = true ∧
    ∀ i c, i < rsz → c < nn →
      (VecZnx.add o nn h res rsz rsl res asz rsl b bsz bsl).mem[res + i * rsl + c]? =
      (VecZnx.add o nn h2 res' rsz rsl' a' asz asl' b' bsz bsl').mem[res' + i * rsl' + c]? :=
  add_call_indep_ok o nn h h2 res rsz rsl res asz rsl b bsz bsl res' rsl' a' asl' b' bsl' hok hok2
    hsl hres (Or.inl ⟨rfl, rfl⟩) hb (fun i hi => hres i (by omega)) hbin hsl' hres' ha'.srcOK hb'.srcOK hain' hbin' sa sb

/-- `vec_znx_add(res, a, res)`: `res == b` -/
theorem add_inplace_b_ok (o : Ops α) (nn : Nat) (h h2 : Heap α)
    (res rsz rsl a asz asl bsz res' rsl' a' asl' b' bsl' : Nat)
    (hok : h.ok = true) (hok2 : h2.ok = true)
    (hsl : nn ≤ rsl) (hres : InBounds nn h.mem.size res rsz rsl) (ha : SrcOK nn res rsz rsl a asz asl)
    (hain : InBounds nn h.mem.size a (min asz rsz) asl)
    (hsl' : nn ≤ rsl') (hres' : InBounds nn h2.mem.size res' rsz rsl')
    (ha' : Sep nn res' rsz rsl' a' asz asl') (hb' : Sep nn res' rsz rsl' b' bsz bsl')
    (hain' : InBounds nn h2.mem.size a' (min asz rsz) asl') (hbin' : InBounds nn h2.mem.size b' (min bsz rsz) bsl')
    (sa : SameSrc o.zero nn rsz h.mem a asz asl h2.mem a' asl')
    (sb : SameSrc o.zero nn rsz h.mem res bsz rsl h2.mem b' bsl') :
    (VecZnx.add o nn h res rsz rsl a asz asl res bsz rsl).ok = true ∧
    (VecZnx.add o nn h2 res' rsz rsl' a' asz asl' b' bsz bsl').ok = true ∧
    ∀ i c, i < rsz → c < nn →
      (VecZnx.add o nn h res rsz rsl a asz asl res bsz rsl).mem[res + i * rsl + c]? =
      (VecZnx.add o nn h2 res' rsz rsl' a' asz asl' b' bsz bsl').mem[res' + i * rsl' + c]? :=
  add_call_indep_ok o nn h h2 res rsz rsl a asz asl res bsz rsl res' rsl' a' asl' b' bsl' hok hok2
    hsl hres ha (Or.inl ⟨rfl, rfl⟩) hain (fun i hi => hres i (by omega)) hsl' hres' ha'.srcOK hb'.srcOK hain' hbin' sa sb

/-- `vec_znx_sub(res, res, b)`: `res == a` -/
theorem sub_inplace_a_ok (o : Ops α) (nn : Nat) (h h2 : Heap α)
    (res rsz rsl asz b bsz bsl res' rsl' a' asl' b' bsl' : Nat)
    (hok : h.ok = true) (hok2 : h2.ok = true)
    (hsl : nn ≤ rsl) (hres : InBounds nn h.mem.size res rsz rsl) (hb : SrcOK nn res rsz rsl b bsz bsl)
    (hbin : InBounds nn h.mem.size b (min bsz rsz) bsl)
    (hsl' : nn ≤ rsl') (hres' : InBounds nn h2.mem.size res' rsz rsl')
    (ha' : Sep nn res' rsz rsl' a' asz asl') (hb' : Sep nn res' rsz rsl' b' bsz bsl')
    (hain' : InBounds nn h2.mem.size a' (min asz rsz) asl') (hbin' : InBounds nn h2.mem.size b' (min bsz rsz) bsl')
    (sa : SameSrc o.zero nn rsz h.mem res asz rsl h2.mem a' asl')
    (sb : SameSrc o.zero nn rsz h.mem b bsz bsl h2.mem b' bsl') :
    (VecZnx.sub o nn h res rsz rsl res asz rsl b bsz bsl).ok = true ∧
    (VecZnx.sub o nn h2 res' rsz rsl' a' asz asl' b' bsz bsl').ok = true ∧
    ∀ i c, i < rsz → c < nn →
      (VecZnx.sub o nn h res rsz rsl res asz rsl b bsz bsl).mem[res + i * rsl + c]? =
      (VecZnx.sub o nn h2 res' rsz rsl' a' asz asl' b' bsz bsl').mem[res' + i * rsl' + c]? :=
  sub_call_indep_ok o nn h h2 res rsz rsl res asz rsl b bsz bsl res' rsl' a' asl' b' bsl' hok hok2
    hsl hres (Or.inl ⟨rfl, rfl⟩) hb (fun i hi => hres i (by omega)) hbin hsl' hres' ha'.srcOK hb'.srcOK hain' hbin' sa sb

/-- `vec_znx_sub(res, a, res)`: `res == b` -/
theorem sub_inplace_b_ok (o : Ops α) (nn : Nat) (h h2 : Heap α)
    (res rsz rsl a asz asl bsz res' rsl' a' asl' b' bsl' : Nat)
    (hok : h.ok = true) (hok2 : h2.ok = true)
    (hsl : nn ≤ rsl) (hres : InBounds nn h.mem.size res rsz rsl) (ha : SrcOK nn res rsz rsl a asz asl)
    (hain : InBounds nn h.mem.size a (min asz rsz) asl)
    (hsl' : nn ≤ rsl') (hres' : InBounds nn h2.mem.size res' rsz rsl')
    (ha' : Sep nn res' rsz rsl' a' asz asl') (hb' : Sep nn res' rsz rsl' b' bsz bsl')
    (hain' : InBounds nn h2.mem.size a' (min asz rsz) asl') (hbin' : InBounds nn h2.mem.size b' (min bsz rsz) bsl')
    (sa : SameSrc o.zero nn rsz h.mem a asz asl h2.mem a' asl')
    (sb : SameSrc o.zero nn rsz h.mem res bsz rsl h2.mem b' bsl') :
    (VecZnx.sub o nn h res rsz rsl a asz asl res bsz rsl).ok = true ∧
    (VecZnx.sub o nn h2 res' rsz rsl' a' asz asl' b' bsz bsl').ok = true ∧
    ∀ i c, i < rsz → c < nn →
      (VecZnx.sub o nn h res rsz rsl a asz asl res bsz rsl).mem[res + i * rsl + c]? =
      (VecZnx.sub o nn h2 res' rsz rsl' a' asz asl' b' bsz bsl').mem[res' + i * rsl' + c]? :=
  sub_call_indep_ok o nn h h2 res rsz rsl a asz asl res bsz rsl res' rsl' a' asl' b' bsl' hok hok2
    hsl hres ha (Or.inl ⟨rfl, rfl⟩) hain (fun i hi => hres i (by omega)) hsl' hres' ha'.srcOK hb'.srcOK hain' hbin' sa sb

/-- `vec_znx_copy(res, res)` -/
theorem copy_inplace_ok (o : Ops α) (nn : Nat) (h h2 : Heap α) (res rsz rsl asz res' rsl' a' asl' : Nat)
    (hok : h.ok = true) (hok2 : h2.ok = true)
    (hsl : nn ≤ rsl) (hres : InBounds nn h.mem.size res rsz rsl)
    (hsl' : nn ≤ rsl') (hres' : InBounds nn h2.mem.size res' rsz rsl') (ha' : Sep nn res' rsz rsl' a' asz asl')
    (hain' : InBounds nn h2.mem.size a' (min asz rsz) asl')
    (sa : SameSrc o.zero nn rsz h.mem res asz rsl h2.mem a' asl') :
    (VecZnx.copy o nn h res rsz rsl res asz rsl).ok = true ∧
    (VecZnx.copy o nn h2 res' rsz rsl' a' asz asl').ok = true ∧
    ∀ i c, i < rsz → c < nn →
      (VecZnx.copy o nn h res rsz rsl res asz rsl).mem[res + i * rsl + c]? =
      (VecZnx.copy o nn h2 res' rsz rsl' a' asz asl').mem[res' + i * rsl' + c]? :=
  copy_call_indep_ok o nn h h2 res rsz rsl res asz rsl res' rsl' a' asl' hok hok2
    hsl hres (Or.inl ⟨rfl, rfl⟩) (fun i hi => hres i (by omega)) hsl' hres' ha'.srcOK hain' sa

/-- `vec_znx_negate(res, res)` -/
theorem negate_inplace_ok (o : Ops α) (nn : Nat) (h h2 : Heap α) (res rsz rsl asz res' rsl' a' asl' : Nat)
    (hok : h.ok = true) (hok2 : h2.ok = true)
    (hsl : nn ≤ rsl) (hres : InBounds nn h.mem.size res rsz rsl)
    (hsl' : nn ≤ rsl') (hres' : InBounds nn h2.mem.size res' rsz rsl') (ha' : Sep nn res' rsz rsl' a' asz asl')
    (hain' : InBounds nn h2.mem.size a' (min asz rsz) asl')
    (sa : SameSrc o.zero nn rsz h.mem res asz rsl h2.mem a' asl') :
    (VecZnx.negate o nn h res rsz rsl res asz rsl).ok = true ∧
    (VecZnx.negate o nn h2 res' rsz rsl' a' asz asl').ok = true ∧
    ∀ i c, i < rsz → c < nn →
      (VecZnx.negate o nn h res rsz rsl res asz rsl).mem[res + i * rsl + c]? =
      (VecZnx.negate o nn h2 res' rsz rsl' a' asz asl').mem[res' + i * rsl' + c]? :=
  negate_call_indep_ok o nn h h2 res rsz rsl res asz rsl res' rsl' a' asl' hok hok2
    hsl hres (Or.inl ⟨rfl, rfl⟩) (fun i hi => hres i (by omega)) hsl' hres' ha'.srcOK hain' sa

/-- `vec_znx_rotate(p, res, res)` (in-place kernel) vs separate buffers (out-of-place kernel) -/
theorem rotate_inplace_ok (o : Ops α) (nn : Nat) (p : Int) (h h2 : Heap α) (res rsz rsl asz res' rsl' a' asl' : Nat)
    (hok : h.ok = true) (hok2 : h2.ok = true)
    (hsl : nn ≤ rsl) (hres : InBounds nn h.mem.size res rsz rsl)
    (hsl' : nn ≤ rsl') (hres' : InBounds nn h2.mem.size res' rsz rsl') (ha' : Sep nn res' rsz rsl' a' asz asl')
    (hain' : InBounds nn h2.mem.size a' (min asz rsz) asl')
    (sa : SameSrc o.zero nn rsz h.mem res asz rsl h2.mem a' asl') :
    (VecZnx.rotate o nn p h res rsz rsl res asz rsl).ok = true ∧
    (VecZnx.rotate o nn p h2 res' rsz rsl' a' asz asl').ok = true ∧
    ∀ i c, i < rsz → c < nn →
      (VecZnx.rotate o nn p h res rsz rsl res asz rsl).mem[res + i * rsl + c]? =
      (VecZnx.rotate o nn p h2 res' rsz rsl' a' asz asl').mem[res' + i * rsl' + c]? :=
  rotate_call_indep_ok o nn p h h2 res rsz rsl res asz rsl res' rsl' a' asl' hok hok2
    hsl hres (Or.inl ⟨rfl, rfl⟩) (fun i hi => hres i (by omega)) hsl' hres' ha'.srcOK hain' sa

/-- `vec_znx_automorphism(p, res, res)`, `nn = 2^t`, odd `p` -/
theorem automorphism_inplace_ok (o : Ops α) (t : Nat) (ht : t ≤ 64) (p : Int) (hp : p % 2 = 1) (h h2 : Heap α)
    (res rsz rsl asz res' rsl' a' asl' : Nat)
    (hok : h.ok = true) (hok2 : h2.ok = true)
    (hsl : 2 ^ t ≤ rsl) (hres : InBounds (2 ^ t) h.mem.size res rsz rsl)
    (hsl' : 2 ^ t ≤ rsl') (hres' : InBounds (2 ^ t) h2.mem.size res' rsz rsl')
    (ha' : Sep (2 ^ t) res' rsz rsl' a' asz asl')
    (hain' : InBounds (2 ^ t) h2.mem.size a' (min asz rsz) asl')
    (sa : SameSrc o.zero (2 ^ t) rsz h.mem res asz rsl h2.mem a' asl') :
    (VecZnx.automorphism o (2 ^ t) p h res rsz rsl res asz rsl).ok = true ∧
    (VecZnx.automorphism o (2 ^ t) p h2 res' rsz rsl' a' asz asl').ok = true ∧
    ∀ i c, i < rsz → c < 2 ^ t →
      (VecZnx.automorphism o (2 ^ t) p h res rsz rsl res asz rsl).mem[res + i * rsl + c]? =
      (VecZnx.automorphism o (2 ^ t) p h2 res' rsz rsl' a' asz asl').mem[res' + i * rsl' + c]? :=
  automorphism_call_indep_ok o t ht p hp h h2 res rsz rsl res asz rsl res' rsl' a' asl' hok hok2
    hsl hres (Or.inl ⟨rfl, rfl⟩) (fun i hi => hres i (by omega)) hsl' hres' ha'.srcOK hain' sa

/-- `vec_znx_big_add(res, res, b)` -/
theorem big_add_inplace_a_ok (o : Ops α) (nn : Nat) (h h2 : Heap α) (res rsz asz b bsz res' a' b' : Nat)
    (hok : h.ok = true) (hok2 : h2.ok = true)
    (hres : InBounds nn h.mem.size res rsz nn) (hb : SrcOK nn res rsz nn b bsz nn)
    (hbin : InBounds nn h.mem.size b (min bsz rsz) nn)
    (hres' : InBounds nn h2.mem.size res' rsz nn)
    (ha' : Sep nn res' rsz nn a' asz nn) (hb' : Sep nn res' rsz nn b' bsz nn)
    (hain' : InBounds nn h2.mem.size a' (min asz rsz) nn) (hbin' : InBounds nn h2.mem.size b' (min bsz rsz) nn)
    (sa : SameSrc o.zero nn rsz h.mem res asz nn h2.mem a' nn)
    (sb : SameSrc o.zero nn rsz h.mem b bsz nn h2.mem b' nn) :
    (VecZnxBig.add o nn h res rsz res asz b bsz).ok = true ∧
    (VecZnxBig.add o nn h2 res' rsz a' asz b' bsz).ok = true ∧
    ∀ i c, i < rsz → c < nn →
      (VecZnxBig.add o nn h res rsz res asz b bsz).mem[res + i * nn + c]? =
      (VecZnxBig.add o nn h2 res' rsz a' asz b' bsz).mem[res' + i * nn + c]? :=
  add_inplace_a_ok o nn h h2 res rsz nn asz b bsz nn res' nn a' nn b' nn hok hok2
    (Nat.le_refl _) hres hb hbin (Nat.le_refl _) hres' ha' hb' hain' hbin' sa sb

/-- `vec_znx_big_add(res, a, res)` -/
theorem big_add_inplace_b_ok (o : Ops α) (nn : Nat) (h h2 : Heap α) (res rsz a asz bsz res' a' b' : Nat)
    (hok : h.ok = true) (hok2 : h2.ok = true)
    (hres : InBounds nn h.mem.size res rsz nn) (ha : SrcOK nn res rsz nn a asz nn)
    (hain : InBounds nn h.mem.size a (min asz rsz) nn)
    (hres' : InBounds nn h2.mem.size res' rsz nn)
    (ha' : Sep nn res' rsz nn a' asz nn) (hb' : Sep nn res' rsz nn b' bsz nn)
    (hain' : InBounds nn h2.mem.size a' (min asz rsz) nn) (hbin' : InBounds nn h2.mem.size b' (min bsz rsz) nn)
    (sa : SameSrc o.zero nn rsz h.mem a asz nn h2.mem a' nn)
    (sb : SameSrc o.zero nn rsz h.mem res bsz nn h2.mem b' nn) :
    (VecZnxBig.add o nn h res rsz a asz res bsz).ok = true ∧
    (VecZnxBig.add o nn h2 res' rsz a' asz b' bsz).ok = true ∧
    ∀ i c, i < rsz → c < nn →
      (VecZnxBig.add o nn h res rsz a asz res bsz).mem[res + i * nn + c]? =
      (VecZnxBig.add o nn h2 res' rsz a' asz b' bsz).mem[res' + i * nn + c]? :=
  add_inplace_b_ok o nn h h2 res rsz nn a asz nn bsz res' nn a' nn b' nn hok hok2
    (Nat.le_refl _) hres ha hain (Nat.le_refl _) hres' ha' hb' hain' hbin' sa sb

/-- `vec_znx_big_add_small(res, res, b)`: big `a` aliased with `res`, small `b` of any stride -/
theorem big_add_small_inplace_a_ok (o : Ops α) (nn : Nat) (h h2 : Heap α)
    (res rsz asz b bsz bsl res' a' b' bsl' : Nat)
    (hok : h.ok = true) (hok2 : h2.ok = true)
    (hres : InBounds nn h.mem.size res rsz nn) (hb : SrcOK nn res rsz nn b bsz bsl)
    (hbin : InBounds nn h.mem.size b (min bsz rsz) bsl)
    (hres' : InBounds nn h2.mem.size res' rsz nn)
    (ha' : Sep nn res' rsz nn a' asz nn) (hb' : Sep nn res' rsz nn b' bsz bsl')
    (hain' : InBounds nn h2.mem.size a' (min asz rsz) nn) (hbin' : InBounds nn h2.mem.size b' (min bsz rsz) bsl')
    (sa : SameSrc o.zero nn rsz h.mem res asz nn h2.mem a' nn)
    (sb : SameSrc o.zero nn rsz h.mem b bsz bsl h2.mem b' bsl') :
    (VecZnxBig.addSmall o nn h res rsz res asz b bsz bsl).ok = true ∧
    (VecZnxBig.addSmall o nn h2 res' rsz a' asz b' bsz bsl').ok = true ∧
    ∀ i c, i < rsz → c < nn →
      (VecZnxBig.addSmall o nn h res rsz res asz b bsz bsl).mem[res + i * nn + c]? =
      (VecZnxBig.addSmall o nn h2 res' rsz a' asz b' bsz bsl').mem[res' + i * nn + c]? :=
  add_inplace_a_ok o nn h h2 res rsz nn asz b bsz bsl res' nn a' nn b' bsl' hok hok2
    (Nat.le_refl _) hres hb hbin (Nat.le_refl _) hres' ha' hb' hain' hbin' sa sb

/-- `vec_znx_big_sub(res, res, b)` -/
theorem big_sub_inplace_a_ok (o : Ops α) (nn : Nat) (h h2 : Heap α) (res rsz asz b bsz res' a' b' : Nat)
    (hok : h.ok = true) (hok2 : h2.ok = true)
    (hres : InBounds nn h.mem.size res rsz nn) (hb : SrcOK nn res rsz nn b bsz nn)
    (hbin : InBounds nn h.mem.size b (min bsz rsz) nn)
    (hres' : InBounds nn h2.mem.size res' rsz nn)
    (ha' : Sep nn res' rsz nn a' asz nn) (hb' : Sep nn res' rsz nn b' bsz nn)
    (hain' : InBounds nn h2.mem.size a' (min asz rsz) nn) (hbin' : InBounds nn h2.mem.size b' (min bsz rsz) nn)
    (sa : SameSrc o.zero nn rsz h.mem res asz nn h2.mem a' nn)
    (sb : SameSrc o.zero nn rsz h.mem b bsz nn h2.mem b' nn) :
    (VecZnxBig.sub o nn h res rsz res asz b bsz).ok = true ∧
    (VecZnxBig.sub o nn h2 res' rsz a' asz b' bsz).ok = true ∧
    ∀ i c, i < rsz → c < nn →
      (VecZnxBig.sub o nn h res rsz res asz b bsz).mem[res + i * nn + c]? =
      (VecZnxBig.sub o nn h2 res' rsz a' asz b' bsz).mem[res' + i * nn + c]? :=
  sub_inplace_a_ok o nn h h2 res rsz nn asz b bsz nn res' nn a' nn b' nn hok hok2
    (Nat.le_refl _) hres hb hbin (Nat.le_refl _) hres' ha' hb' hain' hbin' sa sb

/-- `vec_znx_big_sub(res, a, res)` -/
theorem big_sub_inplace_b_ok (o : Ops α) (nn : Nat) (h h2 : Heap α) (res rsz a asz bsz res' a' b' : Nat)
    (hok : h.ok = true) (hok2 : h2.ok = true)
    (hres : InBounds nn h.mem.size res rsz nn) (ha : SrcOK nn res rsz nn a asz nn)
    (hain : InBounds nn h.mem.size a (min asz rsz) nn)
    (hres' : InBounds nn h2.mem.size res' rsz nn)
    (ha' : Sep nn res' rsz nn a' asz nn) (hb' : Sep nn res' rsz nn b' bsz nn)
    (hain' : InBounds nn h2.mem.size a' (min asz rsz) nn) (hbin' : InBounds nn h2.mem.size b' (min bsz rsz) nn)
    (sa : SameSrc o.zero nn rsz h.mem a asz nn h2.mem a' nn)
    (sb : SameSrc o.zero nn rsz h.mem res bsz nn h2.mem b' nn) :
    (VecZnxBig.sub o nn h res rsz a asz res bsz).ok = true ∧
    (VecZnxBig.sub o nn h2 res' rsz a' asz b' bsz).ok = true ∧
    ∀ i c, i < rsz → c < nn →
      (VecZnxBig.sub o nn h res rsz a asz res bsz).mem[res + i * nn + c]? =
      (VecZnxBig.sub o nn h2 res' rsz a' asz b' bsz).mem[res' + i * nn + c]? :=
  sub_inplace_b_ok o nn h h2 res rsz nn a asz nn bsz res' nn a' nn b' nn hok hok2
    (Nat.le_refl _) hres ha hain (Nat.le_refl _) hres' ha' hb' hain' hbin' sa sb

/-- `vec_znx_big_sub_small_b(res, res, b)`: big `a` aliased, small `b` -/
theorem big_sub_small_b_inplace_a_ok (o : Ops α) (nn : Nat) (h h2 : Heap α)
    (res rsz asz b bsz bsl res' a' b' bsl' : Nat)
    (hok : h.ok = true) (hok2 : h2.ok = true)
    (hres : InBounds nn h.mem.size res rsz nn) (hb : SrcOK nn res rsz nn b bsz bsl)
    (hbin : InBounds nn h.mem.size b (min bsz rsz) bsl)
    (hres' : InBounds nn h2.mem.size res' rsz nn)
    (ha' : Sep nn res' rsz nn a' asz nn) (hb' : Sep nn res' rsz nn b' bsz bsl')
    (hain' : InBounds nn h2.mem.size a' (min asz rsz) nn) (hbin' : InBounds nn h2.mem.size b' (min bsz rsz) bsl')
    (sa : SameSrc o.zero nn rsz h.mem res asz nn h2.mem a' nn)
    (sb : SameSrc o.zero nn rsz h.mem b bsz bsl h2.mem b' bsl') :
    (VecZnxBig.subSmallB o nn h res rsz res asz b bsz bsl).ok = true ∧
    (VecZnxBig.subSmallB o nn h2 res' rsz a' asz b' bsz bsl').ok = true ∧
    ∀ i c, i < rsz → c < nn →
      (VecZnxBig.subSmallB o nn h res rsz res asz b bsz bsl).mem[res + i * nn + c]? =
      (VecZnxBig.subSmallB o nn h2 res' rsz a' asz b' bsz bsl').mem[res' + i * nn + c]? :=
  sub_inplace_a_ok o nn h h2 res rsz nn asz b bsz bsl res' nn a' nn b' bsl' hok hok2
    (Nat.le_refl _) hres hb hbin (Nat.le_refl _) hres' ha' hb' hain' hbin' sa sb

/-- `vec_znx_big_sub_small_a(res, a, res)`: small `a`, big `b` aliased -/
theorem big_sub_small_a_inplace_b_ok (o : Ops α) (nn : Nat) (h h2 : Heap α)
    (res rsz a asz asl bsz res' a' asl' b' : Nat)
    (hok : h.ok = true) (hok2 : h2.ok = true)
    (hres : InBounds nn h.mem.size res rsz nn) (ha : SrcOK nn res rsz nn a asz asl)
    (hain : InBounds nn h.mem.size a (min asz rsz) asl)
    (hres' : InBounds nn h2.mem.size res' rsz nn)
    (ha' : Sep nn res' rsz nn a' asz asl') (hb' : Sep nn res' rsz nn b' bsz nn)
    (hain' : InBounds nn h2.mem.size a' (min asz rsz) asl') (hbin' : InBounds nn h2.mem.size b' (min bsz rsz) nn)
    (sa : SameSrc o.zero nn rsz h.mem a asz asl h2.mem a' asl')
    (sb : SameSrc o.zero nn rsz h.mem res bsz nn h2.mem b' nn) :
    (VecZnxBig.subSmallA o nn h res rsz a asz asl res bsz).ok = true ∧
    (VecZnxBig.subSmallA o nn h2 res' rsz a' asz asl' b' bsz).ok = true ∧
    ∀ i c, i < rsz → c < nn →
      (VecZnxBig.subSmallA o nn h res rsz a asz asl res bsz).mem[res + i * nn + c]? =
      (VecZnxBig.subSmallA o nn h2 res' rsz a' asz asl' b' bsz).mem[res' + i * nn + c]? :=
  sub_inplace_b_ok o nn h h2 res rsz nn a asz asl bsz res' nn a' asl' b' nn hok hok2
    (Nat.le_refl _) hres ha hain (Nat.le_refl _) hres' ha' hb' hain' hbin' sa sb

/-- `vec_znx_big_rotate(p, res, res)` -/
theorem big_rotate_inplace_ok (o : Ops α) (nn : Nat) (p : Int) (h h2 : Heap α) (res rsz asz res' a' : Nat)
    (hok : h.ok = true) (hok2 : h2.ok = true)
    (hres : InBounds nn h.mem.size res rsz nn)
    (hres' : InBounds nn h2.mem.size res' rsz nn) (ha' : Sep nn res' rsz nn a' asz nn)
    (hain' : InBounds nn h2.mem.size a' (min asz rsz) nn)
    (sa : SameSrc o.zero nn rsz h.mem res asz nn h2.mem a' nn) :
    (VecZnxBig.rotate o nn p h res rsz res asz).ok = true ∧
    (VecZnxBig.rotate o nn p h2 res' rsz a' asz).ok = true ∧
    ∀ i c, i < rsz → c < nn →
      (VecZnxBig.rotate o nn p h res rsz res asz).mem[res + i * nn + c]? =
      (VecZnxBig.rotate o nn p h2 res' rsz a' asz).mem[res' + i * nn + c]? :=
  rotate_inplace_ok o nn p h h2 res rsz nn asz res' nn a' nn hok hok2
    (Nat.le_refl _) hres (Nat.le_refl _) hres' ha' hain' sa

/-- `vec_znx_big_automorphism(p, res, res)`, `nn = 2^t`, odd `p` -/
theorem big_automorphism_inplace_ok (o : Ops α) (t : Nat) (ht : t ≤ 64) (p : Int) (hp : p % 2 = 1) (h h2 : Heap α)
    (res rsz asz res' a' : Nat)
    (hok : h.ok = true) (hok2 : h2.ok = true)
    (hres : InBounds (2 ^ t) h.mem.size res rsz (2 ^ t))
    (hres' : InBounds (2 ^ t) h2.mem.size res' rsz (2 ^ t)) (ha' : Sep (2 ^ t) res' rsz (2 ^ t) a' asz (2 ^ t))
    (hain' : InBounds (2 ^ t) h2.mem.size a' (min asz rsz) (2 ^ t))
    (sa : SameSrc o.zero (2 ^ t) rsz h.mem res asz (2 ^ t) h2.mem a' (2 ^ t)) :
    (VecZnxBig.automorphism o (2 ^ t) p h res rsz res asz).ok = true ∧
    (VecZnxBig.automorphism o (2 ^ t) p h2 res' rsz a' asz).ok = true ∧
    ∀ i c, i < rsz → c < 2 ^ t →
      (VecZnxBig.automorphism o (2 ^ t) p h res rsz res asz).mem[res + i * 2 ^ t + c]? =
      (VecZnxBig.automorphism o (2 ^ t) p h2 res' rsz a' asz).mem[res' + i * 2 ^ t + c]? :=
  automorphism_inplace_ok o t ht p hp h h2 res rsz (2 ^ t) asz res' (2 ^ t) a' (2 ^ t) hok hok2
    (Nat.le_refl _) hres (Nat.le_refl _) hres' ha' hain' sa

/-! ### the hypotheses are satisfiable: the heaps of C08 / C13 (`nn = 2`).
    Heap 1 (`exHeap`, 13 cells): res = a at 0 (stride 3, `a` 1 limb, `res` 3 limbs), b at 9 (2 limbs, stride 2).
    Heap 2 (`exHeap2`, 13 cells): output at 0 (stride 2), a' at 6 (stride 2), b' at 8 (stride 3). -/

example := add_inplace_a_ok i64Ops 2 exHeap exHeap2 0 3 3 1 9 2 2 0 2 6 2 8 3 rfl rfl (by omega)
  (by intro i hi; simp [exHeap]; omega) (Or.inr (by intro i j hi hj; omega))
  (by intro i hi; simp [exHeap]; omega) (by omega)
  (by intro i hi; simp [exHeap2]; omega) (by intro i j hi hj; omega) (by intro i j hi hj; omega)
  (by intro i hi; simp [exHeap2]; omega) (by intro i hi; simp [exHeap2]; omega)
  (by intro i c hi _ hc
      have : i = 0 := by omega
      subst this
      have : c = 0 ∨ c = 1 := by omega
      rcases this with rfl | rfl <;> decide)
  (by intro i c hi _ hc
      have h1 : i = 0 ∨ i = 1 := by omega
      have h2 : c = 0 ∨ c = 1 := by omega
      rcases h1 with rfl | rfl <;> rcases h2 with rfl | rfl <;> decide)

/-- in-place rotation by `p = 1` and in-place automorphism `p = 3` (`nn = 2 = 2^1`) on the same heaps -/
example := rotate_inplace_ok i64Ops 2 1 exHeap exHeap2 0 3 3 1 0 2 6 2 rfl rfl
  (by omega) (by intro i hi; simp [exHeap]; omega) (by omega)
  (by intro i hi; simp [exHeap2]; omega) (by intro i j hi hj; omega) (by intro i hi; simp [exHeap2]; omega)
  (by intro i c hi _ hc
      have : i = 0 := by omega
      subst this
      have : c = 0 ∨ c = 1 := by omega
      rcases this with rfl | rfl <;> decide)
example := automorphism_inplace_ok i64Ops 1 (by omega) 3 (by omega) exHeap exHeap2 0 3 3 1 0 2 6 2 rfl rfl
  (by omega) (by intro i hi; simp [exHeap]; omega) (by omega)
  (by intro i hi; simp [exHeap2]; omega) (by intro i j hi hj; omega) (by intro i hi; simp [exHeap2]; omega)
  (by intro i c hi _ hc
      have : i = 0 := by omega
      subst this
      have : c = 0 ∨ c = 1 := by omega
      rcases this with rfl | rfl <;> decide)

/-- why the in-bounds hypotheses matter: with the source `b` declared past the end of the 13-cell heap (offset 12,
    2 limbs) the C13 hypotheses can still be met by default reads, but the call faults (`ok = false`) -/
example : (VecZnx.add i64Ops 2 exHeap 0 3 3 0 1 3 12 2 2).ok = false := by decide

end Spq.C13
