/-
  C16 — the BINARY64 side at program level: programs run with the binary64 module `Spq.Module.Cfg.parts` (the instance
  the streams validate bit-exactly against the library) produce exactly the integer limbs of the exact interpreter.

  Property C16 (fixed text; FULL statement, NOT completely proved — see the `_partial` theorems):
    "Any sequence of library operations - coefficient-space add/sub/negate/copy/rotate/automorphism/normalize, DFT,
     scalar and matrix products in DFT space, inverse DFT, big-coefficient arithmetic and final normalization - applied
     to integer polynomial vectors produces exactly the limbs obtained by evaluating the same expression with exact
     integer polynomial arithmetic, as long as every intermediate stays inside the precision budget of its
     representation (C01 for FFT64, 2^119 for NTT120 big coefficients).  Opaque DFT/prepared objects produced by one
     function are therefore valid inputs to every function that accepts them."

  1. DATAFLOW ANALYSIS (`Spq/Prog.lean`, `OpD`).  A `VEC_ZNX_DFT` variable is PRODUCED by `dft`, `svp` (`svp_apply_dft`),
     `vmp` (`vmp_apply_dft`), `vmpDD` (`vmp_apply_dft_to_dft`) and CONSUMED by `idft` and `vmpDD`; `SVP_PPOL` is produced by
     `svpPrepare` and consumed by `svp`; `VMP_PMAT` is produced by `vmpPrepare` and consumed by `vmp` / `vmpDD`.
     The dataflows   dft → idft*,   svpPrepare → svp → idft*,   vmpPrepare → vmp → idft*   (`*`: any number of reads, any
     limb counts, interleaved with arbitrary other calls, prepared objects reused by many products) and the
     self-contained `smallProduct` are covered by the end-to-end theorems of C01Err / C02Err and the round-trip theorem
     below: for programs without `vmpDD` there is NO excluded class (`progD_refines_f64_partial`).
     With `vmpDD` a product can be fed a product (`svp → vmpDD`, `vmp → vmpDD`, `vmpDD → vmpDD`): these are NOT
     covered by the end-to-end theorems of C01Err / C02Err (they need the error of the first product propagated
     through the second one); `Properties/C16Err2.lean` treats them.  The class covered here is named by the decidable
     predicate `SingleProductDepth` (every `vmpDD` reads a
     RAW transform, i.e. a variable last written by `dft` — the static tag `AState.raw` — and only rows that are
     transforms of input limbs): there `vmp_apply_dft_to_dft (vec_znx_dft a) = vmp_apply_dft a` BIT FOR BIT
     (`vmp_dft_to_dft_raw_f64`), so C02Err applies.  (In EXACT arithmetic products of products are fine:
     `ClosedProps.prog_refines_closed` has no such restriction.)
  2. BUDGET (`ProgErr.PreF`, the per-call `OpBudget`; all on the EXACT state):
       coefficient-space call : C16's `OpPre` (int64 range, `normalize` range, operands declared);
       `dft d a`      : every limb `i < min a.size d.size`: `RtBudget` = box `< 2^50`, flags `RtOk` of its two transforms,
                        `17·log2(N)·2^-53·na < 1/2` for some `na ≥ ‖a_i‖₂`;
       `svp d k a`    : every `i < min a.size d.size`: `ProdBudget a_i s_k` = the hypotheses of
                        `C01Err.small_product_exact_f64_partial` (boxes, `PipeOk`, `E' = 12·log2(N)·2^-53·S < 1/2`);
       `vmp d a m`, `vmpDD d a m` : `VmpBudget` = the hypotheses of `C02Err.vmp_exact_f64_partial` for every column
                        `j < min ncols d.size` (boxes, `VmpOk`, `E_sum < 1/2`, `n ≤ 2^25 − 1` rows);
       `smallProduct` : `ProdBudget` of limb 0 of the operands;
       `svpPrepare`, `vmpPrepare`, `idft` : shapes only (their rounding is inside the budget of the producing product).
     Module-level standing hypotheses, bundled in `ProgErr.F64Mod`: `VCfgOk` (dispatch), `k ≤ 16`, twiddle accuracy.
  3. INVARIANT of opaque objects (`ProgErr.RE` = `Prog.RD` of the instance `dftOpsSound_f64` of `Prog.DftOpsSound`): a `VEC_ZNX_DFT` object `d` represents the integer vector `P` iff
     `LimbExact`: `toZnx (ifft (limb_i d)) = P_i` for every limb — "inverse transform + final rounding returns exactly
     the abstract limb".  This is the weakest invariant that makes `idft` (the only consumer besides `vmpDD`) exact, and it is
     what the C01Err / C02Err theorems establish; a metric invariant ("within the C06Err bound of the exact transform")
     is NOT derivable from their statements (it is the invariant `ProgErr2.MetricRep` of C16Err2).  For `vmpDD` the
     invariant additionally records provenance: a raw transform is bit for bit `vec_znx_dft` of the exact limbs;
     prepared objects are bit for bit `svp_prepare` / `vmp_prepare_contiguous` of the exact operand.
  4. "partial" in the names of the theorems: constants 12 / 17 instead of 8 / 16, flags (underflow half) and twiddle
     accuracy are hypotheses (as in C01Err/C02Err); NTT120 programs are not modelled.
  PROGRAMS OUTSIDE `SingleProductDepth` are the subject of `Properties/C16Err2.lean`: there a `VEC_ZNX_DFT` object is
  represented metrically (`‖d_i − DFT(P_i)‖₂ ≤ δ_i·√m`), `vmp_apply_dft_to_dft` gets a forward-error theorem for an
  operand only known up to `δ` (`δ'_j` from `δ_i`, the generalisation of C02Err's column stage), and the flags of the
  inverse transform and `E < 1/2` are charged at the consumer `idft` instead of at the producing product.
-/
import SpqProofs.Properties.C16
import SpqProofs.Lemmas.ProgErrRun
import SpqProofs.Lemmas.ProgErrExample2
import SpqProofs.Lemmas.ProgErrNoOvf
import SpqProofs.Lemmas.ProgErrNet
namespace Spq.C16Err
open Finset Spq Spq.Module Spq.Prog Spq.Closed Spq.ProgErr Spq.ProdErr Spq.VmpErr Spq.FftErr Spq.F64 Spq.Fft.Alg

variable {K : Type} [Field K] [LinearOrder K] [IsStrictOrderedRing K] {hsz : ℕ} {vars : List Var}

/-- **`roundtrip_exact_f64_partial`**: one polynomial through `fromZnx`, forward FFT, inverse FFT, `toZnx` of the
    binary64 module returns EXACTLY its `N` coefficients if `|a_t| < 2^50`, the flags of the two transforms hold and
    `17·log2(N)·2^-53·na < 1/2` for some `na ≥ ‖a‖₂` (`2ε + ε² ≤ 17·log2(N)·2^-53`, `ε = (1+8u)^k − 1` of C06Err:
    forward error `ε·‖a‖₂`, inverse error `ε·(1+ε)·‖a‖₂`, then rounding).  ("partial": flags and twiddle accuracy
    are hypotheses.) -/
theorem roundtrip_exact_f64_partial (M : F64Mod K) (a : Array Int) (hb : RtBudget M a) :
    M.parts.toZnx (M.parts.ifft (M.parts.fft (M.parts.fromZnx a))) = firstN M.N a :=
  ProgErr2.rt_exact M a hb

/-- **`dft_idft_exact_f64_partial`**: `vec_znx_idft (vec_znx_dft x)` in the binary64 module, every limb count
    (`asz` input limbs with stride `asl`, `rsz` DFT limbs, `rsz2` output limbs): output limb `i` is input limb `i` for
    `i < min asz rsz`, zero otherwise — if every transformed limb is inside the round-trip budget. -/
theorem dft_idft_exact_f64_partial (M : F64Mod K) (x : Array Int) (asz asl rsz rsz2 : ℕ) (f : ℕ → ℕ → ℤ)
    (hag : Agree M.N x asz asl f) (hb : ∀ i, i < asz → i < rsz → RtBudget M (polyArr M.N (f i))) (i : ℕ) (hi : i < rsz2) :
    dlimb (vecIdft M.parts rsz2 (vecDft M.parts rsz x asz asl) rsz) i M.N =
      if i < rsz ∧ i < asz then polyArr M.N (f i) else Array.replicate M.N 0 := by
  rw [idft_row M rsz2 _ rsz i hi]
  by_cases h : i < rsz
  · rw [if_pos h, dft_sound M x asz asl rsz f hag hb i h, polyArr_coef_mk _ _ _ i h]
    by_cases h2 : i < asz
    · rw [if_pos ⟨h, h2⟩, zext_pos f h2]
    · rw [if_neg (fun q => h2 q.2), zext_neg f h2]
      exact polyArr_zero _ _ fun _ _ => rfl
  · rw [if_neg h, if_neg (fun q => h q.1)]

/-- **`raw_dft_metric_f64_partial`** (the metric form of the invariant, for RAW transforms): limb `i < min asz rsz` of
    the binary64 `vec_znx_dft` of an integer vector in the box is a vector of finite doubles within the C06Err bound of
    the exact transform of the abstract limb: `Σ_j |val(d_i)_j − DFT(a_i)_j|² ≤ (ε·na)²·m`, `ε = (1+8u)^k − 1`,
    `na ≥ ‖a_i‖₂`, `DFT(a)_j = V ζ (pkC a) k 0 j` (the exact network on the packed coefficients).  This is the statement
    that C16Err2 propagates through products of products; `LimbExact` (what the program theorem uses) follows from it
    only together with the flags of the inverse transform and `17·log2(N)·2^-53·na < 1/2`. -/
theorem raw_dft_metric_f64_partial (M : F64Mod K) (x : Array Int) (asz asl rsz : ℕ) (f : ℕ → ℕ → ℤ)
    (hag : Agree M.N x asz asl f) (i : ℕ) (hi : i < rsz) (hia : i < asz) (hbox : Box M.k (polyArr M.N (f i)))
    (hok : FwdOk M.c M.k M.cN M.sN (polyArr M.N (f i))) (na : K) (hna : n2sq K (polyArr M.N (f i)) M.N ≤ na ^ 2) :
    (∀ p, p < M.N → Fin64 ((dlimb (vecDft M.parts rsz x asz asl) i M.N)[p]!)) ∧
    ∑ j ∈ range (2 ^ M.k), nsq (outC (dlimb (vecDft M.parts rsz x asz asl) i M.N) M.k j -
        V M.ζ (pkC (polyArr M.N (f i)) (2 ^ M.k)) M.k 0 j) ≤ (eps K M.k * na) ^ 2 * 2 ^ M.k := by
  rw [(vecDft_limbs M x asz asl rsz f hag).2 i hi, if_pos hia, parts_fft M.c M.k M.cN M.sN M.cNi M.sNi M.ok.cfg]
  -- `na` is not assumed nonnegative: the rule is used at `|na|`
  obtain ⟨-, hfin, hA⟩ := near_fwd M.ctx _ hbox hok |na| ⟨abs_nonneg na, by rwa [sq_abs]⟩
  exact ⟨fun p hp => by rw [getElem!_nat]; exact hfin p hp, by rwa [mul_pow, sq_abs, ← mul_pow] at hA⟩

/-- **`vmp_dft_to_dft_raw_f64`**: in the binary64 module `vmp_apply_dft_to_dft (vec_znx_dft a)` is BIT FOR BIT
    `vmp_apply_dft a` (any prepared matrix; `a` = `asz` limbs `f`, DFT variable of `dsz` limbs, `rsz` result limbs), as
    long as the `min nrows dsz` rows it reads are transforms of input limbs (`≤ asz`). -/
theorem vmp_dft_to_dft_raw_f64 (M : F64Mod K) (rsz dsz asz : ℕ) (f : ℕ → ℕ → ℤ) (pm : Array ℕ) (nrows ncols : ℕ)
    (hrow : min nrows dsz ≤ asz) :
    vmpApplyDftToDft M.parts rsz (vecDft M.parts dsz (flatOf M.N asz f) asz M.N) dsz pm nrows ncols =
      vmpApplyDft M.parts rsz (flatOf M.N dsz (zext asz f)) dsz M.N pm nrows ncols := by
  rw [vecDft_raw M.parts M.N M.nn dsz _ asz M.N f (agree_flatOf _ _ _),
    flatOf_congr M.N dsz _ (zext asz f) (fun i t hi ht => coef_mk _ _ _ _ _ hi ht)]
  exact vmpDD_eq2 M rsz dsz asz _ pm nrows ncols hrow

/-- **one call**: under its numeric budget `PreF` and its dataflow condition `opSPD`, the binary64 step simulates the
    exact step (every call of `OpD`, incl. `vmp_apply_dft_to_dft`) -/
theorem step_refines_f64_partial (M : F64Mod K) (wf : WF M.N hsz vars) (o : OpD) (a : AState) (s : CState ℕ)
    (hpre : PreF M vars o a) (hspd : opSPD o a.raw) (hR : RE M hsz vars a s) :
    RE M hsz vars (astepD M.N o a) (cstepD M.parts M.N o s) :=
  C16.stepD_refines_partial (dftOpsSound_f64 M) wf o a s (preD_of_preF M o a hpre hspd) hR

/-- **`prog_refines_f64_partial`** (class `SingleProductDepth`).
    Without the hypothesis `hspd` (products of products): `C16Err2.prog_refines_f64_metric_partial`, other budgets.
    PROVED: for every binary64 module `M : F64Mod K`, every well-formed layout, every program in the class
    `SingleProductDepth`, if every call of the exact run satisfies its budget `PreF`, then the state of the binary64
    run represents (`RE`) the state of the exact run: the heap holds exactly the integer limbs of every declared
    variable, every `VEC_ZNX_DFT` object inverse-transforms to exactly its abstract limbs, raw transforms and prepared
    objects are bit for bit the transforms of the exact operands. -/
theorem prog_refines_f64_partial (M : F64Mod K) (wf : WF M.N hsz vars) (ops : List OpD) (a : AState) (s : CState ℕ)
    (hspd : SingleProductDepth ops a.raw) (hb : Guarded (PreF M vars) (astepD M.N) ops a) (hR : RE M hsz vars a s) :
    RE M hsz vars (run (astepD M.N) ops a) (run (cstepD M.parts M.N) ops s) :=
  C16.prog_refines_partial (dftOpsSound_f64 M) wf ops a s (guarded_preD M ops a hb hspd) hR

/-- **`prog_output_f64_partial`**: read-back form — every coefficient of every declared integer variable after the
    binary64 run is the coefficient computed by the exact interpreter; the heap kept its size, no access was out of
    bounds. -/
theorem prog_output_f64_partial (M : F64Mod K) (wf : WF M.N hsz vars) (ops : List OpD) (a : AState) (s : CState ℕ)
    (hspd : SingleProductDepth ops a.raw) (hb : Guarded (PreF M vars) (astepD M.N) ops a) (hR : RE M hsz vars a s)
    (v : Var) (hv : v ∈ vars) :
    (run (cstepD M.parts M.N) ops s).heap.ok = true ∧ (run (cstepD M.parts M.N) ops s).heap.mem.size = hsz ∧
    ∀ i t, i < v.size → t < M.N →
      (readVar M.N (run (cstepD M.parts M.N) ops s).heap v).coef i t = ((run (astepD M.N) ops a).env v).coef i t := by
  have r := (prog_refines_f64_partial M wf ops a s hspd hb hR).1
  exact ⟨r.2.1, r.1, readVar_of_R r v hv⟩

/-- **`progD_refines_f64_partial`**: EVERY program without `vmp_apply_dft_to_dft` is covered — no dataflow restriction -/
theorem progD_refines_f64_partial (M : F64Mod K) (wf : WF M.N hsz vars) (ops : List OpD) (hnd : ops.all notDD = true)
    (a : AState) (s : CState ℕ) (hb : Guarded (PreF M vars) (astepD M.N) ops a) (hR : RE M hsz vars a s) :
    RE M hsz vars (run (astepD M.N) ops a) (run (cstepD M.parts M.N) ops s) :=
  prog_refines_f64_partial M wf ops a s (spd_of_notDD ops a.raw hnd) hb hR

/-- read-back form for programs without `vmp_apply_dft_to_dft` -/
theorem progD_output_f64_partial (M : F64Mod K) (wf : WF M.N hsz vars) (ops : List OpD) (hnd : ops.all notDD = true)
    (a : AState) (s : CState ℕ) (hb : Guarded (PreF M vars) (astepD M.N) ops a) (hR : RE M hsz vars a s)
    (v : Var) (hv : v ∈ vars) :
    ∀ i t, i < v.size → t < M.N →
      (readVar M.N (run (cstepD M.parts M.N) ops s).heap v).coef i t = ((run (astepD M.N) ops a).env v).coef i t :=
  (prog_output_f64_partial M wf ops a s (spd_of_notDD ops a.raw hnd) hb hR v hv).2.2

/-- **`f64_agrees_with_exact_network_partial`**: "the exact-arithmetic refinement and the binary64 run agree on all
    integer outputs".  The SAME model code (`cstepD`) run with the binary64 module `Cfg.parts c` and with the exact
    FFT network `Closed.exactParts rt fl` over any characteristic-0 ring with a primitive root (`Closed.lean`) stores
    the same integers in every declared variable, for every program of the class inside the binary64 budget. -/
theorem f64_agrees_with_exact_network_partial (M : F64Mod K) {R : Type} [CommRing R] (rt : RootData R M.k) (fl : Flags)
    (hfl : fl.ok M.k) (wf : WF M.N hsz vars) (ops : List OpD) (a : AState) (s : CState ℕ) (sx : CState R)
    (hspd : SingleProductDepth ops a.raw) (hb : Guarded (PreF M vars) (astepD M.N) ops a) (hR : RE M hsz vars a s)
    (hRx : RD (ClosedProps.dftOpsSound_network rt fl hfl) hsz vars a sx) (v : Var) (hv : v ∈ vars) :
    ∀ i t, i < v.size → t < M.N →
      (readVar M.N (run (cstepD M.parts M.N) ops s).heap v).coef i t =
        (readVar M.N (run (cstepD (exactParts rt fl) M.N) ops sx).heap v).coef i t := by
  intro i t hi ht
  rw [(prog_output_f64_partial M wf ops a s hspd hb hR v hv).2.2 i t hi ht,
    ClosedProps.prog_output_closed rt fl hfl wf ops a sx (guarded_network_of_f64 M rt fl hfl ops a hb) hRx v hv i t hi ht]

/-- satisfiable: `N = 2`, binary64 module `exC` against the exact network over `ℚ` (`Closed.ratRoot`, `ζ = i`), program
    `exProg` of `Lemmas/ProgErrExample.lean` (contains `vmp_apply_dft_to_dft`) -/
example (v : Var) (hv : v ∈ ProgErr.exVars) : ∀ i t, i < v.size → t < ProgErr.exMod.N →
    (readVar ProgErr.exMod.N (run (cstepD ProgErr.exMod.parts ProgErr.exMod.N) exProg ProgErr.exS).heap v).coef i t =
      (readVar ProgErr.exMod.N (run (cstepD (exactParts ratRoot ClosedProps.exFl) ProgErr.exMod.N) exProg
        (⟨ProgErr.exHeap, fun _ => #[], fun _ => #[], fun _ => #[]⟩ : CState ℚ)).heap v).coef i t :=
  f64_agrees_with_exact_network_partial ProgErr.exMod ratRoot ClosedProps.exFl (fun h => by simp [ClosedProps.exFl] at h)
    (hsz := 8) (vars := ProgErr.exVars) exWF exProg ProgErr.exA ProgErr.exS _ (by decide)
    exGuarded (RE_init ProgErr.exMod ProgErr.exEnv ProgErr.exS exR)
    (RD_init _ ProgErr.exEnv _ (Rb_sound _ _ _ _ _ (by decide))) v hv

/-! ### the record `Prog.DftOpsSound` of `Spq/Prog.lean`, instantiated for the binary64 module

    `ProgErr.dftOpsSound_f64 M : DftOpsSound (Cfg.parts c) N` (`Lemmas/ProgErrLang.lean`): `RepV = LimbExact`,
    `RepS` / `RepM` = "bit for bit the prepared exact operand", budgets = `RtBudget` / `ProdBudget` / `VmpBudget` for the
    limb count of the result; the budget of `vmp_apply_dft_to_dft` contains the dataflow condition on the tag.
    This is the instance of `S` by the C01Err / C02Err theorems that `C16.prog_refines_partial` refers to;
    `prog_refines_f64_partial` above is this theorem with the precondition split into numeric budget + static class
    (`ProgErr.guarded_preD` / `guarded_preF`: the two forms are equivalent). -/

/-- **`prog_refines_sound_f64_partial`**: `C16.prog_refines_partial` for `S := dftOpsSound_f64 M` — mixed programs of
    `Prog.OpD` run with the binary64 module refine the exact interpreter, the hypotheses being the budgets of the
    record (`PreD`).  ("partial": flags / twiddle accuracy / constants as above.) -/
theorem prog_refines_sound_f64_partial (M : F64Mod K) (wf : WF M.N hsz vars) (ops : List OpD) (a : AState) (s : CState ℕ)
    (hb : Guarded (PreD (dftOpsSound_f64 M) vars) (astepD M.N) ops a) (hR : RD (dftOpsSound_f64 M) hsz vars a s) :
    RD (dftOpsSound_f64 M) hsz vars (run (astepD M.N) ops a) (run (cstepD M.parts M.N) ops s) :=
  C16.prog_refines_partial (dftOpsSound_f64 M) wf ops a s hb hR

/-- read-back form -/
theorem prog_output_sound_f64_partial (M : F64Mod K) (wf : WF M.N hsz vars) (ops : List OpD) (a : AState) (s : CState ℕ)
    (hb : Guarded (PreD (dftOpsSound_f64 M) vars) (astepD M.N) ops a) (hR : RD (dftOpsSound_f64 M) hsz vars a s)
    (v : Var) (hv : v ∈ vars) :
    ∀ i t, i < v.size → t < M.N →
      (readVar M.N (run (cstepD M.parts M.N) ops s).heap v).coef i t = ((run (astepD M.N) ops a).env v).coef i t :=
  C16.prog_output_partial (dftOpsSound_f64 M) wf ops a s hb hR v hv

/-- the fields of the instance, spelled out -/
example (M : F64Mod K) (P : Val) (sz : ℕ) (d : Array ℕ) : (dftOpsSound_f64 M).RepV P sz d = LimbExact M P sz d := rfl
example (M : F64Mod K) (rsz asz : ℕ) (f : ℕ → ℕ → ℤ) :
    (dftOpsSound_f64 M).dft_budget rsz asz f = ∀ i, i < asz → i < rsz → RtBudget M (polyArr M.N (f i)) := rfl
example (M : F64Mod K) (rsz asz : ℕ) (f : ℕ → ℕ → ℤ) (Mv : Val) (nrows ncols : ℕ) :
    (dftOpsSound_f64 M).vmp_budget rsz asz f Mv nrows ncols =
      VmpBudget M (matOf M Mv nrows ncols) nrows ncols (flatOf M.N asz f) asz rsz := rfl
example (M : F64Mod K) (rsz : ℕ) (raw : Option ℕ) (P : Val) (asz : ℕ) (Mv : Val) (nrows ncols : ℕ) :
    (dftOpsSound_f64 M).vmp_dd_budget rsz raw P asz Mv nrows ncols =
      ∃ az, raw = some az ∧ min nrows asz ≤ az ∧
        VmpBudget M (matOf M Mv nrows ncols) nrows ncols (flatOf M.N asz fun i t => P.coef i t) asz rsz := rfl
example (M : F64Mod K) (P : Val) (sz : ℕ) : (dftOpsSound_f64 M).idft_budget P sz = True := rfl

/-- the hypotheses are satisfiable: `N = 2`, the 11-call program `exProg` (`svp`, `vmp`, `vmp_apply_dft_to_dft`, round
    trip; `Lemmas/ProgErrExample*.lean`): every budget of the record is discharged (`exGuardedD`) -/
example (v : Var) (hv : v ∈ ProgErr.exVars) : ∀ i t, i < v.size → t < ProgErr.exMod.N →
    (readVar ProgErr.exMod.N (run (cstepD ProgErr.exMod.parts ProgErr.exMod.N) exProg ProgErr.exS).heap v).coef i t =
      ((run (astepD ProgErr.exMod.N) exProg ProgErr.exA).env v).coef i t :=
  prog_output_sound_f64_partial ProgErr.exMod (hsz := 8) (vars := ProgErr.exVars) exWF exProg
    ProgErr.exA ProgErr.exS exGuardedD (RD_init _ ProgErr.exEnv ProgErr.exS exR) v hv

/-! ### the flag hypotheses inside the budgets: only the UNDERFLOW half is needed

    With stored twiddles that are finite doubles of magnitude `≤ 1` (`TabOk`, both tables) and the coefficient box, the
    underflow-only flags (`aU` / `arithU`: "every exact intermediate result is 0 or `≥ 2^-1022`") imply the full flags:
    no intermediate of a round trip exceeds `2^(50+6k)`, of a product `2^(102+9k)`, of a vector-matrix product
    `2^(130+9k)` (C02Err item 4). -/

/-- round-trip budget from underflow-only flags -/
theorem rt_budget_of_underflow_flags (M : F64Mod K) (htab : TabOk M.cN M.sN) (htabi : TabOk M.cNi M.sNi) (a : Array Int)
    (hbox : Box M.k a) (hok : RtOkU M.c M.k M.cN M.sN M.cNi M.sNi a)
    (hn : ∃ na : K, 0 ≤ na ∧ n2sq K a M.N ≤ na ^ 2 ∧ ((17 * (M.k + 1 : ℚ) * u64 : ℚ) : K) * na < 1 / 2) :
    RtBudget M a := rtBudget_of_noovf M htab htabi a hbox hok hn

/-- product budget from underflow-only flags (`C02Err.no_overflow_of_box`) -/
theorem prod_budget_of_underflow_flags (M : F64Mod K) (htab : TabOk M.cN M.sN) (htabi : TabOk M.cNi M.sNi)
    (a b : Array Int) (ha : Box M.k a) (hb : Box M.k b) (hok : PipeOkU M.c M.k M.cN M.sN M.cNi M.sNi a b)
    (hn : ∃ na nb : K, 0 ≤ na ∧ 0 ≤ nb ∧ n2sq K a M.N ≤ na ^ 2 ∧ n2sq K b M.N ≤ nb ^ 2 ∧ nb ≤ n1 K b M.N ∧
      ((12 * (M.k + 1 : ℚ) * u64 : ℚ) : K) * (n1 K a M.N * nb + na * n1 K b M.N) < 1 / 2) :
    ProdBudget M a b := prodBudget_of_noovf M htab htabi a b ha hb hok hn

/-- vector-matrix budget from underflow-only flags (`C02Err.vmp_no_overflow_of_box`) -/
theorem vmp_budget_of_underflow_flags (M : F64Mod K) (htab : TabOk M.cN M.sN) (htabi : TabOk M.cNi M.sNi)
    (mat : Array Int) (nrows ncols : ℕ) (a : Array Int) (asz rsz : ℕ) (hn : 2 * min nrows asz + 2 ≤ 67108864)
    (hA : ∀ i, i < min nrows asz → Box M.k (limbOf a i M.N M.N))
    (hM : ∀ i j, i < nrows → j < ncols → Box M.k (matEntry mat ncols M.N i j))
    (hcol : ∀ j, j < min ncols rsz → (M.k < 2 → 0 < min nrows asz) → VmpColBudgetU M mat nrows ncols a asz rsz j) :
    VmpBudget M mat nrows ncols a asz rsz := vmpBudget_of_noovf M htab htabi mat nrows ncols a asz rsz hn hA hM hcol

/-- satisfiable: the product budget of the example from the underflow-only flags `exPipeOkU` -/
example : ProdBudget ProgErr.exMod #[1, 2] #[3, 4] :=
  prod_budget_of_underflow_flags ProgErr.exMod exTabOk exTabOk #[1, 2] #[3, 4] box12 box34 exPipeOkU exProdBudget.2.2.2

/-- the invariant of a `VEC_ZNX_DFT` object -/
example (M : F64Mod K) (P : Val) (sz : ℕ) (d : Array ℕ) :
    LimbExact M P sz d ↔ ∀ i, i < sz → M.parts.toZnx (M.parts.ifft (dlimb d i M.N)) = polyArr M.N (P.coef i) := Iff.rfl

/-- the budget of `vec_znx_dft(d, a)` / `svp_apply_dft(d, s_k, a)` / `vmp_apply_dft_to_dft(d, a, m)` /
    `vec_znx_idft(d, a)` on the exact state -/
example (M : F64Mod K) (d : DVar) (a : Var) (s : AState) :
    PreF M vars (.dft d a) s ↔
      (a ∈ vars ∧ ∀ i, i < a.size → i < d.size → RtBudget M (polyArr M.N fun t => (s.env a).coef i t)) := Iff.rfl
example (M : F64Mod K) (d : DVar) (k : ℕ) (a : Var) (s : AState) :
    PreF M vars (.svp d k a) s ↔
      (a ∈ vars ∧ ∃ sp, s.ppol k = some sp ∧ ∀ i, i < a.size → i < d.size →
        ProdBudget M (polyArr M.N fun t => (s.env a).coef i t) (polyArr M.N fun t => sp.getD t 0)) := Iff.rfl
example (M : F64Mod K) (d a : DVar) (m : MVar) (s : AState) :
    PreF M vars (.vmpDD d a m) s ↔ d ≠ a ∧ ∃ P Mv, s.dvec a = some P ∧ s.pmat m = some Mv ∧
      VmpBudget M (matOf M Mv m.nrows m.ncols) m.nrows m.ncols (flatOf M.N a.size fun i t => P.coef i t) a.size d.size :=
  Iff.rfl
example (M : F64Mod K) (d : Var) (a : DVar) (s : AState) :
    PreF M vars (.idft d a) s ↔ (d ∈ vars ∧ ∃ P, s.dvec a = some P ∧ True) := Iff.rfl
/-- the static tag is the field `raw` of the exact state -/
example (nn : ℕ) (ops : List OpD) (a : AState) : (run (astepD nn) ops a).raw = run tagStep ops a.raw := raw_run nn ops a
/-- `E_sum` of C02Err -/
example (k : ℕ) (mat : Array Int) (nrows ncols : ℕ) (a : Array Int) (asz asl j : ℕ) (na nb : ℕ → K) :
    Esum K k mat nrows ncols a asz asl j na nb =
      (((12 * (k + 1 : ℚ) + 2 * (min nrows asz : ℕ) + 3) * u64 : ℚ) : K) *
        ∑ i ∈ range (min nrows asz),
          (n1 K (limbOf a i asl (2 * 2 ^ k)) (2 * 2 ^ k) * nb i + na i * n1 K (matEntry mat ncols (2 * 2 ^ k) i j) (2 * 2 ^ k)) :=
  rfl

/-! ### the class `SingleProductDepth`: decidable, not empty, contains the three pipelines; a program outside -/

section
open ProgErr
/-- `svp_prepare → svp_apply_dft → idft` (the vector is transformed inside `svp_apply_dft`: dft → svp → idft) -/
example : SingleProductDepth [.svpPrepare 0 exY, .svp exD0 0 exX, .idft exZ exD0] noTag := by decide
/-- `dft → vmp_apply_dft_to_dft → idft` on a raw transform -/
example : SingleProductDepth [.vmpPrepare exM0 exY, .dft exD1 exX, .vmpDD exD2 exD1 exM0, .idft exW exD2] noTag := by
  decide
/-- `vmp_prepare → vmp_apply_dft → idft` -/
example : SingleProductDepth [.vmpPrepare exM0 exY, .vmp exD3 exX exM0, .idft exW exD3] noTag := by decide
/-- every program without `vmp_apply_dft_to_dft` -/
example (ops : List OpD) (tg : Tag) (h : ops.all notDD = true) : SingleProductDepth ops tg := spd_of_notDD ops tg h
/-- OUTSIDE the class: a product of a product (`svp` output fed to `vmp_apply_dft_to_dft`), and a raw transform that is
    overwritten by a product before it is used -/
example : ¬ SingleProductDepth [.svpPrepare 0 exY, .svp exD0 0 exX, .vmpPrepare exM0 exY, .vmpDD exD2 exD0 exM0] noTag := by
  decide
example : ¬ SingleProductDepth [.dft exD1 exX, .svp exD1 0 exX, .vmpDD exD2 exD1 exM0] noTag := by decide

/-! ### a concrete program on which every hypothesis is discharged (`N = 2`, `Lemmas/ProgErrExample*.lean`)

    heap of 8 cells, `x = 1 + 2X`, `y = 3 + 4X`, module `exC` (all-reference kernels), `K = ℚ`, `ζ = i`:
      P0 := svp_prepare(y); D0 := svp_apply_dft(P0, x); z := idft(D0);
      M0 := vmp_prepare(y); D1 := dft(x); D2 := vmp_apply_dft_to_dft(D1, M0); w := idft(D2);
      D3 := vmp_apply_dft(x, M0); w := idft(D3);  w := idft(D1);  z := z + x                       -/

example : WF exMod.N 8 exVars := exWF
example : SingleProductDepth exProg exA.raw := by decide
example : Guarded (PreF exMod exVars) (astepD exMod.N) exProg exA := exGuarded
example : RE exMod 8 exVars exA exS := RE_init exMod exEnv exS exR
/-- three of the budgets that `exGuarded` discharges: round trip of `x`, product `x·y`, `1 × 1` matrix product -/
example : RtBudget exMod #[1, 2] ∧ ProdBudget exMod #[1, 2] #[3, 4] ∧ VmpBudget exMod #[3, 4] 1 1 #[1, 2] 1 1 :=
  ⟨exRtBudget, exProdBudget, exVmpBudget⟩

/-- the theorem instantiated: the integer outputs of the binary64 run are those of the exact interpreter -/
example (v : Var) (hv : v ∈ exVars) : ∀ i t, i < v.size → t < exMod.N →
    (readVar exMod.N (run (cstepD exMod.parts exMod.N) exProg exS).heap v).coef i t =
      ((run (astepD exMod.N) exProg exA).env v).coef i t :=
  (prog_output_f64_partial exMod (hsz := 8) (vars := exVars) exWF exProg exA exS
    (by decide) exGuarded (RE_init exMod exEnv exS exR) v hv).2.2

/-- both sides evaluated: the binary64 run (bit-exact model of the library) … -/
example : (run (cstepD (Cfg.parts exC) 2) exProg exS).heap.mem = #[1, 2, 3, 4, -4, 12, 1, 2] := by decide +kernel
/-- … after 9 calls `w` holds the product computed through `vmp_apply_dft` (and before, through
    `vmp_apply_dft_to_dft` of the raw transform): `(1 + 2X)(3 + 4X) = −5 + 10X mod X² + 1` … -/
example : (run (cstepD (Cfg.parts exC) 2) (exProg.take 7) exS).heap.mem = #[1, 2, 3, 4, -5, 10, -5, 10] ∧
    (run (cstepD (Cfg.parts exC) 2) (exProg.take 9) exS).heap.mem = #[1, 2, 3, 4, -5, 10, -5, 10] := by
  constructor <;> decide +kernel
/-- … and the exact interpreter: `z = x·y + x`, `w = x` (the round trip) -/
example : ((run (astepD 2) exProg exA).env exZ, (run (astepD 2) exProg exA).env exW) = (#[#[-4, 12]], #[#[1, 2]]) := by
  decide +kernel
/-- the binary64 DFT objects of the raw-transform route and of the direct route are the same bits -/
example : (run (cstepD (Cfg.parts exC) 2) exProg exS).dvec exD2 = (run (cstepD (Cfg.parts exC) 2) exProg exS).dvec exD3 := by
  decide +kernel
end

end Spq.C16Err
