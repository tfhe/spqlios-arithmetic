/-
  C16 — the BINARY64 side at program level WITHOUT the dataflow restriction `SingleProductDepth` of `C16Err.lean`:
  programs in which `vmp_apply_dft_to_dft` reads the output of `svp_apply_dft`, `vmp_apply_dft` or another
  `vmp_apply_dft_to_dft` (a product fed into a product, e.g. dft → svp → vmpDD → idft = `Σ_i (a_i·s)·M_ij`).

  Property C16 (fixed text; FULL statement, NOT completely proved — see the `_partial` theorems):
    "Any sequence of library operations - coefficient-space add/sub/negate/copy/rotate/automorphism/normalize, DFT,
     scalar and matrix products in DFT space, inverse DFT, big-coefficient arithmetic and final normalization - applied
     to integer polynomial vectors produces exactly the limbs obtained by evaluating the same expression with exact
     integer polynomial arithmetic, as long as every intermediate stays inside the precision budget of its
     representation (C01 for FFT64, 2^119 for NTT120 big coefficients).  Opaque DFT/prepared objects produced by one
     function are therefore valid inputs to every function that accepts them."

  1. INVARIANT.  `C16Err` represents a `VEC_ZNX_DFT` object observationally (`LimbExact`: its inverse transform rounds to
     the exact limb) — too weak to go through a second product.  Here the invariant is METRIC (`ProgErr2.MetricRep`):
     `d` represents the integer vector `P` with budgets `δ` iff every cell is a finite double and, limb by limb,
         Σ_j |val(d_i)_j − DFT(P_i)_j|² ≤ δ_i²·m,     DFT(x)_j = V ζ (pkC x m) k 0 j,   m = 2^k = N/2
     (`δ_i` = root-mean-square error per complex point, in coefficient units; no square root needed).
  2. PRODUCERS (the DFT-space bounds that C01Err / C02Err prove internally, re-exposed BEFORE the inverse transform;
     none of them needs a flag of an inverse transform):
       `dft_metric_f64_partial`   : `vec_znx_dft`,   `δ_i = ε·na_i`,  `ε = (1+8u)^k − 1`, `na_i ≥ ‖a_i‖₂`;
       `svp_metric_f64_partial`   : `svp_apply_dft`, `δ_i = fB ε μ (ε·m)·(‖a_i‖₁·nb + na_i·‖s‖₁)`  (`fB ≈ 3/2·μ + ε`, `μ ≈ 3u`);
       `vmpDD_metric_f64_partial` : `vmp_apply_dft_to_dft` on an operand that satisfies `MetricRep` with budgets `δ_i`:
            δ'_j = Σ_{i<n} rowF μ_n δ_i (ε·nb_i) na_i nb_i ‖P_i‖₁ ‖M_ij‖₁ m,      n = min nrows asz,  μ_n = 3/2·γ(n),
            rowF μ da db na nb la lb t = μ·((la·nb + na·lb)/2 + D) + D,   D = da·(lb + db·t) + la·db
         (2-norm of one factor times sup-norm `‖·‖₁ ≥ |DFT(·)_j|` of the other; `vmpDD_budget_explicit_partial`:
          `δ'_j ≤ Σ_i [(1+μ̄)(1+ε̄m)·δ_i·‖M_ij‖₁ + (1+μ̄)·ε̄·‖P_i‖₁·nb_i + μ̄·S_i/2]`, `ε̄ = 8·log2(N)·u`, `μ̄ = 3/2·(2n+3)·u`);
       `vmp_metric_f64_partial`   : `vmp_apply_dft` = `vmp_apply_dft_to_dft ∘ vec_znx_dft` (budgets `ε·na_i` in).
  3. CONSUMER `idft_of_metric_f64_partial`: `MetricRep d P δ`, the flags of the inverse transform of the CONCRETE limb,
     `S2 ≥ ‖P_i‖₂`, `ε·(S2 + δ_i) + δ_i < 1/2` (and the domain of the final conversion, implied by `S2 + 1/2 ≤ 2^50`)
     ⇒ `toZnx (ifft (limb_i d)) = P_i` EXACTLY.  For a raw transform the budget is `(2ε+ε²)·na ≤ 17·log2(N)·u·na`
     (`metric_budget_roundtrip_consistent`), for a single product it is C01Err's `E' ≤ 12·log2(N)·u·S`
     (`metric_budget_product_consistent`): the chain budgets specialise to the ones of `C16Err`.
  4. PROGRAMS.  `prog_refines_f64_metric_partial` / `prog_output_f64_metric_partial`: every program of `Prog.OpD`, NO
     dataflow restriction.  The budget is `ProgErr2.GuardedM`: along the joint run of the exact interpreter, the ghost
     budget map `β : DVar → ℕ → K` (`ProgErr2.bstep`: a call writing the DFT variable `d` installs the budgets `δn` of its
     result) and the binary64 interpreter, every call satisfies `ProgErr2.PreM` for SOME choice of `δn` — the budget is
     defined recursively over the program and propagates `δ` through chains of products of any length.
     The NUMERIC part of `PreM` (boxes, norms, `δ`) is on the exact state.  The FLAGS of the accumulation of
     `vmp_apply_dft_to_dft` (`ProgErr2.vmpFlagD`, as in `C02Err.dot_cols_err`) and of the inverse transform in
     `vec_znx_idft` are about the CONCRETE binary64 operand `s.dvec x`: for a product of products the operand is no
     longer "the computed transform of one integer limb", so its flags cannot be stated on the exact state alone.
  "partial": constants 12 / 17 instead of 8 / 16 (inherited from C06Err), flags and twiddle accuracy are hypotheses.
  WHAT IS MISSING: (a) the no-overflow half of the two flag hypotheses on concrete operands is NOT discharged from the
  magnitude box here (`C16Err` does it for its class via `C02Err.vmp_no_overflow_of_box`; for an operand inside
  `MetricRep` one has `|d_j| ≤ ‖P_i‖₁ + δ_i·√m`, so the same argument would go through with that bound in place of
  `8^k·2^50`); (b) NTT120 programs are not modelled; (c) no theorem here derives `GuardedM` from `C16Err`'s
  `Guarded PreF ∧ SingleProductDepth` as a whole: limb by limb `RtBudget` (dft → idft) and `ProdBudget` (svp → idft) of
  `C16Err` DO imply the producer + consumer budgets used here (`metric_covers_roundtrip_f64_partial`,
  `metric_covers_product_f64_partial`); for `VmpBudget` the witnesses `na_i` are chosen per column there and per call here.
-/
import SpqProofs.Lemmas.ProgErr2Step
import SpqProofs.Lemmas.ProgErr2Bnd
import SpqProofs.Lemmas.ProgErr2Example2
namespace Spq.C16Err2
open Finset Spq Spq.Module Spq.Prog Spq.Closed Spq.ProgErr Spq.ProgErr2 Spq.ProdErr Spq.VmpErr Spq.FftErr Spq.F64
  Spq.Fft.Alg Spq.Conv

variable {K : Type} [Field K] [LinearOrder K] [IsStrictOrderedRing K] {hsz : ℕ} {vars : List Var}

/-- **`dft_metric_f64_partial`** (`C16Err.raw_dft_metric_f64_partial` for the whole object): binary64 `vec_znx_dft` of
    an integer vector (`asz` limbs `f`, stride `asl`, `rsz` result limbs) satisfies `MetricRep` with any budgets
    `δ_i ≥ ε·na_i` (`DftLimbBudget`: box, forward flags, `na_i ≥ ‖a_i‖₂`); the padding limbs `i ≥ asz` are `+0`. -/
theorem dft_metric_f64_partial (M : F64Mod K) (x : Array Int) (asz asl rsz : ℕ) (f : ℕ → ℕ → ℤ)
    (hag : Agree M.N x asz asl f) (δ : ℕ → K) (hδ0 : ∀ i, i < rsz → 0 ≤ δ i)
    (hb : ∀ i, i < asz → i < rsz → DftLimbBudget M (polyArr M.N (f i)) (δ i)) :
    MetricRep M (Val.mk M.N rsz (zext asz f)) rsz (vecDft M.parts rsz x asz asl) δ :=
  dft_metric M x asz asl rsz f hag δ hδ0 hb

/-- **`svp_metric_f64_partial`**: binary64 `svp_apply_dft (svp_prepare s) a` satisfies `MetricRep` for the exact
    products `a_i ⊛ s` with any budgets `δ_i ≥ fB ε μ (ε·m)·(‖a_i‖₁·nb + na_i·‖s‖₁)` (`SvpLimbBudget`: boxes, flags of the
    two forward transforms and of the pointwise product — NOT of an inverse transform). -/
theorem svp_metric_f64_partial (M : F64Mod K) (x : Array Int) (asz asl rsz : ℕ) (f : ℕ → ℕ → ℤ)
    (hag : Agree M.N x asz asl f) (sp : Array Int) (δ : ℕ → K) (hδ0 : ∀ i, i < rsz → 0 ≤ δ i)
    (hb : ∀ i, i < asz → i < rsz → SvpLimbBudget M (polyArr M.N (f i)) sp (δ i)) :
    MetricRep M (Val.mk M.N rsz fun i c => polyMul M.N (zext asz f i) (fun t => sp.getD t 0) c) rsz
      (svpApply M.parts rsz (svpPrepare M.parts sp) x asz asl) δ :=
  svp_metric M x asz asl rsz f hag sp δ hδ0 hb

/-- **`vmpDD_metric_f64_partial`**: binary64 `vmp_apply_dft_to_dft` on an operand `d` satisfying `MetricRep` with
    budgets `δ`, against the prepared matrix of the integer matrix `Mv`: the result satisfies `MetricRep` for the exact
    vector-matrix product `(Σ_{i < min nrows asz} P_i ⊛ M_ij)_j` with the budgets `δ'` of `VmpDDBudget`
    (`δ'_j ≥ colDelta`; matrix entries in the box with forward flags; flags of the accumulation on `d`).
    Columns `j ≥ min ncols rsz` are `+0` cells and represent 0. -/
theorem vmpDD_metric_f64_partial (M : F64Mod K) (P : Val) (asz rsz : ℕ) (d : Array ℕ) (δ : ℕ → K) (Mv : Val)
    (nrows ncols : ℕ) (hrep : MetricRep M P asz d δ) (δ' : ℕ → K) (hδ0 : ∀ j, j < rsz → 0 ≤ δ' j)
    (hb : VmpDDBudget M (matOf M Mv nrows ncols) nrows ncols (fun i => polyArr M.N (P.coef i)) d asz rsz δ δ') :
    MetricRep M (Val.mk M.N rsz (Prog.vmpVal M.N asz (zext asz fun i t => P.coef i t) Mv nrows ncols)) rsz
      (vmpApplyDftToDft M.parts rsz d asz (vmpPrepare M.parts (matOf M Mv nrows ncols) nrows ncols) nrows ncols) δ' :=
  vmpDD_metric M P asz rsz d δ Mv nrows ncols hrep δ' hδ0 hb

/-- **`vmpDD_budget_explicit_partial`** (`k ≤ 16`, `n ≤ 2^25 − 1` rows, `nb_i ≤ ‖M_ij‖₁`): the propagated budget of one
    column in closed form — incoming error × sup-norm of the entry, forward error of the entry × sup-norm of the operand,
    accumulation term; `ε̄ = 8·log2(N)·2^-53`, `μ̄ = 3/2·(2n+3)·2^-53`. -/
theorem vmpDD_budget_explicit_partial (M : F64Mod K) (mat : Array Int) (ncols n : ℕ) (P : ℕ → Array Int) (j : ℕ)
    (δ na nb : ℕ → K) (hn : 2 * n + 2 ≤ 67108864) (hδ : ∀ i, i < n → 0 ≤ δ i) (hna : ∀ i, i < n → 0 ≤ na i)
    (hnb : ∀ i, i < n → 0 ≤ nb i) (hnl : ∀ i, i < n → nb i ≤ n1 K (matEntry mat ncols M.N i j) M.N) :
    colDelta M mat ncols n P j δ na nb ≤
      ∑ i ∈ range n,
        ((1 + ((3 / 2 * ((2 * (n : ℚ) + 3) * u64) : ℚ) : K)) * (1 + ((8 * (M.k + 1 : ℚ) * u64 : ℚ) : K) * 2 ^ M.k) * δ i *
            n1 K (matEntry mat ncols M.N i j) M.N +
          (1 + ((3 / 2 * ((2 * (n : ℚ) + 3) * u64) : ℚ) : K)) * ((8 * (M.k + 1 : ℚ) * u64 : ℚ) : K) * n1 K (P i) M.N * nb i +
          ((3 / 2 * ((2 * (n : ℚ) + 3) * u64) : ℚ) : K) *
            ((n1 K (P i) M.N * nb i + na i * n1 K (matEntry mat ncols M.N i j) M.N) / 2)) :=
  colDelta_le16 M mat ncols n P j δ na nb hn hδ hna hnb hnl

/-- **`vmp_metric_f64_partial`**: binary64 `vmp_apply_dft` of an integer vector (= `vmp_apply_dft_to_dft` of its
    `vec_znx_dft`) satisfies `MetricRep` with the budgets of `VmpBudgetM` -/
theorem vmp_metric_f64_partial (M : F64Mod K) (asz rsz : ℕ) (f : ℕ → ℕ → ℤ) (Mv : Val) (nrows ncols : ℕ) (δ' : ℕ → K)
    (hδ0 : ∀ j, j < rsz → 0 ≤ δ' j)
    (hb : VmpBudgetM M (matOf M Mv nrows ncols) nrows ncols (flatOf M.N asz f) asz rsz δ') :
    MetricRep M (Val.mk M.N rsz (Prog.vmpVal M.N asz (zext asz f) Mv nrows ncols)) rsz
      (vmpApplyDft M.parts rsz (flatOf M.N asz f) asz M.N (vmpPrepare M.parts (matOf M Mv nrows ncols) nrows ncols)
        nrows ncols) δ' :=
  vmp_metric M asz rsz f Mv nrows ncols δ' hδ0 hb

/-- **`idft_of_metric_f64_partial`**: if `MetricRep d P δ`, the flags of the inverse transform of the concrete limb `i`
    hold and `ε·(S2 + δ_i) + δ_i < 1/2` for some `S2 ≥ ‖P_i‖₂` (`IdftLimbBudget`), then
    `toZnx (ifft (limb_i d)) = P_i` exactly (generalises the last step of `C01Err.small_product_exact_f64_partial`). -/
theorem idft_of_metric_f64_partial (M : F64Mod K) (P : Val) (sz : ℕ) (d : Array ℕ) (δ : ℕ → K)
    (hrep : MetricRep M P sz d δ) (i : ℕ) (hi : i < sz)
    (hb : IdftLimbBudget M (dlimb d i M.N) (polyArr M.N (P.coef i)) (δ i)) :
    M.parts.toZnx (M.parts.ifft (dlimb d i M.N)) = polyArr M.N (P.coef i) :=
  idft_of_metric M P sz d δ hrep i hi hb

/-- the observational invariant of `C16Err` follows from the metric one + the consumer budget of every limb -/
theorem limbExact_of_metric_f64_partial (M : F64Mod K) (P : Val) (sz : ℕ) (d : Array ℕ) (δ : ℕ → K)
    (hrep : MetricRep M P sz d δ)
    (hb : ∀ i, i < sz → IdftLimbBudget M (dlimb d i M.N) (polyArr M.N (P.coef i)) (δ i)) : LimbExact M P sz d :=
  fun i hi => idft_of_metric M P sz d δ hrep i hi (hb i hi)

/-- the domain condition inside `IdftLimbBudget` follows from `S2 + 1/2 ≤ 2^50` -/
theorem idft_domain_of_box (M : F64Mod K) (x : Array Int) (δ S2 : K) (hS0 : 0 ≤ S2) (hS : n2sq K x M.N ≤ S2 ^ 2)
    (hbox : S2 + 1 / 2 ≤ 1125899906842624) (hE : invBudget M S2 δ < 1 / 2) :
    ∀ t, t < M.N → |((x.getD t 0 : Int) : K)| + invBudget M S2 δ < ((Bv M.c.toVariant : ℚ) : K) :=
  dom_of_box M x δ S2 hS0 hS hbox hE

/-- dft → idft: the chain budget is the round-trip budget `17·log2(N)·2^-53·na` of `C16Err` -/
theorem metric_budget_roundtrip_consistent (M : F64Mod K) (na : K) (hna : 0 ≤ na) :
    invBudget M na (eps K M.k * na) ≤ ((17 * (M.k + 1 : ℚ) * u64 : ℚ) : K) * na :=
  invBudget_raw_le16 M na hna

/-- svp → idft: the chain budget is `E' = 12·log2(N)·2^-53·(‖a‖₁·nb + na·‖b‖₁)` of `C01Err` -/
theorem metric_budget_product_consistent (M : F64Mod K) (a b : Array Int) (na nb : K) (hna : 0 ≤ na) (hnb : 0 ≤ nb) :
    invBudget M ((n1 K a M.N * nb + na * n1 K b M.N) / 2) (svpDelta M a b na nb) ≤
      ((12 * (M.k + 1 : ℚ) * u64 : ℚ) : K) * (n1 K a M.N * nb + na * n1 K b M.N) :=
  invBudget_svp_le16 M a b na nb hna hnb

/-- **dft → idft is covered with the hypotheses of `C16Err`**: the round-trip budget `RtBudget` of a limb gives the
    producer budget of `vec_znx_dft` and the consumer budget of `vec_znx_idft` on the computed transform -/
theorem metric_covers_roundtrip_f64_partial (M : F64Mod K) (a : Array Int) (hb : RtBudget M a) :
    ∃ δ : K, DftLimbBudget M a δ ∧ IdftLimbBudget M (M.parts.fft (M.parts.fromZnx a)) a δ :=
  metric_of_rtBudget M a hb

/-- **svp → idft is covered with the hypotheses of `C16Err`**: the product budget `ProdBudget` (= the hypotheses of
    `C01Err.small_product_exact_f64_partial`) gives the producer budget of `svp_apply_dft` and the consumer budget of
    `vec_znx_idft` on the computed product `stM a b` -/
theorem metric_covers_product_f64_partial (M : F64Mod K) (a b : Array Int) (hb : ProdBudget M a b) :
    ∃ δ : K, SvpLimbBudget M a b δ ∧ IdftLimbBudget M (stM M.c M.k M.cN M.sN a b) (nmul M.N a b) δ :=
  metric_of_prodBudget M a b hb

/-- **one call**: under its budget `PreM` (with `δn` the budgets claimed for its `VEC_ZNX_DFT` result) the binary64 step
    simulates the exact step and re-establishes the metric invariant with the budget map `bstep o β δn` -/
theorem step_refines_f64_metric_partial (M : F64Mod K) (wf : WF M.N hsz vars) (o : OpD) (a : AState) (β : Bud K)
    (s : CState ℕ) (δn : ℕ → K) (hpre : PreM M vars o a β s δn) (hR : RM M hsz vars a β s) :
    RM M hsz vars (astepD M.N o a) (bstep o β δn) (cstepD M.parts M.N o s) :=
  stepG_refines (metricSound M) wf o a β s δn (preG_of_preM M o a β s δn hpre) hR

/-- **`prog_refines_f64_metric_partial`** (NO `SingleProductDepth` hypothesis).
    FULL statement aimed at: property C16 for FFT64 programs with the constants 8 / 16 of the property text and without
    flag / twiddle hypotheses.
    PROVED: for every binary64 module `M : F64Mod K`, every well-formed layout, EVERY program of `Prog.OpD` — products of
    products of any depth included —, if along the joint run every call satisfies its budget (`GuardedM`: the error
    budgets `δ` are propagated through the chains of products), then the state of the binary64 run represents (`RM`,
    with some final budget map) the state of the exact run: the heap holds exactly the integer limbs of every declared
    variable, every `VEC_ZNX_DFT` object is within its budget of the exact transform of its abstract limbs, prepared
    objects are bit for bit the prepared exact operands. -/
theorem prog_refines_f64_metric_partial (M : F64Mod K) (wf : WF M.N hsz vars) (ops : List OpD) (a : AState) (β : Bud K)
    (s : CState ℕ) (hb : GuardedM M vars ops a β s) (hR : RM M hsz vars a β s) :
    ∃ β', RM M hsz vars (run (astepD M.N) ops a) β' (run (cstepD M.parts M.N) ops s) := by
  induction ops generalizing a β s with
  | nil => exact ⟨β, hR⟩
  | cons o ops ih =>
    obtain ⟨δn, hpre, hrest⟩ := hb
    rw [run_cons, run_cons]
    exact ih _ _ _ hrest (step_refines_f64_metric_partial M wf o a β s δn hpre hR)

/-- **`prog_output_f64_metric_partial`**: read-back form — every coefficient of every declared integer variable after
    the binary64 run is the coefficient computed by the exact interpreter; the heap kept its size, no access was out of
    bounds. -/
theorem prog_output_f64_metric_partial (M : F64Mod K) (wf : WF M.N hsz vars) (ops : List OpD) (a : AState) (β : Bud K)
    (s : CState ℕ) (hb : GuardedM M vars ops a β s) (hR : RM M hsz vars a β s) (v : Var) (hv : v ∈ vars) :
    (run (cstepD M.parts M.N) ops s).heap.ok = true ∧ (run (cstepD M.parts M.N) ops s).heap.mem.size = hsz ∧
    ∀ i t, i < v.size → t < M.N →
      (readVar M.N (run (cstepD M.parts M.N) ops s).heap v).coef i t = ((run (astepD M.N) ops a).env v).coef i t := by
  obtain ⟨β', r, _⟩ := prog_refines_f64_metric_partial M wf ops a β s hb hR
  exact ⟨r.2.1, r.1, readVar_of_R r v hv⟩

/-- the initial state (no opaque object written yet) is in the relation, for any budget map -/
theorem init_refines_f64_metric (M : F64Mod K) (env : Env) (β : Bud K) (s : CState ℕ) (hR : R M.N hsz vars env s.heap) :
    RM M hsz vars ⟨env, fun _ => none, fun _ => none, fun _ => none, fun _ => none⟩ β s := by
  refine ⟨hR, ?_, ?_, ?_⟩
  · intro v P h; exact absurd h (by simp)
  · intro k sp h; exact absurd h (by simp)
  · intro m Mv h; exact absurd h (by simp)

example (M : F64Mod K) (d : Array ℕ) (x : Array Int) (δ : K) :
    LimbMetric M d x δ ↔ (0 ≤ δ ∧ (∀ p, p < M.N → Fin64 (d.getD p 0)) ∧
      ∑ j ∈ range (2 ^ M.k), nsq (outC d M.k j - V M.ζ (pkC x (2 ^ M.k)) M.k 0 j) ≤ δ ^ 2 * 2 ^ M.k) := Iff.rfl
example (M : F64Mod K) (P : Val) (sz : ℕ) (d : Array ℕ) (δ : ℕ → K) :
    MetricRep M P sz d δ ↔ (d.size = sz * M.N ∧
      ∀ i, i < sz → LimbMetric M (dlimb d i M.N) (polyArr M.N (P.coef i)) (δ i)) := Iff.rfl
example (μ da db na nb la lb t : K) :
    rowF μ da db na nb la lb t =
      μ * ((la * nb + na * lb) / 2 + (da * (lb + db * t) + la * db)) + (da * (lb + db * t) + la * db) := rfl
example (M : F64Mod K) (mat : Array Int) (ncols n : ℕ) (P : ℕ → Array Int) (j : ℕ) (δ na nb : ℕ → K) :
    colDelta M mat ncols n P j δ na nb =
      ∑ i ∈ range n, rowF ((muD n : ℚ) : K) (δ i) (eps K M.k * nb i) (na i) (nb i) (n1 K (P i) M.N)
        (n1 K (matEntry mat ncols M.N i j) M.N) (2 ^ M.k) := rfl
example (M : F64Mod K) (S2 δ : K) : invBudget M S2 δ = eps K M.k * (S2 + δ) + δ := rfl
/-- the budget of `vmp_apply_dft_to_dft(d, x, m)` / `vec_znx_idft(d, x)` in a program -/
example (M : F64Mod K) (d x : DVar) (m : MVar) (a : AState) (β : Bud K) (s : CState ℕ) (δn : ℕ → K) :
    PreM M vars (.vmpDD d x m) a β s δn ↔ (d ≠ x ∧ (∀ i, i < d.size → 0 ≤ δn i) ∧ ∃ P Mv, a.dvec x = some P ∧ a.pmat m = some Mv ∧
      VmpDDBudget M (matOf M Mv m.nrows m.ncols) m.nrows m.ncols (fun i => polyArr M.N (P.coef i)) (s.dvec x) x.size
        d.size (β x) δn) := Iff.rfl
example (M : F64Mod K) (d : Var) (x : DVar) (a : AState) (β : Bud K) (s : CState ℕ) (δn : ℕ → K) :
    PreM M vars (.idft d x) a β s δn ↔ (d ∈ vars ∧ ∃ P, a.dvec x = some P ∧
      ∀ i, i < x.size → i < d.size → IdftLimbBudget M (dlimb (s.dvec x) i M.N) (polyArr M.N (P.coef i)) (β x i)) := Iff.rfl
example (M : F64Mod K) (o : OpD) (ops : List OpD) (a : AState) (β : Bud K) (s : CState ℕ) :
    GuardedM M vars (o :: ops) a β s ↔ ∃ δn : ℕ → K, PreM M vars o a β s δn ∧
      GuardedM M vars ops (astepD M.N o a) (bstep o β δn) (cstepD M.parts M.N o s) := Iff.rfl
/-- the accumulation flag on a concrete operand generalises `VmpErr.vmpFlag` of C02Err -/
example (c : Cfg) (mat : Array Int) (nrows ncols : ℕ) (a : Array Int) (asz asl rsz p : ℕ) :
    vmpFlag c mat nrows ncols a asz asl rsz p =
      vmpFlagD c mat nrows ncols (vecDft (Cfg.parts c) (min nrows asz) a asz asl) asz rsz p := rfl

/-! ### a concrete program OUTSIDE `SingleProductDepth` on which every hypothesis is discharged
    (`N = 2`, `K = ℚ`, module `exC`, `Lemmas/ProgErr2Example*.lean`): heap of 8 cells, `x = 1 + 2X`, `y = 3 + 4X`,
      P0 := svp_prepare(y);  M0 := vmp_prepare(y);  D0 := svp_apply_dft(P0, x);  D2 := vmp_apply_dft_to_dft(D0, M0);
      w := idft(D2)                          -- dft → svp → vmpDD → idft:  w = (x·y)·y = −55 + 10X mod X² + 1 -/

section
open ProgErr
example : ¬ SingleProductDepth exProg2 noTag := by decide
example : WF exMod.N 8 exVars := exWF
example : GuardedM exMod exVars exProg2 ProgErr.exA exB0 exS := exGuardedM
/-- three of the budgets that `exGuardedM` discharges: the first product in DFT space (`δ = 2^-40`), the second product
    on the concrete operand `(−5.0, 10.0)` (`δ' = 2^-30`), the consumer (`0·(56 + δ') + δ' < 1/2`) -/
example : SvpLimbBudget exMod #[1, 2] #[3, 4] (1 / 2 ^ 40) ∧
    VmpDDBudget exMod #[3, 4] 1 1 (fun _ => #[-5, 10]) exAd 1 1 exDl0 exDl1 ∧
    IdftLimbBudget exMod exAd2 #[-55, 10] (1 / 2 ^ 30) := ⟨exSvpLimb, exVmpDD, exIdftLimb⟩

/-- the theorem instantiated: the integer outputs of the binary64 run are those of the exact interpreter -/
example (v : Var) (hv : v ∈ exVars) : ∀ i t, i < v.size → t < exMod.N →
    (readVar exMod.N (run (cstepD exMod.parts exMod.N) exProg2 exS).heap v).coef i t =
      ((run (astepD exMod.N) exProg2 ProgErr.exA).env v).coef i t :=
  (prog_output_f64_metric_partial exMod (hsz := 8) (vars := exVars) exWF exProg2 ProgErr.exA exB0
    exS exGuardedM (init_refines_f64_metric exMod exEnv exB0 exS exR) v hv).2.2

/-- both sides evaluated: the binary64 run (bit-exact model of the library) … -/
example : (run (cstepD (Cfg.parts exC) 2) exProg2 exS).heap.mem = #[1, 2, 3, 4, 0, 0, -55, 10] := by decide +kernel
/-- … and the exact interpreter: `w = (1 + 2X)(3 + 4X)² = −55 + 10X mod X² + 1` -/
example : (run (astepD 2) exProg2 ProgErr.exA).env exW = #[#[-55, 10]] := by decide +kernel
/-- the intermediate DFT-space objects of the binary64 run: `D0 = (−5.0, 10.0)`, `D2 = (−55.0, 10.0)` -/
example : (run (cstepD (Cfg.parts exC) 2) exProg2 exS).dvec exD0 = exAd ∧
    (run (cstepD (Cfg.parts exC) 2) exProg2 exS).dvec exD2 = exAd2 := by constructor <;> decide +kernel
end

end Spq.C16Err2
