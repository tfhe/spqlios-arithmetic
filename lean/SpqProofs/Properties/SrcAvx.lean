/-
  C07 / translator tie, AVX twins: the terms GENERATED by tools/c2lean.py from the C source of the integer AVX
  kernels of `spqlios/coeffs/coeffs_arithmetic_avx.c` (`lean/Gen/CSrc.lean`; the intrinsics
  `_mm256_loadu_si256 / _mm256_storeu_si256 / _mm256_add_epi64 / _mm256_sub_epi64 / _mm256_set1_epi64x` and their
  128-bit forms are IR primitives on 4 resp. 2 lanes of 64 bits), run by the CIR interpreter, compute the model
  (`Coeffs.add/sub/negate i64Ops`) and therefore the same memory as the generated term of the reference kernel,
  for EVERY `nn` the kernel accepts: `nn = 1` (scalar path), `nn = 2` (one `__m128i`), `nn` a positive multiple of
  4 (do-while over `__m256i`).  For the other `nn` (0, 3, 5, 6, 7, 9, …) the C code writes past `res + nn`
  (the do-while always writes 4 cells per turn): those are outside the contract of the kernel and of the theorems.
  Buffers of exactly `nn` cells, ANY aliasing between `res`, `a`, `b` (buffer indices may coincide).
-/
import Gen.CSrc
import Spq.Coeffs
import SpqProofs.Lemmas.SrcAvxKern
import SpqProofs.Properties.SrcElem
namespace Spq.Src
open Spq Spq.CIR

theorem src_znx_add_i64_avx_eq_model (nn : Nat) (hnn : nn < 18446744073709551616) (hacc : nn = 1 ∨ nn = 2 ∨ (4 ≤ nn ∧ nn % 4 = 0))
    (mem : Mem) (r a b : Nat)
    (hr : (buf mem r).size = nn) (ha : (buf mem a).size = nn) (hb : (buf mem b).size = nn) :
    ∀ fuel, nn ≤ fuel →
      run fuel Gen.CSrc.znx_add_i64_avx [(nn : Int)] [some (r, 0), some (a, 0), some (b, 0)] mem
        = .ok (mem.setIfInBounds r (Coeffs.add i64Ops nn (buf mem a) (buf mem b))) := by
  intro fuel hf
  have h := znx_add_i64_avx_windows nn hacc mem r 0 a 0 (by omega) (by omega) (fun _ => .inl rfl) b 0 (by omega)
    (fun _ => .inl rfl) fuel hf
  rwa [win_whole _ _ ha, win_whole _ _ hb, wset_whole _ _ _ (by rw [hr]; exact Array.size_ofFn)] at h

theorem src_znx_sub_i64_avx_eq_model (nn : Nat) (hnn : nn < 18446744073709551616) (hacc : nn = 1 ∨ nn = 2 ∨ (4 ≤ nn ∧ nn % 4 = 0))
    (mem : Mem) (r a b : Nat)
    (hr : (buf mem r).size = nn) (ha : (buf mem a).size = nn) (hb : (buf mem b).size = nn) :
    ∀ fuel, nn ≤ fuel →
      run fuel Gen.CSrc.znx_sub_i64_avx [(nn : Int)] [some (r, 0), some (a, 0), some (b, 0)] mem
        = .ok (mem.setIfInBounds r (Coeffs.sub i64Ops nn (buf mem a) (buf mem b))) := by
  intro fuel hf
  have h := znx_sub_i64_avx_windows nn hacc mem r 0 a 0 (by omega) (by omega) (fun _ => .inl rfl) b 0 (by omega)
    (fun _ => .inl rfl) fuel hf
  rwa [win_whole _ _ ha, win_whole _ _ hb, wset_whole _ _ _ (by rw [hr]; exact Array.size_ofFn)] at h

theorem src_znx_negate_i64_avx_eq_model (nn : Nat) (hnn : nn < 18446744073709551616) (hacc : nn = 1 ∨ nn = 2 ∨ (4 ≤ nn ∧ nn % 4 = 0))
    (mem : Mem) (r a : Nat) (hr : (buf mem r).size = nn) (ha : (buf mem a).size = nn) :
    ∀ fuel, nn ≤ fuel →
      run fuel Gen.CSrc.znx_negate_i64_avx [(nn : Int)] [some (r, 0), some (a, 0)] mem
        = .ok (mem.setIfInBounds r (Coeffs.negate i64Ops nn (buf mem a))) := by
  intro fuel hf
  have h := znx_negate_i64_avx_windows nn hacc mem r 0 a 0 (by omega) (by omega) (fun _ => .inl rfl) fuel hf
  rwa [win_whole _ _ ha, wset_whole _ _ _ (by rw [hr]; exact Array.size_ofFn)] at h

/-! ### generated AVX term = generated reference term (same arguments, same memory, any aliasing) -/

theorem src_znx_add_i64_avx_eq_ref (nn : Nat) (hnn : nn < 18446744073709551616) (hacc : nn = 1 ∨ nn = 2 ∨ (4 ≤ nn ∧ nn % 4 = 0))
    (mem : Mem) (r a b : Nat)
    (hr : (buf mem r).size = nn) (ha : (buf mem a).size = nn) (hb : (buf mem b).size = nn) :
    ∀ fuel, nn ≤ fuel →
      run fuel Gen.CSrc.znx_add_i64_avx [(nn : Int)] [some (r, 0), some (a, 0), some (b, 0)] mem
        = run fuel Gen.CSrc.znx_add_i64_ref [(nn : Int)] [some (r, 0), some (a, 0), some (b, 0)] mem := by
  intro fuel hf
  rw [src_znx_add_i64_avx_eq_model nn hnn hacc mem r a b hr ha hb fuel hf,
    src_znx_add_i64_ref_eq_model nn hnn mem r a b hr ha hb fuel hf]

theorem src_znx_sub_i64_avx_eq_ref (nn : Nat) (hnn : nn < 18446744073709551616) (hacc : nn = 1 ∨ nn = 2 ∨ (4 ≤ nn ∧ nn % 4 = 0))
    (mem : Mem) (r a b : Nat)
    (hr : (buf mem r).size = nn) (ha : (buf mem a).size = nn) (hb : (buf mem b).size = nn) :
    ∀ fuel, nn ≤ fuel →
      run fuel Gen.CSrc.znx_sub_i64_avx [(nn : Int)] [some (r, 0), some (a, 0), some (b, 0)] mem
        = run fuel Gen.CSrc.znx_sub_i64_ref [(nn : Int)] [some (r, 0), some (a, 0), some (b, 0)] mem := by
  intro fuel hf
  rw [src_znx_sub_i64_avx_eq_model nn hnn hacc mem r a b hr ha hb fuel hf,
    src_znx_sub_i64_ref_eq_model nn hnn mem r a b hr ha hb fuel hf]

theorem src_znx_negate_i64_avx_eq_ref (nn : Nat) (hnn : nn < 18446744073709551616) (hacc : nn = 1 ∨ nn = 2 ∨ (4 ≤ nn ∧ nn % 4 = 0))
    (mem : Mem) (r a : Nat) (hr : (buf mem r).size = nn) (ha : (buf mem a).size = nn) :
    ∀ fuel, nn ≤ fuel →
      run fuel Gen.CSrc.znx_negate_i64_avx [(nn : Int)] [some (r, 0), some (a, 0)] mem
        = run fuel Gen.CSrc.znx_negate_i64_ref [(nn : Int)] [some (r, 0), some (a, 0)] mem := by
  intro fuel hf
  rw [src_znx_negate_i64_avx_eq_model nn hnn hacc mem r a hr ha fuel hf,
    src_znx_negate_i64_ref_eq_model nn hnn mem r a hr ha fuel hf]

/-! ### no out-of-bounds access, for every fuel -/

theorem src_znx_add_i64_avx_no_oob (nn : Nat) (hnn : nn < 18446744073709551616) (hacc : nn = 1 ∨ nn = 2 ∨ (4 ≤ nn ∧ nn % 4 = 0))
    (mem : Mem) (r a b : Nat)
    (hr : (buf mem r).size = nn) (ha : (buf mem a).size = nn) (hb : (buf mem b).size = nn) :
    ∀ fuel e, e ≠ .fuel →
      run fuel Gen.CSrc.znx_add_i64_avx [(nn : Int)] [some (r, 0), some (a, 0), some (b, 0)] mem ≠ .err e :=
  run_no_other_error _ _ _ _ _ nn (src_znx_add_i64_avx_eq_model nn hnn hacc mem r a b hr ha hb)

theorem src_znx_sub_i64_avx_no_oob (nn : Nat) (hnn : nn < 18446744073709551616) (hacc : nn = 1 ∨ nn = 2 ∨ (4 ≤ nn ∧ nn % 4 = 0))
    (mem : Mem) (r a b : Nat)
    (hr : (buf mem r).size = nn) (ha : (buf mem a).size = nn) (hb : (buf mem b).size = nn) :
    ∀ fuel e, e ≠ .fuel →
      run fuel Gen.CSrc.znx_sub_i64_avx [(nn : Int)] [some (r, 0), some (a, 0), some (b, 0)] mem ≠ .err e :=
  run_no_other_error _ _ _ _ _ nn (src_znx_sub_i64_avx_eq_model nn hnn hacc mem r a b hr ha hb)

theorem src_znx_negate_i64_avx_no_oob (nn : Nat) (hnn : nn < 18446744073709551616) (hacc : nn = 1 ∨ nn = 2 ∨ (4 ≤ nn ∧ nn % 4 = 0))
    (mem : Mem) (r a : Nat) (hr : (buf mem r).size = nn) (ha : (buf mem a).size = nn) :
    ∀ fuel e, e ≠ .fuel →
      run fuel Gen.CSrc.znx_negate_i64_avx [(nn : Int)] [some (r, 0), some (a, 0)] mem ≠ .err e :=
  run_no_other_error _ _ _ _ _ nn (src_znx_negate_i64_avx_eq_model nn hnn hacc mem r a hr ha)

/-- the theorems are not vacuous, and the contract on `nn` is needed: on 3 cells the generated AVX term runs
    out of bounds (the C code would write `res[3]`), on 4 cells it computes the sum -/
example : run 10 Gen.CSrc.znx_add_i64_avx [3] [some (0, 0), some (1, 0), some (2, 0)]
    #[#[0, 0, 0], #[1, 2, 3], #[10, 20, 30]] = .err .oob := by decide
example : run 10 Gen.CSrc.znx_add_i64_avx [4] [some (0, 0), some (1, 0), some (2, 0)]
    #[#[0, 0, 0, 0], #[1, 2, 3, 4], #[10, 20, 30, 40]]
      = .ok #[#[11, 22, 33, 44], #[1, 2, 3, 4], #[10, 20, 30, 40]] := by decide

end Spq.Src
