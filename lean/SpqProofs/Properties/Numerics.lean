/-
  Numerics: the floating-point "standard model" for the framework's bit-exact binary64 (`Spq/F64.lean`) and its
  first consequences (DESIGN.md §5, C06.4 / C01 / C17).

  Vocabulary (`SpqProofs/Lemmas/F64Std*.lean`, `FftErrNorm.lean`):
  * `val b : ℚ`         exact value of the pattern `b` (`toScaled b / 2^1074`);
  * `Fin64 b`           `b < 2^64` and the exponent field is not 2047;
  * `NoOvf q`           `|q| < 2^1024·(1 − 2^-54)` (`ovfThr`): round-to-nearest does not overflow;
  * `NormalRange q`     `q = 0 ∨ 2^-1022 ≤ |q| < 2^1024·(1 − 2^-54)`;
  * `rnd : ℚ → ℚ`       round to nearest even binary64 (defined with `pack`; exact on the multiples of 2^-2148);
  * `arQ : RArith ℚ`    `op = rnd ∘ exact op`;  `arG = arQ.guard GoodQ`: `arQ` where the exact result is a multiple of
                        2^-2148 in the normal range (`GoodQ`), the exact operation elsewhere;
  * `arithOk`           binary64 on `(pattern, flag)`: the flag of a result says that all the operations it depends on
                        had finite inputs and an exact result in `NormalRange`; `lift b = (b, Fin64 b)`; `Ok x`: the
                        flag of `x` holds (a structure around `x.2`, so that elaboration never evaluates a kernel);
  * `InBox g E0 u`      every entry of `u` is a finite double in `2^-g·ℤ` of magnitude `≤ 2^E0` (a-priori variant);
  * `Cplx K`, `nsq`     complex numbers over an ordered field and the squared modulus (the FFT section).

  Not covered: overflow/NaN/inf operands (the model does not represent them).  `fft_err` is stated here for the level
  network `V`/`VH` over an abstract arithmetic satisfying `FStd`; its tie to the bit-level FFT drivers of `Spq/Fft`
  ("schedule = level network" for rounded butterflies) and the inverse butterflies are in `Properties/C06Err.lean`.
-/
import SpqProofs.Lemmas.F64StdEx
import SpqProofs.Lemmas.VmpErrF64
import SpqProofs.Properties.C17
import SpqProofs.Lemmas.FftErrInst

namespace Spq.Numerics
open Spq.F64 Spq.Reim4
open Finset (range)

/-! ## the standard model for the five operations -/

/-- `a + b`: for every exact sum below the overflow threshold the result is finite with relative error `≤ 2^-53`
    (no lower limit: sums in the subnormal range are exact) -/
theorem f64_add_std (a b : Nat) (_ha : Fin64 a) (_hb : Fin64 b) (hq : NoOvf (val a + val b)) :
    Fin64 (F64.add a b) ∧ |val (F64.add a b) - (val a + val b)| ≤ 2 ^ (-53 : ℤ) * |val a + val b| :=
  add_std a b hq

theorem f64_sub_std (a b : Nat) (_ha : Fin64 a) (hb : Fin64 b) (hq : NoOvf (val a - val b)) :
    Fin64 (F64.sub a b) ∧ |val (F64.sub a b) - (val a - val b)| ≤ 2 ^ (-53 : ℤ) * |val a - val b| :=
  sub_std a b hb.1 hq

/-- `a * b`: finite; relative error `≤ 2^-53` in the normal range (exact when the product is 0), absolute error
    `≤ 2^-1075` when `|a·b| ≤ 2^-1022` -/
theorem f64_mul_std (a b : Nat) (_ha : Fin64 a) (_hb : Fin64 b) (hq : NoOvf (val a * val b)) :
    Fin64 (F64.mul a b) ∧
    (NormalRange (val a * val b) → |val (F64.mul a b) - val a * val b| ≤ 2 ^ (-53 : ℤ) * |val a * val b|) ∧
    (|val a * val b| ≤ 2 ^ (-1022 : ℤ) → |val (F64.mul a b) - val a * val b| ≤ 2 ^ (-1075 : ℤ)) :=
  mul_std a b hq

/-- fused `a * b + c`, one rounding -/
theorem f64_fma_std (a b c : Nat) (_ha : Fin64 a) (_hb : Fin64 b) (_hc : Fin64 c) (hq : NoOvf (val a * val b + val c)) :
    Fin64 (F64.fma a b c) ∧
    (NormalRange (val a * val b + val c) →
      |val (F64.fma a b c) - (val a * val b + val c)| ≤ 2 ^ (-53 : ℤ) * |val a * val b + val c|) ∧
    (|val a * val b + val c| ≤ 2 ^ (-1022 : ℤ) → |val (F64.fma a b c) - (val a * val b + val c)| ≤ 2 ^ (-1075 : ℤ)) :=
  fma_std a b c hq

/-- fused `a * b - c`, one rounding -/
theorem f64_fms_std (a b c : Nat) (_ha : Fin64 a) (_hb : Fin64 b) (hc : Fin64 c) (hq : NoOvf (val a * val b - val c)) :
    Fin64 (F64.fms a b c) ∧
    (NormalRange (val a * val b - val c) →
      |val (F64.fms a b c) - (val a * val b - val c)| ≤ 2 ^ (-53 : ℤ) * |val a * val b - val c|) ∧
    (|val a * val b - val c| ≤ 2 ^ (-1022 : ℤ) → |val (F64.fms a b c) - (val a * val b - val c)| ≤ 2 ^ (-1075 : ℤ)) :=
  fms_std a b c hc.1 hq

theorem f64_neg_exact (a : Nat) (ha : Fin64 a) : Fin64 (F64.neg a) ∧ val (F64.neg a) = - val a :=
  ⟨fin64_neg ha, val_neg ha.1⟩

/-- the hypotheses are satisfiable: `3.0 * 2.0` (and its fused variants with `c = 1.0`) -/
example : Fin64 4613937818241073152 ∧ Fin64 4611686018427387904 ∧ Fin64 4607182418800017408 ∧
    NoOvf (val 4613937818241073152 * val 4611686018427387904) ∧
    NormalRange (val 4613937818241073152 * val 4611686018427387904) ∧
    NormalRange (val 4613937818241073152 * val 4611686018427387904 - val 4607182418800017408) := by
  have p1 : (4607182418800017408 : Nat) = ofInt 1 := by decide +kernel
  have p2 : (4611686018427387904 : Nat) = ofInt 2 := by decide +kernel
  have p3 : (4613937818241073152 : Nat) = ofInt 3 := by decide +kernel
  have v1 : val (ofInt 1) = ((1 : ℤ) : ℚ) := val_ofInt (by decide)
  have v2 : val (ofInt 2) = ((2 : ℤ) : ℚ) := val_ofInt (by decide)
  have v3 : val (ofInt 3) = ((3 : ℤ) : ℚ) := val_ofInt (by decide)
  refine ⟨by decide, by decide, by decide, ?_⟩
  rw [p1, p2, p3, v1, v2, v3, ← Int.cast_mul, ← Int.cast_sub]
  exact ⟨(normalRange_int _ (by decide)).noOvf, normalRange_int _ (by decide), normalRange_int _ (by decide)⟩

/-! ## the operations as one rounding function on ℚ -/

/-- every operation is `rnd` of the exact result (also when the result overflows: both sides are then the value
    decoded from the `inf` pattern) -/
theorem f64_val_rnd (a b c : Nat) (hb : b < 18446744073709551616) (hc : c < 18446744073709551616) :
    val (F64.add a b) = rnd (val a + val b) ∧ val (F64.sub a b) = rnd (val a - val b) ∧
    val (F64.mul a b) = rnd (val a * val b) ∧ val (F64.fma a b c) = rnd (val a * val b + val c) ∧
    val (F64.fms a b c) = rnd (val a * val b - val c) :=
  ⟨val_add a b, val_sub a b hb, val_mul a b, val_fma a b c, val_fms a b c hc⟩

/-- `rnd` on the multiples of `2^-2148` below the overflow threshold: relative error `2^-53` in the normal range,
    absolute error `2^-1075` below it -/
theorem f64_rnd_std (q : ℚ) (hd : Dyadic q) (hov : NoOvf q) :
    (NormalRange q → |rnd q - q| ≤ 2 ^ (-53 : ℤ) * |q|) ∧ (|q| ≤ 2 ^ (-1022 : ℤ) → |rnd q - q| ≤ 2 ^ (-1075 : ℤ)) :=
  rnd_std q hd hov

/-- binary64 satisfies the standard model with `u = 2^-53` for exact results in the normal range -/
theorem f64_stdModelOn : StdModelOn arQ (2 ^ (-53 : ℤ)) GoodQ := arQ_stdModelOn

/-- an unconditional `StdModel arQ u` is impossible because of underflow: `fl(2^-1074 · 2^-1) = 0` -/
theorem f64_no_unconditional_stdModel (u : ℚ) (hu : u < 1) : ¬ StdModel arQ u := arQ_not_stdModel u hu

/-- … and the guarded arithmetic satisfies the unconditional `StdModel` of `Reim4Err.lean` -/
theorem f64_stdModel_guarded : StdModel arG (2 ^ (-53 : ℤ)) := arG_stdModel

/-! ## the one-column reim4 dot product in binary64 -/

/-- **`reim4_vec_mat1col_product_ref` in binary64.**  Run the kernel on flagged patterns (`arithOk`): if the flag of
    result cell `k` (real part of lane `k`) holds — all the partial results it depends on are in the normal range —
    the bit-level result is finite and within `((1+2^-53)^(n+2) − 1)·Σ(|a c| + |b d|)` of the exact real part of the
    complex dot product; likewise cell `k+4` (imaginary part). -/
theorem dot_err_f64_ref (n : Nat) (dst u v : Array Nat) (hb : 8 ≤ dst.size) (k : Nat) (hk : k < 4) :
    (Ok ((vecMat1colProductRef arithOk n (dst.map lift) (u.map lift) (v.map lift)).getD k (lift 0)) →
      Fin64 ((vecMat1colProductRef F64.arith n dst u v).getD k 0) ∧
      |val ((vecMat1colProductRef F64.arith n dst u v).getD k 0) -
          ∑ i ∈ range n, reX 0 (u.map val) (v.map val) (8 * i + k) (8 * i + k)| ≤
        ((1 + 2 ^ (-53 : ℤ)) ^ (n + 2) - 1) * ∑ i ∈ range n, reM 0 (u.map val) (v.map val) (8 * i + k) (8 * i + k)) ∧
    (Ok ((vecMat1colProductRef arithOk n (dst.map lift) (u.map lift) (v.map lift)).getD (k + 4) (lift 0)) →
      Fin64 ((vecMat1colProductRef F64.arith n dst u v).getD (k + 4) 0) ∧
      |val ((vecMat1colProductRef F64.arith n dst u v).getD (k + 4) 0) -
          ∑ i ∈ range n, imX 0 (u.map val) (v.map val) (8 * i + k) (8 * i + k)| ≤
        ((1 + 2 ^ (-53 : ℤ)) ^ (n + 2) - 1) * ∑ i ∈ range n, imM 0 (u.map val) (v.map val) (8 * i + k) (8 * i + k)) := by
  obtain ⟨e1, e2⟩ := C17.dot_err_ref arG u64 arG_stdModel n (dst.map val) (u.map val) (v.map val)
    (by rw [Array.size_map]; exact hb) k hk
  obtain ⟨t1, t2⟩ := VmpErr.kern_transfer .ref1 n dst u v hb 0 (Or.inl rfl) k hk
  simp only [VmpErr.Kern.run, Nat.zero_add] at t1 t2
  exact ⟨fun hf => ⟨(t1 hf).1, by rw [(t1 hf).2]; exact e1⟩, fun hf => ⟨(t2 hf).1, by rw [(t2 hf).2]; exact e2⟩⟩

/-- **`reim4_vec_mat1col_product_avx2` in binary64** (four FMA chains and a final subtraction / addition): same
    statement, with the exponent `n+1` -/
theorem dot_err_f64_avx2 (n : Nat) (dst u v : Array Nat) (hb : 8 ≤ dst.size) (k : Nat) (hk : k < 4) :
    (Ok ((vecMat1colProductAvx2 arithOk n (dst.map lift) (u.map lift) (v.map lift)).getD k (lift 0)) →
      Fin64 ((vecMat1colProductAvx2 F64.arith n dst u v).getD k 0) ∧
      |val ((vecMat1colProductAvx2 F64.arith n dst u v).getD k 0) -
          ∑ i ∈ range n, reX 0 (u.map val) (v.map val) (8 * i + k) (8 * i + k)| ≤
        ((1 + 2 ^ (-53 : ℤ)) ^ (n + 1) - 1) * ∑ i ∈ range n, reM 0 (u.map val) (v.map val) (8 * i + k) (8 * i + k)) ∧
    (Ok ((vecMat1colProductAvx2 arithOk n (dst.map lift) (u.map lift) (v.map lift)).getD (k + 4) (lift 0)) →
      Fin64 ((vecMat1colProductAvx2 F64.arith n dst u v).getD (k + 4) 0) ∧
      |val ((vecMat1colProductAvx2 F64.arith n dst u v).getD (k + 4) 0) -
          ∑ i ∈ range n, imX 0 (u.map val) (v.map val) (8 * i + k) (8 * i + k)| ≤
        ((1 + 2 ^ (-53 : ℤ)) ^ (n + 1) - 1) * ∑ i ∈ range n, imM 0 (u.map val) (v.map val) (8 * i + k) (8 * i + k)) := by
  obtain ⟨e1, e2⟩ := C17.dot_err_avx2 arG u64 arG_stdModel n (dst.map val) (u.map val) (v.map val)
    (by rw [Array.size_map]; exact hb) k hk
  obtain ⟨t1, t2⟩ := VmpErr.kern_transfer .avx1 n dst u v hb 0 (Or.inl rfl) k hk
  simp only [VmpErr.Kern.run, Nat.zero_add] at t1 t2
  exact ⟨fun hf => ⟨(t1 hf).1, by rw [(t1 hf).2]; exact e1⟩, fun hf => ⟨(t2 hf).1, by rw [(t2 hf).2]; exact e2⟩⟩

/-- the hypotheses are satisfiable: one row, `u = 3 + i`, `v = 2 + i` in every lane; the conclusion then bounds the
    distance of the computed real part to `3·2 − 1·1` -/
example : 8 ≤ (Array.replicate 8 0).size ∧ (0 : Nat) < 4 ∧
    Ok ((vecMat1colProductRef arithOk 1 ((Array.replicate 8 0).map lift) (exU.map lift) (exV.map lift)).getD 0 (lift 0)) ∧
    Ok ((vecMat1colProductAvx2 arithOk 1 ((Array.replicate 8 0).map lift) (exU.map lift) (exV.map lift)).getD 0 (lift 0)) :=
  ⟨by simp, by omega, ex_ref_ok, ex_avx2_ok⟩

/-! ### a-priori version: inputs in a box

  `InBox g E0 u`: every entry of `u` is a finite double, an integer multiple of `2^-g`, of magnitude `≤ 2^E0`.
  Then every partial result is an integer multiple of `2^-2g` — so it is 0 or at least `2^-2g ≥ 2^-1022` — and stays
  below `2^(2E0+2n+3)`: the flags of `dot_err_f64_*` hold (the invariant `Bx` carried through the recurrences that the
  cells of the kernels are, `F64StdBox.lean`).  The proofs do not use `hnu`, `hnv`, `hE0`: a cell beyond an array reads
  `+0` in the model, which lies in every box. -/

theorem dot_err_f64_ref_box (n : Nat) (dst u v : Array Nat) (g : ℕ) (E0 : ℤ) (hb : 8 ≤ dst.size)
    (hnu : 8 * n ≤ u.size) (hnv : 8 * n ≤ v.size) (hu : InBox g E0 u) (hv : InBox g E0 v)
    (hg : 2 * g ≤ 1022) (hE0 : 0 ≤ E0) (hE : 2 * E0 + 2 * n + 2 ≤ 1023) (k : Nat) (hk : k < 4) :
    (Fin64 ((vecMat1colProductRef F64.arith n dst u v).getD k 0) ∧
      |val ((vecMat1colProductRef F64.arith n dst u v).getD k 0) -
          ∑ i ∈ range n, reX 0 (u.map val) (v.map val) (8 * i + k) (8 * i + k)| ≤
        ((1 + 2 ^ (-53 : ℤ)) ^ (n + 2) - 1) * ∑ i ∈ range n, reM 0 (u.map val) (v.map val) (8 * i + k) (8 * i + k)) ∧
    (Fin64 ((vecMat1colProductRef F64.arith n dst u v).getD (k + 4) 0) ∧
      |val ((vecMat1colProductRef F64.arith n dst u v).getD (k + 4) 0) -
          ∑ i ∈ range n, imX 0 (u.map val) (v.map val) (8 * i + k) (8 * i + k)| ≤
        ((1 + 2 ^ (-53 : ℤ)) ^ (n + 2) - 1) * ∑ i ∈ range n, imM 0 (u.map val) (v.map val) (8 * i + k) (8 * i + k)) := by
  obtain ⟨h1, h2⟩ := dot_err_f64_ref n dst u v hb k hk
  obtain ⟨o1, o2⟩ := ref_ok_of_inBox n dst u v g E0 hb hu hv hg hE k hk
  exact ⟨h1 o1, h2 o2⟩

theorem dot_err_f64_avx2_box (n : Nat) (dst u v : Array Nat) (g : ℕ) (E0 : ℤ) (hb : 8 ≤ dst.size)
    (hnu : 8 * n ≤ u.size) (hnv : 8 * n ≤ v.size) (hu : InBox g E0 u) (hv : InBox g E0 v)
    (hg : 2 * g ≤ 1022) (hE0 : 0 ≤ E0) (hE : 2 * E0 + 2 * n + 2 ≤ 1023) (k : Nat) (hk : k < 4) :
    (Fin64 ((vecMat1colProductAvx2 F64.arith n dst u v).getD k 0) ∧
      |val ((vecMat1colProductAvx2 F64.arith n dst u v).getD k 0) -
          ∑ i ∈ range n, reX 0 (u.map val) (v.map val) (8 * i + k) (8 * i + k)| ≤
        ((1 + 2 ^ (-53 : ℤ)) ^ (n + 1) - 1) * ∑ i ∈ range n, reM 0 (u.map val) (v.map val) (8 * i + k) (8 * i + k)) ∧
    (Fin64 ((vecMat1colProductAvx2 F64.arith n dst u v).getD (k + 4) 0) ∧
      |val ((vecMat1colProductAvx2 F64.arith n dst u v).getD (k + 4) 0) -
          ∑ i ∈ range n, imX 0 (u.map val) (v.map val) (8 * i + k) (8 * i + k)| ≤
        ((1 + 2 ^ (-53 : ℤ)) ^ (n + 1) - 1) * ∑ i ∈ range n, imM 0 (u.map val) (v.map val) (8 * i + k) (8 * i + k)) := by
  obtain ⟨h1, h2⟩ := dot_err_f64_avx2 n dst u v hb k hk
  obtain ⟨o1, o2⟩ := avx2_ok_of_inBox n dst u v g E0 hb hu hv hg (by omega) k hk
  exact ⟨h1 o1, h2 o2⟩

/-- a sufficient condition for `InBox`: every entry is a finite double that is 0 or has `2^(53-g) ≤ |x| ≤ 2^E0`
    (e.g. `g = 511`: any value that is 0 or at least `2^-458` in magnitude) -/
theorem inBox_of_magnitude (g : ℕ) (E0 : ℤ) (u : Array Nat)
    (h : ∀ i, i < u.size → Fin64 (u.getD i 0) ∧
      (val (u.getD i 0) = 0 ∨ (2 : ℚ) ^ (53 - (g : ℤ)) ≤ |val (u.getD i 0)|) ∧ |val (u.getD i 0)| ≤ 2 ^ E0) :
    InBox g E0 u := by
  intro i hi
  obtain ⟨h1, h2, h3⟩ := h i hi
  refine ⟨h1, ?_, h3⟩
  rcases h2 with h2 | h2
  · exact gridQ_of_val_zero g h2
  · exact gridQ_of_abs_ge _ g h2

/-- the box hypotheses are satisfiable: the arrays of the previous example, `g = 0`, `E0 = 2`, one row -/
example : 8 * 1 ≤ exU.size ∧ 8 * 1 ≤ exV.size ∧ InBox 0 2 exU ∧ InBox 0 2 exV ∧ 2 * 0 ≤ 1022 ∧ (0 : ℤ) ≤ 2 ∧
    2 * (2 : ℤ) + 2 * (1 : ℕ) + 2 ≤ 1023 :=
  ⟨by decide, by decide, exU_box, exV_box, by omega, by omega, by norm_num⟩

/-! ## FFT butterflies and the level network under the standard model (C06.4)

  Over an ordered field `K`; complex numbers `Cplx K`, `nsq z = |z|²`; all 2-norm statements are squared
  (`‖e‖₂ ≤ η‖x‖₂` is `Σ nsq e ≤ η²·Σ nsq x`), so no square root is needed.
  `eta u τ = (1+u)(1+ρ) − 1`, `ρ = τ + (3/2)·((1+u)² − 1)·(1+τ)`: to first order `τ + 4u`. -/

section fft
open Spq.FftErr Spq.Fft Spq.Fft.Alg
variable {K : Type} [Field K] [LinearOrder K] [IsStrictOrderedRing K]

/-- **`butterfly_err`.**  In an arithmetic with the standard model (`FStd A u`), with a stored twiddle `ŵ` such that
    `|ŵ − ω| ≤ τ` and `|ω| = 1`, the forward butterflies of `Spq/Fft/Core.lean` compute
    `(a, b) ↦ (a + ω'·b, a − ω'·b)` with `‖computed − exact‖₂ ≤ eta u τ·‖exact‖₂` (`‖exact‖₂ = √2·‖(a,b)‖₂`):
    `ctRef`, `ctFma` for `ω' = ω`; `citRef`, `citFmaB`, `citFmaN` for `ω' = i·ω`. -/
theorem butterfly_err (A : Arith K) (u τ : K) (sm : FStd A u) (hτ : 0 ≤ τ) (wh w : Cplx K)
    (hw : nsq w = 1) (hτw : nsq (wh - w) ≤ τ ^ 2) :
    BfErrAt (fun a b => bfC (ctRef A) a b wh) w (eta u τ) ∧
    BfErrAt (fun a b => bfC (ctFma A) a b wh) w (eta u τ) ∧
    BfErrAt (fun a b => bfC (citRef A) a b wh) (Ic * w) (eta u τ) ∧
    BfErrAt (fun a b => bfC (citFmaB A) a b wh) (Ic * w) (eta u τ) ∧
    BfErrAt (fun a b => bfC (citFmaN A) a b wh) (Ic * w) (eta u τ) :=
  ⟨butterfly_err_ref A u τ sm hτ wh w hw hτw, butterfly_err_fma A u τ sm hτ wh w hw hτw,
    butterfly_err_cit_ref A u τ sm hτ wh w hw hτw, butterfly_err_cit_fmaB A u τ sm hτ wh w hw hτw,
    butterfly_err_cit_fmaN A u τ sm hτ wh w hw hτw⟩

/-- `butterfly_err` spelled out for `ctRef`: the squared errors of the two outputs against `η²·2(|a|² + |b|²)` -/
theorem butterfly_err_explicit (A : Arith K) (u τ : K) (sm : FStd A u) (hτ : 0 ≤ τ) (wh w a b : Cplx K)
    (hw : nsq w = 1) (hτw : nsq (wh - w) ≤ τ ^ 2) :
    nsq ((bfC (ctRef A) a b wh).1 - (a + w * b)) + nsq ((bfC (ctRef A) a b wh).2 - (a - w * b)) ≤
      eta u τ ^ 2 * (2 * nsq a + 2 * nsq b) := by
  rw [← bfly_norm a b w hw]
  exact butterfly_err_ref A u τ sm hτ wh w hw hτw a b

/-- **`fft_err`** for the level network `V` of `FftAlg.lean` (the radix-2 network every schedule of the library is
    equal to, C06.1): computed with butterflies of relative error `η` (`g ℓ d b` in block `b` of level `(ℓ, d)`)
    around unit-modulus twiddles `ζ^(twE ℓ d b)`, after all `k` levels
    `‖fl(FFT a) − FFT a‖₂ ≤ ((1+η)^k − 1)·‖FFT a‖₂` on the `2^k` cells. -/
theorem fft_err (ζ : Cplx K) (hζ : nsq ζ = 1) (a : ℕ → Cplx K) (η : K) (hη : 0 ≤ η) (k : ℕ)
    (g : ℕ → ℕ → ℕ → Cplx K → Cplx K → Cplx K × Cplx K)
    (hg : ∀ ℓ d b, ℓ + d + 1 = k → b < 2 ^ ℓ → BfErrAt (g ℓ d b) (ζ ^ twE ℓ d b) η) :
    ∑ p ∈ range (2 ^ k), nsq (VH g a k 0 p - V ζ a k 0 p) ≤
      ((1 + η) ^ k - 1) ^ 2 * ∑ p ∈ range (2 ^ k), nsq (V ζ a k 0 p) := by
  have := V_err ζ hζ η hη k g hg (VH_chain k g a) a (fun _ => rfl)
  simp only [Nat.sub_self] at this
  exact this

/-- `fft_err` for the reference and the FMA butterfly with a table of stored twiddles `wh ℓ d b` within `τ` of the
    exact `ζ^(twE ℓ d b)`, in an arithmetic with unit roundoff `u`: `η = eta u τ` -/
theorem fft_err_ct (A : Arith K) (u τ : K) (sm : FStd A u) (hτ : 0 ≤ τ) (ζ : Cplx K) (hζ : nsq ζ = 1)
    (a : ℕ → Cplx K) (k : ℕ) (wh : ℕ → ℕ → ℕ → Cplx K)
    (hwh : ∀ ℓ d b, ℓ + d + 1 = k → b < 2 ^ ℓ → nsq (wh ℓ d b - ζ ^ twE ℓ d b) ≤ τ ^ 2) :
    (∑ p ∈ range (2 ^ k), nsq (VH (netOf (ctRef A) wh) a k 0 p - V ζ a k 0 p) ≤
      ((1 + eta u τ) ^ k - 1) ^ 2 * ∑ p ∈ range (2 ^ k), nsq (V ζ a k 0 p)) ∧
    (∑ p ∈ range (2 ^ k), nsq (VH (netOf (ctFma A) wh) a k 0 p - V ζ a k 0 p) ≤
      ((1 + eta u τ) ^ k - 1) ^ 2 * ∑ p ∈ range (2 ^ k), nsq (V ζ a k 0 p)) := by
  have hη := eta_nonneg sm.u_nonneg hτ
  have hw : ∀ e, nsq (ζ ^ e) = 1 := fun e => by rw [nsq_pow, hζ, one_pow]
  exact ⟨fft_err ζ hζ a _ hη k _ (fun ℓ d b h1 h2 => butterfly_err_ref A u τ sm hτ _ _ (hw _) (hwh ℓ d b h1 h2)),
    fft_err ζ hζ a _ hη k _ (fun ℓ d b h1 h2 => butterfly_err_fma A u τ sm hτ _ _ (hw _) (hwh ℓ d b h1 h2))⟩

/-- with `ζ^(2·2^k) = −1` the exact network output is the evaluation of `Σ a_i X^i` at `ζ^(1 + 4·brev k j)`
    (C06.1 `V_top`), so `fft_err` bounds the distance to those evaluations -/
theorem fft_err_eval (ζ : Cplx K) (hζ : nsq ζ = 1) (hζk : ζ ^ (2 * 2 ^ k) = -1) (a : ℕ → Cplx K) (η : K) (hη : 0 ≤ η)
    (g : ℕ → ℕ → ℕ → Cplx K → Cplx K → Cplx K × Cplx K)
    (hg : ∀ ℓ d b, ℓ + d + 1 = k → b < 2 ^ ℓ → BfErrAt (g ℓ d b) (ζ ^ twE ℓ d b) η) :
    ∑ j ∈ range (2 ^ k), nsq (VH g a k 0 j - sumTo (2 ^ k) (fun i => a i * ζ ^ ((1 + 4 * brev k j) * i))) ≤
      ((1 + η) ^ k - 1) ^ 2 * ∑ j ∈ range (2 ^ k), nsq (sumTo (2 ^ k) (fun i => a i * ζ ^ ((1 + 4 * brev k j) * i))) := by
  have h := fft_err ζ hζ a η hη k g hg
  have e : ∀ j ∈ range (2 ^ k), V ζ a k 0 j = sumTo (2 ^ k) (fun i => a i * ζ ^ ((1 + 4 * brev k j) * i)) :=
    fun j hj => V_top ζ a k hζk j (Finset.mem_range.1 hj)
  have e1 : ∑ j ∈ range (2 ^ k), nsq (VH g a k 0 j - V ζ a k 0 j) =
      ∑ j ∈ range (2 ^ k), nsq (VH g a k 0 j - sumTo (2 ^ k) (fun i => a i * ζ ^ ((1 + 4 * brev k j) * i))) :=
    Finset.sum_congr rfl (fun j hj => by rw [e j hj])
  have e2 : ∑ j ∈ range (2 ^ k), nsq (V ζ a k 0 j) =
      ∑ j ∈ range (2 ^ k), nsq (sumTo (2 ^ k) (fun i => a i * ζ ^ ((1 + 4 * brev k j) * i))) :=
    Finset.sum_congr rfl (fun j hj => by rw [e j hj])
  rw [e1, e2] at h
  exact h

/-- binary64 with the measured twiddle error `τ ≤ 3.5·2^-53` (DESIGN §5 C06.4): `η ≤ 8·2^-53` per level -/
theorem eta_f64 : eta ((2 : ℚ) ^ (-53 : ℤ)) (7 / 2 * 2 ^ (-53 : ℤ)) ≤ 8 * 2 ^ (-53 : ℤ) := eta_f64_le

/-- the hypotheses are satisfiable: exact arithmetic (`u = 0`), exact twiddle `ω = 1` (`τ = 0`) -/
example : FStd (exactA : Arith ℚ) 0 ∧ (0 : ℚ) ≤ 0 ∧ nsq (1 : Cplx ℚ) = 1 ∧ nsq ((1 : Cplx ℚ) - 1) ≤ 0 ^ 2 :=
  ⟨fstd_exact, le_refl _, nsq_one, by simp⟩

/-- and by binary64 on the normal range: the guarded arithmetic `arG` -/
example : FStd (ofRArith arG) u64 := fstd_of_stdModel arG_stdModel

end fft

end Spq.Numerics
