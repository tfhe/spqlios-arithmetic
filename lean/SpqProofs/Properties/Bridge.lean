/-
  Bridge theorems (DESIGN.md §4): the closed coefficient formulas used as specifications in this
  framework ARE the ring `R[X]/(X^n+1)` (Mathlib: `AdjoinRoot (X^n + 1)`), `R` any commutative ring,
  `n > 0` — in particular `Z[X]/(X^N+1)`, `(ZMod q)[X]/(X^N+1)`.

  Notation (all in `Spq.Bridge`):
   * `Rq R n`  = `AdjoinRoot (X^n + 1 : R[X])`;  `mk n : R[X] →+* Rq R n`;  `root n` = class of `X`;
     `of n : R →+* Rq R n`;  `rootU n hn : (Rq R n)ˣ` = `root n` as a unit (so `rootU ^ p`, `p : ℤ`, is `X^p`);
   * `toPoly n a = Σ_{i<n} C (a i) * X^i` for `a : ℕ → R`;  `ofArr : Array R → (ℕ → R)` (zero outside);
   * `nmul n g h`  (`SpqProofs/Lemmas/NttEval.lean`) — negacyclic product formula (used by C03);
   * `rot n p a`, `mulxp n p a` — `Spq.Rq.rotCoeff`, `Spq.Rq.mulXpCoeff` instantiated with ring operations
     (`rotCoeff_ring`, `mulXpCoeff_ring` below: definitional);  `autExp/autVal` — the scatter formula (C09);
   * `autHom n hn p hp` — the ring endomorphism `X ↦ X^p` of `Rq R n` (`p` odd, any sign).
-/
import SpqProofs.Lemmas.BridgeHom
import SpqProofs.Properties.C09

namespace Spq.Bridge
open Polynomial Finset Spq.Rq Spq.Q120Ntt

variable {R : Type} [CommRing R]

/-- `X^n = -1` and `X^(2n) = 1` in `R[X]/(X^n+1)`; hence `X` is a unit (`rootU`) -/
theorem root_pow (n : Nat) : (root n : Rq R n) ^ n = -1 ∧ (root n : Rq R n) ^ (2 * n) = 1 :=
  ⟨root_pow_n n, root_pow_2n n⟩

/-- `X^p` for an integer `p` is `X^(p mod 2n)` -/
theorem rootU_zpow_eq (n : Nat) (hn : 0 < n) (p : Int) :
    (((rootU n hn : (Rq R n)ˣ) ^ p : (Rq R n)ˣ) : Rq R n) = root n ^ (p % ((2 * n : Nat) : Int)).toNat := by
  have h2 : (0 : Int) < ((2 * n : Nat) : Int) := by exact_mod_cast (by omega : 0 < 2 * n)
  rw [rootU_zpow_mod, ← rootU_zpow_nat n hn, Int.toNat_of_nonneg (Int.emod_nonneg _ (ne_of_gt h2))]

/-- the negacyclic product formula is the product of `R[X]/(X^n+1)` -/
theorem mk_toPoly_nmul (n : Nat) (g h : Nat → R) :
    mk n (toPoly n (nmul n g h)) = mk n (toPoly n g) * mk n (toPoly n h) := by
  rw [mk_toPoly, mk_toPoly, mk_toPoly]
  simp only [map_nmul]
  exact eval_nmul n (root n) (root_pow_n n) _ _

/-- two coefficient vectors of length `n` with the same class in `R[X]/(X^n+1)` are equal: equality in the
    quotient ring IS equality of coefficient vectors -/
theorem mk_toPoly_inj (n : Nat) (a b : Nat → R) (h : mk n (toPoly n a) = mk n (toPoly n b)) :
    ∀ i, i < n → a i = b i := by
  intro i hi
  have hn : 0 < n := by omega
  have h0 : mk n (toPoly n (fun i => a i - b i)) = 0 := by
    rw [toPoly_sub, map_sub, h, sub_self]
  have hz := eq_zero_of_mk_eq_zero n hn _ (toPoly_degree_lt n _) h0
  have hc := congrArg (fun q => q.coeff i) hz
  simp only [toPoly_coeff, if_pos hi, coeff_zero] at hc
  exact sub_eq_zero.1 hc

/-- the same for arrays of size `n` -/
theorem mk_toPoly_arr_inj (n : Nat) (a b : Array R) (ha : a.size = n) (hb : b.size = n)
    (h : mk n (toPoly n (ofArr a)) = mk n (toPoly n (ofArr b))) : a = b := by
  apply Array.ext (by rw [ha, hb])
  intro i h1 h2
  have := mk_toPoly_inj n _ _ h i (by omega)
  unfold ofArr at this
  rwa [Array.getD_eq_getD_getElem?, Array.getD_eq_getD_getElem?, Array.getElem?_eq_getElem h1,
    Array.getElem?_eq_getElem h2] at this

/-- consequently a formula is the product iff it is `nmul`: any `c` representing `a·b` equals `nmul a b` -/
theorem nmul_unique (n : Nat) (g h c : Nat → R)
    (hc : mk n (toPoly n c) = mk n (toPoly n g) * mk n (toPoly n h)) : ∀ i, i < n → c i = nmul n g h i :=
  mk_toPoly_inj n _ _ (hc.trans (mk_toPoly_nmul n g h).symm)

/-- `rotCoeff` with the operations of a ring is `rot` (definitional unfolding) -/
theorem rotCoeff_ring (n : Nat) (p : Int) (a : Array R) (k : Nat) :
    rotCoeff (ringOps R) n p a k = rot n p (ofArr a) k := rfl

/-- the rotation formula is multiplication by the unit `X^p` (negative `p`: by the inverse) -/
theorem mk_toPoly_rot (n : Nat) (hn : 0 < n) (p : Int) (a : Nat → R) :
    mk n (toPoly n (rot n p a)) = ((rootU n hn ^ p : (Rq R n)ˣ) : Rq R n) * mk n (toPoly n a) := by
  have back : ∀ k : Nat, k < n → ((((((k : Int) - p) % (n : Int)).toNat : Nat) : Int) + p) % (n : Int) = k :=
    fun k hk => by
      have hn' : (0 : Int) < (n : Int) := by exact_mod_cast hn
      rw [Int.toNat_of_nonneg (Int.emod_nonneg _ (ne_of_gt hn')), Int.emod_add_emod, sub_add_cancel,
        Int.emod_eq_of_lt (by omega) (by omega)]
  rw [mk_toPoly_scatter n hn (fun k => (k : Int) - p) (rot n p a) a
      (fun k k' hk hk' e => by have h := back k hk; rw [e, back k' hk'] at h; exact_mod_cast h.symm)
      (fun k _ => by unfold rot; split_ifs <;> simp), mk_toPoly, mul_sum]
  apply sum_congr rfl
  intro k _
  rw [mul_left_comm, ← Units.val_mul, ← zpow_add, add_sub_cancel, rootU_zpow_nat]

/-- the same with the natural exponent `p mod 2n` -/
theorem mk_toPoly_rot_nat (n : Nat) (hn : 0 < n) (p : Int) (a : Nat → R) :
    mk n (toPoly n (rot n p a)) = root n ^ (p % ((2 * n : Nat) : Int)).toNat * mk n (toPoly n a) := by
  rw [mk_toPoly_rot n hn, rootU_zpow_eq]

/-- the kernel model `Coeffs.rotate` (= `znx_rotate_i64`, C09 `rotate_spec`), run on a ring, returns the
    coefficient array of `X^p · a` -/
theorem mk_toPoly_rotate_kernel (n : Nat) (hn : 0 < n) (p : Int) (a : Array R) :
    mk n (toPoly n (ofArr (Coeffs.rotate (ringOps R) n p a))) =
      ((rootU n hn ^ p : (Rq R n)ˣ) : Rq R n) * mk n (toPoly n (ofArr a)) := by
  rw [show toPoly n (ofArr (Coeffs.rotate (ringOps R) n p a)) = _ from
    toPoly_ofArrVia_of_spec (ringOps R) (fun x => x) n _ _ (C09.rotate_spec (ringOps R) n p a).2]
  exact mk_toPoly_rot n hn p (ofArr a)

theorem mulXpCoeff_ring (n : Nat) (p : Int) (a : Array R) (k : Nat) :
    mulXpCoeff (ringOps R) n p a k = mulxp n p (ofArr a) k := rfl

theorem mk_toPoly_mulxp (n : Nat) (hn : 0 < n) (p : Int) (a : Nat → R) :
    mk n (toPoly n (mulxp n p a)) =
      (((rootU n hn ^ p : (Rq R n)ˣ) : Rq R n) - 1) * mk n (toPoly n a) := by
  have : mulxp n p a = fun k => rot n p a k - a k := rfl
  rw [this, toPoly_sub, map_sub, mk_toPoly_rot n hn, sub_mul, one_mul]

theorem mk_toPoly_mulxp_kernel (n : Nat) (hn : 0 < n) (p : Int) (a : Array R) :
    mk n (toPoly n (ofArr (Coeffs.mulXpMinusOne (ringOps R) n p a))) =
      (((rootU n hn ^ p : (Rq R n)ˣ) : Rq R n) - 1) * mk n (toPoly n (ofArr a)) := by
  rw [show toPoly n (ofArr (Coeffs.mulXpMinusOne (ringOps R) n p a)) = _ from
    toPoly_ofArrVia_of_spec (ringOps R) (fun x => x) n _ _ (C09.mulxp_spec (ringOps R) n p a).2]
  exact mk_toPoly_mulxp n hn p (ofArr a)

/-- `autHom` is the ring endomorphism of `R[X]/(X^n+1)` that fixes `R` and sends `X` to `X^p`
    (well defined because `(X^p)^n = -1` for odd `p`), and it is the only one -/
theorem autHom_spec (n : Nat) (hn : 0 < n) (p : Int) (hp : Odd p) :
    autHom n hn p hp (root n) = (((rootU n hn : (Rq R n)ˣ) ^ p : (Rq R n)ˣ) : Rq R n) ∧
    (∀ c : R, autHom n hn p hp (of n c) = of n c) ∧
    (∀ g : R[X], autHom n hn p hp (mk n g) =
        eval₂ (of n) (((rootU n hn : (Rq R n)ˣ) ^ p : (Rq R n)ˣ) : Rq R n) g) ∧
    (∀ φ : Rq R n →+* Rq R n, (∀ c, φ (of n c) = of n c) →
        φ (root n) = (((rootU n hn : (Rq R n)ˣ) ^ p : (Rq R n)ˣ) : Rq R n) → φ = autHom n hn p hp) :=
  ⟨autHom_root n hn p hp, autHom_of n hn p hp, autHom_mk n hn p hp, autHom_unique n hn p hp⟩

/-- a vector `b` satisfying the scatter specification (`b[(i·p mod 2n) mod n] = ± a[i]`, minus iff
    `i·p mod 2n ≥ n`) with pairwise distinct positions represents `a(X^p)` -/
theorem mk_toPoly_autom (n : Nat) (hn : 0 < n) (p : Int) (hp : Odd p) (a b : Nat → R)
    (hinj : ∀ i i', i < n → i' < n → autExp n p i % n = autExp n p i' % n → i = i')
    (hb : ∀ i, i < n → b (autExp n p i % n) = if autExp n p i < n then a i else - a i) :
    mk n (toPoly n b) = autHom n hn p hp (mk n (toPoly n a)) := by
  have hpos : ∀ i : Nat, (((i : Int) * p) % (n : Int)).toNat = autExp n p i % n := fun i => by
    rw [← autPos_cast n hn p i, Int.toNat_natCast]
  rw [mk_toPoly_scatter n hn (fun i => (i : Int) * p) a b
      (fun i i' hi hi' e => hinj i i' hi hi' (by rwa [hpos, hpos] at e))
      (fun i hi => by rw [hpos]; exact hb i hi), mk_toPoly, map_sum]
  apply sum_congr rfl
  intro i _
  rw [map_mul, autHom_of, map_pow, autHom_root, ← Units.val_pow_eq_pow_val, ← zpow_natCast, ← zpow_mul,
    mul_comm p]

/-- the positions are pairwise distinct when `p` is coprime to `n` -/
theorem mk_toPoly_autom_coprime (n : Nat) (hn : 0 < n) (p : Int) (hp : Odd p)
    (hc : IsCoprime (n : Int) p) (a b : Nat → R)
    (hb : ∀ i, i < n → b (autExp n p i % n) = if autExp n p i < n then a i else - a i) :
    mk n (toPoly n b) = autHom n hn p hp (mk n (toPoly n a)) :=
  mk_toPoly_autom n hn p hp a b (autPos_inj_of_coprime n hn p hc) hb

/-- the kernel model `Coeffs.automorphism` (= `znx_automorphism_i64`, C09 `autom_spec`), run on a ring with
    `n = 2^t`, `p` odd, returns the coefficient array of `a(X^p)` -/
theorem mk_toPoly_autom_kernel (t : Nat) (p : Int) (hp : p % 2 = 1) (a res0 : Array R)
    (hr : res0.size = 2 ^ t) :
    mk (2 ^ t) (toPoly (2 ^ t) (ofArr (Coeffs.automorphism (ringOps R) (2 ^ t) p a res0))) =
      autHom (2 ^ t) (Nat.pow_pos (by norm_num)) p (Int.odd_iff.2 hp)
        (mk (2 ^ t) (toPoly (2 ^ t) (ofArr a))) := by
  apply mk_toPoly_autom (2 ^ t) _ p _ (ofArr a) _ (autPos_inj t p hp)
  intro i hi
  exact ofArrVia_of_getElem? (ringOps R) (fun x => x) _ _ _ ((C09.autom_spec (ringOps R) t p hp a res0 hr).2.1 i hi)

/-! ### the kernels on an arbitrary coefficient type, read through a homomorphism of operations

  `OpsHom o φ`: `φ : α → R` carries `o.zero`, `o.neg`, `o.add`, `o.sub` to zero, negation, sum, difference of the commutative ring `R`.
  `ofArrVia o φ a = fun i => φ (a.getD i o.zero)`.  Instances: `opsHom_id` (a ring itself) and
  `i64_opsHom` (wrapping int64 arithmetic → `ZMod 2^64`). -/

variable {α : Type}

/-- wrapping int64 arithmetic (`i64Ops`, what the C code executes) is the arithmetic of `ZMod 2^64` -/
theorem i64_opsHom : OpsHom i64Ops (fun x : Int => (x : ZMod P64)) :=
  { zero := by show ((0 : Int) : ZMod P64) = 0; simp
    neg := fun x => by show ((negS x : Int) : ZMod P64) = _; unfold negS; rw [cast_wrapS]; simp
    add := fun x y => by show ((addS x y : Int) : ZMod P64) = _; unfold addS; rw [cast_wrapS]; simp
    sub := fun x y => by show ((subS x y : Int) : ZMod P64) = _; unfold subS; rw [cast_wrapS]; simp }

/-- `Coeffs.rotate` on any coefficient type computes `X^p · a` in the image ring -/
theorem mk_toPoly_rotate_hom (o : Ops α) (φ : α → R) (h : OpsHom o φ) (n : Nat) (hn : 0 < n) (p : Int)
    (a : Array α) :
    mk n (toPoly n (ofArrVia o φ (Coeffs.rotate o n p a))) =
      ((rootU n hn ^ p : (Rq R n)ˣ) : Rq R n) * mk n (toPoly n (ofArrVia o φ a)) := by
  rw [toPoly_ofArrVia_of_spec o φ n _ _ (C09.rotate_spec o n p a).2,
    toPoly_congr n _ _ (fun k _ => rotCoeff_map o φ h n p a k)]
  exact mk_toPoly_rot n hn p _

/-- `Coeffs.mulXpMinusOne` on any coefficient type computes `(X^p - 1) · a` in the image ring -/
theorem mk_toPoly_mulxp_hom (o : Ops α) (φ : α → R) (h : OpsHom o φ) (n : Nat) (hn : 0 < n) (p : Int)
    (a : Array α) :
    mk n (toPoly n (ofArrVia o φ (Coeffs.mulXpMinusOne o n p a))) =
      (((rootU n hn ^ p : (Rq R n)ˣ) : Rq R n) - 1) * mk n (toPoly n (ofArrVia o φ a)) := by
  rw [toPoly_ofArrVia_of_spec o φ n _ _ (C09.mulxp_spec o n p a).2,
    toPoly_congr n _ _ (fun k _ => mulXpCoeff_map o φ h n p a k)]
  exact mk_toPoly_mulxp n hn p _

/-- `Coeffs.automorphism` (`n = 2^t`, `p` odd) on any coefficient type computes `a(X^p)` in the image ring -/
theorem mk_toPoly_autom_hom (o : Ops α) (φ : α → R) (h : OpsHom o φ) (t : Nat) (p : Int) (hp : p % 2 = 1)
    (a res0 : Array α) (hr : res0.size = 2 ^ t) :
    mk (2 ^ t) (toPoly (2 ^ t) (ofArrVia o φ (Coeffs.automorphism o (2 ^ t) p a res0))) =
      autHom (2 ^ t) (Nat.pow_pos (by norm_num)) p (Int.odd_iff.2 hp)
        (mk (2 ^ t) (toPoly (2 ^ t) (ofArrVia o φ a))) := by
  apply mk_toPoly_autom (2 ^ t) _ p _ (ofArrVia o φ a) _ (autPos_inj t p hp)
  intro i hi
  rw [ofArrVia_of_getElem? o φ _ _ _ ((C09.autom_spec o t p hp a res0 hr).2.1 i hi)]
  exact autVal_map o φ h (2 ^ t) p a i

/-- `(g0 + g1 X)(h0 + h1 X) = (g0 h0 - g1 h1) + (g0 h1 + g1 h0) X  mod X^2+1` -/
example (g h : Nat → Int) :
    nmul 2 g h 0 = g 0 * h 0 - g 1 * h 1 ∧ nmul 2 g h 1 = g 0 * h 1 + g 1 * h 0 := by
  constructor
  · simp [nmul, Finset.sum_range_succ]; ring
  · simp [nmul, Finset.sum_range_succ]

/-- `X·a`, `X^{-1}·a`, `X^5·a = -X·a` for `n = 4` -/
example (a : Nat → Int) :
    rot 4 1 a 0 = - a 3 ∧ rot 4 1 a 1 = a 0 ∧ rot 4 (-1) a 3 = - a 0 ∧ rot 4 (-1) a 0 = a 1 ∧
    rot 4 5 a 1 = - a 0 := by
  refine ⟨?_, ?_, ?_, ?_, ?_⟩ <;> simp [rot]

/-- the int64 kernel, `N = 8`, `p = -3`: `X^{-3}·a` in `(Z/2^64)[X]/(X^8+1)` -/
example (a : Array Int) :
    mk 8 (toPoly 8 (ofArrVia i64Ops (fun x : Int => (x : ZMod P64)) (Coeffs.rotate i64Ops 8 (-3) a))) =
      ((rootU 8 (by norm_num) ^ (-3 : Int) : (Rq (ZMod P64) 8)ˣ) : Rq (ZMod P64) 8) *
        mk 8 (toPoly 8 (ofArrVia i64Ops (fun x : Int => (x : ZMod P64)) a)) :=
  mk_toPoly_rotate_hom i64Ops _ i64_opsHom 8 (by norm_num) (-3) a

/-- the automorphism hypotheses hold for `n = 8 = 2^3`, `p = -5`, over `ℤ`, with `b` the kernel's output -/
example (a : Array Int) :
    mk 8 (toPoly 8 (ofArr (Coeffs.automorphism (ringOps Int) (2 ^ 3) (-5) a (Array.replicate 8 0)))) =
      autHom 8 (by norm_num) (-5) ⟨-3, by norm_num⟩ (mk 8 (toPoly 8 (ofArr a))) :=
  mk_toPoly_autom_kernel 3 (-5) (by norm_num) a (Array.replicate 8 0) (by simp)

/-- a modulus that is not a power of two: `n = 6`, `p = 5` is odd and coprime to `n` -/
example : Odd (5 : Int) ∧ IsCoprime ((6 : Nat) : Int) 5 := ⟨⟨2, by norm_num⟩, ⟨1, -1, by norm_num⟩⟩

end Spq.Bridge
