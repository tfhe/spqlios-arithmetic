/-
  C01 — the END-TO-END BINARY64 rounding budget of the FFT64 product pipeline, proved about the model function that
  is validated bit-exactly against the library: `Spq.Module.smallProduct (Spq.Module.Cfg.parts c) a b`
  (= `fft64_znx_small_single_product`: `toZnx (ifft (mul (fft (fromZnx a)) (fft (fromZnx b))))`).

  Property C01 (fixed text; FULL statement, NOT completely proved — see `_partial` below):
    "For every ring dimension N (power of two, 2..65536) and all integer polynomials a,b inside the documented 52-bit
     budget (|coefficients| < 2^50 and min(|a|_1*|b|_inf, |a|_inf*|b|_1) < 2^52), the product obtained through the
     FFT64 path differs from the exact product in Z[X]/(X^N+1) by at most E+1/2 per coefficient, where
     E = 8*log2(N)*2^-53*(|a|_1*|b|_2 + |a|_2*|b|_1).  In particular the result equals the exact integer product
     whenever E < 1/2."

  What is proved (`N = 2m`, `m = 2^k`, `u = 2^-53`, `S = ‖a‖₁·nb + na·‖b‖₁` with `na ≥ ‖a‖₂`, `nb ≥ ‖b‖₂`, `nb ≤ ‖b‖₁`
  — for `K = ℝ` take `na = ‖a‖₂ = √Σa_i²`, `nb = ‖b‖₂`; 2-norms enter squared, so no square root is needed):
   1. `mul_err`: the binary64 pointwise product (`reim_fftvec_mul_ref` / `_fma`, as `Module.mul` runs it): every cell
      `|ĉ_j − â_j·b̂_j| ≤ μ·|â_j|·|b̂_j|`, `μ = (3/2)·((1+u)² − 1) ≈ 3u` (`3/2 ≥ √2`), and the 2-norm form.
   2. `small_product_err_budget_partial` (every `k ≤ 961`): every output coefficient is an integer within
      `budget + 1/2` of the coefficient of `nmul N a b` (the exact negacyclic product), where
        budget = eB ε μ (ε·m)·S,  ε = (1+8u)^k − 1 (C06Err),  eB ε μ θ = ε(1/2 + f) + f,  f = μ(1/2 + d) + d,  d = ε(1+θ).
      `small_product_err_partial` (`k ≤ 16`, i.e. N ≤ 131072 ⊇ the property's range): `budget ≤ 12·log2(N)·u·S`.
      WHY 12 AND NOT 8: with C06Err's per-transform constant `ε_k ≈ 8k·u` the three transforms contribute
      `ε_k·‖a‖₂‖b‖₁ + ε_k·‖a‖₁‖b‖₂` (forward, relative to S) `+ ε_k·S/2` (inverse, relative to `‖c‖₂ ≤ S/2`), i.e.
      `(3/2)·8k·u·S`, plus `μ/2·S = (3/2)u·S` for the product.  Reaching 8 needs a per-level constant `≤ 16/3·u` in
      C06Err (its `8u` covers a twiddle error of `3.5u`; the true per-level figure is ≈ `τ + 4u`), not a better composition.
   3. `small_product_exact_f64_partial`: if `12·log2(N)·u·S < 1/2` the binary64 pipeline returns EXACTLY `nmul N a b`
      (no domain hypothesis on the final conversion is needed: `|c_i| ≤ S/2 < 2^48`).
      `small_product_err_real_partial` / `small_product_exact_real_partial`: `K = ℝ`, `na = ‖a‖₂`, `nb = ‖b‖₂` (true norms);
      `small_product_err_prop_partial`: `OutDom` discharged from the property's own 52-bit budget (kernels `ref`, `bnd63`).
   4. `svp_row_small_product`, `svp_err_partial`, `svp_exact_f64_partial`: row `i` of `vecIdft (svpApply (svpPrepare pol) vec)`
      is bit for bit `smallProduct (limb_i vec) pol`, hence the same budget / exactness per row.
  Hypotheses that remain (explicit):
   * `CfgOk`: `c` consistent with the dispatch (`nn = 2·2^k`; FMA product kernel only for `m ≥ 4`; 4-lane conversion
     kernels only when `4 ∣ 2m`; tables = the table layout filled with stored patterns `cN e`, `sN e`);
   * twiddle accuracy of both tables: stored values within `3.5u` of `ζ^e` resp. `ζi^e`, `|ζ| = 1`, `ζ^m = i`, `ζ·ζi = 1`
     (`K` any ordered field, e.g. ℝ with `ζ = exp(iπ/2m)`; stream `ff_tables` measures 3.11u);
   * `PipeOk`: the flags of the flagged run, stage by stage (forward a, forward b, product, inverse): every operation
     had finite operands and an exact result that is 0 or of magnitude in `[2^-1022, 2^1024(1−2^-54))`.  This EXCLUDES
     overflow (for inputs in the box the intermediates stay far below `2^1023`: `C02Err.no_overflow_of_box`) and any exact
     intermediate result that is nonzero but below `2^-1022` (underflow after massive cancellation).  NOT discharged a
     priori: the simple grid argument (inputs are integers, twiddles multiples of `2^-g`, `g ≈ 70`) only gives
     "nonzero ⇒ ≥ 2^-(70·(2k+1))", which is below `2^-1022` for `k ≥ 7`;
   * `OutDom` (`small_product_err_partial`, `_budget_partial`, `_real_partial` only): `|c_i| + budget < B_v`
     (`2^63 / 2^50 / 2^63` for the kernel `ref / bnd50 / bnd63`; the module installs `ref` or `bnd63`).
  Not in this file: the zero rows of the SVP pipeline in binary64 (`C02Err.svp_zero_rows_f64`), the no-overflow half
  of `PipeOk` (`C02Err.no_overflow_of_box`), and the row sum for `vmpApplyDft` (C02; `Properties/C02Err.lean`), where
  the accumulation (`reim4_vec_mat*_product`, FMA chains / `addmul`) adds its own rounding.
-/
import SpqProofs.Lemmas.ProdErrBudget
import SpqProofs.Lemmas.ProdErrExample
import SpqProofs.Lemmas.ModuleVec
import SpqProofs.Lemmas.ProdErrReal
import SpqProofs.Lemmas.ProdErrProp
namespace Spq.C01Err
open Finset Spq Spq.Module Spq.Fft Spq.Fft.Alg Spq.FftErr Spq.F64 Spq.Conv Spq.ProdErr Spq.Reim4

variable {K : Type} [Field K] [LinearOrder K] [IsStrictOrderedRing K]

/-- **`mul_err`**: binary64 pointwise complex multiply of two DFT-space vectors of `m = 2^k` complexes (reim layout),
    reference (`fma = false`: mul, mul, sub / add) and FMA flavour (`fma = true`: mul, fmsub / fmadd; installed for
    `m ≥ 4`).  If the flags of the flagged run hold (no overflow, no underflow), every output is finite and
      `|ĉ_j − â_j·b̂_j|² ≤ μ²·|â_j|²·|b̂_j|²` for every cell, hence `‖ĉ − â∘b̂‖₂² ≤ μ²·‖â∘b̂‖₂²`,
    where `â_j = outC a k j` is the VALUE of cell `j` of the input. -/
theorem mul_err (fma : Bool) (k : ℕ) (hfk : fma = true → 2 ≤ k) (a b : Array ℕ)
    (hok : ∀ p, p < 2 * 2 ^ k → ((mulA arithOk fma (2 ^ k) (a.map lift) (b.map lift)).getD p arithOk.zero).2) :
    (∀ p, p < 2 * 2 ^ k → Fin64 ((mulA F64.arith fma (2 ^ k) a b)[p]!)) ∧
    (∀ j, j < 2 ^ k →
      nsq (outC (mulA F64.arith fma (2 ^ k) a b) k j - outC a k j * outC b k j : Cplx K) ≤
        ((mu64 : ℚ) : K) ^ 2 * (nsq (outC a k j : Cplx K) * nsq (outC b k j : Cplx K))) ∧
    ∑ j ∈ range (2 ^ k), nsq (outC (mulA F64.arith fma (2 ^ k) a b) k j - outC a k j * outC b k j : Cplx K) ≤
      ((mu64 : ℚ) : K) ^ 2 * ∑ j ∈ range (2 ^ k), nsq (outC a k j * outC b k j : Cplx K) := by
  obtain ⟨hfin, hcell⟩ := mulA_err (K := K) fma k hfk a b hok
  refine ⟨fun p hp => by rw [getElem!_nat]; exact hfin p hp, hcell, ?_⟩
  rw [mul_sum]
  exact sum_le_sum (fun j hj => by rw [nsq_mul]; exact hcell j (mem_range.1 hj))

/-- `mulA` is what the module runs: `Module.mul` of the binary64 module -/
example (c : Cfg) (k : ℕ) (cN sN cNi sNi : ℕ → ℕ) (h : CfgOk c k cN sN cNi sNi) (a b : Array Int) :
    smallProduct (Cfg.parts c) a b = (Cfg.parts c).toZnx
      (reimIfft (if c.ifftFma then "fma" else "ref") (2 ^ k) (tabI k cNi sNi)
        (mulA F64.arith c.mulFma (2 ^ k) (stF c k cN sN a) (stF c k cN sN b))) :=
  smallProduct_stages c k cN sN cNi sNi h a b

/-- **`small_product_err_budget_partial`** (every `k ≤ 961`; explicit budget).  Every output coefficient `r_i` of the
    binary64 pipeline is an integer with `|r_i − (a ⊛ b)_i| ≤ budget + 1/2`,
    `budget = eB ε μ (ε·2^k)·(‖a‖₁·nb + na·‖b‖₁)`, `ε = (1 + 8u)^k − 1`, `μ = (3/2)((1+u)² − 1)`. -/
theorem small_product_err_budget_partial (c : Cfg) (k : ℕ) (hk : k ≤ 961) (cN sN cNi sNi : ℕ → ℕ)
    (h : CfgOk c k cN sN cNi sNi)
    (ζ ζi : Cplx K) (hζ : nsq ζ = 1) (hI : ζ ^ 2 ^ k = Ic) (hinv : ζ * ζi = 1)
    (hcs : ∀ ℓ d b, ℓ + d + 1 = k → b < 2 ^ ℓ →
      nsq (toC (((val (cN (twE ℓ d b)) : ℚ) : K), ((val (sN (twE ℓ d b)) : ℚ) : K)) - ζ ^ twE ℓ d b) ≤
        (((7 / 2 * u64 : ℚ)) : K) ^ 2)
    (hcsi : ∀ ℓ d b, ℓ + d + 1 = k → b < 2 ^ ℓ →
      nsq (toC (((val (cNi (twE ℓ d b)) : ℚ) : K), ((val (sNi (twE ℓ d b)) : ℚ) : K)) - ζi ^ twE ℓ d b) ≤
        (((7 / 2 * u64 : ℚ)) : K) ^ 2)
    (a b : Array Int)
    (ha : ∀ i, i < 2 * 2 ^ k → -1125899906842624 < a.getD i 0 ∧ a.getD i 0 < 1125899906842624)
    (hb : ∀ i, i < 2 * 2 ^ k → -1125899906842624 < b.getD i 0 ∧ b.getD i 0 < 1125899906842624)
    (hok : PipeOk c k cN sN cNi sNi a b)
    (na nb : K) (hna0 : 0 ≤ na) (hnb0 : 0 ≤ nb)
    (hna : ∑ t ∈ range (2 * 2 ^ k), ((a.getD t 0 : Int) : K) ^ 2 ≤ na ^ 2)
    (hnb : ∑ t ∈ range (2 * 2 ^ k), ((b.getD t 0 : Int) : K) ^ 2 ≤ nb ^ 2)
    (hnl : nb ≤ ∑ t ∈ range (2 * 2 ^ k), |((b.getD t 0 : Int) : K)|)
    (hdom : ∀ i, i < 2 * 2 ^ k →
      |(((nmul (2 * 2 ^ k) a b).getD i 0 : Int) : K)| + budget K k a b na nb < ((Bv c.toVariant : ℚ) : K)) :
    ∀ i, i < 2 * 2 ^ k → ∃ r : ℤ, (smallProduct (Cfg.parts c) a b)[i]? = some r ∧
      |(r : K) - (((nmul (2 * 2 ^ k) a b).getD i 0 : Int) : K)| ≤ budget K k a b na nb + 1 / 2 :=
  (pipe_out ⟨c, k, cN, sN, cNi, sNi, h, ζ, ζi, hζ, hI, hinv, hcs, hcsi⟩ hk a b ha hb hok na nb ⟨hna0, hna⟩ ⟨hnb0, hnb⟩ hnl).2 hdom

/-- **`small_product_err_partial`** (`k ≤ 16`: every `N = 2·2^k ≤ 131072`).  PROVED CONSTANT: **12** (the property
    says 8; see the header for the reason): every output coefficient `r_i` of the binary64 pipeline is an integer with
      `|r_i − (a ⊛ b)_i| ≤ E' + 1/2`,   `E' = 12·(k+1)·2^-53·(‖a‖₁·nb + na·‖b‖₁)`,   `k + 1 = log2 N`. -/
theorem small_product_err_partial (c : Cfg) (k : ℕ) (hk : k ≤ 16) (cN sN cNi sNi : ℕ → ℕ)
    (h : CfgOk c k cN sN cNi sNi)
    (ζ ζi : Cplx K) (hζ : nsq ζ = 1) (hI : ζ ^ 2 ^ k = Ic) (hinv : ζ * ζi = 1)
    (hcs : ∀ ℓ d b, ℓ + d + 1 = k → b < 2 ^ ℓ →
      nsq (toC (((val (cN (twE ℓ d b)) : ℚ) : K), ((val (sN (twE ℓ d b)) : ℚ) : K)) - ζ ^ twE ℓ d b) ≤
        (((7 / 2 * u64 : ℚ)) : K) ^ 2)
    (hcsi : ∀ ℓ d b, ℓ + d + 1 = k → b < 2 ^ ℓ →
      nsq (toC (((val (cNi (twE ℓ d b)) : ℚ) : K), ((val (sNi (twE ℓ d b)) : ℚ) : K)) - ζi ^ twE ℓ d b) ≤
        (((7 / 2 * u64 : ℚ)) : K) ^ 2)
    (a b : Array Int)
    (ha : ∀ i, i < 2 * 2 ^ k → -1125899906842624 < a.getD i 0 ∧ a.getD i 0 < 1125899906842624)
    (hb : ∀ i, i < 2 * 2 ^ k → -1125899906842624 < b.getD i 0 ∧ b.getD i 0 < 1125899906842624)
    (hok : PipeOk c k cN sN cNi sNi a b)
    (na nb : K) (hna0 : 0 ≤ na) (hnb0 : 0 ≤ nb)
    (hna : ∑ t ∈ range (2 * 2 ^ k), ((a.getD t 0 : Int) : K) ^ 2 ≤ na ^ 2)
    (hnb : ∑ t ∈ range (2 * 2 ^ k), ((b.getD t 0 : Int) : K) ^ 2 ≤ nb ^ 2)
    (hnl : nb ≤ ∑ t ∈ range (2 * 2 ^ k), |((b.getD t 0 : Int) : K)|)
    (hdom : ∀ i, i < 2 * 2 ^ k →
      |(((nmul (2 * 2 ^ k) a b).getD i 0 : Int) : K)| +
        ((12 * (k + 1 : ℚ) * u64 : ℚ) : K) *
          ((∑ t ∈ range (2 * 2 ^ k), |((a.getD t 0 : Int) : K)|) * nb + na * ∑ t ∈ range (2 * 2 ^ k), |((b.getD t 0 : Int) : K)|)
        < ((Bv c.toVariant : ℚ) : K)) :
    ∀ i, i < 2 * 2 ^ k → ∃ r : ℤ, (smallProduct (Cfg.parts c) a b)[i]? = some r ∧
      |(r : K) - (((nmul (2 * 2 ^ k) a b).getD i 0 : Int) : K)| ≤
        ((12 * (k + 1 : ℚ) * u64 : ℚ) : K) *
          ((∑ t ∈ range (2 * 2 ^ k), |((a.getD t 0 : Int) : K)|) * nb + na * ∑ t ∈ range (2 * 2 ^ k), |((b.getD t 0 : Int) : K)|)
        + 1 / 2 := by
  have hle := budget_le16 (K := K) k hk a b na nb hna0 hnb0
  have hdom' : OutDom K c k a b na nb := fun i hi => lt_of_le_of_lt (by have := hle; unfold n1 at this; linarith) (hdom i hi)
  intro i hi
  obtain ⟨r, h1, h2⟩ := (pipe_out ⟨c, k, cN, sN, cNi, sNi, h, ζ, ζi, hζ, hI, hinv, hcs, hcsi⟩ (by show k ≤ 961; omega) a b ha hb
    hok na nb ⟨hna0, hna⟩ ⟨hnb0, hnb⟩ hnl).2 hdom' i hi
  exact ⟨r, h1, le_trans h2 (by have := hle; unfold n1 at this; linarith)⟩

/-- **`small_product_exact_f64_partial`**: if `E' = 12·(k+1)·2^-53·(‖a‖₁·nb + na·‖b‖₁) < 1/2` then the binary64
    pipeline returns the EXACT negacyclic product, as arrays of integers (every kernel combination, every `k ≤ 16`).
    No hypothesis on the domain of the final conversion: `|(a ⊛ b)_i| ≤ S/2 < 2^48`.  ("partial": constant 12 instead
    of 8, and the flag hypothesis `PipeOk` / twiddle accuracy remain hypotheses.) -/
theorem small_product_exact_f64_partial (c : Cfg) (k : ℕ) (hk : k ≤ 16) (cN sN cNi sNi : ℕ → ℕ)
    (h : CfgOk c k cN sN cNi sNi)
    (ζ ζi : Cplx K) (hζ : nsq ζ = 1) (hI : ζ ^ 2 ^ k = Ic) (hinv : ζ * ζi = 1)
    (hcs : ∀ ℓ d b, ℓ + d + 1 = k → b < 2 ^ ℓ →
      nsq (toC (((val (cN (twE ℓ d b)) : ℚ) : K), ((val (sN (twE ℓ d b)) : ℚ) : K)) - ζ ^ twE ℓ d b) ≤
        (((7 / 2 * u64 : ℚ)) : K) ^ 2)
    (hcsi : ∀ ℓ d b, ℓ + d + 1 = k → b < 2 ^ ℓ →
      nsq (toC (((val (cNi (twE ℓ d b)) : ℚ) : K), ((val (sNi (twE ℓ d b)) : ℚ) : K)) - ζi ^ twE ℓ d b) ≤
        (((7 / 2 * u64 : ℚ)) : K) ^ 2)
    (a b : Array Int)
    (ha : ∀ i, i < 2 * 2 ^ k → -1125899906842624 < a.getD i 0 ∧ a.getD i 0 < 1125899906842624)
    (hb : ∀ i, i < 2 * 2 ^ k → -1125899906842624 < b.getD i 0 ∧ b.getD i 0 < 1125899906842624)
    (hok : PipeOk c k cN sN cNi sNi a b)
    (na nb : K) (hna0 : 0 ≤ na) (hnb0 : 0 ≤ nb)
    (hna : ∑ t ∈ range (2 * 2 ^ k), ((a.getD t 0 : Int) : K) ^ 2 ≤ na ^ 2)
    (hnb : ∑ t ∈ range (2 * 2 ^ k), ((b.getD t 0 : Int) : K) ^ 2 ≤ nb ^ 2)
    (hnl : nb ≤ ∑ t ∈ range (2 * 2 ^ k), |((b.getD t 0 : Int) : K)|)
    (hE : ((12 * (k + 1 : ℚ) * u64 : ℚ) : K) *
        ((∑ t ∈ range (2 * 2 ^ k), |((a.getD t 0 : Int) : K)|) * nb + na * ∑ t ∈ range (2 * 2 ^ k), |((b.getD t 0 : Int) : K)|)
      < 1 / 2) :
    smallProduct (Cfg.parts c) a b = nmul (2 * 2 ^ k) a b := by
  have hout := (pipe_out ⟨c, k, cN, sN, cNi, sNi, h, ζ, ζi, hζ, hI, hinv, hcs, hcsi⟩ (by show k ≤ 961; omega) a b ha hb
    hok na nb ⟨hna0, hna⟩ ⟨hnb0, hnb⟩ hnl).2
  have hle := budget_le16 (K := K) k hk a b na nb hna0 hnb0
  have hdom : OutDom K c k a b na nb :=
    Size.outDom (C := ⟨c, k, cN, sN, cNi, sNi, h, ζ, ζi, hζ, hI, hinv, hcs, hcsi⟩) ⟨hna0, hna⟩ ⟨hnb0, hnb⟩ _ hle hE
  apply array_eq_of_cells (2 * 2 ^ k)
  · rw [smallProduct_stages c k cN sN cNi sNi h]
    exact toZnx_size c k h.nn h.toVar _
  · exact size_nmul _ _ _
  · intro i hi
    obtain ⟨r, h1, h2⟩ := hout hdom i hi
    refine ⟨r, h1, int_eq_of_lt_one (K := K) r _ ?_⟩
    unfold n1 at hle
    linarith

/-- **`small_product_err_real_partial`**: over ℝ, `|r_i − (a ⊛ b)_i| ≤ 12·log2(N)·2^-53·(‖a‖₁‖b‖₂ + ‖a‖₂‖b‖₁) + 1/2`
    (the property's `E` with 12 in place of 8), every `N = 2·2^k`, `k ≤ 16`. -/
theorem small_product_err_real_partial (c : Cfg) (k : ℕ) (hk : k ≤ 16) (cN sN cNi sNi : ℕ → ℕ)
    (h : CfgOk c k cN sN cNi sNi)
    (ζ ζi : Cplx ℝ) (hζ : nsq ζ = 1) (hI : ζ ^ 2 ^ k = Ic) (hinv : ζ * ζi = 1)
    (hcs : ∀ ℓ d b, ℓ + d + 1 = k → b < 2 ^ ℓ →
      nsq (toC (((val (cN (twE ℓ d b)) : ℚ) : ℝ), ((val (sN (twE ℓ d b)) : ℚ) : ℝ)) - ζ ^ twE ℓ d b) ≤
        (((7 / 2 * u64 : ℚ)) : ℝ) ^ 2)
    (hcsi : ∀ ℓ d b, ℓ + d + 1 = k → b < 2 ^ ℓ →
      nsq (toC (((val (cNi (twE ℓ d b)) : ℚ) : ℝ), ((val (sNi (twE ℓ d b)) : ℚ) : ℝ)) - ζi ^ twE ℓ d b) ≤
        (((7 / 2 * u64 : ℚ)) : ℝ) ^ 2)
    (a b : Array Int)
    (ha : ∀ i, i < 2 * 2 ^ k → -1125899906842624 < a.getD i 0 ∧ a.getD i 0 < 1125899906842624)
    (hb : ∀ i, i < 2 * 2 ^ k → -1125899906842624 < b.getD i 0 ∧ b.getD i 0 < 1125899906842624)
    (hok : PipeOk c k cN sN cNi sNi a b)
    (hdom : ∀ i, i < 2 * 2 ^ k →
      |(((nmul (2 * 2 ^ k) a b).getD i 0 : Int) : ℝ)| +
        ((12 * (k + 1 : ℚ) * u64 : ℚ) : ℝ) *
          (n1 ℝ a (2 * 2 ^ k) * n2 b (2 * 2 ^ k) + n2 a (2 * 2 ^ k) * n1 ℝ b (2 * 2 ^ k))
        < ((Bv c.toVariant : ℚ) : ℝ)) :
    ∀ i, i < 2 * 2 ^ k → ∃ r : ℤ, (smallProduct (Cfg.parts c) a b)[i]? = some r ∧
      |(r : ℝ) - (((nmul (2 * 2 ^ k) a b).getD i 0 : Int) : ℝ)| ≤
        ((12 * (k + 1 : ℚ) * u64 : ℚ) : ℝ) *
          (n1 ℝ a (2 * 2 ^ k) * n2 b (2 * 2 ^ k) + n2 a (2 * 2 ^ k) * n1 ℝ b (2 * 2 ^ k)) + 1 / 2 :=
  small_product_err_partial c k hk cN sN cNi sNi h ζ ζi hζ hI hinv hcs hcsi a b ha hb hok (n2 a (2 * 2 ^ k))
    (n2 b (2 * 2 ^ k)) (n2_nonneg _ _) (n2_nonneg _ _) (n2_sq _ _) (n2_sq _ _) (n2_le_n1 _ _) hdom

/-- **`small_product_exact_real_partial`**: over ℝ, if `12·log2(N)·2^-53·(‖a‖₁‖b‖₂ + ‖a‖₂‖b‖₁) < 1/2` the binary64
    pipeline returns the exact product. -/
theorem small_product_exact_real_partial (c : Cfg) (k : ℕ) (hk : k ≤ 16) (cN sN cNi sNi : ℕ → ℕ)
    (h : CfgOk c k cN sN cNi sNi)
    (ζ ζi : Cplx ℝ) (hζ : nsq ζ = 1) (hI : ζ ^ 2 ^ k = Ic) (hinv : ζ * ζi = 1)
    (hcs : ∀ ℓ d b, ℓ + d + 1 = k → b < 2 ^ ℓ →
      nsq (toC (((val (cN (twE ℓ d b)) : ℚ) : ℝ), ((val (sN (twE ℓ d b)) : ℚ) : ℝ)) - ζ ^ twE ℓ d b) ≤
        (((7 / 2 * u64 : ℚ)) : ℝ) ^ 2)
    (hcsi : ∀ ℓ d b, ℓ + d + 1 = k → b < 2 ^ ℓ →
      nsq (toC (((val (cNi (twE ℓ d b)) : ℚ) : ℝ), ((val (sNi (twE ℓ d b)) : ℚ) : ℝ)) - ζi ^ twE ℓ d b) ≤
        (((7 / 2 * u64 : ℚ)) : ℝ) ^ 2)
    (a b : Array Int)
    (ha : ∀ i, i < 2 * 2 ^ k → -1125899906842624 < a.getD i 0 ∧ a.getD i 0 < 1125899906842624)
    (hb : ∀ i, i < 2 * 2 ^ k → -1125899906842624 < b.getD i 0 ∧ b.getD i 0 < 1125899906842624)
    (hok : PipeOk c k cN sN cNi sNi a b)
    (hE : ((12 * (k + 1 : ℚ) * u64 : ℚ) : ℝ) *
        (n1 ℝ a (2 * 2 ^ k) * n2 b (2 * 2 ^ k) + n2 a (2 * 2 ^ k) * n1 ℝ b (2 * 2 ^ k)) < 1 / 2) :
    smallProduct (Cfg.parts c) a b = nmul (2 * 2 ^ k) a b :=
  small_product_exact_f64_partial c k hk cN sN cNi sNi h ζ ζi hζ hI hinv hcs hcsi a b ha hb hok (n2 a (2 * 2 ^ k))
    (n2 b (2 * 2 ^ k)) (n2_nonneg _ _) (n2_nonneg _ _) (n2_sq _ _) (n2_sq _ _) (n2_le_n1 _ _) hE

/-- **`small_product_err_prop_partial`**: the preconditions on `a`, `b` are EXACTLY those of the property text —
    `|a_t|, |b_t| < 2^50` and `min(‖a‖₁·‖b‖∞, ‖a‖∞·‖b‖₁) < 2^52` (`ba ≥ ‖a‖∞`, `bb ≥ ‖b‖∞`) — for the conversion kernels the
    module installs (`ref`, `bnd63`; not `bnd50`): the domain of the final conversion is then implied
    (`|c_i| < 2^52`, `E' < 2^25`, repaired `bnd63` kernel exact on `[2^52, 2^63)`).  Remaining hypotheses: dispatch,
    twiddle accuracy, flags.  Constant 12 instead of 8. -/
theorem small_product_err_prop_partial (c : Cfg) (k : ℕ) (hk : k ≤ 16) (cN sN cNi sNi : ℕ → ℕ)
    (h : CfgOk c k cN sN cNi sNi) (hvar : c.toVariant ≠ .bnd50)
    (ζ ζi : Cplx ℝ) (hζ : nsq ζ = 1) (hI : ζ ^ 2 ^ k = Ic) (hinv : ζ * ζi = 1)
    (hcs : ∀ ℓ d b, ℓ + d + 1 = k → b < 2 ^ ℓ →
      nsq (toC (((val (cN (twE ℓ d b)) : ℚ) : ℝ), ((val (sN (twE ℓ d b)) : ℚ) : ℝ)) - ζ ^ twE ℓ d b) ≤
        (((7 / 2 * u64 : ℚ)) : ℝ) ^ 2)
    (hcsi : ∀ ℓ d b, ℓ + d + 1 = k → b < 2 ^ ℓ →
      nsq (toC (((val (cNi (twE ℓ d b)) : ℚ) : ℝ), ((val (sNi (twE ℓ d b)) : ℚ) : ℝ)) - ζi ^ twE ℓ d b) ≤
        (((7 / 2 * u64 : ℚ)) : ℝ) ^ 2)
    (a b : Array Int)
    (ha : ∀ i, i < 2 * 2 ^ k → -1125899906842624 < a.getD i 0 ∧ a.getD i 0 < 1125899906842624)
    (hb : ∀ i, i < 2 * 2 ^ k → -1125899906842624 < b.getD i 0 ∧ b.getD i 0 < 1125899906842624)
    (hok : PipeOk c k cN sN cNi sNi a b)
    (ba bb : ℝ) (hba : ∀ t, t < 2 * 2 ^ k → |((a.getD t 0 : Int) : ℝ)| ≤ ba)
    (hbb : ∀ t, t < 2 * 2 ^ k → |((b.getD t 0 : Int) : ℝ)| ≤ bb)
    (hbud : min (n1 ℝ a (2 * 2 ^ k) * bb) (ba * n1 ℝ b (2 * 2 ^ k)) < 4503599627370496) :
    ∀ i, i < 2 * 2 ^ k → ∃ r : ℤ, (smallProduct (Cfg.parts c) a b)[i]? = some r ∧
      |(r : ℝ) - (((nmul (2 * 2 ^ k) a b).getD i 0 : Int) : ℝ)| ≤
        ((12 * (k + 1 : ℚ) * u64 : ℚ) : ℝ) *
          (n1 ℝ a (2 * 2 ^ k) * n2 b (2 * 2 ^ k) + n2 a (2 * 2 ^ k) * n1 ℝ b (2 * 2 ^ k)) + 1 / 2 :=
  small_product_err_real_partial c k hk cN sN cNi sNi h ζ ζi hζ hI hinv hcs hcsi a b ha hb hok
    (hdom_of_budget52 c k hk hvar a b (n2 a (2 * 2 ^ k)) (n2 b (2 * 2 ^ k)) ba bb (n2_nonneg _ _) (n2_nonneg _ _)
      (n2_le_n1 _ _) (n2_le_n1 _ _) hba hbb hbud)

/-- **`svp_row_small_product`**: in the binary64 module, row `i` (`i < rsz2`, `i < rsz`, `i < asz`) of
    `vecIdft (svpApply (svpPrepare pol) vec)` is BIT FOR BIT `smallProduct (limb_i vec) pol` (every limb count, every
    stride) — so the budget theorems apply row by row. -/
theorem svp_row_small_product (c : Cfg) (k : ℕ) (cN sN cNi sNi : ℕ → ℕ) (h : CfgOk c k cN sN cNi sNi)
    (pol vec : Array Int) (asz asl rsz rsz2 i : ℕ) (hi : i < rsz2) (hi2 : i < rsz) (hi3 : i < asz) :
    dlimb (vecIdft (Cfg.parts c) rsz2 (svpApply (Cfg.parts c) rsz (svpPrepare (Cfg.parts c) pol) vec asz asl) rsz) i
        (2 * 2 ^ k) =
      smallProduct (Cfg.parts c) (limbOf vec i asl (2 * 2 ^ k)) pol := by
  rw [idft_limb c k h.nn h.toVar rsz2 _ rsz i hi, if_pos hi2, svp_limb c k cN sN cNi sNi h rsz _ vec asz asl i hi2,
    if_pos hi3]
  rfl

/-- **`svp_err_partial`**: every coefficient of row `i` of the SVP pipeline is an integer within `E' + 1/2` of the
    coefficient of `limb_i · pol` in `ℤ[X]/(X^N + 1)`, `E' = 12·(k+1)·2^-53·(‖limb_i‖₁·nb + na·‖pol‖₁)` (constant 12, as
    `small_product_err_partial`; `a` is limb `i` of `vec`). -/
theorem svp_err_partial (c : Cfg) (k : ℕ) (hk : k ≤ 16) (cN sN cNi sNi : ℕ → ℕ) (h : CfgOk c k cN sN cNi sNi)
    (ζ ζi : Cplx K) (hζ : nsq ζ = 1) (hI : ζ ^ 2 ^ k = Ic) (hinv : ζ * ζi = 1)
    (hcs : ∀ ℓ d b, ℓ + d + 1 = k → b < 2 ^ ℓ →
      nsq (toC (((val (cN (twE ℓ d b)) : ℚ) : K), ((val (sN (twE ℓ d b)) : ℚ) : K)) - ζ ^ twE ℓ d b) ≤
        (((7 / 2 * u64 : ℚ)) : K) ^ 2)
    (hcsi : ∀ ℓ d b, ℓ + d + 1 = k → b < 2 ^ ℓ →
      nsq (toC (((val (cNi (twE ℓ d b)) : ℚ) : K), ((val (sNi (twE ℓ d b)) : ℚ) : K)) - ζi ^ twE ℓ d b) ≤
        (((7 / 2 * u64 : ℚ)) : K) ^ 2)
    (pol vec : Array Int) (asz asl rsz rsz2 i : ℕ) (hi : i < rsz2) (hi2 : i < rsz) (hi3 : i < asz)
    (a : Array Int) (hal : limbOf vec i asl (2 * 2 ^ k) = a)
    (ha : ∀ t, t < 2 * 2 ^ k → -1125899906842624 < a.getD t 0 ∧ a.getD t 0 < 1125899906842624)
    (hb : ∀ t, t < 2 * 2 ^ k → -1125899906842624 < pol.getD t 0 ∧ pol.getD t 0 < 1125899906842624)
    (hok : PipeOk c k cN sN cNi sNi a pol)
    (na nb : K) (hna0 : 0 ≤ na) (hnb0 : 0 ≤ nb)
    (hna : ∑ t ∈ range (2 * 2 ^ k), ((a.getD t 0 : Int) : K) ^ 2 ≤ na ^ 2)
    (hnb : ∑ t ∈ range (2 * 2 ^ k), ((pol.getD t 0 : Int) : K) ^ 2 ≤ nb ^ 2)
    (hnl : nb ≤ ∑ t ∈ range (2 * 2 ^ k), |((pol.getD t 0 : Int) : K)|)
    (hdom : ∀ t, t < 2 * 2 ^ k →
      |(((nmul (2 * 2 ^ k) a pol).getD t 0 : Int) : K)| +
        ((12 * (k + 1 : ℚ) * u64 : ℚ) : K) *
          ((∑ t ∈ range (2 * 2 ^ k), |((a.getD t 0 : Int) : K)|) * nb + na * ∑ t ∈ range (2 * 2 ^ k), |((pol.getD t 0 : Int) : K)|)
        < ((Bv c.toVariant : ℚ) : K)) :
    ∀ t, t < 2 * 2 ^ k → ∃ r : ℤ,
      (dlimb (vecIdft (Cfg.parts c) rsz2 (svpApply (Cfg.parts c) rsz (svpPrepare (Cfg.parts c) pol) vec asz asl) rsz) i
        (2 * 2 ^ k))[t]? = some r ∧
      |(r : K) - (((nmul (2 * 2 ^ k) a pol).getD t 0 : Int) : K)| ≤
        ((12 * (k + 1 : ℚ) * u64 : ℚ) : K) *
          ((∑ t ∈ range (2 * 2 ^ k), |((a.getD t 0 : Int) : K)|) * nb + na * ∑ t ∈ range (2 * 2 ^ k), |((pol.getD t 0 : Int) : K)|)
        + 1 / 2 := by
  rw [svp_row_small_product c k cN sN cNi sNi h pol vec asz asl rsz rsz2 i hi hi2 hi3, hal]
  exact small_product_err_partial c k hk cN sN cNi sNi h ζ ζi hζ hI hinv hcs hcsi a pol ha hb hok na nb hna0 hnb0 hna hnb
    hnl hdom

/-- **`svp_exact_f64_partial`**: if `E' < 1/2`, row `i` of the binary64 SVP pipeline is EXACTLY `limb_i · pol` in
    `ℤ[X]/(X^N + 1)`. -/
theorem svp_exact_f64_partial (c : Cfg) (k : ℕ) (hk : k ≤ 16) (cN sN cNi sNi : ℕ → ℕ) (h : CfgOk c k cN sN cNi sNi)
    (ζ ζi : Cplx K) (hζ : nsq ζ = 1) (hI : ζ ^ 2 ^ k = Ic) (hinv : ζ * ζi = 1)
    (hcs : ∀ ℓ d b, ℓ + d + 1 = k → b < 2 ^ ℓ →
      nsq (toC (((val (cN (twE ℓ d b)) : ℚ) : K), ((val (sN (twE ℓ d b)) : ℚ) : K)) - ζ ^ twE ℓ d b) ≤
        (((7 / 2 * u64 : ℚ)) : K) ^ 2)
    (hcsi : ∀ ℓ d b, ℓ + d + 1 = k → b < 2 ^ ℓ →
      nsq (toC (((val (cNi (twE ℓ d b)) : ℚ) : K), ((val (sNi (twE ℓ d b)) : ℚ) : K)) - ζi ^ twE ℓ d b) ≤
        (((7 / 2 * u64 : ℚ)) : K) ^ 2)
    (pol vec : Array Int) (asz asl rsz rsz2 i : ℕ) (hi : i < rsz2) (hi2 : i < rsz) (hi3 : i < asz)
    (a : Array Int) (hal : limbOf vec i asl (2 * 2 ^ k) = a)
    (ha : ∀ t, t < 2 * 2 ^ k → -1125899906842624 < a.getD t 0 ∧ a.getD t 0 < 1125899906842624)
    (hb : ∀ t, t < 2 * 2 ^ k → -1125899906842624 < pol.getD t 0 ∧ pol.getD t 0 < 1125899906842624)
    (hok : PipeOk c k cN sN cNi sNi a pol)
    (na nb : K) (hna0 : 0 ≤ na) (hnb0 : 0 ≤ nb)
    (hna : ∑ t ∈ range (2 * 2 ^ k), ((a.getD t 0 : Int) : K) ^ 2 ≤ na ^ 2)
    (hnb : ∑ t ∈ range (2 * 2 ^ k), ((pol.getD t 0 : Int) : K) ^ 2 ≤ nb ^ 2)
    (hnl : nb ≤ ∑ t ∈ range (2 * 2 ^ k), |((pol.getD t 0 : Int) : K)|)
    (hE : ((12 * (k + 1 : ℚ) * u64 : ℚ) : K) *
        ((∑ t ∈ range (2 * 2 ^ k), |((a.getD t 0 : Int) : K)|) * nb + na * ∑ t ∈ range (2 * 2 ^ k), |((pol.getD t 0 : Int) : K)|)
      < 1 / 2) :
    dlimb (vecIdft (Cfg.parts c) rsz2 (svpApply (Cfg.parts c) rsz (svpPrepare (Cfg.parts c) pol) vec asz asl) rsz) i
        (2 * 2 ^ k) = nmul (2 * 2 ^ k) a pol := by
  rw [svp_row_small_product c k cN sN cNi sNi h pol vec asz asl rsz rsz2 i hi hi2 hi3, hal]
  exact small_product_exact_f64_partial c k hk cN sN cNi sNi h ζ ζi hζ hI hinv hcs hcsi a pol ha hb hok na nb hna0 hnb0
    hna hnb hnl hE

/-! ### the hypotheses are satisfiable, the statements are not vacuous

  `N = 2` (`k = 0`), `K = ℚ`, `ζ = i`, `ζi = −i`, the all-reference module `exC` (`Lemmas/ProdErrExample.lean`),
  `a = 1 + 2X`, `b = 3 + 4X`, `na = 3 ≥ √5`, `nb = 5 = √25 ≤ ‖b‖₁ = 7`: every hypothesis of the exactness theorem
  holds (`exCfgOk`, `exPipeOk`: all flags of the four flagged stage runs), and its conclusion is the evaluated model.
  For `m ≥ 2` the exact roots are irrational: `K = ℝ`, `ζ = exp(iπ/2m)` (as `Closed.realRoot`), and the two
  twiddle-accuracy hypotheses become statements about the stored tables. -/

example : smallProduct (Cfg.parts exC) #[1, 2] #[3, 4] = nmul (2 * 2 ^ 0) #[1, 2] #[3, 4] :=
  small_product_exact_f64_partial (K := ℚ) exC 0 (by omega) z0 z0 z0 z0 exCfgOk Ic (-Ic)
    (by simp [nsq, Ic]) (by simp) (by rw [mul_neg, Ic_sq, neg_neg])
    (fun ℓ d b h => by omega) (fun ℓ d b h => by omega) #[1, 2] #[3, 4]
    (by intro i hi; have : i = 0 ∨ i = 1 := by omega
        rcases this with rfl | rfl <;> decide)
    (by intro i hi; have : i = 0 ∨ i = 1 := by omega
        rcases this with rfl | rfl <;> decide)
    exPipeOk 3 5 (by norm_num) (by norm_num)
    ((n2sq_pair ℚ 1 2).trans_le (by norm_num)) ((n2sq_pair ℚ 3 4).trans_le (by norm_num))
    (le_of_le_of_eq (by norm_num) (n1_pair ℚ 3 4).symm)
    (by show _ * (n1 ℚ #[1, 2] 2 * _ + _ * n1 ℚ #[3, 4] 2) < _
        rw [n1_pair, n1_pair]; unfold u64; norm_num)

/-- the same value, by evaluating the bit-exact model and the specification -/
example : smallProduct (Cfg.parts exC) #[1, 2] #[3, 4] = #[-5, 10] ∧ nmul (2 * 2 ^ 0) #[1, 2] #[3, 4] = #[-5, 10] := by
  constructor <;> decide +kernel

end Spq.C01Err
