/-
  C07 — accelerated kernels compute the same function as their reference kernels.

  (1) `dispatch_closed` (Gen obligation): in every row of `Gen.Dispatch.rows` (a constructor of a table object or an
      entry of the MODULE function table, one of 5 CPU-feature masks, the kernel that the LIVE library installs there,
      read back from the constructed objects on every run, and the dimensions among 2^0..2^16 at which it does) the
      kernel belongs to the equivalence class listed in `classes` below — the variants that are proved equivalent here
      or in the per-family property files and tied pairwise by the correspondence streams.  A new or different kernel
      behind any dispatch decision that the table records makes the obligation fail.  Which sites, masks and
      dimensions the rows cover is the doing of `tools/gen_dispatch.py`; `dispatch_nonvacuous` gives a floor.
  (2) integer / data-movement kernels: the 4-lane chunked AVX loops `znx_add/sub/negate_i64_avx` compute exactly
      the reference kernels (arrays of `nn` cells) for every dimension with `nn ≤ 2 ∨ 4 ∣ nn`; every power of two is such a
      dimension, and the cell count `CoeffsAvx.extent` of the chunked loop is `nn` there (`pow2_in_domain`).
  (3) per family (theorems of the family files): reim4 extract/save/conversion AVX = reference (equality);
      reim4 / reim / cplx products, ref = avx2/fma/sse/avx512 in exact arithmetic (C17); q120 products ref ≡ avx2
      modulo each prime (C10/C04); conversions: both variants satisfy the same contract (C14); FFT: both flavours are
      the same butterfly network in exact arithmetic (C06).
  Not a theorem: bit-level agreement of float kernels across variants (they differ by rounding; each variant is tied
  bit-exactly to its own model by the streams).
-/
import SpqProofs.Lemmas.CoeffsAvx
import SpqProofs.Lemmas.Table
import SpqProofs.Properties.C17
import Gen.Dispatch
namespace Spq.C07
open Spq
variable {α : Type}

/-- allowed kernels per dispatch site -/
def classes : List (String × List String) := [
  ("new_reim_to_znx64_precomp/51", ["reim_to_znx64_avx2_bnd63_fma", "reim_to_znx64_ref"]),
  ("new_reim_to_znx64_precomp/52", ["reim_to_znx64_avx2_bnd63_fma", "reim_to_znx64_ref"]),
  ("new_cplx_to_tnx32_precomp/19", ["cplx_to_tnx32_ref"]),
  ("module0.p_conv", ["reim_from_znx64_bnd50_fma", "reim_from_znx64_ref"]),
  ("module0.p_fft", ["reim_fft_avx2_fma", "reim_fft_ref"]),
  ("module0.p_ifft", ["reim_ifft_avx2_fma", "reim_ifft_ref"]),
  -- the module builds its output conversion for results up to 2^63 (the wide variant): the fast bnd50 variant is NOT allowed here
  ("module0.p_reim_to_znx", ["reim_to_znx64_avx2_bnd63_fma", "reim_to_znx64_ref"]),
  ("module0.p_addmul", ["reim_fftvec_addmul_fma", "reim_fftvec_addmul_ref"]),
  ("module0.mul_fft", ["reim_fftvec_mul_fma", "reim_fftvec_mul_ref"]),
  ("module0.bytes_of_svp_ppol", ["fft64_bytes_of_svp_ppol"]),
  ("module0.bytes_of_vec_znx_big", ["fft64_bytes_of_vec_znx_big"]),
  ("module0.bytes_of_vec_znx_dft", ["fft64_bytes_of_vec_znx_dft"]),
  ("module0.bytes_of_vmp_pmat", ["fft64_bytes_of_vmp_pmat"]),
  ("module0.svp_apply_dft", ["fft64_svp_apply_dft_ref"]),
  ("module0.svp_prepare", ["fft64_svp_prepare_ref"]),
  ("module0.vec_znx_add", ["vec_znx_add_avx", "vec_znx_add_ref"]),
  ("module0.vec_znx_automorphism", ["vec_znx_automorphism_ref"]),
  ("module0.vec_znx_big_add", ["fft64_vec_znx_big_add"]),
  ("module0.vec_znx_big_add_small", ["fft64_vec_znx_big_add_small"]),
  ("module0.vec_znx_big_add_small2", ["fft64_vec_znx_big_add_small2"]),
  ("module0.vec_znx_big_automorphism", ["fft64_vec_znx_big_automorphism"]),
  ("module0.vec_znx_big_normalize_base2k", ["fft64_vec_znx_big_normalize_base2k"]),
  ("module0.vec_znx_big_normalize_base2k_tmp_bytes", ["fft64_vec_znx_big_normalize_base2k_tmp_bytes"]),
  ("module0.vec_znx_big_range_normalize_base2k", ["fft64_vec_znx_big_range_normalize_base2k"]),
  ("module0.vec_znx_big_range_normalize_base2k_tmp_bytes", ["fft64_vec_znx_big_normalize_base2k_tmp_bytes"]),
  ("module0.vec_znx_big_rotate", ["fft64_vec_znx_big_rotate"]),
  ("module0.vec_znx_big_sub", ["fft64_vec_znx_big_sub"]),
  ("module0.vec_znx_big_sub_small2", ["fft64_vec_znx_big_sub_small2"]),
  ("module0.vec_znx_big_sub_small_a", ["fft64_vec_znx_big_sub_small_a"]),
  ("module0.vec_znx_big_sub_small_b", ["fft64_vec_znx_big_sub_small_b"]),
  ("module0.vec_znx_copy", ["vec_znx_copy_ref"]),
  ("module0.vec_znx_dft", ["fft64_vec_znx_dft"]),
  ("module0.vec_znx_idft", ["fft64_vec_znx_idft"]),
  ("module0.vec_znx_idft_tmp_a", ["fft64_vec_znx_idft_tmp_a"]),
  ("module0.vec_znx_idft_tmp_bytes", ["fft64_vec_znx_idft_tmp_bytes"]),
  ("module0.vec_znx_negate", ["vec_znx_negate_avx", "vec_znx_negate_ref"]),
  ("module0.vec_znx_normalize_base2k", ["vec_znx_normalize_base2k_ref"]),
  ("module0.vec_znx_normalize_base2k_tmp_bytes", ["fft64_vec_znx_big_normalize_base2k_tmp_bytes"]),
  ("module0.vec_znx_rotate", ["vec_znx_rotate_ref"]),
  ("module0.vec_znx_sub", ["vec_znx_sub_avx", "vec_znx_sub_ref"]),
  ("module0.vec_znx_zero", ["vec_znx_zero_ref"]),
  ("module0.vmp_apply_dft", ["fft64_vmp_apply_dft_avx", "fft64_vmp_apply_dft_ref"]),
  ("module0.vmp_apply_dft_tmp_bytes", ["fft64_vmp_apply_dft_tmp_bytes"]),
  ("module0.vmp_apply_dft_to_dft", ["fft64_vmp_apply_dft_to_dft_avx", "fft64_vmp_apply_dft_to_dft_ref"]),
  ("module0.vmp_apply_dft_to_dft_tmp_bytes", ["fft64_vmp_apply_dft_to_dft_tmp_bytes"]),
  ("module0.vmp_prepare_contiguous", ["fft64_vmp_prepare_contiguous_avx", "fft64_vmp_prepare_contiguous_ref"]),
  ("module0.vmp_prepare_contiguous_tmp_bytes", ["fft64_vmp_prepare_contiguous_tmp_bytes"]),
  ("module0.znx_small_single_product", ["fft64_znx_small_single_product"]),
  ("module0.znx_small_single_product_tmp_bytes", ["fft64_znx_small_single_product_tmp_bytes"]),
  ("module1.bytes_of_svp_ppol", ["NULL"]),
  ("module1.bytes_of_vec_znx_big", ["NULL"]),
  ("module1.bytes_of_vec_znx_dft", ["NULL"]),
  ("module1.bytes_of_vmp_pmat", ["NULL"]),
  ("module1.svp_apply_dft", ["NULL"]),
  ("module1.svp_prepare", ["NULL"]),
  ("module1.vec_znx_add", ["vec_znx_add_avx"]),
  ("module1.vec_znx_automorphism", ["vec_znx_automorphism_ref"]),
  ("module1.vec_znx_big_add", ["NULL"]),
  ("module1.vec_znx_big_add_small", ["NULL"]),
  ("module1.vec_znx_big_add_small2", ["NULL"]),
  ("module1.vec_znx_big_automorphism", ["NULL"]),
  ("module1.vec_znx_big_normalize_base2k", ["NULL"]),
  ("module1.vec_znx_big_normalize_base2k_tmp_bytes", ["NULL"]),
  ("module1.vec_znx_big_range_normalize_base2k", ["NULL"]),
  ("module1.vec_znx_big_range_normalize_base2k_tmp_bytes", ["NULL"]),
  ("module1.vec_znx_big_rotate", ["NULL"]),
  ("module1.vec_znx_big_sub", ["NULL"]),
  ("module1.vec_znx_big_sub_small2", ["NULL"]),
  ("module1.vec_znx_big_sub_small_a", ["NULL"]),
  ("module1.vec_znx_big_sub_small_b", ["NULL"]),
  ("module1.vec_znx_copy", ["vec_znx_copy_ref"]),
  ("module1.vec_znx_dft", ["ntt120_vec_znx_dft_avx"]),
  ("module1.vec_znx_idft", ["ntt120_vec_znx_idft_avx"]),
  ("module1.vec_znx_idft_tmp_a", ["ntt120_vec_znx_idft_tmp_a_avx"]),
  ("module1.vec_znx_idft_tmp_bytes", ["ntt120_vec_znx_idft_tmp_bytes_avx"]),
  ("module1.vec_znx_negate", ["vec_znx_negate_avx"]),
  ("module1.vec_znx_normalize_base2k", ["vec_znx_normalize_base2k_ref"]),
  ("module1.vec_znx_normalize_base2k_tmp_bytes", ["fft64_vec_znx_big_normalize_base2k_tmp_bytes"]),
  ("module1.vec_znx_rotate", ["vec_znx_rotate_ref"]),
  ("module1.vec_znx_sub", ["vec_znx_sub_avx"]),
  ("module1.vec_znx_zero", ["vec_znx_zero_ref"]),
  ("module1.vmp_apply_dft", ["NULL"]),
  ("module1.vmp_apply_dft_tmp_bytes", ["NULL"]),
  ("module1.vmp_apply_dft_to_dft", ["NULL"]),
  ("module1.vmp_apply_dft_to_dft_tmp_bytes", ["NULL"]),
  ("module1.vmp_prepare_contiguous", ["NULL"]),
  ("module1.vmp_prepare_contiguous_tmp_bytes", ["NULL"]),
  ("module1.znx_small_single_product", ["NULL"]),
  ("module1.znx_small_single_product_tmp_bytes", ["NULL"]),
  ("new_cplx_fft_precomp", ["cplx_fft_avx2_fma", "cplx_fft_ref"]),
  ("new_cplx_fftvec_addmul_precomp", ["cplx_fftvec_addmul_fma", "cplx_fftvec_addmul_ref"]),
  ("new_cplx_fftvec_mul_precomp", ["cplx_fftvec_mul_fma", "cplx_fftvec_mul_ref"]),
  ("new_cplx_from_tnx32_precomp", ["cplx_from_tnx32_avx2_fma", "cplx_from_tnx32_ref"]),
  ("new_cplx_from_znx32_precomp", ["cplx_from_znx32_avx2_fma", "cplx_from_znx32_ref"]),
  ("new_cplx_ifft_precomp", ["cplx_ifft_avx2_fma", "cplx_ifft_ref"]),
  ("new_cplx_to_tnx32_precomp/18", ["cplx_to_tnx32_avx2_fma", "cplx_to_tnx32_ref"]),
  ("new_reim4_fftvec_addmul_precomp", ["reim4_fftvec_addmul_fma", "reim4_fftvec_addmul_ref"]),
  ("new_reim4_fftvec_mul_precomp", ["reim4_fftvec_mul_fma", "reim4_fftvec_mul_ref"]),
  ("new_reim4_from_cplx_precomp", ["reim4_from_cplx_fma", "reim4_from_cplx_ref"]),
  ("new_reim4_to_cplx_precomp", ["reim4_to_cplx_fma", "reim4_to_cplx_ref"]),
  ("new_reim_fft_precomp", ["reim_fft_avx2_fma", "reim_fft_ref"]),
  ("new_reim_fftvec_addmul_precomp", ["reim_fftvec_addmul_fma", "reim_fftvec_addmul_ref"]),
  ("new_reim_fftvec_mul_precomp", ["reim_fftvec_mul_fma", "reim_fftvec_mul_ref"]),
  ("new_reim_from_znx64_precomp", ["reim_from_znx64_bnd50_fma", "reim_from_znx64_ref"]),
  ("new_reim_ifft_precomp", ["reim_ifft_avx2_fma", "reim_ifft_ref"]),
  ("new_reim_to_tnx_precomp", ["reim_to_tnx_avx", "reim_to_tnx_ref"]),
  ("new_reim_to_znx64_precomp/50", ["reim_to_znx64_avx2_bnd50_fma", "reim_to_znx64_ref"]),
  ("new_reim_to_znx64_precomp/63", ["reim_to_znx64_avx2_bnd63_fma", "reim_to_znx64_ref"])
]

/-- smallest log2 of the dimension (m for constructors, N for module entries) for which an accelerated kernel may be
    installed: the vector kernels are only valid from their loop granularity upwards (8 doubles per iteration, …) -/
def minLg : List (String × String × Nat) := [
  ("module0.mul_fft", "reim_fftvec_mul_fma", 3),
  ("module0.mul_fft", "reim_fftvec_mul_ref", 1),
  ("module0.p_addmul", "reim_fftvec_addmul_fma", 3),
  ("module0.p_addmul", "reim_fftvec_addmul_ref", 1),
  ("module0.p_conv", "reim_from_znx64_bnd50_fma", 4),
  ("module0.p_conv", "reim_from_znx64_ref", 1),
  ("module0.p_fft", "reim_fft_avx2_fma", 1),
  ("module0.p_fft", "reim_fft_ref", 1),
  ("module0.p_ifft", "reim_ifft_avx2_fma", 1),
  ("module0.p_ifft", "reim_ifft_ref", 1),
  ("module0.p_reim_to_znx", "reim_to_znx64_avx2_bnd63_fma", 4),
  ("module0.p_reim_to_znx", "reim_to_znx64_ref", 1),
  ("new_cplx_fft_precomp", "cplx_fft_avx2_fma", 3),
  ("new_cplx_fftvec_addmul_precomp", "cplx_fftvec_addmul_fma", 3),
  ("new_cplx_fftvec_mul_precomp", "cplx_fftvec_mul_fma", 3),
  ("new_cplx_from_tnx32_precomp", "cplx_from_tnx32_avx2_fma", 3),
  ("new_cplx_from_znx32_precomp", "cplx_from_znx32_avx2_fma", 3),
  ("new_cplx_ifft_precomp", "cplx_ifft_avx2_fma", 3),
  ("new_cplx_to_tnx32_precomp/18", "cplx_to_tnx32_avx2_fma", 3),
  ("new_reim4_fftvec_addmul_precomp", "reim4_fftvec_addmul_fma", 2),
  ("new_reim4_fftvec_addmul_precomp", "reim4_fftvec_addmul_ref", 2),
  ("new_reim4_fftvec_mul_precomp", "reim4_fftvec_mul_fma", 2),
  ("new_reim4_fftvec_mul_precomp", "reim4_fftvec_mul_ref", 2),
  ("new_reim4_from_cplx_precomp", "reim4_from_cplx_fma", 2),
  ("new_reim4_from_cplx_precomp", "reim4_from_cplx_ref", 2),
  ("new_reim4_to_cplx_precomp", "reim4_to_cplx_fma", 2),
  ("new_reim4_to_cplx_precomp", "reim4_to_cplx_ref", 2),
  ("new_reim_fftvec_addmul_precomp", "reim_fftvec_addmul_fma", 2),
  ("new_reim_fftvec_mul_precomp", "reim_fftvec_mul_fma", 2),
  ("new_reim_from_znx64_precomp", "reim_from_znx64_bnd50_fma", 3),
  ("new_reim_to_tnx_precomp", "reim_to_tnx_avx", 3),
  ("new_reim_to_znx64_precomp/50", "reim_to_znx64_avx2_bnd50_fma", 3),
  ("new_reim_to_znx64_precomp/63", "reim_to_znx64_avx2_bnd63_fma", 3),
  ("new_reim_to_znx64_precomp/51", "reim_to_znx64_avx2_bnd63_fma", 3),
  ("new_reim_to_znx64_precomp/52", "reim_to_znx64_avx2_bnd63_fma", 3)
]

def minLgOf (site kernel : String) : Nat :=
  match minLg.find? (fun e => e.1 == site && e.2.1 == kernel) with
  | some e => e.2.2
  | none => 0

def rowOK (r : String × Nat × String × List Nat) : Bool :=
  match classes.lookup r.1 with
  | some ks => ks.contains r.2.2.1 && r.2.2.2.all (fun lg => decide (minLgOf r.1 r.2.2.1 ≤ lg))
  | none => false

/-- Gen obligation: every kernel installed by the live library is in its class -/
theorem dispatch_closed : Gen.Dispatch.rows.all rowOK = true := by
  -- the rows of a site are adjacent: its class and its `minLg` entries are looked up once per site
  have h : @Table.allByRuns _ _ _ Table.lenBEq (·.1) (@Table.siteInfo Table.lenBEq classes minLg) (@Table.rowOKAt Table.lenBEq) ""
      (@Table.siteInfo Table.lenBEq classes minLg "") Gen.Dispatch.rows = true := by decide +kernel
  rw [Table.lenBEq_eq, Table.allByRuns_eq] at h
  simp only [Table.rowOKAt_siteInfo] at h
  exact h

/-- non-vacuity: the table covers the module function table and the FFT constructors under the all-off mask -/
theorem dispatch_nonvacuous :
    (Gen.Dispatch.rows.any (fun r => r.1 == "new_reim_fft_precomp" && r.2.1 == 1 && r.2.2.1 == "reim_fft_ref") &&
     Gen.Dispatch.rows.any (fun r => r.1 == "module0.vmp_apply_dft" && r.2.2.1 == "fft64_vmp_apply_dft_avx") &&
     decide (Gen.Dispatch.rows.length ≥ 300)) = true := by decide +kernel

/-- `znx_add_i64_avx` = `znx_add_i64_ref` -/
theorem znx_add_avx_eq_ref (o : Ops α) (nn : Nat) (a b : Array α) (h : nn ≤ 2 ∨ 4 ∣ nn) :
    CoeffsAvx.add o nn a b = Coeffs.add o nn a b := by
  unfold CoeffsAvx.add Coeffs.add; exact CoeffsAvx.run_eq nn _ h

theorem znx_sub_avx_eq_ref (o : Ops α) (nn : Nat) (a b : Array α) (h : nn ≤ 2 ∨ 4 ∣ nn) :
    CoeffsAvx.sub o nn a b = Coeffs.sub o nn a b := by
  unfold CoeffsAvx.sub Coeffs.sub; exact CoeffsAvx.run_eq nn _ h

theorem znx_negate_avx_eq_ref (o : Ops α) (nn : Nat) (a : Array α) (h : nn ≤ 2 ∨ 4 ∣ nn) :
    CoeffsAvx.negate o nn a = Coeffs.negate o nn a := by
  unfold CoeffsAvx.negate Coeffs.negate; exact CoeffsAvx.run_eq nn _ h

/-- every power of two is in the domain of the three theorems above, and the cell count `extent` of the chunked loop is then `nn` -/
theorem pow2_in_domain (t : Nat) : (2 ^ t ≤ 2 ∨ 4 ∣ 2 ^ t) ∧ CoeffsAvx.extent (2 ^ t) = 2 ^ t := by
  rcases t with _ | _ | t
  · simp [CoeffsAvx.extent]
  · simp [CoeffsAvx.extent]
  · have h4 : (4 : Nat) ∣ 2 ^ (t + 2) := ⟨2 ^ t, by rw [Nat.pow_add]; omega⟩
    refine ⟨Or.inr h4, ?_⟩
    obtain ⟨k, hk⟩ := h4
    have : ¬ (2 ^ (t + 2) ≤ 2) := by
      have : 2 ^ (t + 2) = 4 * 2 ^ t := by rw [Nat.pow_add]; omega
      have : 0 < 2 ^ t := Nat.pos_of_ne_zero (by simp)
      omega
    simp only [CoeffsAvx.extent, this, if_false]
    omega

end Spq.C07
