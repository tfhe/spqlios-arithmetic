/-
  C03, module level — `ntt120_vec_znx_dft_avx`, `ntt120_vec_znx_idft_avx`, `ntt120_vec_znx_idft_tmp_a_avx`
  (spqlios/arithmetic/vec_znx_dft.c): int64 limbs -> residues -> NTT -> … -> inverse NTT -> CRT lift.

  Objects.  `Spq/ModuleNtt.lean` is the executable model the stream `mn_model` (harness/mn.cpp) compares bit-exactly
  with the three real functions (DFT cells as uint64, big coefficients as 128-bit integers, clobbered source of
  `_tmp_a`, the whole shared buffer of the in-place call), for n = 1..65536, limb counts 0..4, all strides:
     vecDft M res_size a a_size a_sl            the 4·nn·res_size cells of `res`
     vecIdft M res_size dft a_size              the nn·res_size 128-bit coefficients of `res` (res, a_dft disjoint)
     vecIdftTmpA M res_size dft a_size          (res, a_dft after the call)
     vecIdftInplace M res_size a_size buf       the shared buffer of 64-bit cells after the call with res == a_dft
  `curMod k` is the module of dimension `nn = 2^k` of the current build: level / reduction metadata of the live
  precomp objects (`Gen.nttMeta`, `Gen.inttMeta`, regenerated on every run), twiddle tables of the table model
  (`tableFwd`, `tableInv`: stream `qn_tables`), primes and CRT constants of `q120_common.h` (`curParams`).
  The hypotheses on tables / constants are exactly those of C03 / C10 / C04: the kernel-checked certificates
  `cert_current` (no-wrap intervals, roots) and `crtOK_current`, `bigQ_gt_current`, `primes_small_current`, collected in
  `ModuleNtt.modSpec_cur`; the lemmas behind the theorems hold for any module description with these properties (`ModSpec`).

  Domain: every `k ≤ 16` (nn = 1 … 65536, `k = 0` included), every int64 value (INT64_MIN, INT64_MAX included), every
  `a_size`, `dft_size`, `res_size` (0 and unequal included), every stride `a_sl` (`a_sl ≥ nn` is what the C contract
  asks; the theorems do not need it: limb `i` is read at coefficients `i·a_sl … i·a_sl + nn - 1` whatever `a_sl`).
-/
import SpqProofs.Lemmas.NttModVec

namespace Spq.C03Mod
open Spq Spq.Q120 Spq.Q120Ntt Spq.ModuleNtt Finset

/-- **round trip, all 64-bit data**: for every `nn = 2^k ≤ 2^16`, every vector of int64 limbs and every
    `(a_size, dft_size, res_size, a_sl)`: coefficient `t` of limb `i < res_size` of `vec_znx_idft(vec_znx_dft(a))`,
    a 128-bit integer, is coefficient `t` of limb `i` of `a` (sign-extended) if `i < min(a_size, dft_size)` and `0`
    otherwise.  Unconditional on the values. -/
theorem ntt120_dft_idft_roundtrip (k : Nat) (hk : k ≤ 16) (a : Array Int) (ha : ∀ t, IsI64 (a.getD t 0))
    (aSize dftSize resSize aSl : Nat) (i t : Nat) (hi : i < resSize) (ht : t < 2 ^ k) :
    (vecIdft (curMod k) resSize (vecDft (curMod k) dftSize a aSize aSl) dftSize).getD (2 ^ k * i + t) 0
      = if i < aSize ∧ i < dftSize then a.getD (i * aSl + t) 0 else 0 :=
  (modSpec_cur k hk).getD_vecIdft_vecDft a ha aSize dftSize resSize aSl i t hi ht

/-- **`_tmp_a` = disjoint call** (any module description, any cells): `vec_znx_idft_tmp_a` returns the big vector
    of `vec_znx_idft`; in its source, limbs `i < min(res_size, a_size)` are replaced by the raw lanes of the inverse
    transform of that limb and all other cells are untouched. -/
theorem ntt120_idft_tmp_a_eq (M : ModPre) (resSize : Nat) (dft : Array Nat) (aSize : Nat) :
    (vecIdftTmpA M resSize dft aSize).1 = vecIdft M resSize dft aSize
    ∧ (vecIdftTmpA M resSize dft aSize).2.size = dft.size
    ∧ ∀ i c, c < 4 * 2 ^ M.k → 4 * 2 ^ M.k * i + c < dft.size →
        (vecIdftTmpA M resSize dft aSize).2.getD (4 * 2 ^ M.k * i + c) 0
          = if i < min resSize aSize then (inttCells M (cellsAt dft (4 * 2 ^ M.k * i) (4 * 2 ^ M.k))).getD c 0
            else dft.getD (4 * 2 ^ M.k * i + c) 0 :=
  ⟨vecIdftTmpA_fst M resSize dft aSize, size_vecIdftTmpA_snd M resSize dft aSize,
   fun i c hc hsz => getD_vecIdftTmpA_snd M resSize dft aSize i c hc hsz⟩

/-- **round trip through `_tmp_a`** -/
theorem ntt120_dft_idft_tmp_a_roundtrip (k : Nat) (hk : k ≤ 16) (a : Array Int) (ha : ∀ t, IsI64 (a.getD t 0))
    (aSize dftSize resSize aSl : Nat) (i t : Nat) (hi : i < resSize) (ht : t < 2 ^ k) :
    (vecIdftTmpA (curMod k) resSize (vecDft (curMod k) dftSize a aSize aSl) dftSize).1.getD (2 ^ k * i + t) 0
      = if i < aSize ∧ i < dftSize then a.getD (i * aSl + t) 0 else 0 := by
  rw [vecIdftTmpA_fst]
  exact (modSpec_cur k hk).getD_vecIdft_vecDft a ha aSize dftSize resSize aSl i t hi ht

/-- **in place = out of place (C13)**, any module description whose CRT constants pass `crtOK`, ANY content of
    the buffer: after `vec_znx_idft(module, buf, res_size, buf, a_size, tmp)` on a buffer of 64-bit cells that holds at
    least the `res_size` result limbs, the buffer read as 128-bit integers (`readBig`, two's complement, little endian)
    holds what the disjoint call returns for the original cells; the cells behind the result are not touched. -/
theorem ntt120_idft_inplace_eq_outofplace (M : ModPre) (ok : crtOK M.P = true) (resSize aSize : Nat) (buf : Array Nat)
    (hsz : 2 * 2 ^ M.k * resSize ≤ buf.size) :
    (vecIdftInplace M resSize aSize buf).size = buf.size
    ∧ (∀ i t, i < resSize → t < 2 ^ M.k →
        readBig (vecIdftInplace M resSize aSize buf) (2 ^ M.k * i + t) = (vecIdft M resSize buf aSize).getD (2 ^ M.k * i + t) 0)
    ∧ ∀ c, 2 * 2 ^ M.k * resSize ≤ c → (vecIdftInplace M resSize aSize buf).getD c 0 = buf.getD c 0 :=
  ⟨(vecIdftInplace_frame M resSize aSize buf hsz _ (Nat.le_refl _)).1,
   fun i t hi ht => readBig_vecIdftInplace M ok resSize aSize buf hsz i t hi ht,
   fun c hc => (vecIdftInplace_frame M resSize aSize buf hsz c hc).2⟩

/-- **round trip in place**: the buffer starts with the `dft_size` limbs of `vec_znx_dft(a)` (whatever follows
    them) and is large enough for the `res_size` result limbs -/
theorem ntt120_dft_idft_inplace_roundtrip (k : Nat) (hk : k ≤ 16) (a : Array Int) (ha : ∀ t, IsI64 (a.getD t 0))
    (aSize dftSize resSize aSl : Nat) (buf : Array Nat)
    (hres : 2 * 2 ^ k * resSize ≤ buf.size)
    (hbuf : ∀ c < 4 * 2 ^ k * dftSize, buf.getD c 0 = (vecDft (curMod k) dftSize a aSize aSl).getD c 0)
    (i t : Nat) (hi : i < resSize) (ht : t < 2 ^ k) :
    readBig (vecIdftInplace (curMod k) resSize dftSize buf) (2 ^ k * i + t)
      = if i < aSize ∧ i < dftSize then a.getD (i * aSl + t) 0 else 0 := by
  have h := readBig_vecIdftInplace (curMod k) crtOK_current resSize dftSize buf hres i t hi ht
  have g := getD_vecIdft_congr (curMod k) resSize buf (vecDft (curMod k) dftSize a aSize aSl) dftSize hbuf i t hi ht
  exact (h.trans g).trans ((modSpec_cur k hk).getD_vecIdft_vecDft a ha aSize dftSize resSize aSl i t hi ht)

/-- **the DFT vector is the vector of residues of the evaluations** (every `k ≤ 16`): with
    `w_j = OMEGA_j^(2^16/nn)` (a primitive `2nn`-th root of unity modulo `q_j`: `w_j^nn = -1`), cell `4p + j` of limb
    `i < min(dft_size, a_size)` is, in `ZMod q_j`, the value of the limb polynomial `Σ_t a[i·a_sl + t] X^t` at
    `w_j^(2·brev_k(p) + 1)` — the `nn` roots of `X^nn + 1`, in bit-reversed order; the limbs
    `min(dft_size, a_size) ≤ i < dft_size` are zero. -/
theorem ntt120_dft_is_evaluation (k : Nat) (hk : k ≤ 16) (a : Array Int) (ha : ∀ t, IsI64 (a.getD t 0))
    (aSize dftSize aSl : Nat) (i : Nat) (hi : i < dftSize) (j : Nat) (hj : j < 4) :
    let q := Gen.q120_q j
    let w : ZMod q := ((omegaN q (Gen.q120_omega j) k : Nat) : ZMod q)
    w ^ (2 ^ k) = -1 ∧
    ∀ p < 2 ^ k,
      (((vecDft (curMod k) dftSize a aSize aSl).getD (4 * 2 ^ k * i + (4 * p + j)) 0 : Nat) : ZMod q)
        = if i < aSize then ∑ t ∈ range (2 ^ k), ((a.getD (i * aSl + t) 0 : Int) : ZMod q) * w ^ (t * (2 * brev k p + 1))
          else 0 := by
  intro q w
  obtain ⟨hw, hev⟩ := (modSpec_cur k hk).dft_limb_eval j hj (limbI64 a (i * aSl) (2 ^ k)) (isI64_limbI64 a ha _ _)
  refine ⟨hw, fun p hp => ?_⟩
  have g := getD_vecDft (curMod k) dftSize a aSize aSl i (4 * p + j) hi (show 4 * p + j < 4 * 2 ^ k by omega)
  rw [show (curMod k).k = k from rfl] at g
  rw [g]
  by_cases hs : i < aSize
  · rw [if_pos (by omega : i < min dftSize aSize), if_pos hs]
    refine (hev p hp).trans (sum_congr rfl fun t ht => ?_)
    rw [getD_limbI64 _ _ _ _ (mem_range.1 ht)]
    rfl
  · rw [if_neg (by omega : ¬ i < min dftSize aSize), if_neg hs]; simp

/-- **products in DFT space are negacyclic products modulo `Q`** (the NTT120 side of C16), every `k ≤ 16`:
    let `X = vec_znx_dft(a)`, `Y = vec_znx_dft(b)` and let `P` be ANY vector of 64-bit cells whose limb `ip` is, lane by
    lane, congruent modulo `q_j` to the product of limb `ia` of `X` and limb `ib` of `Y`.  Then coefficient `t` of limb
    `ip` of `vec_znx_idft(P)` is congruent modulo every `q_j` (hence modulo `Q = q0 q1 q2 q3`) to coefficient `t` of
    the negacyclic product of the two int64 limbs (`nprodZ`, an exact integer), lies in `[-(Q-1)/2, (Q-1)/2]`, and is
    that integer whenever it lies in this range. -/
theorem ntt120_dft_product_is_negacyclic (k : Nat) (hk : k ≤ 16)
    (a b : Array Int) (ha : ∀ t, IsI64 (a.getD t 0)) (hb : ∀ t, IsI64 (b.getD t 0))
    (aSize aSl xSize bSize bSl ySize : Nat) (P : Array Nat) (hP : ∀ c, P.getD c 0 < W64) (pSize resSize : Nat)
    (ia ib ip : Nat) (hia : ia < min xSize aSize) (hib : ib < min ySize bSize) (hip : ip < min resSize pSize)
    (hprod : ∀ t < 2 ^ k, ∀ j < 4,
      P.getD (4 * 2 ^ k * ip + (4 * t + j)) 0 % Gen.q120_q j
        = ((vecDft (curMod k) xSize a aSize aSl).getD (4 * 2 ^ k * ia + (4 * t + j)) 0
            * (vecDft (curMod k) ySize b bSize bSl).getD (4 * 2 ^ k * ib + (4 * t + j)) 0) % Gen.q120_q j)
    (t : Nat) (ht : t < 2 ^ k) :
    let r := (vecIdft (curMod k) resSize P pSize).getD (2 ^ k * ip + t) 0
    let c := nprodZ (2 ^ k) (limbI64 a (ia * aSl) (2 ^ k)) (limbI64 b (ib * bSl) (2 ^ k)) t
    (∀ j < 4, r % (Gen.q120_q j : Int) = c % (Gen.q120_q j : Int))
    ∧ -(((bigQN curParams : Int) - 1) / 2) ≤ r ∧ r ≤ ((bigQN curParams : Int) - 1) / 2
    ∧ (-(((bigQN curParams : Int) - 1) / 2) ≤ c ∧ c ≤ ((bigQN curParams : Int) - 1) / 2 → r = c) := by
  dsimp only
  have hkk : (curMod k).k = k := rfl
  have g := getD_vecIdft (curMod k) resSize P pSize ip t (by omega) (by rw [hkk]; exact ht)
  rw [hkk, if_pos hip] at g
  rw [g]
  refine (modSpec_cur k hk).idft_prod_limb _ _ (isI64_limbI64 a ha _ _) (isI64_limbI64 b hb _ _)
    (cellsAt P (4 * 2 ^ k * ip) (4 * 2 ^ k)) (size_cellsAt _ _ _)
    (fun c => by
      by_cases h : c < 4 * 2 ^ k
      · rw [getD_cellsAt _ _ _ _ h]; exact hP _
      · rw [getD_of_size_le _ _ _ (by rw [size_cellsAt]; omega)]; decide)
    (fun t' (ht' : t' < 2 ^ k) j hj => ?_) t ht
  have hc : 4 * t' + j < 4 * 2 ^ k := by omega
  have gx := getD_vecDft (curMod k) xSize a aSize aSl ia (4 * t' + j) (by omega) (by rw [hkk]; exact hc)
  have gy := getD_vecDft (curMod k) ySize b bSize bSl ib (4 * t' + j) (by omega) (by rw [hkk]; exact hc)
  rw [hkk, if_pos hia] at gx
  rw [hkk, if_pos hib] at gy
  rw [getD_cellsAt _ _ _ _ hc, ← gx, ← gy]
  exact hprod t' ht' j hj

/-! ### the hypotheses are satisfiable / the statements are not vacuous (kernel-evaluated instances of the model) -/

/-- every entry of a concrete vector with INT64_MIN / INT64_MAX is an int64 (the hypothesis `ha`) -/
example : ∀ t, IsI64 ((#[-9223372036854775808, 9223372036854775807, -1, 5] : Array Int).getD t 0) := by
  intro t
  have : t = 0 ∨ t = 1 ∨ t = 2 ∨ t = 3 ∨ 4 ≤ t := by omega
  rcases this with rfl | rfl | rfl | rfl | h
  · unfold IsI64; decide
  · unfold IsI64; decide
  · unfold IsI64; decide
  · unfold IsI64; decide
  · rw [getD_of_size_le _ _ _ (by simpa using h)]; unfold IsI64; decide

/-- n = 4, `a_size = 2`, `a_sl = 5` (one unused coefficient between the limbs), `dft_size = res_size = 3`: the round
    trip returns the two limbs (INT64_MIN, INT64_MAX included) and a zero limb; the third DFT limb is zero-filled and
    the first one is not the input -/
example :
    let a : Array Int := #[-9223372036854775808, 9223372036854775807, -1, 5, 77, 0, 1, -2, 3, 99]
    vecIdft (curMod 2) 3 (vecDft (curMod 2) 3 a 2 5) 3
      = #[-9223372036854775808, 9223372036854775807, -1, 5, 0, 1, -2, 3, 0, 0, 0, 0]
    ∧ (vecDft (curMod 2) 3 a 2 5).extract 32 48 = Array.replicate 16 0
    ∧ (vecDft (curMod 2) 3 a 2 5).getD 0 0 ≠ 0 := by
  decide +kernel

/-- n = 2, in place with a result (3 limbs = 12 cells) longer than what the 2 source limbs need to stay disjoint:
    the shared buffer read as 128-bit integers is the disjoint result, i.e. the input limbs and a zero limb; `_tmp_a`
    gives the same and overwrites its source -/
example :
    let a : Array Int := #[-9223372036854775808, 9223372036854775807, -7, 12345678901234567]
    let buf := vecDft (curMod 1) 2 a 2 2
    buf.size = 16
    ∧ bigOf (vecIdftInplace (curMod 1) 3 2 buf) 6 = vecIdft (curMod 1) 3 buf 2
    ∧ vecIdft (curMod 1) 3 buf 2 = #[-9223372036854775808, 9223372036854775807, -7, 12345678901234567, 0, 0]
    ∧ (vecIdftTmpA (curMod 1) 3 buf 2).1 = vecIdft (curMod 1) 3 buf 2
    ∧ (vecIdftTmpA (curMod 1) 3 buf 2).2 ≠ buf := by
  decide +kernel

/-- products in DFT space, n = 2: `(1 + 2X)(3 + 4X) = -5 + 10X mod X^2 + 1`; the product limb is formed lane by lane
    with a plain `%` (any representative would do) -/
example :
    let X := vecDft (curMod 1) 1 #[1, 2] 1 2
    let Y := vecDft (curMod 1) 1 #[3, 4] 1 2
    let P : Array Nat := Array.ofFn (n := 8) fun c => (X.getD c.val 0 * Y.getD c.val 0) % Gen.q120_q (c.val % 4)
    vecIdft (curMod 1) 1 P 1 = #[-5, 10]
    ∧ nprodZ 2 #[1, 2] #[3, 4] 0 = -5 ∧ nprodZ 2 #[1, 2] #[3, 4] 1 = 10 := by
  refine ⟨by decide +kernel, by decide +kernel, by decide +kernel⟩

end Spq.C03Mod
