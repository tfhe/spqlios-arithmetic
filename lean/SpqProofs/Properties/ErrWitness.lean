/-
  NON-VACUITY WITNESS WITH REAL TWIDDLE FACTORS for the binary64 rounding theorems
  (`C06Err.reim_fft_err`, `reim_ifft_err`, `C01Err.small_product_err_partial`, `small_product_exact_f64_partial`,
  `C02Err.vmp_exact_f64_partial`, `C16Err.roundtrip_exact_f64_partial` and the budgets `RtBudget` / `ProdBudget` of `C16Err`).

  The `example`s next to these theorems instantiate them at `k = 0` (`m = 1`, `N = 2`, `K = ℚ`, `ζ = i`), where the transform has
  no butterfly and the twiddle-accuracy hypotheses `hcs` / `hcsi` are vacuous.  Here: `k = 2`, `m = 4`, `N = 8`, `K = ℝ`,
      `ζ = exp(iπ/8) = cos(π/8) + i·sin(π/8)`  (`zeta`),   `ζi = exp(−iπ/8)`  (`zetai`),
  the tables are the binary64 patterns that `new_reim_fft_precomp(4)` / `new_reim_ifft_precomp(4)` of the library STORE
  (`cN sN cNi sNi`, `witness_tables_k2`), the configuration is the one `new_module_info(8, FFT64)` INSTALLS on an
  AVX2/FMA machine (`libC8`: FMA transforms, FMA pointwise product, plain conversions), and the input is
      `a = 3 − X + 4X² + X³ − 5X⁴ + 9X⁵ + 2X⁶ − 6X⁷`,   `b = 2 + 7X − X² + 8X³ + 2X⁴ − 8X⁵ + X⁶ + 8X⁷`.
  Every hypothesis is discharged — the set {`CfgOk`, twiddle accuracy `3.5u` of BOTH tables, flags, budget} is JOINTLY
  satisfiable at a size with real twiddles:
   * `|ζ| = 1`, `ζ^m = i`, `ζ·ζi = 1`: Mathlib's `Real.cos` / `Real.sin`, de Moivre (`Lemmas/ErrWitnessRoot.lean`);
   * `hcs`, `hcsi`: `cos(π/8) = √(2+√2)/2`, `sin(π/8) = √(2−√2)/2`, `cos(π/4) = sin(π/4) = √2/2` enclosed between
     rationals by squaring; every stored component is within `1u` (measured: `0.44u, 0.56u, 0.16u, 0.09u`), hence every
     pair within `√2·u < 3.5u` (`Lemmas/ErrWitnessTable.lean`).  NOTE: the network of `m = 4` uses the exponents
     `twE = 2, 1, 5`; exponent 5 is not stored (the kernel runs the `i·ω` butterfly on entry 1) but `hcs` asks for it:
     it is satisfied by the virtual entry `(cN 5, sN 5) = (−sN 1, cN 1)`;
   * flags (`hok`, `PipeOk`, `RtOk`): a Boolean-flag copy of the flagged arithmetic (`aOkB`, integer test of
     `NormalRange`) simulates the propositional one, and the Boolean run is evaluated by `decide +kernel`
     (`Lemmas/ErrWitnessFlags.lean`, `ErrWitnessXfer.lean`, `ErrWitnessInst.lean`);
   * budget: `‖a‖₁ = 31`, `‖a‖₂² = 173 ≤ 14²`, `‖b‖₁ = 37`, `‖b‖₂² = 251 ≤ 16²`: `12·3·2^-53·(31·16 + 14·37) < 1/2`.
  The conclusions are cross-checked by evaluating the bit-exact model; the patterns / integers are those the RUNNING
  library returns on this input (`reim_fft_avx2_fma`, `reim_fft_ref`, `fft64_znx_small_single_product`).
-/
import SpqProofs.Lemmas.ErrWitnessProg
import SpqProofs.Lemmas.ErrWitnessVmpInst
import SpqProofs.Properties.C06Err
import SpqProofs.Properties.C01Err
import SpqProofs.Properties.C02Err
import SpqProofs.Properties.C16Err
namespace Spq.ErrWitnessProp
open Finset Spq Spq.Module Spq.Fft Spq.Fft.Alg Spq.Fft.SchedN Spq.FftErr Spq.F64 Spq.ProdErr Spq.Conv Spq.VmpErr
  Spq.ErrWitness Spq.ProgErr

/- elaboration only: the flag hypotheses are projections `(… )[p]!.2` of closed terms; without this the elaborator's
   `whnf` would try to evaluate the whole flagged transform (the kernel does that, inside `decide +kernel`) -/
attribute [local irreducible] reimFftA reimIfftA vmpApplyDftToDft vmpPrepare

/-- **the root**: `ζ = cos(π/8) + i·sin(π/8)` with `|ζ| = 1`, `ζ^4 = i`, `ζi = conj ζ`, `|ζi| = 1`, `ζi^4 = −i`, `ζ·ζi = 1` -/
theorem witness_root_k2 :
    zeta = (⟨Real.cos (Real.pi / 8), Real.sin (Real.pi / 8)⟩ : Cplx ℝ) ∧ nsq zeta = 1 ∧ zeta ^ 2 ^ 2 = Ic ∧
    zetai = (⟨zeta.re, -zeta.im⟩ : Cplx ℝ) ∧ nsq zetai = 1 ∧ zetai ^ 2 ^ 2 = -Ic ∧ zeta * zetai = 1 :=
  ⟨rfl, nsq_zeta, zeta_pow_m, zetai_conj, nsq_zetai, zetai_pow_m, zeta_mul_zetai⟩

/-- **the stored tables**: the tables of the theorems are the patterns the library stores for `m = 4`, and both are
    within `3.5·2^-53` of the exact roots — `hcs` and `hcsi` in exactly the form the theorems require -/
theorem witness_tables_k2 :
    ((reimFftEnts (2 ^ 2)).map (valP cN sN)).toArray =
      #[4604544271217802189, 4604544271217802188, 4606496786581982534, 4600565431771507043] ∧
    ((reimIfftEnts (2 ^ 2)).map (valP cNi sNi)).toArray =
      #[4606496786581982534, 13823937468626282851, 4604544271217802189, 13827916308072577996] ∧
    (∀ ℓ d b, ℓ + d + 1 = 2 → b < 2 ^ ℓ →
      nsq (toC (((val (cN (twE ℓ d b)) : ℚ) : ℝ), ((val (sN (twE ℓ d b)) : ℚ) : ℝ)) - zeta ^ twE ℓ d b) ≤
        (((7 / 2 * u64 : ℚ)) : ℝ) ^ 2) ∧
    (∀ ℓ d b, ℓ + d + 1 = 2 → b < 2 ^ ℓ →
      nsq (toC (((val (cNi (twE ℓ d b)) : ℚ) : ℝ), ((val (sNi (twE ℓ d b)) : ℚ) : ℝ)) - zetai ^ twE ℓ d b) ≤
        (((7 / 2 * u64 : ℚ)) : ℝ) ^ 2) :=
  ⟨tabF_lib, tabI_lib, hcs4, hcsi4⟩

/-- the hypotheses are not vacuous: the exponents really occur (`ℓ + d + 1 = 2`, `b < 2^ℓ`) -/
example : twE 0 1 0 = 2 ∧ twE 1 0 0 = 1 ∧ twE 1 0 1 = 5 := by decide

/-- **the configuration** installed for `N = 8` satisfies `CfgOk` / `VCfgOk` with these tables -/
theorem witness_cfg_k2 : CfgOk libC8 2 cN sN cNi sNi ∧ VCfgOk libC8 2 cN sN cNi sNi := ⟨libCfgOk, libVCfgOk⟩

/-- **`reim_fft_err` at `m = 4`**, both implementations, input `3 − 5i, −1 + 9i, 4 + 2i, 1 − 6i`: NO hypothesis left -/
theorem witness_reim_fft_err_k2 (fma : Bool) :
    (∀ p, p < 2 * 2 ^ 2 →
      Fin64 ((reimFft (if fma then "fma" else "ref") (2 ^ 2) ((reimFftEnts (2 ^ 2)).map (valP cN sN)).toArray exD8)[p]!)) ∧
    ∑ j ∈ range (2 ^ 2),
        nsq (outC (reimFft (if fma then "fma" else "ref") (2 ^ 2) ((reimFftEnts (2 ^ 2)).map (valP cN sN)).toArray exD8) 2 j
          - exactOut zeta 2 exD8 j) ≤
      ((1 + ((8 * u64 : ℚ) : ℝ)) ^ 2 - 1) ^ 2 * ∑ j ∈ range (2 ^ 2), nsq (exactOut zeta 2 exD8 j) :=
  C06Err.reim_fft_err fma 2 zeta nsq_zeta zeta_pow_m cN sN hcs4 exD8 exD8_size (fwd_ok fma)

/-- the property's form of the bound, `8·log2(2m)·2^-53 = 24·2^-53` -/
theorem witness_reim_fft_err_prop_k2 (fma : Bool) :
    ∑ j ∈ range (2 ^ 2),
        nsq (outC (reimFft (if fma then "fma" else "ref") (2 ^ 2) ((reimFftEnts (2 ^ 2)).map (valP cN sN)).toArray exD8) 2 j
          - exactOut zeta 2 exD8 j) ≤
      (((8 * ((2 : ℕ) + 1 : ℚ) * u64 : ℚ)) : ℝ) ^ 2 * ∑ j ∈ range (2 ^ 2), nsq (exactOut zeta 2 exD8 j) :=
  C06Err.reim_fft_err_prop fma 2 (by omega) zeta nsq_zeta zeta_pow_m cN sN hcs4 exD8 exD8_size (fwd_ok fma)

/-- the transform the bound is about, evaluated: the patterns that `reim_fft_avx2_fma` AND `reim_fft_ref` of the library
    return on this input -/
example : reimFft "fma" (2 ^ 2) ((reimFftEnts (2 ^ 2)).map (valP cN sN)).toArray exD8 =
      #[4618410054537187982, 4613614197135054515, 13843748501720723752, 4622320278076434848,
        4618219223757501269, 13843296682171914659, 13849564327500461205, 4607413680280691344] ∧
    reimFft "ref" (2 ^ 2) ((reimFftEnts (2 ^ 2)).map (valP cN sN)).toArray exD8 =
      #[4618410054537187982, 4613614197135054515, 13843748501720723752, 4622320278076434848,
        4618219223757501269, 13843296682171914659, 13849564327500461205, 4607413680280691344] :=
  ⟨by rw [← exD8_eq]; exact exFA_val, by decide +kernel⟩

/-- **`reim_ifft_err` at `m = 4`**, both implementations, on the DFT-space product `exI8` of the pipeline -/
theorem witness_reim_ifft_err_k2 (fma : Bool) :
    (∀ p, p < 2 * 2 ^ 2 →
      Fin64 ((reimIfft (if fma then "fma" else "ref") (2 ^ 2) ((reimIfftEnts (2 ^ 2)).map (valP cNi sNi)).toArray exI8)[p]!)) ∧
    ∑ j ∈ range (2 ^ 2),
        nsq (outC (reimIfft (if fma then "fma" else "ref") (2 ^ 2) ((reimIfftEnts (2 ^ 2)).map (valP cNi sNi)).toArray exI8) 2 j
          - exactInv zetai 2 exI8 j) ≤
      ((1 + ((8 * u64 : ℚ) : ℝ)) ^ 2 - 1) ^ 2 * ∑ j ∈ range (2 ^ 2), nsq (exactInv zetai 2 exI8 j) :=
  C06Err.reim_ifft_err fma 2 zetai nsq_zetai zetai_pow_m cNi sNi hcsi4 exI8 exI8_size (inv_ok fma)

/-- the input / output of that inverse transform, evaluated (library: `reim_fftvec_mul_fma`, `reim_ifft_avx2_fma`);
    cell 0 of the output is `1.25·2^-45` (`≈ 3.6·10^-14`), not `0`: rounding really happens -/
example : exI8 = #[13845397238386677708, 13854275141426580816, 4640059075995002033, 13861199981087373246,
        4635315372556800038, 4627187909523694509, 13870618453242833711, 13862554378290830888] ∧
    reimIfft "fma" (2 ^ 2) ((reimIfftEnts (2 ^ 2)).map (valP cNi sNi)).toArray exI8 =
      #[4405646335475187712, 13868694314999087102, 4646518546795331582, 4646729653027864575,
        13871192405417394176, 13859264903279280124, 4648383318516039680, 13865175877790203903] :=
  ⟨exI8_val, by rw [exI8_val]; decide +kernel⟩

/-- the flags of all four stages hold for this input -/
theorem witness_pipe_ok_k2 : PipeOk libC8 2 cN sN cNi sNi exA8 exB8 := libPipeOk

/-- **`small_product_exact_f64_partial` at `N = 8`**: NO hypothesis left -/
theorem witness_small_product_exact_k2 :
    smallProduct (Cfg.parts libC8) exA8 exB8 = nmul (2 * 2 ^ 2) exA8 exB8 :=
  C01Err.small_product_exact_f64_partial (K := ℝ) libC8 2 (by omega) cN sN cNi sNi libCfgOk zeta zetai nsq_zeta zeta_pow_m
    zeta_mul_zetai hcs4 hcsi4 exA8 exB8 exA8_box exB8_box libPipeOk 14 16 (by norm_num) (by norm_num) exA8_n2 exB8_n2
    exB8_nl ex_budget

/-- both sides evaluated: the bit-exact model returns what the library returns, and it is the negacyclic product -/
example : smallProduct (Cfg.parts libC8) exA8 exB8 = #[0, -94, 111, 114, -131, -22, 147, -54] ∧
    nmul (2 * 2 ^ 2) exA8 exB8 = #[0, -94, 111, 114, -131, -22, 147, -54] := by
  refine ⟨?_, ex_nmul⟩
  rw [smallProduct_stages libC8 2 cN sN cNi sNi libCfgOk]
  show (Cfg.parts libC8).toZnx (reimIfft _ _ _ exI8) = _
  rw [exI8_val]; decide +kernel

/-- **`small_product_err_partial` at `N = 8`** (the error form; `Bv ref = 2^63`): NO hypothesis left -/
theorem witness_small_product_err_k2 :
    ∀ i, i < 2 * 2 ^ 2 → ∃ r : ℤ, (smallProduct (Cfg.parts libC8) exA8 exB8)[i]? = some r ∧
      |(r : ℝ) - (((nmul (2 * 2 ^ 2) exA8 exB8).getD i 0 : Int) : ℝ)| ≤
        ((12 * ((2 : ℕ) + 1 : ℚ) * u64 : ℚ) : ℝ) *
          ((∑ t ∈ range (2 * 2 ^ 2), |((exA8.getD t 0 : Int) : ℝ)|) * 16 + 14 * ∑ t ∈ range (2 * 2 ^ 2), |((exB8.getD t 0 : Int) : ℝ)|)
        + 1 / 2 :=
  C01Err.small_product_err_partial (K := ℝ) libC8 2 (by omega) cN sN cNi sNi libCfgOk zeta zetai nsq_zeta zeta_pow_m
    zeta_mul_zetai hcs4 hcsi4 exA8 exB8 exA8_box exB8_box libPipeOk 14 16 (by norm_num) (by norm_num) exA8_n2 exB8_n2
    exB8_nl ex_outdom

/-- the flags of the `2 × 1` vector-matrix product (two limbs, two entries, accumulation, inverse transform) -/
theorem witness_vmp_ok_k2 : VmpOk libC8 2 cN sN cNi sNi exMat 2 1 exVec 2 8 1 0 :=
  { okA := forall_lt_two (by rw [limb0]; exact lib_okA) (by rw [limb1]; exact lib_okB)
    okB := forall_lt_two (by rw [ent00]; exact lib_okB) (by rw [ent10]; exact lib_okC)
    okD := vmp_flags_of_all libC8 2 (le_refl 2) cN sN cNi sNi libVCfgOk exMat 2 1 exVec 2 8 1 0 (by decide)
      (by unfold vmpFlagsB vmpFlagB; rw [exVecDft_val]; decide +kernel)
    okI := by
      rw [exVmpRes_val]
      exact ifft_flags_of_all (ifamOf libC8.ifftFma) (ifamOf_ok _) 2 cNi sNi _ (by decide +kernel) (by decide +kernel) }

/-- **`vmp_exact_f64_partial` at `N = 8`**, `2 × 1` matrix (two rows accumulate; 1-column AVX2 kernel): NO hypothesis left -/
theorem witness_vmp_exact_k2 :
    dlimb (vecIdft (Cfg.parts libC8) 1
        (vmpApplyDft (Cfg.parts libC8) 1 exVec 2 8 (vmpPrepare (Cfg.parts libC8) exMat 2 1) 2 1) 1) 0 (2 * 2 ^ 2) =
      isum (2 * 2 ^ 2) (min 2 2)
        (fun i => nmul (2 * 2 ^ 2) (limbOf exVec i 8 (2 * 2 ^ 2)) (matEntry exMat 1 (2 * 2 ^ 2) i 0)) :=
  C02Err.vmp_exact_f64_partial (K := ℝ) libC8 2 (by omega) cN sN cNi sNi libVCfgOk zeta zetai nsq_zeta zeta_pow_m
    zeta_mul_zetai hcs4 hcsi4 exMat 2 1 exVec 2 8 1 1 (by decide) exVec_box exMat_box 0 (by decide) (by decide)
    (fun h => absurd h (by decide)) witness_vmp_ok_k2 exNa exNb exNa_nonneg exNb_nonneg exVec_n2 exMat_n2 exMat_nl exVmp_budget

/-- both sides evaluated: the model returns what the library returns (`vmp_prepare_contiguous`, `vmp_apply_dft`,
    `vec_znx_idft`), and it is `a₀ ⊛ M₀₀ + a₁ ⊛ M₁₀` -/
example : vecIdft (Cfg.parts libC8) 1
      (vmpApplyDft (Cfg.parts libC8) 1 exVec 2 8 (vmpPrepare (Cfg.parts libC8) exMat 2 1) 2 1) 1 =
      #[84, -123, 131, 175, -189, -31, 169, -1] ∧
    isum (2 * 2 ^ 2) (min 2 2)
        (fun i => nmul (2 * 2 ^ 2) (limbOf exVec i 8 (2 * 2 ^ 2)) (matEntry exMat 1 (2 * 2 ^ 2) i 0)) =
      #[84, -123, 131, 175, -189, -31, 169, -1] := by
  refine ⟨?_, by decide +kernel⟩
  show vecIdft (Cfg.parts libC8) 1 (vmpRes libC8 exMat 2 1 exVec 2 8 1) 1 = _
  rw [exVmpRes_val]; decide +kernel

/-- the binary64 module of `N = 8` as an `F64Mod ℝ` (root, tables, accuracy bundled) with the round-trip budget of `a`
    and the product budget of `(a, b)` -/
theorem witness_budgets_k2 : libMod8.k = 2 ∧ libMod8.c = libC8 ∧ RtBudget libMod8 exA8 ∧ ProdBudget libMod8 exA8 exB8 :=
  ⟨rfl, rfl, libRtBudget, libProdBudget⟩

/-- **`roundtrip_exact_f64_partial` at `N = 8`**: `toZnx (ifft (fft (fromZnx a))) = a`, NO hypothesis left -/
theorem witness_roundtrip_exact_k2 :
    libMod8.parts.toZnx (libMod8.parts.ifft (libMod8.parts.fft (libMod8.parts.fromZnx exA8))) = firstN libMod8.N exA8 :=
  C16Err.roundtrip_exact_f64_partial libMod8 exA8 libRtBudget

example : libMod8.parts.toZnx (libMod8.parts.ifft (libMod8.parts.fft (libMod8.parts.fromZnx exA8))) =
    #[3, -1, 4, 1, -5, 9, 2, -6] := by
  rw [show libMod8.parts.fft (libMod8.parts.fromZnx exA8) = stF libC8 2 cN sN exA8 from
    parts_fft libC8 2 cN sN cNi sNi libCfgOk exA8, exFA_val]
  decide +kernel

end Spq.ErrWitnessProp
