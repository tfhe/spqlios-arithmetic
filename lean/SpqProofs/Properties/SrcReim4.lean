/-
  SrcReim4: the C SOURCE equals the hand-written model, for all inputs — the reference reim4 block kernels of
  spqlios/reim4/reim4_arithmetic_ref.c that property C17 is about:
  `reim4_extract_1blk_from_reim_ref`, `reim4_save_1blk_to_reim_ref`, `reim4_extract_1blk_from_contiguous_reim_ref`
  (layout-only kernels: pure copies of binary64 cells, no arithmetic).

  Conventions of the statements (as in `Properties/SrcElem.lean`):
  * `mem : Mem` is the whole memory; `dst` is bound to `some (d, 0)`, `src` to `some (s, 0)`; the buffers have EXACTLY the
    size of the C contract (a block = 8 cells, a reim vector = `2m` cells, `nrows` contiguous reim vectors = `2·m·nrows` cells,
    `nrows` blocks = `8·nrows` cells);
  * aliasing allowed: NONE — `dst` and `src` are distinct buffers (`s ≠ d`);
  * `blk < m/4` (the C `assert`) is stated as `4·blk + 4 ≤ m`; `2m < 2^64`;
  * the model functions are `Spq.Reim4.extract1blkFromReimRef`, `save1blkToReimRef`, `extract1blkFromContiguousReimRef`
    (`Spq/Reim4.lean`) on cells (`Int` patterns, out-of-range default `0`);
  * straight-line kernels need no fuel; the loop of the contiguous extraction needs `2·nrows`;
  * `src_<f>_no_oob`: for EVERY fuel the run is not an out-of-bounds / null / overlap / ub / unsupported error.
-/
import Gen.CSrc
import Spq.Reim4
import SpqProofs.Lemmas.SrcReim4
namespace Spq.Src
open Spq Spq.CIR Spq.Reim4

theorem src_reim4_extract_1blk_from_reim_ref_eq_model (m blk : Nat) (hm : 2 * m < 18446744073709551616)
    (hblk : 4 * blk + 4 ≤ m) (mem : Mem) (d s : Nat) (hsd : s ≠ d)
    (hd : (buf mem d).size = 8) (hs : (buf mem s).size = 2 * m) :
    ∀ fuel, run fuel Gen.CSrc.reim4_extract_1blk_from_reim_ref [(m : Int), (blk : Int)] [some (d, 0), some (s, 0)] mem
        = .ok (mem.setIfInBounds d (extract1blkFromReimRef (0 : Int) m blk (buf mem d) (buf mem s))) := by
  intro fuel
  have eb : eval [some (d, 0), some (s, 0)] ⟨[(m : Int), (blk : Int), 0, 0], mem.setIfInBounds d (buf mem d)⟩
      (.bin .shl .u64 (.var 1) (.lit 2)) = .ok ((4 * blk : Nat) : Int) :=
    (congrArg R.ok (shl2_wrap blk (by omega)) :)
  cir_enter Gen.CSrc.reim4_extract_1blk_from_reim_ref
  conv => lhs; rw [← set_buf_self mem d]
  -- `src_ptr = src + (blk << 2)`, the real parts, `src_ptr += m`, the imaginary parts
  refine (congrArg memOf <|
    (exec_passign_seq _ _ _ _ _ _ eb (ptrAt_param_off _ _ 1 s 0 _ (4 * blk) rfl rfl)).trans <|
    (exec_copy4_seq (fun i => .store 0 (.lit ((0 + i : Nat) : Int)) (.pload (.pvar 2) (.lit ((i : Nat) : Int))))
      (fun i => copies_store_pload (by rfl) (by rfl) (by rfl)) mem _ hsd rfl (by omega) (by omega) _ fuel).trans <|
    (exec_passign_seq _ _ _ _ _ _ (v := (m : Int)) (by rfl) (ptrAt_pvar_off _ _ 2 s _ m _ rfl (by rfl) (by rfl))).trans <|
    exec_copy4 (fun i => .store 0 (.lit ((4 + i : Nat) : Int)) (.pload (.pvar 2) (.lit ((i : Nat) : Int))))
      (fun i => copies_store_pload (by rfl) (by rfl) (by rfl)) mem _ hsd (size_copy4 ..) (by omega) (by omega) fuel).trans ?_
  rw [memOf_ok]
  simp only [extract1blkFromReimRef, Nat.zero_add]

theorem src_reim4_save_1blk_to_reim_ref_eq_model (m blk : Nat) (hm : 2 * m < 18446744073709551616)
    (hblk : 4 * blk + 4 ≤ m) (mem : Mem) (d s : Nat) (hsd : s ≠ d)
    (hd : (buf mem d).size = 2 * m) (hs : (buf mem s).size = 8) :
    ∀ fuel, run fuel Gen.CSrc.reim4_save_1blk_to_reim_ref [(m : Int), (blk : Int)] [some (d, 0), some (s, 0)] mem
        = .ok (mem.setIfInBounds d (save1blkToReimRef (0 : Int) m blk (buf mem d) (buf mem s))) := by
  intro fuel
  have eb : eval [some (d, 0), some (s, 0)] ⟨[(m : Int), (blk : Int), 0, 0], mem.setIfInBounds d (buf mem d)⟩
      (.bin .shl .u64 (.var 1) (.lit 2)) = .ok ((4 * blk : Nat) : Int) :=
    (congrArg R.ok (shl2_wrap blk (by omega)) :)
  cir_enter Gen.CSrc.reim4_save_1blk_to_reim_ref
  conv => lhs; rw [← set_buf_self mem d]
  -- `dst_ptr = dst + (blk << 2)`, the real parts, `dst_ptr += m`, the imaginary parts
  refine (congrArg memOf <|
    (exec_passign_seq _ _ _ _ _ _ eb (ptrAt_param_off _ _ 0 d 0 _ (4 * blk) rfl rfl)).trans <|
    (exec_copy4_seq (fun i => .pstore (.pvar 2) (.lit ((i : Nat) : Int)) (.load 1 (.lit ((0 + i : Nat) : Int))))
      (fun i => copies_pstore_load (by rfl) (by rfl) (by rfl)) mem _ hsd rfl (by omega) (by omega) _ fuel).trans <|
    (exec_passign_seq _ _ _ _ _ _ (v := (m : Int)) (by rfl) (ptrAt_pvar_off _ _ 2 d _ m _ rfl (by rfl) (by rfl))).trans <|
    exec_copy4 (fun i => .pstore (.pvar 2) (.lit ((i : Nat) : Int)) (.load 1 (.lit ((4 + i : Nat) : Int))))
      (fun i => copies_pstore_load (by rfl) (by rfl) (by rfl)) mem _ hsd (size_copy4 ..) (by omega) (by omega) fuel).trans ?_
  rw [memOf_ok]
  simp only [save1blkToReimRef, Nat.zero_add]

theorem src_reim4_extract_1blk_from_contiguous_reim_ref_eq_model (m nrows blk : Nat) (hm0 : 2 * m < 18446744073709551616)
    (hn : 8 * nrows < 18446744073709551616) (hblk : 4 * blk + 4 ≤ m) (mem : Mem) (d s : Nat) (hsd : s ≠ d)
    (hd : (buf mem d).size = 8 * nrows) (hs : (buf mem s).size = 2 * m * nrows) :
    ∀ fuel, 2 * nrows ≤ fuel →
      run fuel Gen.CSrc.reim4_extract_1blk_from_contiguous_reim_ref [(m : Int), (nrows : Int), (blk : Int)]
          [some (d, 0), some (s, 0)] mem
        = .ok (mem.setIfInBounds d (extract1blkFromContiguousReimRef (0 : Int) m nrows blk (buf mem d) (buf mem s))) := by
  intro fuel hf
  cir_enter Gen.CSrc.reim4_extract_1blk_from_contiguous_reim_ref
  have eb := shl2_wrap blk (by omega)
  have c2 := shift2_ok
  simp only [exec_seq, exec_passign, eval_bin, eval_var, eval_lit, lget_zero, lget_succ, evalBin_shl_u64, c2, and_self,
    if_true, eb, R.bind_ok, seqK_norm,
    (fun env => ptrAt_param_off [some (d, 0), some (s, 0)] env 1 s 0 ((4 * blk : Nat) : Int) (4 * blk) rfl rfl),
    (fun env => ptrAt_param_off [some (d, 0), some (s, 0)] env 0 d 0 0 0 rfl rfl),
    encPtr_some, lset_zero, lset_succ, Nat.zero_add, Nat.add_zero, Nat.reduceAdd]
  -- at the head of round `k`: `src_ptr = src + 4 blk + k m`, `dst_ptr = dst + 4 k`, `k` rows extracted
  refine Post.memOf _ _ _ (for_count ExtSem.none _ 7 _ _ _ _
    (fun k σ => σ = ⟨[(m : Int), (nrows : Int), (blk : Int), (s : Int), ((4 * blk + k * m : Nat) : Int), (d : Int),
      ((4 * k : Nat) : Int), ((k : Nat) : Int)], mem.setIfInBounds d (extractK m blk (buf mem d) (buf mem s) k)⟩)
    0 (2 * nrows) 0 (Nat.zero_le _) (by omega) rfl ?h0 ?hjs ?hhi ?hbody fuel (by omega)) ?fin
  case fin => rintro _ rfl; rfl
  case h0 => simp only [extractK, Nat.fold_zero, set_buf_self, Nat.zero_mul, Nat.mul_zero, Nat.add_zero]; rfl
  case hjs => rintro k _ rfl; rfl
  case hhi =>
    rintro k _ _ _ rfl
    have ehi : ((nrows : Int) * (2 % 18446744073709551616)) % 18446744073709551616 = ((2 * nrows : Nat) : Int) := by
      omega
    simp only [eval_bin, eval_var, eval_cast, eval_lit, lget_zero, lget_succ, R.bind_ok, wrap_u64, evalBin_mul_u64, ehi]
  case hbody =>
    rintro k _ _ hk rfl f _
    have hkm : k * m + m ≤ 2 * nrows * m := by
      have : (k + 1) * m ≤ 2 * nrows * m := Nat.mul_le_mul_right m (by omega)
      rw [Nat.add_mul] at this; omega
    have e2 : 2 * nrows * m = 2 * m * nrows := by rw [Nat.mul_assoc, Nat.mul_comm nrows m, Nat.mul_assoc]
    have eo : 4 * blk + k * m + m = 4 * blk + (k + 1) * m := by rw [Nat.add_assoc, ← Nat.succ_mul]
    have ed : 4 * k + 4 = 4 * (k + 1) := (Nat.mul_succ 4 k).symm
    -- the four copies, `dst_ptr += 4`, `src_ptr += m`
    refine ⟨_, (exec_copy4_seq
        (fun i => .pstore (.pvar 5) (.lit ((i : Nat) : Int)) (.pload (.pvar 3) (.lit ((i : Nat) : Int))))
        (fun i => copies_pstore_pload (by rfl) (by rfl) (by rfl) (by rfl)) mem _ hsd
        (size_extractK m blk (buf mem d) (buf mem s) k) (by omega) (by omega) _ f).trans <|
      (exec_passign_seq _ _ _ _ _ _ (v := ((4 : Nat) : Int)) (by rfl)
        (ptrAt_pvar_off _ _ 5 d _ 4 _ rfl (by rfl) (by rfl))).trans <|
      exec_passign_ok _ _ _ _ _ (v := (m : Int)) (by rfl) (ptrAt_pvar_off _ _ 3 s _ m _ rfl (by rfl) (by rfl)), rfl, ?_⟩
    simp only [encPtr_some, lset_zero, lset_succ, Nat.reduceAdd]
    rw [extractK_succ, eo, ed]

/-! ### the same on buffers of binary64 PATTERNS (`patBuf`: naturals as cells): the destination is the model on `Array Nat`
    (the instance the driver family `r4` runs against the compiled code) -/

theorem src_reim4_extract_1blk_from_reim_ref_eq_f64 (m blk : Nat) (hm : 2 * m < 18446744073709551616)
    (hblk : 4 * blk + 4 ≤ m) (mem : Mem) (d s : Nat) (D S : Array Nat) (hsd : s ≠ d)
    (hD : buf mem d = patBuf D) (hS : buf mem s = patBuf S) (hd : D.size = 8) (hs : S.size = 2 * m) :
    ∀ fuel, run fuel Gen.CSrc.reim4_extract_1blk_from_reim_ref [(m : Int), (blk : Int)] [some (d, 0), some (s, 0)] mem
        = .ok (mem.setIfInBounds d (patBuf (extract1blkFromReimRef 0 m blk D S))) := by
  intro fuel
  rw [src_reim4_extract_1blk_from_reim_ref_eq_model m blk hm hblk mem d s hsd (by rw [hD]; simpa [patBuf] using hd)
    (by rw [hS]; simpa [patBuf] using hs) fuel, hD, hS, extract1blkFromReimRef_patBuf]

theorem src_reim4_save_1blk_to_reim_ref_eq_f64 (m blk : Nat) (hm : 2 * m < 18446744073709551616)
    (hblk : 4 * blk + 4 ≤ m) (mem : Mem) (d s : Nat) (D S : Array Nat) (hsd : s ≠ d)
    (hD : buf mem d = patBuf D) (hS : buf mem s = patBuf S) (hd : D.size = 2 * m) (hs : S.size = 8) :
    ∀ fuel, run fuel Gen.CSrc.reim4_save_1blk_to_reim_ref [(m : Int), (blk : Int)] [some (d, 0), some (s, 0)] mem
        = .ok (mem.setIfInBounds d (patBuf (save1blkToReimRef 0 m blk D S))) := by
  intro fuel
  rw [src_reim4_save_1blk_to_reim_ref_eq_model m blk hm hblk mem d s hsd (by rw [hD]; simpa [patBuf] using hd)
    (by rw [hS]; simpa [patBuf] using hs) fuel, hD, hS, save1blkToReimRef_patBuf]

theorem src_reim4_extract_1blk_from_contiguous_reim_ref_eq_f64 (m nrows blk : Nat) (hm0 : 2 * m < 18446744073709551616)
    (hn : 8 * nrows < 18446744073709551616) (hblk : 4 * blk + 4 ≤ m) (mem : Mem) (d s : Nat) (D S : Array Nat) (hsd : s ≠ d)
    (hD : buf mem d = patBuf D) (hS : buf mem s = patBuf S) (hd : D.size = 8 * nrows) (hs : S.size = 2 * m * nrows) :
    ∀ fuel, 2 * nrows ≤ fuel →
      run fuel Gen.CSrc.reim4_extract_1blk_from_contiguous_reim_ref [(m : Int), (nrows : Int), (blk : Int)]
          [some (d, 0), some (s, 0)] mem
        = .ok (mem.setIfInBounds d (patBuf (extract1blkFromContiguousReimRef 0 m nrows blk D S))) := by
  intro fuel hf
  rw [src_reim4_extract_1blk_from_contiguous_reim_ref_eq_model m nrows blk hm0 hn hblk mem d s hsd
    (by rw [hD]; simpa [patBuf] using hd) (by rw [hS]; simpa [patBuf] using hs) fuel hf, hD, hS,
    extract1blkFromContiguousReimRef_patBuf]

/-! ### no out-of-bounds access, for every fuel -/

theorem src_reim4_extract_1blk_from_reim_ref_no_oob (m blk : Nat) (hm : 2 * m < 18446744073709551616)
    (hblk : 4 * blk + 4 ≤ m) (mem : Mem) (d s : Nat) (hsd : s ≠ d)
    (hd : (buf mem d).size = 8) (hs : (buf mem s).size = 2 * m) :
    ∀ fuel e, e ≠ .fuel →
      run fuel Gen.CSrc.reim4_extract_1blk_from_reim_ref [(m : Int), (blk : Int)] [some (d, 0), some (s, 0)] mem ≠ .err e :=
  run_no_other_error _ _ _ _ _ 0 (fun fuel _ => src_reim4_extract_1blk_from_reim_ref_eq_model m blk hm hblk mem d s hsd hd hs fuel)

theorem src_reim4_save_1blk_to_reim_ref_no_oob (m blk : Nat) (hm : 2 * m < 18446744073709551616)
    (hblk : 4 * blk + 4 ≤ m) (mem : Mem) (d s : Nat) (hsd : s ≠ d)
    (hd : (buf mem d).size = 2 * m) (hs : (buf mem s).size = 8) :
    ∀ fuel e, e ≠ .fuel →
      run fuel Gen.CSrc.reim4_save_1blk_to_reim_ref [(m : Int), (blk : Int)] [some (d, 0), some (s, 0)] mem ≠ .err e :=
  run_no_other_error _ _ _ _ _ 0 (fun fuel _ => src_reim4_save_1blk_to_reim_ref_eq_model m blk hm hblk mem d s hsd hd hs fuel)

theorem src_reim4_extract_1blk_from_contiguous_reim_ref_no_oob (m nrows blk : Nat) (hm0 : 2 * m < 18446744073709551616)
    (hn : 8 * nrows < 18446744073709551616) (hblk : 4 * blk + 4 ≤ m) (mem : Mem) (d s : Nat) (hsd : s ≠ d)
    (hd : (buf mem d).size = 8 * nrows) (hs : (buf mem s).size = 2 * m * nrows) :
    ∀ fuel e, e ≠ .fuel →
      run fuel Gen.CSrc.reim4_extract_1blk_from_contiguous_reim_ref [(m : Int), (nrows : Int), (blk : Int)]
          [some (d, 0), some (s, 0)] mem ≠ .err e :=
  run_no_other_error _ _ _ _ _ (2 * nrows)
    (src_reim4_extract_1blk_from_contiguous_reim_ref_eq_model m nrows blk hm0 hn hblk mem d s hsd hd hs)

/-! ### non-vacuity: m = 8, blk = 1 (cells are their own index, so the copies are visible) -/

example :
    run 0 Gen.CSrc.reim4_extract_1blk_from_reim_ref [8, 1] [some (0, 0), some (1, 0)]
      #[#[0, 0, 0, 0, 0, 0, 0, 0], #[100, 101, 102, 103, 104, 105, 106, 107, 108, 109, 110, 111, 112, 113, 114, 115]]
      = .ok #[#[104, 105, 106, 107, 112, 113, 114, 115],
          #[100, 101, 102, 103, 104, 105, 106, 107, 108, 109, 110, 111, 112, 113, 114, 115]] := by
  decide +kernel

example :
    let mem : Mem := #[#[0, 0, 0, 0, 0, 0, 0, 0], #[100, 101, 102, 103, 104, 105, 106, 107, 108, 109, 110, 111, 112, 113, 114, 115]]
    run 0 Gen.CSrc.reim4_extract_1blk_from_reim_ref [(8 : Nat), (1 : Nat)] [some (0, 0), some (1, 0)] mem
      = .ok (mem.setIfInBounds 0 (extract1blkFromReimRef (0 : Int) 8 1 (buf mem 0) (buf mem 1))) :=
  src_reim4_extract_1blk_from_reim_ref_eq_model 8 1 (by decide) (by decide) _ 0 1 (by decide) rfl rfl 0

example :
    run 0 Gen.CSrc.reim4_save_1blk_to_reim_ref [8, 1] [some (1, 0), some (0, 0)]
      #[#[1, 2, 3, 4, 5, 6, 7, 8], #[100, 101, 102, 103, 104, 105, 106, 107, 108, 109, 110, 111, 112, 113, 114, 115]]
      = .ok #[#[1, 2, 3, 4, 5, 6, 7, 8],
          #[100, 101, 102, 103, 1, 2, 3, 4, 108, 109, 110, 111, 5, 6, 7, 8]] := by
  decide +kernel

/-- nrows = 1 (two rows of `m = 8` cells: real and imaginary halves), blk = 1 -/
example :
    run 2 Gen.CSrc.reim4_extract_1blk_from_contiguous_reim_ref [8, 1, 1] [some (0, 0), some (1, 0)]
      #[#[0, 0, 0, 0, 0, 0, 0, 0], #[100, 101, 102, 103, 104, 105, 106, 107, 108, 109, 110, 111, 112, 113, 114, 115]]
      = .ok #[#[104, 105, 106, 107, 112, 113, 114, 115],
          #[100, 101, 102, 103, 104, 105, 106, 107, 108, 109, 110, 111, 112, 113, 114, 115]] := by
  decide +kernel

end Spq.Src
