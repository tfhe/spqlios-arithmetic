/-
  C06 — reim/cplx FFT and iFFT equal the mathematical transform, in the documented order.

  Exact-arithmetic part (this file): the butterfly network of `Spq.Fft` is the SAME code that is executed
  bit-exactly against the library with `α = Nat` (binary64 patterns, streams `ff_fft`, `ff_cfft`,
  `ff_crafted`, `ff_ccrafted`); here it is instantiated with an arbitrary commutative ring `R` containing
  `I` (`I² = −1`) and `ζ` (`ζ^m = I`, so `ζ` is a primitive 4m-th root of unity unless `−1 = 1` in `R`), exact arithmetic
  (`ringA`: `fma a b c = a*b + c`), and the exact table: entry `t` of the table is `cos`/`sin`/`−sin`/`−cos`
  of the angle `2π·e(t)/4m`, where `e(t)` (`reimFftEnts`, …) is the transcription of the C `fill_*` functions
  (checked against the real tables by stream `ff_tables`); `c`, `s` are any functions with
  `c e + I·s e = ζ^e`.

  The a-priori rounding bound of the property (binary64) is NOT in this file: it is proved in `Properties/C06Err.lean`
  (`reim_fft_err`, `reim_ifft_err`, `cplx_fft_err`, `cplx_ifft_err` and their `_prop` forms 8·log2(2m)·2^-53) under two
  explicit hypotheses (stored twiddle pairs within 3.5·2^-53 of the exact roots — measured on every run by `ff_tables` —
  and no overflow / inexact underflow); the streams also check the bound on every run against a `__float128` oracle.
-/
import SpqProofs.Lemmas.FftApi
import SpqProofs.Lemmas.FftExact
import Mathlib.Data.ZMod.Basic
namespace Spq.Fft.C06
open Spq.Fft Spq.Fft.Alg Spq.Fft.Sim Spq.Fft.Tab Spq.Fft.Kern Spq.Fft.Api

variable {R : Type} [CommRing R] [Inhabited R]

/-- **Forward reim FFT, exact arithmetic, every size, both implementations.**
For `m = 2^k` (all `k`), the reference (`fwdRef`) and the FMA/assembly (`fwdFma`) schedule of `reim_fft`, run
on the flat reim vector `data` (m real parts then m imaginary parts) with the exact table, put into output
cell `j` the evaluation of `Σ_i (data[i] + I·data[m+i])·X^i` at `ζ^(1 + 4·brev_k(j))`. -/
theorem reim_fft_exact (k : ℕ) (ζ I : R) (c s : ℕ → R) (hI : ζ ^ 2 ^ k = I) (hI2 : I * I = -1)
    (hcs : ∀ e, c e + I * s e = ζ ^ e)
    (impl : Flav R) (himpl : impl = fwdRef ringA ∨ impl = fwdFma ringA)
    (data : Array R) (hdata : data.size = 2 * 2 ^ k) (j : ℕ) (hj : j < 2 ^ k) :
    (reimFftA impl (2 ^ k) ((reimFftEnts (2 ^ k)).map (val c s)).toArray data)[j]!
        + I * (reimFftA impl (2 ^ k) ((reimFftEnts (2 ^ k)).map (val c s)).toArray data)[2 ^ k + j]!
      = sumTo (2 ^ k) (fun i => (data[i]! + I * data[2 ^ k + i]!) * ζ ^ ((1 + 4 * brev k j) * i)) := by
  let X : Ctx R := ⟨ζ, I, k, c, s, fun i => data[i]! + I * data[2 ^ k + i]!, hI, hI2, hcs⟩
  have hF : FwdOK I impl := by
    rcases himpl with h | h <;> subst h
    · exact fwdRef_ok I hI2
    · exact fwdFma_ok I hI2
  obtain ⟨main, hvo⟩ := Exact.fftRI_adv X hF (splitRI (2 ^ k) data) (splitRI_valid (2 ^ k) data hdata)
  unfold reimFftA
  rw [joinRI_re _ _ hvo j hj, joinRI_im _ _ hvo j hj, ← X.V_top j hj]
  exact main (fun p hp => by
    show (splitRI (2 ^ k) data).re[p]! + I * (splitRI (2 ^ k) data).im[p]! = _
    rw [splitRI_re _ _ hdata p hp, splitRI_im _ _ hdata p hp]) j hj

/-- **Inverse reim FFT, exact arithmetic, every size, both implementations: inverse ∘ forward = m • id.**
If the input of `reim_ifft` (flat vector, exact conjugate table `reimIfftEnts`) holds in cell `j` the evaluation of
`Σ_i a_i X^i` at `ζ^(1 + 4·brev_k(j))` — i.e. it is the exact output of the forward transform of `a` — then
output cell `p` is `m·a_p` (`m = 2^k`). -/
theorem reim_ifft_exact (k : ℕ) (ζ ζi I : R) (c s : ℕ → R) (hI : ζ ^ 2 ^ k = I) (hI2 : I * I = -1)
    (hζi : ζ * ζi = 1) (hcs : ∀ e, c e + I * s e = ζ ^ e) (hcsi : ∀ e, c e - I * s e = ζi ^ e)
    (impl : Flav R) (himpl : impl = invRef ringA ∨ impl = invFma ringA)
    (a : ℕ → R) (data : Array R) (hdata : data.size = 2 * 2 ^ k)
    (heval : ∀ j, j < 2 ^ k →
      data[j]! + I * data[2 ^ k + j]! = sumTo (2 ^ k) (fun i => a i * ζ ^ ((1 + 4 * brev k j) * i)))
    (p : ℕ) (hp : p < 2 ^ k) :
    (reimIfftA impl (2 ^ k) ((reimIfftEnts (2 ^ k)).map (val c s)).toArray data)[p]!
        + I * (reimIfftA impl (2 ^ k) ((reimIfftEnts (2 ^ k)).map (val c s)).toArray data)[2 ^ k + p]!
      = 2 ^ k * a p := by
  let Y : ICtx R := ⟨⟨ζ, I, k, c, s, a, hI, hI2, hcs⟩, ζi, hζi, hcsi⟩
  have hF : InvOK I impl := by
    rcases himpl with h | h <;> subst h
    · exact invRef_ok I hI2
    · exact invFma_ok I hI2
  obtain ⟨main, hvo⟩ := Exact.ifftRI_adv Y hF (splitRI (2 ^ k) data) (splitRI_valid (2 ^ k) data hdata)
  unfold reimIfftA
  rw [joinRI_re _ _ hvo p hp, joinRI_im _ _ hvo p hp]
  exact main (fun q hq => by
    show (splitRI (2 ^ k) data).re[q]! + I * (splitRI (2 ^ k) data).im[q]! = _
    rw [splitRI_re _ _ hdata q hq, splitRI_im _ _ hdata q hq, heval q hq, ← Y.V_top q hq]) p hp

/-- **reim_ifft ∘ reim_fft = m • id** (complex values of the cells), any pairing of the two implementations -/
theorem reim_ifft_fft (k : ℕ) (ζ ζi I : R) (c s : ℕ → R) (hI : ζ ^ 2 ^ k = I) (hI2 : I * I = -1)
    (hζi : ζ * ζi = 1) (hcs : ∀ e, c e + I * s e = ζ ^ e) (hcsi : ∀ e, c e - I * s e = ζi ^ e)
    (fwd inv : Flav R) (hfwd : fwd = fwdRef ringA ∨ fwd = fwdFma ringA) (hinv : inv = invRef ringA ∨ inv = invFma ringA)
    (data : Array R) (hdata : data.size = 2 * 2 ^ k) (p : ℕ) (hp : p < 2 ^ k) :
    let mid := reimFftA fwd (2 ^ k) ((reimFftEnts (2 ^ k)).map (val c s)).toArray data
    let out := reimIfftA inv (2 ^ k) ((reimIfftEnts (2 ^ k)).map (val c s)).toArray mid
    out[p]! + I * out[2 ^ k + p]! = 2 ^ k * (data[p]! + I * data[2 ^ k + p]!) := by
  intro mid out
  have hmid : mid.size = 2 * 2 ^ k := by
    show (joinRI _).size = _
    have hF : FwdOK I fwd := by
      rcases hfwd with h | h <;> subst h
      · exact fwdRef_ok I hI2
      · exact fwdFma_ok I hI2
    let X : Ctx R := ⟨ζ, I, k, c, s, fun i => data[i]! + I * data[2 ^ k + i]!, hI, hI2, hcs⟩
    exact joinRI_size _ (Exact.fftRI_adv X hF (splitRI (2 ^ k) data) (splitRI_valid (2 ^ k) data hdata)).2
  exact reim_ifft_exact k ζ ζi I c s hI hI2 hζi hcs hcsi inv hinv (fun i => data[i]! + I * data[2 ^ k + i]!) mid hmid
    (fun j hj => reim_fft_exact k ζ I c s hI hI2 hcs fwd hfwd data hdata j hj) p hp

/-- **Forward cplx FFT (interleaved layout), exact arithmetic, every size, both implementations.**
`cplx_fft_ref` (`cfwdRef`) and `cplx_fft_avx2_fma` (`cfwdFma`: `bfs_2` with the `addsub(0, ω_i)` shape and the
`(ω, −ω)` last pass, lane-duplicated twiddles, FMA radix-4 passes, assembly leaves) put into cell `j`
(cells `2j`, `2j+1` of the flat vector) the evaluation at `ζ^(1 + 4·brev_k(j))`. -/
theorem cplx_fft_exact (k : ℕ) (ζ I : R) (c s : ℕ → R) (hI : ζ ^ 2 ^ k = I) (hI2 : I * I = -1)
    (hcs : ∀ e, c e + I * s e = ζ ^ e)
    (impl : CFlav R) (himpl : impl = cfwdRef ringA ∨ impl = cfwdFma ringA 0)
    (data : Array R) (j : ℕ) (hj : j < 2 ^ k) :
    (cplxFftA impl (2 ^ k) ((cplxFftEnts (2 ^ k)).map (val c s)).toArray data)[2 * j]!
        + I * (cplxFftA impl (2 ^ k) ((cplxFftEnts (2 ^ k)).map (val c s)).toArray data)[2 * j + 1]!
      = sumTo (2 ^ k) (fun i => (data[2 * i]! + I * data[2 * i + 1]!) * ζ ^ ((1 + 4 * brev k j) * i)) := by
  let X : Ctx R := ⟨ζ, I, k, c, s, fun i => data[2 * i]! + I * data[2 * i + 1]!, hI, hI2, hcs⟩
  have hF : CplxFwd.CFwdOK I impl := by
    rcases himpl with h | h <;> subst h
    · exact CplxFwd.cfwdRef_ok I hI2
    · exact CplxFwd.cfwdFma_ok I hI2
  have main := (Exact.cfftRI_adv X hF (deinterleave (2 ^ k) data) (deinterleave_valid (2 ^ k) data)).1
  unfold cplxFftA
  rw [interleave_re _ _ j hj, interleave_im _ _ j hj, ← X.V_top j hj]
  exact main (fun p hp => by
    show (deinterleave (2 ^ k) data).re[p]! + I * (deinterleave (2 ^ k) data).im[p]! = _
    rw [deinterleave_re _ _ p hp, deinterleave_im _ _ p hp]) j hj

/-- **Inverse cplx FFT, exact arithmetic, every size, both implementations: inverse ∘ forward = m • id.** -/
theorem cplx_ifft_exact (k : ℕ) (ζ ζi I : R) (c s : ℕ → R) (hI : ζ ^ 2 ^ k = I) (hI2 : I * I = -1)
    (hζi : ζ * ζi = 1) (hcs : ∀ e, c e + I * s e = ζ ^ e) (hcsi : ∀ e, c e - I * s e = ζi ^ e)
    (impl : CFlav R) (himpl : impl = cinvRef ringA ∨ impl = cinvFma ringA 0)
    (a : ℕ → R) (data : Array R)
    (heval : ∀ j, j < 2 ^ k →
      data[2 * j]! + I * data[2 * j + 1]! = sumTo (2 ^ k) (fun i => a i * ζ ^ ((1 + 4 * brev k j) * i)))
    (p : ℕ) (hp : p < 2 ^ k) :
    (cplxIfftA impl (2 ^ k) ((cplxIfftEnts (2 ^ k)).map (val c s)).toArray data)[2 * p]!
        + I * (cplxIfftA impl (2 ^ k) ((cplxIfftEnts (2 ^ k)).map (val c s)).toArray data)[2 * p + 1]!
      = 2 ^ k * a p := by
  let Y : ICtx R := ⟨⟨ζ, I, k, c, s, a, hI, hI2, hcs⟩, ζi, hζi, hcsi⟩
  have hF : CplxInv.CInvOK I impl := by
    rcases himpl with h | h <;> subst h
    · exact CplxInv.cinvRef_ok I hI2
    · exact CplxInv.cinvFma_ok I hI2
  have main := (Exact.cifftRI_adv Y hF (deinterleave (2 ^ k) data) (deinterleave_valid (2 ^ k) data)).1
  unfold cplxIfftA
  rw [interleave_re _ _ p hp, interleave_im _ _ p hp]
  exact main (fun q hq => by
    show (deinterleave (2 ^ k) data).re[q]! + I * (deinterleave (2 ^ k) data).im[q]! = _
    rw [deinterleave_re _ _ q hq, deinterleave_im _ _ q hq, heval q hq, ← Y.V_top q hq]) p hp

/-- **cplx_ifft ∘ cplx_fft = m • id** (complex values of the cells), any pairing of the two implementations -/
theorem cplx_ifft_fft (k : ℕ) (ζ ζi I : R) (c s : ℕ → R) (hI : ζ ^ 2 ^ k = I) (hI2 : I * I = -1)
    (hζi : ζ * ζi = 1) (hcs : ∀ e, c e + I * s e = ζ ^ e) (hcsi : ∀ e, c e - I * s e = ζi ^ e)
    (fwd inv : CFlav R) (hfwd : fwd = cfwdRef ringA ∨ fwd = cfwdFma ringA 0)
    (hinv : inv = cinvRef ringA ∨ inv = cinvFma ringA 0) (data : Array R) (p : ℕ) (hp : p < 2 ^ k) :
    let mid := cplxFftA fwd (2 ^ k) ((cplxFftEnts (2 ^ k)).map (val c s)).toArray data
    let out := cplxIfftA inv (2 ^ k) ((cplxIfftEnts (2 ^ k)).map (val c s)).toArray mid
    out[2 * p]! + I * out[2 * p + 1]! = 2 ^ k * (data[2 * p]! + I * data[2 * p + 1]!) := by
  intro mid out
  exact cplx_ifft_exact k ζ ζi I c s hI hI2 hζi hcs hcsi inv hinv (fun i => data[2 * i]! + I * data[2 * i + 1]!) mid
    (fun j hj => cplx_fft_exact k ζ I c s hI hI2 hcs fwd hfwd data j hj) p hp

/-- the hypotheses of `reim_fft_exact` / `reim_ifft_exact` are satisfiable by a non-trivial instance: `R = ZMod 17`, `m = 4`
(`k = 2`), `ζ = 3` (a primitive 16-th root of unity), `I = ζ^4 = 13`, `c e = (ζ^e + ζ^-e)/2`,
`s e = (ζ^e − ζ^-e)/(2I)` -/
example : ∃ (ζ ζi I : ZMod 17) (c s : ℕ → ZMod 17), ζ ^ 2 ^ 2 = I ∧ I * I = -1 ∧ ζ * ζi = 1 ∧
    (∀ e, c e + I * s e = ζ ^ e) ∧ (∀ e, c e - I * s e = ζi ^ e) ∧ ζ ≠ 1 :=
  ⟨3, 6, 13, fun e => (3 ^ e + 6 ^ e) * 9, fun e => (3 ^ e - 6 ^ e) * 2, by decide, by decide, by decide,
    fun e => by
      have h17 : (17 : ZMod 17) = 0 := by decide
      linear_combination (2 * 3 ^ e - 6 ^ e) * h17,
    fun e => by
      have h17 : (17 : ZMod 17) = 0 := by decide
      linear_combination (2 * 6 ^ e - 3 ^ e) * h17, by decide⟩

end Spq.Fft.C06
