/-
  C12 (extension) — the warm-up protocol of the `*_simple` convenience functions, on the EXTRACTED rows.

  "The convenience `*_simple` functions meet the same guarantee [no data race, results as when run alone]
  once one call per dimension has completed."  `C12.simple_after_warmup` only says that the second of two
  identical consecutive calls is a no-op, for an arbitrary row.  Here, for every row of `Gen.Caches.rows`: a row that
  is not thread-local is keyed by the dimension alone (`shared_rows_dim_only`, from the Gen obligation
  `C12.shared_caches_keyed_by_dimension_only`, so a source change that adds a guard parameter to a shared cache breaks
  every theorem below through that obligation); thread-local rows work on a per-thread cache object.
  Threads: `Spq.Globals.Act` has Int-valued cells and primitive reads/writes, it cannot carry a whole cache call as one
  action, so `Caches.CConf` is a second instance of the one interleaving lemma (`Lemmas/Interleave.lean: Sched.indep`).
  Not covered (runtime residue, TSan stream): the first-use race itself, i.e. two threads inside the
  warm-up call of the same dimension; a call is atomic in this model.
-/
import SpqProofs.Lemmas.CachesWarm
import SpqProofs.Properties.C12
import SpqProofs.Properties.C15
namespace Spq.C12Warm
open Spq Spq.Caches Spq.C15

/-- a shared (not thread-local) extracted cache is keyed by the dimension alone -/
theorem shared_rows_dim_only (r : Gen.Caches.Row) (hr : r ∈ Gen.Caches.rows) (hs : r.tls = false) :
    DimOnly (specOf r) := by
  have h := (List.all_eq_true.mp C12.shared_caches_keyed_by_dimension_only.1) r hr
  simp only [hs, Bool.false_or, Bool.and_eq_true, List.isEmpty_iff] at h
  exact ⟨h.2, h.1⟩

/-- `written` reports every slot a step changes (for every spec, state and call) -/
theorem written_is_sound (s : Spec) (st : State) (c : Call) (k : Nat) (h : written s st c ≠ some k) :
    (step s st c).1 k = st k := by
  unfold written at h
  rcases step_cases s st c with ⟨_, _, _, hs⟩ | ⟨_, hs⟩
  · rw [hs]
  · rw [hs] at h ⊢
    have : k ≠ slotOf s c := fun e => h (by simp [e])
    simp [this]

/-- ANY call history from the initial state that contains at least one completed call per dimension of `D`
    establishes `Warm` (calls with a non-power-of-two `m` abort in `log2m`) -/
theorem warm_established (r : Gen.Caches.Row) (hr : r ∈ Gen.Caches.rows) (hs : r.tls = false)
    (D : List Int) (hist : List Call) (hp : ∀ c ∈ hist, Pow2M c) (hcov : ∀ m ∈ D, ∃ c ∈ hist, c.get "m" = m) :
    Warm (specOf r) (run (specOf r) empty hist) D :=
  warm_of_history _ (shared_rows_dim_only r hr hs) D hist empty (inv_empty _) hp hcov

/-- `Warm` is preserved by EVERY step: any dimension (warm or not), any arguments -/
theorem warm_preserved (r : Gen.Caches.Row) (hr : r ∈ Gen.Caches.rows) (hs : r.tls = false)
    (D : List Int) (st : State) (hw : Warm (specOf r) st D) (c : Call) :
    Warm (specOf r) (step (specOf r) st c).1 D :=
  warm_step _ (shared_rows_dim_only r hr hs) st D c hw

/-- after the warm-up, EVERY call with a dimension in `D` and arbitrary other arguments rebuilds nothing, writes no
    slot, leaves the shared state unchanged and uses the table that was built for its `m` -/
theorem warmup_no_shared_write (r : Gen.Caches.Row) (hr : r ∈ Gen.Caches.rows) (hs : r.tls = false)
    (D : List Int) (st : State) (hw : Warm (specOf r) st D) (c : Call) (hc : c.get "m" ∈ D) :
    ∃ e, step (specOf r) st c = (st, e, false) ∧ written (specOf r) st c = none ∧
      st (slotOf (specOf r) c) = some e ∧ e.get "m" = c.get "m" := by
  have hd := shared_rows_dim_only r hr hs
  obtain ⟨e, he, hem, hst⟩ := step_of_warm _ hd st D hw c hc
  exact ⟨e, hst, by simp [written, hst], he, hem⟩

/-- any sequence of calls with dimensions in `D`: shared state unchanged, no rebuild at any position -/
theorem warmup_no_shared_write_seq (r : Gen.Caches.Row) (hr : r ∈ Gen.Caches.rows) (hs : r.tls = false)
    (D : List Int) (st : State) (hw : Warm (specOf r) st D) (cs : List Call) (hc : ∀ c ∈ cs, c.get "m" ∈ D) :
    run (specOf r) st cs = st ∧ rebuilds (specOf r) st cs = List.replicate cs.length false :=
  run_of_warm _ (shared_rows_dim_only r hr hs) st D hw cs hc

/-- end to end, from the initial state: warm-up history `hist` (any order, any repetitions, any other calls in
    between), then any calls `mid` whatsoever, then a call `c` with a warm dimension: `c` writes nothing, and the
    table it uses was built with `c`'s own value of every constructor argument that influences the table (C15) -/
theorem warmup_from_history (r : Gen.Caches.Row) (hr : r ∈ Gen.Caches.rows) (hs : r.tls = false)
    (D : List Int) (hist mid : List Call) (c : Call) (hp : ∀ c', c' ∈ c :: (hist ++ mid) → Pow2M c')
    (hcov : ∀ m ∈ D, ∃ c' ∈ hist, c'.get "m" = m) (hc : c.get "m" ∈ D) :
    let st := run (specOf r) empty (hist ++ mid)
    ∃ e, step (specOf r) st c = (st, e, false) ∧ written (specOf r) st c = none ∧
      ∀ p, p ∈ r.initArgs → (r.name, p) ∉ irrelevant → e.get p = c.get p := by
  intro st
  have hw : Warm (specOf r) st D := by
    have := warm_established r hr hs D hist (fun c' hc' => hp c' (by simp [hc'])) hcov
    simpa [st, run_append] using warm_run _ (shared_rows_dim_only r hr hs) D mid _ this
  obtain ⟨e, hst, hwr, _, _⟩ := warmup_no_shared_write r hr hs D st hw c hc
  refine ⟨e, hst, hwr, fun p hpi hirr => ?_⟩
  have := history_indep r hr (hist ++ mid) c hp p hpi hirr
  rwa [show run (specOf r) empty (hist ++ mid) = st from rfl, hst] at this

/-- threads doing convenience calls with dimensions in `D` on a warm shared cache: for EVERY schedule the shared
    cache state is unchanged and every thread observes what it observes when run alone -/
theorem warmup_schedule_indep (r : Gen.Caches.Row) (hr : r ∈ Gen.Caches.rows) (hs : r.tls = false)
    (D : List Int) (progs : Nat → CProg) (hin : CallsIn progs D)
    (c0 : CConf) (hw : Warm (specOf r) c0.shared D) (sched : List Nat) :
    (runSched r.tls (specOf r) progs c0 sched).shared = c0.shared ∧
    ∀ t, (runSched r.tls (specOf r) progs c0 sched).hist t
      = (runSolo r.tls (specOf r) progs c0 t (sched.count t)).hist t := by
  have hd := shared_rows_dim_only r hr hs
  rw [hs]
  -- invariant: the shared cache is that of `c0`, hence warm, hence no step writes it
  have key : ∀ c : CConf, c.shared = c0.shared → ∀ t, (stepThread false (specOf r) progs c t).shared = c.shared :=
    fun c h t => stepThread_shared_warm _ hd progs D hin c (h ▸ hw) t
  have := Sched.indep (stepThread false (specOf r) progs) (fun c t => (cacheOf false c t, c.hist t))
    (fun c => c.shared = c0.shared) (stepThread_congr false _ progs)
    (fun c t h => (key c h t).trans h)
    (fun c t u hg h => Prod.ext (key c hg t) (stepThread_hist_other false _ progs c t u h))
    sched c0 rfl
  exact ⟨this.1, fun t => (Prod.mk.inj (this.2 t)).2⟩

/-- no step of any such interleaving writes the shared cache: in every reachable configuration the next call
    of every thread reports no written slot and no rebuild (no conflicting pair of accesses exists) -/
theorem warmup_no_write_step (r : Gen.Caches.Row) (hr : r ∈ Gen.Caches.rows) (hs : r.tls = false)
    (D : List Int) (progs : Nat → CProg) (hin : CallsIn progs D)
    (c0 : CConf) (hw : Warm (specOf r) c0.shared D) (sched : List Nat) (t : Nat) (call : Call)
    (hcall : progs t ((runSched r.tls (specOf r) progs c0 sched).hist t) = some call) :
    written (specOf r) (runSched r.tls (specOf r) progs c0 sched).shared call = none ∧
    (step (specOf r) (runSched r.tls (specOf r) progs c0 sched).shared call).2.2 = false := by
  rw [(warmup_schedule_indep r hr hs D progs hin c0 hw sched).1]
  obtain ⟨e, hst, hwr, _, _⟩ := warmup_no_shared_write r hr hs D c0.shared hw call (hin t _ call hcall)
  exact ⟨hwr, by rw [hst]⟩

/-- thread-local rows (every mutable static of the function carries the C `__thread` qualifier — parsed from the
    source by the generator, `Row.tls`; ASSUMED: the compiler/loader give each thread its own instance): the
    model gives each thread its own cache object, so a step of thread `t` writes neither the shared object nor the
    object of another thread — with or without warm-up, whatever the arguments -/
theorem tls_rows_private (r : Gen.Caches.Row) (ht : r.tls = true) (progs : Nat → CProg) (c : CConf) (t : Nat) :
    (stepThread r.tls (specOf r) progs c t).shared = c.shared ∧
    ∀ u, u ≠ t → (stepThread r.tls (specOf r) progs c t).priv u = c.priv u := by
  rw [ht]; exact stepThread_tls (specOf r) progs c t

/-- hence, for thread-local rows, every interleaving gives every thread the cache object and the observations of
    its solo run — no warm-up and no restriction on the calls needed -/
theorem tls_schedule_indep (r : Gen.Caches.Row) (ht : r.tls = true) (progs : Nat → CProg) (c0 : CConf)
    (sched : List Nat) (t : Nat) :
    (runSched r.tls (specOf r) progs c0 sched).priv t
      = (runSolo r.tls (specOf r) progs c0 t (sched.count t)).priv t ∧
    (runSched r.tls (specOf r) progs c0 sched).hist t
      = (runSolo r.tls (specOf r) progs c0 t (sched.count t)).hist t := by
  rw [ht]
  exact Prod.mk.inj <| (Sched.indep (stepThread true (specOf r) progs) (fun c t => (cacheOf true c t, c.hist t))
    (fun _ => True) (stepThread_congr true _ progs) (fun _ _ _ => trivial)
    (fun c t u _ h => Prod.ext ((stepThread_tls _ progs c t).2 u h) (stepThread_hist_other true _ progs c t u h))
    sched c0 trivial).2 t

/-! ### concrete instances on real extracted rows (hypotheses satisfiable, conclusions not vacuous) -/

/-- the extracted row with a given function name -/
def rowOf (n : String) : Gen.Caches.Row :=
  (Gen.Caches.rows.filter (fun r => r.name == n)).headD ⟨"", true, false, [], [], [], ""⟩

example : rowOf "reim_fft_simple" ∈ Gen.Caches.rows ∧ (rowOf "reim_fft_simple").name = "reim_fft_simple" ∧
    (rowOf "reim_fft_simple").tls = false ∧
    rowOf "reim_from_znx64_simple" ∈ Gen.Caches.rows ∧ (rowOf "reim_from_znx64_simple").tls = false ∧
    (rowOf "reim_from_znx64_simple").initArgs = ["m", "log2bound"] := by decide +kernel

/-- computed on the model: in the history `[m=8, m=16, m=8 (other args), m=16]` the first two calls build
    (slots 3 and 4), the last two build nothing and write no slot — for a cache with constructor argument `m`
    only and for one with a second constructor argument (`log2bound`, not part of the key) -/
example :
    rebuilds (specOf (rowOf "reim_fft_simple")) empty (warmupCalls ++ laterCalls) = [true, true, false, false] ∧
    written (specOf (rowOf "reim_fft_simple")) empty warmupCalls[0]! = some 3 ∧
    written (specOf (rowOf "reim_fft_simple")) (run (specOf (rowOf "reim_fft_simple")) empty warmupCalls)
      laterCalls[0]! = none ∧
    written (specOf (rowOf "reim_fft_simple"))
      (run (specOf (rowOf "reim_fft_simple")) empty (warmupCalls ++ laterCalls.take 1)) laterCalls[1]! = none ∧
    rebuilds (specOf (rowOf "reim_from_znx64_simple")) empty (warmupCalls ++ laterCalls)
      = [true, true, false, false] := by decide +kernel

/-- the same through the theorems: `warm_established` on the warm-up history, then `warmup_no_shared_write_seq`
    on the later calls, for the real row of `reim_fft_simple` and D = {8, 16} -/
example :
    let s := specOf (rowOf "reim_fft_simple")
    Warm s (run s empty warmupCalls) [8, 16] ∧
    run s (run s empty warmupCalls) laterCalls = run s empty warmupCalls ∧
    rebuilds s (run s empty warmupCalls) laterCalls = [false, false] := by
  have hr : rowOf "reim_fft_simple" ∈ Gen.Caches.rows := by decide +kernel
  have hs : (rowOf "reim_fft_simple").tls = false := by decide +kernel
  have hw := warm_established _ hr hs [8, 16] warmupCalls warmupCalls_pow2 (by decide +kernel)
  have h2 := warmup_no_shared_write_seq _ hr hs [8, 16] _ hw laterCalls (by decide +kernel)
  exact ⟨hw, h2.1, h2.2⟩

/-- threads: even threads call with m = 8, odd threads with m = 16, the other argument depends on what the thread
    has observed so far; after the warm-up every schedule leaves the shared cache as it is and gives every
    thread its solo observations -/
example (sched : List Nat) :
    let r := rowOf "reim_from_znx64_simple"
    let progs : Nat → CProg := fun t h => some [("m", if t % 2 = 0 then 8 else 16), ("log2bound", h.length)]
    let c0 : CConf := ⟨run (specOf r) empty warmupCalls, fun _ => empty, fun _ => []⟩
    (runSched r.tls (specOf r) progs c0 sched).shared = c0.shared ∧
    ∀ t, (runSched r.tls (specOf r) progs c0 sched).hist t
      = (runSolo r.tls (specOf r) progs c0 t (sched.count t)).hist t := by
  intro r progs c0
  have hr : r ∈ Gen.Caches.rows := by decide +kernel
  have hs : r.tls = false := by decide +kernel
  refine warmup_schedule_indep r hr hs [8, 16] progs ?_ c0
    (warm_established r hr hs [8, 16] warmupCalls warmupCalls_pow2 (by decide +kernel)) sched
  intro t h call hcall
  simp only [progs, Option.some.injEq] at hcall
  subst hcall
  by_cases ht : t % 2 = 0 <;> simp [Call.get, List.lookup, ht]

end Spq.C12Warm
