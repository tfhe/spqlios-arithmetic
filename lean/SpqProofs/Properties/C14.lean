/-
  C14 — numeric layout conversions are exact or correctly rounded on their whole domain.

  Everything is stated on the bit-exact soft-float model `Spq/F64.lean` and the model `Spq/Conv.lean` of the
  C functions (both validated bit-for-bit against the compiled library by the stream `f6_conv`).

  Real numbers.  A double is its 64-bit pattern `b`; the real number it denotes is `F64.toScaled b / 2^1074`
  (`toScaled b` is an integer: every finite double is a multiple of 2^-1074).  The divisor is `d = 2^j`
  (`F64.pow2 j`).  So, with `xs = toScaled x`, `ds = toScaled d`:
      `|x/d| < B`            is   `|xs| < B * ds`
      `|r − x/d| ≤ 1/2`      is   `2 * |r * ds − xs| ≤ ds`          (`Within r x d` below)
      "the double `b` is exactly the integer `v`"      is `toScaled b = v * 2^1074`
      "the double `b` is exactly `v·2^-32`"            is `toScaled b = v * 2^1042`.
  The theorems hold for every dimension `m` (vector-level statements go through the loop structure of the
  C code: scalar loops, 4-lane do-while loops, 8-lane loops, the 8-complex shuffle networks of the cplx
  kernels), every element index, every divisor exponent `j` for which the table constants are finite
  doubles, every `log2overhead ≤ 48`, and every input pattern in the stated magnitude domain.  Inf/NaN
  patterns are not modelled by `Spq.F64`: the magnitude bound excludes them wherever `B·2^j ≤ 2^1024` (bnd50, bnd63, wide,
  to_tnx, cplx_to_tnx32: j ≤ 971 / 961 / 900); `to_znx64_ref` and `to_tnx_basic_ref_partial`, whose divisor range is wider,
  carry an explicit finiteness hypothesis.
-/
import SpqProofs.Lemmas.ConvVec
import SpqProofs.Lemmas.ConvToTnx32
import SpqProofs.Lemmas.ConvBnd63Wide
import SpqProofs.Lemmas.ConvToTnxBasic
import SpqProofs.Lemmas.ConvSel
namespace Spq.C14
open Spq Spq.F64 Spq.Conv

/-- `r` is an integer within 1/2 of `x/d` -/
def Within (r : Int) (x d : Nat) : Prop := 2 * |r * toScaled d - toScaled x| ≤ toScaled d

/-- `|x/d| < B` -/
def MagLt (x d : Nat) (B : Int) : Prop := |toScaled x| < B * toScaled d

/-! ### int64 → double (`reim_from_znx64`): exact for |x| < 2^50, both variants, every m -/

/-- plain cast (`reim_from_znx64_ref`) and magic-constant trick (`reim_from_znx64_bnd50_fma`: add 2^51 as
    integers, OR the exponent of 2^52, subtract 3·2^51) return the double whose value is exactly `x[i]`. -/
theorem from_znx64_exact (m : Nat) (x : Array Int) (i : Nat) (hi : i < 2 * m)
    (hx : -1125899906842624 < x.getD i 0 ∧ x.getD i 0 < 1125899906842624) :
    (∃ b, (fromZnx64Ref m x)[i]? = some b ∧ toScaled b = x.getD i 0 * 2 ^ 1074) ∧
    ((2 * m) % 4 = 0 → ∃ b, (fromZnx64Bnd50 m x)[i]? = some b ∧ toScaled b = x.getD i 0 * 2 ^ 1074) := by
  constructor
  · refine ⟨_, scalarLoop_getElem? _ _ i hi, fromZnx64RefLane_exact _ (by omega)⟩
  · intro hdiv
    refine ⟨_, chunks4_getElem? _ m i (by omega) hdiv hi, fromZnx64Bnd50Lane_exact _ (by omega) (by omega)⟩

/-- the two variants agree bit for bit on the (wider) window −2^51 ≤ x < 2^51 -/
theorem from_znx64_bnd50_eq_ref (x : Int) (h1 : -2251799813685248 ≤ x) (h2 : x < 2251799813685248) :
    fromZnx64Bnd50Lane x = fromZnx64RefLane x :=
  fromZnx64Bnd50Lane_eq_ofInt x h1 h2

/-- the constructor never selects the 4-lane variant below m = 8 (and rejects log2bound > 50) -/
theorem from_znx64_selection (m log2bound : Nat) (avx2 : Bool) (v : FromZnx64Variant)
    (h : initFromZnx64 m log2bound avx2 = some v) :
    log2bound ≤ 50 ∧ (v = .bnd50 → 8 ≤ m ∧ avx2 = true) := by
  obtain ⟨_, hl, rfl⟩ := (initFromZnx64_eq_some ..).1 h
  refine ⟨hl, fun hv => ?_⟩
  split at hv
  · next hc => simpa using hc
  · exact absurd hv (by simp)

example : ∃ x : Array Int, -1125899906842624 < x.getD 1 0 ∧ x.getD 1 0 < 1125899906842624 ∧ x.getD 1 0 ≠ 0 :=
  ⟨#[0, -1125899906842623], by decide⟩

/-! ### double → int64 with divisor 2^j (`reim_to_znx64`): within 1/2 of x/d -/

/-- `reim_to_znx64_ref` (`(int64_t)rint(x * (1/d))`): for |x/d| < 2^63 (contains the documented 2^52) -/
theorem to_znx64_ref (m : Nat) (j : Int) (hj1 : -1022 ≤ j) (hj2 : j ≤ 1022) (x : Array Nat) (i : Nat) (hi : i < 2 * m)
    (_hfin : F64.isFinite (x.getD i 0) = true)   -- Inf/NaN patterns are not modelled (for j ≥ 962 the magnitude bound alone admits them)
    (hdom : MagLt (x.getD i 0) (pow2 j) 9223372036854775808) :
    ∃ r, (toZnx64Ref m (pow2 j) x)[i]? = some r ∧ Within r (x.getD i 0) (pow2 j) := by
  refine ⟨_, scalarLoop_getElem? _ _ i hi, ?_⟩
  exact toZnx64RefLane_spec j hj1 hj2 _ hdom

/-- `reim_to_znx64_avx2_bnd50_fma` (add 3·2^51·d, keep the 52 fraction bits, subtract 2^51): |x/d| < 2^50 -/
theorem to_znx64_bnd50 (m : Nat) (j : Int) (hj1 : -1022 ≤ j) (hj2 : j ≤ 971) (x : Array Nat) (i : Nat) (hi : i < 2 * m)
    (hdiv : (2 * m) % 4 = 0) (hdom : MagLt (x.getD i 0) (pow2 j) 1125899906842624) :
    ∃ r, (toZnx64Bnd50 m (pow2 j) x)[i]? = some r ∧ Within r (x.getD i 0) (pow2 j) := by
  refine ⟨_, chunks4_getElem? _ m i (by omega) hdiv hi, ?_⟩
  exact toZnx64Bnd50Lane_spec j hj1 hj2 _ hdom

/-- `reim_to_znx64_avx2_bnd63_fma` with the repair of D7 (`offset = divisor * (0.5 - 0x1p-54)`, i.e. pred(d/2); the
    kernel computes `sign(x)·⌊|fl(x + sign(x)·offset)| / d⌋` by exponent difference and variable shifts): for every
    input with |x/d| < 2^52 the result is within 1/2 of `x/d`, ties included, with no hypothesis on the rounding of
    the addition (a representable `x` never lies within `d·2^-54` above a half-integer multiple of `d`, and the
    rounded sum never crosses a multiple of `d` in the wrong direction). -/
theorem to_znx64_bnd63 (m : Nat) (j : Int) (hj1 : -1020 ≤ j) (hj2 : j ≤ 971) (x : Array Nat) (i : Nat)
    (hi : i < 2 * m) (hdiv : (2 * m) % 4 = 0) (hx64 : x.getD i 0 < 18446744073709551616)
    (hdom : MagLt (x.getD i 0) (pow2 j) 4503599627370496) :
    ∃ r, (toZnx64Bnd63 m (pow2 j) x)[i]? = some r ∧ Within r (x.getD i 0) (pow2 j) := by
  refine ⟨_, chunks4_getElem? _ m i (by omega) hdiv hi, ?_⟩
  exact toZnx64Bnd63Lane_spec j hj1 hj2 _ hx64 hdom

/-- the extended range of the repaired kernel, 2^52 ≤ |x/d| < 2^63 (`x/d` is then an integer): `x + sign(x)·pred(d/2)`
    rounds back to `x` and the left-shift branch returns exactly `x/d` (`r·d = x`) -/
theorem to_znx64_bnd63_wide (m : Nat) (j : Int) (hj1 : -1020 ≤ j) (hj2 : j ≤ 961) (x : Array Nat) (i : Nat)
    (hi : i < 2 * m) (hdiv : (2 * m) % 4 = 0) (hx64 : x.getD i 0 < 18446744073709551616)
    (hlo : 4503599627370496 * toScaled (pow2 j) ≤ |toScaled (x.getD i 0)|)
    (hhi : MagLt (x.getD i 0) (pow2 j) 9223372036854775808) :
    ∃ r, (toZnx64Bnd63 m (pow2 j) x)[i]? = some r ∧ r * toScaled (pow2 j) = toScaled (x.getD i 0) := by
  refine ⟨_, chunks4_getElem? _ m i (by omega) hdiv hi, ?_⟩
  exact toZnx64Bnd63Lane_wide j hj1 hj2 _ hx64 hlo hhi

/-- Finding D7: with the original `offset = divisor / 2.` the kernel violates the
    contract in-domain — for `d = 1`, `x = 0.49999999999999994` (pattern 0x3FDFFFFFFFFFFFFF) `x + 0.5` rounds to 1.0
    and the result is 1, at distance 1/2 + 2^-54 from `x` — and on the extended range it rounds odd integers of
    [2^52, 2^53) to even (`2^52 + 1 ↦ 2^52 + 2`).  The repaired kernel returns 0 and 2^52 + 1. -/
theorem to_znx64_bnd63_old_violation :
    MagLt 4602678819172646911 (pow2 0) 4503599627370496 ∧
    toZnx64Bnd63Lane (bnd63OffsetOld (pow2 0)) (bnd63DiviBits (pow2 0)) 4602678819172646911 = 1 ∧
    ¬ Within 1 4602678819172646911 (pow2 0) ∧
    toZnx64Bnd63Lane (bnd63OffsetOld (pow2 0)) (bnd63DiviBits (pow2 0)) 4841369599423283201 = 4503599627370498 ∧
    toZnx64Bnd63Lane (bnd63Offset (pow2 0)) (bnd63DiviBits (pow2 0)) 4602678819172646911 = 0 ∧
    toZnx64Bnd63Lane (bnd63Offset (pow2 0)) (bnd63DiviBits (pow2 0)) 4841369599423283201 = 4503599627370497 := by
  unfold Within MagLt
  decide +kernel

example : ∃ x, x < 18446744073709551616 ∧ MagLt x (pow2 (-4)) 4503599627370496 ∧ toScaled x ≠ 0 :=
  ⟨13808036457517940735, by unfold MagLt; decide +kernel⟩   -- x = -pred(1/2)·2^-4, d = 2^-4: an input on which the offset `d/2` fails

example : ∃ x, MagLt x (pow2 3) 1125899906842624 ∧ toScaled x ≠ 0 :=
  ⟨4845873199050653695, by unfold MagLt; decide +kernel⟩   -- x = 2^53 - 1 = (2^50 - 1/8)·8

/-! ### int32 → complex double (`cplx_from_znx32`, `cplx_from_tnx32`): exact for every int32 -/

/-- integer scaling: output complex `s` is exactly `(x[s], x[m+s])`, reference loop (any m) and AVX2 kernel
    (8 ∣ m; shuffles + exponent word 0x43300000 + subtraction of 2^52+2^31), for every int32 incl. INT32_MIN -/
theorem cplx_from_znx32_exact (m : Nat) (x : Array Int) (s : Nat) (hs : s < m)
    (hre : -2147483648 ≤ x.getD s 0 ∧ x.getD s 0 < 2147483648)
    (him : -2147483648 ≤ x.getD (m + s) 0 ∧ x.getD (m + s) 0 < 2147483648) :
    (∃ a b, (cplxFromZnx32Ref m x)[2 * s]? = some a ∧ (cplxFromZnx32Ref m x)[2 * s + 1]? = some b ∧
      toScaled a = x.getD s 0 * 2 ^ 1074 ∧ toScaled b = x.getD (m + s) 0 * 2 ^ 1074) ∧
    (m % 8 = 0 → ∃ a b, (cplxFromZnx32Avx m x)[2 * s]? = some a ∧ (cplxFromZnx32Avx m x)[2 * s + 1]? = some b ∧
      toScaled a = x.getD s 0 * 2 ^ 1074 ∧ toScaled b = x.getD (m + s) 0 * 2 ^ 1074) := by
  constructor
  · obtain ⟨h1, h2⟩ := cplxFromRef_getElem? cplxFromZnx32RefLane m x s hs
    exact ⟨_, _, h1, h2, toScaled_ofInt (by omega), toScaled_ofInt (by omega)⟩
  · intro hm
    obtain ⟨h1, h2⟩ := cplxFromAnyAvx_getElem? ZNX32_C ZNX32_R m x hm s hs
    exact ⟨_, _, h1, h2, cplxFromZnx32AvxLane_exact _ hre.1 hre.2, cplxFromZnx32AvxLane_exact _ him.1 him.2⟩

/-- torus scaling by 2^-32: output complex `s` is exactly `(x[s]·2^-32, x[m+s]·2^-32)` -/
theorem cplx_from_tnx32_exact (m : Nat) (x : Array Int) (s : Nat) (hs : s < m)
    (hre : -2147483648 ≤ x.getD s 0 ∧ x.getD s 0 < 2147483648)
    (him : -2147483648 ≤ x.getD (m + s) 0 ∧ x.getD (m + s) 0 < 2147483648) :
    (∃ a b, (cplxFromTnx32Ref m x)[2 * s]? = some a ∧ (cplxFromTnx32Ref m x)[2 * s + 1]? = some b ∧
      toScaled a = x.getD s 0 * 2 ^ 1042 ∧ toScaled b = x.getD (m + s) 0 * 2 ^ 1042) ∧
    (m % 8 = 0 → ∃ a b, (cplxFromTnx32Avx m x)[2 * s]? = some a ∧ (cplxFromTnx32Avx m x)[2 * s + 1]? = some b ∧
      toScaled a = x.getD s 0 * 2 ^ 1042 ∧ toScaled b = x.getD (m + s) 0 * 2 ^ 1042) := by
  constructor
  · obtain ⟨h1, h2⟩ := cplxFromRef_getElem? cplxFromTnx32RefLane m x s hs
    exact ⟨_, _, h1, h2, cplxFromTnx32RefLane_exact _ (by omega), cplxFromTnx32RefLane_exact _ (by omega)⟩
  · intro hm
    obtain ⟨h1, h2⟩ := cplxFromAnyAvx_getElem? TNX32_C TNX32_R m x hm s hs
    exact ⟨_, _, h1, h2, cplxFromTnx32AvxLane_exact _ hre.1 hre.2, cplxFromTnx32AvxLane_exact _ him.1 him.2⟩

/-- the AVX2 integer-scaling kernel returns bit for bit what the cast returns -/
theorem cplx_from_znx32_avx_eq_ref (x : Int) (h1 : -2147483648 ≤ x) (h2 : x < 2147483648) :
    cplxFromAnyLane ZNX32_C ZNX32_R x = cplxFromZnx32RefLane x :=
  cplxFromZnx32AvxLane_eq_ofInt x h1 h2

/-! ### complex double → torus32 (`cplx_to_tnx32`): round(x·2^32/d) modulo 2^32 -/

/-- `r` is an int32 congruent modulo 2^32 to an integer within 1/2 of `x·2^32/d` -/
def Tnx32 (r : Int) (x d : Nat) : Prop :=
  ∃ n : Int, (r - n) % 4294967296 = 0 ∧ 2 * |n * toScaled d - toScaled x * 4294967296| ≤ toScaled d ∧
    -2147483648 ≤ r ∧ r < 2147483648

/-- reference loop (any m; `(int32_t)(int64_t)rint(x·(2^32/d))`) and AVX2 kernel (8 ∣ m; add (0.5+3·2^19)·d,
    low mantissa word, flip the top bit, de-interleave): output `s` / `m+s` is the torus32 value of the
    real / imaginary part of complex `s`, for |x/d| < 2^18 -/
theorem cplx_to_tnx32_spec (m : Nat) (j : Int) (hj1 : -990 ≤ j) (hj2 : j ≤ 900) (x : Array Nat) (s : Nat) (hs : s < m)
    (hre : MagLt (x.getD (2 * s) 0) (pow2 j) 262144) (him : MagLt (x.getD (2 * s + 1) 0) (pow2 j) 262144) :
    (∃ a b, (cplxToTnx32Ref m (pow2 j) x)[s]? = some a ∧ (cplxToTnx32Ref m (pow2 j) x)[m + s]? = some b ∧
      Tnx32 a (x.getD (2 * s) 0) (pow2 j) ∧ Tnx32 b (x.getD (2 * s + 1) 0) (pow2 j)) ∧
    (m % 8 = 0 → ∃ a b, (cplxToTnx32Avx m (pow2 j) x)[s]? = some a ∧ (cplxToTnx32Avx m (pow2 j) x)[m + s]? = some b ∧
      Tnx32 a (x.getD (2 * s) 0) (pow2 j) ∧ Tnx32 b (x.getD (2 * s + 1) 0) (pow2 j)) := by
  have hpos : 0 ≤ toScaled (pow2 j) := by rw [toScaled_pow2 j (by omega) (by omega)]; positivity
  have widen : ∀ y, MagLt y (pow2 j) 262144 → |toScaled y| < 1073741824 * toScaled (pow2 j) := by
    intro y hy; unfold MagLt at hy; nlinarith
  constructor
  · obtain ⟨h1, h2⟩ := cplxToTnx32Ref_getElem? m (pow2 j) x s hs
    exact ⟨_, _, h1, h2, cplxToTnx32RefLane_spec j hj1 (by omega) _ (widen _ hre),
      cplxToTnx32RefLane_spec j hj1 (by omega) _ (widen _ him)⟩
  · intro hm
    obtain ⟨h1, h2⟩ := cplxToTnx32Avx_getElem? m (pow2 j) x hm s hs
    exact ⟨_, _, h1, h2, cplxToTnx32AvxLane_spec j (by omega) hj2 _ hre, cplxToTnx32AvxLane_spec j (by omega) hj2 _ him⟩

/-- the constructor selects the AVX2 kernel only for `log2overhead ≤ 18` and `m ≥ 8` -/
theorem cplx_to_tnx32_selection (m divisor log2overhead : Nat) (avx2 : Bool)
    (h : initCplxToTnx32 m divisor log2overhead avx2 = some true) : log2overhead ≤ 18 ∧ 8 ≤ m ∧ avx2 = true := by
  obtain ⟨_, _, _, hb⟩ := (initCplxToTnx32_eq_some ..).1 h
  simp only [Bool.and_eq_true, decide_eq_true_eq] at hb
  exact ⟨hb.1.2, hb.2, hb.1.1⟩

example : ∃ x, MagLt x (pow2 (-2)) 262144 ∧ toScaled x ≠ 0 :=
  ⟨4679240012837945343, by unfold MagLt; decide +kernel⟩   -- x = 65536 - 2^-37 = (2^18 - 2^-35)/4

/-! ### double → torus double (`reim_to_tnx`): x/d minus an integer, within 2^(log2overhead−51) -/

/-- `r` (a double) is `x/d − n` for some integer `n`, up to `2^(L−51)`, and lies in `[−1/2, 1/2)`:
      `|r − (x/d − n)| ≤ 2^(L−51)`  ⟺  `2^51·|rs·ds − xs·2^1074 + n·ds·2^1074| ≤ 2^L·2^1074·ds`
    (`rs, xs, ds` the values scaled by 2^1074).  Since `|r| ≤ 1/2`, `n` is a nearest integer of `x/d` up to the
    same tolerance: this is "x/d minus its nearest integer within 2^(L−50)" with the rounding direction at exact
    (or nearly exact) .5 ties left open, as in the property statement. -/
def TnxRes (r x d : Nat) (L : Nat) : Prop :=
  ∃ n : Int,
    2 ^ 51 * |toScaled r * toScaled d - toScaled x * 2 ^ 1074 + n * toScaled d * 2 ^ 1074|
      ≤ 2 ^ L * 2 ^ 1074 * toScaled d ∧
    -(2 ^ 1073) ≤ toScaled r ∧ toScaled r < 2 ^ 1073

/-- For every table `p` built by `init_reim_to_tnx_precomp(m, 2^j, L)` with `L ≤ 48` (constants
    `add_cst = (0.5 + 6·2^L)·d`, `mask_and`, `mask_or`, `sub_cst` recomputed by the model of the constructor, 64-bit
    shift) and every input with `|x/d| ≤ 2^L`: the reference loop (union trick) and, when `8 ∣ 2m`, the AVX loop
    (add/and/or/sub) return at every index a double satisfying `TnxRes`. -/
theorem to_tnx_spec (m : Nat) (j : Int) (L : Nat) (avx2 : Bool) (p : ToTnxPrecomp)
    (hm : notPow2U32 m = false) (hj1 : -1022 ≤ j) (hj2 : j ≤ 900) (hL : L ≤ 48)
    (hinit : initToTnx m (pow2 j) L avx2 = some p)
    (x : Array Nat) (i : Nat) (hi : i < 2 * m)
    (hdom : |toScaled (x.getD i 0)| ≤ 2 ^ L * toScaled (pow2 j)) :
    (∃ r, (toTnxRef p x)[i]? = some r ∧ TnxRes r (x.getD i 0) (pow2 j) L) ∧
    ((2 * m) % 8 = 0 → ∃ r, (toTnxAvx p x)[i]? = some r ∧ TnxRes r (x.getD i 0) (pow2 j) L) := by
  obtain ⟨_, hpm, _⟩ := toTnxLane_of_init m j L avx2 p 0 hm hL hinit
  have hspec := toTnxLane_spec m j L avx2 p (x.getD i 0) hm hj1 hj2 hL hinit hdom
  constructor
  · refine ⟨_, ?_, hspec⟩
    unfold toTnxRef; rw [hpm]; exact scalarLoop_getElem? _ _ i hi
  · intro hdiv
    refine ⟨_, ?_, hspec⟩
    unfold toTnxAvx; rw [hpm]; exact chunks8_getElem? _ m i hdiv hi

/-- reference and AVX loops return the same vector bit for bit (same lane function, `8 ∣ 2m`) -/
theorem to_tnx_ref_eq_avx (p : ToTnxPrecomp) (x : Array Nat) (hdiv : (2 * p.m) % 8 = 0) :
    toTnxAvx p x = toTnxRef p x := by
  apply Array.ext_getElem?
  intro i
  unfold toTnxAvx toTnxRef
  by_cases hi : i < 2 * p.m
  · rw [chunks8_getElem? _ p.m i hdiv hi, scalarLoop_getElem? _ _ i hi]
  · have h1 : (chunks 8 (fun i => toTnxLane p (x.getD i 0)) ((2 * p.m + 7) / 8)).size ≤ i := by
      rw [chunks8_size _ p.m hdiv]; omega
    have h2 : (scalarLoop (2 * p.m) fun i => toTnxLane p (x.getD i 0)).size ≤ i := by
      rw [scalarLoop_size]; omega
    rw [Array.getElem?_eq_none h1, Array.getElem?_eq_none h2]

/- `reim_to_tnx_basic_ref` (`ri = x/d; r = ri − rint(ri)`; not reachable from the dispatcher).
   Full statement: ∀ m j x i, i < 2m → |x[i]/d| ≤ 2^L → r = x[i]/d − n within 2^(L−50) for an integer n, |r| ≤ 1/2.
   Proved part: the result is *exactly* `x/d − n` (both the division by 2^j and `y − rint(y)` are exact) and
   `|r| ≤ 1/2`, under the explicit extra hypothesis `hnz` that the quotient does not underflow (`x = 0` or
   `|x/d| ≥ 2^-1022`); below that threshold `x/d` is rounded to a multiple of 2^-1074 (error ≤ 2^-1075, still far
   inside the tolerance) — that last rounding is not covered. -/
theorem to_tnx_basic_ref_partial (m : Nat) (j : Int) (hj1 : -1022 ≤ j) (hj2 : j ≤ 1023) (x : Array Nat) (i : Nat)
    (hi : i < 2 * m)
    (_hfin : F64.isFinite (x.getD i 0) = true)   -- Inf/NaN patterns are not modelled (for j ≥ 25 the magnitude bound alone admits them)
    (hnz : toScaled (x.getD i 0) = 0 ∨ toScaled (pow2 j) ≤ |toScaled (x.getD i 0)| * 2 ^ 1022)
    (hdom : |toScaled (x.getD i 0)| < 2 ^ 1000 * toScaled (pow2 j)) :
    ∃ r, (toTnxBasicRef m (pow2 j) x)[i]? = some r ∧
      ∃ n : Int, toScaled r * toScaled (pow2 j) = (toScaled (x.getD i 0) - n * toScaled (pow2 j)) * 2 ^ 1074 ∧
        2 * |toScaled r| ≤ 2 ^ 1074 := by
  refine ⟨_, scalarLoop_getElem? _ _ i hi, ?_⟩
  exact toTnxBasicLane_spec j hj1 hj2 _ hnz hdom

/-- the dispatcher runs the AVX loop only for `m ≥ 8` -/
theorem to_tnx_selection (m : Nat) (j : Int) (L : Nat) (avx2 : Bool) (p : ToTnxPrecomp)
    (hm : notPow2U32 m = false) (hL : L ≤ 48) (hinit : initToTnx m (pow2 j) L avx2 = some p) :
    p.useAvx = true → 8 ≤ m ∧ avx2 = true := by
  obtain ⟨_, _, hu⟩ := toTnxLane_of_init m j L avx2 p 0 hm hL hinit
  intro h
  rw [hu] at h
  simp only [Bool.and_eq_true, decide_eq_true_eq] at h
  exact ⟨h.2, h.1⟩

example : ∃ p, initToTnx 8 (pow2 (-3)) 30 true = some p ∧ p.useAvx = true := ⟨_, rfl, by decide +kernel⟩
example : ∃ x, |toScaled x| ≤ 2 ^ 30 * toScaled (pow2 (-3)) ∧ toScaled x ≠ 0 :=
  ⟨4728779608739020800, by decide +kernel⟩   -- x = 2^27 = 2^30 / 8: the boundary itself

end Spq.C14
