/-
  Closed — C01 / C02 / C16 in exact arithmetic WITHOUT the abstract hypotheses H1–H4 / `DftOpsSound`:
  they are discharged by the real FFT network (C06).

  `exactParts rt fl` (`Lemmas/ClosedParts.lean`) is `Spq.Module.Cfg.parts` with binary64 replaced by a
  commutative ring `R` of "real" cells: `fft` / `ifft` ARE `Spq.Fft.reimFftA` / `reimIfftA` with the reference or
  the FMA/assembly schedule (`fl.fftFma`, `fl.ifftFma`) — the code that runs bit-exactly against the library on
  binary64 — on the exact table `cos e = Re ζ^e`, `sin e = Im ζ^e` laid out by `reimFftEnts` / `reimIfftEnts`;
  `fromZnx` casts `nn` integers, `toZnx` applies `rt.rd` (division by `m`) to `nn` cells.
  What is left as hypothesis is ring-level only (`rt : RootData R k`): `ζ : Cx R` with `ζ^m = i` (`m = 2^k`),
  `ζ·conj ζ = 1`, `rd (m·n) = n` for every integer `n`; plus the dispatch invariant `fl.ok k` (FMA pointwise
  kernels only when `m ≥ 4`) and the size/shape hypotheses of C01/C02/C16.
  Satisfiable for EVERY `k` with `R = ℝ` (`realRoot k`: `ζ = exp(iπ/2m)`, `rd x = round(x/m)`), and computably for
  `k = 0` with `R = ℚ` (`ratRoot`).
-/
import SpqProofs.Lemmas.ClosedExactDft
import SpqProofs.Lemmas.ClosedSound2
import SpqProofs.Lemmas.ClosedInst
import SpqProofs.Properties.C01
import SpqProofs.Properties.C02
import SpqProofs.Properties.C16
namespace Spq.ClosedProps
open Finset Spq Spq.Module Spq.Prog Spq.Closed Spq.Fft

variable {R : Type} [CommRing R] {k : ℕ}

/-- **`exactDft_of_network`**: H1–H4 hold for the module built on the real network, with the evaluation points
    `z_j = ζ^(1 + 4·brev_k j)` (the documented output order of `reim_fft`) -/
theorem exactDft_network (rt : RootData R k) (fl : Flags) : ExactDft (exactParts rt fl) rt.z :=
  exactDft_of_network rt fl

/-- the dispatch invariants of `ExactArith` -/
theorem exactArith_network (rt : RootData R k) (fl : Flags) (hfl : fl.ok k) : ExactArith (exactParts rt fl) :=
  exactParts_exactArith rt fl hfl

/-- **C01, closed**: `fft64_znx_small_single_product` over the real network returns the negacyclic product,
    every `nn = 2·2^k`, every combination of reference / FMA kernels -/
theorem small_product_closed (rt : RootData R k) (fl : Flags) (hfl : fl.ok k) (a b : Array Int)
    (hsa : a.size = 2 * 2 ^ k) (hsb : b.size = 2 * 2 ^ k) :
    smallProduct (exactParts rt fl) a b = nmul (2 * 2 ^ k) a b :=
  C01.small_product_exact _ rt.z (exactParts_exactArith rt fl hfl) (exactDft_of_network rt fl) a b hsa hsb

/-- **C01, closed**: `svp_prepare` + `svp_apply_dft` + `vec_znx_idft` over the real network -/
theorem svp_closed (rt : RootData R k) (fl : Flags) (hfl : fl.ok k) (pol : Array Int) (hp : pol.size = 2 * 2 ^ k)
    (vec : Array Int) (asz asl rsz rsz2 : ℕ)
    (hlimb : ∀ i, i < rsz → i < asz → (limbOf vec i asl (2 * 2 ^ k)).size = 2 * 2 ^ k) :
    let c := exactParts rt fl
    (vecIdft c rsz2 (svpApply c rsz (svpPrepare c pol) vec asz asl) rsz).size = rsz2 * (2 * 2 ^ k) ∧
    ∀ i, i < rsz2 → dlimb (vecIdft c rsz2 (svpApply c rsz (svpPrepare c pol) vec asz asl) rsz) i (2 * 2 ^ k) =
      if i < rsz ∧ i < asz then nmul (2 * 2 ^ k) pol (limbOf vec i asl (2 * 2 ^ k)) else Array.replicate (2 * 2 ^ k) 0 :=
  C01.svp_exact _ rt.z (exactParts_exactArith rt fl hfl) (exactDft_of_network rt fl) pol hp vec asz asl rsz rsz2 hlimb

/-- **C02, closed**: `vmp_prepare_contiguous` + `vmp_apply_dft` + `vec_znx_idft` over the real network: column
    `j < min ncols rsz` is `Σ_{i < min nrows asz} a_i · M[i][j]` in `ℤ[X]/(X^nn + 1)`, every other limb is zero -/
theorem vmp_closed (rt : RootData R k) (fl : Flags) (hfl : fl.ok k) (mat : Array Int) (nrows ncols : ℕ)
    (hmat : ∀ i j, i < nrows → j < ncols → (matEntry mat ncols (2 * 2 ^ k) i j).size = 2 * 2 ^ k)
    (a : Array Int) (asz asl : ℕ) (hlimb : ∀ i, i < min nrows asz → (limbOf a i asl (2 * 2 ^ k)).size = 2 * 2 ^ k)
    (rsz rsz2 : ℕ) :
    let c := exactParts rt fl
    (vecIdft c rsz2 (vmpApplyDft c rsz a asz asl (vmpPrepare c mat nrows ncols) nrows ncols) rsz).size
        = rsz2 * (2 * 2 ^ k) ∧
    ∀ j, j < rsz2 →
      dlimb (vecIdft c rsz2 (vmpApplyDft c rsz a asz asl (vmpPrepare c mat nrows ncols) nrows ncols) rsz) j (2 * 2 ^ k) =
        if j < min ncols rsz then
          isum (2 * 2 ^ k) (min nrows asz)
            (fun i => nmul (2 * 2 ^ k) (limbOf a i asl (2 * 2 ^ k)) (matEntry mat ncols (2 * 2 ^ k) i j))
        else Array.replicate (2 * 2 ^ k) 0 :=
  C02.vmp_exact _ rt.z (exactParts_exactArith rt fl hfl) (exactDft_of_network rt fl) mat nrows ncols hmat a asz asl
    hlimb rsz rsz2

theorem fromLocal_network (rt : RootData R k) (fl : Flags) : FromLocal (exactParts rt fl) := by
  intro x y h
  show (Array.ofFn (n := 2 * 2 ^ k) fun i => ((x.getD i.val 0 : Int) : R)) = Array.ofFn fun i => ((y.getD i.val 0 : Int) : R)
  congr 1
  funext i
  rw [h i.val i.isLt]

/-- **C16, closed**: the record of per-function facts the refinement theorem assumes, for the real network;
    every budget is `True` -/
def dftOpsSound_network (rt : RootData R k) (fl : Flags) (hfl : fl.ok k) :
    DftOpsSound (exactParts rt fl) (2 * 2 ^ k) :=
  dftOpsSound_of_exact (exactParts rt fl) rt.z (exactParts_exactArith rt fl hfl) (exactDft_of_network rt fl)
    (fromLocal_network rt fl)

/-- **C16, closed: refinement of mixed coefficient / DFT-space programs over the real network.**
    For every well-formed layout and every mixed program (`vec_znx_*` calls, `vec_znx_dft`, `svp_*`, `vmp_*`,
    `vec_znx_idft`, small product) whose abstract run satisfies the coefficient-space preconditions (operands declared,
    int64 budget of the `vec_znx_*` calls; the DFT-space budgets are `True`): the final implementation state — heap of
    int64 cells computed by the library model with `exactParts`, opaque objects computed by the network — represents
    the final state of the exact integer semantics in `ℤ[X]/(X^nn + 1)`. -/
theorem prog_refines_closed (rt : RootData R k) (fl : Flags) (hfl : fl.ok k) {hsz : ℕ} {vars : List Var}
    (wf : WF (2 * 2 ^ k) hsz vars) (ops : List OpD) (a : AState) (s : CState R)
    (hb : Guarded (PreD (dftOpsSound_network rt fl hfl) vars) (astepD (2 * 2 ^ k)) ops a)
    (hR : RD (dftOpsSound_network rt fl hfl) hsz vars a s) :
    RD (dftOpsSound_network rt fl hfl) hsz vars (run (astepD (2 * 2 ^ k)) ops a)
      (run (cstepD (exactParts rt fl) (2 * 2 ^ k)) ops s) :=
  C16.prog_refines_partial (dftOpsSound_network rt fl hfl) wf ops a s hb hR

/-- read-back form: every coefficient of every declared variable in the final heap is the exact integer -/
theorem prog_output_closed (rt : RootData R k) (fl : Flags) (hfl : fl.ok k) {hsz : ℕ} {vars : List Var}
    (wf : WF (2 * 2 ^ k) hsz vars) (ops : List OpD) (a : AState) (s : CState R)
    (hb : Guarded (PreD (dftOpsSound_network rt fl hfl) vars) (astepD (2 * 2 ^ k)) ops a)
    (hR : RD (dftOpsSound_network rt fl hfl) hsz vars a s) (v : Var) (hv : v ∈ vars) :
    ∀ i t, i < v.size → t < 2 * 2 ^ k →
      (readVar (2 * 2 ^ k) (run (cstepD (exactParts rt fl) (2 * 2 ^ k)) ops s).heap v).coef i t
        = ((run (astepD (2 * 2 ^ k)) ops a).env v).coef i t :=
  C16.prog_output_partial (dftOpsSound_network rt fl hfl) wf ops a s hb hR v hv

/-- `exactParts.fft` / `.ifft` are the network of `Spq.Fft` (reference schedule shown; `fl.fftFma = true` selects
    `fwdFma`), on the exact table -/
example (rt : RootData R k) (b1 b2 b3 b4 : Bool) (d : Array R) :
    (exactParts rt ⟨false, b1, b2, b3, b4⟩).fft d =
      @reimFftA R (inh0 R) (fwdRef Sim.ringA) (2 ^ k) ((reimFftEnts (2 ^ k)).map (Tab.val rt.c rt.s)).toArray d := rfl
example (rt : RootData R k) (b1 b2 b3 b4 : Bool) (d : Array R) :
    (exactParts rt ⟨b1, true, b2, b3, b4⟩).ifft d =
      @reimIfftA R (inh0 R) (invFma Sim.ringA) (2 ^ k) ((reimIfftEnts (2 ^ k)).map (Tab.val rt.c rt.s)).toArray d := rfl

/-- `RootData` is inhabited for EVERY size over the reals: `ζ = exp(iπ/2m)` -/
noncomputable example (k : ℕ) : RootData ℝ k := realRoot k
/-- and computably for `m = 1` over `ℚ` -/
example : RootData ℚ 0 := ratRoot

/-- the closed product theorem at `nn = 16` over ℝ with every FMA/AVX kernel selected -/
example (a b : Array Int) (ha : a.size = 16) (hb : b.size = 16) :
    smallProduct (exactParts (realRoot 3) ⟨true, true, true, true, true⟩) a b = nmul 16 a b :=
  small_product_closed (realRoot 3) _ (fun _ => by omega) a b ha hb

/-- at `nn = 2` over ℚ: `(1 + 2X)(3 + 4X) = -5 + 10X (mod X² + 1)` -/
example : smallProduct (exactParts ratRoot ⟨false, false, false, false, false⟩) #[1, 2] #[3, 4] = #[-5, 10] := by
  rw [small_product_closed ratRoot _ (fun h => by simp at h) _ _ rfl rfl]
  decide

/-! a mixed program through the network module (`R = ℚ`, `nn = 2`, heap of 6 cells, `x = 1 + 2X`, `y = 3 + 4X`):
    `P := svp_prepare(x); D := svp_apply_dft(P, y); z := idft(D); z := z + x` -/

def exX : Var := ⟨0, 1, 2⟩
def exY : Var := ⟨2, 1, 2⟩
def exZ : Var := ⟨4, 1, 2⟩
def exVars : List Var := [exX, exY, exZ]
def exHeap : Heap Int := ⟨#[1, 2, 3, 4, 0, 0], true⟩
def exEnv : Env := fun v => readVar 2 exHeap v
def exD : DVar := ⟨0, 1⟩
def exProg : List OpD := [.svpPrepare 0 exX, .svp exD 0 exY, .idft exZ exD, .coeff (.add exZ exZ exX)]
def exA : AState := ⟨exEnv, fun _ => none, fun _ => none, fun _ => none, fun _ => none⟩
def exS : CState ℚ := ⟨exHeap, fun _ => #[], fun _ => #[], fun _ => #[]⟩
def exFl : Flags := ⟨false, false, false, false, false⟩

/-- every hypothesis of `prog_output_closed` holds for this program; the conclusion, read back:
    `z = x·y + x = (-5 + 10X) + (1 + 2X)` -/
example : ∀ i t, i < exZ.size → t < 2 →
    (readVar 2 (run (cstepD (exactParts ratRoot exFl) 2) exProg exS).heap exZ).coef i t
      = ((run (astepD 2) exProg exA).env exZ).coef i t :=
  prog_output_closed ratRoot exFl (fun h => by simp [exFl] at h) (hsz := 6) (vars := exVars) (WFb_sound _ _ _ (by decide)) exProg exA exS
    ⟨⟨by decide, by decide, trivial⟩,
     ⟨by decide, _, rfl, trivial⟩,
     ⟨by decide, _, rfl, trivial⟩,
     ⟨OpOKb_sound _ _ _ (by decide), OpBudgetb_sound _ _ _ (by decide +kernel)⟩, trivial⟩
    (RD_init _ exEnv exS (Rb_sound _ _ _ _ _ (by decide))) exZ (by decide)
example : (run (astepD 2) exProg exA).env exZ = #[#[-4, 12]] := by decide +kernel
/-- the implementation-level run, evaluated (the model of the library with the network module) -/
example : (run (cstepD (exactParts ratRoot exFl) 2) exProg exS).heap.mem = #[1, 2, 3, 4, -4, 12] := by decide +kernel

/-! `vmp_apply_dft_to_dft` (`OpD.vmpDD`) applied to a PRODUCT (exact arithmetic has no rounding to propagate, so products of
    products are covered): `P := svp_prepare(x); D := svp_apply_dft(P, y); M := vmp_prepare(x);
    D' := vmp_apply_dft_to_dft(D, M); z := idft(D')`, i.e. `z = (x·y)·x = (-5 + 10X)(1 + 2X) = -25 (mod X² + 1)` -/

def exD2 : DVar := ⟨1, 1⟩
def exM : MVar := ⟨0, 1, 1⟩
def exProgDD : List OpD := [.svpPrepare 0 exX, .svp exD 0 exY, .vmpPrepare exM exX, .vmpDD exD2 exD exM, .idft exZ exD2]

example : ∀ i t, i < exZ.size → t < 2 →
    (readVar 2 (run (cstepD (exactParts ratRoot exFl) 2) exProgDD exS).heap exZ).coef i t
      = ((run (astepD 2) exProgDD exA).env exZ).coef i t :=
  prog_output_closed ratRoot exFl (fun h => by simp [exFl] at h) (hsz := 6) (vars := exVars) (WFb_sound _ _ _ (by decide)) exProgDD exA exS
    ⟨⟨by decide, by decide, trivial⟩,
     ⟨by decide, _, rfl, trivial⟩,
     ⟨by decide, rfl, rfl, trivial⟩,
     ⟨by decide, _, _, rfl, rfl, trivial⟩,
     ⟨by decide, _, rfl, trivial⟩, trivial⟩
    (RD_init _ exEnv exS (Rb_sound _ _ _ _ _ (by decide))) exZ (by decide)
example : (run (astepD 2) exProgDD exA).env exZ = #[#[-25, 0]] := by decide +kernel
example : (run (cstepD (exactParts ratRoot exFl) 2) exProgDD exS).heap.mem = #[1, 2, 3, 4, -25, 0] := by decide +kernel

/-! the decidable characteristic-0 instance `k4Root` (`R = ℚ(√2, w)`, `m = 4`, `nn = 8`: reim4 layout, `fft4` kernels):
    the closed theorems apply, and the kernel EVALUATES the model through the network — both agree -/

example : RootData K4 2 := k4Root
def exFl4 : Flags := ⟨true, true, true, true, true⟩

example (a b : Array Int) (ha : a.size = 8) (hb : b.size = 8) :
    smallProduct (exactParts k4Root exFl4) a b = nmul 8 a b :=
  small_product_closed k4Root exFl4 (fun _ => Nat.le_refl 2) a b ha hb
/-- `(1 + 2X + … + 8X⁷)(X + X⁷) mod X⁸ + 1`, FMA network and FMA pointwise kernels, evaluated -/
example : smallProduct (exactParts k4Root exFl4) #[1, 2, 3, 4, 5, 6, 7, 8] #[0, 1, 0, 0, 0, 0, 0, 1] =
    #[-10, -2, -2, -2, -2, -2, -2, 8] := by decide +kernel
/-- reference network and reference kernels, evaluated -/
example : smallProduct (exactParts k4Root exFl) #[1, 2, 3, 4, 5, 6, 7, 8] #[0, 1, 0, 0, 0, 0, 0, 1] =
    #[-10, -2, -2, -2, -2, -2, -2, 8] := by decide +kernel
example : nmul 8 #[1, 2, 3, 4, 5, 6, 7, 8] #[0, 1, 0, 0, 0, 0, 0, 1] = #[-10, -2, -2, -2, -2, -2, -2, 8] := by
  decide +kernel
/-- VMP through the network: `(a₀, a₁) = (1 + … + 8X⁷, 1)`, `M = [[X, 1], [2, X⁷]]`, three output limbs:
    `(a₀X + 2a₁, a₀ + a₁X⁷, 0)` -/
example : vecIdft (exactParts k4Root exFl4) 3 (vmpApplyDft (exactParts k4Root exFl4) 3
      #[1, 2, 3, 4, 5, 6, 7, 8,  1, 0, 0, 0, 0, 0, 0, 0] 2 8
      (vmpPrepare (exactParts k4Root exFl4)
        #[0, 1, 0, 0, 0, 0, 0, 0,  1, 0, 0, 0, 0, 0, 0, 0,  2, 0, 0, 0, 0, 0, 0, 0,  0, 0, 0, 0, 0, 0, 0, 1] 2 2) 2 2) 3
    = #[-6, 1, 2, 3, 4, 5, 6, 7,  1, 2, 3, 4, 5, 6, 7, 9,  0, 0, 0, 0, 0, 0, 0, 0] := by decide +kernel

/-! the same mixed program shape at `nn = 8` over `k4Root`, FMA kernels: `z := -(x·y)`, `x = 1 + … + 8X⁷`, `y = X + X⁷` -/

def exX8 : Var := ⟨0, 1, 8⟩
def exY8 : Var := ⟨8, 1, 8⟩
def exZ8 : Var := ⟨16, 1, 8⟩
def exVars8 : List Var := [exX8, exY8, exZ8]
def exHeap8 : Heap Int := ⟨#[1, 2, 3, 4, 5, 6, 7, 8,  0, 1, 0, 0, 0, 0, 0, 1,  9, 9, 9, 9, 9, 9, 9, 9], true⟩
def exEnv8 : Env := fun v => readVar 8 exHeap8 v
def exProg8 : List OpD := [.svpPrepare 0 exX8, .svp exD 0 exY8, .idft exZ8 exD, .coeff (.negate exZ8 exZ8)]
def exA8 : AState := ⟨exEnv8, fun _ => none, fun _ => none, fun _ => none, fun _ => none⟩
def exS8 : CState K4 := ⟨exHeap8, fun _ => #[], fun _ => #[], fun _ => #[]⟩

example : ∀ i t, i < exZ8.size → t < 8 →
    (readVar 8 (run (cstepD (exactParts k4Root exFl4) 8) exProg8 exS8).heap exZ8).coef i t
      = ((run (astepD 8) exProg8 exA8).env exZ8).coef i t :=
  prog_output_closed k4Root exFl4 (fun _ => Nat.le_refl 2) (hsz := 24) (vars := exVars8)
    (WFb_sound _ _ _ (by decide)) exProg8 exA8 exS8
    ⟨⟨by decide, by decide, trivial⟩,
     ⟨by decide, _, rfl, trivial⟩,
     ⟨by decide, _, rfl, trivial⟩,
     ⟨OpOKb_sound _ _ _ (by decide), OpBudgetb_sound _ _ _ (by decide +kernel)⟩, trivial⟩
    (RD_init _ exEnv8 exS8 (Rb_sound _ _ _ _ _ (by decide))) exZ8 (by decide)
example : (run (astepD 8) exProg8 exA8).env exZ8 = #[#[10, 2, 2, 2, 2, 2, 2, -8]] := by decide +kernel
example : (run (cstepD (exactParts k4Root exFl4) 8) exProg8 exS8).heap.mem =
    #[1, 2, 3, 4, 5, 6, 7, 8,  0, 1, 0, 0, 0, 0, 0, 1,  10, 2, 2, 2, 2, 2, 2, -8] := by decide +kernel

end Spq.ClosedProps
