/-
  C11 / C13 / C18, translator tie of the ADDRESSING of the FFT64 module layer: the terms GENERATED by
  tools/c2lean.py from the C source of `spqlios/arithmetic/vec_znx_dft.c`, `scalar_vector_product.c` and
  `znx_small.c` (`lean/Gen/CSrc.lean`), run by the CIR interpreter with the arithmetic kernels as OPAQUE calls, are
  the entry points of the heap model `lean/Spq/ModuleHeap.lean` that `Properties/ModHeap.lean` is about.

  * `module->nn` is the scalar argument `c.nn`; every other `module->mod.fft64.*` object only occurs as the first
    argument of its kernel (checked by the translator: `reim_fft` must be given `p_fft`, `reim_ifft` `p_ifft`, …)
    and is dropped: the kernel semantics is the parameter `modSem c cd B` of the interpreter, i.e. the kernel calls
    `kFromZnx / kFft / kIfft / kToZnx / kMul / kAddmul` of the model applied to the arena held in buffer `B`;
  * all pointer arguments point into ONE arena buffer (offsets = the model's cell offsets);
  * hypothesis of every theorem: the model's run is `ok` (no access outside the arena / the declared scratch, no
    aliasing a kernel does not support; `Properties/ModHeap.lean` proves `ok` from the C contract); conclusion: the
    generated term returns exactly the model's final arena, for every fuel ≥ the number of limbs (`nr` is the
    matrix row count the kernel record is instantiated with; it only matters for the VMP product kernels);
  * `memset(p, 0, n)` stores all-zero cells: the codec must encode the DFT-space zero (+0.0) resp. the integer 0 as
    the cell 0 (`hz`), as `Cells.f64` does.
-/
import Gen.CSrc
import SpqProofs.Lemmas.SrcHas
namespace Spq.Src
open Spq Spq.CIR Heap ModuleHeap
variable {α : Type}

theorem src_fft64_vec_znx_dft_eq_model (c : Module.Parts α) (cd : Cells Int α) (nr : Nat) (hz : cd.enc c.ar.zero = 0)
    (m0 : Mem) (B : Nat) (hB : B < m0.size) (X : Array Int) (hX : X.size < 2305843009213693952)
    (res rsz a asz asl : Nat) (hnn : c.nn < 18446744073709551616) (hrsz : rsz < 18446744073709551616)
    (hasz : asz < 18446744073709551616)
    (hok : (vecDft c cd ⟨X, true⟩ res rsz a asz asl).ok = true) :
    ∀ fuel, rsz ≤ fuel →
      runK (modSem c cd B nr) fuel Gen.CSrc.fft64_vec_znx_dft [(c.nn : Int), (rsz : Int), (asz : Int), (asl : Int)]
          [some (B, res), some (B, a)] (m0.setIfInBounds B X)
        = .ok (m0.setIfInBounds B (vecDft c cd ⟨X, true⟩ res rsz a asz asl).mem) := by
  intro fuel hf
  have hm := Nat.min_le_left rsz asz
  have hs64 : min rsz asz < 18446744073709551616 := Nat.lt_of_le_of_lt hm hrsz
  refine Tr.runD (L := 9) (N := X.size) (fb := min rsz asz - 0 + 0) (k := fun h => vecDft c cd h res rsz a asz asl) rfl
    (Tr.assignD 4 _ ((min rsz asz : Nat) : Int) (by decide)
      (fun _ _ H => eval_min_u64 (eval_var_eq (H.get 1 rfl)) (eval_var_eq (H.get 2 rfl)))
    (Tr.assignD 5 _ (c.nn : Int) (by decide) (fun _ _ H => eval_var_eq (H.get 0 rfl))
    (Tr.seq
      -- for (i = 0; i < smin; ++i) { reim_from_znx64(res + i*nn, a + i*a_sl); reim_fft(res + i*nn); }
      (Tr.forD 6 _ _ _ (fun i h => kFft c cd (res + i * c.nn) (kFromZnx c cd (res + i * c.nn) (a + i * asl) h))
        (fun i => (good_kFromZnx c cd _ _).comp (good_kFft c cd _)) 0 (min rsz asz) (Nat.zero_le _) hs64 (by decide)
        (fun _ _ _ => rfl) (fun _ _ _ H => eval_var_eq (H.get 4 rfl))
        fun k _ hk => Tr.of_ok (φ := res + k * c.nn + c.nn ≤ X.size ∧ a + k * asl + c.nn ≤ X.size)
          ((good_kFromZnx c cd _ _).comp (good_kFft c cd _)) (fun H hN hk => by
            have b1 := kFft_bound c cd _ _ hk
            have b2 := kFromZnx_bound c cd _ _ _ ((good_kFft c cd _).mono _ hk)
            rw [(good_kFromZnx c cd _ _).size, hN] at b1
            rw [hN] at b2
            exact ⟨b1, b2⟩)
          fun ⟨b1, b2⟩ => Tr.ofHas ((good_kFromZnx c cd _ _).comp (good_kFft c cd _)) fun env H =>
            have e1 : ∀ m, eval [some (B, res), some (B, a)] ⟨env, m⟩ (.bin .mul .u64 (.var 6) (.var 5))
                = .ok ((k * c.nn : Nat) : Int) :=
              fun _ => ((EvU.arg (H.get 6 rfl) (Nat.lt_trans hk hs64)).mul (EvU.arg (H.get 5 rfl) hnn)).exact
                (lt_of_addr b1 hX)
            Tr.seq
              (Tr.extcall hB _ _ _ (good_kFromZnx c cd (res + k * c.nn) (a + k * asl)) fun _ _ _ =>
                ⟨_, _, rfl, evalPtrs_param (e1 _) rfl (evalPtrs_param
                  (eval_mul_u64 (eval_var_eq (H.get 6 rfl)) (eval_var_eq (H.get 3 rfl)) (lt_of_addr b2 hX)) rfl rfl),
                  modSem_fromZnx c cd B nr _ _ _⟩)
              (Tr.extcall hB _ _ _ (good_kFft c cd (res + k * c.nn)) fun _ _ _ =>
                ⟨_, _, rfl, evalPtrs_param (e1 _) rfl rfl, modSem_fft c cd B nr _ _⟩))
      -- double* dres = res;  memset(dres + smin*nn, 0, (res_size - smin) * nn * 8);
      (Tr.passignD 7 _ _ 0 B res (by decide) (fun _ _ _ => rfl) (fun env _ => ptrAt_param_zero _ env 0 B res rfl)
        (Tr.ofHas (good_kZeroD c cd _ _) fun env H =>
          Tr.zeroD hB c cd hz _ _ _ (res + min rsz asz * c.nn) ((rsz - min rsz asz) * c.nn) fun _ hN hb =>
            ⟨rfl, ((((EvU.arg (H.get 1 rfl) hrsz).sub (EvU.arg (H.get 4 rfl) hs64) hm).mul (EvU.arg (H.get 5 rfl) hnn)).mul
                (EvU.lit 8)).exact (bytes_lt_of_addr hb hX),
              evalPtrs_pvar (((EvU.arg (H.get 4 rfl) hs64).mul (EvU.arg (H.get 5 rfl) hnn)).exact (lt_of_addr hb hX))
                (H.get 7 rfl) (H.get 8 rfl) rfl⟩)))))
    rfl hok (Nat.le_trans hm hf)

theorem src_fft64_vec_znx_idft_eq_model (c : Module.Parts α) (cd : Cells Int α) (nr : Nat) (hzI : cd.encI 0 = 0)
    (m0 : Mem) (B : Nat) (hB : B < m0.size) (X : Array Int) (hX : X.size < 2305843009213693952)
    (res rsz adft asz : Nat) (tp : Ptr) (hnn : c.nn < 18446744073709551616) (hrsz : rsz < 18446744073709551616)
    (hasz : asz < 18446744073709551616)
    (hok : (vecIdft c cd ⟨X, true⟩ res rsz adft asz).ok = true) :
    ∀ fuel, rsz ≤ fuel →
      runK (modSem c cd B nr) fuel Gen.CSrc.fft64_vec_znx_idft [(c.nn : Int), (rsz : Int), (asz : Int)]
          [some (B, res), some (B, adft), tp] (m0.setIfInBounds B X)
        = .ok (m0.setIfInBounds B (vecIdft c cd ⟨X, true⟩ res rsz adft asz).mem) := by
  intro fuel hf
  have hm := Nat.min_le_left rsz asz
  have hs64 : min rsz asz < 18446744073709551616 := Nat.lt_of_le_of_lt hm hrsz
  have gb : ∀ i, Good (fun h => kToZnx c cd (res + i * c.nn) (res + i * c.nn) (kIfft c cd (res + i * c.nn) h)) :=
    fun i => (good_kIfft c cd _).comp (good_kToZnx c cd _ _)
  refine Tr.runD (L := 8) (N := X.size) (fb := min rsz asz - 0 + 0) (k := fun h => vecIdft c cd h res rsz adft asz) rfl
    (Tr.assignD 3 _ (c.nn : Int) (by decide) (fun _ _ H => eval_var_eq (H.get 0 rfl))
    (Tr.assignD 4 _ ((min rsz asz : Nat) : Int) (by decide)
      (fun _ _ H => eval_min_u64 (eval_var_eq (H.get 1 rfl)) (eval_var_eq (H.get 2 rfl)))
    (Tr.seq
      -- if (res != a_dft) memcpy(res, a_dft, smin * nn * 8)
      (Tr.ofHas (Good.ite _ (good_kCopy cd res adft (min rsz asz * c.nn)) Good.id) fun env H =>
        Tr.ite _ (fun m => evalB_ptrNe _ _ _ _ _ _ _ 0 0 B res adft rfl rfl (ptrAt_param_zero _ _ 0 B res rfl)
          (ptrAt_param_zero _ _ 1 B adft rfl)) (good_kCopy cd _ _ _) Good.id
        (fun _ => Tr.copy hB cd 0 1 _ res adft (min rsz asz * c.nn) rfl rfl fun _ hN b1 _ =>
          (((EvU.arg (H.get 4 rfl) hs64).mul (EvU.arg (H.get 3 rfl) hnn)).mul (EvU.lit 8)).exact (bytes_lt_of_addr b1 hX))
        fun _ => Tr.skip)
      (Tr.seq
        -- for (i = 0; i < smin; ++i) { reim_ifft(res + i*nn); reim_to_znx64(res + i*nn, res + i*nn); }
        (Tr.forD 5 _ _ _ _ gb 0 (min rsz asz) (Nat.zero_le _) hs64 (by decide)
          (fun _ _ _ => rfl) (fun _ _ _ H => eval_var_eq (H.get 4 rfl))
          fun k _ hk => Tr.of_ok (φ := res + k * c.nn + c.nn ≤ X.size) (gb k)
            (fun H hN hk => hN ▸ kIfft_bound c cd _ _ ((good_kToZnx c cd _ _).mono _ hk))
            fun b1 => Tr.ofHas (gb k) fun env H =>
              have e1 : ∀ m, eval [some (B, res), some (B, adft), tp] ⟨env, m⟩ (.bin .mul .u64 (.var 5) (.var 3))
                  = .ok ((k * c.nn : Nat) : Int) :=
                fun _ => ((EvU.arg (H.get 5 rfl) (Nat.lt_trans hk hs64)).mul (EvU.arg (H.get 3 rfl) hnn)).exact
                  (lt_of_addr b1 hX)
              Tr.seq
                (Tr.extcall hB _ _ _ (good_kIfft c cd (res + k * c.nn)) fun _ _ _ =>
                  ⟨_, _, rfl, evalPtrs_param (e1 _) rfl rfl, modSem_ifft c cd B nr _ _⟩)
                (Tr.extcall hB _ _ _ (good_kToZnx c cd (res + k * c.nn) (res + k * c.nn)) fun _ _ _ =>
                  ⟨_, _, rfl, evalPtrs_param (e1 _) rfl (evalPtrs_param (e1 _) rfl rfl), modSem_toZnx c cd B nr _ _ _⟩))
        -- int64_t* res_tail = res;  memset(res_tail + smin*nn, 0, (res_size - smin) * nn * 8)
        (Tr.passignD 6 _ _ 0 B res (by decide) (fun _ _ _ => rfl) (fun env _ => ptrAt_param_zero _ env 0 B res rfl)
          (Tr.ofHas (good_kZeroI cd _ _) fun env H =>
            Tr.zeroI hB cd hzI _ _ _ (res + min rsz asz * c.nn) ((rsz - min rsz asz) * c.nn) fun _ hN hb =>
              ⟨rfl, ((((EvU.arg (H.get 1 rfl) hrsz).sub (EvU.arg (H.get 4 rfl) hs64) hm).mul (EvU.arg (H.get 3 rfl) hnn)).mul
                  (EvU.lit 8)).exact (bytes_lt_of_addr hb hX),
                evalPtrs_pvar (((EvU.arg (H.get 4 rfl) hs64).mul (EvU.arg (H.get 3 rfl) hnn)).exact (lt_of_addr hb hX))
                  (H.get 6 rfl) (H.get 7 rfl) rfl⟩))))))
    rfl hok (Nat.le_trans hm hf)

theorem src_fft64_vec_znx_idft_tmp_a_eq_model (c : Module.Parts α) (cd : Cells Int α) (nr : Nat) (hzI : cd.encI 0 = 0)
    (m0 : Mem) (B : Nat) (hB : B < m0.size) (X : Array Int) (hX : X.size < 2305843009213693952)
    (res rsz adft asz : Nat) (hnn : c.nn < 18446744073709551616) (hrsz : rsz < 18446744073709551616)
    (hasz : asz < 18446744073709551616)
    (hok : (vecIdftTmpA c cd ⟨X, true⟩ res rsz adft asz).ok = true) :
    ∀ fuel, rsz ≤ fuel →
      runK (modSem c cd B nr) fuel Gen.CSrc.fft64_vec_znx_idft_tmp_a [(c.nn : Int), (rsz : Int), (asz : Int)]
          [some (B, res), some (B, adft)] (m0.setIfInBounds B X)
        = .ok (m0.setIfInBounds B (vecIdftTmpA c cd ⟨X, true⟩ res rsz adft asz).mem) := by
  intro fuel hf
  have hm := Nat.min_le_left rsz asz
  have hs64 : min rsz asz < 18446744073709551616 := Nat.lt_of_le_of_lt hm hrsz
  have gb : ∀ i, Good (fun h => kToZnx c cd (res + i * c.nn) (adft + i * c.nn) (kIfft c cd (adft + i * c.nn) h)) :=
    fun i => (good_kIfft c cd _).comp (good_kToZnx c cd _ _)
  refine Tr.runD (L := 10) (N := X.size) (fb := min rsz asz - 0 + 0) (k := fun h => vecIdftTmpA c cd h res rsz adft asz) rfl
    (Tr.assignD 3 _ (c.nn : Int) (by decide) (fun _ _ H => eval_var_eq (H.get 0 rfl))
    (Tr.assignD 4 _ ((min rsz asz : Nat) : Int) (by decide)
      (fun _ _ H => eval_min_u64 (eval_var_eq (H.get 1 rfl)) (eval_var_eq (H.get 2 rfl)))
    (Tr.passignD 5 _ _ 0 B res (by decide) (fun _ _ _ => rfl) (fun env _ => ptrAt_param_zero _ env 0 B res rfl)
    (Tr.passignD 7 _ _ 0 B adft (by decide) (fun _ _ _ => rfl) (fun env _ => ptrAt_param_zero _ env 1 B adft rfl)
    (Tr.seq
      -- for (i = 0; i < smin; ++i) { reim_ifft(a_ptr + i*nn); reim_to_znx64(res_ptr + i*nn, a_ptr + i*nn); }
      (Tr.forD 9 _ _ _ _ gb 0 (min rsz asz) (Nat.zero_le _) hs64 (by decide)
        (fun _ _ _ => rfl) (fun _ _ _ H => eval_var_eq (H.get 4 rfl))
        fun k _ hk => Tr.of_ok (φ := adft + k * c.nn + c.nn ≤ X.size) (gb k)
          (fun H hN hk => hN ▸ kIfft_bound c cd _ _ ((good_kToZnx c cd _ _).mono _ hk))
          fun b1 => Tr.ofHas (gb k) fun env H =>
            have e1 : ∀ m, eval [some (B, res), some (B, adft)] ⟨env, m⟩ (.bin .mul .u64 (.var 9) (.var 3))
                = .ok ((k * c.nn : Nat) : Int) :=
              fun _ => ((EvU.arg (H.get 9 rfl) (Nat.lt_trans hk hs64)).mul (EvU.arg (H.get 3 rfl) hnn)).exact
                (lt_of_addr b1 hX)
            Tr.seq
              (Tr.extcall hB _ _ _ (good_kIfft c cd (adft + k * c.nn)) fun _ _ _ =>
                ⟨_, _, rfl, evalPtrs_pvar (e1 _) (H.get 7 rfl) (H.get 8 rfl) rfl, modSem_ifft c cd B nr _ _⟩)
              (Tr.extcall hB _ _ _ (good_kToZnx c cd (res + k * c.nn) (adft + k * c.nn)) fun _ _ _ =>
                ⟨_, _, rfl, evalPtrs_pvar (e1 _) (H.get 5 rfl) (H.get 6 rfl)
                  (evalPtrs_pvar (e1 _) (H.get 7 rfl) (H.get 8 rfl) rfl), modSem_toZnx c cd B nr _ _ _⟩))
      -- memset(res_ptr + smin*nn, 0, (res_size - smin) * nn * 8)
      (Tr.ofHas (good_kZeroI cd _ _) fun env H =>
        Tr.zeroI hB cd hzI _ _ _ (res + min rsz asz * c.nn) ((rsz - min rsz asz) * c.nn) fun _ hN hb =>
          ⟨rfl, ((((EvU.arg (H.get 1 rfl) hrsz).sub (EvU.arg (H.get 4 rfl) hs64) hm).mul (EvU.arg (H.get 3 rfl) hnn)).mul
              (EvU.lit 8)).exact (bytes_lt_of_addr hb hX),
            evalPtrs_pvar (((EvU.arg (H.get 4 rfl) hs64).mul (EvU.arg (H.get 3 rfl) hnn)).exact (lt_of_addr hb hX))
              (H.get 5 rfl) (H.get 6 rfl) rfl⟩))))))
    rfl hok (Nat.le_trans hm hf)

theorem src_fft64_svp_prepare_ref_eq_model (c : Module.Parts α) (cd : Cells Int α) (nr : Nat)
    (m0 : Mem) (B : Nat) (hB : B < m0.size) (X : Array Int) (ppol pol : Nat)
    (hok : (svpPrepare c cd ⟨X, true⟩ ppol pol).ok = true) :
    ∀ fuel,
      runK (modSem c cd B nr) fuel Gen.CSrc.fft64_svp_prepare_ref [(c.nn : Int)]
          [some (B, ppol), some (B, pol)] (m0.setIfInBounds B X)
        = .ok (m0.setIfInBounds B (svpPrepare c cd ⟨X, true⟩ ppol pol).mem) := by
  intro fuel
  exact Tr.runD (L := 1) (N := X.size) (fb := 0) (k := fun h => svpPrepare c cd h ppol pol) rfl
    (Tr.ofHas ((good_kFromZnx c cd ppol pol).comp (good_kFft c cd ppol)) fun env _ => Tr.seq
      (Tr.extcall hB _ _ _ (good_kFromZnx c cd ppol pol) fun _ _ _ =>
        ⟨_, _, rfl, evalPtrs_param0 rfl (evalPtrs_param0 rfl rfl), modSem_fromZnx c cd B nr _ _ _⟩)
      (Tr.extcall hB _ _ _ (good_kFft c cd ppol) fun _ _ _ =>
        ⟨_, _, rfl, evalPtrs_param0 rfl rfl, modSem_fft c cd B nr _ _⟩))
    rfl hok (Nat.zero_le _)

theorem src_fft64_svp_apply_dft_ref_eq_model (c : Module.Parts α) (cd : Cells Int α) (nr : Nat) (hz : cd.enc c.ar.zero = 0)
    (m0 : Mem) (B : Nat) (hB : B < m0.size) (X : Array Int) (hX : X.size < 2305843009213693952)
    (res rsz ppol a asz asl : Nat) (hnn : c.nn < 18446744073709551616) (hrsz : rsz < 18446744073709551616)
    (hasz : asz < 18446744073709551616)
    (hok : (svpApply c cd ⟨X, true⟩ res rsz ppol a asz asl).ok = true) :
    ∀ fuel, rsz ≤ fuel →
      runK (modSem c cd B nr) fuel Gen.CSrc.fft64_svp_apply_dft_ref [(c.nn : Int), (rsz : Int), (asz : Int), (asl : Int)]
          [some (B, res), some (B, ppol), some (B, a)] (m0.setIfInBounds B X)
        = .ok (m0.setIfInBounds B (svpApply c cd ⟨X, true⟩ res rsz ppol a asz asl).mem) := by
  intro fuel hf
  have hm := Nat.min_le_left rsz asz
  have hs64 : min rsz asz < 18446744073709551616 := Nat.lt_of_le_of_lt hm hrsz
  have gb : ∀ i, Good (fun h => kMul c cd (res + i * c.nn) (res + i * c.nn) ppol
      (kFft c cd (res + i * c.nn) (kFromZnx c cd (res + i * c.nn) (a + i * asl) h))) :=
    fun i => ((good_kFromZnx c cd _ _).comp (good_kFft c cd _)).comp (good_kMul c cd _ _ _)
  refine Tr.runD (L := 15) (N := X.size) (fb := min rsz asz - 0 + 0)
    (k := fun h => svpApply c cd h res rsz ppol a asz asl) rfl
    (Tr.assignD 4 _ (c.nn : Int) (by decide) (fun _ _ H => eval_var_eq (H.get 0 rfl))
    (Tr.passignD 5 _ _ 0 B res (by decide) (fun _ _ _ => rfl) (fun env _ => ptrAt_param_zero _ env 0 B res rfl)
    (Tr.passignD 7 _ _ 0 B ppol (by decide) (fun _ _ _ => rfl) (fun env _ => ptrAt_param_zero _ env 1 B ppol rfl)
    (Tr.assignD 9 _ ((min rsz asz : Nat) : Int) (by decide)
      (fun _ _ H => eval_min_u64 (eval_var_eq (H.get 1 rfl)) (eval_var_eq (H.get 2 rfl)))
    (Tr.seq
      (Tr.forD 10 _ _ _ _ gb 0 (min rsz asz) (Nat.zero_le _) hs64 (by decide)
        (fun _ _ _ => rfl) (fun _ _ _ H => eval_var_eq (H.get 9 rfl))
        fun k _ hk => Tr.of_ok (φ := res + k * c.nn + c.nn ≤ X.size ∧ a + k * asl + c.nn ≤ X.size) (gb k)
          (fun H hN hk => by
            have hk2 := (good_kMul c cd _ _ _).mono _ hk
            have b1 := kFft_bound c cd _ _ hk2
            have b2 := kFromZnx_bound c cd _ _ _ ((good_kFft c cd _).mono _ hk2)
            rw [(good_kFromZnx c cd _ _).size, hN] at b1
            rw [hN] at b2
            exact ⟨b1, b2⟩)
          fun ⟨b1, b2⟩ => Tr.conseq
            -- a_ptr = a + i*a_sl;  res_ptr = dres + i*nn: dead at the loop head, forgotten after the body
            (Tr.passignD 11 _ _ _ B (a + k * asl) (by decide)
              (fun _ _ H => eval_mul_u64 (eval_var_eq (H.get 10 rfl)) (eval_var_eq (H.get 3 rfl)) (lt_of_addr b2 hX))
              (fun env _ => ptrAt_param _ env 2 B a (k * asl) rfl)
            (Tr.passignD 13 _ _ _ B (res + k * c.nn) (by decide)
              (fun _ _ H => ((EvU.arg (H.get 10 rfl) (Nat.lt_trans hk hs64)).mul (EvU.arg (H.get 4 rfl) hnn)).exact
                (lt_of_addr b1 hX))
              (fun env H => ptrAt_pvar_off _ env 5 B res (k * c.nn) _ rfl (H.get 5 rfl) (H.get 6 rfl))
            (Tr.ofHas (gb k) fun env H => Tr.seq
              (Tr.extcall hB _ _ _ (good_kFromZnx c cd (res + k * c.nn) (a + k * asl)) fun _ _ _ =>
                ⟨_, _, rfl, evalPtrs_pvar0 (H.get 13 rfl) (H.get 14 rfl) (evalPtrs_pvar0 (H.get 11 rfl) (H.get 12 rfl) rfl),
                  modSem_fromZnx c cd B nr _ _ _⟩)
              (Tr.seq
                (Tr.extcall hB _ _ _ (good_kFft c cd (res + k * c.nn)) fun _ _ _ =>
                  ⟨_, _, rfl, evalPtrs_pvar0 (H.get 13 rfl) (H.get 14 rfl) rfl, modSem_fft c cd B nr _ _⟩)
                (Tr.extcall hB _ _ _ (good_kMul c cd (res + k * c.nn) (res + k * c.nn) ppol) fun _ _ _ =>
                  ⟨_, _, rfl, evalPtrs_pvar0 (H.get 13 rfl) (H.get 14 rfl) (evalPtrs_pvar0 (H.get 13 rfl) (H.get 14 rfl)
                    (evalPtrs_pvar0 (H.get 7 rfl) (H.get 8 rfl) rfl)), modSem_mul c cd B nr _ _ _ _⟩)))))
            (fun _ h => h) fun _ h => (((h.tail rfl).tail rfl).tail rfl).tail rfl)
      -- memset(dres + smin*nn, 0, (res_size - smin) * nn * 8)
      (Tr.ofHas (good_kZeroD c cd _ _) fun env H =>
        Tr.zeroD hB c cd hz _ _ _ (res + min rsz asz * c.nn) ((rsz - min rsz asz) * c.nn) fun _ hN hb =>
          ⟨rfl, ((((EvU.arg (H.get 1 rfl) hrsz).sub (EvU.arg (H.get 9 rfl) hs64) hm).mul (EvU.arg (H.get 4 rfl) hnn)).mul
              (EvU.lit 8)).exact (bytes_lt_of_addr hb hX),
            evalPtrs_pvar (((EvU.arg (H.get 9 rfl) hs64).mul (EvU.arg (H.get 4 rfl) hnn)).exact (lt_of_addr hb hX))
              (H.get 5 rfl) (H.get 6 rfl) rfl⟩))))))
    rfl hok (Nat.le_trans hm hf)

theorem src_fft64_znx_small_single_product_eq_model (c : Module.Parts α) (cd : Cells Int α) (nr : Nat)
    (m0 : Mem) (B : Nat) (hB : B < m0.size) (X : Array Int) (res a b tmp tb : Nat)
    (hok : (smallProduct c cd ⟨X, true⟩ res a b tmp tb).ok = true) :
    ∀ fuel,
      runK (modSem c cd B nr) fuel Gen.CSrc.fft64_znx_small_single_product [(c.nn : Int)]
          [some (B, res), some (B, a), some (B, b), some (B, tmp)] (m0.setIfInBounds B X)
        = .ok (m0.setIfInBounds B (smallProduct c cd ⟨X, true⟩ res a b tmp tb).mem) := by
  intro fuel
  have g : Good (fun h => smallProduct c cd h res a b tmp tb) :=
    (((((((((((((good_scr _ _ _).comp (good_kFromZnx c cd _ _)).comp (good_scr _ _ _)).comp (good_kFromZnx c cd _ _)).comp
      (good_scr _ _ _)).comp (good_kFft c cd _)).comp (good_scr _ _ _)).comp (good_kFft c cd _)).comp
      (good_scr _ _ _)).comp (good_kMul c cd _ _ _)).comp (good_scr _ _ _)).comp (good_kIfft c cd _)).comp
      (good_scr _ _ _)).comp (good_kToZnx c cd _ _)
  -- every call runs behind the guard that its part of the scratch space `tmp` was declared
  exact Tr.runD (L := 6) (N := X.size) (fb := 0) (k := fun h => smallProduct c cd h res a b tmp tb) rfl
    (Tr.assignD 1 _ (c.nn : Int) (by decide) (fun _ _ H => eval_var_eq (H.get 0 rfl))
    (Tr.passignD 2 _ _ 0 B tmp (by decide) (fun _ _ _ => rfl) (fun env _ => ptrAt_param_zero _ env 3 B tmp rfl)
    (Tr.passignD 4 _ _ (c.nn : Int) B (tmp + c.nn) (by decide) (fun _ _ H => eval_var_eq (H.get 1 rfl))
      (fun env _ => ptrAt_param _ env 3 B tmp c.nn rfl)
    (Tr.ofHas g fun env H =>
      Tr.seq (Tr.scr tb 0 c.nn (Tr.extcall hB _ _ _ (good_kFromZnx c cd tmp a) fun _ _ _ =>
        ⟨_, _, rfl, evalPtrs_pvar0 (H.get 2 rfl) (H.get 3 rfl) (evalPtrs_param0 rfl rfl), modSem_fromZnx c cd B nr _ _ _⟩))
    (Tr.seq (Tr.scr tb c.nn c.nn (Tr.extcall hB _ _ _ (good_kFromZnx c cd (tmp + c.nn) b) fun _ _ _ =>
        ⟨_, _, rfl, evalPtrs_pvar0 (H.get 4 rfl) (H.get 5 rfl) (evalPtrs_param0 rfl rfl), modSem_fromZnx c cd B nr _ _ _⟩))
    (Tr.seq (Tr.scr tb 0 c.nn (Tr.extcall hB _ _ _ (good_kFft c cd tmp) fun _ _ _ =>
        ⟨_, _, rfl, evalPtrs_pvar0 (H.get 2 rfl) (H.get 3 rfl) rfl, modSem_fft c cd B nr _ _⟩))
    (Tr.seq (Tr.scr tb c.nn c.nn (Tr.extcall hB _ _ _ (good_kFft c cd (tmp + c.nn)) fun _ _ _ =>
        ⟨_, _, rfl, evalPtrs_pvar0 (H.get 4 rfl) (H.get 5 rfl) rfl, modSem_fft c cd B nr _ _⟩))
    (Tr.seq (Tr.scr tb 0 (2 * c.nn) (Tr.extcall hB _ _ _ (good_kMul c cd tmp tmp (tmp + c.nn)) fun _ _ _ =>
        ⟨_, _, rfl, evalPtrs_pvar0 (H.get 2 rfl) (H.get 3 rfl) (evalPtrs_pvar0 (H.get 2 rfl) (H.get 3 rfl)
          (evalPtrs_pvar0 (H.get 4 rfl) (H.get 5 rfl) rfl)), modSem_mul c cd B nr _ _ _ _⟩))
    (Tr.seq (Tr.scr tb 0 c.nn (Tr.extcall hB _ _ _ (good_kIfft c cd tmp) fun _ _ _ =>
        ⟨_, _, rfl, evalPtrs_pvar0 (H.get 2 rfl) (H.get 3 rfl) rfl, modSem_ifft c cd B nr _ _⟩))
    (Tr.scr tb 0 c.nn (Tr.extcall hB _ _ _ (good_kToZnx c cd res tmp) fun _ _ _ =>
        ⟨_, _, rfl, evalPtrs_param0 rfl (evalPtrs_pvar0 (H.get 2 rfl) (H.get 3 rfl) rfl),
          modSem_toZnx c cd B nr _ _ _⟩)))))))))))
    rfl hok (Nat.zero_le _)

/-! ### no out-of-bounds access (nor any error other than running out of fuel), for every fuel -/

theorem src_fft64_vec_znx_dft_no_oob (c : Module.Parts α) (cd : Cells Int α) (nr : Nat) (hz : cd.enc c.ar.zero = 0)
    (m0 : Mem) (B : Nat) (hB : B < m0.size) (X : Array Int) (hX : X.size < 2305843009213693952)
    (res rsz a asz asl : Nat) (hnn : c.nn < 18446744073709551616) (hrsz : rsz < 18446744073709551616)
    (hasz : asz < 18446744073709551616)
    (hok : (vecDft c cd ⟨X, true⟩ res rsz a asz asl).ok = true) :
    ∀ fuel e, e ≠ .fuel →
      runK (modSem c cd B nr) fuel Gen.CSrc.fft64_vec_znx_dft [(c.nn : Int), (rsz : Int), (asz : Int), (asl : Int)] [some (B, res), some (B, a)] (m0.setIfInBounds B X) ≠ .err e :=
  runK_no_other_error _ _ _ _ _ _ (rsz) (src_fft64_vec_znx_dft_eq_model c cd nr hz m0 B hB X hX res rsz a asz asl hnn hrsz hasz hok)

theorem src_fft64_vec_znx_idft_no_oob (c : Module.Parts α) (cd : Cells Int α) (nr : Nat) (hzI : cd.encI 0 = 0)
    (m0 : Mem) (B : Nat) (hB : B < m0.size) (X : Array Int) (hX : X.size < 2305843009213693952)
    (res rsz adft asz : Nat) (tp : Ptr) (hnn : c.nn < 18446744073709551616) (hrsz : rsz < 18446744073709551616)
    (hasz : asz < 18446744073709551616)
    (hok : (vecIdft c cd ⟨X, true⟩ res rsz adft asz).ok = true) :
    ∀ fuel e, e ≠ .fuel →
      runK (modSem c cd B nr) fuel Gen.CSrc.fft64_vec_znx_idft [(c.nn : Int), (rsz : Int), (asz : Int)] [some (B, res), some (B, adft), tp] (m0.setIfInBounds B X) ≠ .err e :=
  runK_no_other_error _ _ _ _ _ _ (rsz) (src_fft64_vec_znx_idft_eq_model c cd nr hzI m0 B hB X hX res rsz adft asz tp hnn hrsz hasz hok)

theorem src_fft64_vec_znx_idft_tmp_a_no_oob (c : Module.Parts α) (cd : Cells Int α) (nr : Nat) (hzI : cd.encI 0 = 0)
    (m0 : Mem) (B : Nat) (hB : B < m0.size) (X : Array Int) (hX : X.size < 2305843009213693952)
    (res rsz adft asz : Nat) (hnn : c.nn < 18446744073709551616) (hrsz : rsz < 18446744073709551616)
    (hasz : asz < 18446744073709551616)
    (hok : (vecIdftTmpA c cd ⟨X, true⟩ res rsz adft asz).ok = true) :
    ∀ fuel e, e ≠ .fuel →
      runK (modSem c cd B nr) fuel Gen.CSrc.fft64_vec_znx_idft_tmp_a [(c.nn : Int), (rsz : Int), (asz : Int)] [some (B, res), some (B, adft)] (m0.setIfInBounds B X) ≠ .err e :=
  runK_no_other_error _ _ _ _ _ _ (rsz) (src_fft64_vec_znx_idft_tmp_a_eq_model c cd nr hzI m0 B hB X hX res rsz adft asz hnn hrsz hasz hok)

theorem src_fft64_svp_prepare_ref_no_oob (c : Module.Parts α) (cd : Cells Int α) (nr : Nat)
    (m0 : Mem) (B : Nat) (hB : B < m0.size) (X : Array Int) (ppol pol : Nat)
    (hok : (svpPrepare c cd ⟨X, true⟩ ppol pol).ok = true) :
    ∀ fuel e, e ≠ .fuel →
      runK (modSem c cd B nr) fuel Gen.CSrc.fft64_svp_prepare_ref [(c.nn : Int)] [some (B, ppol), some (B, pol)] (m0.setIfInBounds B X) ≠ .err e :=
  runK_no_other_error _ _ _ _ _ _ 0 (fun fuel _ => src_fft64_svp_prepare_ref_eq_model c cd nr m0 B hB X ppol pol hok fuel)

theorem src_fft64_svp_apply_dft_ref_no_oob (c : Module.Parts α) (cd : Cells Int α) (nr : Nat) (hz : cd.enc c.ar.zero = 0)
    (m0 : Mem) (B : Nat) (hB : B < m0.size) (X : Array Int) (hX : X.size < 2305843009213693952)
    (res rsz ppol a asz asl : Nat) (hnn : c.nn < 18446744073709551616) (hrsz : rsz < 18446744073709551616)
    (hasz : asz < 18446744073709551616)
    (hok : (svpApply c cd ⟨X, true⟩ res rsz ppol a asz asl).ok = true) :
    ∀ fuel e, e ≠ .fuel →
      runK (modSem c cd B nr) fuel Gen.CSrc.fft64_svp_apply_dft_ref [(c.nn : Int), (rsz : Int), (asz : Int), (asl : Int)] [some (B, res), some (B, ppol), some (B, a)] (m0.setIfInBounds B X) ≠ .err e :=
  runK_no_other_error _ _ _ _ _ _ (rsz) (src_fft64_svp_apply_dft_ref_eq_model c cd nr hz m0 B hB X hX res rsz ppol a asz asl hnn hrsz hasz hok)

theorem src_fft64_znx_small_single_product_no_oob (c : Module.Parts α) (cd : Cells Int α) (nr : Nat)
    (m0 : Mem) (B : Nat) (hB : B < m0.size) (X : Array Int) (res a b tmp tb : Nat)
    (hok : (smallProduct c cd ⟨X, true⟩ res a b tmp tb).ok = true) :
    ∀ fuel e, e ≠ .fuel →
      runK (modSem c cd B nr) fuel Gen.CSrc.fft64_znx_small_single_product [(c.nn : Int)] [some (B, res), some (B, a), some (B, b), some (B, tmp)] (m0.setIfInBounds B X) ≠ .err e :=
  runK_no_other_error _ _ _ _ _ _ 0 (fun fuel _ => src_fft64_znx_small_single_product_eq_model c cd nr m0 B hB X res a b tmp tb hok fuel)

end Spq.Src
