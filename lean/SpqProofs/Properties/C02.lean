/-
  C02 — vector-matrix product (VMP) = naive polynomial product for all shapes, exact-arithmetic part.

  The model (`Spq/Module.lean`: `vmpPrepare`, `vmpApplyDftToDft`, `vmpApplyDft`, both prepared layouts, both
  dispatch flavours) is validated bit-exactly against the library in its binary64 instance (stream `md_model`).
  Here it is instantiated with the exact arithmetic of a commutative ring `R` (`ExactArith`), the conversion
  and the FFT stay abstract (`ExactDft`; `ClosedProps.exactDft_network` discharges it for the exact FFT network).

  `matDft c mat ncols i j` is `fft (fromZnx M[i][j])`, `cx v p q` the complex number in cells `(p, q)`.
-/
import SpqProofs.Lemmas.ModuleVmpExact
import SpqProofs.Lemmas.ModuleExample
namespace Spq.C02
open Finset Spq Spq.Module Reim4
variable {R : Type} [CommRing R]

/-- `layout_inverse`: prepare and apply agree on where (row, col, blk) lives.  For ANY `fft` / `fromZnx`
    (only the size of the DFT of a matrix entry matters, and only for the `nn < 8` layout), both prepared
    layouts (`nn ≥ 8`: reim4 blocks, column pairs, lone last column; `nn < 8`: column-major), both `vmpAvx`
    flavours, every shape `nrows, ncols, asz, rsz ≥ 0` (odd / even column counts, output clipped in the middle
    of a column pair, more outputs than columns, no usable row):
    complex `t` of output column `j < min ncols rsz` is `Σ_{i < min nrows asz} adft_i[t] · fft(M[i][j])[t]`,
    the columns from `min ncols rsz` on are exactly zero. -/
theorem vmp_layout (c : Parts R) (ha : ExactArith c) (mat : Array Int) (nrows ncols rsz asz : Nat) (adft : Array R)
    (hT : c.nn < 8 → ∀ row col, row < nrows → col < ncols → (matDft c mat ncols row col).size = c.nn) :
    (vmpApplyDftToDft c rsz adft asz (vmpPrepare c mat nrows ncols) nrows ncols).size = rsz * c.nn ∧
    (∀ j t, j < min ncols rsz → t < c.m →
      cx (vmpApplyDftToDft c rsz adft asz (vmpPrepare c mat nrows ncols) nrows ncols) (j * c.nn + t) (j * c.nn + t + c.m)
        = ∑ i ∈ range (min nrows asz),
            cx adft (i * c.nn + t) (i * c.nn + t + c.m) * cx (matDft c mat ncols i j) t (t + c.m)) ∧
    (∀ j x, min ncols rsz ≤ j →
      (vmpApplyDftToDft c rsz adft asz (vmpPrepare c mat nrows ncols) nrows ncols).getD (j * c.nn + x) 0 = 0) :=
  vmp_layout_aux c ha mat nrows ncols rsz asz adft hT

/-- `vmp_exact_arith`: under H1–H4, preparing an integer matrix, applying it to an integer vector
    (`vmp_apply_dft`) and taking the inverse DFT gives column `j < min ncols rsz` =
    `Σ_{i < min nrows asz} a_i · M[i][j]` in `ℤ[X]/(X^nn + 1)`; all other output limbs (`j ≥ ncols`, or beyond the
    DFT vector) are exactly zero.  Every shape, stride and `nn = 2m ≥ 2`, both layouts, all dispatch flavours. -/
theorem vmp_exact (c : Parts R) (z : Nat → Cx R) (ha : ExactArith c) (hd : ExactDft c z) (mat : Array Int)
    (nrows ncols : Nat) (hmat : ∀ i j, i < nrows → j < ncols → (matEntry mat ncols c.nn i j).size = c.nn)
    (a : Array Int) (asz asl : Nat) (hlimb : ∀ i, i < min nrows asz → (limbOf a i asl c.nn).size = c.nn) (rsz rsz2 : Nat) :
    (vecIdft c rsz2 (vmpApplyDft c rsz a asz asl (vmpPrepare c mat nrows ncols) nrows ncols) rsz).size = rsz2 * c.nn ∧
    ∀ j, j < rsz2 →
      dlimb (vecIdft c rsz2 (vmpApplyDft c rsz a asz asl (vmpPrepare c mat nrows ncols) nrows ncols) rsz) j c.nn =
        if j < min ncols rsz then
          isum c.nn (min nrows asz) (fun i => nmul c.nn (limbOf a i asl c.nn) (matEntry mat ncols c.nn i j))
        else Array.replicate c.nn 0 := by
  obtain ⟨_, s2⟩ := vmp_cols c z ha hd mat nrows ncols hmat a asz asl hlimb rsz
  apply vecIdft_spec
  · intro j hj
    by_cases h : j < rsz
    · rw [if_pos h, s2 j h]
      by_cases h2 : j < min ncols rsz
      · rw [if_pos h2, if_pos h2, roundtrip c z hd _ (size_isum _ _ _)]
      · rw [if_neg h2, if_neg h2, idft_zero c z ha hd]
    · rw [if_neg h, if_neg (by omega)]
  · intro j hj
    split
    · exact size_isum _ _ _
    · simp

/-- applying from integer coefficients (`vmp_apply_dft`: DFT of only `min nrows asz` rows into scratch) = applying
    to the `vec_znx_dft` of the whole vector — equal as arrays; any carrier (binary64 included), any prepared
    matrix, both layouts.  Only the sizes of the DFT rows matter (`hsz`). -/
theorem vmp_apply_dft_eq {α : Type} (c : Parts α) (hnn : c.nn = 2 * c.m) (hblk : 8 ≤ c.nn → c.m % 4 = 0) (rsz : Nat)
    (a : Array Int) (asz asl : Nat) (pmat : Array α) (nrows ncols : Nat)
    (hsz : ∀ i, i < asz → (c.fft (c.fromZnx (limbOf a i asl c.nn))).size = c.nn) :
    vmpApplyDft c rsz a asz asl pmat nrows ncols =
      vmpApplyDftToDft c rsz (vecDft c asz a asz asl) asz pmat nrows ncols :=
  vmpApplyDft_eq c hnn hblk rsz a asz asl pmat nrows ncols hsz

/-! ### the hypotheses are satisfiable, the statements are not vacuous -/

/-- reim4 layout: `R = ℤ`, `nn = 8` (`m = 4`), `fft = fromZnx = id`, either flavour -/
example (avx : Bool) : ExactArith (idParts 8 true avx) :=
  idParts_exactArith 4 (by omega) (Or.inl rfl) true avx (fun _ => rfl)
/-- column-major layout with H1–H4: Gaussian integers, `nn = 2` -/
example : ExactArith gaussParts ∧ ExactDft gaussParts (fun _ => Cx.I) := ⟨gauss_exactArith, gauss_exactDft⟩
-- 2×3 matrix (odd column count: one pair + lone column), `nn = 8`: the slots of the prepared matrix
set_option maxRecDepth 8000 in
example : vmpPrepare (idParts 8 false false)
    #[0, 1, 2, 3, 4, 5, 6, 7, 8, 9, 10, 11, 12, 13, 14, 15, 16, 17, 18, 19, 20, 21, 22, 23, 24, 25, 26, 27, 28, 29, 30, 31,
      32, 33, 34, 35, 36, 37, 38, 39, 40, 41, 42, 43, 44, 45, 46, 47] 2 3 =
    #[0, 1, 2, 3, 4, 5, 6, 7, 8, 9, 10, 11, 12, 13, 14, 15, 24, 25, 26, 27, 28, 29, 30, 31, 32, 33, 34, 35, 36, 37, 38, 39,
      16, 17, 18, 19, 20, 21, 22, 23, 40, 41, 42, 43, 44, 45, 46, 47] := by decide +kernel
-- the same shape applied to 2 rows, 4 output columns (pair, lone column, one zero column), AVX flavour
set_option maxRecDepth 8000 in
example : vmpApplyDftToDft (idParts 8 false true) 4 #[0, 1, 2, 0, 1, 2, 0, 1, 2, 0, 1, 2, 0, 1, 2, 0] 2
    (vmpPrepare (idParts 8 false true) #[0, 1, 2, 3, 4, 0, 1, 2, 3, 4, 0, 1, 2, 3, 4, 0, 1, 2, 3, 4, 0, 1, 2, 3, 4, 0, 1, 2, 3, 4,
      0, 1, 2, 3, 4, 0, 1, 2, 3, 4, 0, 1, 2, 3, 4, 0, 1, 2] 2 3) 2 3 =
    #[4, -3, 5, 2, 6, 2, 4, 5, 2, -4, -2, 0, 5, 14, 19, 9, 0, 0, 6, 3, 9, 6, 9, 8, 0, 0, 0, 0, 0, 0, 0, 0] := by decide +kernel
-- one output column of three (the last computed column is half of a pair), reference flavour
set_option maxRecDepth 8000 in
example : vmpApplyDftToDft (idParts 8 false false) 1 #[0, 1, 2, 0, 1, 2, 0, 1, 2, 0, 1, 2, 0, 1, 2, 0] 2
    (vmpPrepare (idParts 8 false false) #[0, 1, 2, 3, 4, 0, 1, 2, 3, 4, 0, 1, 2, 3, 4, 0, 1, 2, 3, 4, 0, 1, 2, 3, 4, 0, 1, 2, 3, 4,
      0, 1, 2, 3, 4, 0, 1, 2, 3, 4, 0, 1, 2, 3, 4, 0, 1, 2] 2 3) 2 3 = #[4, -3, 5, 2, 6, 2, 4, 5] := by decide +kernel
/-- the Gaussian-integer instance: `(1 + 2X)·[[3 + 4X, 1]] ` with one spare output column -/
example : vecIdft gaussParts 3 (vmpApplyDft gaussParts 3 #[1, 2] 1 2 (vmpPrepare gaussParts #[3, 4, 1, 0] 1 2) 1 2) 3
    = #[-5, 10, 1, 2, 0, 0] := by decide +kernel

end Spq.C02
