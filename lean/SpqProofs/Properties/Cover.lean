/-
  Cover — exported kernels that no other property file reaches, tied to the C code by the streams
  `cv_conv32`, `cv_rnx`, `cv_cplxvec` (model: `Spq/Cover.lean`).

  reim <-> int32 conversions (`reim_{from_znx32,from_tnx32,to_tnx32}_{ref,avx2_fma}`): all six kernels are
  `NOT_IMPLEMENTED()` stubs, so every entry point that reaches them aborts the process; there is no output the
  contract C14 could be checked on.  What exists are the constructors: argument checks and kernel selection.

  `rnx_divide_by_m_{ref,avx}`: `res[i] = RN(a[i] · RN(1/m))`; the AVX kernel returns the same array as the
  reference for `n ∈ {1,2,4}` and every multiple of 8, aborts (`NOT_SUPPORTED`) for the other `n < 8`, and for
  `n ≥ 8` not a multiple of 8 silently handles `8⌈n/8⌉` cells; for `m = 2^j` the result is exactly `a[i]/2^j`
  unless that underflows or overflows.

  Interleaved-complex helpers in exact arithmetic (any commutative ring `R`, `Cx R` of C17):
  `add`, `sub2_to`, `copy`, `twiddle_fma` (= the reference butterfly `cplx_twiddle_fft_ref` when both halves of
  `omg` hold the same twiddle), the reference passes themselves, and — as it is — `bitwiddle_fma`, which does
  NOT compute the reference radix-4 step (counterexample below; no caller in the library).
  `twiddle_avx512` and `bitwiddle_avx512` (as repaired by commits 7805316 / 36935af of the library) are EQUAL
  to their AVX2 twins for every arithmetic — in particular bit for bit on binary64 (`F64.arith`): every zmm is
  two ymm of the AVX2 kernel, same operations in the same order per lane.  The kernels before the repair are
  kept as `…Avx512Old` in the model; `cplx_*_avx512_old_exact` / `…_old_ne_fma` document the two defects
  (D8: the data shuffle swapped only one pair of each 256-bit half; D9: 4-bit immediates in 512-bit shuffles).
-/
import SpqProofs.Lemmas.CoverRnx
import SpqProofs.Lemmas.CoverBitw
import SpqProofs.Lemmas.CoverRef
import SpqProofs.Lemmas.ConvSel
namespace Spq.CoverProps
open Spq Spq.Cover Spq.Reim4 Spq.F64

/-- Every kernel, every dispatching entry point and every `_simple` wrapper of the three conversions ends in
    `abort()`, for every dimension, every table and every input.  (Consequently the C14 contract — exact
    int32 → double, `round(x·2^32/d) mod 2^32` — is not implemented for the reim layout by any variant.) -/
theorem reim32_all_entry_points_abort :
    (∀ m x, reimFromZnx32Ref m x = none ∧ reimFromZnx32Avx m x = none ∧
            reimFromTnx32Ref m x = none ∧ reimFromTnx32Avx m x = none) ∧
    (∀ m d x, reimToTnx32Ref m d x = none ∧ reimToTnx32Avx m d x = none) ∧
    (∀ sel m x, reimFromZnx32 sel m x = none ∧ reimFromTnx32 sel m x = none) ∧
    (∀ sel m d x, reimToTnx32 sel m d x = none) ∧
    (∀ m lb avx2 x, reimFromZnx32Simple m lb avx2 x = none ∧ reimFromTnx32Simple m avx2 x = none) ∧
    (∀ m d lo avx2 x, reimToTnx32Simple m d lo avx2 x = none) := by
  refine ⟨fun _ _ => ⟨rfl, rfl, rfl, rfl⟩, fun _ _ _ => ⟨rfl, rfl⟩, ?_, ?_, ?_, ?_⟩
  · intro sel m x; cases sel <;> exact ⟨rfl, rfl⟩
  · intro sel m d x; cases sel <;> rfl
  · intro m lb avx2 x
    constructor
    · unfold reimFromZnx32Simple
      cases initReimFromZnx32 m lb avx2 with
      | none => rfl
      | some s => cases s <;> rfl
    · unfold reimFromTnx32Simple
      cases initReimFromTnx32 m avx2 with
      | none => rfl
      | some s => cases s <;> rfl
  · intro m d lo avx2 x
    unfold reimToTnx32Simple
    cases initReimToTnx32 m d lo avx2 with
    | none => rfl
    | some s => cases s <;> rfl

/-- The constructors: refusal (= `spqlios_error`, which aborts) exactly when `m & (m-1) ≠ 0`, the bound exceeds
    32 resp. 52, or the low 51 bits of the divisor are not 0; the AVX2 kernel is selected exactly when the CPU
    has AVX2, `m ≥ 8` and (for `to_tnx32`) `log2overhead ≤ 18`. -/
theorem reim32_init_spec (m lb d : Nat) (avx2 : Bool) :
    (initReimFromZnx32 m lb avx2 = none ↔ (Conv.notPow2U32 m = true ∨ 32 < lb)) ∧
    (initReimFromZnx32 m lb avx2 = some .avx ↔ (Conv.notPow2U32 m = false ∧ lb ≤ 32 ∧ avx2 = true ∧ 8 ≤ m)) ∧
    (initReimFromTnx32 m avx2 = none ↔ Conv.notPow2U32 m = true) ∧
    (initReimFromTnx32 m avx2 = some .avx ↔ (Conv.notPow2U32 m = false ∧ avx2 = true ∧ 8 ≤ m)) ∧
    (initReimToTnx32 m d lb avx2 = none ↔ (Conv.notPow2U32 m = true ∨ Conv.isNotPow2Double d ≠ 0 ∨ 52 < lb)) ∧
    (initReimToTnx32 m d lb avx2 = some .avx ↔
      (Conv.notPow2U32 m = false ∧ Conv.isNotPow2Double d = 0 ∧ lb ≤ 18 ∧ avx2 = true ∧ 8 ≤ m)) := by
  unfold initReimFromZnx32 initReimFromTnx32 initReimToTnx32
  -- a cascade `if c then none else x` is `none` iff `¬ c → x = none` and `some v` iff `¬ c ∧ x = some v`
  -- (`ite_eq_left_iff`, `Option.ite_none_left_eq_some`); with the right-hand disjunctions read as implications the
  -- six equivalences become identities, except that `to_tnx32` tests `lb ≤ 52` in front of `lb ≤ 18`
  simp only [gt_iff_lt, ge_iff_le, Bool.and_eq_true, decide_eq_true_eq, ite_eq_left_iff, Bool.not_eq_true,
    not_lt, reduceCtorEq, imp_false, not_le, Option.ite_none_left_eq_some, Option.some.injEq, not_and,
    Classical.not_imp, Bool.not_eq_false, bne_iff_ne, ne_eq, ite_not, ite_eq_right_iff,
    Option.ite_none_right_eq_some, and_congr_right_iff, true_and, or_iff_not_imp_left, not_not]
  intro _ _
  exact ⟨fun ⟨_, ⟨a, l⟩, h8⟩ => ⟨l, a, h8⟩, fun ⟨l, a, h8⟩ => ⟨by omega, ⟨a, l⟩, h8⟩⟩

/-- every documented-valid argument is accepted: `m = 2^k` (`k < 32`), a bound within the documented range, and a
    divisor that is a (normal) power of two -/
theorem reim32_init_accepts (k lb : Nat) (j : Int) (avx2 : Bool) (hk : k < 32) :
    (lb ≤ 32 → initReimFromZnx32 (2 ^ k) lb avx2 ≠ none) ∧
    initReimFromTnx32 (2 ^ k) avx2 ≠ none ∧
    (lb ≤ 52 → initReimToTnx32 (2 ^ k) (pow2 j) lb avx2 ≠ none) := by
  have hm : Conv.notPow2U32 (2 ^ k) = false := Conv.notPow2U32_two_pow k hk
  have hd : Conv.isNotPow2Double (pow2 j) = 0 := by
    have := Conv.isNotPow2Double_pow2 j
    simpa using this
  obtain ⟨a, _, b, _, c, _⟩ := reim32_init_spec (2 ^ k) lb (pow2 j) avx2
  refine ⟨fun h hc => ?_, fun hc => ?_, fun h hc => ?_⟩
  · rcases a.1 hc with h1 | h1
    · rw [hm] at h1; exact Bool.noConfusion h1
    · omega
  · have := b.1 hc; rw [hm] at this; exact Bool.noConfusion this
  · rcases c.1 hc with h1 | h1 | h1
    · rw [hm] at h1; exact Bool.noConfusion h1
    · exact h1 hd
    · omega

/-- instance: `m = 16`, AVX2, divisor 2^10, 18 bits of overhead selects the AVX2 kernel — which aborts -/
example : initReimToTnx32 16 (pow2 10) 18 true = some .avx ∧ reimToTnx32Simple 16 (pow2 10) 18 true #[] = none := by
  decide

/-- `rnx_divide_by_m_ref(n, m, res, a)`: cell `i < n` becomes the correctly rounded product of `a[i]` and
    `invm = RN(1/m)` (the model's `F64.div`, bit-exact against `divsd`), the other cells are untouched.
    `val (F64.mul x y) = rnd (val x · val y)` says "correctly rounded" (`rnd`: round to nearest even binary64).
    About the MODEL for every pattern; it describes the C code only for finite `a[i]` and finite non-zero `m`
    (Inf/NaN/zero-divisor behaviour is not modelled by `Spq.F64`; the stream `cv_rnx` covers those cases oracle-only). -/
theorem rnx_divide_spec (n m : Nat) (res a : Array Nat) (hn : n ≤ res.size) :
    (rnxDivideByMRef n m res a).size = res.size ∧
    (∀ i, i < n → (rnxDivideByMRef n m res a).getD i 0 = F64.mul (a.getD i 0) (F64.div Conv.D_ONE m) ∧
      val ((rnxDivideByMRef n m res a).getD i 0) = rnd (val (a.getD i 0) * val (F64.div Conv.D_ONE m))) ∧
    (∀ i, n ≤ i → (rnxDivideByMRef n m res a).getD i 0 = res.getD i 0) := by
  refine ⟨rnxRef_size n m res a, ?_, ?_⟩
  · intro i hi
    have e : (rnxDivideByMRef n m res a).getD i 0 = F64.mul (a.getD i 0) (F64.div Conv.D_ONE m) := by
      rw [rnxRef_getD, if_pos ⟨hi, by omega⟩]; rfl
    exact ⟨e, by rw [e, val_mul]⟩
  · intro i hi
    rw [rnxRef_getD, if_neg (by omega)]

/-- the AVX kernel returns the reference result, bit for bit, for every `n` it is meant for: 1, 2, 4 and every
    multiple of 8 (every power of two in particular) -/
theorem rnx_divide_avx_eq_ref (n m : Nat) (res a : Array Nat)
    (hacc : n = 1 ∨ n = 2 ∨ n = 4 ∨ (8 ≤ n ∧ n % 8 = 0)) (hn : n ≤ res.size) :
    rnxDivideByMAvx n m res a = some (rnxDivideByMRef n m res a) := by
  rcases hacc with h | h | h | ⟨h8, hmod⟩
  · exact rnxAvx_small n m res a (Or.inl h)
  · exact rnxAvx_small n m res a (Or.inr (Or.inl h))
  · exact rnxAvx_small n m res a (Or.inr (Or.inr h))
  · have e : 8 * ((n + 7) / 8) = n := by omega
    have := rnxAvx_big n m res a h8 (by omega)
    rw [e] at this; exact this

/-- outside that set: `n ∈ {0,3,5,6,7}` is `NOT_SUPPORTED()` (abort); `n ≥ 8` not a multiple of 8 is accepted
    silently and handled as `8⌈n/8⌉`: up to 7 cells behind `res[n-1]` are written (and read behind `a[n-1]`) -/
theorem rnx_divide_avx_outside_domain (n m : Nat) (res a : Array Nat) :
    (n < 8 → n ≠ 1 → n ≠ 2 → n ≠ 4 → rnxDivideByMAvx n m res a = none) ∧
    (8 ≤ n → 8 * ((n + 7) / 8) ≤ res.size →
      rnxDivideByMAvx n m res a = some (rnxDivideByMRef (8 * ((n + 7) / 8)) m res a)) := by
  refine ⟨fun h h1 h2 h4 => ?_, fun h hs => rnxAvx_big n m res a h hs⟩
  unfold rnxDivideByMAvx
  have e1 : (n == 1) = false := by simpa using h1
  have e2 : (n == 2) = false := by simpa using h2
  have e4 : (n == 4) = false := by simpa using h4
  simp [h, e1, e2, e4]

/-- `m = 2^j` (`-1022 ≤ j ≤ 1022`): both variants return exactly `a[i]/2^j` whenever that quotient is 0 or lies in
    the normal range (no underflow, no overflow); every accepted `n` -/
theorem rnx_divide_pow2_exact (n : Nat) (j : Int) (res a : Array Nat) (hj1 : -1022 ≤ j) (hj2 : j ≤ 1022)
    (hn : n ≤ res.size) (i : Nat) (hi : i < n)
    (_hfin : F64.isFinite (a.getD i 0) = true)   -- Inf/NaN patterns are not modelled (the soft-float decodes exponent 2047 as a finite number)
    (hq : val (a.getD i 0) = 0 ∨
      (minNormal ≤ |val (a.getD i 0) * 2 ^ (-j)| ∧ |val (a.getD i 0) * 2 ^ (-j)| < 2 ^ (1024 : ℤ))) :
    val (pow2 j) = 2 ^ j ∧
    val ((rnxDivideByMRef n (pow2 j) res a).getD i 0) = val (a.getD i 0) * 2 ^ (-j) ∧
    ((n = 1 ∨ n = 2 ∨ n = 4 ∨ (8 ≤ n ∧ n % 8 = 0)) →
      ∃ r, rnxDivideByMAvx n (pow2 j) res a = some r ∧ val (r.getD i 0) = val (a.getD i 0) * 2 ^ (-j)) := by
  have e : (rnxDivideByMRef n (pow2 j) res a).getD i 0 = F64.mul (a.getD i 0) (invM (pow2 j)) := by
    rw [rnxRef_getD, if_pos ⟨hi, by omega⟩]
  have v := mul_invM_pow2_exact (a.getD i 0) j hj1 hj2 hq
  refine ⟨val_pow2 j hj1 (by omega), by rw [e, v], fun hacc => ⟨_, rnx_divide_avx_eq_ref n (pow2 j) res a hacc hn, by rw [e, v]⟩⟩

/-- instances: `[3, -0.0, 2^-1074, 1.5·2^-1022] / 4` — the third one underflows (excluded by `hq`) and rounds to
    `+0` (tie to even), the others are exact; the AVX kernel with `n = 4` returns the same patterns -/
example : rnxDivideByMRef 4 (pow2 2) #[7, 7, 7, 7, 9] #[4613937818241073152, 9223372036854775808, 1, 6755399441055744]
      = #[4604930618986332160, 9223372036854775808, 0, 1688849860263936, 9] ∧
    rnxDivideByMAvx 4 (pow2 2) #[7, 7, 7, 7, 9] #[4613937818241073152, 9223372036854775808, 1, 6755399441055744]
      = some #[4604930618986332160, 9223372036854775808, 0, 1688849860263936, 9] ∧
    rnxDivideByMAvx 3 (pow2 2) #[7, 7, 7] #[1, 2, 3] = none := by
  decide +kernel

section exact
variable {R : Type} [CommRing R]

/-- `cplx_fftvec_add_fma(m, r, a, b)`: `r_i = a_i + b_i` for `i < m`, nothing else changes (`8 | m`, `m > 0`:
    the loop handles 8 complexes per step and runs at least once) -/
theorem cplx_add_exact (m : Nat) (hm : m % 8 = 0) (h0 : 0 < m) (r a b : Array R) (hr : 2 * m ≤ r.size) :
    Pointwise idxCplx m r (cplxFftvecAddFma (RArith.ofRing R) m r a b) (fun i => ev idxCplx a i + ev idxCplx b i) := by
  unfold cplxFftvecAddFma
  rw [ymmCount_fma m hm h0]
  have := mapV4_pointwise (m / 2) (fun j _ => V4.add (RArith.ofRing R) (V4.load 0 a (4 * j)) (V4.load 0 b (4 * j)))
    (fun i _ => ev idxCplx a i + ev idxCplx b i) r (by omega)
    (fun j e he v => by rw [pairOf_add, pairOf_load_cplx _ _ _ he, pairOf_load_cplx _ _ _ he])
  rwa [show 2 * (m / 2) = m by omega] at this

/-- `cplx_fftvec_sub2_to_fma(m, r, a, b)`: `r_i = r_i − (a_i + b_i)` -/
theorem cplx_sub2_to_exact (m : Nat) (hm : m % 8 = 0) (h0 : 0 < m) (r a b : Array R) (hr : 2 * m ≤ r.size) :
    Pointwise idxCplx m r (cplxFftvecSub2ToFma (RArith.ofRing R) m r a b)
      (fun i => ev idxCplx r i - (ev idxCplx a i + ev idxCplx b i)) := by
  unfold cplxFftvecSub2ToFma
  rw [ymmCount_fma m hm h0]
  have := mapV4_pointwise (m / 2)
    (fun j rri => V4.sub (RArith.ofRing R) rri (V4.add (RArith.ofRing R) (V4.load 0 a (4 * j)) (V4.load 0 b (4 * j))))
    (fun i x => x - (ev idxCplx a i + ev idxCplx b i)) r (by omega)
    (fun j e he v => by rw [pairOf_sub, pairOf_add, pairOf_load_cplx _ _ _ he, pairOf_load_cplx _ _ _ he])
  rwa [show 2 * (m / 2) = m by omega] at this

/-- `cplx_fftvec_copy_fma(m, r, a)`: the first `2m` cells of `r` become those of `a` — for every element type
    (bit patterns included), nothing else changes -/
theorem cplx_copy_exact {α : Type} (ar : RArith α) (m : Nat) (hm : m % 8 = 0) (h0 : 0 < m) (r a : Array α)
    (hr : 2 * m ≤ r.size) :
    (cplxFftvecCopyFma ar m r a).size = r.size ∧
    (∀ x, x < 2 * m → (cplxFftvecCopyFma ar m r a).getD x ar.zero = a.getD x ar.zero) ∧
    (∀ x, 2 * m ≤ x → (cplxFftvecCopyFma ar m r a).getD x ar.zero = r.getD x ar.zero) := by
  unfold cplxFftvecCopyFma
  rw [ymmCount_fma m hm h0]
  have e : 4 * (m / 2) = 2 * m := by omega
  obtain ⟨s1, _, s2, s3⟩ := mapV4_contig ar.zero (m / 2) (fun j _ => V4.load ar.zero a (4 * j)) r (e ▸ hr)
  rw [e] at s2 s3
  refine ⟨s1, fun x hx => ?_, s3⟩
  rw [s2 x hx, V4.lane_load _ _ _ _ (Nat.mod_lt _ (by decide)), Nat.div_add_mod]

/-- `cplx_twiddle_fft_ref(h, data, ω)`: `(d_i, d_{h+i}) ← (d_i + ω d_{h+i}, d_i − ω d_{h+i})`, every `h ≥ 0` -/
theorem cplx_twiddle_ref_exact (h : Nat) (data om : Array R) (hs : 4 * h ≤ data.size) :
    (cplxTwiddleFftRef (RArith.ofRing R) h data om).size = data.size ∧
    (∀ i, i < h →
      cxAt (cplxTwiddleFftRef (RArith.ofRing R) h data om) (2 * i) =
        cxAt data (2 * i) + cxAt om 0 * cxAt data (2 * (h + i)) ∧
      cxAt (cplxTwiddleFftRef (RArith.ofRing R) h data om) (2 * (h + i)) =
        cxAt data (2 * i) - cxAt om 0 * cxAt data (2 * (h + i))) ∧
    (∀ x, 4 * h ≤ x → (cplxTwiddleFftRef (RArith.ofRing R) h data om).getD x 0 = data.getD x 0) := by
  have e : cplxTwiddleFftRef (RArith.ofRing R) h data om =
      Nat.fold h (fun i _ d => butterfly (RArith.ofRing R) (ctT (RArith.ofRing R) (om.getD 0 0) (om.getD 1 0)) d
        (2 * i) (2 * (h + i))) data := rfl
  have L := level1_view (RArith.ofRing R) (ctT (RArith.ofRing R) (om.getD 0 0) (om.getD 1 0)) h 0 data (by omega)
  simp only [Nat.zero_add, ofRing_zero, ← e] at L
  refine ⟨L.2, fun i hi => ?_, fun x hx => ?_⟩
  · have lo := congrFun L.1 i
    have hi' := congrFun L.1 (h + i)
    rw [Fft.View.twG_lo _ _ _ _ _ _ (by omega)] at lo
    rw [Fft.View.twG_hi _ _ _ _ _ _ (by omega), show h + i - h = i by omega] at hi'
    rw [Nat.add_comm i h] at lo
    constructor
    -- `ctT` performs the operations of the product in `Cx` term for term
    · rw [cxAt_pairView, lo]; rfl
    · rw [cxAt_pairView, hi']; rfl
  · have q := congrFun L.1 (x / 2)
    rw [Fft.View.twG_out _ _ _ _ _ _ (by omega)] at q
    rw [getD_pairView 0 _ x, getD_pairView 0 data x, q]

/-- `cplx_bitwiddle_fft_ref(h, data, (ω0, ω1))`: the radix-4 step `bitwRefCx` on every column
    `(d_i, d_{h+i}, d_{2h+i}, d_{3h+i})`: first level with `ω0`, second level with `ω1` and `i·ω1` -/
theorem cplx_bitwiddle_ref_exact (h : Nat) (data om : Array R) (hs : 8 * h ≤ data.size) :
    (cplxBitwiddleFftRef (CArith.ofRing R) h data om).size = data.size ∧
    (∀ i, i < h →
      let q := bitwRefCx (cxAt om 0) (cxAt om 2) (cxAt data (2 * i)) (cxAt data (2 * (h + i)))
        (cxAt data (2 * (2 * h + i))) (cxAt data (2 * (3 * h + i)))
      cxAt (cplxBitwiddleFftRef (CArith.ofRing R) h data om) (2 * i) = q.1 ∧
      cxAt (cplxBitwiddleFftRef (CArith.ofRing R) h data om) (2 * (h + i)) = q.2.1 ∧
      cxAt (cplxBitwiddleFftRef (CArith.ofRing R) h data om) (2 * (2 * h + i)) = q.2.2.1 ∧
      cxAt (cplxBitwiddleFftRef (CArith.ofRing R) h data om) (2 * (3 * h + i)) = q.2.2.2) ∧
    (∀ x, 8 * h ≤ x → (cplxBitwiddleFftRef (CArith.ofRing R) h data om).getD x 0 = data.getD x 0) := by
  have L := bitw_view (RArith.ofRing R) (ctT (RArith.ofRing R) (om.getD 0 0) (om.getD 1 0))
    (ctT (RArith.ofRing R) (om.getD 2 0) (om.getD 3 0)) (citT (CArith.ofRing R) (om.getD 2 0) (om.getD 3 0)) h 0 data (by omega)
  simp only [Nat.zero_add, ofRing_zero] at L
  have E : ∀ p, pairView 0 (cplxBitwiddleFftRef (CArith.ofRing R) h data om) p = _ := congrFun L.1
  refine ⟨L.2, ?_, ?_⟩
  · intro i hi q
    obtain ⟨p0, p1, p2, p3⟩ := twG_radix4 (bfLo (RArith.ofRing R) (ctT (RArith.ofRing R) (om.getD 0 0) (om.getD 1 0)))
      (bfHi (RArith.ofRing R) (ctT (RArith.ofRing R) (om.getD 0 0) (om.getD 1 0)))
      (bfLo (RArith.ofRing R) (ctT (RArith.ofRing R) (om.getD 2 0) (om.getD 3 0)))
      (bfHi (RArith.ofRing R) (ctT (RArith.ofRing R) (om.getD 2 0) (om.getD 3 0)))
      (bfLo (RArith.ofRing R) (citT (CArith.ofRing R) (om.getD 2 0) (om.getD 3 0)))
      (bfHi (RArith.ofRing R) (citT (CArith.ofRing R) (om.getD 2 0) (om.getD 3 0))) h 0 i hi (pairView 0 data)
    simp only [Nat.zero_add, ← E] at p0 p1 p2 p3
    refine ⟨?_, ?_, ?_, ?_⟩
    -- `ctT`, `citT` perform the operations of `bitwRefCx` term for term
    · rw [cxAt_pairView, p0]; rfl
    · rw [cxAt_pairView, p1]; rfl
    · rw [cxAt_pairView, p2]; rfl
    · rw [cxAt_pairView, p3]; rfl
  · intro x hx
    have p := E (x / 2)
    rw [Fft.View.twG_out _ _ _ _ _ _ (by omega), Fft.View.twG_out _ _ _ _ _ _ (by omega), Fft.View.twG_out _ _ _ _ _ _ (by omega)] at p
    rw [getD_pairView 0 _ x, getD_pairView 0 data x, p]

/-- `cplx_fftvec_twiddle_fma(precomp, a, b, omg)`, `m = precomp->m`, `8 | m`, `m > 0`:
    `(a_i, b_i) ← (a_i + ω_{i mod 2} b_i, a_i − ω_{i mod 2} b_i)` with `ω_0 = omg[0..1]`, `ω_1 = omg[2..3]` -/
theorem cplx_twiddle_fma_exact (m : Nat) (hm : m % 8 = 0) (h0 : 0 < m) (a b om : Array R)
    (ha : 2 * m ≤ a.size) (hb : 2 * m ≤ b.size) :
    Pointwise idxCplx m a (cplxFftvecTwiddleFma (RArith.ofRing R) m a b om).1
      (fun i => ev idxCplx a i + ev idxCplx b i * omW om (i % 2)) ∧
    Pointwise idxCplx m b (cplxFftvecTwiddleFma (RArith.ofRing R) m a b om).2
      (fun i => ev idxCplx a i - ev idxCplx b i * omW om (i % 2)) := by
  unfold cplxFftvecTwiddleFma
  rw [ymmCount_fma m hm h0]
  exact twiddleSimd_spec (m / 2) m (by omega) V4.shuf5 a b om (fun e x => x * omW om e) ha hb
    (fun v e he => by rw [omW_eq_pairOf om e he]; exact twP_shuf5_pair v _ e he)

/-- accelerated = reference: when both halves of `omg` hold the same twiddle, `cplx_fftvec_twiddle_fma` on
    `(a, b)` computes what `cplx_twiddle_fft_ref(m, data, omg)` computes on `data = a ‖ b` -/
theorem cplx_twiddle_fma_eq_ref (m : Nat) (hm : m % 8 = 0) (h0 : 0 < m) (a b om data : Array R)
    (ha : 2 * m ≤ a.size) (hb : 2 * m ≤ b.size) (hd : 4 * m ≤ data.size)
    (hom : om.getD 2 0 = om.getD 0 0 ∧ om.getD 3 0 = om.getD 1 0)
    (hda : ∀ x, x < 2 * m → data.getD x 0 = a.getD x 0)
    (hdb : ∀ x, x < 2 * m → data.getD (2 * m + x) 0 = b.getD x 0) :
    ∀ i, i < m →
      cxAt (cplxTwiddleFftRef (RArith.ofRing R) m data om) (2 * i) =
        ev idxCplx (cplxFftvecTwiddleFma (RArith.ofRing R) m a b om).1 i ∧
      cxAt (cplxTwiddleFftRef (RArith.ofRing R) m data om) (2 * (m + i)) =
        ev idxCplx (cplxFftvecTwiddleFma (RArith.ofRing R) m a b om).2 i := by
  intro i hi
  obtain ⟨_, rv, _⟩ := cplx_twiddle_ref_exact m data om hd
  obtain ⟨⟨_, fa, _⟩, ⟨_, fb, _⟩⟩ := cplx_twiddle_fma_exact m hm h0 a b om ha hb
  obtain ⟨r1, r2⟩ := rv i hi
  have eA : cxAt data (2 * i) = ev idxCplx a i := by
    ext
    · simp only [cxAt_re, ev, idxCplx, cx_re]; exact hda _ (by omega)
    · simp only [cxAt_im, ev, idxCplx, cx_im]; exact hda _ (by omega)
  have eB : cxAt data (2 * (m + i)) = ev idxCplx b i := by
    ext
    · simp only [cxAt_re, ev, idxCplx, cx_re]
      have := hdb (2 * i) (by omega)
      rw [show 2 * (m + i) = 2 * m + 2 * i by ring]; exact this
    · simp only [cxAt_im, ev, idxCplx, cx_im]
      have := hdb (2 * i + 1) (by omega)
      rw [show 2 * (m + i) + 1 = 2 * m + (2 * i + 1) by ring]; exact this
  have eW : omW om (i % 2) = cxAt om 0 := by
    rcases Nat.mod_two_eq_zero_or_one i with h | h <;> rw [h]
    · rfl
    · ext
      · simp only [omW, cxAt_re]; exact hom.1
      · simp only [omW, cxAt_im]; exact hom.2
  have fa' := fa i hi
  have fb' := fb i hi
  beta_reduce at fa' fb'
  rw [r1, r2, fa', fb', eA, eB, eW, Cx.mul_comm']
  exact ⟨rfl, rfl⟩

end exact

/-- `cplx_fftvec_twiddle_avx512` (repaired) = `cplx_fftvec_twiddle_fma`, `16 | m`, `m > 0`: the same pair of arrays
    for EVERY arithmetic `ar` — a commutative ring, or binary64 bit patterns (`F64.arith`), where this is
    bit-for-bit equality of the two kernels (C07) -/
theorem cplx_twiddle_avx512_eq_fma {α : Type} (ar : RArith α) (m : Nat) (hm : m % 16 = 0) (h0 : 0 < m)
    (a b om : Array α) :
    cplxFftvecTwiddleAvx512 ar m a b om = cplxFftvecTwiddleFma ar m a b om := by
  unfold cplxFftvecTwiddleAvx512 cplxFftvecTwiddleFma
  rw [ymmCount_avx512 m hm h0, ymmCount_fma m (by omega) h0]

section exact
variable {R : Type} [CommRing R]

/-- hence `cplx_fftvec_twiddle_avx512` computes `(a_i, b_i) ← (a_i + ω_{i mod 2} b_i, a_i − ω_{i mod 2} b_i)` -/
theorem cplx_twiddle_avx512_exact (m : Nat) (hm : m % 16 = 0) (h0 : 0 < m) (a b om : Array R)
    (ha : 2 * m ≤ a.size) (hb : 2 * m ≤ b.size) :
    Pointwise idxCplx m a (cplxFftvecTwiddleAvx512 (RArith.ofRing R) m a b om).1
      (fun i => ev idxCplx a i + ev idxCplx b i * omW om (i % 2)) ∧
    Pointwise idxCplx m b (cplxFftvecTwiddleAvx512 (RArith.ofRing R) m a b om).2
      (fun i => ev idxCplx a i - ev idxCplx b i * omW om (i % 2)) := by
  rw [cplx_twiddle_avx512_eq_fma (RArith.ofRing R) m hm h0 a b om]
  exact cplx_twiddle_fma_exact m (by omega) h0 a b om ha hb

/-- D8, the kernel before commit 7805316 (`cplxFftvecTwiddleAvx512Old`): the even-indexed complexes got `ω_0 b`,
    the odd-indexed ones `badMul b ω_1 = (b.re·ω.re − b.re·ω.im, b.im·ω.re + b.im·ω.im)` instead of `ω_1 b`
    (`_mm512_shuffle_pd(bri, bri, 0b10011001)` swapped only the first pair of each 256-bit half) -/
theorem cplx_twiddle_avx512_old_exact (m : Nat) (hm : m % 16 = 0) (h0 : 0 < m) (a b om : Array R)
    (ha : 2 * m ≤ a.size) (hb : 2 * m ≤ b.size) :
    Pointwise idxCplx m a (cplxFftvecTwiddleAvx512Old (RArith.ofRing R) m a b om).1
      (fun i => ev idxCplx a i + twMulAvx512 om (i % 2) (ev idxCplx b i)) ∧
    Pointwise idxCplx m b (cplxFftvecTwiddleAvx512Old (RArith.ofRing R) m a b om).2
      (fun i => ev idxCplx a i - twMulAvx512 om (i % 2) (ev idxCplx b i)) := by
  unfold cplxFftvecTwiddleAvx512Old
  rw [ymmCount_avx512 m hm h0]
  exact twiddleSimd_spec (m / 2) m (by omega) shuf9 a b om (twMulAvx512 om) ha hb
    (by
      intro v e he
      unfold twMulAvx512
      rcases e with _ | _ | e
      · rw [if_pos rfl, omW_eq_pairOf om 0 he]; exact twP_shuf9_pair0 v _
      · rw [if_neg (Nat.succ_ne_zero 0), omW_eq_pairOf om 1 he]; exact twP_shuf9_pair1 v _
      · omega)

/-- D8 on concrete data: `a = 0`, `b = (0,1),(2,3),…`, `ω_1 = i`, `m = 16`: the old kernel returned −2 where the
    AVX2 kernel (and the repaired one) return −3 -/
theorem cplx_twiddle_avx512_old_ne_fma :
    (cplxFftvecTwiddleAvx512Old (RArith.ofRing Int) 16 (Array.replicate 32 0)
        ((Array.range 32).map (fun (i : Nat) => Int.ofNat i)) #[0, 0, 0, 1]).1.getD 2 0 = -2 ∧
    (cplxFftvecTwiddleFma (RArith.ofRing Int) 16 (Array.replicate 32 0)
        ((Array.range 32).map (fun (i : Nat) => Int.ofNat i)) #[0, 0, 0, 1]).1.getD 2 0 = -3 ∧
    (cplxFftvecTwiddleAvx512 (RArith.ofRing Int) 16 (Array.replicate 32 0)
        ((Array.range 32).map (fun (i : Nat) => Int.ofNat i)) #[0, 0, 0, 1]).1.getD 2 0 = -3 := by
  decide +kernel

/-- `cplx_fftvec_bitwiddle_fma(precomp, a, slicea, omg)` as it is (`m` even, `m > 0`, slices `off = 4⌊slicea/32⌋`
    doubles apart and not overlapping): on every column `(A, B, C, D)` of the four slices the two-level butterfly
    `bitwFmaCx ω`: first level with `ω = ω_{i mod 2}` — second level with `(ω.re, ω.re)` on `(A, B)` and
    `(ω.im, ω.im)` on `(C, D)` (`om2rr = om2ii = shuffle(om, 0)`, `om3rr = om3ii = shuffle(om, 15)` in the source) -/
theorem cplx_bitwiddle_fma_exact (m slicea : Nat) (hm : m % 2 = 0) (h0 : 0 < m) (a om : Array R)
    (hoff : 2 * m ≤ 4 * (slicea / 32)) (hb : 3 * (4 * (slicea / 32)) + 2 * m ≤ a.size) :
    (cplxFftvecBitwiddleFma (RArith.ofRing R) m slicea a om).size = a.size ∧
    (∀ i, i < m →
      let off := 4 * (slicea / 32)
      let Q := bitwFmaCx (omW om (i % 2)) (cxAt a (2 * i)) (cxAt a (off + 2 * i)) (cxAt a (2 * off + 2 * i))
        (cxAt a (3 * off + 2 * i))
      cxAt (cplxFftvecBitwiddleFma (RArith.ofRing R) m slicea a om) (2 * i) = Q.1 ∧
      cxAt (cplxFftvecBitwiddleFma (RArith.ofRing R) m slicea a om) (off + 2 * i) = Q.2.1 ∧
      cxAt (cplxFftvecBitwiddleFma (RArith.ofRing R) m slicea a om) (2 * off + 2 * i) = Q.2.2.1 ∧
      cxAt (cplxFftvecBitwiddleFma (RArith.ofRing R) m slicea a om) (3 * off + 2 * i) = Q.2.2.2) ∧
    (∀ x, (∀ s, s < 4 → x < s * (4 * (slicea / 32)) ∨ s * (4 * (slicea / 32)) + 2 * m ≤ x) →
      (cplxFftvecBitwiddleFma (RArith.ofRing R) m slicea a om).getD x 0 = a.getD x 0) := by
  unfold cplxFftvecBitwiddleFma
  rw [ymmCount_bitw_fma m hm h0]
  exact bitwLoop_spec (m / 2) m (4 * (slicea / 32)) (by omega)
    (fun _ => bitwReg (RArith.ofRing R) (bitwCfgFma (V4.load 0 om 0)))
    (fun i A B C D => bitwFmaCx (omW om (i % 2)) A B C D) a hoff hb
    (by
      intro j e he va vb vc vd
      rw [show (2 * j + e) % 2 = e by omega, omW_eq_pairOf om e he]
      exact bitwReg_fma_lanes _ va vb vc vd e he)

/-- the reference radix-4 step and the `bitwiddle_fma` column function agree when the second-level twiddles the
    kernel makes up, `(ω.re, ω.re)` and `(ω.im, ω.im)`, happen to be `ω1` and `i·ω1` — for twiddles on the unit circle
    over ℝ that never happens (it forces `ω.re = ω.im = −ω.re`); this is the only relation between the two -/
theorem cplx_bitwiddle_fma_eq_ref_partial (w w1 A B C D : Cx R)
    (h2 : (⟨w.re, w.re⟩ : Cx R) = w1) (h3 : (⟨w.im, w.im⟩ : Cx R) = Cx.mulI w1) :
    bitwFmaCx w A B C D = bitwRefCx w w1 A B C D := by
  unfold bitwFmaCx bitwGen bitwRefCx
  rw [h2, h3]
  simp only [Cx.mul_comm']

/-- … and on ordinary data they differ: `m = h = 2`, data `0..15`, `omg = (1+2i, 1+2i)` -/
theorem cplx_bitwiddle_fma_ne_ref :
    (cplxFftvecBitwiddleFma (RArith.ofRing Int) 2 32 ((Array.range 16).map (fun (i : Nat) => Int.ofNat i)) #[1, 2, 1, 2]).getD 0 0 = -62 ∧
    (cplxBitwiddleFftRef (CArith.ofRing Int) 2 ((Array.range 16).map (fun (i : Nat) => Int.ofNat i)) #[1, 2, 1, 2]).getD 0 0 = -104 := by
  decide +kernel

end exact

/-- `cplx_fftvec_bitwiddle_avx512` (repaired) = `cplx_fftvec_bitwiddle_fma`, `8 | m`, `m > 0`, for EVERY arithmetic
    (binary64 bit patterns included: bit-for-bit equality, C07), every column, whenever both kernels address the
    same slices: `OFFSET` is `⌊slicea/64⌋` zmm resp. `⌊slicea/32⌋` ymm, the same distance iff `slicea mod 64 < 32`
    (every multiple of 64 in particular) -/
theorem cplx_bitwiddle_avx512_eq_fma {α : Type} (ar : RArith α) (m slicea : Nat) (hm : m % 8 = 0) (h0 : 0 < m)
    (hs : slicea % 64 < 32) (a om : Array α) :
    cplxFftvecBitwiddleAvx512 ar m slicea a om = cplxFftvecBitwiddleFma ar m slicea a om := by
  unfold cplxFftvecBitwiddleAvx512 cplxFftvecBitwiddleFma
  rw [ymmCount_bitw_avx512 m hm h0, ymmCount_bitw_fma m (by omega) h0, show 8 * (slicea / 64) = 4 * (slicea / 32) by omega]

/-- the two equalities on the carrier the driver runs: binary64 as 64-bit patterns -/
theorem cplx_avx512_eq_fma_binary64 (m slicea : Nat) (a b om : Array Nat) (h0 : 0 < m) :
    (m % 16 = 0 → cplxFftvecTwiddleAvx512 F64.arith m a b om = cplxFftvecTwiddleFma F64.arith m a b om) ∧
    (m % 8 = 0 → slicea % 64 < 32 →
      cplxFftvecBitwiddleAvx512 F64.arith m slicea a om = cplxFftvecBitwiddleFma F64.arith m slicea a om) :=
  ⟨fun hm => cplx_twiddle_avx512_eq_fma F64.arith m hm h0 a b om,
   fun hm hs => cplx_bitwiddle_avx512_eq_fma F64.arith m slicea hm h0 hs a om⟩

section exact
variable {R : Type} [CommRing R]

/-- D9, the kernel before commit 36935af (`cplxFftvecBitwiddleAvx512Old`, `8 | m`, `off = 8⌊slicea/64⌋`): columns `i`
    with `⌊i/2⌋` even (lower 256-bit half of a zmm) got the AVX2 kernel's `bitwFmaCx`, the others `bitwHiCx` (every
    product replaced by `hiT ω.re`: the 8-bit immediates 5 and 15 of `_mm512_shuffle_pd` have a zero upper nibble) -/
theorem cplx_bitwiddle_avx512_old_exact (m slicea : Nat) (hm : m % 8 = 0) (h0 : 0 < m) (a om : Array R)
    (hoff : 2 * m ≤ 8 * (slicea / 64)) (hb : 3 * (8 * (slicea / 64)) + 2 * m ≤ a.size) :
    (cplxFftvecBitwiddleAvx512Old (RArith.ofRing R) m slicea a om).size = a.size ∧
    (∀ i, i < m →
      let off := 8 * (slicea / 64)
      let Q := (if i / 2 % 2 = 0 then bitwFmaCx (omW om (i % 2)) else bitwHiCx (omW om (i % 2)))
        (cxAt a (2 * i)) (cxAt a (off + 2 * i)) (cxAt a (2 * off + 2 * i)) (cxAt a (3 * off + 2 * i))
      cxAt (cplxFftvecBitwiddleAvx512Old (RArith.ofRing R) m slicea a om) (2 * i) = Q.1 ∧
      cxAt (cplxFftvecBitwiddleAvx512Old (RArith.ofRing R) m slicea a om) (off + 2 * i) = Q.2.1 ∧
      cxAt (cplxFftvecBitwiddleAvx512Old (RArith.ofRing R) m slicea a om) (2 * off + 2 * i) = Q.2.2.1 ∧
      cxAt (cplxFftvecBitwiddleAvx512Old (RArith.ofRing R) m slicea a om) (3 * off + 2 * i) = Q.2.2.2) ∧
    (∀ x, (∀ s, s < 4 → x < s * (8 * (slicea / 64)) ∨ s * (8 * (slicea / 64)) + 2 * m ≤ x) →
      (cplxFftvecBitwiddleAvx512Old (RArith.ofRing R) m slicea a om).getD x 0 = a.getD x 0) := by
  unfold cplxFftvecBitwiddleAvx512Old
  rw [ymmCount_bitw_avx512 m hm h0]
  exact bitwLoop_spec (m / 2) m (8 * (slicea / 64)) (by omega)
    (fun j => bitwReg (RArith.ofRing R) (if j % 2 == 0 then bitwCfgFma (V4.load 0 om 0) else bitwCfgAvx512Hi (V4.load 0 om 0)))
    (fun i A B C D => (if i / 2 % 2 = 0 then bitwFmaCx (omW om (i % 2)) else bitwHiCx (omW om (i % 2))) A B C D)
    a hoff hb
    (by
      intro j e he va vb vc vd
      rw [show (2 * j + e) / 2 = j by omega, show (2 * j + e) % 2 = e by omega, omW_eq_pairOf om e he]
      -- with `j % 2` a numeral both `if`s reduce by evaluation
      rcases Nat.mod_two_eq_zero_or_one j with hj | hj <;> rw [hj]
      · exact bitwReg_fma_lanes _ va vb vc vd e he
      · exact bitwReg_hi_lanes _ va vb vc vd e he)

/-- D9 on concrete data: `m = 8`, `slicea = 128`, data `0..63`, `omg = (1+2i, 3+4i)`, column 2: the old kernel
    returned 4 where the AVX2 kernel (and the repaired one) return −246 -/
theorem cplx_bitwiddle_avx512_old_ne_fma :
    (cplxFftvecBitwiddleAvx512Old (RArith.ofRing Int) 8 128 ((Array.range 64).map (fun (i : Nat) => Int.ofNat i)) #[1, 2, 3, 4]).getD 4 0 = 4 ∧
    (cplxFftvecBitwiddleFma (RArith.ofRing Int) 8 128 ((Array.range 64).map (fun (i : Nat) => Int.ofNat i)) #[1, 2, 3, 4]).getD 4 0 = -246 ∧
    (cplxFftvecBitwiddleAvx512 (RArith.ofRing Int) 8 128 ((Array.range 64).map (fun (i : Nat) => Int.ofNat i)) #[1, 2, 3, 4]).getD 4 0 = -246 := by
  decide +kernel

end exact

/-- the hypotheses of the exact statements are satisfiable: `m = 8` complexes `0..15`, `omg = (2+3i, 2+3i)`:
    `a_1 + ω b_1 = (2+3i) + (2+3i)(2+3i) = −3 + 15i` -/
example : (8 % 8 = 0 ∧ 0 < 8 ∧ 2 * 8 ≤ ((Array.range 16).map (fun (i : Nat) => Int.ofNat i)).size) ∧
    (cplxFftvecTwiddleFma (RArith.ofRing Int) 8 ((Array.range 16).map (fun (i : Nat) => Int.ofNat i))
      ((Array.range 16).map (fun (i : Nat) => Int.ofNat i)) #[2, 3, 2, 3]).1.getD 2 0 = -3 ∧
    (cplxTwiddleFftRef (RArith.ofRing Int) 8 ((Array.range 16).map (fun (i : Nat) => Int.ofNat i) ++
      (Array.range 16).map (fun (i : Nat) => Int.ofNat i)) #[2, 3, 2, 3]).getD 3 0 = 15 := by
  decide +kernel

/-- `ceilto32b` / `ceilto64b`: the least multiple of 32 (64) that is `≥ size`, as long as `size + 31` (`+ 63`) does
    not wrap; `vec_znx_big_range_normalize_base2k_tmp_bytes` asks for one limb of `nn` int64 -/
theorem ceilto_spec (size nn : Nat) :
    (size + 31 < 18446744073709551616 →
      ceilto32b size % 32 = 0 ∧ size ≤ ceilto32b size ∧ ceilto32b size < size + 32) ∧
    (size + 63 < 18446744073709551616 →
      ceilto64b size % 64 = 0 ∧ size ≤ ceilto64b size ∧ ceilto64b size < size + 64) ∧
    rangeNormalizeTmpBytes nn = nn * 8 ∧ moduleGetN nn = nn := by
  unfold ceilto32b ceilto64b
  refine ⟨fun h => ?_, fun h => ?_, rfl, rfl⟩
  · rw [Nat.mod_eq_of_lt h]; omega
  · rw [Nat.mod_eq_of_lt h]; omega

end Spq.CoverProps
