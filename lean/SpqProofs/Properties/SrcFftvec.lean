/-
  SrcFftvec: the C SOURCE equals the hand-written model, for all inputs — the binary64 pointwise product kernels
  `reim_fftvec_mul_ref` / `reim_fftvec_addmul_ref` of spqlios/reim/reim_fftvec_addmul_ref.c.
  For property C13 (in-place = out-of-place) this covers the pointwise products with r==a / r==b at kernel level:
  the statements hold for ANY coincidence among the buffer indices `r`, `a`, `b`
  (all distinct, r==a, r==b, a==b, r==a==b) and the result is always the model applied to the ORIGINAL contents of `a`, `b`
  (and `r` for addmul).

  Conventions of the statements (as in `Properties/SrcElem.lean`):
  * `mem : Mem` is the whole memory; pointer parameter `i` is bound to `some (buf, 0)`; the data buffers have EXACTLY `2m` cells;
  * the precomputation object (`REIM_FFTVEC_[ADD]MUL_PRECOMP`: a function pointer, then `int64_t m`) is buffer `p` with at least
    2 cells, cell 1 = `m`; cell 0 (the function pointer) is never read.  `p` may be any buffer (even `r`: `m` is read once,
    before the loop);
  * the model is `Spq.Reim4.reimFftvecMulRef` / `reimFftvecAddmulRef` (`Spq/Reim4.lean`, the reference kernels: separate
    multiplications, subtraction / additions — no fused multiply-add, the file is compiled without -mfma) instantiated with
    `f64Arith` = the binary64 operations of `Spq/F64.lean` on patterns stored as `Int` (`Lemmas/SrcFftvec.lean`,
    `f64Arith_{add,sub,mul}_cast`: it is `F64.arith` on the patterns);
  * `∀ fuel, m ≤ fuel → …`: explicit sufficient fuel (one unit per loop iteration);
  * `src_<f>_no_oob`: for EVERY fuel the run is not an out-of-bounds / null / overlap / ub / unsupported error.
-/
import Gen.CSrc
import Spq.Reim4
import SpqProofs.Lemmas.SrcFftvec
namespace Spq.Src
open Spq Spq.CIR Spq.Reim4

/-! ### `r[i] = re(a_i b_i); r[i+m] = im(a_i b_i)`: any aliasing between `r`, `a`, `b` -/

theorem src_reim_fftvec_mul_ref_eq_model (m : Nat) (hm : 2 * m < 18446744073709551616) (mem : Mem) (p r a b : Nat)
    (hp : 1 < (buf mem p).size) (hpm : (buf mem p).getD 1 0 = (m : Int))
    (hr : (buf mem r).size = 2 * m) (ha : (buf mem a).size = 2 * m) (hb : (buf mem b).size = 2 * m) :
    ∀ fuel, m ≤ fuel →
      run fuel Gen.CSrc.reim_fftvec_mul_ref [] [some (p, 0), some (r, 0), some (a, 0), some (b, 0)] mem
        = .ok (mem.setIfInBounds r (reimFftvecMulRef f64Arith m (buf mem r) (buf mem a) (buf mem b))) := by
  intro fuel hf
  cir_enter Gen.CSrc.reim_fftvec_mul_ref
  rw [exec_seq, exec_assign, eval_cast, eval_precomp_m _ _ _ p rfl hp, hpm]
  have e0 : Ty.wrap .u64 (m : Int) = (m : Int) := by simp only [wrap_u64]; omega
  simp only [R.bind_ok, e0, seqK_norm, lset_zero]
  refine fftvec_for mem _ r a b m hm ha hb (fun v _ => v) _ _ _ _ ?_ fuel hf
  intro k hk A hAs re im f
  have hk1 : k < (buf mem r).size := by omega
  have hk2 : k + m < (buf mem r).size := by omega
  rw [exec_seq, exec_store]
  simp only [eval_var, lget_zero, lget_succ, R.bind_ok, List.getD_cons_zero, List.getD_cons_succ]
  rw [store_self mem r A k _ hAs hk1]
  simp only [R.bind_ok, seqK_norm, exec_store, eval_bin, eval_var, lget_zero, lget_succ, evalBin_add_u64,
    lane_idx_wrap k m hm hk, List.getD_cons_zero, List.getD_cons_succ]
  rw [store_self mem r _ (k + m) _ (by simp only [Array.size_setIfInBounds]; exact hAs) hk2]
  rfl

/-! ### `r[i] += re(a_i b_i); r[i+m] += im(a_i b_i)`: any aliasing between `r`, `a`, `b` -/

theorem src_reim_fftvec_addmul_ref_eq_model (m : Nat) (hm : 2 * m < 18446744073709551616) (mem : Mem) (p r a b : Nat)
    (hp : 1 < (buf mem p).size) (hpm : (buf mem p).getD 1 0 = (m : Int))
    (hr : (buf mem r).size = 2 * m) (ha : (buf mem a).size = 2 * m) (hb : (buf mem b).size = 2 * m) :
    ∀ fuel, m ≤ fuel →
      run fuel Gen.CSrc.reim_fftvec_addmul_ref [] [some (p, 0), some (r, 0), some (a, 0), some (b, 0)] mem
        = .ok (mem.setIfInBounds r (reimFftvecAddmulRef f64Arith m (buf mem r) (buf mem a) (buf mem b))) := by
  intro fuel hf
  cir_enter Gen.CSrc.reim_fftvec_addmul_ref
  rw [exec_seq, exec_assign, eval_cast, eval_precomp_m _ _ _ p rfl hp, hpm]
  have e0 : Ty.wrap .u64 (m : Int) = (m : Int) := by simp only [wrap_u64]; omega
  simp only [R.bind_ok, e0, seqK_norm, lset_zero]
  refine fftvec_for mem _ r a b m hm ha hb (fun v old => f64Arith.add old v) _ _ _ _ ?_ fuel hf
  intro k hk A hAs re im f
  have hk1 : k < (buf mem r).size := by omega
  have hk2 : k + m < (buf mem r).size := by omega
  rw [exec_seq, exec_store]
  simp only [eval_var, eval_bin, eval_load, lget_zero, lget_succ, R.bind_ok, List.getD_cons_zero, List.getD_cons_succ]
  rw [load_self mem r A k hAs hk1]
  simp only [R.bind_ok, evalBin_add_f64]
  rw [store_self mem r A k _ hAs hk1]
  simp only [R.bind_ok, seqK_norm, exec_store, eval_bin, eval_var, eval_load, lget_zero, lget_succ, evalBin_add_u64,
    lane_idx_wrap k m hm hk, List.getD_cons_zero, List.getD_cons_succ]
  rw [load_self mem r _ (k + m) (by simp only [Array.size_setIfInBounds]; exact hAs) hk2]
  simp only [R.bind_ok, evalBin_add_f64]
  rw [store_self mem r _ (k + m) _ (by simp only [Array.size_setIfInBounds]; exact hAs) hk2]
  rfl

/-! ### the same on buffers of binary64 PATTERNS (`patBuf`: naturals as cells): the result buffer is the model instantiated
    with `F64.arith` (`Spq/Reim4.lean`; the instance the driver family `r4` runs against the compiled code), any aliasing -/

theorem src_reim_fftvec_mul_ref_eq_f64 (m : Nat) (hm : 2 * m < 18446744073709551616) (mem : Mem) (p r a b : Nat)
    (R A B : Array Nat) (hp : 1 < (buf mem p).size) (hpm : (buf mem p).getD 1 0 = (m : Int))
    (hR : buf mem r = patBuf R) (hA : buf mem a = patBuf A) (hB : buf mem b = patBuf B)
    (hr : R.size = 2 * m) (ha : A.size = 2 * m) (hb : B.size = 2 * m) :
    ∀ fuel, m ≤ fuel →
      run fuel Gen.CSrc.reim_fftvec_mul_ref [] [some (p, 0), some (r, 0), some (a, 0), some (b, 0)] mem
        = .ok (mem.setIfInBounds r (patBuf (reimFftvecMulRef F64.arith m R A B))) := by
  intro fuel hf
  rw [src_reim_fftvec_mul_ref_eq_model m hm mem p r a b hp hpm (by rw [hR]; simpa [patBuf] using hr)
    (by rw [hA]; simpa [patBuf] using ha) (by rw [hB]; simpa [patBuf] using hb) fuel hf, hR, hA, hB,
    reimFftvecMulRef_patBuf]

theorem src_reim_fftvec_addmul_ref_eq_f64 (m : Nat) (hm : 2 * m < 18446744073709551616) (mem : Mem) (p r a b : Nat)
    (R A B : Array Nat) (hp : 1 < (buf mem p).size) (hpm : (buf mem p).getD 1 0 = (m : Int))
    (hR : buf mem r = patBuf R) (hA : buf mem a = patBuf A) (hB : buf mem b = patBuf B)
    (hr : R.size = 2 * m) (ha : A.size = 2 * m) (hb : B.size = 2 * m) :
    ∀ fuel, m ≤ fuel →
      run fuel Gen.CSrc.reim_fftvec_addmul_ref [] [some (p, 0), some (r, 0), some (a, 0), some (b, 0)] mem
        = .ok (mem.setIfInBounds r (patBuf (reimFftvecAddmulRef F64.arith m R A B))) := by
  intro fuel hf
  rw [src_reim_fftvec_addmul_ref_eq_model m hm mem p r a b hp hpm (by rw [hR]; simpa [patBuf] using hr)
    (by rw [hA]; simpa [patBuf] using ha) (by rw [hB]; simpa [patBuf] using hb) fuel hf, hR, hA, hB,
    reimFftvecAddmulRef_patBuf]

/-! ### no out-of-bounds access, for every fuel -/

theorem src_reim_fftvec_mul_ref_no_oob (m : Nat) (hm : 2 * m < 18446744073709551616) (mem : Mem) (p r a b : Nat)
    (hp : 1 < (buf mem p).size) (hpm : (buf mem p).getD 1 0 = (m : Int))
    (hr : (buf mem r).size = 2 * m) (ha : (buf mem a).size = 2 * m) (hb : (buf mem b).size = 2 * m) :
    ∀ fuel e, e ≠ .fuel →
      run fuel Gen.CSrc.reim_fftvec_mul_ref [] [some (p, 0), some (r, 0), some (a, 0), some (b, 0)] mem ≠ .err e :=
  run_no_other_error _ _ _ _ _ m (src_reim_fftvec_mul_ref_eq_model m hm mem p r a b hp hpm hr ha hb)

theorem src_reim_fftvec_addmul_ref_no_oob (m : Nat) (hm : 2 * m < 18446744073709551616) (mem : Mem) (p r a b : Nat)
    (hp : 1 < (buf mem p).size) (hpm : (buf mem p).getD 1 0 = (m : Int))
    (hr : (buf mem r).size = 2 * m) (ha : (buf mem a).size = 2 * m) (hb : (buf mem b).size = 2 * m) :
    ∀ fuel e, e ≠ .fuel →
      run fuel Gen.CSrc.reim_fftvec_addmul_ref [] [some (p, 0), some (r, 0), some (a, 0), some (b, 0)] mem ≠ .err e :=
  run_no_other_error _ _ _ _ _ m (src_reim_fftvec_addmul_ref_eq_model m hm mem p r a b hp hpm hr ha hb)

/-! ### non-vacuity: m = 2, in place (`r == a`, and `r == a == b`), concrete memory
    buffer 0 = precomp object (function pointer cell, m = 2); buffer 1 = (1+2i, 2+1i) in split layout; buffer 2 = (1+0i, 0+1i).
    binary64 patterns: 1.0 = 4607182418800017408, 2.0 = 4611686018427387904, 3.0 = 4613937818241073152,
    4.0 = 4616189618054758400, -3.0 = 13837309855095848960 -/

/-- `r == a` (buffer 1), `b` = buffer 2 -/
example :
    let mem : Mem := #[#[140737488355328, 2], #[4607182418800017408, 4611686018427387904, 4611686018427387904, 4607182418800017408],
      #[4607182418800017408, 0, 0, 4607182418800017408]]
    run 2 Gen.CSrc.reim_fftvec_mul_ref [] [some (0, 0), some (1, 0), some (1, 0), some (2, 0)] mem
      = .ok (mem.setIfInBounds 1 (reimFftvecMulRef f64Arith 2 (buf mem 1) (buf mem 1) (buf mem 2))) :=
  src_reim_fftvec_mul_ref_eq_model 2 (by decide) _ 0 1 1 2 (by decide) rfl rfl rfl rfl 2 (Nat.le_refl _)

/-- `r == a == b` (squaring in place): (1+2i)² = -3+4i, (2+i)² = 3+4i, computed by the interpreter on the generated term -/
example :
    run 2 Gen.CSrc.reim_fftvec_mul_ref [] [some (0, 0), some (1, 0), some (1, 0), some (1, 0)]
      #[#[140737488355328, 2], #[4607182418800017408, 4611686018427387904, 4611686018427387904, 4607182418800017408]]
      = .ok #[#[140737488355328, 2], #[13837309855095848960, 4613937818241073152, 4616189618054758400, 4616189618054758400]] := by
  decide +kernel

/-- the pattern form at `r == a`: `R` and `A` are the same array of patterns -/
example :
    let A : Array Nat := #[4607182418800017408, 4611686018427387904, 4611686018427387904, 4607182418800017408]
    let B : Array Nat := #[4607182418800017408, 0, 0, 4607182418800017408]
    let mem : Mem := #[#[140737488355328, 2], patBuf A, patBuf B]
    run 2 Gen.CSrc.reim_fftvec_mul_ref [] [some (0, 0), some (1, 0), some (1, 0), some (2, 0)] mem
      = .ok (mem.setIfInBounds 1 (patBuf (reimFftvecMulRef F64.arith 2 A A B))) :=
  src_reim_fftvec_mul_ref_eq_f64 2 (by decide) _ 0 1 1 2 _ _ _ (by decide) rfl rfl rfl rfl rfl rfl rfl 2 (Nat.le_refl _)

/-- addmul with `r == b`: the theorem applies -/
example :
    let mem : Mem := #[#[140737488355328, 2], #[4607182418800017408, 4611686018427387904, 4611686018427387904, 4607182418800017408],
      #[4607182418800017408, 0, 0, 4607182418800017408]]
    run 2 Gen.CSrc.reim_fftvec_addmul_ref [] [some (0, 0), some (2, 0), some (1, 0), some (2, 0)] mem
      = .ok (mem.setIfInBounds 2 (reimFftvecAddmulRef f64Arith 2 (buf mem 2) (buf mem 1) (buf mem 2))) :=
  src_reim_fftvec_addmul_ref_eq_model 2 (by decide) _ 0 2 1 2 (by decide) rfl rfl rfl rfl 2 (Nat.le_refl _)

end Spq.Src
