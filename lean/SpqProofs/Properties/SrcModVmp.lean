/-
  C11 / C18, translator tie of the ADDRESSING of the FFT64 vector-matrix product (continuation of
  `Properties/SrcMod.lean`, same conventions): the terms generated from
  `spqlios/arithmetic/vector_matrix_product.c` run with the kernel record `modSem c cd B nrows` are the entry points
  `vmpPrepare`, `vmpApplyDftToDft`, `vmpApplyDft` of `lean/Spq/ModuleHeap.lean`.

  * `module->nn`, `module->m` are the scalar arguments `c.nn`, `c.m` (the functions that read `module->m`, or pass
    the module to one that does, get it as a second scalar);
  * `tb` (the byte count the caller declares for the scratch pointer) is not an argument of the C functions: the
    theorems hold for every `tb` for which the model's run is `ok`;
  * `x / 2^k` on unsigned operands is translated as `x >> k`; `bytep + E * 8` as the cell offset `(E * 8) >> 3`.
-/
import Gen.CSrc
import SpqProofs.Lemmas.SrcModVmp
import SpqProofs.Properties.SrcMod
namespace Spq.Src
open Spq Spq.CIR Heap ModuleHeap
variable {α : Type}

theorem src_fft64_vmp_prepare_contiguous_ref_eq_model (c : Module.Parts α) (cd : Cells Int α) (nr : Nat)
    (m0 : Mem) (B : Nat) (hB : B < m0.size) (X : Array Int) (hX : X.size < 2305843009213693952)
    (pmat mat nrows ncols tmp tb : Nat) (hnn0 : 0 < c.nn) (hnn : c.nn < 18446744073709551616)
    (hm : c.m < 18446744073709551616) (hnr : nrows < 18446744073709551616) (hnc : ncols < 18446744073709551616)
    (hok : (vmpPrepare c cd ⟨X, true⟩ pmat mat nrows ncols tmp tb).ok = true) :
    ∀ fuel, nrows + ncols + c.m / 4 ≤ fuel →
      runK (modSem c cd B nr) fuel Gen.CSrc.fft64_vmp_prepare_contiguous_ref
          [(c.nn : Int), (c.m : Int), (nrows : Int), (ncols : Int)]
          [some (B, pmat), some (B, mat), some (B, tmp)] (m0.setIfInBounds B X)
        = .ok (m0.setIfInBounds B (vmpPrepare c cd ⟨X, true⟩ pmat mat nrows ncols tmp tb).mem) := by
  intro fuel hf
  have pp0 : ∀ env, ptrAt [some (B, pmat), some (B, mat), some (B, tmp)] env (.param 0) 0 = .ok (some (B, pmat)) :=
    fun env => ptrAt_param_zero _ env 0 B pmat rfl
  have gC : ∀ row col, Good (fun h => kFft c cd (pmat + (col * nrows + row) * c.nn)
      (kFromZnx c cd (pmat + (col * nrows + row) * c.nn) (mat + (row * ncols + col) * c.nn) h)) :=
    fun _ _ => (good_kFromZnx c cd _ _).comp (good_kFft c cd _)
  have gBlk : ∀ row col blk, Good (fun h => kExtract1 c cd blk
      (pmat + Module.pmatStart nrows ncols row col + blk * (nrows * ncols * 8)) tmp (scr tb 0 c.nn h)) :=
    fun _ _ _ => (good_scr _ _ _).comp (good_kExtract1 c cd _ _ _)
  have gCol : ∀ row col, Good (fun h => h |> scr tb 0 c.nn |> kFromZnx c cd tmp (mat + (row * ncols + col) * c.nn)
      |> scr tb 0 c.nn |> kFft c cd tmp |> loop (c.m / 4) (fun blk h => h |> scr tb 0 c.nn
        |> kExtract1 c cd blk (pmat + Module.pmatStart nrows ncols row col + blk * (nrows * ncols * 8)) tmp)) :=
    fun row col => ((((good_scr _ _ _).comp (good_kFromZnx c cd _ _)).comp (good_scr _ _ _)).comp (good_kFft c cd _)).comp
      (Good.loop _ (gBlk row col))
  have hm4 : c.m / 4 < 18446744073709551616 := Nat.lt_of_le_of_lt (Nat.div_le_self _ _) hm
  refine Tr.runD (L := 18) (N := X.size) (k := fun h => vmpPrepare c cd h pmat mat nrows ncols tmp tb) rfl
    (Tr.assignD 4 _ (c.nn : Int) (by decide) (fun _ _ H => eval_var_eq (H.get 0 rfl))
    (Tr.assignD 5 _ (c.m : Int) (by decide) (fun _ _ H => eval_var_eq (H.get 1 rfl))
    (Tr.passignD 6 _ _ 0 B pmat (by decide) (fun _ _ _ => rfl) (fun env _ => pp0 env)
    -- `start_addr = output_mat` is dead: it is set again before it is read
    (Tr.passignD 8 _ _ 0 B pmat (by decide) (fun _ _ _ => rfl) (fun env _ => pp0 env) (Tr.dropD rfl (Tr.dropD rfl
    -- slot 10, `offset = nrows * ncols * 8`, on its exact value: it may have wrapped when no block is read
    (Tr.assignU 10 _ (nrows * ncols * 8) (by decide)
      (fun _ _ H => ((EvU.arg (H.get 2 rfl) hnr).mul (EvU.arg (H.get 3 rfl) hnc)).mul (EvU.lit 8).cast)
    (Tr.iteP (fb := nrows + (ncols + c.m / 4)) (Q := fun _ => True) (c.nn ≥ 8)
      (fun _ _ H => evalB_ge_nat _ _ _ _ c.nn 8 (eval_var_eq (H.get 4 rfl)) rfl)
      (Good.loop _ fun _ => Good.loop _ fun _ => gCol _ _) (Good.loop _ fun _ => Good.loop _ fun _ => gC _ _)
      -- nn >= 8: per entry from_znx64, fft into tmp, then m/4 blocks extracted to the entry's start in the blocked layout
      (fun _ => Tr.post
        (Tr.forD 11 _ _ _ _ (fun row => Good.loop ncols (gCol row)) 0 nrows (Nat.zero_le _) hnr (by decide)
          (fun _ _ _ => rfl) (fun _ _ _ H => eval_var_eq (H.get 2 rfl))
          fun r _ hr => Tr.post
            (Tr.forD 12 _ _ _ _ (gCol r) 0 ncols (Nat.zero_le _) hnc (by decide)
              (fun _ _ _ => rfl) (fun _ _ _ H => eval_var_eq (H.get 3 rfl))
              fun k _ hk =>
                have hr64 := Nat.lt_trans hr hnr
                have hk64 := Nat.lt_trans hk hnc
                Tr.post (Tr.seq
                (Tr.ofHas ((good_scr tb 0 c.nn).comp (good_kFromZnx c cd tmp (mat + (r * ncols + k) * c.nn))) fun env H =>
                  Tr.scr tb 0 c.nn (Tr.extcall hB _ _ _ (good_kFromZnx c cd tmp (mat + (r * ncols + k) * c.nn))
                  fun H' hN hk =>
                    have bsrc := kFromZnx_bound c cd _ _ H' hk
                    ⟨_, _, rfl, evalPtrs_param0 rfl (evalPtrs_paramU
                      ((((EvU.arg (H.get 11 rfl) hr64).mul (EvU.arg (H.get 3 rfl) hnc)).add (EvU.arg (H.get 12 rfl) hk64)).mul
                        (EvU.arg (H.get 4 rfl) hnn))
                      (lt_of_addr bsrc (hN ▸ hX)) rfl rfl), modSem_fromZnx c cd B nr _ _ _⟩))
                (Tr.seq
                  (Tr.ofHas ((good_scr tb 0 c.nn).comp (good_kFft c cd tmp)) fun env _ =>
                    Tr.scr tb 0 c.nn (Tr.extcall hB _ _ _ (good_kFft c cd tmp) fun _ _ _ =>
                    ⟨_, _, rfl, evalPtrs_param0 rfl rfl, modSem_fft c cd B nr _ _⟩))
                  (Tr.seq
                    -- start = last odd column ? … : …  : the model's `pmatStart`, wrapped or not
                    (Tr.iteId (Q := Has 18 ((9, ((pmat + Module.pmatStart nrows ncols r k % 18446744073709551616 : Nat) : Int)) ::
                        (8, (B : Int)) :: _))
                      (k = ncols - 1 ∧ ncols % 2 = 1)
                      (fun _ _ H => evalB_land _ _ _ _ _ _
                        (evalB_eq_nat _ _ _ _ k (ncols - 1) (eval_var_eq (H.get 12 rfl)) (((EvU.arg (H.get 3 rfl) hnc).sub
                          (EvU.lit 1).cast (Nat.zero_lt_of_lt hk)).exact (Nat.lt_of_le_of_lt (Nat.sub_le _ _) hnc)))
                        (evalB_odd _ _ _ ncols (eval_var_eq (H.get 3 rfl))))
                      (fun hlast => pmatStart_last nrows ncols r k hlast ▸
                        Tr.passignPvarU 8 6 _ _ B pmat (by decide)
                          (fun _ _ H => (((EvU.arg (H.get 12 rfl) hk64).mul (EvU.arg (H.get 2 rfl) hnr)).mul (EvU.lit 8).cast).add
                            ((EvU.arg (H.get 11 rfl) hr64).mul (EvU.lit 8).cast))
                          (fun _ H => H.get 6 rfl) (fun _ H => H.get 7 rfl))
                      (fun hlast => pmatStart_pair nrows ncols r k hlast ▸
                        Tr.passignPvarU 8 6 _ _ B pmat (by decide)
                          (fun _ _ H => ((((EvU.shr_lit (eval_var_eq (H.get 12 rfl)) hk64 1 2 (by decide) rfl).mul
                              ((EvU.lit 2).cast.mul (EvU.arg (H.get 2 rfl) hnr))).mul (EvU.lit 8).cast).add
                            (((EvU.arg (H.get 11 rfl) hr64).mul (EvU.lit 2).cast).mul (EvU.lit 8).cast)).add
                            ((EvU.mod (eval_var_eq (H.get 12 rfl)) hk64 (eval_cast_u64 (eval_lit_nat 2) (by decide))
                              (by decide)).mul (EvU.lit 8).cast))
                          (fun _ H => H.get 6 rfl) (fun _ H => H.get 7 rfl)))
                    (Tr.forD (fb := 0) 13 _ _ _ _ (gBlk r k) 0 (c.m / 4) (Nat.zero_le _) hm4 (by decide)
                      (fun _ _ _ => rfl)
                      (fun _ _ _ H => (EvU.shr_lit (eval_var_eq (H.get 5 rfl)) hm 2 4 (by decide) rfl).exact hm4)
                      fun b _ hb => Tr.ofHas (gBlk r k b) fun env H => Tr.scr tb 0 c.nn (Tr.extcall hB _ _ _
                        (good_kExtract1 c cd b (pmat + Module.pmatStart nrows ncols r k + b * (nrows * ncols * 8)) tmp)
                        fun H' hN hk =>
                          have bd := (kExtract1_bound c cd _ _ _ H' hk).1
                          ⟨_, _, evalList_cons_ok (eval_var_eq (H.get 5 rfl)) (evalList_cons_ok (eval_var_eq (H.get 13 rfl)) rfl),
                            evalPtrs_pvarU ((EvU.arg (H.get 13 rfl) (Nat.lt_trans hb hm4)).mul (EvU.var (H.get 10 rfl)))
                              (H.get 8 rfl) (H.get 9 rfl) (addr_of_wrapped bd (hN ▸ hX)) (evalPtrs_param0 rfl rfl),
                            modSem_extract1 c cd B nr _ _ _ _⟩)))))
                fun _ h => ((h.tail rfl).tail rfl).tail rfl)
            fun _ h => h.tail rfl)
        fun _ _ => trivial)
      -- nn < 8: from_znx64 and fft in place, column-major
      fun _ => Tr.mono (fb := nrows - 0 + (ncols - 0 + 0)) (Tr.post
        (Tr.forD 14 _ _ _ _ (fun row => Good.loop ncols (gC row)) 0 nrows (Nat.zero_le _) hnr (by decide)
          (fun _ _ _ => rfl) (fun _ _ _ H => eval_var_eq (H.get 2 rfl))
          fun r _ hr => Tr.post
            (Tr.forD (fb := 0) 15 _ _ _ _ (gC r) 0 ncols (Nat.zero_le _) hnc (by decide)
              (fun _ _ _ => rfl) (fun _ _ _ H => eval_var_eq (H.get 3 rfl))
              fun k _ hk => Tr.of_ok (φ := pmat + (k * nrows + r) * c.nn + c.nn ≤ X.size ∧
                  mat + (r * ncols + k) * c.nn + c.nn ≤ X.size) (gC r k)
                (fun H hN hk => by
                  have b1 := kFft_bound c cd _ _ hk
                  have b2 := kFromZnx_bound c cd _ _ _ ((good_kFft c cd _).mono _ hk)
                  rw [(good_kFromZnx c cd _ _).size, hN] at b1
                  rw [hN] at b2
                  exact ⟨b1, b2⟩)
                fun ⟨b1, b2⟩ =>
                  have hr64 := Nat.lt_trans hr hnr
                  have hk64 := Nat.lt_trans hk hnc
                  Tr.post (Tr.passignD 16 _ _ (((k * nrows + r) * c.nn : Nat) : Int) B
                  (pmat + (k * nrows + r) * c.nn) (by decide)
                  (fun _ _ H => ((((EvU.arg (H.get 15 rfl) hk64).mul (EvU.arg (H.get 2 rfl) hnr)).add
                    (EvU.arg (H.get 14 rfl) hr64)).mul (EvU.arg (H.get 4 rfl) hnn)).exact (lt_of_addr b1 hX))
                  (fun env _ => ptrAt_param _ env 0 B pmat ((k * nrows + r) * c.nn) rfl)
                  (Tr.ofHas (gC r k) fun env H => Tr.seq
                    (Tr.extcall hB _ _ _ (good_kFromZnx c cd (pmat + (k * nrows + r) * c.nn) (mat + (r * ncols + k) * c.nn))
                      fun _ _ _ => ⟨_, _, rfl, evalPtrs_pvar0 (H.get 16 rfl) (H.get 17 rfl) (evalPtrs_paramU
                        ((((EvU.arg (H.get 14 rfl) hr64).mul (EvU.arg (H.get 3 rfl) hnc)).add (EvU.arg (H.get 15 rfl) hk64)).mul
                          (EvU.arg (H.get 4 rfl) hnn))
                        (lt_of_addr b2 hX) rfl rfl), modSem_fromZnx c cd B nr _ _ _⟩)
                    (Tr.extcall hB _ _ _ (good_kFft c cd (pmat + (k * nrows + r) * c.nn)) fun _ _ _ =>
                      ⟨_, _, rfl, evalPtrs_pvar0 (H.get 16 rfl) (H.get 17 rfl) rfl, modSem_fft c cd B nr _ _⟩)))
                  fun _ h => (h.tail rfl).tail rfl)
            fun _ h => h.tail rfl)
        fun _ _ => trivial) (Nat.add_le_add_left (Nat.le_add_right ncols (c.m / 4)) nrows)))))))))
    rfl hok (Nat.add_assoc nrows ncols (c.m / 4) ▸ hf)

theorem src_fft64_vmp_apply_dft_to_dft_ref_eq_model (c : Module.Parts α) (cd : Cells Int α)
    (hz : cd.enc c.ar.zero = 0)
    (m0 : Mem) (B : Nat) (hB : B < m0.size) (X : Array Int) (hX : X.size < 2305843009213693952)
    (res rsz adft asz pmat nrows ncols tmp tb : Nat) (hnn0 : 0 < c.nn) (hnn : c.nn < 18446744073709551616)
    (hm : c.m < 18446744073709551616) (hrsz : rsz < 18446744073709551616) (hasz : asz < 18446744073709551616)
    (hnr : nrows < 18446744073709551616) (hnc : ncols < 18446744073709551616)
    (hok : (vmpApplyDftToDft c cd ⟨X, true⟩ res rsz adft asz pmat nrows ncols tmp tb).ok = true) :
    ∀ fuel, c.m / 4 + ncols + nrows + 1 ≤ fuel →
      runK (modSem c cd B nrows) fuel Gen.CSrc.fft64_vmp_apply_dft_to_dft_ref
          [(c.nn : Int), (c.m : Int), (rsz : Int), (asz : Int), (nrows : Int), (ncols : Int)]
          [some (B, res), some (B, adft), some (B, pmat), some (B, tmp)] (m0.setIfInBounds B X)
        = .ok (m0.setIfInBounds B (vmpApplyDftToDft c cd ⟨X, true⟩ res rsz adft asz pmat nrows ncols tmp tb).mem) := by
  intro fuel hf
  -- the model
  let rowMax := min nrows asz
  let colMax := min ncols rsz
  let matBlk : Nat → Nat := fun blk => pmat + blk * (8 * nrows * ncols)
  let pairBody : Nat → Nat → Heap Int → Heap Int := fun blk t h =>
    h |> scr tb 0 16 |> scr tb 16 (8 * rowMax) |> kProd2 c cd rowMax nrows tmp (tmp + 16) (matBlk blk + (2 * t) * (8 * nrows))
      |> kSave c cd blk (res + (2 * t) * c.nn) tmp
      |> kSave c cd blk (res + (2 * t + 1) * c.nn) (tmp + 8)
  let lastBody : Nat → Heap Int → Heap Int := fun blk h =>
    (if ncols == colMax then
        h |> scr tb 0 8 |> scr tb 16 (8 * rowMax) |> kProd1 c cd rowMax nrows tmp (tmp + 16) (matBlk blk + (colMax - 1) * (8 * nrows))
      else h |> scr tb 0 16 |> scr tb 16 (8 * rowMax)
        |> kProd2 c cd rowMax nrows tmp (tmp + 16) (matBlk blk + (colMax - 1) * (8 * nrows)))
      |> kSave c cd blk (res + (colMax - 1) * c.nn) tmp
  let blkBody : Nat → Heap Int → Heap Int := fun blk h =>
    let h1 := h |> scr tb 16 (8 * rowMax) |> kExtractRows c cd rowMax blk (tmp + 16) adft
    let h2 := loop (colMax / 2) (pairBody blk) h1
    if colMax % 2 == 1 then lastBody blk h2 else h2
  let colBodyB : Nat → Heap Int → Heap Int := fun col h =>
    if rowMax == 0 then kZeroD c cd (res + col * c.nn) c.nn h
    else
      h |> kMul c cd (res + col * c.nn) adft (pmat + col * nrows * c.nn)
        |> loop (rowMax - 1) (fun k => kAddmul c cd (res + col * c.nn) (adft + (k + 1) * c.nn)
            (pmat + col * nrows * c.nn + (k + 1) * c.nn))
  have gP1 : ∀ blk, Good (fun h => h |> scr tb 0 8 |> scr tb 16 (8 * rowMax)
      |> kProd1 c cd rowMax nrows tmp (tmp + 16) (pmat + blk * (8 * nrows * ncols) + (colMax - 1) * (8 * nrows))) :=
    fun _ => ((good_scr _ _ _).comp (good_scr _ _ _)).comp (good_kProd1 c cd _ _ _ _ _)
  have gP2 : ∀ blk, Good (fun h => h |> scr tb 0 16 |> scr tb 16 (8 * rowMax)
      |> kProd2 c cd rowMax nrows tmp (tmp + 16) (pmat + blk * (8 * nrows * ncols) + (colMax - 1) * (8 * nrows))) :=
    fun _ => ((good_scr _ _ _).comp (good_scr _ _ _)).comp (good_kProd2 c cd _ _ _ _ _)
  have gCalls : ∀ blk t, Good (fun h => h |> kProd2 c cd rowMax nrows tmp (tmp + 16)
        (pmat + blk * (8 * nrows * ncols) + 2 * t * (8 * nrows))
      |> kSave c cd blk (res + 2 * t * c.nn) tmp |> kSave c cd blk (res + (2 * t + 1) * c.nn) (tmp + 8)) :=
    fun _ _ => ((good_kProd2 c cd _ _ _ _ _).comp (good_kSave c cd _ _ _)).comp (good_kSave c cd _ _ _)
  have gPair : ∀ blk t, Good (pairBody blk t) := fun blk t =>
    ((good_scr _ _ _).comp (good_scr _ _ _)).comp (gCalls blk t)
  have gLast : ∀ blk, Good (lastBody blk) := fun blk => (Good.ite _ (gP1 blk) (gP2 blk)).comp (good_kSave c cd _ _ _)
  have gRows : ∀ blk, Good (fun h => h |> scr tb 16 (8 * rowMax) |> kExtractRows c cd rowMax blk (tmp + 16) adft) :=
    fun _ => (good_scr _ _ _).comp (good_kExtractRows c cd _ _ _ _)
  have gBlk : ∀ blk, Good (blkBody blk) := fun blk =>
    ((gRows blk).comp (Good.loop _ (gPair blk))).comp (Good.ite _ (gLast blk) Good.id)
  have gRest : ∀ col, Good (fun h => h |> kMul c cd (res + col * c.nn) adft (pmat + col * nrows * c.nn)
      |> loop (rowMax - 1) (fun k => kAddmul c cd (res + col * c.nn) (adft + (k + 1) * c.nn)
          (pmat + col * nrows * c.nn + (k + 1) * c.nn))) :=
    fun _ => (good_kMul c cd _ _ _).comp (Good.loop _ fun k => good_kAddmul c cd _ _ _)
  have gColB : ∀ col, Good (colBodyB col) := fun col => Good.ite _ (good_kZeroD c cd _ _) (gRest col)
  have hc64 : colMax < 18446744073709551616 := Nat.lt_of_le_of_lt (Nat.min_le_left _ _) hnc
  have hr64 : rowMax < 18446744073709551616 := Nat.lt_of_le_of_lt (Nat.min_le_left _ _) hnr
  have hm4 : c.m / 4 < 18446744073709551616 := Nat.lt_of_le_of_lt (Nat.div_le_self _ _) hm
  refine Tr.runD (L := 32) (N := X.size)
    (k := fun h => vmpApplyDftToDft c cd h res rsz adft asz pmat nrows ncols tmp tb) rfl
    (Tr.assignD 6 _ (c.m : Int) (by decide) (fun _ _ H => eval_var_eq (H.get 1 rfl))
    (Tr.assignD 7 _ (c.nn : Int) (by decide) (fun _ _ H => eval_var_eq (H.get 0 rfl))
    (Tr.passignD 8 _ _ 0 B tmp (by decide) (fun _ _ _ => rfl) (fun env _ => ptrAt_param_zero _ env 3 B tmp rfl)
    (Tr.passignD 10 _ _ 16 B (tmp + 16) (by decide) (fun _ _ _ => rfl) (fun env _ => ptrAt_param _ env 3 B tmp 16 rfl)
    (Tr.passignD 12 _ _ 0 B pmat (by decide) (fun _ _ _ => rfl) (fun env _ => ptrAt_param_zero _ env 2 B pmat rfl)
    (Tr.passignD 14 _ _ 0 B adft (by decide) (fun _ _ _ => rfl) (fun env _ => ptrAt_param_zero _ env 1 B adft rfl)
    (Tr.passignD 16 _ _ 0 B res (by decide) (fun _ _ _ => rfl) (fun env _ => ptrAt_param_zero _ env 0 B res rfl)
    (Tr.assignD 18 _ ((rowMax : Nat) : Int) (by decide)
      (fun _ _ H => eval_min_u64 (eval_var_eq (H.get 4 rfl)) (eval_var_eq (H.get 3 rfl)))
    (Tr.assignD 19 _ ((colMax : Nat) : Int) (by decide)
      (fun _ _ H => eval_min_u64 (eval_var_eq (H.get 5 rfl)) (eval_var_eq (H.get 2 rfl)))
    (Tr.seq
      (Tr.iteP (8 ≤ c.nn) (fun _ _ H => evalB_ge_nat _ _ _ _ c.nn 8 (eval_var_eq (H.get 7 rfl)) rfl)
        (Good.loop (c.m / 4) gBlk) (Good.loop colMax gColB)
        (fun hn8 => Tr.mono (fb := c.m / 4 - 0 + (ncols + 1)) (Tr.post
          (Tr.forD 20 _ _ _ blkBody gBlk 0 (c.m / 4) (Nat.zero_le _) hm4 (by decide) (fun _ _ _ => rfl)
            (fun _ _ _ H => (EvU.shr_lit (eval_var_eq (H.get 6 rfl)) hm 2 4 (by decide) rfl).exact hm4)
            fun b _ hb =>
              have hb64 := Nat.lt_trans hb hm4
              Tr.post (Tr.seq
                -- slot 22, the offset of `mat_blk_start`, on its exact value: it may have wrapped when no column is read
                (Tr.passignPvarU 21 12 _ (b * (8 * nrows * ncols)) B pmat (by decide)
                  (fun _ _ H => (EvU.arg (H.get 20 rfl) hb64).mul
                    (((EvU.lit 8).cast.mul (EvU.arg (H.get 4 rfl) hnr)).mul (EvU.arg (H.get 5 rfl) hnc)))
                  (fun _ H => H.get 12 rfl) (fun _ H => H.get 13 rfl))
                (Tr.seq
                  (Tr.ofHas (gRows b) fun env H => Tr.scr tb 16 (8 * rowMax) (Tr.extcall hB _ _ _
                    (good_kExtractRows c cd rowMax b (tmp + 16) adft) fun _ _ _ =>
                    ⟨_, _, evalList_cons_ok (eval_var_eq (H.get 6 rfl)) (evalList_cons_ok (eval_var_eq (H.get 18 rfl))
                        (evalList_cons_ok (eval_var_eq (H.get 20 rfl)) rfl)),
                      evalPtrs_pvar0 (H.get 10 rfl) (H.get 11 rfl) (evalPtrs_param0 rfl rfl),
                      modSem_extractRows c cd B nrows _ _ _ _ _⟩))
                  (Tr.seq
                    (Tr.mono (Tr.for2D (fb := 0) 23 _ _ _ (pairBody b) (gPair b) colMax hc64 (by decide) (fun _ _ _ => rfl)
                      (fun _ _ _ H => eval_var_eq (H.get 19 rfl))
                      fun t ht =>
                        have h2t : 2 * t < 18446744073709551616 :=
                          Nat.mul_comm t 2 ▸ Nat.lt_of_le_of_lt (Nat.mul_le_of_le_div 2 t colMax (Nat.le_of_lt ht)) hc64
                        Tr.toB (Tr.scr tb 0 16 (Tr.scr tb 16 (8 * rowMax) (Tr.post
                          (Tr.assignU 24 _ (2 * t * (8 * nrows)) (by decide)
                            (fun _ _ H => (EvU.arg (H.get 23 rfl) h2t).mul ((EvU.lit 8).cast.mul (EvU.arg (H.get 4 rfl) hnr)))
                            (Tr.ofHas (gCalls b t) fun env H => Tr.seq
                              (Tr.extcall hB _ _ _ (good_kProd2 c cd rowMax nrows tmp (tmp + 16)
                                  (pmat + b * (8 * nrows * ncols) + 2 * t * (8 * nrows))) fun H' hN hk =>
                                have bP := (kProd2_bound c cd _ _ _ _ _ H' hk).2.2
                                ⟨_, _, evalList_cons_ok (eval_var_eq (H.get 18 rfl)) rfl,
                                  evalPtrs_pvar0 (H.get 8 rfl) (H.get 9 rfl) (evalPtrs_pvar0 (H.get 10 rfl) (H.get 11 rfl)
                                    (evalPtrs_pvarU (EvU.var (H.get 24 rfl)) (H.get 21 rfl) (H.get 22 rfl)
                                      (addr_of_wrapped bP (hN ▸ hX)) rfl)), modSem_prod2 c cd B nrows _ _ _ _ _⟩)
                              (Tr.seq
                                (Tr.extcall hB _ _ _ (good_kSave c cd b (res + 2 * t * c.nn) tmp) fun H' hN hk =>
                                  have bS := (kSave_bound c cd _ _ _ H' hk).1
                                  ⟨_, _, evalList_cons_ok (eval_var_eq (H.get 6 rfl)) (evalList_cons_ok
                                      (eval_var_eq (H.get 20 rfl)) rfl),
                                    evalPtrs_pvar (((EvU.arg (H.get 23 rfl) h2t).mul (EvU.arg (H.get 7 rfl) hnn)).exact
                                      (lt_of_addr (Nat.le_of_add_right_le bS) (hN ▸ hX))) (H.get 16 rfl) (H.get 17 rfl)
                                      (evalPtrs_pvar0 (H.get 8 rfl) (H.get 9 rfl) rfl), modSem_save c cd B nrows _ _ _ _⟩)
                                (Tr.extcall hB _ _ _ (good_kSave c cd b (res + (2 * t + 1) * c.nn) (tmp + 8)) fun H' hN hk =>
                                  have bS := (kSave_bound c cd _ _ _ H' hk).1
                                  ⟨_, _, evalList_cons_ok (eval_var_eq (H.get 6 rfl)) (evalList_cons_ok
                                      (eval_var_eq (H.get 20 rfl)) rfl),
                                    evalPtrs_pvar ((((EvU.arg (H.get 23 rfl) h2t).add (EvU.lit 1).cast).mul
                                      (EvU.arg (H.get 7 rfl) hnn)).exact (lt_of_addr (Nat.le_of_add_right_le bS) (hN ▸ hX)))
                                      (H.get 16 rfl) (H.get 17 rfl)
                                      (evalPtrs_pvar (eval_lit_nat 8) (H.get 8 rfl) (H.get 9 rfl) rfl),
                                    modSem_save c cd B nrows _ _ _ _⟩))))
                          fun _ h => h.tail rfl))))
                      (Nat.le_trans (Nat.div_le_self _ _) (Nat.le_trans (Nat.min_le_left _ _) (Nat.le_succ _))))
                    (Tr.iteP ((colMax % 2 == 1) = true)
                      (fun _ _ H => (evalB_odd _ _ _ colMax (eval_var_eq (H.get 19 rfl))).trans
                        (congrArg R.ok (decide_eq_decide.mpr beq_iff_eq.symm)))
                      (gLast b) Good.id
                      (fun hodd =>
                        have h1c : 0 < colMax := Nat.pos_of_ne_zero fun h => by rw [h] at hodd; exact absurd hodd (by decide)
                        have hc1 : colMax - 1 < 18446744073709551616 := Nat.lt_of_le_of_lt (Nat.sub_le _ _) hc64
                        Tr.post (Tr.assignD 25 _ ((colMax - 1 : Nat) : Int) (by decide)
                          (fun _ _ H => ((EvU.arg (H.get 19 rfl) hc64).sub (EvU.lit 1).cast h1c).exact hc1)
                          (Tr.assignU 26 _ ((colMax - 1) * (8 * nrows)) (by decide)
                            (fun _ _ H => (EvU.arg (H.get 25 rfl) hc1).mul ((EvU.lit 8).cast.mul (EvU.arg (H.get 4 rfl) hnr)))
                            (Tr.seq
                              (Tr.iteP ((ncols == colMax) = true)
                                (fun _ _ H => (evalB_eq_nat _ _ _ _ ncols colMax (eval_var_eq (H.get 5 rfl))
                                  (eval_var_eq (H.get 19 rfl))).trans (congrArg R.ok (decide_eq_decide.mpr beq_iff_eq.symm)))
                                (gP1 b) (gP2 b)
                                (fun _ => Tr.ofHas (gP1 b) fun env H => Tr.scr tb 0 8 (Tr.scr tb 16 (8 * rowMax)
                                  (Tr.extcall hB _ _ _ (good_kProd1 c cd rowMax nrows tmp (tmp + 16)
                                      (pmat + b * (8 * nrows * ncols) + (colMax - 1) * (8 * nrows))) fun H' hN hk =>
                                    have bP := (kProd1_bound c cd _ _ _ _ _ H' hk).2.2
                                    ⟨_, _, evalList_cons_ok (eval_var_eq (H.get 18 rfl)) rfl,
                                      evalPtrs_pvar0 (H.get 8 rfl) (H.get 9 rfl) (evalPtrs_pvar0 (H.get 10 rfl) (H.get 11 rfl)
                                        (evalPtrs_pvarU (EvU.var (H.get 26 rfl)) (H.get 21 rfl) (H.get 22 rfl)
                                          (addr_of_wrapped bP (hN ▸ hX)) rfl)), modSem_prod1 c cd B nrows _ _ _ _ _⟩)))
                                (fun _ => Tr.ofHas (gP2 b) fun env H => Tr.scr tb 0 16 (Tr.scr tb 16 (8 * rowMax)
                                  (Tr.extcall hB _ _ _ (good_kProd2 c cd rowMax nrows tmp (tmp + 16)
                                      (pmat + b * (8 * nrows * ncols) + (colMax - 1) * (8 * nrows))) fun H' hN hk =>
                                    have bP := (kProd2_bound c cd _ _ _ _ _ H' hk).2.2
                                    ⟨_, _, evalList_cons_ok (eval_var_eq (H.get 18 rfl)) rfl,
                                      evalPtrs_pvar0 (H.get 8 rfl) (H.get 9 rfl) (evalPtrs_pvar0 (H.get 10 rfl) (H.get 11 rfl)
                                        (evalPtrs_pvarU (EvU.var (H.get 26 rfl)) (H.get 21 rfl) (H.get 22 rfl)
                                          (addr_of_wrapped bP (hN ▸ hX)) rfl)), modSem_prod2 c cd B nrows _ _ _ _ _⟩))))
                              (Tr.ofHas (good_kSave c cd b (res + (colMax - 1) * c.nn) tmp) fun env H =>
                                Tr.extcall hB _ _ _ (good_kSave c cd b (res + (colMax - 1) * c.nn) tmp) fun H' hN hk =>
                                  have bS := (kSave_bound c cd _ _ _ H' hk).1
                                  ⟨_, _, evalList_cons_ok (eval_var_eq (H.get 6 rfl)) (evalList_cons_ok
                                      (eval_var_eq (H.get 20 rfl)) rfl),
                                    evalPtrs_pvar (((EvU.arg (H.get 25 rfl) hc1).mul (EvU.arg (H.get 7 rfl) hnn)).exact
                                      (lt_of_addr (Nat.le_of_add_right_le bS) (hN ▸ hX))) (H.get 16 rfl) (H.get 17 rfl)
                                      (evalPtrs_pvar0 (H.get 8 rfl) (H.get 9 rfl) rfl), modSem_save c cd B nrows _ _ _ _⟩))))
                          fun _ h => (h.tail rfl).tail rfl)
                      (fun _ => Tr.skip)))))
                fun _ h => ((h.tail rfl).tail rfl).tail rfl)
          fun _ h => h.tail rfl)
          (Nat.add_le_add_right (Nat.le_add_right (c.m / 4 + ncols) nrows) 1))
        (fun hn8 => Tr.mono (fb := colMax + (nrows + 1)) (Tr.post
          (Tr.forBD 27 _ _ _ colBodyB gColB colMax hc64 (by decide) (fun _ _ _ => rfl)
            (fun _ _ _ H => eval_var_eq (H.get 19 rfl))
            fun k hk =>
              have hk64 := Nat.lt_trans hk hc64
              -- slot 29, the offset of `pmat_col`, on its exact value: it may have wrapped when there is no row
              TrB.seq (Tr.passignPvarU 28 12 _ (k * nrows * c.nn) B pmat (by decide)
                  (fun _ _ H => ((EvU.arg (H.get 27 rfl) hk64).mul (EvU.arg (H.get 4 rfl) hnr)).mul (EvU.arg (H.get 7 rfl) hnn))
                  (fun _ H => H.get 12 rfl) (fun _ H => H.get 13 rfl))
                (TrB.guard ((rowMax == 0) = true)
                  (fun _ _ H => (evalB_eq_nat _ _ _ _ rowMax 0 (eval_var_eq (H.get 18 rfl)) rfl).trans
                    (congrArg R.ok (decide_eq_decide.mpr beq_iff_eq.symm)))
                  (good_kZeroD c cd (res + k * c.nn) c.nn) (gRest k)
                  (fun _ => Tr.post (Tr.ofHas (good_kZeroD c cd _ _) fun env H =>
                    Tr.zeroD hB c cd hz _ _ _ (res + k * c.nn) c.nn fun _ hN hb =>
                      ⟨rfl, ((EvU.arg (H.get 7 rfl) hnn).mul (EvU.lit 8)).exact (bytes_lt_of_addr hb hX),
                        evalPtrs_pvar (((EvU.arg (H.get 27 rfl) hk64).mul (EvU.arg (H.get 7 rfl) hnn)).exact
                          (lt_of_addr hb hX)) (H.get 16 rfl) (H.get 17 rfl) rfl⟩)
                    fun _ h => (h.tail rfl).tail rfl)
                  fun hr0 =>
                    Tr.of_ok (gRest k)
                      (φ := res + k * c.nn + c.nn ≤ X.size ∧ pmat + k * nrows * c.nn + c.nn ≤ X.size)
                      (fun H hN hok => by
                        have oG := (Good.loop (rowMax - 1) fun j => good_kAddmul c cd (res + k * c.nn)
                          (adft + (j + 1) * c.nn) (pmat + k * nrows * c.nn + (j + 1) * c.nn)).mono _ hok
                        have bM := kMul_bound c cd _ _ _ _ oG
                        have bMr := kMul_bound_r c cd _ _ _ _ oG
                        rw [hN] at bM bMr
                        exact ⟨bMr, bM.2⟩)
                      fun ⟨bR, bP⟩ => Tr.post
                        (Tr.seq
                          -- `for (row_i = 0; row_i < 1; row_i++)`: the product with row 0
                          (Tr.mono (fb' := nrows + 1)
                            (Tr.forD (fb := 0) 30 _ _ _
                              (fun _ => kMul c cd (res + k * c.nn) adft (pmat + k * nrows * c.nn))
                              (fun _ => good_kMul c cd _ _ _) 0 1 (Nat.zero_le _) (by decide) (by decide)
                              (fun _ _ _ => rfl) (fun _ _ _ _ => rfl)
                              fun i _ hi => by
                                obtain rfl : i = 0 := Nat.lt_one_iff.mp hi
                                exact Tr.ofHas (good_kMul c cd _ _ _) fun env H =>
                                  Tr.extcall hB _ _ _ (good_kMul c cd (res + k * c.nn) adft (pmat + k * nrows * c.nn))
                                    fun _ _ _ =>
                                    have e0 := fun m => ((EvU.arg (n := 0) (σ := ⟨env, m⟩) (H.get 30 rfl) (by decide)).mul
                                      (EvU.arg (H.get 7 rfl) hnn)).congr (Nat.zero_mul _)
                                    ⟨_, _, rfl, evalPtrs_pvar (((EvU.arg (H.get 27 rfl) hk64).mul (EvU.arg (H.get 7 rfl) hnn)).exact
                                        (lt_of_addr bR hX)) (H.get 16 rfl) (H.get 17 rfl)
                                      (evalPtrs_pvar ((e0 _).exact (by decide)) (H.get 14 rfl) (H.get 15 rfl)
                                        (evalPtrs_pvarU (e0 _) (H.get 28 rfl) (H.get 29 rfl)
                                          (addr_of_wrapped (k := 0) bP hX) rfl)),
                                      modSem_mul c cd B nrows _ _ _ _⟩)
                            (Nat.le_add_left 1 nrows))
                          -- `for (row_i = 1; row_i < row_max; row_i++)`: accumulate the other rows
                          (Tr.mono (fb' := nrows + 1)
                            (Tr.forD (fb := 0) 31 _ _ _
                              (fun j => kAddmul c cd (res + k * c.nn) (adft + j * c.nn) (pmat + k * nrows * c.nn + j * c.nn))
                              (fun _ => good_kAddmul c cd _ _ _) 1 rowMax
                              (Nat.pos_of_ne_zero fun h => hr0 (beq_iff_eq.mpr h)) hr64 (by decide)
                              (fun _ _ _ => rfl) (fun _ _ _ H => eval_var_eq (H.get 18 rfl))
                              fun j _ hj => Tr.ofHas (good_kAddmul c cd _ _ _) fun env H =>
                                Tr.extcall hB _ _ _ (good_kAddmul c cd (res + k * c.nn)
                                  (adft + j * c.nn) (pmat + k * nrows * c.nn + j * c.nn)) fun H' hN hk' =>
                                have bA := kAddmul_bound c cd _ _ _ H' hk'
                                have ej := fun m => (EvU.arg (σ := ⟨env, m⟩) (H.get 31 rfl) (Nat.lt_trans hj hr64)).mul
                                  (EvU.arg (H.get 7 rfl) hnn)
                                ⟨_, _, rfl, evalPtrs_pvar (((EvU.arg (H.get 27 rfl) hk64).mul (EvU.arg (H.get 7 rfl) hnn)).exact
                                    (lt_of_addr bA.1 (hN ▸ hX))) (H.get 16 rfl) (H.get 17 rfl)
                                  (evalPtrs_pvar ((ej _).exact (lt_of_addr bA.2.1 (hN ▸ hX))) (H.get 14 rfl) (H.get 15 rfl)
                                    (evalPtrs_pvarU (ej _) (H.get 28 rfl) (H.get 29 rfl)
                                      (addr_of_wrapped bA.2.2 (hN ▸ hX)) rfl)),
                                  modSem_addmul c cd B nrows _ _ _ _⟩)
                            (Nat.le_trans (Nat.sub_le _ _) (Nat.le_trans (Nat.min_le_left _ _) (Nat.le_succ _)))))
                        fun _ h => (((h.tail rfl).tail rfl).tail rfl).tail rfl))
          fun _ h => h.tail rfl)
          (Nat.le_trans (Nat.add_le_add_right (Nat.min_le_left ncols rsz) _)
            (Nat.add_le_add_right (Nat.add_le_add_right (Nat.le_add_left ncols (c.m / 4)) nrows) 1))))
      (Tr.ofHas (good_kZeroD c cd _ _) fun env H =>
        Tr.zeroD hB c cd hz _ _ _ (res + colMax * c.nn) ((rsz - colMax) * c.nn) fun _ hN hb =>
          ⟨rfl, ((((EvU.arg (H.get 2 rfl) hrsz).sub (EvU.arg (H.get 19 rfl) hc64) (Nat.min_le_right ncols rsz)).mul
              (EvU.arg (H.get 7 rfl) hnn)).mul (EvU.lit 8)).exact (bytes_lt_of_addr hb hX),
            evalPtrs_pvar (((EvU.arg (H.get 19 rfl) hc64).mul (EvU.arg (H.get 7 rfl) hnn)).exact (lt_of_addr hb hX))
              (H.get 16 rfl) (H.get 17 rfl) rfl⟩)))))))))))
    rfl hok hf

theorem src_fft64_vmp_apply_dft_ref_eq_model (c : Module.Parts α) (cd : Cells Int α) (hz : cd.enc c.ar.zero = 0)
    (m0 : Mem) (B : Nat) (hB : B < m0.size) (X : Array Int) (hX : X.size < 2305843009213693952)
    (res rsz a asz asl pmat nrows ncols tmp tb : Nat) (hnn0 : 0 < c.nn) (hnn : c.nn < 18446744073709551616)
    (hm : c.m < 18446744073709551616) (hrsz : rsz < 18446744073709551616) (hasz : asz < 18446744073709551616)
    (hnr : nrows < 18446744073709551616) (hnc : ncols < 18446744073709551616)
    (hok : (vmpApplyDft c cd ⟨X, true⟩ res rsz a asz asl pmat nrows ncols tmp tb).ok = true) :
    ∀ fuel, c.m / 4 + ncols + nrows + 1 ≤ fuel →
      runK (modSem c cd B nrows) fuel Gen.CSrc.fft64_vmp_apply_dft_ref
          [(c.nn : Int), (c.m : Int), (rsz : Int), (asz : Int), (asl : Int), (nrows : Int), (ncols : Int)]
          [some (B, res), some (B, a), some (B, pmat), some (B, tmp)] (m0.setIfInBounds B X)
        = .ok (m0.setIfInBounds B (vmpApplyDft c cd ⟨X, true⟩ res rsz a asz asl pmat nrows ncols tmp tb).mem) := by
  intro fuel hf
  have hr : min nrows asz ≤ nrows := Nat.min_le_left _ _
  -- `tmp + rows * nn` is inside the arena: the tail of `vecDft`'s result is empty and starts there
  have bz : tmp + min nrows asz * c.nn ≤ X.size := by
    have hk : (kZeroD c cd (tmp + min (min nrows asz) asz * c.nn) ((min nrows asz - min (min nrows asz) asz) * c.nn)
        (loop (min (min nrows asz) asz) (fun i h => kFft c cd (tmp + i * c.nn) (kFromZnx c cd (tmp + i * c.nn) (a + i * asl) h))
          (scr tb 0 (min nrows asz * c.nn) ⟨X, true⟩))).ok = true :=
      (good_vmpApplyDftToDft c cd _ _ _ _ _ _ _ _ _).mono _ hok
    have := kZeroD_bound c cd _ _ _ hk
    rw [(Good.loop _ fun i => (good_kFromZnx c cd _ _).comp (good_kFft c cd _)).size,
      Nat.min_eq_left (Nat.min_le_right nrows asz)] at this
    exact Nat.le_trans (Nat.le_add_right _ _) this
  have hr64 : min nrows asz < 18446744073709551616 := Nat.lt_of_le_of_lt hr hnr
  have hb8 := bytes_lt_of_addr bz hX
  -- new_tmp_space = tmp_space + rows * nn * sizeof(double): the byte count is an exact value, so `>> 3` gives the cells
  refine Tr.runD (L := 13) (N := X.size) (k := fun h => vmpApplyDft c cd h res rsz a asz asl pmat nrows ncols tmp tb) rfl
    (Tr.assignD 7 _ (c.nn : Int) (by decide) (fun _ _ H => eval_var_eq (H.get 0 rfl))
    (Tr.assignD 8 _ ((min nrows asz : Nat) : Int) (by decide)
      (fun _ _ H => eval_min_u64 (eval_var_eq (H.get 5 rfl)) (eval_var_eq (H.get 3 rfl)))
    (Tr.passignD 9 _ _ 0 B tmp (by decide) (fun _ _ _ => rfl) (fun env _ => ptrAt_param_zero _ env 3 B tmp rfl)
    (Tr.passignD 11 _ _ ((min nrows asz * c.nn : Nat) : Int) B (tmp + min nrows asz * c.nn) (by decide)
      (fun _ _ H => ((EvU.shr_lit ((((EvU.arg (H.get 8 rfl) hr64).mul (EvU.arg (H.get 7 rfl) hnn)).mul (EvU.lit 8)).exact hb8)
        hb8 3 8 (by decide) rfl).congr (Nat.mul_div_cancel _ (by decide))).exact (lt_of_addr (q := 0) bz hX))
      (fun env _ => ptrAt_param _ env 3 B tmp _ rfl)
    -- the scratch guard of the model, then the two calls, each by its own theorem
    (Tr.ofHas (((good_scr tb 0 (min nrows asz * c.nn)).comp (good_vecDft c cd tmp (min nrows asz) a asz asl)).comp
        (good_vmpApplyDftToDft c cd res rsz tmp asz pmat nrows ncols (tmp + min nrows asz * c.nn)
          (tb - 8 * (min nrows asz * c.nn)))) fun env H =>
      Tr.scr tb 0 (min nrows asz * c.nn) (Tr.seq
      (Tr.call Gen.CSrc.fft64_vec_znx_dft _ _ (good_vecDft c cd tmp (min nrows asz) a asz asl)
        [(c.nn : Int), ((min nrows asz : Nat) : Int), (asz : Int), (asl : Int)] _
        (fun _ _ _ => ⟨evalList_cons_ok (eval_var_eq (H.get 0 rfl)) (evalList_cons_ok (eval_var_eq (H.get 8 rfl))
            (evalList_cons_ok (eval_var_eq (H.get 3 rfl)) (evalList_cons_ok (eval_var_eq (H.get 4 rfl)) rfl))),
          evalPtrs_pvar0 (H.get 9 rfl) (H.get 10 rfl) (evalPtrs_param0 rfl rfl)⟩)
        fun X' hN hk f hf' => src_fft64_vec_znx_dft_eq_model c cd nrows hz m0 B hB X' (hN ▸ hX) tmp (min nrows asz) a asz asl
          hnn hr64 hasz hk f (Nat.le_trans hr (Nat.le_trans (Nat.le_add_left _ _) (Nat.le_trans (Nat.le_succ _) hf'))))
      (Tr.call Gen.CSrc.fft64_vmp_apply_dft_to_dft_ref _ _
        (good_vmpApplyDftToDft c cd res rsz tmp asz pmat nrows ncols (tmp + min nrows asz * c.nn)
          (tb - 8 * (min nrows asz * c.nn)))
        [(c.nn : Int), (c.m : Int), (rsz : Int), (asz : Int), (nrows : Int), (ncols : Int)] _
        (fun _ _ _ => ⟨evalList_cons_ok (eval_var_eq (H.get 0 rfl)) (evalList_cons_ok (eval_var_eq (H.get 1 rfl))
            (evalList_cons_ok (eval_var_eq (H.get 2 rfl)) (evalList_cons_ok (eval_var_eq (H.get 3 rfl))
            (evalList_cons_ok (eval_var_eq (H.get 5 rfl)) (evalList_cons_ok (eval_var_eq (H.get 6 rfl)) rfl))))),
          evalPtrs_param0 rfl (evalPtrs_pvar0 (H.get 9 rfl) (H.get 10 rfl) (evalPtrs_param0 rfl
            (evalPtrs_pvar0 (H.get 11 rfl) (H.get 12 rfl) rfl)))⟩)
        fun X' hN hk f hf' => src_fft64_vmp_apply_dft_to_dft_ref_eq_model c cd hz m0 B hB X' (hN ▸ hX) res rsz tmp asz pmat
          nrows ncols _ _ hnn0 hnn hm hrsz hasz hnr hnc hk f hf')))))))
    rfl hok hf

/-! ### no out-of-bounds access (nor any error other than running out of fuel), for every fuel -/

theorem src_fft64_vmp_prepare_contiguous_ref_no_oob (c : Module.Parts α) (cd : Cells Int α) (nr : Nat)
    (m0 : Mem) (B : Nat) (hB : B < m0.size) (X : Array Int) (hX : X.size < 2305843009213693952)
    (pmat mat nrows ncols tmp tb : Nat) (hnn0 : 0 < c.nn) (hnn : c.nn < 18446744073709551616)
    (hm : c.m < 18446744073709551616) (hnr : nrows < 18446744073709551616) (hnc : ncols < 18446744073709551616)
    (hok : (vmpPrepare c cd ⟨X, true⟩ pmat mat nrows ncols tmp tb).ok = true) :
    ∀ fuel e, e ≠ .fuel →
      runK (modSem c cd B nr) fuel Gen.CSrc.fft64_vmp_prepare_contiguous_ref [(c.nn : Int), (c.m : Int), (nrows : Int), (ncols : Int)] [some (B, pmat), some (B, mat), some (B, tmp)] (m0.setIfInBounds B X) ≠ .err e :=
  runK_no_other_error _ _ _ _ _ _ (nrows + ncols + c.m / 4) (src_fft64_vmp_prepare_contiguous_ref_eq_model c cd nr m0 B hB X hX pmat mat nrows ncols tmp tb hnn0 hnn hm hnr hnc hok)

theorem src_fft64_vmp_apply_dft_to_dft_ref_no_oob (c : Module.Parts α) (cd : Cells Int α)
    (hz : cd.enc c.ar.zero = 0)
    (m0 : Mem) (B : Nat) (hB : B < m0.size) (X : Array Int) (hX : X.size < 2305843009213693952)
    (res rsz adft asz pmat nrows ncols tmp tb : Nat) (hnn0 : 0 < c.nn) (hnn : c.nn < 18446744073709551616)
    (hm : c.m < 18446744073709551616) (hrsz : rsz < 18446744073709551616) (hasz : asz < 18446744073709551616)
    (hnr : nrows < 18446744073709551616) (hnc : ncols < 18446744073709551616)
    (hok : (vmpApplyDftToDft c cd ⟨X, true⟩ res rsz adft asz pmat nrows ncols tmp tb).ok = true) :
    ∀ fuel e, e ≠ .fuel →
      runK (modSem c cd B nrows) fuel Gen.CSrc.fft64_vmp_apply_dft_to_dft_ref [(c.nn : Int), (c.m : Int), (rsz : Int), (asz : Int), (nrows : Int), (ncols : Int)] [some (B, res), some (B, adft), some (B, pmat), some (B, tmp)] (m0.setIfInBounds B X) ≠ .err e :=
  runK_no_other_error _ _ _ _ _ _ (c.m / 4 + ncols + nrows + 1) (src_fft64_vmp_apply_dft_to_dft_ref_eq_model c cd hz m0 B hB X hX res rsz adft asz pmat nrows ncols tmp tb hnn0 hnn hm hrsz hasz hnr hnc hok)

theorem src_fft64_vmp_apply_dft_ref_no_oob (c : Module.Parts α) (cd : Cells Int α) (hz : cd.enc c.ar.zero = 0)
    (m0 : Mem) (B : Nat) (hB : B < m0.size) (X : Array Int) (hX : X.size < 2305843009213693952)
    (res rsz a asz asl pmat nrows ncols tmp tb : Nat) (hnn0 : 0 < c.nn) (hnn : c.nn < 18446744073709551616)
    (hm : c.m < 18446744073709551616) (hrsz : rsz < 18446744073709551616) (hasz : asz < 18446744073709551616)
    (hnr : nrows < 18446744073709551616) (hnc : ncols < 18446744073709551616)
    (hok : (vmpApplyDft c cd ⟨X, true⟩ res rsz a asz asl pmat nrows ncols tmp tb).ok = true) :
    ∀ fuel e, e ≠ .fuel →
      runK (modSem c cd B nrows) fuel Gen.CSrc.fft64_vmp_apply_dft_ref [(c.nn : Int), (c.m : Int), (rsz : Int), (asz : Int), (asl : Int), (nrows : Int), (ncols : Int)] [some (B, res), some (B, a), some (B, pmat), some (B, tmp)] (m0.setIfInBounds B X) ≠ .err e :=
  runK_no_other_error _ _ _ _ _ _ (c.m / 4 + ncols + nrows + 1) (src_fft64_vmp_apply_dft_ref_eq_model c cd hz m0 B hB X hX res rsz a asz asl pmat nrows ncols tmp tb hnn0 hnn hm hrsz hasz hnr hnc hok)

end Spq.Src
