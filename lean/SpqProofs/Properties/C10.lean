/-
  C10 — q120 products and layout conversions are exact modulo the 120-bit modulus.

  Every statement is about the model functions the correspondence streams `q1_prod` / `q1_conv` run
  bit-for-bit against the real code (lean/Spq/Q120.lean), instantiated with the constants READ FROM
  THE CODE on every run: `curParams` (Q1..Q4, Q*_CRT_CST), `curBaa`/`curBbb`/`curBbc` (the live
  product precomputations), `Gen.q120_max_ell` (MAX_ELL).  The numeric side conditions are the
  decidable predicates `baaOK … crtOK`, discharged by kernel evaluation in `C04ProductsGen.lean` /
  `Q120ConvGen.lean`; the theorems themselves are proved for symbolic constants.

  Domain: all lengths `ell ≤ MAX_ELL` (incl. 0), all operands in their layout range — layout a:
  lanes `< 2^32`; layout b: ANY 64-bit lanes (non-canonical representatives included); layout c:
  any two 32-bit words per prime, the value statement `Σ x·y` additionally asking for the layout-c
  invariant `y1 ≡ y0·2^32` — all int64 values, all block indices.
-/
import SpqProofs.Lemmas.C04ProductsGen
import SpqProofs.Lemmas.Q120ConvGen
namespace Spq.C10
open Spq Spq.Q120

/-- a·a → b: for every `ell ≤ MAX_ELL` and layout-a operands, lane `j` of the reference and of the
  AVX2 result is congruent to `Σ_i x[4i+j]·y[4i+j]` modulo `q_j`; the two variants return the same
  64-bit word. -/
theorem baa_exact (ell : Nat) (hell : ell ≤ Gen.q120_max_ell) (x y : Array Nat) (hx : ArrA x) (hy : ArrA y)
    (j : Nat) (hj : j < 4) :
    (baaRef curBaa ell x y).getD j 0 % Gen.q120_q j = dot (laneTerms ell x y 4 j 4 j) % Gen.q120_q j
    ∧ (baaAvx curBaa ell x y).getD j 0 % Gen.q120_q j = dot (laneTerms ell x y 4 j 4 j) % Gen.q120_q j
    ∧ (baaAvx curBaa ell x y).getD j 0 = (baaRef curBaa ell x y).getD j 0 :=
  baa_vec_exact _ _ _ baaAvxOK_current ell hell x y hx hy j hj

/-- b·b → b: operands are ANY 64-bit lanes -/
theorem bbb_exact (ell : Nat) (hell : ell ≤ Gen.q120_max_ell) (x y : Array Nat) (hx : ArrB x) (hy : ArrB y)
    (j : Nat) (hj : j < 4) :
    (bbbRef curBbb ell x y).getD j 0 % Gen.q120_q j = dot (laneTerms ell x y 4 j 4 j) % Gen.q120_q j
    ∧ (bbbAvx curBbb ell x y).getD j 0 % Gen.q120_q j = dot (laneTerms ell x y 4 j 4 j) % Gen.q120_q j
    ∧ (bbbAvx curBbb ell x y).getD j 0 = (bbbRef curBbb ell x y).getD j 0 :=
  bbb_vec_exact _ _ _ bbbAvxOK_current ell hell x y hx hy j hj

/-- b·c → b: `x` any 64-bit lanes, `y` valid layout-c pairs (any 32-bit representatives): lane `j` is
  congruent to `Σ_i x[4i+j]·y0[4i+j]` -/
theorem bbc_exact (ell : Nat) (hell : ell ≤ Gen.q120_max_ell) (x y : Array Nat) (hx : ArrB x) (hy : ArrB y)
    (hc : ValidC Gen.q120_q y) (j : Nat) (hj : j < 4) :
    (bbcRef curBbc ell x y).getD j 0 % Gen.q120_q j = dotC (laneTerms ell x y 4 j 4 j) % Gen.q120_q j
    ∧ (bbcAvx curBbc ell x y).getD j 0 % Gen.q120_q j = dotC (laneTerms ell x y 4 j 4 j) % Gen.q120_q j
    ∧ (bbcAvx curBbc ell x y).getD j 0 = (bbcRef curBbc ell x y).getD j 0 := by
  have v := bbcVal_validC Gen.q120_q ell x y 4 j 4 j j hc (fun i => by omega)
  obtain ⟨r, a, e⟩ := bbc_vec_exact _ _ _ bbcAvxOK_current ell hell x y hx hy j hj
  exact ⟨r.trans v, a.trans v, e⟩

/-- b·c with ARBITRARY 32-bit words in `y` (no layout-c invariant): nothing wraps and both variants
  return `Σ xl·y0 + xh·y1` modulo `q_j` -/
theorem bbc_exact_raw (ell : Nat) (hell : ell ≤ Gen.q120_max_ell) (x y : Array Nat) (hx : ArrB x) (hy : ArrB y)
    (j : Nat) (hj : j < 4) :
    (bbcRef curBbc ell x y).getD j 0 % Gen.q120_q j = bbcVal (laneTerms ell x y 4 j 4 j) % Gen.q120_q j
    ∧ (bbcAvx curBbc ell x y).getD j 0 = (bbcRef curBbc ell x y).getD j 0 :=
  ⟨(bbc_vec_exact _ _ _ bbcAvxOK_current ell hell x y hx hy j hj).1,
   (bbc_vec_exact _ _ _ bbcAvxOK_current ell hell x y hx hy j hj).2.2⟩

/-- q120x2, one column: output lane `r < 8` (block `r/4`, prime `r%4`) is congruent to
  `Σ_i x[8i+r]·y0[8i+r]` -/
theorem x2_col1_exact (ell : Nat) (hell : ell ≤ Gen.q120_max_ell) (x y : Array Nat) (hx : ArrB x) (hy : ArrB y)
    (hc : ValidC Gen.q120_q y) (r : Nat) (hr : r < 8) :
    (x2Col1Ref curBbc ell x y).getD r 0 % Gen.q120_q (r % 4) = dotC (x2Col1Terms ell x y r) % Gen.q120_q (r % 4)
    ∧ (x2Col1Avx curBbc ell x y).getD r 0 % Gen.q120_q (r % 4)
        = dotC (x2Col1Terms ell x y r) % Gen.q120_q (r % 4)
    ∧ (x2Col1Avx curBbc ell x y).getD r 0 = (x2Col1Ref curBbc ell x y).getD r 0 := by
  have v := bbcVal_validC Gen.q120_q ell x y 8 r 8 r (r % 4) hc (fun i => by omega)
  obtain ⟨rr, a, e⟩ := x2_col1_vec_exact _ _ _ bbcAvxOK_current ell hell x y hx hy r hr
  exact ⟨rr.trans v, a.trans v, e⟩

/-- q120x2, two columns: output lane `r < 16` (result `r/4`: `res0 = Σ xa·y0`, `res1 = Σ xb·y1`,
  `res2 = Σ xa·y2`, `res3 = Σ xb·y3`; prime `r%4`) -/
theorem x2_col2_exact (ell : Nat) (hell : ell ≤ Gen.q120_max_ell) (x y : Array Nat) (hx : ArrB x) (hy : ArrB y)
    (hc : ValidC Gen.q120_q y) (r : Nat) (hr : r < 16) :
    (x2Col2Ref curBbc ell x y).getD r 0 % Gen.q120_q (r % 4) = dotC (x2Col2Terms ell x y r) % Gen.q120_q (r % 4)
    ∧ (x2Col2Avx curBbc ell x y).getD r 0 % Gen.q120_q (r % 4)
        = dotC (x2Col2Terms ell x y r) % Gen.q120_q (r % 4)
    ∧ (x2Col2Avx curBbc ell x y).getD r 0 = (x2Col2Ref curBbc ell x y).getD r 0 := by
  have v := bbcVal_validC Gen.q120_q ell x y 8 (4 * ((r / 4) % 2) + r % 4) 16 r (r % 4) hc (fun i => by omega)
  obtain ⟨rr, a, e⟩ := x2_col2_vec_exact _ _ _ bbcAvxOK_current ell hell x y hx hy r hr
  exact ⟨rr.trans v, a.trans v, e⟩

/-- `ell = 0`: every 1-column kernel returns the zero element -/
theorem products_ell0_zero (x y : Array Nat) :
    baaRef curBaa 0 x y = #[0, 0, 0, 0] ∧ baaAvx curBaa 0 x y = #[0, 0, 0, 0]
    ∧ bbbRef curBbb 0 x y = #[0, 0, 0, 0] ∧ bbbAvx curBbb 0 x y = #[0, 0, 0, 0]
    ∧ bbcRef curBbc 0 x y = #[0, 0, 0, 0] ∧ bbcAvx curBbc 0 x y = #[0, 0, 0, 0] :=
  products_ell0 curBaa curBbb curBbc x y

/-- int64 → b: every lane is congruent to the (signed) input modulo its prime; the lane is the exact
  integer `x` resp. `x + 2^63 + OQ_k` (the 64-bit addition never wraps) -/
theorem b_from_znx64_congr (nn : Nat) (x : Array Int) (hx : ∀ j, IsI64 (x.getD j 0)) (i : Nat) (hi : i < 4 * nn) :
    (((bFromZnx64 curParams nn x).getD i 0 : Nat) : Int) % (Gen.q120_q (i % 4) : Int)
      = x.getD (i / 4) 0 % (Gen.q120_q (i % 4) : Int)
    ∧ (((bFromZnx64 curParams nn x).getD i 0 : Nat) : Int)
      = x.getD (i / 4) 0 + (if x.getD (i / 4) 0 < 0
          then 9223372036854775808 + (oq (Gen.q120_q (i % 4)) : Int) else 0) := by
  rw [bFromZnx64_getD _ _ _ _ hi]
  obtain ⟨h1, h2⟩ := primes_small_current (i % 4) (Nat.mod_lt _ (by omega))
  have := bFromZnx64Lane_spec (Gen.q120_q (i % 4)) (x.getD (i / 4) 0) h1
    (Nat.le_trans h2 (by omega)) (hx _)
  exact ⟨this.2, this.1⟩

/-- int64 → c: the pair of prime `k` is `(x mod q_k, (x mod q_k)·2^32 mod q_k)` with the
  non-negative residue of the signed input -/
theorem c_from_znx64_exact (nn : Nat) (x : Array Int) (j k : Nat) (hj : j < nn) (hk : k < 4) :
    (cFromZnx64 curParams nn x).getD (8 * j + 2 * k) 0 = (x.getD j 0 % (Gen.q120_q k : Int)).toNat
    ∧ (cFromZnx64 curParams nn x).getD (8 * j + 2 * k + 1) 0
        = ((x.getD j 0 % (Gen.q120_q k : Int)).toNat * 4294967296) % Gen.q120_q k
    ∧ (x.getD j 0 % (Gen.q120_q k : Int)).toNat < Gen.q120_q k := by
  obtain ⟨h1, h2⟩ := primes_small_current k hk
  obtain ⟨e, lt⟩ := cFromZnx64Lane_spec (Gen.q120_q k) (x.getD j 0) h1 (Nat.lt_of_le_of_lt h2 (by omega))
  obtain ⟨g1, g2⟩ := cFromZnx64_getD curParams nn x j k hj hk
  have e' : cFromZnx64Lane (curParams.q k) (x.getD j 0) = _ := e
  rw [g1, g2, e']
  exact ⟨rfl, rfl, lt⟩

/-- b → c for ANY 64-bit lane: `(x mod q, (x mod q)·2^32 mod q)` -/
theorem c_from_b_exact (nn : Nat) (x : Array Nat) (m : Nat) (hm : m < 4 * nn) :
    (cFromB curParams nn x).getD (2 * m) 0 = x.getD m 0 % Gen.q120_q (m % 4)
    ∧ (cFromB curParams nn x).getD (2 * m + 1) 0
        = ((x.getD m 0 % Gen.q120_q (m % 4)) * 4294967296) % Gen.q120_q (m % 4) := by
  obtain ⟨h1, h2⟩ := primes_small_current (m % 4) (Nat.mod_lt _ (by omega))
  have e := cFromBLane_spec (Gen.q120_q (m % 4)) (x.getD m 0) h1 (Nat.lt_of_le_of_lt h2 (by omega))
  obtain ⟨g1, g2⟩ := cFromB_getD curParams nn x m hm
  have e' : cFromBLane (curParams.q (m % 4)) (x.getD m 0) = _ := e
  rw [g1, g2, e']
  exact ⟨rfl, rfl⟩

/-- b + b for ANY 64-bit lanes: the result lane is `x mod (q·2^33) + y mod (q·2^33)`, which does
  not wrap, and is congruent to `x + y` -/
theorem add_bbb_congr (nn : Nat) (x y : Array Nat) (i : Nat) (hi : i < 4 * nn) :
    (addBbb curParams nn x y).getD i 0 % Gen.q120_q (i % 4) = (x.getD i 0 + y.getD i 0) % Gen.q120_q (i % 4)
    ∧ (addBbb curParams nn x y).getD i 0
        = x.getD i 0 % (Gen.q120_q (i % 4) * 8589934592) + y.getD i 0 % (Gen.q120_q (i % 4) * 8589934592)
    ∧ x.getD i 0 % (Gen.q120_q (i % 4) * 8589934592) + y.getD i 0 % (Gen.q120_q (i % 4) * 8589934592)
        < 18446744073709551616 := by
  obtain ⟨h1, h2⟩ := primes_small_current (i % 4) (Nat.mod_lt _ (by omega))
  rw [addBbb_getD _ _ _ _ _ hi]
  have := addBbbLane_spec (Gen.q120_q (i % 4)) (x.getD i 0) (y.getD i 0) h1 h2
  exact ⟨this.2.2, this.1, this.2.1⟩

/-- c + c word by word, for ANY 32-bit words: `(x + y) mod q`, reduced -/
theorem add_ccc_exact (nn : Nat) (x y : Array Nat) (hx : ArrA x) (hy : ArrA y) (i : Nat) (hi : i < 8 * nn) :
    (addCcc curParams nn x y).getD i 0 = (x.getD i 0 + y.getD i 0) % Gen.q120_q ((i % 8) / 2)
    ∧ (addCcc curParams nn x y).getD i 0 < Gen.q120_q ((i % 8) / 2) := by
  obtain ⟨h1, h2⟩ := primes_small_current ((i % 8) / 2) (by omega)
  rw [addCcc_getD _ _ _ _ _ hi]
  exact addCccWord_spec (Gen.q120_q ((i % 8) / 2)) _ _ h1 (Nat.lt_of_le_of_lt h2 (by omega)) (hx i) (hy i)

/-- b → int128 for ANY 64-bit lanes: the result is congruent to each lane modulo its prime, lies in
  `[-(Q-1)/2, (Q-1)/2]` with `Q = q0·q1·q2·q3`, and is the only such integer; no `__int128`
  operation of the function overflows (`bToZnx128_eq`). -/
theorem to_znx128_centered (nn : Nat) (x : Array Nat) (j : Nat) (hj : j < nn) :
    let r := (bToZnx128Vec curParams nn x).getD j 0
    (∀ k, k < 4 → r % (Gen.q120_q k : Int) = ((x.getD (4 * j + k) 0 % Gen.q120_q k : Nat) : Int))
    ∧ -(((bigQN curParams : Int) - 1) / 2) ≤ r ∧ r ≤ ((bigQN curParams : Int) - 1) / 2
    ∧ ∀ r' : Int, -(((bigQN curParams : Int) - 1) / 2) ≤ r' → r' ≤ ((bigQN curParams : Int) - 1) / 2 →
        (∀ k, k < 4 → r' % (Gen.q120_q k : Int) = r % (Gen.q120_q k : Int)) → r' = r := by
  intro r
  have hr : r = bToZnx128 curParams (x.getD (4 * j) 0) (x.getD (4 * j + 1) 0) (x.getD (4 * j + 2) 0)
      (x.getD (4 * j + 3) 0) := bToZnx128Vec_getD _ _ _ _ hj
  have cen := bToZnx128_centered curParams crtOK_current (x.getD (4 * j) 0) (x.getD (4 * j + 1) 0)
    (x.getD (4 * j + 2) 0) (x.getD (4 * j + 3) 0)
  rw [← hr] at cen
  refine ⟨?_, cen.1, cen.2, ?_⟩
  · intro k hk
    rw [hr]
    have := bToZnx128_mod curParams crtOK_current (x.getD (4 * j) 0) (x.getD (4 * j + 1) 0)
      (x.getD (4 * j + 2) 0) (x.getD (4 * j + 3) 0) k hk
    have hk' : k = 0 ∨ k = 1 ∨ k = 2 ∨ k = 3 := by omega
    rcases hk' with rfl | rfl | rfl | rfl <;> exact this
  · intro r' h1 h2 h3
    exact centered_unique curParams crtOK_current r' r ⟨h1, h2⟩ cen (fun k hk => h3 k hk)

/-- int64 → b → int128 is the identity on every int64 (INT64_MIN and INT64_MAX included) -/
theorem znx_roundtrip (nn : Nat) (x : Array Int) (hx : ∀ j, IsI64 (x.getD j 0)) (j : Nat) (hj : j < nn) :
    (bToZnx128Vec curParams nn (bFromZnx64 curParams nn x)).getD j 0 = x.getD j 0 := by
  have c := fun k (hk : k < 4) => bFromZnx64_cell curParams nn x j k hj hk
  rw [bToZnx128Vec_getD _ _ _ _ hj, show (bFromZnx64 curParams nn x).getD (4 * j) 0 = _ from c 0 (by omega),
    c 1 (by omega), c 2 (by omega), c 3 (by omega)]
  exact znx_roundtrip_gen curParams crtOK_current bigQ_gt_current (x.getD j 0) (hx j)

/-- block extract / save are mutually inverse copies of the 8 lanes of block `blk` (every block
  index), save touches nothing else, and the contiguous form extracts the block of each row -/
theorem extract_save_inverse (nn blk : Nat) (dest src : Array Nat) :
    (src.size = 8 → 8 * blk + 8 ≤ dest.size → extract1blk nn blk (save1blk nn blk dest src) = src)
    ∧ save1blk nn blk dest (extract1blk nn blk dest) = dest
    ∧ (∀ k, ¬ (8 * blk ≤ k ∧ k < 8 * blk + 8) → (save1blk nn blk dest src)[k]? = dest[k]?)
    ∧ (save1blk nn blk dest src).size = dest.size
    ∧ (∀ nrows r i, r < nrows → i < 8 →
        (extractContiguous nn nrows blk dest).getD (8 * r + i) 0 = dest.getD (4 * nn * r + 8 * blk + i) 0) :=
  ⟨extract_save nn blk dest src, save_extract nn blk dest, save_frame nn blk dest src,
   size_save1blk nn blk dest src, fun nrows r i hr hi => extractContiguous_row nn nrows blk dest r i hr hi⟩

/-- all-maximal layout-a operands of maximal length are in the domain of `baa_exact` -/
example : ArrA (Array.replicate (4 * 10000) 4294967295) := by
  intro i
  simp only [Array.getD_eq_getD_getElem?, Array.getElem?_replicate]
  split <;> simp
/-- all-maximal 64-bit lanes are in the domain of `bbb_exact` -/
example : ArrB (Array.replicate (4 * 10000) 18446744073709551615) := by
  intro i
  simp only [Array.getD_eq_getD_getElem?, Array.getElem?_replicate]
  split <;> simp
/-- a non-canonical valid layout-c lane for prime 0: `y0 = q0 + 5`, `y1 = (5·2^32 mod q0) + 2·q0` -/
example : (((5 * 4294967296) % Gen.q120_q 0 + 2 * Gen.q120_q 0) % Gen.q120_q 0
    = ((Gen.q120_q 0 + 5) * 4294967296) % Gen.q120_q 0)
    ∧ (5 * 4294967296) % Gen.q120_q 0 + 2 * Gen.q120_q 0 < 4294967296 := by decide +kernel
/-- INT64_MIN and INT64_MAX are in the domain of `znx_roundtrip` -/
example : IsI64 (-9223372036854775808) ∧ IsI64 9223372036854775807 := by
  unfold IsI64; omega

/-- Gen obligation: the length domain of the product theorems (`ell ≤ Gen.q120_max_ell`, the `MAX_ELL` read from the
    source on every run) covers the property's domain `0..10000`: lowering `MAX_ELL` in the source fails here instead of
    silently shrinking what is proved. -/
theorem max_ell_covers : 10000 ≤ Gen.q120_max_ell := by decide

end Spq.C10
