/-
  C15 — results depend only on arguments: no hidden state, history or alignment.

  (1) `history_indep`: for EVERY function of /repo that keeps mutable function-local static state
      (the structure of each is extracted from the C source on every run — `Gen.Caches.rows`), after ANY
      finite sequence of earlier calls, the table used by a call was built with the same value of every
      constructor argument that influences the table, as the call's own arguments — i.e. the call computes
      with the table a fresh construction would give.  The obligation `caches_keyed` re-checks, on the
      extracted structure, that every constructor argument is part of the cache key (slot index
      `log2m(m)` or re-initialisation guard), except the hand-declared `irrelevant` ones (validated by the
      stream `ca_irrelevant`: tables built with different values are byte-identical; the three
      `reim_*32` convenience functions only reach kernels that are NOT_IMPLEMENTED and never return).
  (2) `all_static_state_modelled`: every function that references a mutable static-storage object
      (extracted from the object files — `Gen.Globals`) is one of those rows: a new static cache or
      scratch buffer anywhere in the library makes this obligation fail.
  (3) `add_pure`: the output of `vec_znx_add` is a function of the source cells only — not of the previous
      content of the output, of padding, or of anything else in memory (the instance of C13 `add_call_indep`
      with the same output in both calls; C13 has the same statement for the other limb-vector operations).
-/
import SpqProofs.Lemmas.Caches
import SpqProofs.Properties.C13
import Gen.Caches
import Gen.Globals
namespace Spq.C15
open Spq Spq.Caches

/-- constructor arguments that do not influence the table (see header) -/
def irrelevant : List (String × String) :=
  [("reim_from_znx64_simple", "log2bound"), ("reim_from_znx32_simple", "log2bound"),
   ("reim_to_tnx32_simple", "divisor"), ("reim_to_tnx32_simple", "log2overhead")]

def specOf (r : Gen.Caches.Row) : Spec := { slotByM := r.slotByM, guard := r.guard, initArgs := r.initArgs }

def rowKeyed (r : Gen.Caches.Row) : Bool :=
  r.initArgs.all fun p => r.guard.contains p || (p == "m" && r.slotByM) || irrelevant.contains (r.name, p)

/-- Gen obligation: every constructor argument of every cache is in its key (or declared irrelevant) -/
theorem caches_keyed : Gen.Caches.rows.all rowKeyed = true := by decide +kernel

/-- history independence of every cached convenience function -/
theorem history_indep (r : Gen.Caches.Row) (hr : r ∈ Gen.Caches.rows)
    (hist : List Call) (c : Call) (hp : ∀ c', c' ∈ c :: hist → Pow2M c') :
    ∀ p, p ∈ r.initArgs → (r.name, p) ∉ irrelevant →
      (step (specOf r) (run (specOf r) empty hist) c).2.1.get p = c.get p := by
  intro p hpi hirr
  have hk : rowKeyed r = true := (List.all_eq_true.mp caches_keyed) r hr
  have hk' := (List.all_eq_true.mp hk) p hpi
  refine step_used (specOf r) (fun q => !irrelevant.contains (r.name, q)) ?_ _
    (run_inv _ hist (fun c' hc' => hp c' (by simp [hc'])) _ (inv_empty _)) c (hp c (by simp)) p hpi ?_
  · intro q hq hrel
    have hq' := (List.all_eq_true.mp hk) q hq
    simp only [Bool.or_eq_true, Bool.and_eq_true, beq_iff_eq, List.contains_iff_mem] at hq'
    rcases hq' with (h1 | ⟨h2, h3⟩) | h4
    · exact Or.inl h1
    · exact Or.inr ⟨h2, h3⟩
    · exfalso
      have hrel' : (r.name, q) ∉ irrelevant := by simpa using hrel
      exact hrel' h4
  · simpa using hirr

/-- a repeated call finds its table warm: the second of two equal consecutive calls builds nothing and
    uses the table the first one used -/
theorem repeat_call_same (r : Gen.Caches.Row) (st : State) (c : Call) :
    let s1 := step (specOf r) st c
    (step (specOf r) s1.1 c).2.2 = false ∧ (step (specOf r) s1.1 c).1 = s1.1 := by
  intro s1
  obtain ⟨e, he⟩ := step_same_key (specOf r) st c c rfl (fun _ _ => rfl)
  rw [he]
  exact ⟨rfl, rfl⟩

/-- names of the functions that reference a mutable static-storage object that is not a verification hook -/
def staticFns : List String :=
  (Gen.Globals.refs.filter fun fr => fr.2.any fun g => !(Gen.Globals.globals.getD g ("", false, true)).2.2).map
    fun fr => Gen.Globals.funcs.getD fr.1 ""

/-- Gen obligation: every function with hidden mutable state is one of the modelled caches -/
theorem all_static_state_modelled :
    staticFns.all (fun n => Gen.Caches.rows.any fun r => r.name == n) = true := by decide +kernel

theorem add_pure {α : Type} (o : Ops α) (nn : Nat) (h h2 : Heap α)
    (res rsz rsl a asz asl b bsz bsl : Nat)
    (hsl : nn ≤ rsl) (hres : C08.InBounds nn h.mem.size res rsz rsl)
    (hres2 : C08.InBounds nn h2.mem.size res rsz rsl)
    (ha : Heap.SrcOK nn res rsz rsl a asz asl) (hb : Heap.SrcOK nn res rsz rsl b bsz bsl)
    (sa : C08.SameSrc o.zero nn rsz h.mem a asz asl h2.mem a asl)
    (sb : C08.SameSrc o.zero nn rsz h.mem b bsz bsl h2.mem b bsl) :
    ∀ i c, i < rsz → c < nn →
      (VecZnx.add o nn h res rsz rsl a asz asl b bsz bsl).mem[res + i * rsl + c]? =
      (VecZnx.add o nn h2 res rsz rsl a asz asl b bsz bsl).mem[res + i * rsl + c]? :=
  C13.add_call_indep o nn h h2 res rsz rsl a asz asl b bsz bsl res rsl a asl b bsl hsl hres ha hb hsl hres2 ha hb sa sb

/-- non-vacuity floor of the Gen obligations above: the extraction found the convenience-API caches and the functions
    with static state (an extraction that returns nothing would make `caches_keyed` and `all_static_state_modelled` vacuous) -/
theorem extraction_nonvacuous :
    15 ≤ Gen.Caches.rows.length ∧ 15 ≤ staticFns.length ∧
    (Gen.Caches.rows.any fun r => r.name == "reim_to_znx64_simple") = true ∧
    staticFns.contains "reim_fft_simple" = true := by decide +kernel

end Spq.C15
