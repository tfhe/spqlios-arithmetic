/-
  C10 / C04, translator tie of the q120 REFERENCE arithmetic, continued (see `Properties/SrcQ120.lean` for the
  conventions): the two q120x2 product kernels `q120x2_vec_mat1col_product_bbc_ref` and
  `q120x2_vec_mat2cols_product_bbc_ref` (2 resp. 4 inlined accumulation loops over the same precomputation object,
  then 2 resp. 4 inlined recombinations).  Row loop and recombinations are run by the symbolic executor
  (`Lemmas/SrcSymQ120Ref.lean`: the blocks are more inputs of one description, and the recombinations of all blocks
  are one run that writes the result cells in order).
-/
import Gen.CSrc
import SpqProofs.Lemmas.SrcSymQ120Ref
import SpqProofs.Lemmas.SrcVec
import SpqProofs.Lemmas.Q120ConvGen
import SpqProofs.Lemmas.C04ProductsGen
namespace Spq.Src
open Spq Spq.CIR Spq.Q120

theorem src_q120x2_vec_mat1col_product_bbc_ref_eq_model (P : BbcPrecomp) (hh : P.h < 64)
    (ell : Nat) (hell : ell < 576460752303423488) (mem : Mem) (pc r x y : Nat) (X Y : Array Nat)
    (hpc : buf mem pc = natBuf (bbcCells P)) (hrp : r ≠ pc)
    (hr : (buf mem r).size = 8) (hx : buf mem x = natBuf X) (hX : X.size = 8 * ell)
    (hXb : ∀ i, X.getD i 0 < 18446744073709551616)
    (hy : buf mem y = natBuf Y) (hY : Y.size = 8 * ell) (hYb : ∀ i, Y.getD i 0 < 18446744073709551616) :
    ∀ fuel, ell + 4 ≤ fuel →
      run fuel Gen.CSrc.q120x2_vec_mat1col_product_bbc_ref [(ell : Int)]
          [some (pc, 0), some (r, 0), some (x, 0), some (y, 0)] mem
        = .ok (mem.setIfInBounds r (natBuf (x2Col1Ref P ell X Y))) := by
  intro fuel hf
  let F : Nat → Nat → Nat × Nat := fun n r => (x2Col1Terms n X Y r).foldl bbcRefStep (0, 0)
  let C : Nat → Sym.Ctx := fun n =>
    X2Col1.ctx [some (pc, 0), some (r, 0), some (x, 0), some (y, 0)] mem ell x y r n (F n)
  refine Sym.sexec_run_rows 4 X2Col1.loop X2Col1.fin C (C 0) ell X2Col1.test _ X2Col1.split rfl
    (by decide) rfl
    (fun _ => ⟨rfl, rfl, rfl⟩) ⟨rfl, rfl⟩ (pre := X2Col1.pre_runs)
    (preNeeds := (Q120Avx.tbl_met (C 0) pc r x y _ rfl rfl hpc [] 0 nofun (Nat.zero_le _)).good)
    (start := fun i l _ => X2Col1.start_den mem ell x y pc r (F 0) (fun _ => rfl) i l)
    (row := X2Col1.row_runs) (test := rfl)
    (testVal := fun _ _ => ⟨⟨trivial, trivial⟩, rfl⟩)
    (rowNeeds := fun n hn => (X2Col1.row_needs _ mem ell x y r n (F n) X Y hx hy (by omega) (by omega) (by omega)).good)
    (next := fun n hn i l hl => X2Col1.row_next _ mem ell x y r n (F n) X Y hx hy (F (n + 1))
      (fun k => foldl_laneTerms_succ _ _ n X Y 8 k 8 k) hXb hYb (by omega) i l hl)
    fuel hf fun e H => ?_
  exact Sym.sexec_fills_natBuf X2Col1.fin_runs rfl rfl rfl _ Array.size_ofFn hr
    (Q120Avx.fin_needs (C ell) pc r x y _ rfl rfl hpc _ 9 hrp (List.forall_mem_singleton.2
      (lt_of_eq_of_lt (Q120Avx.den_H2 (C ell) pc (bbcCells P) rfl rfl hpc) hh)) (Nat.le_refl 9))
    (fun l hl => (Q120Ref.den_bbcOut (C ell) pc P rfl rfl hpc l).trans (by
      show bbcRefFinal P (l % 4) (F ell l) = _
      simp [x2Col1Ref, bbcRefLane, Array.getD, hl, F]))
    fuel (by omega) e H

theorem src_q120x2_vec_mat2cols_product_bbc_ref_eq_model (P : BbcPrecomp) (hh : P.h < 64)
    (ell : Nat) (hell : ell < 576460752303423488) (mem : Mem) (pc r x y : Nat) (X Y : Array Nat)
    (hpc : buf mem pc = natBuf (bbcCells P)) (hrp : r ≠ pc)
    (hr : (buf mem r).size = 16) (hx : buf mem x = natBuf X) (hX : X.size = 8 * ell)
    (hXb : ∀ i, X.getD i 0 < 18446744073709551616)
    (hy : buf mem y = natBuf Y) (hY : Y.size = 16 * ell) (hYb : ∀ i, Y.getD i 0 < 18446744073709551616) :
    ∀ fuel, ell + 4 ≤ fuel →
      run fuel Gen.CSrc.q120x2_vec_mat2cols_product_bbc_ref [(ell : Int)]
          [some (pc, 0), some (r, 0), some (x, 0), some (y, 0)] mem
        = .ok (mem.setIfInBounds r (natBuf (x2Col2Ref P ell X Y))) := by
  intro fuel hf
  let F : Nat → Nat → Nat × Nat := fun n r => (x2Col2Terms n X Y r).foldl bbcRefStep (0, 0)
  let C : Nat → Sym.Ctx := fun n =>
    X2Col2.ctx [some (pc, 0), some (r, 0), some (x, 0), some (y, 0)] mem ell x y r n (F n)
  refine Sym.sexec_run_rows 4 X2Col2.loop X2Col2.fin C (C 0) ell X2Col2.test _ X2Col2.split rfl
    (by decide) rfl
    (fun _ => ⟨rfl, rfl, rfl⟩) ⟨rfl, rfl⟩ (pre := X2Col2.pre_runs)
    (preNeeds := (Q120Avx.tbl_met (C 0) pc r x y _ rfl rfl hpc [] 0 nofun (Nat.zero_le _)).good)
    (start := fun i l _ => X2Col2.start_den mem ell x y pc r (F 0) (fun _ => rfl) i l)
    (row := X2Col2.row_runs) (test := rfl)
    (testVal := fun _ _ => ⟨⟨trivial, trivial⟩, rfl⟩)
    (rowNeeds := fun n hn => (X2Col2.row_needs _ mem ell x y r n (F n) X Y hx hy (by omega) (by omega) (by omega)).good)
    (next := fun n hn i l hl => X2Col2.row_next _ mem ell x y r n (F n) X Y hx hy (F (n + 1))
      (fun l hl => by
      -- result lane `l` reads lane `4 (l / 4 % 2) + l % 4 = l % 8` of the row of `x` and lane `l` of the row of `y`
      rw [show l % 8 = 4 * (l / 4 % 2) + l % 4 by omega]
      exact foldl_laneTerms_succ _ _ n X Y 8 _ 16 l)
      hXb hYb (by omega) i l hl)
    fuel hf fun e H => ?_
  exact Sym.sexec_fills_natBuf X2Col2.fin_runs rfl rfl rfl _ Array.size_ofFn hr
    (Q120Avx.fin_needs (C ell) pc r x y _ rfl rfl hpc _ 9 hrp (List.forall_mem_singleton.2
      (lt_of_eq_of_lt (Q120Avx.den_H2 (C ell) pc (bbcCells P) rfl rfl hpc) hh)) (Nat.le_refl 9))
    (fun l hl => (Q120Ref.den_bbcOut (C ell) pc P rfl rfl hpc l).trans (by
      show bbcRefFinal P (l % 4) (F ell l) = _
      simp [x2Col2Ref, bbcRefLane, Array.getD, hl, F]))
    fuel (by omega) e H

/-! ### no out-of-bounds access, for every fuel -/

theorem src_q120x2_vec_mat1col_product_bbc_ref_no_oob (P : BbcPrecomp) (hh : P.h < 64)
    (ell : Nat) (hell : ell < 576460752303423488) (mem : Mem) (pc r x y : Nat) (X Y : Array Nat)
    (hpc : buf mem pc = natBuf (bbcCells P)) (hrp : r ≠ pc)
    (hr : (buf mem r).size = 8) (hx : buf mem x = natBuf X) (hX : X.size = 8 * ell)
    (hXb : ∀ i, X.getD i 0 < 18446744073709551616)
    (hy : buf mem y = natBuf Y) (hY : Y.size = 8 * ell) (hYb : ∀ i, Y.getD i 0 < 18446744073709551616) :
    ∀ fuel e, e ≠ .fuel →
      run fuel Gen.CSrc.q120x2_vec_mat1col_product_bbc_ref [(ell : Int)] [some (pc, 0), some (r, 0), some (x, 0), some (y, 0)] mem ≠ .err e :=
  run_no_other_error _ _ _ _ _ (ell + 4) (src_q120x2_vec_mat1col_product_bbc_ref_eq_model P hh ell hell mem pc r x y X Y hpc hrp hr hx hX hXb hy hY hYb)

theorem src_q120x2_vec_mat2cols_product_bbc_ref_no_oob (P : BbcPrecomp) (hh : P.h < 64)
    (ell : Nat) (hell : ell < 576460752303423488) (mem : Mem) (pc r x y : Nat) (X Y : Array Nat)
    (hpc : buf mem pc = natBuf (bbcCells P)) (hrp : r ≠ pc)
    (hr : (buf mem r).size = 16) (hx : buf mem x = natBuf X) (hX : X.size = 8 * ell)
    (hXb : ∀ i, X.getD i 0 < 18446744073709551616)
    (hy : buf mem y = natBuf Y) (hY : Y.size = 16 * ell) (hYb : ∀ i, Y.getD i 0 < 18446744073709551616) :
    ∀ fuel e, e ≠ .fuel →
      run fuel Gen.CSrc.q120x2_vec_mat2cols_product_bbc_ref [(ell : Int)] [some (pc, 0), some (r, 0), some (x, 0), some (y, 0)] mem ≠ .err e :=
  run_no_other_error _ _ _ _ _ (ell + 4) (src_q120x2_vec_mat2cols_product_bbc_ref_eq_model P hh ell hell mem pc r x y X Y hpc hrp hr hx hX hXb hy hY hYb)

end Spq.Src
