/-
  C06.4 — the a-priori rounding bound of the four FFTs (reim / cplx layout, forward / inverse), for the binary64
  drivers of `Spq/Fft`; items 1–3 say it for the forward reim transform, 4 and 5 what differs for the other three.

  1. `reim_fft_structural`: for ANY value type and ANY butterfly functions (no ring laws) the forward reim schedule
     (leaves 2/4/8/16, `bfs16` odd pass + radix-4 passes, `rec16`; every `m = 2^k`) is the radix-2 level network `VN`
     in which block `b` of level `ℓ` runs the butterfly `gNet F c s k ℓ d b` — the plain butterfly with the stored
     twiddle of exponent `twE ℓ d b`, or (odd blocks of the levels `clv`) the `i·ω` butterfly with the stored
     twiddle of block `b − 1`.  Schedules decide WHEN a butterfly runs, never what it computes.
  2. `reim_fft_err`: binary64.  Run the same model function on flagged patterns (`aOk`: the flag of a result says
     that every operation it depends on had finite operands and an exact result that is 0 or in the normal range).
     If the flags of the outputs hold and the stored twiddles (patterns `cN e`, `sN e`, table
     `reimFftEnts.map (valP cN sN)`) are within `τ = 3.5·2^-53` of the exact roots `ζ^e` (`ζ` a unit-modulus element
     of `Cplx K`, `K` any ordered field, e.g. ℝ, with `ζ^m = i`; stream `ff_tables` measures 3.11·2^-53), then every
     bit-level output is finite and
         Σ_j |val(out_j) − FFT(val x)_j|²  ≤  ((1 + 8·2^-53)^k − 1)² · Σ_j |FFT(val x)_j|²
     (2-norms squared, so no square root is needed), for the reference and the FMA/assembly implementation.
  3. `reim_fft_err_prop`: for `k ≤ 16` this is the property's bound `8·log2(2m)·2^-53`.

  Hypothesis on the table, explicit: equal exponents hold equal stored values (`T = ents.map (valP cN sN)`), true of
  the real tables (same argument to `cos`/`sin`), and the overflow/underflow side condition is the flag hypothesis.
  4. `reim_ifft_structural`, `reim_ifft_err`, `reim_ifft_err_prop`: the same for the inverse reim transform, against the
     exact inverse network `exactInv ζi` (inverse root `ζi`, `|ζi| = 1`, `ζi^m = −i`; levels
     `(x_p, x_{p+h}) ← (x_p + x_{p+h}, ζi^e·(x_p − x_{p+h}))`).  `exactInv_fwd` / `exactInv_of_evals` identify it: it is the
     two-sided inverse of the exact forward network up to the factor `m` (`FFT(exactInv y) = m·y`, `exactInv(FFT a) = m·a`).
  5. cplx layout (interleaved): `cplx_fft_structural`, `cplx_ifft_structural` (per-block butterflies `gNetC`, `gNetCI`:
     `cbfs2` for m ≤ 8 with the `(ω, −ω)` butterfly at the last level, `cbfs16` for m ≤ 2048, `crec16` above; in the
     inverse the odd-log pass runs right after the leaves, so the `−i·ω̄` levels depend on the parity of the region),
     `cplx_fft_err(_prop)`, `cplx_ifft_err(_prop)` for both implementations (`fma` is the AVX2/FMA code, used for m > 4).
     The `addsub(0, ω)` trick of the FMA code is exact: `rnd (val b) = val b` (`Spq.F64.rnd_val`).
     The forward table holds four kinds of entries (cos, sin, −sin, −cos: patterns `cN sN nsN ncN`); `(ncN, nsN)` is
     only used by the `h = 1` level of `m ≤ 8` and must be within `τ` of `−ζ^e`.
  The flag hypothesis: for the two reim transforms `C02Err.fft_no_overflow_of_box`, `ifft_no_overflow_of_box` reduce it
  to the underflow flags on a magnitude box; not done for the cplx layout, nor for underflow.
-/
import SpqProofs.Lemmas.FftErrSchedCIFin
namespace Spq.C06Err
open Finset Spq.Fft Spq.Fft.Alg Spq.Fft.SimP Spq.Fft.LevelN Spq.Fft.SchedN Spq.Fft.SchedC Spq.Fft.RelN Spq.FftErr Spq.F64

/-- **Structural schedule theorem** (law-free), every `m = 2^k`, any `Flav`. -/
theorem reim_fft_structural {R : Type} [Inhabited R] (F : Flav R) (c s : ℕ → R) (k : ℕ) (s0 : RI R)
    (hs : Sim.Valid (2 ^ k) s0) (p : ℕ) (hp : p < 2 ^ k) :
    prs (fftRI F (2 ^ k) (((reimFftEnts (2 ^ k)).map (valP c s)).toArray) s0) p
      = VN (gNet F c s k) (prs s0) k 0 p :=
  (fftRI_struct F c s k s0 hs).1 p hp

variable {K : Type} [Field K] [LinearOrder K] [IsStrictOrderedRing K]

/-- **`reim_fft_err`** -/
theorem reim_fft_err (fma : Bool) (k : ℕ) (ζ : Cplx K) (hζ : nsq ζ = 1) (hI : ζ ^ 2 ^ k = Ic) (cN sN : ℕ → ℕ)
    (hcs : ∀ ℓ d b, ℓ + d + 1 = k → b < 2 ^ ℓ →
      nsq (toC (((val (cN (twE ℓ d b)) : ℚ) : K), ((val (sN (twE ℓ d b)) : ℚ) : K)) - ζ ^ twE ℓ d b) ≤
        (((7 / 2 * u64 : ℚ)) : K) ^ 2)
    (data : Array ℕ) (hdata : data.size = 2 * 2 ^ k)
    (hok : ∀ p, p < 2 * 2 ^ k →
      ((reimFftA (famOf fma aOk) (2 ^ k) ((((reimFftEnts (2 ^ k)).map (valP cN sN)).toArray).map lift)
        (data.map lift))[p]!).2) :
    (∀ p, p < 2 * 2 ^ k →
      Fin64 ((reimFft (if fma then "fma" else "ref") (2 ^ k) ((reimFftEnts (2 ^ k)).map (valP cN sN)).toArray data)[p]!)) ∧
    ∑ j ∈ range (2 ^ k),
        nsq (outC (reimFft (if fma then "fma" else "ref") (2 ^ k) ((reimFftEnts (2 ^ k)).map (valP cN sN)).toArray data) k j
          - exactOut ζ k data j) ≤
      ((1 + ((8 * u64 : ℚ) : K)) ^ k - 1) ^ 2 * ∑ j ∈ range (2 ^ k), nsq (exactOut ζ k data j) := by
  rw [reimFft_eq]
  cases fma
  · exact fft_err_fam (fun {α} A => fwdRef (α := α) A) famRef (fun A u τ sm hτ => fwdRef_errOK A u τ sm hτ)
      k ζ hζ hI cN sN hcs data hdata hok
  · exact fft_err_fam (fun {α} A => fwdFma (α := α) A) famFma (fun A u τ sm hτ => fwdFma_errOK A u τ sm hτ)
      k ζ hζ hI cN sN hcs data hdata hok

/-- **the property's bound** `8·log2(2m)·2^-53` (`log2(2m) = k + 1`) for `m ≤ 65536` -/
theorem reim_fft_err_prop (fma : Bool) (k : ℕ) (hk : k ≤ 16) (ζ : Cplx K) (hζ : nsq ζ = 1) (hI : ζ ^ 2 ^ k = Ic)
    (cN sN : ℕ → ℕ)
    (hcs : ∀ ℓ d b, ℓ + d + 1 = k → b < 2 ^ ℓ →
      nsq (toC (((val (cN (twE ℓ d b)) : ℚ) : K), ((val (sN (twE ℓ d b)) : ℚ) : K)) - ζ ^ twE ℓ d b) ≤
        (((7 / 2 * u64 : ℚ)) : K) ^ 2)
    (data : Array ℕ) (hdata : data.size = 2 * 2 ^ k)
    (hok : ∀ p, p < 2 * 2 ^ k →
      ((reimFftA (famOf fma aOk) (2 ^ k) ((((reimFftEnts (2 ^ k)).map (valP cN sN)).toArray).map lift)
        (data.map lift))[p]!).2) :
    ∑ j ∈ range (2 ^ k),
        nsq (outC (reimFft (if fma then "fma" else "ref") (2 ^ k) ((reimFftEnts (2 ^ k)).map (valP cN sN)).toArray data) k j
          - exactOut ζ k data j) ≤
      (((8 * (k + 1 : ℚ) * u64 : ℚ)) : K) ^ 2 * ∑ j ∈ range (2 ^ k), nsq (exactOut ζ k data j) :=
  prop_of_err _ _ _ k hk (reim_fft_err fma k ζ hζ hI cN sN hcs data hdata hok).2

/-- **Structural schedule theorem, inverse** (law-free), every `m = 2^k`, any `Flav`. -/
theorem reim_ifft_structural {R : Type} [Inhabited R] (F : Flav R) (c s : ℕ → R) (k : ℕ) (s0 : RI R)
    (hs : Sim.Valid (2 ^ k) s0) (p : ℕ) (hp : p < 2 ^ k) :
    prs (ifftRI F (2 ^ k) (((reimIfftEnts (2 ^ k)).map (valP c s)).toArray) s0) p
      = VNI k (gNet F c s k) (prs s0) k p :=
  (ifftRI_struct F c s k s0 hs).1 p hp

/-- **`reim_ifft_err`** -/
theorem reim_ifft_err (fma : Bool) (k : ℕ) (ζi : Cplx K) (hζ : nsq ζi = 1) (hI : ζi ^ 2 ^ k = -Ic) (cN sN : ℕ → ℕ)
    (hcs : ∀ ℓ d b, ℓ + d + 1 = k → b < 2 ^ ℓ →
      nsq (toC (((val (cN (twE ℓ d b)) : ℚ) : K), ((val (sN (twE ℓ d b)) : ℚ) : K)) - ζi ^ twE ℓ d b) ≤
        (((7 / 2 * u64 : ℚ)) : K) ^ 2)
    (data : Array ℕ) (hdata : data.size = 2 * 2 ^ k)
    (hok : ∀ p, p < 2 * 2 ^ k →
      ((reimIfftA (ifamOf fma aOk) (2 ^ k) ((((reimIfftEnts (2 ^ k)).map (valP cN sN)).toArray).map lift)
        (data.map lift))[p]!).2) :
    (∀ p, p < 2 * 2 ^ k →
      Fin64 ((reimIfft (if fma then "fma" else "ref") (2 ^ k) ((reimIfftEnts (2 ^ k)).map (valP cN sN)).toArray data)[p]!)) ∧
    ∑ j ∈ range (2 ^ k),
        nsq (outC (reimIfft (if fma then "fma" else "ref") (2 ^ k) ((reimIfftEnts (2 ^ k)).map (valP cN sN)).toArray data) k j
          - exactInv ζi k data j) ≤
      ((1 + ((8 * u64 : ℚ) : K)) ^ k - 1) ^ 2 * ∑ j ∈ range (2 ^ k), nsq (exactInv ζi k data j) := by
  rw [reimIfft_eq]
  cases fma
  · exact ifft_err_fam (fun {α} A => invRef (α := α) A) famIRef (fun A u τ sm hτ => invRef_errOK A u τ sm hτ)
      k ζi hζ hI cN sN hcs data hdata hok
  · exact ifft_err_fam (fun {α} A => invFma (α := α) A) famIFma (fun A u τ sm hτ => invFma_errOK A u τ sm hτ)
      k ζi hζ hI cN sN hcs data hdata hok

/-- **the property's bound** for the inverse transform, `m ≤ 65536` -/
theorem reim_ifft_err_prop (fma : Bool) (k : ℕ) (hk : k ≤ 16) (ζi : Cplx K) (hζ : nsq ζi = 1) (hI : ζi ^ 2 ^ k = -Ic)
    (cN sN : ℕ → ℕ)
    (hcs : ∀ ℓ d b, ℓ + d + 1 = k → b < 2 ^ ℓ →
      nsq (toC (((val (cN (twE ℓ d b)) : ℚ) : K), ((val (sN (twE ℓ d b)) : ℚ) : K)) - ζi ^ twE ℓ d b) ≤
        (((7 / 2 * u64 : ℚ)) : K) ^ 2)
    (data : Array ℕ) (hdata : data.size = 2 * 2 ^ k)
    (hok : ∀ p, p < 2 * 2 ^ k →
      ((reimIfftA (ifamOf fma aOk) (2 ^ k) ((((reimIfftEnts (2 ^ k)).map (valP cN sN)).toArray).map lift)
        (data.map lift))[p]!).2) :
    ∑ j ∈ range (2 ^ k),
        nsq (outC (reimIfft (if fma then "fma" else "ref") (2 ^ k) ((reimIfftEnts (2 ^ k)).map (valP cN sN)).toArray data) k j
          - exactInv ζi k data j) ≤
      (((8 * (k + 1 : ℚ) * u64 : ℚ)) : K) ^ 2 * ∑ j ∈ range (2 ^ k), nsq (exactInv ζi k data j) :=
  prop_of_err _ _ _ k hk (reim_ifft_err fma k ζi hζ hI cN sN hcs data hdata hok).2

/-- what `exactInv` is (1): its exact forward transform is `m ·` the input -/
theorem exactInv_fwd (k : ℕ) (ζ ζi : Cplx K) (hinv : ζ * ζi = 1) (data : Array ℕ) (j : ℕ) :
    V ζ (fun q => exactInv ζi k data q) k 0 j =
      2 ^ k * toC (((val data[j]! : ℚ) : K), ((val data[2 ^ k + j]! : ℚ) : K)) :=
  V_WIk k ζ ζi hinv _ j

/-- what `exactInv` is (2): on the exact forward transform of `a` it returns `m · a` -/
theorem exactInv_of_evals (k : ℕ) (ζ ζi : Cplx K) (hinv : ζ * ζi = 1) (a : ℕ → Cplx K) (data : Array ℕ)
    (hdata : ∀ p, p < 2 ^ k → toC (((val data[p]! : ℚ) : K), ((val data[2 ^ k + p]! : ℚ) : K)) = V ζ a k 0 p)
    (j : ℕ) (hj : j < 2 ^ k) : exactInv ζi k data j = 2 ^ k * a j :=
  WIk_V_last k ζi ζ hinv a _ hdata j hj

/-- **Structural schedule theorem, forward cplx** (law-free), every `m = 2^k`, any `CFlav`. -/
theorem cplx_fft_structural {R : Type} [Inhabited R] (F : CFlav R) (c s ns nc : ℕ → R) (k : ℕ) (s0 : RI R)
    (hs : Sim.Valid (2 ^ k) s0) (p : ℕ) (hp : p < 2 ^ k) :
    prs (cfftRI F (2 ^ k) (((cplxFftEnts (2 ^ k)).map (valQ c s ns nc)).toArray) s0) p
      = VN (gNetC F c s ns nc k) (prs s0) k 0 p :=
  (cfftRI_struct F c s ns nc k s0 hs).1 p hp

/-- **Structural schedule theorem, inverse cplx** (law-free); `lanesOdd = false` holds for both implementations. -/
theorem cplx_ifft_structural {R : Type} [Inhabited R] (F : CFlav R) (hl : F.lanesOdd = false) (c s : ℕ → R) (k : ℕ)
    (s0 : RI R) (hs : Sim.Valid (2 ^ k) s0) (p : ℕ) (hp : p < 2 ^ k) :
    prs (cifftRI F (2 ^ k) (((cplxIfftEnts (2 ^ k)).map (valP c s)).toArray) s0) p
      = VNI k (gNetCI F c s k) (prs s0) k p :=
  (cifftRI_struct F c s k hl s0 hs).1 p hp

/-- **`cplx_fft_err`** -/
theorem cplx_fft_err (fma : Bool) (k : ℕ) (ζ : Cplx K) (hζ : nsq ζ = 1) (hI : ζ ^ 2 ^ k = Ic) (cN sN nsN ncN : ℕ → ℕ)
    (hcs : ∀ ℓ d b, ℓ + d + 1 = k → b < 2 ^ ℓ →
      nsq (toC (((val (cN (twE ℓ d b)) : ℚ) : K), ((val (sN (twE ℓ d b)) : ℚ) : K)) - ζ ^ twE ℓ d b) ≤
        (((7 / 2 * u64 : ℚ)) : K) ^ 2)
    (hncs : ∀ ℓ b, ℓ + 1 = k → b < 2 ^ ℓ →
      nsq (toC (((val (ncN (twE ℓ 0 b)) : ℚ) : K), ((val (nsN (twE ℓ 0 b)) : ℚ) : K)) - -ζ ^ twE ℓ 0 b) ≤
        (((7 / 2 * u64 : ℚ)) : K) ^ 2)
    (data : Array ℕ) (hdata : data.size = 2 * 2 ^ k)
    (hok : ∀ p, p < 2 * 2 ^ k →
      ((cplxFftA (cfamB fma (2 ^ k) aOk (lift 0)) (2 ^ k)
        ((((cplxFftEnts (2 ^ k)).map (valQ cN sN nsN ncN)).toArray).map lift) (data.map lift))[p]!).2) :
    (∀ p, p < 2 * 2 ^ k → Fin64 ((cplxFft (if fma then "fma" else "ref") (2 ^ k)
        ((cplxFftEnts (2 ^ k)).map (valQ cN sN nsN ncN)).toArray data)[p]!)) ∧
    ∑ j ∈ range (2 ^ k),
        nsq (cellC (cplxFft (if fma then "fma" else "ref") (2 ^ k)
          ((cplxFftEnts (2 ^ k)).map (valQ cN sN nsN ncN)).toArray data) j - exactOutC ζ k data j) ≤
      ((1 + ((8 * u64 : ℚ) : K)) ^ k - 1) ^ 2 * ∑ j ∈ range (2 ^ k), nsq (exactOutC ζ k data j) := by
  rw [cplxFft_eq]
  exact cfft_err_fam fma k ζ hζ hI cN sN nsN ncN hcs hncs data hdata hok

/-- **the property's bound** for the forward cplx transform, `m ≤ 65536` -/
theorem cplx_fft_err_prop (fma : Bool) (k : ℕ) (hk : k ≤ 16) (ζ : Cplx K) (hζ : nsq ζ = 1) (hI : ζ ^ 2 ^ k = Ic)
    (cN sN nsN ncN : ℕ → ℕ)
    (hcs : ∀ ℓ d b, ℓ + d + 1 = k → b < 2 ^ ℓ →
      nsq (toC (((val (cN (twE ℓ d b)) : ℚ) : K), ((val (sN (twE ℓ d b)) : ℚ) : K)) - ζ ^ twE ℓ d b) ≤
        (((7 / 2 * u64 : ℚ)) : K) ^ 2)
    (hncs : ∀ ℓ b, ℓ + 1 = k → b < 2 ^ ℓ →
      nsq (toC (((val (ncN (twE ℓ 0 b)) : ℚ) : K), ((val (nsN (twE ℓ 0 b)) : ℚ) : K)) - -ζ ^ twE ℓ 0 b) ≤
        (((7 / 2 * u64 : ℚ)) : K) ^ 2)
    (data : Array ℕ) (hdata : data.size = 2 * 2 ^ k)
    (hok : ∀ p, p < 2 * 2 ^ k →
      ((cplxFftA (cfamB fma (2 ^ k) aOk (lift 0)) (2 ^ k)
        ((((cplxFftEnts (2 ^ k)).map (valQ cN sN nsN ncN)).toArray).map lift) (data.map lift))[p]!).2) :
    ∑ j ∈ range (2 ^ k),
        nsq (cellC (cplxFft (if fma then "fma" else "ref") (2 ^ k)
          ((cplxFftEnts (2 ^ k)).map (valQ cN sN nsN ncN)).toArray data) j - exactOutC ζ k data j) ≤
      (((8 * (k + 1 : ℚ) * u64 : ℚ)) : K) ^ 2 * ∑ j ∈ range (2 ^ k), nsq (exactOutC ζ k data j) :=
  prop_of_err _ _ _ k hk (cplx_fft_err fma k ζ hζ hI cN sN nsN ncN hcs hncs data hdata hok).2

/-- **`cplx_ifft_err`** -/
theorem cplx_ifft_err (fma : Bool) (k : ℕ) (ζi : Cplx K) (hζ : nsq ζi = 1) (hI : ζi ^ 2 ^ k = -Ic) (cN sN : ℕ → ℕ)
    (hcs : ∀ ℓ d b, ℓ + d + 1 = k → b < 2 ^ ℓ →
      nsq (toC (((val (cN (twE ℓ d b)) : ℚ) : K), ((val (sN (twE ℓ d b)) : ℚ) : K)) - ζi ^ twE ℓ d b) ≤
        (((7 / 2 * u64 : ℚ)) : K) ^ 2)
    (data : Array ℕ) (hdata : data.size = 2 * 2 ^ k)
    (hok : ∀ p, p < 2 * 2 ^ k →
      ((cplxIfftA (cifamB fma (2 ^ k) aOk (lift 0)) (2 ^ k)
        ((((cplxIfftEnts (2 ^ k)).map (valP cN sN)).toArray).map lift) (data.map lift))[p]!).2) :
    (∀ p, p < 2 * 2 ^ k → Fin64 ((cplxIfft (if fma then "fma" else "ref") (2 ^ k)
        ((cplxIfftEnts (2 ^ k)).map (valP cN sN)).toArray data)[p]!)) ∧
    ∑ j ∈ range (2 ^ k),
        nsq (cellC (cplxIfft (if fma then "fma" else "ref") (2 ^ k)
          ((cplxIfftEnts (2 ^ k)).map (valP cN sN)).toArray data) j - exactInvC ζi k data j) ≤
      ((1 + ((8 * u64 : ℚ) : K)) ^ k - 1) ^ 2 * ∑ j ∈ range (2 ^ k), nsq (exactInvC ζi k data j) := by
  rw [cplxIfft_eq]
  exact cifft_err_fam fma k ζi hζ hI cN sN hcs data hdata hok

/-- **the property's bound** for the inverse cplx transform, `m ≤ 65536` -/
theorem cplx_ifft_err_prop (fma : Bool) (k : ℕ) (hk : k ≤ 16) (ζi : Cplx K) (hζ : nsq ζi = 1) (hI : ζi ^ 2 ^ k = -Ic)
    (cN sN : ℕ → ℕ)
    (hcs : ∀ ℓ d b, ℓ + d + 1 = k → b < 2 ^ ℓ →
      nsq (toC (((val (cN (twE ℓ d b)) : ℚ) : K), ((val (sN (twE ℓ d b)) : ℚ) : K)) - ζi ^ twE ℓ d b) ≤
        (((7 / 2 * u64 : ℚ)) : K) ^ 2)
    (data : Array ℕ) (hdata : data.size = 2 * 2 ^ k)
    (hok : ∀ p, p < 2 * 2 ^ k →
      ((cplxIfftA (cifamB fma (2 ^ k) aOk (lift 0)) (2 ^ k)
        ((((cplxIfftEnts (2 ^ k)).map (valP cN sN)).toArray).map lift) (data.map lift))[p]!).2) :
    ∑ j ∈ range (2 ^ k),
        nsq (cellC (cplxIfft (if fma then "fma" else "ref") (2 ^ k)
          ((cplxIfftEnts (2 ^ k)).map (valP cN sN)).toArray data) j - exactInvC ζi k data j) ≤
      (((8 * (k + 1 : ℚ) * u64 : ℚ)) : K) ^ 2 * ∑ j ∈ range (2 ^ k), nsq (exactInvC ζi k data j) :=
  prop_of_err _ _ _ k hk (cplx_ifft_err fma k ζi hζ hI cN sN hcs data hdata hok).2

/-- what `exactInvC` is: `FFT(exactInvC y) = m·y` and `exactInvC(FFT a) = m·a` -/
theorem exactInvC_fwd (k : ℕ) (ζ ζi : Cplx K) (hinv : ζ * ζi = 1) (data : Array ℕ) (j : ℕ) :
    V ζ (fun q => exactInvC ζi k data q) k 0 j = 2 ^ k * cellC data j :=
  V_WIk k ζ ζi hinv _ j

theorem exactInvC_of_evals (k : ℕ) (ζ ζi : Cplx K) (hinv : ζ * ζi = 1) (a : ℕ → Cplx K) (data : Array ℕ)
    (hdata : ∀ p, p < 2 ^ k → cellC data p = V ζ a k 0 p) (j : ℕ) (hj : j < 2 ^ k) :
    exactInvC ζi k data j = 2 ^ k * a j :=
  WIk_V_last k ζi ζ hinv a _ hdata j hj

/-- the hypotheses of `reim_fft_err` are satisfiable (K = ℚ, m = 1, `ζ = i`, data `(+0, +0)`); for `m ≥ 2` the roots
are irrational: take `K = ℝ`, `ζ = exp(iπ/2m)` -/
example : ∃ (ζ : Cplx ℚ) (data : Array ℕ), nsq ζ = 1 ∧ ζ ^ 2 ^ 0 = Ic ∧ data.size = 2 * 2 ^ 0 ∧
    ∀ p, p < 2 * 2 ^ 0 → ((reimFftA (famOf false aOk) (2 ^ 0)
      ((((reimFftEnts (2 ^ 0)).map (valP (fun _ => 0) (fun _ => 0))).toArray).map lift) (data.map lift))[p]!).2 := by
  refine ⟨Ic, #[0, 0], by simp [nsq, Ic], by simp, rfl, ?_⟩
  intro p hp
  have : p = 0 ∨ p = 1 := by omega
  rcases this with rfl | rfl <;> simp [reimFftA, fftRI, joinRI, splitRI, lift, fin64_zero]

/-- the hypotheses of `reim_ifft_err` are satisfiable (K = ℚ, m = 1, `ζi = −i`) -/
example : ∃ (ζi : Cplx ℚ) (data : Array ℕ), nsq ζi = 1 ∧ ζi ^ 2 ^ 0 = -Ic ∧ data.size = 2 * 2 ^ 0 ∧
    ∀ p, p < 2 * 2 ^ 0 → ((reimIfftA (ifamOf false aOk) (2 ^ 0)
      ((((reimIfftEnts (2 ^ 0)).map (valP (fun _ => 0) (fun _ => 0))).toArray).map lift) (data.map lift))[p]!).2 := by
  refine ⟨-Ic, #[0, 0], by simp [nsq, Ic], by simp, rfl, ?_⟩
  intro p hp
  have : p = 0 ∨ p = 1 := by omega
  rcases this with rfl | rfl <;> simp [reimIfftA, ifftRI, joinRI, splitRI, lift, fin64_zero]

/-- the hypotheses of `cplx_fft_err` / `cplx_ifft_err` are satisfiable (K = ℚ, m = 1) -/
example : ∃ (ζ : Cplx ℚ) (data : Array ℕ), nsq ζ = 1 ∧ ζ ^ 2 ^ 0 = Ic ∧ data.size = 2 * 2 ^ 0 ∧
    ∀ p, p < 2 * 2 ^ 0 → ((cplxFftA (cfamB false (2 ^ 0) aOk (lift 0)) (2 ^ 0)
      ((((cplxFftEnts (2 ^ 0)).map (valQ (fun _ => 0) (fun _ => 0) (fun _ => 0) (fun _ => 0))).toArray).map lift)
      (data.map lift))[p]!).2 := by
  refine ⟨Ic, #[0, 0], by simp [nsq, Ic], by simp, rfl, ?_⟩
  intro p hp
  have : p = 0 ∨ p = 1 := by omega
  rcases this with rfl | rfl <;> simp [cplxFftA, cfftRI, interleave, deinterleave, lift, fin64_zero]

example : ∃ (ζi : Cplx ℚ) (data : Array ℕ), nsq ζi = 1 ∧ ζi ^ 2 ^ 0 = -Ic ∧ data.size = 2 * 2 ^ 0 ∧
    ∀ p, p < 2 * 2 ^ 0 → ((cplxIfftA (cifamB false (2 ^ 0) aOk (lift 0)) (2 ^ 0)
      ((((cplxIfftEnts (2 ^ 0)).map (valP (fun _ => 0) (fun _ => 0))).toArray).map lift) (data.map lift))[p]!).2 := by
  refine ⟨-Ic, #[0, 0], by simp [nsq, Ic], by simp, rfl, ?_⟩
  intro p hp
  have : p = 0 ∨ p = 1 := by omega
  rcases this with rfl | rfl <;> simp [cplxIfftA, cifftRI, interleave, deinterleave, lift, fin64_zero]

end Spq.C06Err
