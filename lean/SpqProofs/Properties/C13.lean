/-
  C13 — supported in-place calls give the same result as out-of-place calls (limb-vector part:
  add/sub with res==a or res==b; copy/negate/rotate/automorphism with res==a; big variants).

  Formulation.  Two calls of the same operation with the same limb counts:
   * call 1 on heap `h`   with output `(res , rsl )` and sources `(a , asl )`, `(b , bsl )`;
   * call 2 on heap `h2`  with output `(res', rsl')` and sources `(a', asl')`, `(b', bsl')`.
  In each call every source is either the output itself (same offset and stride) or separate from it
  (`SrcOK`), independently for the two calls.  If the limbs the operation can read hold the same
  data in both settings (`SameSrc`), then every output coefficient `(i, c)`, `i < rsz`, `c < nn`,
  is the same (`<op>_call_indep`).  The in-place theorems (`<op>_inplace…`) instantiate call 1 with
  the aliased pattern and call 2 with separate buffers (`Sep`); all limb counts, including a
  `res_size` different from the aliased operand's size, all strides `≥ nn`, any arithmetic `o`.

  For rotate / automorphism the aliased call runs the in-place kernel and the separate call the
  out-of-place kernel; the kernel-level facts (proved in C09; `rotate_inplace_closed` and
  `automorphism_inplace_closed` below discharge them) are the explicit hypotheses
    hRotInplace : ∀ x, x.size = nn → Coeffs.rotateInplace o nn p x = Coeffs.rotate o nn p x
    hAutInplace : ∀ x z, x.size = nn → z.size = nn →
                    Coeffs.automorphismInplace o nn p x = Coeffs.automorphism o nn p x z
  (the second one, valid for odd `p`, also says that the out-of-place automorphism does not depend
  on the prior content `z` of its output).
-/
import SpqProofs.Properties.C08
import SpqProofs.Properties.C09
namespace Spq.C13
open Spq Heap C08
variable {α : Type}

/-! ### the result only depends on the source data, not on the aliasing pattern -/

theorem add_call_indep (o : Ops α) (nn : Nat) (h h2 : Heap α)
    (res rsz rsl a asz asl b bsz bsl res' rsl' a' asl' b' bsl' : Nat)
    (hsl : nn ≤ rsl) (hres : InBounds nn h.mem.size res rsz rsl)
    (ha : SrcOK nn res rsz rsl a asz asl) (hb : SrcOK nn res rsz rsl b bsz bsl)
    (hsl' : nn ≤ rsl') (hres' : InBounds nn h2.mem.size res' rsz rsl')
    (ha' : SrcOK nn res' rsz rsl' a' asz asl') (hb' : SrcOK nn res' rsz rsl' b' bsz bsl')
    (sa : SameSrc o.zero nn rsz h.mem a asz asl h2.mem a' asl')
    (sb : SameSrc o.zero nn rsz h.mem b bsz bsl h2.mem b' bsl') :
    ∀ i c, i < rsz → c < nn →
      (VecZnx.add o nn h res rsz rsl a asz asl b bsz bsl).mem[res + i * rsl + c]? =
      (VecZnx.add o nn h2 res' rsz rsl' a' asz asl' b' bsz bsl').mem[res' + i * rsl' + c]? := by
  rw [add_runNF, add_runNF]
  exact runNF_indep o.zero nn _ _ h h2 res rsz rsl a asz asl b bsz bsl res' rsl' a' asl' b' bsl'
    (kernOK_add ..) (kernOK_add ..) (fun _ _ _ _ _ _ _ _ _ => rfl) hsl hres ha hb hsl' hres' ha' hb' sa sb

theorem sub_call_indep (o : Ops α) (nn : Nat) (h h2 : Heap α)
    (res rsz rsl a asz asl b bsz bsl res' rsl' a' asl' b' bsl' : Nat)
    (hsl : nn ≤ rsl) (hres : InBounds nn h.mem.size res rsz rsl)
    (ha : SrcOK nn res rsz rsl a asz asl) (hb : SrcOK nn res rsz rsl b bsz bsl)
    (hsl' : nn ≤ rsl') (hres' : InBounds nn h2.mem.size res' rsz rsl')
    (ha' : SrcOK nn res' rsz rsl' a' asz asl') (hb' : SrcOK nn res' rsz rsl' b' bsz bsl')
    (sa : SameSrc o.zero nn rsz h.mem a asz asl h2.mem a' asl')
    (sb : SameSrc o.zero nn rsz h.mem b bsz bsl h2.mem b' bsl') :
    ∀ i c, i < rsz → c < nn →
      (VecZnx.sub o nn h res rsz rsl a asz asl b bsz bsl).mem[res + i * rsl + c]? =
      (VecZnx.sub o nn h2 res' rsz rsl' a' asz asl' b' bsz bsl').mem[res' + i * rsl' + c]? := by
  rw [sub_runNF, sub_runNF]
  exact runNF_indep o.zero nn _ _ h h2 res rsz rsl a asz asl b bsz bsl res' rsl' a' asl' b' bsl'
    (kernOK_sub ..) (kernOK_sub ..) (fun _ _ _ _ _ _ _ _ _ => rfl) hsl hres ha hb hsl' hres' ha' hb' sa sb

theorem copy_call_indep (o : Ops α) (nn : Nat) (h h2 : Heap α)
    (res rsz rsl a asz asl res' rsl' a' asl' : Nat)
    (hsl : nn ≤ rsl) (hres : InBounds nn h.mem.size res rsz rsl) (ha : SrcOK nn res rsz rsl a asz asl)
    (hsl' : nn ≤ rsl') (hres' : InBounds nn h2.mem.size res' rsz rsl') (ha' : SrcOK nn res' rsz rsl' a' asz asl')
    (sa : SameSrc o.zero nn rsz h.mem a asz asl h2.mem a' asl') :
    ∀ i c, i < rsz → c < nn →
      (VecZnx.copy o nn h res rsz rsl a asz asl).mem[res + i * rsl + c]? =
      (VecZnx.copy o nn h2 res' rsz rsl' a' asz asl').mem[res' + i * rsl' + c]? := by
  rw [copy_runNF, copy_runNF]
  exact runNF_indep o.zero nn _ _ h h2 res rsz rsl a asz asl res 0 rsl res' rsl' a' asl' res' rsl'
    (kernOK_copy ..) (kernOK_copy ..) (fun _ _ _ _ _ _ _ _ _ => rfl) hsl hres ha (Or.inl ⟨rfl, rfl⟩)
    hsl' hres' ha' (Or.inl ⟨rfl, rfl⟩) sa (fun i c hi => by omega)

theorem negate_call_indep (o : Ops α) (nn : Nat) (h h2 : Heap α)
    (res rsz rsl a asz asl res' rsl' a' asl' : Nat)
    (hsl : nn ≤ rsl) (hres : InBounds nn h.mem.size res rsz rsl) (ha : SrcOK nn res rsz rsl a asz asl)
    (hsl' : nn ≤ rsl') (hres' : InBounds nn h2.mem.size res' rsz rsl') (ha' : SrcOK nn res' rsz rsl' a' asz asl')
    (sa : SameSrc o.zero nn rsz h.mem a asz asl h2.mem a' asl') :
    ∀ i c, i < rsz → c < nn →
      (VecZnx.negate o nn h res rsz rsl a asz asl).mem[res + i * rsl + c]? =
      (VecZnx.negate o nn h2 res' rsz rsl' a' asz asl').mem[res' + i * rsl' + c]? := by
  rw [negate_runNF, negate_runNF]
  exact runNF_indep o.zero nn _ _ h h2 res rsz rsl a asz asl res 0 rsl res' rsl' a' asl' res' rsl'
    (kernOK_neg ..) (kernOK_neg ..) (fun _ _ _ _ _ _ _ _ _ => rfl) hsl hres ha (Or.inl ⟨rfl, rfl⟩)
    hsl' hres' ha' (Or.inl ⟨rfl, rfl⟩) sa (fun i c hi => by omega)

theorem rotate_call_indep (o : Ops α) (nn : Nat) (p : Int) (h h2 : Heap α)
    (res rsz rsl a asz asl res' rsl' a' asl' : Nat)
    (hRotInplace : ∀ x : Array α, x.size = nn → Coeffs.rotateInplace o nn p x = Coeffs.rotate o nn p x)
    (hsl : nn ≤ rsl) (hres : InBounds nn h.mem.size res rsz rsl) (ha : SrcOK nn res rsz rsl a asz asl)
    (hsl' : nn ≤ rsl') (hres' : InBounds nn h2.mem.size res' rsz rsl') (ha' : SrcOK nn res' rsz rsl' a' asz asl')
    (sa : SameSrc o.zero nn rsz h.mem a asz asl h2.mem a' asl') :
    ∀ i c, i < rsz → c < nn →
      (VecZnx.rotate o nn p h res rsz rsl a asz asl).mem[res + i * rsl + c]? =
      (VecZnx.rotate o nn p h2 res' rsz rsl' a' asz asl').mem[res' + i * rsl' + c]? := by
  rw [rotate_runNF, rotate_runNF]
  refine runNF_indep o.zero nn _ _ h h2 res rsz rsl a asz asl res 0 rsl res' rsl' a' asl' res' rsl'
    (kernOK_rot ..) (kernOK_rot ..) ?_ hsl hres ha (Or.inl ⟨rfl, rfl⟩) hsl' hres' ha' (Or.inl ⟨rfl, rfl⟩) sa
    (fun i c hi => by omega)
  -- the one fact about rotation: the in-place kernel computes what the out-of-place one does
  intro i x y z z' hx _ _ _
  unfold oneK rotKer
  split
  · split <;> split <;> simp only [hRotInplace x hx]
  · rfl

theorem automorphism_call_indep (o : Ops α) (nn : Nat) (p : Int) (h h2 : Heap α)
    (res rsz rsl a asz asl res' rsl' a' asl' : Nat)
    (hAutInplace : ∀ x z : Array α, x.size = nn → z.size = nn →
      Coeffs.automorphismInplace o nn p x = Coeffs.automorphism o nn p x z)
    (hsl : nn ≤ rsl) (hres : InBounds nn h.mem.size res rsz rsl) (ha : SrcOK nn res rsz rsl a asz asl)
    (hsl' : nn ≤ rsl') (hres' : InBounds nn h2.mem.size res' rsz rsl') (ha' : SrcOK nn res' rsz rsl' a' asz asl')
    (sa : SameSrc o.zero nn rsz h.mem a asz asl h2.mem a' asl') :
    ∀ i c, i < rsz → c < nn →
      (VecZnx.automorphism o nn p h res rsz rsl a asz asl).mem[res + i * rsl + c]? =
      (VecZnx.automorphism o nn p h2 res' rsz rsl' a' asz asl').mem[res' + i * rsl' + c]? := by
  rw [automorphism_runNF, automorphism_runNF]
  refine runNF_indep o.zero nn _ _ h h2 res rsz rsl a asz asl res 0 rsl res' rsl' a' asl' res' rsl'
    (kernOK_aut ..) (kernOK_aut ..) ?_ hsl hres ha (Or.inl ⟨rfl, rfl⟩) hsl' hres' ha' (Or.inl ⟨rfl, rfl⟩) sa
    (fun i c hi => by omega)
  -- the one fact about the automorphism: in place = out of place, whatever the output held before
  intro i x y z z' hx _ hz hz'
  unfold oneK autKer
  split
  · split <;> split
    · rfl
    · exact hAutInplace x z' hx hz'
    · exact (hAutInplace x z hx hz).symm
    · rw [← hAutInplace x z hx hz, ← hAutInplace x z' hx hz']
  · rfl

/-! ### in-place = out-of-place.  Call 1 is the aliased call on `h`; call 2 uses a separate output
    `(res', rsl')` on `h2`, whose sources `(a', asl')`, `(b', bsl')` are separate from that output
    and hold the data the aliased call reads. -/

/-- `vec_znx_add(res, res, b)`: `res == a` -/
theorem add_inplace_a (o : Ops α) (nn : Nat) (h h2 : Heap α)
    (res rsz rsl asz b bsz bsl res' rsl' a' asl' b' bsl' : Nat)
    (hsl : nn ≤ rsl) (hres : InBounds nn h.mem.size res rsz rsl) (hb : SrcOK nn res rsz rsl b bsz bsl)
    (hsl' : nn ≤ rsl') (hres' : InBounds nn h2.mem.size res' rsz rsl')
    (ha' : Sep nn res' rsz rsl' a' asz asl') (hb' : Sep nn res' rsz rsl' b' bsz bsl')
    (sa : SameSrc o.zero nn rsz h.mem res asz rsl h2.mem a' asl')
    (sb : SameSrc o.zero nn rsz h.mem b bsz bsl h2.mem b' bsl') :
    ∀ i c, i < rsz → c < nn →
      (VecZnx.add o nn h res rsz rsl res asz rsl b bsz bsl).mem[res + i * rsl + c]? =
      (VecZnx.add o nn h2 res' rsz rsl' a' asz asl' b' bsz bsl').mem[res' + i * rsl' + c]? :=
  add_call_indep o nn h h2 res rsz rsl res asz rsl b bsz bsl res' rsl' a' asl' b' bsl'
    hsl hres (Or.inl ⟨rfl, rfl⟩) hb hsl' hres' ha'.srcOK hb'.srcOK sa sb

/-- `vec_znx_add(res, a, res)`: `res == b` -/
theorem add_inplace_b (o : Ops α) (nn : Nat) (h h2 : Heap α)
    (res rsz rsl a asz asl bsz res' rsl' a' asl' b' bsl' : Nat)
    (hsl : nn ≤ rsl) (hres : InBounds nn h.mem.size res rsz rsl) (ha : SrcOK nn res rsz rsl a asz asl)
    (hsl' : nn ≤ rsl') (hres' : InBounds nn h2.mem.size res' rsz rsl')
    (ha' : Sep nn res' rsz rsl' a' asz asl') (hb' : Sep nn res' rsz rsl' b' bsz bsl')
    (sa : SameSrc o.zero nn rsz h.mem a asz asl h2.mem a' asl')
    (sb : SameSrc o.zero nn rsz h.mem res bsz rsl h2.mem b' bsl') :
    ∀ i c, i < rsz → c < nn →
      (VecZnx.add o nn h res rsz rsl a asz asl res bsz rsl).mem[res + i * rsl + c]? =
      (VecZnx.add o nn h2 res' rsz rsl' a' asz asl' b' bsz bsl').mem[res' + i * rsl' + c]? :=
  add_call_indep o nn h h2 res rsz rsl a asz asl res bsz rsl res' rsl' a' asl' b' bsl'
    hsl hres ha (Or.inl ⟨rfl, rfl⟩) hsl' hres' ha'.srcOK hb'.srcOK sa sb

/-- `vec_znx_sub(res, res, b)`: `res == a` -/
theorem sub_inplace_a (o : Ops α) (nn : Nat) (h h2 : Heap α)
    (res rsz rsl asz b bsz bsl res' rsl' a' asl' b' bsl' : Nat)
    (hsl : nn ≤ rsl) (hres : InBounds nn h.mem.size res rsz rsl) (hb : SrcOK nn res rsz rsl b bsz bsl)
    (hsl' : nn ≤ rsl') (hres' : InBounds nn h2.mem.size res' rsz rsl')
    (ha' : Sep nn res' rsz rsl' a' asz asl') (hb' : Sep nn res' rsz rsl' b' bsz bsl')
    (sa : SameSrc o.zero nn rsz h.mem res asz rsl h2.mem a' asl')
    (sb : SameSrc o.zero nn rsz h.mem b bsz bsl h2.mem b' bsl') :
    ∀ i c, i < rsz → c < nn →
      (VecZnx.sub o nn h res rsz rsl res asz rsl b bsz bsl).mem[res + i * rsl + c]? =
      (VecZnx.sub o nn h2 res' rsz rsl' a' asz asl' b' bsz bsl').mem[res' + i * rsl' + c]? :=
  sub_call_indep o nn h h2 res rsz rsl res asz rsl b bsz bsl res' rsl' a' asl' b' bsl'
    hsl hres (Or.inl ⟨rfl, rfl⟩) hb hsl' hres' ha'.srcOK hb'.srcOK sa sb

/-- `vec_znx_sub(res, a, res)`: `res == b` -/
theorem sub_inplace_b (o : Ops α) (nn : Nat) (h h2 : Heap α)
    (res rsz rsl a asz asl bsz res' rsl' a' asl' b' bsl' : Nat)
    (hsl : nn ≤ rsl) (hres : InBounds nn h.mem.size res rsz rsl) (ha : SrcOK nn res rsz rsl a asz asl)
    (hsl' : nn ≤ rsl') (hres' : InBounds nn h2.mem.size res' rsz rsl')
    (ha' : Sep nn res' rsz rsl' a' asz asl') (hb' : Sep nn res' rsz rsl' b' bsz bsl')
    (sa : SameSrc o.zero nn rsz h.mem a asz asl h2.mem a' asl')
    (sb : SameSrc o.zero nn rsz h.mem res bsz rsl h2.mem b' bsl') :
    ∀ i c, i < rsz → c < nn →
      (VecZnx.sub o nn h res rsz rsl a asz asl res bsz rsl).mem[res + i * rsl + c]? =
      (VecZnx.sub o nn h2 res' rsz rsl' a' asz asl' b' bsz bsl').mem[res' + i * rsl' + c]? :=
  sub_call_indep o nn h h2 res rsz rsl a asz asl res bsz rsl res' rsl' a' asl' b' bsl'
    hsl hres ha (Or.inl ⟨rfl, rfl⟩) hsl' hres' ha'.srcOK hb'.srcOK sa sb

/-- `vec_znx_copy(res, res)` (a no-op on the first `min` limbs, zero-fill past `asz`) -/
theorem copy_inplace (o : Ops α) (nn : Nat) (h h2 : Heap α) (res rsz rsl asz res' rsl' a' asl' : Nat)
    (hsl : nn ≤ rsl) (hres : InBounds nn h.mem.size res rsz rsl)
    (hsl' : nn ≤ rsl') (hres' : InBounds nn h2.mem.size res' rsz rsl') (ha' : Sep nn res' rsz rsl' a' asz asl')
    (sa : SameSrc o.zero nn rsz h.mem res asz rsl h2.mem a' asl') :
    ∀ i c, i < rsz → c < nn →
      (VecZnx.copy o nn h res rsz rsl res asz rsl).mem[res + i * rsl + c]? =
      (VecZnx.copy o nn h2 res' rsz rsl' a' asz asl').mem[res' + i * rsl' + c]? :=
  copy_call_indep o nn h h2 res rsz rsl res asz rsl res' rsl' a' asl'
    hsl hres (Or.inl ⟨rfl, rfl⟩) hsl' hres' ha'.srcOK sa

/-- `vec_znx_negate(res, res)` -/
theorem negate_inplace (o : Ops α) (nn : Nat) (h h2 : Heap α) (res rsz rsl asz res' rsl' a' asl' : Nat)
    (hsl : nn ≤ rsl) (hres : InBounds nn h.mem.size res rsz rsl)
    (hsl' : nn ≤ rsl') (hres' : InBounds nn h2.mem.size res' rsz rsl') (ha' : Sep nn res' rsz rsl' a' asz asl')
    (sa : SameSrc o.zero nn rsz h.mem res asz rsl h2.mem a' asl') :
    ∀ i c, i < rsz → c < nn →
      (VecZnx.negate o nn h res rsz rsl res asz rsl).mem[res + i * rsl + c]? =
      (VecZnx.negate o nn h2 res' rsz rsl' a' asz asl').mem[res' + i * rsl' + c]? :=
  negate_call_indep o nn h h2 res rsz rsl res asz rsl res' rsl' a' asl'
    hsl hres (Or.inl ⟨rfl, rfl⟩) hsl' hres' ha'.srcOK sa

/-- `vec_znx_rotate(p, res, res)`: every limb goes through `znx_rotate_inplace_i64`, the separate call
    through `znx_rotate_i64` -/
theorem rotate_inplace (o : Ops α) (nn : Nat) (p : Int) (h h2 : Heap α) (res rsz rsl asz res' rsl' a' asl' : Nat)
    (hRotInplace : ∀ x : Array α, x.size = nn → Coeffs.rotateInplace o nn p x = Coeffs.rotate o nn p x)
    (hsl : nn ≤ rsl) (hres : InBounds nn h.mem.size res rsz rsl)
    (hsl' : nn ≤ rsl') (hres' : InBounds nn h2.mem.size res' rsz rsl') (ha' : Sep nn res' rsz rsl' a' asz asl')
    (sa : SameSrc o.zero nn rsz h.mem res asz rsl h2.mem a' asl') :
    ∀ i c, i < rsz → c < nn →
      (VecZnx.rotate o nn p h res rsz rsl res asz rsl).mem[res + i * rsl + c]? =
      (VecZnx.rotate o nn p h2 res' rsz rsl' a' asz asl').mem[res' + i * rsl' + c]? :=
  rotate_call_indep o nn p h h2 res rsz rsl res asz rsl res' rsl' a' asl' hRotInplace
    hsl hres (Or.inl ⟨rfl, rfl⟩) hsl' hres' ha'.srcOK sa

/-- `vec_znx_automorphism(p, res, res)` -/
theorem automorphism_inplace (o : Ops α) (nn : Nat) (p : Int) (h h2 : Heap α)
    (res rsz rsl asz res' rsl' a' asl' : Nat)
    (hAutInplace : ∀ x z : Array α, x.size = nn → z.size = nn →
      Coeffs.automorphismInplace o nn p x = Coeffs.automorphism o nn p x z)
    (hsl : nn ≤ rsl) (hres : InBounds nn h.mem.size res rsz rsl)
    (hsl' : nn ≤ rsl') (hres' : InBounds nn h2.mem.size res' rsz rsl') (ha' : Sep nn res' rsz rsl' a' asz asl')
    (sa : SameSrc o.zero nn rsz h.mem res asz rsl h2.mem a' asl') :
    ∀ i c, i < rsz → c < nn →
      (VecZnx.automorphism o nn p h res rsz rsl res asz rsl).mem[res + i * rsl + c]? =
      (VecZnx.automorphism o nn p h2 res' rsz rsl' a' asz asl').mem[res' + i * rsl' + c]? :=
  automorphism_call_indep o nn p h h2 res rsz rsl res asz rsl res' rsl' a' asl' hAutInplace
    hsl hres (Or.inl ⟨rfl, rfl⟩) hsl' hres' ha'.srcOK sa

/-- the aliased rotation on `h` really is the in-place kernel on every limb it reads, and the
    separate one the out-of-place kernel (so `rotate_inplace` compares the two kernels) -/
theorem rotate_inplace_kernels (o : Ops α) (nn : Nat) (p : Int) (h h2 : Heap α)
    (res rsl asz res' rsz rsl' a' asl' i : Nat) (hi : i < asz) (hj : i < rsz) (hnn : 0 < nn)
    (ha' : Sep nn res' rsz rsl' a' asz asl') :
    rotLimb o nn p h res rsl res asz rsl i = Coeffs.rotateInplace o nn p (h.readLimb o.zero (res + i * rsl) nn) ∧
    rotLimb o nn p h2 res' rsl' a' asz asl' i = Coeffs.rotate o nn p (h2.readLimb o.zero (a' + i * asl') nn) := by
  have := ha' i i hi hj
  have hne : ¬ res' + i * rsl' = a' + i * asl' := by omega
  simp [rotLimb, hi, hne]

/-! ### closed forms: the kernel hypotheses `hRotInplace` / `hAutInplace` discharged by C09
    (in-place rotation = out-of-place rotation for every `nn` and `p`; in-place automorphism = out-of-place
    automorphism for every `nn = 2^t`, `t ≤ 64`, and odd `p`, independent of the prior output content) -/

/-- `vec_znx_rotate(p, res, res)` equals the call with a separate output buffer — no kernel hypothesis -/
theorem rotate_inplace_closed (o : Ops α) (nn : Nat) (p : Int) (h h2 : Heap α) (res rsz rsl asz res' rsl' a' asl' : Nat)
    (hsl : nn ≤ rsl) (hres : InBounds nn h.mem.size res rsz rsl)
    (hsl' : nn ≤ rsl') (hres' : InBounds nn h2.mem.size res' rsz rsl') (ha' : Sep nn res' rsz rsl' a' asz asl')
    (sa : SameSrc o.zero nn rsz h.mem res asz rsl h2.mem a' asl') :
    ∀ i c, i < rsz → c < nn →
      (VecZnx.rotate o nn p h res rsz rsl res asz rsl).mem[res + i * rsl + c]? =
      (VecZnx.rotate o nn p h2 res' rsz rsl' a' asz asl').mem[res' + i * rsl' + c]? :=
  rotate_inplace o nn p h h2 res rsz rsl asz res' rsl' a' asl'
    (fun x hx => C09.rotate_inplace_eq o nn p x hx) hsl hres hsl' hres' ha' sa

/-- `vec_znx_automorphism(p, res, res)`, `nn = 2^t`, odd `p` — no kernel hypothesis -/
theorem automorphism_inplace_closed (o : Ops α) (t : Nat) (ht : t ≤ 64) (p : Int) (hp : p % 2 = 1) (h h2 : Heap α)
    (res rsz rsl asz res' rsl' a' asl' : Nat)
    (hsl : 2 ^ t ≤ rsl) (hres : InBounds (2 ^ t) h.mem.size res rsz rsl)
    (hsl' : 2 ^ t ≤ rsl') (hres' : InBounds (2 ^ t) h2.mem.size res' rsz rsl') (ha' : Sep (2 ^ t) res' rsz rsl' a' asz asl')
    (sa : SameSrc o.zero (2 ^ t) rsz h.mem res asz rsl h2.mem a' asl') :
    ∀ i c, i < rsz → c < 2 ^ t →
      (VecZnx.automorphism o (2 ^ t) p h res rsz rsl res asz rsl).mem[res + i * rsl + c]? =
      (VecZnx.automorphism o (2 ^ t) p h2 res' rsz rsl' a' asz asl').mem[res' + i * rsl' + c]? :=
  automorphism_inplace o (2 ^ t) p h h2 res rsz rsl asz res' rsl' a' asl'
    (fun x z hx hz => C09.autom_inplace_eq o t ht p hp x z hx hz) hsl hres hsl' hres' ha' sa

/-- `vec_znx_big_add(res, res, b)` -/
theorem big_add_inplace_a (o : Ops α) (nn : Nat) (h h2 : Heap α) (res rsz asz b bsz res' a' b' : Nat)
    (hres : InBounds nn h.mem.size res rsz nn) (hb : SrcOK nn res rsz nn b bsz nn)
    (hres' : InBounds nn h2.mem.size res' rsz nn)
    (ha' : Sep nn res' rsz nn a' asz nn) (hb' : Sep nn res' rsz nn b' bsz nn)
    (sa : SameSrc o.zero nn rsz h.mem res asz nn h2.mem a' nn)
    (sb : SameSrc o.zero nn rsz h.mem b bsz nn h2.mem b' nn) :
    ∀ i c, i < rsz → c < nn →
      (VecZnxBig.add o nn h res rsz res asz b bsz).mem[res + i * nn + c]? =
      (VecZnxBig.add o nn h2 res' rsz a' asz b' bsz).mem[res' + i * nn + c]? :=
  add_inplace_a o nn h h2 res rsz nn asz b bsz nn res' nn a' nn b' nn
    (Nat.le_refl _) hres hb (Nat.le_refl _) hres' ha' hb' sa sb

/-- `vec_znx_big_add(res, a, res)` -/
theorem big_add_inplace_b (o : Ops α) (nn : Nat) (h h2 : Heap α) (res rsz a asz bsz res' a' b' : Nat)
    (hres : InBounds nn h.mem.size res rsz nn) (ha : SrcOK nn res rsz nn a asz nn)
    (hres' : InBounds nn h2.mem.size res' rsz nn)
    (ha' : Sep nn res' rsz nn a' asz nn) (hb' : Sep nn res' rsz nn b' bsz nn)
    (sa : SameSrc o.zero nn rsz h.mem a asz nn h2.mem a' nn)
    (sb : SameSrc o.zero nn rsz h.mem res bsz nn h2.mem b' nn) :
    ∀ i c, i < rsz → c < nn →
      (VecZnxBig.add o nn h res rsz a asz res bsz).mem[res + i * nn + c]? =
      (VecZnxBig.add o nn h2 res' rsz a' asz b' bsz).mem[res' + i * nn + c]? :=
  add_inplace_b o nn h h2 res rsz nn a asz nn bsz res' nn a' nn b' nn
    (Nat.le_refl _) hres ha (Nat.le_refl _) hres' ha' hb' sa sb

/-- `vec_znx_big_add_small(res, res, b)`: big `a` aliased with `res`, small `b` of any stride -/
theorem big_add_small_inplace_a (o : Ops α) (nn : Nat) (h h2 : Heap α)
    (res rsz asz b bsz bsl res' a' b' bsl' : Nat)
    (hres : InBounds nn h.mem.size res rsz nn) (hb : SrcOK nn res rsz nn b bsz bsl)
    (hres' : InBounds nn h2.mem.size res' rsz nn)
    (ha' : Sep nn res' rsz nn a' asz nn) (hb' : Sep nn res' rsz nn b' bsz bsl')
    (sa : SameSrc o.zero nn rsz h.mem res asz nn h2.mem a' nn)
    (sb : SameSrc o.zero nn rsz h.mem b bsz bsl h2.mem b' bsl') :
    ∀ i c, i < rsz → c < nn →
      (VecZnxBig.addSmall o nn h res rsz res asz b bsz bsl).mem[res + i * nn + c]? =
      (VecZnxBig.addSmall o nn h2 res' rsz a' asz b' bsz bsl').mem[res' + i * nn + c]? :=
  add_inplace_a o nn h h2 res rsz nn asz b bsz bsl res' nn a' nn b' bsl'
    (Nat.le_refl _) hres hb (Nat.le_refl _) hres' ha' hb' sa sb

/-- `vec_znx_big_sub(res, res, b)` -/
theorem big_sub_inplace_a (o : Ops α) (nn : Nat) (h h2 : Heap α) (res rsz asz b bsz res' a' b' : Nat)
    (hres : InBounds nn h.mem.size res rsz nn) (hb : SrcOK nn res rsz nn b bsz nn)
    (hres' : InBounds nn h2.mem.size res' rsz nn)
    (ha' : Sep nn res' rsz nn a' asz nn) (hb' : Sep nn res' rsz nn b' bsz nn)
    (sa : SameSrc o.zero nn rsz h.mem res asz nn h2.mem a' nn)
    (sb : SameSrc o.zero nn rsz h.mem b bsz nn h2.mem b' nn) :
    ∀ i c, i < rsz → c < nn →
      (VecZnxBig.sub o nn h res rsz res asz b bsz).mem[res + i * nn + c]? =
      (VecZnxBig.sub o nn h2 res' rsz a' asz b' bsz).mem[res' + i * nn + c]? :=
  sub_inplace_a o nn h h2 res rsz nn asz b bsz nn res' nn a' nn b' nn
    (Nat.le_refl _) hres hb (Nat.le_refl _) hres' ha' hb' sa sb

/-- `vec_znx_big_sub(res, a, res)` -/
theorem big_sub_inplace_b (o : Ops α) (nn : Nat) (h h2 : Heap α) (res rsz a asz bsz res' a' b' : Nat)
    (hres : InBounds nn h.mem.size res rsz nn) (ha : SrcOK nn res rsz nn a asz nn)
    (hres' : InBounds nn h2.mem.size res' rsz nn)
    (ha' : Sep nn res' rsz nn a' asz nn) (hb' : Sep nn res' rsz nn b' bsz nn)
    (sa : SameSrc o.zero nn rsz h.mem a asz nn h2.mem a' nn)
    (sb : SameSrc o.zero nn rsz h.mem res bsz nn h2.mem b' nn) :
    ∀ i c, i < rsz → c < nn →
      (VecZnxBig.sub o nn h res rsz a asz res bsz).mem[res + i * nn + c]? =
      (VecZnxBig.sub o nn h2 res' rsz a' asz b' bsz).mem[res' + i * nn + c]? :=
  sub_inplace_b o nn h h2 res rsz nn a asz nn bsz res' nn a' nn b' nn
    (Nat.le_refl _) hres ha (Nat.le_refl _) hres' ha' hb' sa sb

/-- `vec_znx_big_sub_small_b(res, res, b)`: big `a` aliased, small `b` -/
theorem big_sub_small_b_inplace_a (o : Ops α) (nn : Nat) (h h2 : Heap α)
    (res rsz asz b bsz bsl res' a' b' bsl' : Nat)
    (hres : InBounds nn h.mem.size res rsz nn) (hb : SrcOK nn res rsz nn b bsz bsl)
    (hres' : InBounds nn h2.mem.size res' rsz nn)
    (ha' : Sep nn res' rsz nn a' asz nn) (hb' : Sep nn res' rsz nn b' bsz bsl')
    (sa : SameSrc o.zero nn rsz h.mem res asz nn h2.mem a' nn)
    (sb : SameSrc o.zero nn rsz h.mem b bsz bsl h2.mem b' bsl') :
    ∀ i c, i < rsz → c < nn →
      (VecZnxBig.subSmallB o nn h res rsz res asz b bsz bsl).mem[res + i * nn + c]? =
      (VecZnxBig.subSmallB o nn h2 res' rsz a' asz b' bsz bsl').mem[res' + i * nn + c]? :=
  sub_inplace_a o nn h h2 res rsz nn asz b bsz bsl res' nn a' nn b' bsl'
    (Nat.le_refl _) hres hb (Nat.le_refl _) hres' ha' hb' sa sb

/-- `vec_znx_big_sub_small_a(res, a, res)`: small `a`, big `b` aliased -/
theorem big_sub_small_a_inplace_b (o : Ops α) (nn : Nat) (h h2 : Heap α)
    (res rsz a asz asl bsz res' a' asl' b' : Nat)
    (hres : InBounds nn h.mem.size res rsz nn) (ha : SrcOK nn res rsz nn a asz asl)
    (hres' : InBounds nn h2.mem.size res' rsz nn)
    (ha' : Sep nn res' rsz nn a' asz asl') (hb' : Sep nn res' rsz nn b' bsz nn)
    (sa : SameSrc o.zero nn rsz h.mem a asz asl h2.mem a' asl')
    (sb : SameSrc o.zero nn rsz h.mem res bsz nn h2.mem b' nn) :
    ∀ i c, i < rsz → c < nn →
      (VecZnxBig.subSmallA o nn h res rsz a asz asl res bsz).mem[res + i * nn + c]? =
      (VecZnxBig.subSmallA o nn h2 res' rsz a' asz asl' b' bsz).mem[res' + i * nn + c]? :=
  sub_inplace_b o nn h h2 res rsz nn a asz asl bsz res' nn a' asl' b' nn
    (Nat.le_refl _) hres ha (Nat.le_refl _) hres' ha' hb' sa sb

/-- `vec_znx_big_rotate(p, res, res)` -/
theorem big_rotate_inplace (o : Ops α) (nn : Nat) (p : Int) (h h2 : Heap α) (res rsz asz res' a' : Nat)
    (hRotInplace : ∀ x : Array α, x.size = nn → Coeffs.rotateInplace o nn p x = Coeffs.rotate o nn p x)
    (hres : InBounds nn h.mem.size res rsz nn)
    (hres' : InBounds nn h2.mem.size res' rsz nn) (ha' : Sep nn res' rsz nn a' asz nn)
    (sa : SameSrc o.zero nn rsz h.mem res asz nn h2.mem a' nn) :
    ∀ i c, i < rsz → c < nn →
      (VecZnxBig.rotate o nn p h res rsz res asz).mem[res + i * nn + c]? =
      (VecZnxBig.rotate o nn p h2 res' rsz a' asz).mem[res' + i * nn + c]? :=
  rotate_inplace o nn p h h2 res rsz nn asz res' nn a' nn hRotInplace
    (Nat.le_refl _) hres (Nat.le_refl _) hres' ha' sa

/-- `vec_znx_big_automorphism(p, res, res)` -/
theorem big_automorphism_inplace (o : Ops α) (nn : Nat) (p : Int) (h h2 : Heap α) (res rsz asz res' a' : Nat)
    (hAutInplace : ∀ x z : Array α, x.size = nn → z.size = nn →
      Coeffs.automorphismInplace o nn p x = Coeffs.automorphism o nn p x z)
    (hres : InBounds nn h.mem.size res rsz nn)
    (hres' : InBounds nn h2.mem.size res' rsz nn) (ha' : Sep nn res' rsz nn a' asz nn)
    (sa : SameSrc o.zero nn rsz h.mem res asz nn h2.mem a' nn) :
    ∀ i c, i < rsz → c < nn →
      (VecZnxBig.automorphism o nn p h res rsz res asz).mem[res + i * nn + c]? =
      (VecZnxBig.automorphism o nn p h2 res' rsz a' asz).mem[res' + i * nn + c]? :=
  automorphism_inplace o nn p h h2 res rsz nn asz res' nn a' nn hAutInplace
    (Nat.le_refl _) hres (Nat.le_refl _) hres' ha' sa

/-! ### the hypotheses are satisfiable: `nn = 2`.
    Heap 1 (`exHeap` of C08): res = a at 0 (stride 3, `a` has 1 limb, `res` 3 limbs), b at 9
    (2 limbs, stride 2).  Heap 2: a fresh output at 0 (stride 2, garbage 99), a' at 6 (stride 2),
    b' at 8 (stride 3), holding the same source data. -/

def exHeap2 : Heap Int := ⟨#[99, 99, 99, 99, 99, 99, 1, 2, 10, 20, 88, 30, 40], true⟩

example := add_inplace_a i64Ops 2 exHeap exHeap2 0 3 3 1 9 2 2 0 2 6 2 8 3 (by omega)
  (by intro i hi; simp [exHeap]; omega) (Or.inr (by intro i j hi hj; omega)) (by omega)
  (by intro i hi; simp [exHeap2]; omega) (by intro i j hi hj; omega) (by intro i j hi hj; omega)
  (by intro i c hi _ hc
      have : i = 0 := by omega
      subst this
      have : c = 0 ∨ c = 1 := by omega
      rcases this with rfl | rfl <;> decide)
  (by intro i c hi _ hc
      have h1 : i = 0 ∨ i = 1 := by omega
      have h2 : c = 0 ∨ c = 1 := by omega
      rcases h1 with rfl | rfl <;> rcases h2 with rfl | rfl <;> decide)

/-- and indeed: the aliased call and the separate call produce the same three output limbs -/
example : (VecZnx.add i64Ops 2 exHeap 0 3 3 0 1 3 9 2 2).mem
    = #[11, 22, 77, 30, 40, 77, 0, 0, 77, 10, 20, 30, 40] := by decide
example : (VecZnx.add i64Ops 2 exHeap2 0 3 2 6 1 2 8 2 3).mem
    = #[11, 22, 30, 40, 0, 0, 1, 2, 10, 20, 88, 30, 40] := by decide
/-- in-place rotation by `p = 1` (res == a, one source limb, three output limbs) vs separate -/
example : (VecZnx.rotate i64Ops 2 1 exHeap 0 3 3 0 1 3).mem
    = #[-2, 1, 77, 0, 0, 77, 0, 0, 77, 10, 20, 30, 40] := by decide
example : (VecZnx.rotate i64Ops 2 1 exHeap2 0 3 2 6 1 2).mem
    = #[-2, 1, 0, 0, 0, 0, 1, 2, 10, 20, 88, 30, 40] := by decide
/-- the kernel hypotheses are satisfiable: at `nn = 2` they hold for all inputs (`p = 1`, resp. the
    odd `p = 3`), so `rotate_inplace` / `automorphism_inplace` apply to the heaps above
    (res == a with one source limb and three output limbs vs. separate buffers) -/
example := rotate_inplace i64Ops 2 1 exHeap exHeap2 0 3 3 1 0 2 6 2
  (by intro x hx
      obtain ⟨l⟩ := x
      match l, hx with
      | [u, v], _ => rfl)
  (by omega) (by intro i hi; simp [exHeap]; omega) (by omega)
  (by intro i hi; simp [exHeap2]; omega) (by intro i j hi hj; omega)
  (by intro i c hi _ hc
      have : i = 0 := by omega
      subst this
      have : c = 0 ∨ c = 1 := by omega
      rcases this with rfl | rfl <;> decide)
example := automorphism_inplace i64Ops 2 3 exHeap exHeap2 0 3 3 1 0 2 6 2
  (by intro x z hx hz
      obtain ⟨l⟩ := x
      obtain ⟨l2⟩ := z
      match l, hx, l2, hz with
      | [u, v], _, [s, t], _ => rfl)
  (by omega) (by intro i hi; simp [exHeap]; omega) (by omega)
  (by intro i hi; simp [exHeap2]; omega) (by intro i j hi hj; omega)
  (by intro i c hi _ hc
      have : i = 0 := by omega
      subst this
      have : c = 0 ∨ c = 1 := by omega
      rcases this with rfl | rfl <;> decide)

end Spq.C13
