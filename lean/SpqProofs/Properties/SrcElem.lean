/-
  SrcElem: the C SOURCE equals the hand-written model, for all inputs — element-wise kernels znx_add/sub/negate/copy/zero_i64_ref (property C08: the per-limb kernels of the vec_znx operations).
  Conventions of the statements:
  * `mem : Mem` is the whole memory (array of buffers of 64-bit cells); pointer parameter `i` is bound to
    `some (b, 0)` = start of buffer `b`; the buffers passed have EXACTLY `nn` cells (`(buf mem b).size = nn`);
  * buffer indices may coincide where the C contract allows aliasing (element-wise kernels: any aliasing);
  * `∀ fuel, F nn ≤ fuel → …`: explicit sufficient fuel (one unit per loop iteration);
  * `src_<f>_no_oob`: for EVERY fuel the run is not an out-of-bounds / null / overlap / ub / unsupported error
    (it is the model result, or `Err.fuel` when the fuel is below the bound).
-/
import Gen.CSrc
import Spq.Coeffs
import SpqProofs.Lemmas.SrcFill
import SpqProofs.Lemmas.SrcFuel
import SpqProofs.Lemmas.SrcElemKern
namespace Spq.Src
open Spq Spq.CIR

/-! ### element-wise kernels: any aliasing between `res`, `a`, `b` -/

theorem src_znx_add_i64_ref_eq_model (nn : Nat) (hnn : nn < 18446744073709551616) (mem : Mem) (r a b : Nat)
    (hr : (buf mem r).size = nn) (ha : (buf mem a).size = nn) (hb : (buf mem b).size = nn) :
    ∀ fuel, nn ≤ fuel →
      run fuel Gen.CSrc.znx_add_i64_ref [(nn : Int)] [some (r, 0), some (a, 0), some (b, 0)] mem
        = .ok (mem.setIfInBounds r (Coeffs.add i64Ops nn (buf mem a) (buf mem b))) := by
  intro fuel hf
  have h := znx_add_i64_ref_windows nn mem r 0 a 0 (by omega) (by omega) (fun _ => .inl rfl) b 0 (by omega)
    (fun _ => .inl rfl) hnn fuel hf
  rwa [win_whole _ _ ha, win_whole _ _ hb, wset_whole _ _ _ (by rw [hr]; exact Array.size_ofFn)] at h

theorem src_znx_sub_i64_ref_eq_model (nn : Nat) (hnn : nn < 18446744073709551616) (mem : Mem) (r a b : Nat)
    (hr : (buf mem r).size = nn) (ha : (buf mem a).size = nn) (hb : (buf mem b).size = nn) :
    ∀ fuel, nn ≤ fuel →
      run fuel Gen.CSrc.znx_sub_i64_ref [(nn : Int)] [some (r, 0), some (a, 0), some (b, 0)] mem
        = .ok (mem.setIfInBounds r (Coeffs.sub i64Ops nn (buf mem a) (buf mem b))) := by
  intro fuel hf
  have h := znx_sub_i64_ref_windows nn mem r 0 a 0 (by omega) (by omega) (fun _ => .inl rfl) b 0 (by omega)
    (fun _ => .inl rfl) hnn fuel hf
  rwa [win_whole _ _ ha, win_whole _ _ hb, wset_whole _ _ _ (by rw [hr]; exact Array.size_ofFn)] at h

theorem src_znx_negate_i64_ref_eq_model (nn : Nat) (hnn : nn < 18446744073709551616) (mem : Mem) (r a : Nat)
    (hr : (buf mem r).size = nn) (ha : (buf mem a).size = nn) :
    ∀ fuel, nn ≤ fuel →
      run fuel Gen.CSrc.znx_negate_i64_ref [(nn : Int)] [some (r, 0), some (a, 0)] mem
        = .ok (mem.setIfInBounds r (Coeffs.negate i64Ops nn (buf mem a))) := by
  intro fuel hf
  have h := znx_negate_i64_ref_windows nn mem r 0 a 0 (by omega) (by omega) (fun _ => .inl rfl) hnn fuel hf
  rwa [win_whole _ _ ha, wset_whole _ _ _ (by rw [hr]; exact Array.size_ofFn)] at h

/-! ### `memcpy` / `memset` bodies.  The byte count `nn * sizeof(int64_t)` is computed in `uint64_t`: the
    statement needs `nn < 2^61` (for larger `nn` the product wraps and the C code copies fewer cells). -/

theorem src_znx_copy_i64_ref_eq_model (nn : Nat) (hnn : nn < 2305843009213693952) (mem : Mem) (r a : Nat)
    (hr : (buf mem r).size = nn) (ha : (buf mem a).size = nn) :
    ∀ fuel, run fuel Gen.CSrc.znx_copy_i64_ref [(nn : Int)] [some (r, 0), some (a, 0)] mem
        = .ok (mem.setIfInBounds r (Coeffs.copy i64Ops nn (buf mem a))) := by
  intro fuel
  have h := znx_copy_i64_ref_windows nn hnn mem r 0 a 0 (by omega) (by omega) (fun _ => .inl rfl) fuel
  rwa [win_whole _ _ ha, wset_whole _ _ _ (by rw [hr]; exact Array.size_ofFn)] at h

theorem src_znx_zero_i64_ref_eq_model (nn : Nat) (hnn : nn < 2305843009213693952) (mem : Mem) (r : Nat)
    (hr : (buf mem r).size = nn) :
    ∀ fuel, run fuel Gen.CSrc.znx_zero_i64_ref [(nn : Int)] [some (r, 0)] mem
        = .ok (mem.setIfInBounds r (Coeffs.zero i64Ops nn)) := by
  intro fuel
  have h := znx_zero_i64_ref_window nn hnn mem r 0 (by omega) fuel
  rwa [wset_whole _ _ _ (by rw [hr]; exact Array.size_ofFn)] at h

/-! ### no out-of-bounds access, for every fuel -/

theorem src_znx_add_i64_ref_no_oob (nn : Nat) (hnn : nn < 18446744073709551616) (mem : Mem) (r a b : Nat)
    (hr : (buf mem r).size = nn) (ha : (buf mem a).size = nn) (hb : (buf mem b).size = nn) :
    ∀ fuel e, e ≠ .fuel →
      run fuel Gen.CSrc.znx_add_i64_ref [(nn : Int)] [some (r, 0), some (a, 0), some (b, 0)] mem ≠ .err e :=
  run_no_other_error _ _ _ _ _ nn (src_znx_add_i64_ref_eq_model nn hnn mem r a b hr ha hb)

theorem src_znx_sub_i64_ref_no_oob (nn : Nat) (hnn : nn < 18446744073709551616) (mem : Mem) (r a b : Nat)
    (hr : (buf mem r).size = nn) (ha : (buf mem a).size = nn) (hb : (buf mem b).size = nn) :
    ∀ fuel e, e ≠ .fuel →
      run fuel Gen.CSrc.znx_sub_i64_ref [(nn : Int)] [some (r, 0), some (a, 0), some (b, 0)] mem ≠ .err e :=
  run_no_other_error _ _ _ _ _ nn (src_znx_sub_i64_ref_eq_model nn hnn mem r a b hr ha hb)

theorem src_znx_negate_i64_ref_no_oob (nn : Nat) (hnn : nn < 18446744073709551616) (mem : Mem) (r a : Nat)
    (hr : (buf mem r).size = nn) (ha : (buf mem a).size = nn) :
    ∀ fuel e, e ≠ .fuel →
      run fuel Gen.CSrc.znx_negate_i64_ref [(nn : Int)] [some (r, 0), some (a, 0)] mem ≠ .err e :=
  run_no_other_error _ _ _ _ _ nn (src_znx_negate_i64_ref_eq_model nn hnn mem r a hr ha)

theorem src_znx_copy_i64_ref_no_oob (nn : Nat) (hnn : nn < 2305843009213693952) (mem : Mem) (r a : Nat)
    (hr : (buf mem r).size = nn) (ha : (buf mem a).size = nn) :
    ∀ fuel e, e ≠ .fuel →
      run fuel Gen.CSrc.znx_copy_i64_ref [(nn : Int)] [some (r, 0), some (a, 0)] mem ≠ .err e :=
  run_no_other_error _ _ _ _ _ 0 (fun fuel _ => src_znx_copy_i64_ref_eq_model nn hnn mem r a hr ha fuel)

theorem src_znx_zero_i64_ref_no_oob (nn : Nat) (hnn : nn < 2305843009213693952) (mem : Mem) (r : Nat)
    (hr : (buf mem r).size = nn) :
    ∀ fuel e, e ≠ .fuel → run fuel Gen.CSrc.znx_zero_i64_ref [(nn : Int)] [some (r, 0)] mem ≠ .err e :=
  run_no_other_error _ _ _ _ _ 0 (fun fuel _ => src_znx_zero_i64_ref_eq_model nn hnn mem r hr fuel)


end Spq.Src
