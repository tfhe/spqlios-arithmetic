/-
  SrcAutIn: the C SOURCE of the in-place automorphism kernels (`znx_automorphism_inplace_i64`,
  `rnx_automorphism_inplace_f64`), translated on every run, equals the model `Coeffs.automorphismInplace`
  (the function `Properties/C09.lean` proves equal to the out-of-place automorphism) for every `nn = 2^t`
  (`t ≤ 62`), every ODD `p` (the C contract; for even `p` the orbit walk need not terminate), all buffer contents.

  Both are instances of `src_automorphism_inplace` (`Lemmas/SrcAutLevel.lean`), stated for any function whose body
  is the generated int64 one with its negations at the element type, on the cells of any family of memories (here a
  whole buffer, `cells_whole`).  Structure of its proof: the level loop (`for (binval = 1, vp, orb_size; binval < nn; binval <<= 1, …)` with
  `return` / `continue` in its body) is simulated against `Coeffs.autLevels` by `loopN_levels_rel`; the three
  strided loops of the special cases are `Coeffs.stepRange` folds; the general case is the paired orbit walk
  (nested `while` / `do … while`), whose termination is proved (`p^nn ≡ 1 (mod nn)` for odd `p`).
  Fuel `3*nn + 64`.
-/
import SpqProofs.Lemmas.SrcAutLevel
import SpqProofs.Lemmas.SrcFuel
namespace Spq.Src
open Spq Spq.CIR

theorem src_znx_automorphism_inplace_i64_eq_model (t : Nat) (ht : t ≤ 62) (nn : Nat) (hnn : nn = 2 ^ t) (p : Int)
    (hp : p % 2 = 1) (mem : Mem) (r : Nat) (hr : (buf mem r).size = nn) :
    ∀ fuel, 3 * nn + 64 ≤ fuel →
      run fuel Gen.CSrc.znx_automorphism_inplace_i64 [(nn : Int), p] [some (r, 0)] mem
        = .ok (mem.setIfInBounds r (Coeffs.automorphismInplace i64Ops nn p (buf mem r))) :=
  whole_of_cells (hnn ▸ one_le_pow2 t) mem r hr fun hC X hX =>
    src_automorphism_inplace elem_i64 Gen.CSrc.znx_automorphism_inplace_i64 rfl rfl t ht nn hnn p hp hC X hX

theorem src_rnx_automorphism_inplace_f64_eq_model (t : Nat) (ht : t ≤ 62) (nn : Nat) (hnn : nn = 2 ^ t) (p : Int)
    (hp : p % 2 = 1) (mem : Mem) (r : Nat) (hr : (buf mem r).size = nn) :
    ∀ fuel, 3 * nn + 64 ≤ fuel →
      run fuel Gen.CSrc.rnx_automorphism_inplace_f64 [(nn : Int), p] [some (r, 0)] mem
        = .ok (mem.setIfInBounds r (Coeffs.automorphismInplace f64Ops nn p (buf mem r))) :=
  whole_of_cells (hnn ▸ one_le_pow2 t) mem r hr fun hC X hX =>
    src_automorphism_inplace elem_f64 Gen.CSrc.rnx_automorphism_inplace_f64 rfl rfl t ht nn hnn p hp hC X hX

theorem src_znx_automorphism_inplace_i64_no_oob (t : Nat) (ht : t ≤ 62) (nn : Nat) (hnn : nn = 2 ^ t) (p : Int)
    (hp : p % 2 = 1) (mem : Mem) (r : Nat) (hr : (buf mem r).size = nn) :
    ∀ fuel e, e ≠ .fuel →
      run fuel Gen.CSrc.znx_automorphism_inplace_i64 [(nn : Int), p] [some (r, 0)] mem ≠ .err e :=
  run_no_other_error _ _ _ _ _ (3 * nn + 64) (src_znx_automorphism_inplace_i64_eq_model t ht nn hnn p hp mem r hr)

theorem src_rnx_automorphism_inplace_f64_no_oob (t : Nat) (ht : t ≤ 62) (nn : Nat) (hnn : nn = 2 ^ t) (p : Int)
    (hp : p % 2 = 1) (mem : Mem) (r : Nat) (hr : (buf mem r).size = nn) :
    ∀ fuel e, e ≠ .fuel →
      run fuel Gen.CSrc.rnx_automorphism_inplace_f64 [(nn : Int), p] [some (r, 0)] mem ≠ .err e :=
  run_no_other_error _ _ _ _ _ (3 * nn + 64) (src_rnx_automorphism_inplace_f64_eq_model t ht nn hnn p hp mem r hr)

end Spq.Src
