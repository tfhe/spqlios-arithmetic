/-
  Bridge theorems, FFT side (DESIGN.md §4): the negacyclic product formulas used as SPECIFICATIONS by
  C01 / C02 / Closed / C01Err / C02Err / C16 —
    `Spq.nmulF`, `Spq.nmul`, `Spq.isum`   (`SpqProofs/Lemmas/ModuleSpec.lean`),
    `Spq.Prog.polyMul`, `Spq.Prog.vmpVal` (`Spq/Prog.lean`) —
  ARE the product (sum of products) of `R[X]/(X^N+1)` = Mathlib's `AdjoinRoot (X^N + 1)`; `Properties/Bridge.lean`
  does this for `Spq.Q120Ntt.nmul` (NTT side) and for rotation / automorphism.

  Not part of `Bridge.lean`: importing `ModuleSpec` brings `Spq.nmul` (arrays) into scope, which would shadow the
  opened `Spq.Q120Ntt.nmul` in the statements of `Bridge.lean` inside `namespace Spq.Bridge`.  Here both are written
  with their full names.

  Notation as in `Bridge.lean`: `Rq R n`, `mk n`, `toPoly n a = Σ_{i<n} C (a i) X^i`, `ofArr` (zero outside).
-/
import SpqProofs.Properties.Bridge
import SpqProofs.Lemmas.BridgeFft

namespace Spq.Bridge
open Polynomial Finset

variable {R : Type} [CommRing R]

/-- the FFT-side formula `Spq.nmulF` (`Σ_{i+j=k} − Σ_{i+j=k+N}`) and the NTT-side formula `Spq.Q120Ntt.nmul`
    (tied to `AdjoinRoot` by `Bridge.mk_toPoly_nmul`) are the same function: every `N`, every `k` (in
    particular every `k < N`), any commutative ring -/
theorem nmulF_eq_nttNmul (N : Nat) (a b : Nat → R) (k : Nat) :
    Spq.nmulF N a b k = Spq.Q120Ntt.nmul N a b k := by
  unfold Spq.nmulF Spq.Q120Ntt.nmul
  apply sum_congr rfl; intro i hi
  apply sum_congr rfl; intro j _
  have hi := mem_range.1 hi
  by_cases h1 : i + j = k
  · have h2 : ¬ (i + j = k + N) := by omega
    rw [if_pos h1, if_neg h2, if_pos h1, sub_zero]
  · by_cases h2 : i + j = k + N
    · rw [if_neg h1, if_pos h2, if_neg h1, if_pos h2, zero_sub]
    · rw [if_neg h1, if_neg h2, if_neg h1, if_neg h2, sub_zero]

/-- `Prog.polyMul` (single sum, C16) is the same function on `k < N` (over `ℤ`, where it is defined) -/
theorem polyMul_eq_nttNmul (N : Nat) (a b : Nat → Int) (k : Nat) (hk : k < N) :
    Spq.Prog.polyMul N a b k = Spq.Q120Ntt.nmul N a b k :=
  (Spq.Closed.nmulF_eq_polyMul N a b k hk).symm.trans (nmulF_eq_nttNmul N a b k)

/-- `nmulF N a b` represents `a · b` in `R[X]/(X^N+1)` -/
theorem mk_toPoly_nmulF (N : Nat) (a b : Nat → R) :
    mk N (toPoly N (Spq.nmulF N a b)) = mk N (toPoly N a) * mk N (toPoly N b) := by
  rw [toPoly_congr N _ _ (fun k _ => nmulF_eq_nttNmul N a b k)]
  exact mk_toPoly_nmul N a b

/-- the coefficient array `Spq.nmul N a b` (the right-hand side of C01 `svp_exact`, `small_product_exact`,
    C02 `vmp_exact`) represents `a · b` in `ℤ[X]/(X^N+1)` -/
theorem mk_toPoly_nmul_arr (N : Nat) (a b : Array Int) :
    (mk N (toPoly N (ofArr (Spq.nmul N a b))) : Rq Int N) =
      mk N (toPoly N (ofArr a)) * mk N (toPoly N (ofArr b)) := by
  rw [toPoly_ofArr_nmul]; exact mk_toPoly_nmulF N _ _

/-- the same read in any commutative ring (e.g. `ZMod q`, `ZMod 2^64`) through the cast `ℤ → R` -/
theorem mk_toPoly_nmul_cast (N : Nat) (a b : Array Int) :
    (mk N (toPoly N (fun k => ((ofArr (Spq.nmul N a b) k : Int) : R))) : Rq R N) =
      mk N (toPoly N (fun k => ((ofArr a k : Int) : R))) * mk N (toPoly N (fun k => ((ofArr b k : Int) : R))) := by
  rw [← mk_toPoly_nmulF]
  congr 1
  apply toPoly_congr; intro k hk
  have e : ofArr (Spq.nmul N a b) k = Spq.nmulF N (ofArr a) (ofArr b) k := Spq.icoef_nmul N a b k hk
  rw [e]
  exact Spq.map_nmulF (Int.castRingHom R) N (ofArr a) (ofArr b) k

/-- and it is the only array of size `N` doing so -/
theorem nmul_arr_unique (N : Nat) (a b c : Array Int) (hc : c.size = N)
    (h : (mk N (toPoly N (ofArr c)) : Rq Int N) = mk N (toPoly N (ofArr a)) * mk N (toPoly N (ofArr b))) :
    c = Spq.nmul N a b :=
  mk_toPoly_arr_inj N c _ hc (Spq.size_nmul N a b) (h.trans (mk_toPoly_nmul_arr N a b).symm)

/-- `isum` is the sum of `ℤ[X]/(X^N+1)` -/
theorem mk_toPoly_isum (N n : Nat) (f : Nat → Array Int) :
    (mk N (toPoly N (ofArr (Spq.isum N n f))) : Rq Int N) = ∑ i ∈ range n, mk N (toPoly N (ofArr (f i))) := by
  rw [toPoly_ofArr_isum, map_sum]

/-- `isum N n (fun i => nmul N (a i) (b i))` (column `j` of C02: `a i` = limb `i` of the vector, `b i` = matrix entry
    `(i, j)`, `n = min nrows asz`) represents `Σ_{i<n} a_i · b_i` in `ℤ[X]/(X^N+1)` -/
theorem mk_toPoly_isum_nmul (N n : Nat) (a b : Nat → Array Int) :
    (mk N (toPoly N (ofArr (Spq.isum N n (fun i => Spq.nmul N (a i) (b i))))) : Rq Int N) =
      ∑ i ∈ range n, mk N (toPoly N (ofArr (a i))) * mk N (toPoly N (ofArr (b i))) := by
  rw [mk_toPoly_isum]
  exact sum_congr rfl (fun i _ => mk_toPoly_nmul_arr N (a i) (b i))

/-- `Prog.polyMul N a b` represents `a · b` in `ℤ[X]/(X^N+1)` -/
theorem mk_toPoly_polyMul (N : Nat) (a b : Nat → Int) :
    (mk N (toPoly N (Spq.Prog.polyMul N a b)) : Rq Int N) = mk N (toPoly N a) * mk N (toPoly N b) := by
  rw [← mk_toPoly_nmulF]
  congr 1
  exact toPoly_congr N _ _ (fun k hk => (Spq.Closed.nmulF_eq_polyMul N a b k hk).symm)

/-- column `j < ncols` of `Prog.vmpVal` represents `Σ_{i < min nrows asz} f_i · M[i][j]` in `ℤ[X]/(X^nn+1)` -/
theorem mk_toPoly_vmpVal (nn asz : Nat) (f : Nat → Nat → Int) (M : Spq.Prog.Val) (nrows ncols j : Nat)
    (hj : j < ncols) :
    (mk nn (toPoly nn (Spq.Prog.vmpVal nn asz f M nrows ncols j)) : Rq Int nn) =
      ∑ i ∈ range (min nrows asz),
        mk nn (toPoly nn (f i)) * mk nn (toPoly nn (fun t => M.coef (i * ncols + j) t)) := by
  have e : Spq.Prog.vmpVal nn asz f M nrows ncols j =
      fun c => ∑ i ∈ range (min nrows asz), Spq.Prog.polyMul nn (f i) (fun t => M.coef (i * ncols + j) t) c := by
    funext c
    unfold Spq.Prog.vmpVal
    rw [if_pos hj, Spq.Closed.progSumTo_eq_sum]
  rw [e, toPoly_sum, map_sum]
  exact sum_congr rfl (fun i _ => mk_toPoly_polyMul nn _ _)

/-- the four coefficients of `(a0 + a1 X + a2 X² + a3 X³)(b0 + b1 X + b2 X² + b3 X³) mod X⁴+1` -/
example (a b : Nat → Int) :
    Spq.nmulF 4 a b 0 = a 0 * b 0 - a 1 * b 3 - a 2 * b 2 - a 3 * b 1 ∧
    Spq.nmulF 4 a b 1 = a 0 * b 1 + a 1 * b 0 - a 2 * b 3 - a 3 * b 2 ∧
    Spq.nmulF 4 a b 2 = a 0 * b 2 + a 1 * b 1 + a 2 * b 0 - a 3 * b 3 ∧
    Spq.nmulF 4 a b 3 = a 0 * b 3 + a 1 * b 2 + a 2 * b 1 + a 3 * b 0 := by
  refine ⟨?_, ?_, ?_, ?_⟩ <;> simp [Spq.nmulF, Finset.sum_range_succ] <;> ring

/-- `(1 + 2X + 3X² + 4X³)(5 + 6X + 7X² + 8X³) = -56 - 36X + 2X² + 60X³  mod X⁴+1`: the array computed by `Spq.nmul`,
    and (by `mk_toPoly_nmul_arr`) the product in `ℤ[X]/(X⁴+1)` -/
example :
    Spq.nmul 4 #[1, 2, 3, 4] #[5, 6, 7, 8] = #[-56, -36, 2, 60] ∧
    (mk 4 (toPoly 4 (ofArr #[-56, -36, 2, 60])) : Rq Int 4) =
      mk 4 (toPoly 4 (ofArr #[1, 2, 3, 4])) * mk 4 (toPoly 4 (ofArr #[5, 6, 7, 8])) := by
  have e : Spq.nmul 4 #[1, 2, 3, 4] #[5, 6, 7, 8] = #[-56, -36, 2, 60] := by decide +kernel
  exact ⟨e, e ▸ mk_toPoly_nmul_arr 4 _ _⟩

/-- `Prog.polyMul` on the same instance -/
example : (List.range 4).map (Spq.Prog.polyMul 4 (fun i => (i : Int) + 1) (fun i => (i : Int) + 5)) = [-56, -36, 2, 60] := by
  decide

end Spq.Bridge
