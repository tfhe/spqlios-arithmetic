/-
  C01 — FFT64 negacyclic product, exact-arithmetic part (`small_product_exact`, `svp_exact`, `rows_zero`).

  The module-level model (`Spq/Module.lean`: `smallProduct`, `svpPrepare`, `svpApply`, `vecIdft`) is validated
  bit-exactly against the library in its binary64 instance (stream `md_model`).  Here it is instantiated with
  the exact arithmetic of a commutative ring `R` (`ExactArith c`: `c.ar = RArith.ofRing R`, `nn = 2m ≥ 2`, FMA
  kernels only when `4 ∣ m` — the library installs them for `m ≥ 4` only), and the conversions / FFT stay abstract
  behind H1–H4 (`ExactDft c z`; `ClosedProps.exactDft_network` discharges them for the exact FFT network):
    H1 `fromZnx` = exact embedding;  H2 `fft` = evaluation at points `z_j` with `z_j^m = i`;
    H3 `ifft ∘ fft = m •`;  H4 `toZnx (m • c) = c`.
  The floating-point budget is the subject of `Properties/C01Err.lean`.
-/
import SpqProofs.Lemmas.ModuleVec
import SpqProofs.Lemmas.ModuleExample
namespace Spq.C01
open Finset Spq Spq.Module
variable {R : Type} [CommRing R]

/-- evaluation at a point with `z^N = -1` turns the negacyclic product of two integer polynomials
    (`(nmul a b)_k = Σ_{i+j=k} a_i b_j − Σ_{i+j=k+N} a_i b_j`) into the product of the evaluations — every `N`,
    every commutative ring `K` -/
theorem eval_nmul {K : Type} [CommRing K] (N : Nat) (a b : Array Int) (z : K) (hz : z ^ N = -1) :
    evalF N (fun k => ((icoef (nmul N a b) k : Int) : K)) z
      = evalF N (fun k => ((icoef a k : Int) : K)) z * evalF N (fun k => ((icoef b k : Int) : K)) z := by
  rw [← eval_nmulF N _ _ z hz]
  unfold evalF
  apply sum_congr rfl
  intro k hk
  simp only []
  rw [icoef_nmul _ _ _ _ (mem_range.1 hk)]
  exact congrArg (· * z ^ k) (map_nmulF (Int.castRingHom K) N (icoef a) (icoef b) k)

/-- the `N = 2m` real coefficients evaluated at a point with `z^m = i` = the `m` complex numbers
    `a_k + i·a_{k+m}` (what the reim layout stores) evaluated at the same point -/
theorem reim_eval (m : Nat) (a : Array Int) (z : Cx R) (hz : z ^ m = Cx.I) :
    evalF (2 * m) (fun k => Cx.ofRe ((icoef a k : Int) : R)) z
      = ∑ k ∈ range m, (⟨((icoef a k : Int) : R), ((icoef a (k + m) : Int) : R)⟩ : Cx R) * z ^ k := by
  rw [reim_evalF m _ z Cx.I hz]
  apply sum_congr rfl
  intro k _
  rw [Cx.eq_ofRe_add (⟨((icoef a k : Int) : R), ((icoef a (k + m) : Int) : R)⟩ : Cx R)]

/-- `fft64_znx_small_single_product` returns the negacyclic product (as integer arrays), every `nn = 2m ≥ 2`,
    both flavours of the pointwise multiplication -/
theorem small_product_exact (c : Parts R) (z : Nat → Cx R) (ha : ExactArith c) (hd : ExactDft c z)
    (a b : Array Int) (hsa : a.size = c.nn) (hsb : b.size = c.nn) :
    smallProduct c a b = nmul c.nn a b :=
  smallProduct_exact c z ha hd a b hsa hsb

/-- `svp_prepare` + `svp_apply_dft` + `vec_znx_idft`: limb `i < min rsz asz` is `pol · vec_i` in
    `ℤ[X]/(X^nn + 1)`, every other limb of the `rsz2` output limbs is exactly zero — all limb counts including 0,
    every stride for which the input limbs lie inside `vec` (`hlimb`) -/
theorem svp_exact (c : Parts R) (z : Nat → Cx R) (ha : ExactArith c) (hd : ExactDft c z) (pol : Array Int)
    (hp : pol.size = c.nn) (vec : Array Int) (asz asl rsz rsz2 : Nat)
    (hlimb : ∀ i, i < rsz → i < asz → (limbOf vec i asl c.nn).size = c.nn) :
    (vecIdft c rsz2 (svpApply c rsz (svpPrepare c pol) vec asz asl) rsz).size = rsz2 * c.nn ∧
    ∀ i, i < rsz2 → dlimb (vecIdft c rsz2 (svpApply c rsz (svpPrepare c pol) vec asz asl) rsz) i c.nn =
      if i < rsz ∧ i < asz then nmul c.nn pol (limbOf vec i asl c.nn) else Array.replicate c.nn 0 := by
  have hz : c.ar.zero = 0 := by rw [ha.har]; rfl
  obtain ⟨_, a2⟩ := svpApply_spec c rsz (svpPrepare c pol) vec asz asl
    (fun i => if i < asz then c.fft (c.fromZnx (nmul c.nn (limbOf vec i asl c.nn) pol)) else Array.replicate c.nn 0)
    (by
      intro i hi
      by_cases h : i < asz
      · rw [if_pos h, if_pos h]
        exact fft_prod c z ha hd _ _ (hlimb i hi h) hp
      · rw [if_neg h, if_neg h, hz])
    (by
      intro i hi
      by_cases h : i < asz
      · rw [if_pos h]; exact hd.fft_size _ (hd.fromZnx_size _ (size_nmul _ _ _))
      · rw [if_neg h]; simp)
  apply vecIdft_spec
  · intro i hi
    by_cases h : i < rsz
    · rw [if_pos h, a2 i h]
      by_cases h2 : i < asz
      · rw [if_pos h2, if_pos ⟨h, h2⟩, roundtrip c z hd _ (size_nmul _ _ _), nmul_comm]
      · rw [if_neg h2, if_neg (fun q => h2 q.2), idft_zero c z ha hd]
    · rw [if_neg h, if_neg (fun q => h q.1)]
  · intro i hi
    split
    · exact size_nmul _ _ _
    · simp

/-- `rows_zero`: output rows beyond the input size are exactly zero -/
theorem rows_zero (c : Parts R) (z : Nat → Cx R) (ha : ExactArith c) (hd : ExactDft c z) (pol : Array Int)
    (hp : pol.size = c.nn) (vec : Array Int) (asz asl rsz rsz2 : Nat)
    (hlimb : ∀ i, i < rsz → i < asz → (limbOf vec i asl c.nn).size = c.nn) (i : Nat) (hi : i < rsz2) (hge : min rsz asz ≤ i) :
    dlimb (vecIdft c rsz2 (svpApply c rsz (svpPrepare c pol) vec asz asl) rsz) i c.nn = Array.replicate c.nn 0 := by
  rw [(svp_exact c z ha hd pol hp vec asz asl rsz rsz2 hlimb).2 i hi, if_neg (by omega)]

/-! ### the hypotheses are satisfiable, the statements are not vacuous -/

/-- `R = ℤ`, `nn = 2`: the module computes with one Gaussian integer, `z_0 = i`; H1–H4 and the dispatch invariants hold -/
example : ExactArith gaussParts ∧ ExactDft gaussParts (fun _ => Cx.I) := ⟨gauss_exactArith, gauss_exactDft⟩
/-- on that instance the model computes `(1 + 2X)(3 + 4X) = -5 + 10X  (mod X² + 1)` -/
example : smallProduct gaussParts #[1, 2] #[3, 4] = #[-5, 10] := by decide
example : nmul 2 #[1, 2] #[3, 4] = #[-5, 10] := by decide
/-- the wrap-around sign of the specification: `X³ · X = -1  (mod X⁴ + 1)` -/
example : nmul 4 #[0, 0, 0, 1] #[0, 1, 0, 0] = #[-1, 0, 0, 0] := by decide
/-- svp with `rsz = 2`, `asz = 1`, stride 3, three output limbs: one product limb, two zero limbs -/
example : vecIdft gaussParts 3 (svpApply gaussParts 2 (svpPrepare gaussParts #[1, 2]) #[3, 4, 99, 0, 1] 1 3) 2
    = #[-5, 10, 0, 0, 0, 0] := by decide
/-- a point with `z^N = -1` for `eval_nmul`: `z = i` in `ℤ[i]`, `N = 2` -/
example : (Cx.I : Cx Int) ^ 2 = -1 := by rw [pow_two, Cx.I_mul_I]

end Spq.C01
