/-
  C11 — memory contract: declared extents and *_tmp_bytes scratch are never exceeded.

  Index logic that is proved (all shapes, including zero limb counts):
   * `vec_ops_no_fault`: for every limb-vector operation of the model, if the declared extents
     (`rsz` output limbs, the first `min(size, rsz)` limbs of each source — all `asz` limbs for the
     normalisation, whose carry pass reads every input limb) lie inside the heap, then no access of the
     model is outside it (the model's out-of-bounds flag stays clear); together with the C18 frame theorems
     (only the `nn` coefficients of the first `rsz` output limbs can change) this is "reads only the declared
     extent of its inputs, writes only the declared extent of its outputs".
   * `normalize_scratch_fits`: the only scratch the normalisation uses is one carry limb (`nn` cells), which is
     what `vec_znx_normalize_base2k_tmp_bytes` returns; the model keeps the carry as a local value, so by
     construction no result depends on the previous content of scratch or output.
   * `tmpbytes_current` (Gen obligation): the size formulas of `Spq.TmpBytes` equal the values returned by
     the LIVE `*_tmp_bytes` / `bytes_of_*` functions of the library built from the current tree, over a shape box.
  Runtime residue (NOT theorems — observed by the AddressSanitizer/UBSan/LeakSanitizer build on heap buffers of
  exactly the declared size): out-of-bounds accesses inside the float kernels and asm leaves, allocation/free
  pairing of new_*/delete_*, alignment (all loads are unaligned loads), the table allocators' overflow abort.
-/
import SpqProofs.Properties.C08
import SpqProofs.Properties.C05
import Spq.TmpBytes
import Gen.TmpBytes
namespace Spq.C11
open Spq Heap C08
variable {α : Type}

/-- no out-of-bounds access for any vec_znx operation whose declared extents are inside the heap -/
theorem vec_ops_no_fault (o : Ops α) (nn : Nat) (p : Int) (h : Heap α) (res rsz rsl a asz asl b bsz bsl : Nat)
    (hres : InBounds nn h.mem.size res rsz rsl)
    (ha : InBounds nn h.mem.size a (min asz rsz) asl) (hb : InBounds nn h.mem.size b (min bsz rsz) bsl) :
    (VecZnx.zero o nn h res rsz rsl).ok = h.ok ∧
    (VecZnx.copy o nn h res rsz rsl a asz asl).ok = h.ok ∧
    (VecZnx.negate o nn h res rsz rsl a asz asl).ok = h.ok ∧
    (VecZnx.add o nn h res rsz rsl a asz asl b bsz bsl).ok = h.ok ∧
    (VecZnx.sub o nn h res rsz rsl a asz asl b bsz bsl).ok = h.ok ∧
    (VecZnx.rotate o nn p h res rsz rsl a asz asl).ok = h.ok ∧
    (VecZnx.automorphism o nn p h res rsz rsl a asz asl).ok = h.ok :=
  ⟨zero_no_fault o nn h res rsz rsl hres,
   copy_no_fault o nn h res rsz rsl a asz asl hres ha,
   negate_no_fault o nn h res rsz rsl a asz asl hres ha,
   add_no_fault o nn h res rsz rsl a asz asl b bsz bsl hres ha hb,
   sub_no_fault o nn h res rsz rsl a asz asl b bsz bsl hres ha hb,
   rotate_no_fault o nn p h res rsz rsl a asz asl hres ha,
   automorphism_no_fault o nn p h res rsz rsl a asz asl hres ha⟩

/-- zero limb counts: with `rsz = 0` nothing at all is accessed or changed, whatever the other arguments -/
theorem zero_res_size_touches_nothing (o : Ops α) (nn : Nat) (h : Heap α) (res rsl a asz asl b bsz bsl : Nat) :
    VecZnx.add o nn h res 0 rsl a asz asl b bsz bsl = h ∧
    VecZnx.copy o nn h res 0 rsl a asz asl = h :=
  ⟨(add_runNF ..).trans (runNF_size0 ..), (copy_runNF ..).trans (runNF_size0 ..)⟩

/-- normalisation: all `asz` input limbs are read (carry pass), all `rsz` output limbs written; with both
    inside the heap no access is out of bounds; `rsz = 0` touches nothing (also when `asz = 0`: zeros only) -/
theorem normalize_no_fault (nn k : Nat) (h : Heap Int) (res rsz rsl a asz asl : Nat)
    (hsl : nn ≤ rsl) (hres : InBounds nn h.mem.size res rsz rsl)
    (ha : SrcOK nn res rsz rsl a asz asl) (hab : InBounds nn h.mem.size a asz asl) :
    (VecZnx.normalize nn k h res rsz rsl a asz asl).ok = h.ok ∧
    VecZnx.normalize nn k h res 0 rsl a asz asl = h :=
  ⟨C05.normalize_no_fault nn k h res rsz rsl a asz asl hsl hres ha hab,
   C05.normalize_size0_res nn k h res rsl a asz asl⟩

/-- the scratch requirement of the normalisation is one carry limb -/
theorem normalize_scratch_fits (ty nn : Nat) :
    TmpBytes.formula 1 ty nn 0 0 0 0 = 8 * nn ∧ TmpBytes.formula 2 ty nn 0 0 0 0 = 8 * nn ∧
    TmpBytes.formula 3 ty nn 0 0 0 0 = 8 * nn := by
  simp [TmpBytes.formula, Nat.mul_comm]

def rowOK (r : List Nat) : Bool :=
  match r with
  | [fn, ty, nn, a1, a2, a3, a4, v] => TmpBytes.formula fn ty nn a1 a2 a3 a4 == v
  | _ => false

/-- Gen obligation: the size formulas equal the live library values -/
theorem tmpbytes_current : Gen.TmpBytes.rows.all rowOK = true := by decide +kernel

/-- the table is not empty and covers the vmp scratch formula (non-vacuity) -/
theorem tmpbytes_nonvacuous : (Gen.TmpBytes.rows.length ≥ 100 ∧
    (Gen.TmpBytes.rows.any fun r => r.head? == some 10 && r.getLast? != some 0)) = true := by decide +kernel

end Spq.C11
