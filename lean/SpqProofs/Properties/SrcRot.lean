/-
  SrcRot: the C SOURCE equals the hand-written model, for all inputs — rotation, multiplication by X^p - 1, automorphism, out of place and in place (property C09).
  Conventions of the statements:
  * `mem : Mem` is the whole memory (array of buffers of 64-bit cells); pointer parameter `i` is bound to
    `some (b, 0)` = start of buffer `b`; the buffers passed have EXACTLY `nn` cells (`(buf mem b).size = nn`);
  * buffer indices may coincide where the C contract allows aliasing (element-wise kernels: any aliasing);
  * `∀ fuel, F nn ≤ fuel → …`: explicit sufficient fuel (one unit per loop iteration);
  * `src_<f>_no_oob`: for EVERY fuel the run is not an out-of-bounds / null / overlap / ub / unsupported error
    (it is the model result, or `Err.fuel` when the fuel is below the bound).
-/
import Gen.CSrc
import Spq.Coeffs
import SpqProofs.Lemmas.SrcRotFill
import SpqProofs.Lemmas.SrcFuel
import SpqProofs.Lemmas.SrcWalk
namespace Spq.Src
open Spq Spq.CIR

/-! ### rotation-shaped kernels (`res ≠ in`): `nn = 2^t`, `t ≤ 63` (then `2*nn - 1` computed in uint64 is the
    mask of the residues mod `2nn`, also for `nn = 2^63` where `2*nn` wraps to 0), every `p : Int`
    (`-p` wraps for `p = INT64_MIN`; the residue is unaffected).  `f64Ops` = binary64 cells as 64-bit patterns.
    With `A = (-p) mod 2nn`: for `A < nn` cells `[0, nn-A)` take `in[j+A]` and the others `-in[j-(nn-A)]`; for `A ≥ nn`
    the signs are exchanged and the shift is `A - nn`.  Each case is the two fill loops of `rot_loops` (Lemmas/SrcRotFill);
    what a kernel stores for a loaded value is its parameter `V`.  The four theorems are `rotate_cells` and
    `mul_xp_minus_one_cells` (proved for any function whose body is the generated `int64_t` one at another element type) on
    the cells of a whole buffer (`whole_of_cells2`); the `rfl`s are the comparisons of the generated bodies. -/

theorem src_znx_rotate_i64_eq_model (t : Nat) (ht : t ≤ 63) (nn : Nat) (hnn : nn = 2 ^ t) (p : Int)
    (mem : Mem) (r a : Nat) (hra : a ≠ r) (hr : (buf mem r).size = nn) (ha : (buf mem a).size = nn) :
    ∀ fuel, nn ≤ fuel →
      run fuel Gen.CSrc.znx_rotate_i64 [(nn : Int), p] [some (r, 0), some (a, 0)] mem
        = .ok (mem.setIfInBounds r (Coeffs.rotate i64Ops nn p (buf mem a))) :=
  whole_of_cells2 (hnn ▸ one_le_pow2 t) mem r a hra hr ha fun hC inp hA X hX =>
    znx_rotate_cells t ht nn hnn p hC inp hA X hX

theorem src_znx_mul_xp_minus_one_eq_model (t : Nat) (ht : t ≤ 63) (nn : Nat) (hnn : nn = 2 ^ t) (p : Int)
    (mem : Mem) (r a : Nat) (hra : a ≠ r) (hr : (buf mem r).size = nn) (ha : (buf mem a).size = nn) :
    ∀ fuel, nn ≤ fuel →
      run fuel Gen.CSrc.znx_mul_xp_minus_one [(nn : Int), p] [some (r, 0), some (a, 0)] mem
        = .ok (mem.setIfInBounds r (Coeffs.mulXpMinusOne i64Ops nn p (buf mem a))) :=
  whole_of_cells2 (hnn ▸ one_le_pow2 t) mem r a hra hr ha fun hC inp hA X hX =>
    mul_xp_minus_one_cells elem_i64 Gen.CSrc.znx_mul_xp_minus_one t ht nn hnn p hC inp hA X hX rfl rfl

theorem src_rnx_rotate_f64_eq_model (t : Nat) (ht : t ≤ 63) (nn : Nat) (hnn : nn = 2 ^ t) (p : Int)
    (mem : Mem) (r a : Nat) (hra : a ≠ r) (hr : (buf mem r).size = nn) (ha : (buf mem a).size = nn) :
    ∀ fuel, nn ≤ fuel →
      run fuel Gen.CSrc.rnx_rotate_f64 [(nn : Int), p] [some (r, 0), some (a, 0)] mem
        = .ok (mem.setIfInBounds r (Coeffs.rotate f64Ops nn p (buf mem a))) :=
  whole_of_cells2 (hnn ▸ one_le_pow2 t) mem r a hra hr ha fun hC inp hA X hX =>
    rotate_cells elem_f64 Gen.CSrc.rnx_rotate_f64 t ht nn hnn p hC inp hA X hX rfl rfl

theorem src_rnx_mul_xp_minus_one_eq_model (t : Nat) (ht : t ≤ 63) (nn : Nat) (hnn : nn = 2 ^ t) (p : Int)
    (mem : Mem) (r a : Nat) (hra : a ≠ r) (hr : (buf mem r).size = nn) (ha : (buf mem a).size = nn) :
    ∀ fuel, nn ≤ fuel →
      run fuel Gen.CSrc.rnx_mul_xp_minus_one [(nn : Int), p] [some (r, 0), some (a, 0)] mem
        = .ok (mem.setIfInBounds r (Coeffs.mulXpMinusOne f64Ops nn p (buf mem a))) :=
  whole_of_cells2 (hnn ▸ one_le_pow2 t) mem r a hra hr ha fun hC inp hA X hX =>
    mul_xp_minus_one_cells elem_f64 Gen.CSrc.rnx_mul_xp_minus_one t ht nn hnn p hC inp hA X hX rfl rfl

theorem src_znx_automorphism_i64_eq_model (t : Nat) (ht : t ≤ 63) (nn : Nat) (hnn : nn = 2 ^ t) (p : Int)
    (mem : Mem) (r a : Nat) (hra : a ≠ r) (hr : (buf mem r).size = nn) (ha : (buf mem a).size = nn) :
    ∀ fuel, nn ≤ fuel →
      run fuel Gen.CSrc.znx_automorphism_i64 [(nn : Int), p] [some (r, 0), some (a, 0)] mem
        = .ok (mem.setIfInBounds r (Coeffs.automorphism i64Ops nn p (buf mem a) (buf mem r))) :=
  whole_of_cells2 (hnn ▸ one_le_pow2 t) mem r a hra hr ha fun hC inp hA X hX =>
    znx_automorphism_cells t ht nn hnn p hC inp hA X hX

theorem src_rnx_automorphism_f64_eq_model (t : Nat) (ht : t ≤ 63) (nn : Nat) (hnn : nn = 2 ^ t) (p : Int)
    (mem : Mem) (r a : Nat) (hra : a ≠ r) (hr : (buf mem r).size = nn) (ha : (buf mem a).size = nn) :
    ∀ fuel, nn ≤ fuel →
      run fuel Gen.CSrc.rnx_automorphism_f64 [(nn : Int), p] [some (r, 0), some (a, 0)] mem
        = .ok (mem.setIfInBounds r (Coeffs.automorphism f64Ops nn p (buf mem a) (buf mem r))) :=
  whole_of_cells2 (hnn ▸ one_le_pow2 t) mem r a hra hr ha fun hC inp hA X hX =>
    automorphism_cells elem_f64 Gen.CSrc.rnx_automorphism_f64 rfl rfl t ht nn hnn p hC inp hA X hX

/-! ### in-place rotation / (X^p - 1): nested `while` / `do … while` cycle walks with a `?:` store.  The iteration
    counts have no closed form; the generated loops are related to the model's fuel-bounded walks
    (`Coeffs.walkAll`, `Coeffs.walkCycle`) by simulation, and the do-while is shown to terminate because
    `j ↦ j + p mod nn` returns to its start within `nn` steps.  Fuel `2*nn`: at most `nn` cycle leaders, each
    cycle at most `nn` steps (nested loops share the budget).  All of that is `walk_outer` (`Lemmas/SrcWalk.lean`);
    the kernels differ in the expression the do-while stores.  The two rotations are `rotate_inplace_cells` (one proof at
    any element type); `rnx_mul_xp_minus_one_inplace` has no `int64_t` twin, and its proof is the prologue followed by
    the value of its expression. -/

theorem src_znx_rotate_inplace_i64_eq_model (t : Nat) (ht : t ≤ 63) (nn : Nat) (hnn : nn = 2 ^ t) (p : Int)
    (mem : Mem) (r : Nat) (hr : (buf mem r).size = nn) :
    ∀ fuel, 2 * nn ≤ fuel →
      run fuel Gen.CSrc.znx_rotate_inplace_i64 [(nn : Int), p] [some (r, 0)] mem
        = .ok (mem.setIfInBounds r (Coeffs.rotateInplace i64Ops nn p (buf mem r))) :=
  whole_of_cells (hnn ▸ one_le_pow2 t) mem r hr fun hC X hX =>
    znx_rotate_inplace_cells t ht nn hnn p hC X hX

theorem src_rnx_rotate_inplace_f64_eq_model (t : Nat) (ht : t ≤ 63) (nn : Nat) (hnn : nn = 2 ^ t) (p : Int)
    (mem : Mem) (r : Nat) (hr : (buf mem r).size = nn) :
    ∀ fuel, 2 * nn ≤ fuel →
      run fuel Gen.CSrc.rnx_rotate_inplace_f64 [(nn : Int), p] [some (r, 0)] mem
        = .ok (mem.setIfInBounds r (Coeffs.rotateInplace f64Ops nn p (buf mem r))) :=
  whole_of_cells (hnn ▸ one_le_pow2 t) mem r hr fun hC X hX =>
    rotate_inplace_cells elem_f64 Gen.CSrc.rnx_rotate_inplace_f64 rfl rfl t ht nn hnn p hC X hX

theorem src_rnx_mul_xp_minus_one_inplace_eq_model (t : Nat) (ht : t ≤ 63) (nn : Nat) (hnn : nn = 2 ^ t) (p : Int)
    (mem : Mem) (r : Nat) (hr : (buf mem r).size = nn) :
    ∀ fuel, 2 * nn ≤ fuel →
      run fuel Gen.CSrc.rnx_mul_xp_minus_one_inplace [(nn : Int), p] [some (r, 0)] mem
        = .ok (mem.setIfInBounds r (Coeffs.mulXpMinusOneInplace f64Ops nn p (buf mem r))) := by
  intro fuel hf
  have hn1 : 1 ≤ nn := hnn ▸ one_le_pow2 t
  have hn2 : nn ≤ 9223372036854775808 := hnn ▸ pow_le_p63 t ht
  have hrm : r < mem.size := lt_size_of_buf_size_pos mem r (by omega)
  conv => lhs; rw [← set_buf_self mem r]
  cir_enter Gen.CSrc.rnx_mul_xp_minus_one_inplace
  cir_simp
  have ez : (0 : Int) % 18446744073709551616 = ((0 : Nat) : Int) := by decide
  rw [mask_int nn hn1 hn2, mask1_int nn hn1 hn2, ez]
  refine walk_outer f64Ops rfl true t ht nn hnn p (cells_whole mem r hrm nn) _ hr _ ?_ fuel hf
  intro nb jstart j newj tmp1 X hX
  have hmod : newj % nn < nn := Nat.mod_lt _ (by omega)
  cir_simp
  by_cases hlt : newj < nn
  · rw [if_pos (show (newj : Int) < (nn : Int) by omega)]; cir_simp
    rw [(cells_whole mem r hrm nn).load _ _ hX hmod]; cir_simp
    simp only [wVal, if_pos hlt, if_true]
    rfl
  · rw [if_neg (show ¬ (newj : Int) < (nn : Int) by omega)]; cir_simp
    rw [(cells_whole mem r hrm nn).load _ _ hX hmod]; cir_simp
    simp only [wVal, if_neg hlt, if_true]
    rfl

theorem src_znx_rotate_i64_no_oob (t : Nat) (ht : t ≤ 63) (nn : Nat) (hnn : nn = 2 ^ t) (p : Int)
    (mem : Mem) (r a : Nat) (hra : a ≠ r) (hr : (buf mem r).size = nn) (ha : (buf mem a).size = nn) :
    ∀ fuel e, e ≠ .fuel → run fuel Gen.CSrc.znx_rotate_i64 [(nn : Int), p] [some (r, 0), some (a, 0)] mem ≠ .err e :=
  run_no_other_error _ _ _ _ _ nn (src_znx_rotate_i64_eq_model t ht nn hnn p mem r a hra hr ha)

theorem src_znx_mul_xp_minus_one_no_oob (t : Nat) (ht : t ≤ 63) (nn : Nat) (hnn : nn = 2 ^ t) (p : Int)
    (mem : Mem) (r a : Nat) (hra : a ≠ r) (hr : (buf mem r).size = nn) (ha : (buf mem a).size = nn) :
    ∀ fuel e, e ≠ .fuel → run fuel Gen.CSrc.znx_mul_xp_minus_one [(nn : Int), p] [some (r, 0), some (a, 0)] mem ≠ .err e :=
  run_no_other_error _ _ _ _ _ nn (src_znx_mul_xp_minus_one_eq_model t ht nn hnn p mem r a hra hr ha)

theorem src_rnx_rotate_f64_no_oob (t : Nat) (ht : t ≤ 63) (nn : Nat) (hnn : nn = 2 ^ t) (p : Int)
    (mem : Mem) (r a : Nat) (hra : a ≠ r) (hr : (buf mem r).size = nn) (ha : (buf mem a).size = nn) :
    ∀ fuel e, e ≠ .fuel → run fuel Gen.CSrc.rnx_rotate_f64 [(nn : Int), p] [some (r, 0), some (a, 0)] mem ≠ .err e :=
  run_no_other_error _ _ _ _ _ nn (src_rnx_rotate_f64_eq_model t ht nn hnn p mem r a hra hr ha)

theorem src_rnx_mul_xp_minus_one_no_oob (t : Nat) (ht : t ≤ 63) (nn : Nat) (hnn : nn = 2 ^ t) (p : Int)
    (mem : Mem) (r a : Nat) (hra : a ≠ r) (hr : (buf mem r).size = nn) (ha : (buf mem a).size = nn) :
    ∀ fuel e, e ≠ .fuel → run fuel Gen.CSrc.rnx_mul_xp_minus_one [(nn : Int), p] [some (r, 0), some (a, 0)] mem ≠ .err e :=
  run_no_other_error _ _ _ _ _ nn (src_rnx_mul_xp_minus_one_eq_model t ht nn hnn p mem r a hra hr ha)

theorem src_znx_automorphism_i64_no_oob (t : Nat) (ht : t ≤ 63) (nn : Nat) (hnn : nn = 2 ^ t) (p : Int)
    (mem : Mem) (r a : Nat) (hra : a ≠ r) (hr : (buf mem r).size = nn) (ha : (buf mem a).size = nn) :
    ∀ fuel e, e ≠ .fuel → run fuel Gen.CSrc.znx_automorphism_i64 [(nn : Int), p] [some (r, 0), some (a, 0)] mem ≠ .err e :=
  run_no_other_error _ _ _ _ _ nn (src_znx_automorphism_i64_eq_model t ht nn hnn p mem r a hra hr ha)

theorem src_rnx_automorphism_f64_no_oob (t : Nat) (ht : t ≤ 63) (nn : Nat) (hnn : nn = 2 ^ t) (p : Int)
    (mem : Mem) (r a : Nat) (hra : a ≠ r) (hr : (buf mem r).size = nn) (ha : (buf mem a).size = nn) :
    ∀ fuel e, e ≠ .fuel → run fuel Gen.CSrc.rnx_automorphism_f64 [(nn : Int), p] [some (r, 0), some (a, 0)] mem ≠ .err e :=
  run_no_other_error _ _ _ _ _ nn (src_rnx_automorphism_f64_eq_model t ht nn hnn p mem r a hra hr ha)

theorem src_znx_rotate_inplace_i64_no_oob (t : Nat) (ht : t ≤ 63) (nn : Nat) (hnn : nn = 2 ^ t) (p : Int)
    (mem : Mem) (r : Nat) (hr : (buf mem r).size = nn) :
    ∀ fuel e, e ≠ .fuel → run fuel Gen.CSrc.znx_rotate_inplace_i64 [(nn : Int), p] [some (r, 0)] mem ≠ .err e :=
  run_no_other_error _ _ _ _ _ (2 * nn) (src_znx_rotate_inplace_i64_eq_model t ht nn hnn p mem r hr)

theorem src_rnx_rotate_inplace_f64_no_oob (t : Nat) (ht : t ≤ 63) (nn : Nat) (hnn : nn = 2 ^ t) (p : Int)
    (mem : Mem) (r : Nat) (hr : (buf mem r).size = nn) :
    ∀ fuel e, e ≠ .fuel → run fuel Gen.CSrc.rnx_rotate_inplace_f64 [(nn : Int), p] [some (r, 0)] mem ≠ .err e :=
  run_no_other_error _ _ _ _ _ (2 * nn) (src_rnx_rotate_inplace_f64_eq_model t ht nn hnn p mem r hr)

theorem src_rnx_mul_xp_minus_one_inplace_no_oob (t : Nat) (ht : t ≤ 63) (nn : Nat) (hnn : nn = 2 ^ t) (p : Int)
    (mem : Mem) (r : Nat) (hr : (buf mem r).size = nn) :
    ∀ fuel e, e ≠ .fuel → run fuel Gen.CSrc.rnx_mul_xp_minus_one_inplace [(nn : Int), p] [some (r, 0)] mem ≠ .err e :=
  run_no_other_error _ _ _ _ _ (2 * nn) (src_rnx_mul_xp_minus_one_inplace_eq_model t ht nn hnn p mem r hr)

/-- the hypotheses are satisfiable, also with `res == a` (in place), and the fuel bound is attained:
    with `nn - 1` units the generated loop reports `Err.fuel`, with `nn` it returns the model result. -/
example :
    run 3 Gen.CSrc.znx_add_i64_ref [3] [some (0, 0), some (0, 0), some (1, 0)]
        #[#[1, 2, 9223372036854775807], #[10, 20, 1]]
      = .ok #[#[11, 22, -9223372036854775808], #[10, 20, 1]]
    ∧ run 2 Gen.CSrc.znx_add_i64_ref [3] [some (0, 0), some (0, 0), some (1, 0)]
        #[#[1, 2, 9223372036854775807], #[10, 20, 1]] = .err .fuel
    ∧ run 9 Gen.CSrc.znx_add_i64_ref [3] [some (0, 1), some (0, 0), some (1, 0)]
        #[#[1, 2, 3], #[10, 20, 1]] = .err .oob := by decide

/-- rotation by `X^1` and by `X^{-3}` in `Z[X]/(X^4+1)`, `p = INT64_MIN`, and the aliased call `res == in`
    (outside the hypotheses `a ≠ r`): the source-level semantics then differs from the model's, as in C. -/
example :
    run 4 Gen.CSrc.znx_rotate_i64 [4, 1] [some (0, 0), some (1, 0)] #[#[0, 0, 0, 0], #[1, 2, 3, 4]]
      = .ok #[#[-4, 1, 2, 3], #[1, 2, 3, 4]]
    ∧ run 4 Gen.CSrc.znx_rotate_i64 [4, -3] [some (0, 0), some (1, 0)] #[#[0, 0, 0, 0], #[1, 2, 3, 4]]
      = .ok #[#[4, -1, -2, -3], #[1, 2, 3, 4]]
    ∧ run 4 Gen.CSrc.znx_rotate_i64 [4, -9223372036854775808] [some (0, 0), some (1, 0)]
        #[#[0, 0, 0, 0], #[1, 2, 3, 4]] = .ok #[#[1, 2, 3, 4], #[1, 2, 3, 4]]
    ∧ run 4 Gen.CSrc.znx_rotate_i64 [4, 1] [some (0, 0), some (0, 0)] #[#[1, 2, 3, 4]]
      = .ok #[#[-4, -4, -4, -4]]
    ∧ run 4 Gen.CSrc.znx_automorphism_i64 [4, 3] [some (0, 0), some (1, 0)] #[#[0, 0, 0, 0], #[1, 2, 3, 4]]
      = .ok #[#[1, 4, -3, 2], #[1, 2, 3, 4]] := by decide

/-- in-place rotation by `X^1` in `Z[X]/(X^4+1)` (one cycle of length 4): 4 units of fuel are not enough for the
    nested loops (`Err.fuel`), `2*nn = 8` are. -/
example :
    run 8 Gen.CSrc.znx_rotate_inplace_i64 [4, 1] [some (0, 0)] #[#[1, 2, 3, 4]] = .ok #[#[-4, 1, 2, 3]]
    ∧ run 3 Gen.CSrc.znx_rotate_inplace_i64 [4, 1] [some (0, 0)] #[#[1, 2, 3, 4]] = .err .fuel := by decide


end Spq.Src
