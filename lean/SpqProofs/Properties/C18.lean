/-
  C18 — read-only operands are never modified (limb-vector part: zero, copy, negate, add, sub,
  rotate, automorphism and the big-coefficient wrappers).

  `<op>_frame`: with NO hypothesis on the arguments — any offsets, any strides (even `< nn`), any
  limb counts, sources overlapping the output or each other in any way, extents inside the heap
  or not — the only cells a call can change are the `nn` coefficients of the first `rsz` output
  limbs.  Everything else is bit-for-bit unchanged: source limbs, stride padding of sources and of
  the output, output limbs past `rsz`, any other object in memory.

  `<op>_src_a_readonly`, `<op>_src_b_readonly`: hence every coefficient of every limb of a source
  that is separate from the output (`Sep`: each source limb disjoint from each written output
  limb) is unchanged, whatever the other source does (it may be the output itself).
  `<op>_src_a_extent_readonly`, …: if the whole extent `[a, a + asz*asl)` of the source — limbs and
  stride padding — avoids the written cells, all of it is unchanged.

  (A source that *is* the output, `res == a`, is overwritten by design: that is C13.)
-/
import SpqProofs.Lemmas.VecOps
import SpqProofs.Lemmas.VecBig
namespace Spq.C18
open Spq Heap C08
variable {α : Type}

/-- the whole extent `[a, a + asz*asl)` of a source (limbs and padding) avoids every written cell -/
def ExtentSep (nn res rsz rsl a asz asl : Nat) : Prop :=
  ∀ j, j < rsz → a + asz * asl ≤ res + j * rsl ∨ res + j * rsl + nn ≤ a

theorem zero_frame (o : Ops α) (nn : Nat) (h : Heap α) (res rsz rsl : Nat) :
    (VecZnx.zero o nn h res rsz rsl).mem.size = h.mem.size ∧
    Frame nn res rsz rsl h.mem (VecZnx.zero o nn h res rsz rsl).mem := by
  rw [zero_runNF]
  exact (runNF_post (kernOK_zero ..) h).footprint

theorem copy_frame (o : Ops α) (nn : Nat) (h : Heap α) (res rsz rsl a asz asl : Nat) :
    (VecZnx.copy o nn h res rsz rsl a asz asl).mem.size = h.mem.size ∧
    Frame nn res rsz rsl h.mem (VecZnx.copy o nn h res rsz rsl a asz asl).mem := by
  rw [copy_runNF]
  exact (runNF_post (kernOK_copy ..) h).footprint

theorem negate_frame (o : Ops α) (nn : Nat) (h : Heap α) (res rsz rsl a asz asl : Nat) :
    (VecZnx.negate o nn h res rsz rsl a asz asl).mem.size = h.mem.size ∧
    Frame nn res rsz rsl h.mem (VecZnx.negate o nn h res rsz rsl a asz asl).mem := by
  rw [negate_runNF]
  exact (runNF_post (kernOK_neg ..) h).footprint

theorem add_frame (o : Ops α) (nn : Nat) (h : Heap α) (res rsz rsl a asz asl b bsz bsl : Nat) :
    (VecZnx.add o nn h res rsz rsl a asz asl b bsz bsl).mem.size = h.mem.size ∧
    Frame nn res rsz rsl h.mem (VecZnx.add o nn h res rsz rsl a asz asl b bsz bsl).mem := by
  rw [add_runNF]
  exact (runNF_post (kernOK_add ..) h).footprint

theorem sub_frame (o : Ops α) (nn : Nat) (h : Heap α) (res rsz rsl a asz asl b bsz bsl : Nat) :
    (VecZnx.sub o nn h res rsz rsl a asz asl b bsz bsl).mem.size = h.mem.size ∧
    Frame nn res rsz rsl h.mem (VecZnx.sub o nn h res rsz rsl a asz asl b bsz bsl).mem := by
  rw [sub_runNF]
  exact (runNF_post (kernOK_sub ..) h).footprint

theorem rotate_frame (o : Ops α) (nn : Nat) (p : Int) (h : Heap α) (res rsz rsl a asz asl : Nat) :
    (VecZnx.rotate o nn p h res rsz rsl a asz asl).mem.size = h.mem.size ∧
    Frame nn res rsz rsl h.mem (VecZnx.rotate o nn p h res rsz rsl a asz asl).mem := by
  rw [rotate_runNF]
  exact (runNF_post (kernOK_rot ..) h).footprint

theorem automorphism_frame (o : Ops α) (nn : Nat) (p : Int) (h : Heap α) (res rsz rsl a asz asl : Nat) :
    (VecZnx.automorphism o nn p h res rsz rsl a asz asl).mem.size = h.mem.size ∧
    Frame nn res rsz rsl h.mem (VecZnx.automorphism o nn p h res rsz rsl a asz asl).mem := by
  rw [automorphism_runNF]
  exact (runNF_post (kernOK_aut ..) h).footprint

theorem copy_src_a_readonly (o : Ops α) (nn : Nat) (h : Heap α) (res rsz rsl a asz asl : Nat)
    (hsep : Sep nn res rsz rsl a asz asl) (i c : Nat) (hi : i < asz) (hc : c < nn) :
    (VecZnx.copy o nn h res rsz rsl a asz asl).mem[a + i * asl + c]? = h.mem[a + i * asl + c]? :=
  frame_src (copy_frame o nn h res rsz rsl a asz asl).2 hsep i c hi hc

theorem negate_src_a_readonly (o : Ops α) (nn : Nat) (h : Heap α) (res rsz rsl a asz asl : Nat)
    (hsep : Sep nn res rsz rsl a asz asl) (i c : Nat) (hi : i < asz) (hc : c < nn) :
    (VecZnx.negate o nn h res rsz rsl a asz asl).mem[a + i * asl + c]? = h.mem[a + i * asl + c]? :=
  frame_src (negate_frame o nn h res rsz rsl a asz asl).2 hsep i c hi hc

theorem rotate_src_a_readonly (o : Ops α) (nn : Nat) (p : Int) (h : Heap α) (res rsz rsl a asz asl : Nat)
    (hsep : Sep nn res rsz rsl a asz asl) (i c : Nat) (hi : i < asz) (hc : c < nn) :
    (VecZnx.rotate o nn p h res rsz rsl a asz asl).mem[a + i * asl + c]? = h.mem[a + i * asl + c]? :=
  frame_src (rotate_frame o nn p h res rsz rsl a asz asl).2 hsep i c hi hc

theorem automorphism_src_a_readonly (o : Ops α) (nn : Nat) (p : Int) (h : Heap α) (res rsz rsl a asz asl : Nat)
    (hsep : Sep nn res rsz rsl a asz asl) (i c : Nat) (hi : i < asz) (hc : c < nn) :
    (VecZnx.automorphism o nn p h res rsz rsl a asz asl).mem[a + i * asl + c]? = h.mem[a + i * asl + c]? :=
  frame_src (automorphism_frame o nn p h res rsz rsl a asz asl).2 hsep i c hi hc

/-- `a` separate: unchanged, whatever `b` is (e.g. `b == res`, the in-place call `res += a`) -/
theorem add_src_a_readonly (o : Ops α) (nn : Nat) (h : Heap α) (res rsz rsl a asz asl b bsz bsl : Nat)
    (hsep : Sep nn res rsz rsl a asz asl) (i c : Nat) (hi : i < asz) (hc : c < nn) :
    (VecZnx.add o nn h res rsz rsl a asz asl b bsz bsl).mem[a + i * asl + c]? = h.mem[a + i * asl + c]? :=
  frame_src (add_frame o nn h res rsz rsl a asz asl b bsz bsl).2 hsep i c hi hc

theorem add_src_b_readonly (o : Ops α) (nn : Nat) (h : Heap α) (res rsz rsl a asz asl b bsz bsl : Nat)
    (hsep : Sep nn res rsz rsl b bsz bsl) (i c : Nat) (hi : i < bsz) (hc : c < nn) :
    (VecZnx.add o nn h res rsz rsl a asz asl b bsz bsl).mem[b + i * bsl + c]? = h.mem[b + i * bsl + c]? :=
  frame_src (add_frame o nn h res rsz rsl a asz asl b bsz bsl).2 hsep i c hi hc

theorem sub_src_a_readonly (o : Ops α) (nn : Nat) (h : Heap α) (res rsz rsl a asz asl b bsz bsl : Nat)
    (hsep : Sep nn res rsz rsl a asz asl) (i c : Nat) (hi : i < asz) (hc : c < nn) :
    (VecZnx.sub o nn h res rsz rsl a asz asl b bsz bsl).mem[a + i * asl + c]? = h.mem[a + i * asl + c]? :=
  frame_src (sub_frame o nn h res rsz rsl a asz asl b bsz bsl).2 hsep i c hi hc

theorem sub_src_b_readonly (o : Ops α) (nn : Nat) (h : Heap α) (res rsz rsl a asz asl b bsz bsl : Nat)
    (hsep : Sep nn res rsz rsl b bsz bsl) (i c : Nat) (hi : i < bsz) (hc : c < nn) :
    (VecZnx.sub o nn h res rsz rsl a asz asl b bsz bsl).mem[b + i * bsl + c]? = h.mem[b + i * bsl + c]? :=
  frame_src (sub_frame o nn h res rsz rsl a asz asl b bsz bsl).2 hsep i c hi hc

theorem copy_src_a_extent_readonly (o : Ops α) (nn : Nat) (h : Heap α) (res rsz rsl a asz asl : Nat)
    (hsep : ExtentSep nn res rsz rsl a asz asl) (x : Nat) (h1 : a ≤ x) (h2 : x < a + asz * asl) :
    (VecZnx.copy o nn h res rsz rsl a asz asl).mem[x]? = h.mem[x]? :=
  frame_extent (copy_frame o nn h res rsz rsl a asz asl).2 a (a + asz * asl) hsep x h1 h2

theorem negate_src_a_extent_readonly (o : Ops α) (nn : Nat) (h : Heap α) (res rsz rsl a asz asl : Nat)
    (hsep : ExtentSep nn res rsz rsl a asz asl) (x : Nat) (h1 : a ≤ x) (h2 : x < a + asz * asl) :
    (VecZnx.negate o nn h res rsz rsl a asz asl).mem[x]? = h.mem[x]? :=
  frame_extent (negate_frame o nn h res rsz rsl a asz asl).2 a (a + asz * asl) hsep x h1 h2

theorem rotate_src_a_extent_readonly (o : Ops α) (nn : Nat) (p : Int) (h : Heap α) (res rsz rsl a asz asl : Nat)
    (hsep : ExtentSep nn res rsz rsl a asz asl) (x : Nat) (h1 : a ≤ x) (h2 : x < a + asz * asl) :
    (VecZnx.rotate o nn p h res rsz rsl a asz asl).mem[x]? = h.mem[x]? :=
  frame_extent (rotate_frame o nn p h res rsz rsl a asz asl).2 a (a + asz * asl) hsep x h1 h2

theorem automorphism_src_a_extent_readonly (o : Ops α) (nn : Nat) (p : Int) (h : Heap α)
    (res rsz rsl a asz asl : Nat)
    (hsep : ExtentSep nn res rsz rsl a asz asl) (x : Nat) (h1 : a ≤ x) (h2 : x < a + asz * asl) :
    (VecZnx.automorphism o nn p h res rsz rsl a asz asl).mem[x]? = h.mem[x]? :=
  frame_extent (automorphism_frame o nn p h res rsz rsl a asz asl).2 a (a + asz * asl) hsep x h1 h2

theorem add_src_a_extent_readonly (o : Ops α) (nn : Nat) (h : Heap α) (res rsz rsl a asz asl b bsz bsl : Nat)
    (hsep : ExtentSep nn res rsz rsl a asz asl) (x : Nat) (h1 : a ≤ x) (h2 : x < a + asz * asl) :
    (VecZnx.add o nn h res rsz rsl a asz asl b bsz bsl).mem[x]? = h.mem[x]? :=
  frame_extent (add_frame o nn h res rsz rsl a asz asl b bsz bsl).2 a (a + asz * asl) hsep x h1 h2

theorem add_src_b_extent_readonly (o : Ops α) (nn : Nat) (h : Heap α) (res rsz rsl a asz asl b bsz bsl : Nat)
    (hsep : ExtentSep nn res rsz rsl b bsz bsl) (x : Nat) (h1 : b ≤ x) (h2 : x < b + bsz * bsl) :
    (VecZnx.add o nn h res rsz rsl a asz asl b bsz bsl).mem[x]? = h.mem[x]? :=
  frame_extent (add_frame o nn h res rsz rsl a asz asl b bsz bsl).2 b (b + bsz * bsl) hsep x h1 h2

theorem sub_src_a_extent_readonly (o : Ops α) (nn : Nat) (h : Heap α) (res rsz rsl a asz asl b bsz bsl : Nat)
    (hsep : ExtentSep nn res rsz rsl a asz asl) (x : Nat) (h1 : a ≤ x) (h2 : x < a + asz * asl) :
    (VecZnx.sub o nn h res rsz rsl a asz asl b bsz bsl).mem[x]? = h.mem[x]? :=
  frame_extent (sub_frame o nn h res rsz rsl a asz asl b bsz bsl).2 a (a + asz * asl) hsep x h1 h2

theorem sub_src_b_extent_readonly (o : Ops α) (nn : Nat) (h : Heap α) (res rsz rsl a asz asl b bsz bsl : Nat)
    (hsep : ExtentSep nn res rsz rsl b bsz bsl) (x : Nat) (h1 : b ≤ x) (h2 : x < b + bsz * bsl) :
    (VecZnx.sub o nn h res rsz rsl a asz asl b bsz bsl).mem[x]? = h.mem[x]? :=
  frame_extent (sub_frame o nn h res rsz rsl a asz asl b bsz bsl).2 b (b + bsz * bsl) hsep x h1 h2

/-! ### an aliased source with more limbs than the output: its limbs past `rsz` (and every cell after them) are still untouched
    (e.g. `vec_znx_negate(res, 2, sl, res, 5, sl)` leaves limbs 2..4 alone) -/

theorem negate_aliased_tail_readonly (o : Ops α) (nn : Nat) (h : Heap α) (res rsz rsl asz : Nat)
    (hsl : nn ≤ rsl) (i c : Nat) (hi : rsz ≤ i) :
    (VecZnx.negate o nn h res rsz rsl res asz rsl).mem[res + i * rsl + c]? = h.mem[res + i * rsl + c]? := by
  apply (negate_frame o nn h res rsz rsl res asz rsl).2
  intro j hj
  have := mul_step j i rsl (by omega)
  omega

/-! ### big-coefficient wrappers: the same functions (strides `nn`), e.g. the mixed forms -/

theorem big_add_small_src_readonly (o : Ops α) (nn : Nat) (h : Heap α) (res rsz a asz b bsz bsl : Nat)
    (hsa : Sep nn res rsz nn a asz nn) (hsb : Sep nn res rsz nn b bsz bsl) (i c : Nat) (hc : c < nn) :
    let h' := VecZnxBig.addSmall o nn h res rsz a asz b bsz bsl
    (i < asz → h'.mem[a + i * nn + c]? = h.mem[a + i * nn + c]?) ∧
    (i < bsz → h'.mem[b + i * bsl + c]? = h.mem[b + i * bsl + c]?) :=
  ⟨fun hi => add_src_a_readonly o nn h res rsz nn a asz nn b bsz bsl hsa i c hi hc,
   fun hi => add_src_b_readonly o nn h res rsz nn a asz nn b bsz bsl hsb i c hi hc⟩

theorem big_sub_small_a_src_readonly (o : Ops α) (nn : Nat) (h : Heap α) (res rsz a asz asl b bsz : Nat)
    (hsa : Sep nn res rsz nn a asz asl) (hsb : Sep nn res rsz nn b bsz nn) (i c : Nat) (hc : c < nn) :
    let h' := VecZnxBig.subSmallA o nn h res rsz a asz asl b bsz
    (i < asz → h'.mem[a + i * asl + c]? = h.mem[a + i * asl + c]?) ∧
    (i < bsz → h'.mem[b + i * nn + c]? = h.mem[b + i * nn + c]?) :=
  ⟨fun hi => sub_src_a_readonly o nn h res rsz nn a asz asl b bsz nn hsa i c hi hc,
   fun hi => sub_src_b_readonly o nn h res rsz nn a asz asl b bsz nn hsb i c hi hc⟩

theorem big_rotate_src_readonly (o : Ops α) (nn : Nat) (p : Int) (h : Heap α) (res rsz a asz : Nat)
    (hsa : Sep nn res rsz nn a asz nn) (i c : Nat) (hi : i < asz) (hc : c < nn) :
    (VecZnxBig.rotate o nn p h res rsz a asz).mem[a + i * nn + c]? = h.mem[a + i * nn + c]? :=
  rotate_src_a_readonly o nn p h res rsz nn a asz nn hsa i c hi hc

theorem big_automorphism_src_readonly (o : Ops α) (nn : Nat) (p : Int) (h : Heap α) (res rsz a asz : Nat)
    (hsa : Sep nn res rsz nn a asz nn) (i c : Nat) (hi : i < asz) (hc : c < nn) :
    (VecZnxBig.automorphism o nn p h res rsz a asz).mem[a + i * nn + c]? = h.mem[a + i * nn + c]? :=
  automorphism_src_a_readonly o nn p h res rsz nn a asz nn hsa i c hi hc

/-! ### the hypotheses are satisfiable: `nn = 2`, res = a at 0 (stride 3, 3 output limbs, `a` has
    1 limb), b at 9 (2 limbs, stride 2): `b` is separate, and its whole extent `[9, 13)` too -/

def exHeap : Heap Int := ⟨#[1, 2, 77, 3, 4, 77, 5, 6, 77, 10, 20, 30, 40], true⟩

example := add_src_b_readonly i64Ops 2 exHeap 0 3 3 0 1 3 9 2 2 (by intro i j hi hj; omega)
example := add_src_b_extent_readonly i64Ops 2 exHeap 0 3 3 0 1 3 9 2 2 (by intro j hj; omega)
example := sub_src_a_readonly i64Ops 2 exHeap 0 3 3 9 2 2 0 1 3 (by intro i j hi hj; omega)
/-- the call `res -= b` (res == a) changes cells 0,1,3,4,6,7 only: padding 2,5,8 and b untouched -/
example : (VecZnx.sub i64Ops 2 exHeap 0 3 3 0 1 3 9 2 2).mem
    = #[-9, -18, 77, -30, -40, 77, 0, 0, 77, 10, 20, 30, 40] := by decide
/-- out-of-place automorphism reading b: b (cells 9..12) untouched -/
example : (VecZnx.automorphism i64Ops 2 3 exHeap 0 3 3 9 2 2).mem
    = #[10, -20, 77, 30, -40, 77, 0, 0, 77, 10, 20, 30, 40] := by decide
/-- frame even for a partially overlapping (unsupported) source: `a` at offset 1 straddles output
    limb 0; the output values are then unspecified but nothing outside cells 0,1,3,4,6,7 moves -/
example := (copy_frame i64Ops 2 exHeap 0 3 3 1 3 3).2

end Spq.C18
