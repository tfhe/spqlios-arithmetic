/-
  ModHeap — heap-level refinement of the FFT64 module entry points (C11 / C13 / C18 for the DFT, SVP, VMP paths).

  Model: `Spq/ModuleHeap.lean` — ONE arena of 64-bit cells, C pointers = cell offsets, every access and-ed into
  `ok` (arena bounds, declared scratch byte count, and the aliasing each kernel tolerates).  The stream `mh_arena`
  (harness/mh.cpp) ties that model to the real entry points bit for bit on randomly laid out exactly-sized arenas.

  Each theorem below has the same shape.  Hypotheses: the declared regions lie inside the arena and the C contract's
  disjointness holds (what exactly each function tolerates is in the hypotheses, nothing more is assumed).
  Conclusion, for ALL `nn`, limb counts (0 and unequal included), strides and matrix shapes, for every module
  whose parts map `nn`-cell limbs to `nn`-cell limbs (`Sized`) and every cell codec that reads back what it stored
  (`RoundTrip`; the library's codec `Cells.f64` is the identity on DFT-space patterns):
    * `ok` is unchanged  (C11: no access outside the arena, outside the declared scratch, or with an aliasing
      the kernel does not support; scratch is declared with exactly `*_tmp_bytes(shape)` bytes — `Spq.TmpBytes`
      formulas, tied to the live library by `C11.tmpbytes_current`),
    * the arena keeps its size and every cell outside result (+ scratch) is unchanged  (C18: sources, prepared
      objects, stride padding, gaps; `vec_znx_idft_tmp_a` is the documented exception and says so),
    * the result region holds the functional model's output (`Spq.Module.*`), encoded.
  C13: `vec_znx_idft` with `res == a_dft` satisfies the same equation as out of place, for every size pair.
-/
import SpqProofs.Lemmas.ModHeapApply
import SpqProofs.Lemmas.ModHeapSized
import SpqProofs.Lemmas.ModHeapExample
namespace Spq.ModHeap
open Spq Heap ModuleHeap
variable {γ α : Type}

/-- `fft64_vec_znx_dft`: sources = the `min(res_size, a_size)` limbs `a + i*a_sl` (any stride, may overlap each
    other), each inside the arena and disjoint from the result region -/
theorem vec_znx_dft_heap (c : Module.Parts α) (cd : Cells γ α) (hs : Sized c) (hr : RoundTrip cd) (h : Heap γ)
    (res rsz a asz asl : Nat) (hres : res + rsz * c.nn ≤ h.mem.size)
    (hsrc : ∀ i, i < min rsz asz → a + i * asl + c.nn ≤ h.mem.size ∧
      (a + i * asl + c.nn ≤ res ∨ res + rsz * c.nn ≤ a + i * asl)) :
    (vecDft c cd h res rsz a asz asl).ok = h.ok ∧
    (vecDft c cd h res rsz a asz asl).mem.size = h.mem.size ∧
    (∀ x, x < res ∨ res + rsz * c.nn ≤ x → (vecDft c cd h res rsz a asz asl).mem[x]? = h.mem[x]?) ∧
    (vecDft c cd h res rsz a asz asl).mem.extract res (res + rsz * c.nn) =
      (Module.vecDft c rsz (viewI cd h.mem a) asz asl).map cd.enc := by
  obtain ⟨f, v⟩ := vecDft_heap c cd hs hr h res rsz a asz asl hres hsrc
  obtain ⟨a1, a2, a3, a4⟩ := final_form f cd.dflt res (rsz * c.nn) _ hres v
  exact ⟨a1, a2, fun x hx => a3 x (In.out hx), a4⟩

/-- `fft64_vec_znx_idft`, out of place AND in place (`res = adft`), every `(res_size, a_size)`: only the result
    region changes, it holds `vecIdft` of the first `min(res_size, a_size)` limbs of `a_dft` -/
theorem vec_znx_idft_heap (c : Module.Parts α) (cd : Cells γ α) (hs : Sized c) (hr : RoundTrip cd) (h : Heap γ)
    (res rsz adft asz : Nat) (hres : res + rsz * c.nn ≤ h.mem.size)
    (hsrc : adft + min rsz asz * c.nn ≤ h.mem.size)
    (hal : res = adft ∨ adft + min rsz asz * c.nn ≤ res ∨ res + rsz * c.nn ≤ adft) :
    (vecIdft c cd h res rsz adft asz).ok = h.ok ∧
    (vecIdft c cd h res rsz adft asz).mem.size = h.mem.size ∧
    (∀ x, x < res ∨ res + rsz * c.nn ≤ x → (vecIdft c cd h res rsz adft asz).mem[x]? = h.mem[x]?) ∧
    (vecIdft c cd h res rsz adft asz).mem.extract res (res + rsz * c.nn) =
      (Module.vecIdft c rsz (rdD cd h adft (min rsz asz * c.nn)) asz).map cd.encI := by
  have SP := fun p => Sub.pre p c.nn rsz (min rsz asz) (Nat.min_le_left rsz asz)
  -- after the optional copy the function is `vec_znx_idft_tmp_a` with `a_dft = res`
  have inPlace : ∀ g0 : Heap γ, res + rsz * c.nn ≤ g0.mem.size →
      Fr (In res (rsz * c.nn)) g0 (vecIdftTmpA c cd g0 res rsz res asz) ∧
      (vecIdftTmpA c cd g0 res rsz res asz).readLimb cd.dflt res (rsz * c.nn) =
        (Module.vecIdft c rsz (rdD cd g0 res (min rsz asz * c.nn)) asz).map cd.encI := by
    intro g0 hg0
    obtain ⟨f, v⟩ := vecIdftTmpA_heap c cd hs hr g0 res rsz res asz hg0 ((SP res).le hg0) (Or.inl rfl)
    exact ⟨f.mono (fun x q => q.elim id ((SP res).mem x)), v⟩
  by_cases e : res = adft
  · subst e
    unfold vecIdft
    simp only [bne_self_eq_false, Bool.false_eq_true, if_false]
    obtain ⟨f, v⟩ := inPlace h hres
    obtain ⟨a1, a2, a3, a4⟩ := final_form f cd.dflt res (rsz * c.nn) _ hres v
    exact ⟨a1, a2, fun x hx => a3 x (In.out hx), a4⟩
  · have hd : adft + min rsz asz * c.nn ≤ res ∨ res + rsz * c.nn ≤ adft := hal.resolve_left e
    obtain ⟨f0, v0⟩ := kCopy_spec cd h res adft (min rsz asz * c.nn) hsrc ((SP res).le hres)
      (disj_of _ _ _ _ (Dj.mono hd (Sub.refl _ _) (SP res)).symm)
    obtain ⟨f1, v1⟩ := inPlace (kCopy cd res adft (min rsz asz * c.nn) h) (f0.size ▸ hres)
    unfold vecIdft
    simp only [bne_iff_ne, ne_eq, e, not_false_eq_true, if_true]
    obtain ⟨a1, a2, a3, a4⟩ := final_form (f0.trans f1) cd.dflt res (rsz * c.nn) _ hres v1
    refine ⟨a1, a2, fun x hx => a3 x (fun q => q.elim (fun q => In.out hx ((SP res).mem x q)) (In.out hx)), a4.trans ?_⟩
    unfold rdD
    rw [v0]

/-- C13: running `vec_znx_idft` in place on `a_dft` leaves in `a_dft`'s place exactly the cells the out-of-place
    run leaves in `res`, for every `(res_size, a_size)` (also `res_size > a_size`: zero limbs; `<`: truncation) -/
theorem vec_znx_idft_inplace_eq_outofplace (c : Module.Parts α) (cd : Cells γ α) (hs : Sized c) (hr : RoundTrip cd)
    (h : Heap γ) (res rsz adft asz : Nat) (hres : res + rsz * c.nn ≤ h.mem.size)
    (hin : adft + rsz * c.nn ≤ h.mem.size)
    (hd : adft + min rsz asz * c.nn ≤ res ∨ res + rsz * c.nn ≤ adft) :
    (vecIdft c cd h adft rsz adft asz).ok = (vecIdft c cd h res rsz adft asz).ok ∧
    (vecIdft c cd h adft rsz adft asz).mem.extract adft (adft + rsz * c.nn) =
      (vecIdft c cd h res rsz adft asz).mem.extract res (res + rsz * c.nn) := by
  have hsrc := (Sub.pre adft c.nn rsz (min rsz asz) (Nat.min_le_left rsz asz)).le hin
  obtain ⟨a1, _, _, a4⟩ := vec_znx_idft_heap c cd hs hr h adft rsz adft asz hin hsrc (Or.inl rfl)
  obtain ⟨b1, _, _, b4⟩ := vec_znx_idft_heap c cd hs hr h res rsz adft asz hres hsrc (Or.inr hd)
  exact ⟨a1.trans b1.symm, a4.trans b4.symm⟩

/-- `fft64_vec_znx_idft_tmp_a`: the documented exception to "sources are read-only" — besides the result region the
    `min(res_size, a_size)` limbs of `a_dft` that are used may change (they hold the inverse FFT afterwards), nothing
    else; `res == a_dft` is tolerated as well -/
theorem vec_znx_idft_tmp_a_heap (c : Module.Parts α) (cd : Cells γ α) (hs : Sized c) (hr : RoundTrip cd) (h : Heap γ)
    (res rsz adft asz : Nat) (hres : res + rsz * c.nn ≤ h.mem.size)
    (hsrc : adft + min rsz asz * c.nn ≤ h.mem.size)
    (hal : res = adft ∨ adft + min rsz asz * c.nn ≤ res ∨ res + rsz * c.nn ≤ adft) :
    (vecIdftTmpA c cd h res rsz adft asz).ok = h.ok ∧
    (vecIdftTmpA c cd h res rsz adft asz).mem.size = h.mem.size ∧
    (∀ x, (x < res ∨ res + rsz * c.nn ≤ x) → (x < adft ∨ adft + min rsz asz * c.nn ≤ x) →
      (vecIdftTmpA c cd h res rsz adft asz).mem[x]? = h.mem[x]?) ∧
    (vecIdftTmpA c cd h res rsz adft asz).mem.extract res (res + rsz * c.nn) =
      (Module.vecIdft c rsz (rdD cd h adft (min rsz asz * c.nn)) asz).map cd.encI := by
  obtain ⟨f, v⟩ := vecIdftTmpA_heap c cd hs hr h res rsz adft asz hres hsrc hal
  obtain ⟨a1, a2, a3, a4⟩ := final_form f cd.dflt res (rsz * c.nn) _ hres v
  exact ⟨a1, a2, fun x hx hy => a3 x (fun q => q.elim (In.out hx) (In.out hy)), a4⟩

/-- `fft64_svp_prepare_ref` -/
theorem svp_prepare_heap (c : Module.Parts α) (cd : Cells γ α) (hs : Sized c) (hr : RoundTrip cd) (h : Heap γ)
    (ppol pol : Nat) (hp : ppol + c.nn ≤ h.mem.size) (hq : pol + c.nn ≤ h.mem.size)
    (hd : pol + c.nn ≤ ppol ∨ ppol + c.nn ≤ pol) :
    (svpPrepare c cd h ppol pol).ok = h.ok ∧
    (svpPrepare c cd h ppol pol).mem.size = h.mem.size ∧
    (∀ x, x < ppol ∨ ppol + c.nn ≤ x → (svpPrepare c cd h ppol pol).mem[x]? = h.mem[x]?) ∧
    (svpPrepare c cd h ppol pol).mem.extract ppol (ppol + c.nn) =
      (Module.svpPrepare c (rdI cd h pol c.nn)).map cd.enc := by
  obtain ⟨f, v⟩ := dftStep c cd hs hr h h _ (Fr.refl (fun _ => False) h) ppol pol hp hq hd (fun _ _ q => q)
  obtain ⟨a1, a2, a3, a4⟩ := final_form f cd.dflt ppol c.nn _ hp v
  exact ⟨a1, a2, fun x hx => a3 x (In.out hx), a4⟩

/-- `fft64_svp_apply_dft_ref`: the prepared polynomial and the source limbs are disjoint from the result region -/
theorem svp_apply_dft_heap (c : Module.Parts α) (cd : Cells γ α) (hs : Sized c) (hr : RoundTrip cd) (h : Heap γ)
    (res rsz ppol a asz asl : Nat) (hres : res + rsz * c.nn ≤ h.mem.size)
    (hpp : ppol + c.nn ≤ h.mem.size) (hpd : ppol + c.nn ≤ res ∨ res + rsz * c.nn ≤ ppol)
    (hsrc : ∀ i, i < min rsz asz → a + i * asl + c.nn ≤ h.mem.size ∧
      (a + i * asl + c.nn ≤ res ∨ res + rsz * c.nn ≤ a + i * asl)) :
    (svpApply c cd h res rsz ppol a asz asl).ok = h.ok ∧
    (svpApply c cd h res rsz ppol a asz asl).mem.size = h.mem.size ∧
    (∀ x, x < res ∨ res + rsz * c.nn ≤ x → (svpApply c cd h res rsz ppol a asz asl).mem[x]? = h.mem[x]?) ∧
    (svpApply c cd h res rsz ppol a asz asl).mem.extract res (res + rsz * c.nn) =
      (Module.svpApply c rsz (rdD cd h ppol c.nn) (viewI cd h.mem a) asz asl).map cd.enc := by
  have hsm : min rsz asz ≤ rsz := Nat.min_le_left _ _
  obtain ⟨f, v⟩ := vec_refine c.nn res rsz (min rsz asz) hsm
    (fun i h => h |> kFromZnx c cd (res + i * c.nn) (a + i * asl) |> kFft c cd (res + i * c.nn)
      |> kMul c cd (res + i * c.nn) (res + i * c.nn) ppol)
    (kZeroD c cd (res + min rsz asz * c.nn) ((rsz - min rsz asz) * c.nn)) h cd.dflt cd.enc c.ar.zero
    (fun i => if i < asz then Module.mul c (c.fft (c.fromZnx (Module.limbOf (viewI cd h.mem a) i asl c.nn)))
        (rdD cd h ppol c.nn)
      else Array.replicate c.nn c.ar.zero)
    (fun _ _ => False) (fun _ _ _ _ _ q => q.elim)
    (fun i g hi f => by
      have hi2 := hsrc i hi
      have hir : i < rsz := Nat.lt_of_lt_of_le hi hsm
      -- limb `i` of the result, and the prefix of the limbs before it, inside the result region
      have SL : Sub (res + i * c.nn) c.nn res (rsz * c.nn) := Sub.limb _ _ _ i hir
      have SPre : Sub res (i * c.nn) res (rsz * c.nn) := Sub.pre res c.nn rsz i (Nat.le_of_lt hir)
      rw [if_pos (Nat.lt_of_lt_of_le hi (Nat.min_le_right _ _)), limbOf_viewI cd h a i asl c.nn hi2.1]
      have hW : ∀ x, (In res (i * c.nn) x ∨ ∃ j, j < i ∧ False) → In res (rsz * c.nn) x :=
        fun x hw => hw.elim (SPre.mem x) (fun ⟨_, _, q⟩ => q.elim)
      obtain ⟨f1, v1⟩ := dftStep c cd hs hr h g _ f (res + i * c.nn) (a + i * asl) (SL.le hres) hi2.1
        (Dj.mono hi2.2 (Sub.refl _ _) SL) (fun x hx hw => Dj.not_mem hi2.2 x hx (hW x hw))
      have fg1 := f.trans f1
      obtain ⟨f2, v2⟩ := kMul_spec c cd (kFft c cd (res + i * c.nn) (kFromZnx c cd (res + i * c.nn) (a + i * asl) g))
        (res + i * c.nn) (res + i * c.nn) ppol (fg1.size ▸ SL.le hres) (fg1.size ▸ hpp) (fg1.size ▸ SL.le hres)
        (sameOrDisj_same _ _) (sameOrDisj_of _ _ _ (Dj.mono hpd (Sub.refl _ _) SL).symm)
      refine ⟨(f1.trans' f2).mono (fun x q => Or.inl q), ?_⟩
      rw [v2, rdD_of_cells cd hr _ _ _ _ v1, rdD_of_fr fg1 cd ppol c.nn ?_]
      intro x hx hw
      exact hw.elim (fun hw => Dj.not_mem hpd x hx (hW x hw)) (fun q => (Dj.mono hpd (Sub.refl _ _) SL).not_mem x hx q))
    (fun g hg => kZeroD_spec c cd g _ _ (hg ▸ (Sub.tail res c.nn rsz _ hsm).le hres))
    (fun i h1 h2 => if_neg (by omega))
  obtain ⟨a1, a2, a3, a4⟩ := final_form f cd.dflt res (rsz * c.nn) _ hres v
  exact ⟨a1, a2, fun x hx => a3 x (fun q => q.elim (In.out hx) (fun ⟨_, _, q⟩ => q)), a4⟩

/-- `fft64_znx_small_single_product` with the scratch declared as `znx_small_single_product_tmp_bytes` (or more):
    `ok` stays set (C11: the two transforms at `tmp` and `tmp + nn` fit exactly), only `res` and the `2*nn` scratch
    cells change; `res` may overlap `a` and `b` in any way (they are consumed before `res` is written) -/
theorem znx_small_single_product_heap (c : Module.Parts α) (cd : Cells γ α) (hs : Sized c) (hr : RoundTrip cd)
    (h : Heap γ) (res a b tmp tb : Nat) (htb : smallProductTmpBytes c.nn ≤ tb)
    (ha : a + c.nn ≤ h.mem.size) (hb : b + c.nn ≤ h.mem.size) (hres : res + c.nn ≤ h.mem.size)
    (htmp : tmp + 2 * c.nn ≤ h.mem.size)
    (hda : a + c.nn ≤ tmp ∨ tmp + 2 * c.nn ≤ a) (hdb : b + c.nn ≤ tmp ∨ tmp + 2 * c.nn ≤ b)
    (hdr : res + c.nn ≤ tmp ∨ tmp + 2 * c.nn ≤ res) :
    (smallProduct c cd h res a b tmp tb).ok = h.ok ∧
    (smallProduct c cd h res a b tmp tb).mem.size = h.mem.size ∧
    (∀ x, (x < res ∨ res + c.nn ≤ x) → (x < tmp ∨ tmp + 2 * c.nn ≤ x) →
      (smallProduct c cd h res a b tmp tb).mem[x]? = h.mem[x]?) ∧
    (smallProduct c cd h res a b tmp tb).mem.extract res (res + c.nn) =
      (Module.smallProduct c (rdI cd h a c.nn) (rdI cd h b c.nn)).map cd.encI := by
  have htb' : 8 * (2 * c.nn) ≤ tb := by
    simp only [smallProductTmpBytes, TmpBytes.formula] at htb; omega
  unfold smallProduct
  simp only [scr_eq tb 0 c.nn _ (by omega), scr_eq tb c.nn c.nn _ (by omega), scr_eq tb 0 (2 * c.nn) _ (by omega)]
  -- the two halves of the scratch
  have SA : Sub tmp c.nn tmp (2 * c.nn) := Sub.head _ _ _ (by omega)
  have SB : Sub (tmp + c.nn) c.nn tmp (2 * c.nn) := Sub.at _ _ _ _ (by omega)
  have dAB : Dj tmp c.nn (tmp + c.nn) c.nn := Or.inl (Nat.le_refl _)
  have wA : ∀ x, In tmp c.nn x → (In tmp (2 * c.nn) x ∨ In res c.nn x) := fun x q => Or.inl (SA.mem x q)
  have wB : ∀ x, In (tmp + c.nn) c.nn x → (In tmp (2 * c.nn) x ∨ In res c.nn x) := fun x q => Or.inl (SB.mem x q)
  -- ffta <- a
  obtain ⟨f1, v1⟩ := kFromZnx_spec c cd h hs tmp a ha (SA.le htmp)
    (sameOrDisj_of _ _ _ (Dj.mono hda (Sub.refl _ _) SA).symm)
  have F1 := (Fr.refl (fun x => In tmp (2 * c.nn) x ∨ In res c.nn x) h).step f1 wA
  -- fftb <- b
  obtain ⟨f2, v2⟩ := kFromZnx_spec c cd _ hs (tmp + c.nn) b (F1.size ▸ hb) (F1.size ▸ SB.le htmp)
    (sameOrDisj_of _ _ _ (Dj.mono hdb (Sub.refl _ _) SB).symm)
  rw [rdI_of_fr f1 cd b c.nn (Dj.mono hdb (Sub.refl _ _) SA).not_mem] at v2
  have a2 := f2.keeps dAB v1
  have F2 := F1.step f2 wB
  -- fft(ffta)
  obtain ⟨f3, v3⟩ := kFft_spec c cd _ hs tmp (F2.size ▸ SA.le htmp)
  rw [rdD_of_cells cd hr _ _ _ _ a2] at v3
  have b3 := f3.keeps dAB.symm v2
  have F3 := F2.step f3 wA
  -- fft(fftb)
  obtain ⟨f4, v4⟩ := kFft_spec c cd _ hs (tmp + c.nn) (F3.size ▸ SB.le htmp)
  rw [rdD_of_cells cd hr _ _ _ _ b3] at v4
  have a4 := f4.keeps dAB v3
  have F4 := F3.step f4 wB
  -- ffta <- ffta * fftb
  obtain ⟨f5, v5⟩ := kMul_spec c cd _ tmp tmp (tmp + c.nn) (F4.size ▸ SA.le htmp) (F4.size ▸ SB.le htmp)
    (F4.size ▸ SA.le htmp) (sameOrDisj_same _ _) (sameOrDisj_of _ _ _ dAB)
  rw [rdD_of_cells cd hr _ _ _ _ a4, rdD_of_cells cd hr _ _ _ _ v4] at v5
  have F5 := F4.step f5 wA
  -- ifft(ffta)
  obtain ⟨f6, v6⟩ := kIfft_spec c cd _ hs tmp (F5.size ▸ SA.le htmp)
  rw [rdD_of_cells cd hr _ _ _ _ v5] at v6
  have F6 := F5.step f6 wA
  -- res <- round(ffta / m)
  obtain ⟨f7, v7⟩ := kToZnx_spec c cd _ hs res tmp (F6.size ▸ SA.le htmp) (F6.size ▸ hres)
    (sameOrDisj_of _ _ _ (Dj.mono hdr (Sub.refl _ _) SA))
  rw [rdD_of_cells cd hr _ _ _ _ v6] at v7
  obtain ⟨a1, a2, a3, a4⟩ := final_form (F6.step f7 (fun x q => Or.inr q)) cd.dflt res c.nn _ hres v7
  exact ⟨a1, a2, fun x hx hy => a3 x (fun q => q.elim (In.out hy) (In.out hx)), a4⟩

/-- `fft64_vmp_prepare_contiguous_{ref,avx}` with the scratch declared as `vmp_prepare_contiguous_tmp_bytes` (or
    more): `ok` stays set, only `pmat` and the `nn` scratch cells change (for `nn < 8` the scratch is not touched at
    all: lemma `vmpPrepare_heap`), `pmat` holds the prepared matrix of the `nrows × ncols` integer matrix at `mat`.
    Module shape: `nn = 2m`, and `4 | m` when `nn ≥ 8` (true for every power of two). -/
theorem vmp_prepare_contiguous_heap (c : Module.Parts α) (cd : Cells γ α) (hs : Sized c) (hr : RoundTrip cd) (h : Heap γ)
    (pmat mat nrows ncols tmp tb : Nat) (hnn : c.nn = 2 * c.m) (hm4 : 8 ≤ c.nn → c.m % 4 = 0)
    (htb : vmpPrepareTmpBytes c.nn ≤ tb)
    (hpm : pmat + c.nn * nrows * ncols ≤ h.mem.size) (hmat : mat + nrows * ncols * c.nn ≤ h.mem.size)
    (htmp : tmp + c.nn ≤ h.mem.size)
    (hd1 : mat + nrows * ncols * c.nn ≤ pmat ∨ pmat + c.nn * nrows * ncols ≤ mat)
    (hd2 : tmp + c.nn ≤ pmat ∨ pmat + c.nn * nrows * ncols ≤ tmp)
    (hd3 : tmp + c.nn ≤ mat ∨ mat + nrows * ncols * c.nn ≤ tmp) :
    (vmpPrepare c cd h pmat mat nrows ncols tmp tb).ok = h.ok ∧
    (vmpPrepare c cd h pmat mat nrows ncols tmp tb).mem.size = h.mem.size ∧
    (∀ x, (x < pmat ∨ pmat + c.nn * nrows * ncols ≤ x) → (x < tmp ∨ tmp + c.nn ≤ x) →
      (vmpPrepare c cd h pmat mat nrows ncols tmp tb).mem[x]? = h.mem[x]?) ∧
    (vmpPrepare c cd h pmat mat nrows ncols tmp tb).mem.extract pmat (pmat + c.nn * nrows * ncols) =
      (Module.vmpPrepare c (rdI cd h mat (nrows * ncols * c.nn)) nrows ncols).map cd.enc := by
  have htb' : 8 * c.nn ≤ tb := by
    simp only [vmpPrepareTmpBytes, TmpBytes.formula] at htb; omega
  obtain ⟨f, v⟩ := vmpPrepare_heap c cd hs hr h pmat mat nrows ncols tmp tb hnn hm4 (fun _ => htb') hpm hmat
    (fun _ => htmp) hd1 (fun _ => ⟨hd2, hd3⟩)
  obtain ⟨a1, a2, a3, a4⟩ := final_form f cd.dflt pmat (c.nn * nrows * ncols) _ hpm v
  exact ⟨a1, a2, fun x hx hy => a3 x (fun q => q.elim (In.out hx) (fun q => In.out hy q.2)), a4⟩

/-- `fft64_vmp_apply_dft_to_dft_{ref,avx}` with the scratch declared as `vmp_apply_dft_to_dft_tmp_bytes(res_size,
    a_size, nrows, ncols)` (or more): `ok` stays set (C11: the 16-cell accumulator and the `8*min(nrows,a_size)`-cell
    extraction buffer fit exactly), only `res` and those scratch cells change; `a_dft` is read on its first
    `min(nrows, a_size)` limbs only, `pmat` on its `nn*nrows*ncols` cells. -/
theorem vmp_apply_dft_to_dft_heap (c : Module.Parts α) (cd : Cells γ α) (hr : RoundTrip cd) (h : Heap γ)
    (res rsz adft asz pmat nrows ncols tmp tb : Nat) (hnn : c.nn = 2 * c.m) (hm4 : 8 ≤ c.nn → c.m % 4 = 0)
    (htb : vmpApplyDftToDftTmpBytes c.nn rsz asz nrows ncols ≤ tb)
    (hres : res + rsz * c.nn ≤ h.mem.size) (hadft : adft + min nrows asz * c.nn ≤ h.mem.size)
    (hpm : pmat + c.nn * nrows * ncols ≤ h.mem.size)
    (htmp : tmp + (16 + 8 * min nrows asz) ≤ h.mem.size)
    (dra : adft + min nrows asz * c.nn ≤ res ∨ res + rsz * c.nn ≤ adft)
    (drp : pmat + c.nn * nrows * ncols ≤ res ∨ res + rsz * c.nn ≤ pmat)
    (drt : tmp + (16 + 8 * min nrows asz) ≤ res ∨ res + rsz * c.nn ≤ tmp)
    (dat : tmp + (16 + 8 * min nrows asz) ≤ adft ∨ adft + min nrows asz * c.nn ≤ tmp)
    (dpt : tmp + (16 + 8 * min nrows asz) ≤ pmat ∨ pmat + c.nn * nrows * ncols ≤ tmp) :
    (vmpApplyDftToDft c cd h res rsz adft asz pmat nrows ncols tmp tb).ok = h.ok ∧
    (vmpApplyDftToDft c cd h res rsz adft asz pmat nrows ncols tmp tb).mem.size = h.mem.size ∧
    (∀ x, (x < res ∨ res + rsz * c.nn ≤ x) → (x < tmp ∨ tmp + (16 + 8 * min nrows asz) ≤ x) →
      (vmpApplyDftToDft c cd h res rsz adft asz pmat nrows ncols tmp tb).mem[x]? = h.mem[x]?) ∧
    (vmpApplyDftToDft c cd h res rsz adft asz pmat nrows ncols tmp tb).mem.extract res (res + rsz * c.nn) =
      (Module.vmpApplyDftToDft c rsz (rdD cd h adft (min nrows asz * c.nn)) asz
        (rdD cd h pmat (c.nn * nrows * ncols)) nrows ncols).map cd.enc := by
  have htb' : 128 + 64 * min nrows asz ≤ tb := by
    simp only [vmpApplyDftToDftTmpBytes, TmpBytes.formula] at htb; omega
  obtain ⟨f, v⟩ := vmpApplyDftToDft_heap c cd hr h res rsz adft asz pmat nrows ncols tmp tb hnn hm4 (fun _ => htb')
    hres hadft hpm dra drp (fun _ => ⟨htmp, drt, dat, dpt⟩)
  obtain ⟨a1, a2, a3, a4⟩ := final_form f cd.dflt res (rsz * c.nn) _ hres v
  exact ⟨a1, a2, fun x hx hy => a3 x (fun q => q.elim (In.out hx) (fun q => In.out hy q.2)), a4⟩

/-- `fft64_vmp_apply_dft_{ref,avx}` with the scratch declared as `vmp_apply_dft_tmp_bytes(res_size, a_size, nrows,
    ncols)` (or more), i.e. `rows*nn + 16 + 8*rows` cells with `rows = min(nrows, a_size)`: `ok` stays set (C11: the
    split of `tmp_space` into the DFT of the input rows and the scratch of `apply_dft_to_dft` fits exactly), only
    `res` and the scratch change, `res` holds `vmpApplyDft` of the integer limbs at `a` and the prepared matrix. -/
theorem vmp_apply_dft_heap (c : Module.Parts α) (cd : Cells γ α) (hs : Sized c) (hr : RoundTrip cd) (h : Heap γ)
    (res rsz a asz asl pmat nrows ncols tmp tb : Nat) (hnn : c.nn = 2 * c.m) (hm4 : 8 ≤ c.nn → c.m % 4 = 0)
    (htb : vmpApplyDftTmpBytes c.nn rsz asz nrows ncols ≤ tb)
    (hres : res + rsz * c.nn ≤ h.mem.size)
    (hpm : pmat + c.nn * nrows * ncols ≤ h.mem.size)
    (htmp : tmp + (min nrows asz * c.nn + 16 + 8 * min nrows asz) ≤ h.mem.size)
    (hsrc : ∀ i, i < min nrows asz → a + i * asl + c.nn ≤ h.mem.size ∧
      (a + i * asl + c.nn ≤ tmp ∨ tmp + (min nrows asz * c.nn + 16 + 8 * min nrows asz) ≤ a + i * asl))
    (drp : pmat + c.nn * nrows * ncols ≤ res ∨ res + rsz * c.nn ≤ pmat)
    (drt : tmp + (min nrows asz * c.nn + 16 + 8 * min nrows asz) ≤ res ∨ res + rsz * c.nn ≤ tmp)
    (dpt : tmp + (min nrows asz * c.nn + 16 + 8 * min nrows asz) ≤ pmat ∨ pmat + c.nn * nrows * ncols ≤ tmp) :
    (vmpApplyDft c cd h res rsz a asz asl pmat nrows ncols tmp tb).ok = h.ok ∧
    (vmpApplyDft c cd h res rsz a asz asl pmat nrows ncols tmp tb).mem.size = h.mem.size ∧
    (∀ x, (x < res ∨ res + rsz * c.nn ≤ x) → (x < tmp ∨ tmp + (min nrows asz * c.nn + 16 + 8 * min nrows asz) ≤ x) →
      (vmpApplyDft c cd h res rsz a asz asl pmat nrows ncols tmp tb).mem[x]? = h.mem[x]?) ∧
    (vmpApplyDft c cd h res rsz a asz asl pmat nrows ncols tmp tb).mem.extract res (res + rsz * c.nn) =
      (Module.vmpApplyDft c rsz (viewI cd h.mem a) asz asl (rdD cd h pmat (c.nn * nrows * ncols)) nrows ncols).map cd.enc := by
  have htb' : 8 * (min nrows asz * c.nn) + 128 + 64 * min nrows asz ≤ tb := by
    simp only [vmpApplyDftTmpBytes, TmpBytes.formula] at htb
    have e : min nrows asz * c.nn * 8 = 8 * (min nrows asz * c.nn) := Nat.mul_comm _ _
    omega
  unfold vmpApplyDft
  simp only []
  rw [scr_eq tb 0 (min nrows asz * c.nn) _ (by omega)]
  have hmin : min (min nrows asz) asz = min nrows asz := Nat.min_eq_left (Nat.min_le_right _ _)
  -- the scratch = the DFT of the input rows, then the scratch of `apply_dft_to_dft`
  have SD : Sub tmp (min nrows asz * c.nn) tmp (min nrows asz * c.nn + 16 + 8 * min nrows asz) :=
    Sub.head _ _ _ (by omega)
  have SS : Sub (tmp + min nrows asz * c.nn) (16 + 8 * min nrows asz) tmp (min nrows asz * c.nn + 16 + 8 * min nrows asz) :=
    Sub.at _ _ _ _ (by omega)
  obtain ⟨f1, v1⟩ := vecDft_heap c cd hs hr h tmp (min nrows asz) a asz asl (SD.le htmp)
    (fun i hi => ⟨(hsrc i (hmin ▸ hi)).1, Dj.mono (hsrc i (hmin ▸ hi)).2 (Sub.refl _ _) SD⟩)
  obtain ⟨f2, v2⟩ := vmpApplyDftToDft_heap c cd hr (vecDft c cd h tmp (min nrows asz) a asz asl) res rsz tmp asz pmat nrows ncols
    (tmp + min nrows asz * c.nn) (tb - 8 * (min nrows asz * c.nn)) hnn hm4 (fun _ => by omega)
    (f1.size ▸ hres) (f1.size ▸ SD.le htmp) (f1.size ▸ hpm) (Dj.mono drt SD (Sub.refl _ _)) drp
    (fun _ => ⟨f1.size ▸ SS.le htmp, Dj.mono drt SS (Sub.refl _ _), Or.inr (Nat.le_refl _), Dj.mono dpt SS (Sub.refl _ _)⟩)
  rw [rdD_of_cells cd hr _ _ _ _ v1, rdD_of_fr f1 cd pmat _ (Dj.mono dpt SD (Sub.refl _ _)).symm.not_mem] at v2
  obtain ⟨a1, a2, a3, a4⟩ := final_form (f1.trans f2) cd.dflt res (rsz * c.nn) _ hres v2
  refine ⟨a1, a2, fun x hx hy => a3 x (fun q => ?_), a4⟩
  rcases q with q | q | ⟨_, q⟩
  · exact In.out hy (SD.mem x q)
  · exact In.out hx q
  · exact In.out hy (SS.mem x q)

/-- The hypotheses on the module and the codec hold for what the library executes: the parts of an FFT64 module
    configuration (`Spq.Module.Cfg.parts`: bit-exact models of the installed conversion / FFT kernels, ANY twiddle
    tables) are `Sized` as soon as `nn` is even and a 4-lane AVX conversion kernel is installed only when `4 | nn`
    (the library installs them for `m ≥ 8` only; `reim_from_znx64_bnd50_fma` would write 4 cells for `nn = 2`), the
    codec `Cells.f64` (64-bit patterns, int64 in two's complement) round-trips, and `nn = 2m`. -/
theorem library_module_hypotheses (cfg : Module.Cfg) (hnn : cfg.nn % 2 = 0)
    (hv : cfg.fromBnd50 = true ∨ cfg.toVariant ≠ Conv.ToZnx64Variant.ref → cfg.nn % 4 = 0 ∧ 0 < cfg.nn) :
    Sized cfg.parts ∧ RoundTrip Cells.f64 ∧ cfg.parts.nn = 2 * cfg.parts.m :=
  ⟨sized_cfg cfg (by omega) hv, roundTrip_f64, by show cfg.nn = 2 * (cfg.nn / 2); omega⟩

/-! ### the hypotheses are satisfiable (toy module with `nn = 8`, arena `toyHeap` of 64 cells) -/

/-- dft: result of 3 limbs at 2, source of 2 limbs with stride 9 at 40 (one zero limb, padding between limbs) -/
example : (vecDft (toyParts 4) Cells.int toyHeap 2 3 40 2 9).ok = true ∧
    (vecDft (toyParts 4) Cells.int toyHeap 2 3 40 2 9).mem[48]? = toyHeap.mem[48]? := by
  obtain ⟨a1, _, a3, _⟩ := vec_znx_dft_heap (toyParts 4) Cells.int (sized_toy 4) roundTrip_int toyHeap 2 3 40 2 9
    (by simp [toy_nn, toyHeap_size]) (by intro i hi; simp [toy_nn, toyHeap_size] at *; omega)
  exact ⟨a1, a3 48 (by simp [toy_nn])⟩

/-- in-place idft with `res_size = 3 > a_size = 2`, and the same out of place at 30 -/
example : (vecIdft (toyParts 4) Cells.int toyHeap 2 3 2 2).mem.extract 2 (2 + 3 * 8) =
    (vecIdft (toyParts 4) Cells.int toyHeap 30 3 2 2).mem.extract 30 (30 + 3 * 8) :=
  (vec_znx_idft_inplace_eq_outofplace (toyParts 4) Cells.int (sized_toy 4) roundTrip_int toyHeap 30 3 2 2
    (by simp [toy_nn, toyHeap_size]) (by simp [toy_nn, toyHeap_size]) (by simp [toy_nn])).2

/-- small product with exactly `tmp_bytes = 128` bytes of scratch at 40, `res == a` -/
example : (smallProduct (toyParts 4) Cells.int toyHeap 3 3 20 40 128).ok = true :=
  (znx_small_single_product_heap (toyParts 4) Cells.int (sized_toy 4) roundTrip_int toyHeap 3 3 20 40 128
    (by simp [toy_nn, smallProductTmpBytes, TmpBytes.formula]) (by simp [toy_nn, toyHeap_size]) (by simp [toy_nn, toyHeap_size])
    (by simp [toy_nn, toyHeap_size]) (by simp [toy_nn, toyHeap_size]) (by simp [toy_nn]) (by simp [toy_nn]) (by simp [toy_nn])).1

/-- vmp_apply_dft_to_dft on a 1 × 2 matrix: pmat at 0, a_dft (1 limb) at 16, res (2 limbs) at 24, exactly
    `tmp_bytes = 128 + 64` bytes of scratch at 40 (the arena ends with it) -/
example : (vmpApplyDftToDft (toyParts 4) Cells.int toyHeap 24 2 16 1 0 1 2 40 192).ok = true :=
  (vmp_apply_dft_to_dft_heap (toyParts 4) Cells.int roundTrip_int toyHeap 24 2 16 1 0 1 2 40 192 (by simp [toy_nn, toy_m])
    (by simp [toy_m]) (by simp [vmpApplyDftToDftTmpBytes, TmpBytes.formula])
    (by simp [toy_nn, toyHeap_size]) (by simp [toy_nn, toyHeap_size]) (by simp [toy_nn, toyHeap_size])
    (by simp [toyHeap_size]) (by simp [toy_nn]) (by simp [toy_nn]) (by simp [toy_nn]) (by simp [toy_nn]) (by simp [toy_nn])).1

/-- the library's module for `nn = 16` with every AVX kernel installed (any tables): in-place idft of 2 limbs in an
    arena of 40 cells keeps `ok` -/
example (ft it : Array Nat) (mem : Array Nat) (hm : mem.size = 40) :
    (vecIdft (avxCfg16 ft it).parts Cells.f64 { mem := mem } 4 2 4 3).ok = true := by
  obtain ⟨hs, hr, _⟩ := library_module_hypotheses (avxCfg16 ft it) (by simp [avxCfg16]) (fun _ => by simp [avxCfg16])
  have e : (avxCfg16 ft it).parts.nn = 16 := rfl
  exact (vec_znx_idft_heap (avxCfg16 ft it).parts Cells.f64 hs hr { mem := mem } 4 2 4 3 (by simp [hm, e])
    (by simp [hm, e]) (Or.inl rfl)).1

end Spq.ModHeap
