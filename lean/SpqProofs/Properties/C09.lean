/-
  C09 — rotation, automorphism and (X^p-1) product are the ring maps of Z[X]/(X^N+1) for every p;
  the in-place variants compute the same function as the out-of-place ones.

  The rotation and `X^p - 1` theorems quantify over all ring dimensions `nn` and all `p : Int`; the
  automorphism theorems over `nn = 2^t` and all odd `p : Int`, as their statements say (the C masks
  `(-p) & (2nn-1)`, `(j+p) & (2nn-1)` are reductions modulo `2nn`; that is what `negMask`/`posMask` say).
  All of them hold for an arbitrary coefficient type with operations `o : Ops α` (in particular wrapping
  int64 and binary64 bit patterns).  Algebraic laws on `o` are assumed only where stated.

  Spec (`SpqProofs/Lemmas/RqSpec.lean`):
   * `rotCoeff o nn p a k`   = `s · a[(k-p) mod nn]`, `s = -1` iff `(k-p) mod 2nn ≥ nn`   (coefficient k of X^p·a)
   * `mulXpCoeff o nn p a k` = `rotCoeff o nn p a k - a[k]`
   * `autExp nn p i` = `i·p mod 2nn`,  `autVal` = `±a[i]` (minus iff `autExp ≥ nn`)
-/
import SpqProofs.Lemmas.CoeffsInplace
import SpqProofs.Lemmas.CoeffsAutom
import SpqProofs.Lemmas.CoeffsAutInplace
import SpqProofs.Lemmas.CoeffsCompose
namespace Spq.C09
open Spq Rq
variable {α : Type}

/-- `znx_rotate_i64` / `rnx_rotate_f64` return `X^p · a`, for every `nn > 0`, `p : Int`. -/
theorem rotate_spec (o : Ops α) (nn : Nat) (p : Int) (inp : Array α) :
    (Coeffs.rotate o nn p inp).size = nn ∧
    ∀ k, k < nn → (Coeffs.rotate o nn p inp)[k]? = some (rotCoeff o nn p inp k) := by
  refine ⟨Coeffs.size_rotate o nn p inp, fun k hk => ?_⟩
  have h : k < (Coeffs.rotate o nn p inp).size := by rw [Coeffs.size_rotate]; exact hk
  rw [Array.getElem?_eq_getElem h, rotate_getElem o nn p inp k hk, rotCoeff_eq_sget o nn (by omega)]

/-- `znx_mul_xp_minus_one` / `rnx_mul_xp_minus_one` return `X^p · a - a`. -/
theorem mulxp_spec (o : Ops α) (nn : Nat) (p : Int) (inp : Array α) :
    (Coeffs.mulXpMinusOne o nn p inp).size = nn ∧
    ∀ k, k < nn → (Coeffs.mulXpMinusOne o nn p inp)[k]? = some (mulXpCoeff o nn p inp k) := by
  refine ⟨Coeffs.size_mulXpMinusOne o nn p inp, fun k hk => ?_⟩
  have h : k < (Coeffs.mulXpMinusOne o nn p inp).size := by rw [Coeffs.size_mulXpMinusOne]; exact hk
  rw [Array.getElem?_eq_getElem h, mulXp_getElem o nn p inp k hk, mulXpCoeff,
    rotCoeff_eq_sget o nn (by omega)]

/-- `(X^p - 1)·a = X^p·a - a`, as an identity between the two models -/
theorem mulxp_eq_rotate_sub (o : Ops α) (nn : Nat) (p : Int) (a : Array α) :
    Coeffs.mulXpMinusOne o nn p a = Coeffs.sub o nn (Coeffs.rotate o nn p a) a := by
  apply Array.ext (by simp [Coeffs.mulXpMinusOne, Coeffs.sub])
  intro k hk1 hk2
  have hk : k < nn := by rw [Coeffs.size_mulXpMinusOne] at hk1; exact hk1
  rw [mulXp_getElem o nn p a k hk]
  simp only [Coeffs.sub, Array.getElem_ofFn]
  rw [rotate_getD o nn p a k hk]

/-- `znx_automorphism_i64` / `rnx_automorphism_f64`: coefficient `i` of the input lands at position
    `(i·p mod 2nn) mod nn`, negated iff `i·p mod 2nn ≥ nn`; these positions cover `[0,nn)`, so every
    cell of the output is written. -/
theorem autom_spec (o : Ops α) (t : Nat) (p : Int) (hp : p % 2 = 1) (inp res0 : Array α)
    (hr : res0.size = 2 ^ t) :
    (Coeffs.automorphism o (2 ^ t) p inp res0).size = 2 ^ t ∧
    (∀ i, i < 2 ^ t → (Coeffs.automorphism o (2 ^ t) p inp res0)[autExp (2 ^ t) p i % 2 ^ t]? =
        some (autVal o (2 ^ t) p inp i)) ∧
    (∀ k, k < 2 ^ t → ∃ i, i < 2 ^ t ∧ autExp (2 ^ t) p i % 2 ^ t = k) := by
  have hn : 0 < 2 ^ t := Nat.pow_pos (by norm_num)
  have hs : (Coeffs.automorphism o (2 ^ t) p inp res0).size = 2 ^ t := by rw [Coeffs.size_automorphism, hr]
  refine ⟨hs, ?_, fun k hk => autPos_surj t p hp k hk⟩
  intro i hi
  rw [getElem?_of_getD o.zero (by rw [hs]; exact Nat.mod_lt _ hn), autom_scatter o t p hp inp res0 hr i hi]

/-- the result does not depend on the prior content of the output buffer -/
theorem autom_res0_indep (o : Ops α) (t : Nat) (p : Int) (hp : p % 2 = 1) (inp res0 res0' : Array α)
    (hr : res0.size = 2 ^ t) (hr' : res0'.size = 2 ^ t) :
    Coeffs.automorphism o (2 ^ t) p inp res0 = Coeffs.automorphism o (2 ^ t) p inp res0' :=
  Moved.unique (autSigma_surj t p hp) (autom_fin o t p hp inp res0 hr) (autom_fin o t p hp inp res0' hr')

/-! ### in-place rotation and (X^p - 1) product (cycle walk, leaders `0,1,2,…`)
    Termination with the model's fuel (`nn` steps per cycle, `nn` leaders) is part of the statement.
    Holds for every `nn` (not only powers of two) and needs no law on `o`. -/

theorem rotate_inplace_eq (o : Ops α) (nn : Nat) (p : Int) (x : Array α) (hx : x.size = nn) :
    Coeffs.rotateInplace o nn p x = Coeffs.rotate o nn p x :=
  walkAll_outofplace o nn p false x hx

theorem mulxp_inplace_eq (o : Ops α) (nn : Nat) (p : Int) (x : Array α) (hx : x.size = nn) :
    Coeffs.mulXpMinusOneInplace o nn p x = Coeffs.mulXpMinusOne o nn p x :=
  walkAll_outofplace o nn p true x hx

/-! ### in-place automorphism (valuation classes, four special cases, paired cycle walks with
    leaders `B, 5B, 25B, …`) = out-of-place automorphism, for every `nn = 2^t` and every odd `p`.
    No law on `o` is needed (every cell is moved once, with a single negation exactly where the
    out-of-place code negates).  Termination of all three nested loops with the model's fuel is part
    of the statement.  The proof uses `(Z/2^s)^× = ⟨-1⟩ × ⟨5⟩` (from Mathlib's `ZMod.orderOf_five`). -/

/-- the level loop with any fuel `≥ t` (no bound on `t`) -/
theorem autom_inplace_levels_eq (o : Ops α) (t fuel : Nat) (ht : t ≤ fuel) (p : Int) (hp : p % 2 = 1)
    (x x0 : Array α) (hx : x.size = 2 ^ t) (hx0 : x0.size = 2 ^ t) :
    Coeffs.autLevels o (2 ^ t) (posMask p (2 * 2 ^ t)) fuel 1 (posMask p (2 * 2 ^ t)) (2 ^ t / 2) x =
      Coeffs.automorphism o (2 ^ t) p x x0 :=
  Moved.unique (autSigma_surj t p hp) (automLevels_fin o t fuel ht p hp x hx) (autom_fin o t p hp x x0 hx0)

/-- `znx_automorphism_inplace_i64` / `rnx_automorphism_inplace_f64` = out-of-place automorphism.
    `t ≤ 64` is the model's level fuel (the C loop variable `binval` is a `uint64_t`; the C contract
    `2·nn ≤ 2^64` gives `t ≤ 63`). -/
theorem autom_inplace_eq (o : Ops α) (t : Nat) (ht : t ≤ 64) (p : Int) (hp : p % 2 = 1)
    (x x0 : Array α) (hx : x.size = 2 ^ t) (hx0 : x0.size = 2 ^ t) :
    Coeffs.automorphismInplace o (2 ^ t) p x = Coeffs.automorphism o (2 ^ t) p x x0 :=
  autom_inplace_levels_eq o t 64 ht p hp x x0 hx hx0

theorem autom_inplace_spec (o : Ops α) (t : Nat) (ht : t ≤ 64) (p : Int) (hp : p % 2 = 1)
    (x : Array α) (hx : x.size = 2 ^ t) :
    (Coeffs.automorphismInplace o (2 ^ t) p x).size = 2 ^ t ∧
    ∀ i, i < 2 ^ t → (Coeffs.automorphismInplace o (2 ^ t) p x)[autExp (2 ^ t) p i % 2 ^ t]? =
        some (autVal o (2 ^ t) p x i) := by
  rw [autom_inplace_eq o t ht p hp x x hx hx]
  exact ⟨(autom_spec o t p hp x x hx).1, (autom_spec o t p hp x x hx).2.1⟩

/-! ### composition: rotations add, automorphisms multiply (exponents modulo `2nn`).
    These need `-(-v) = v` for the entries `v` of the input (true for every int64 under wrapping
    negation, including `INT64_MIN`, and for every binary64 pattern). -/

theorem rotate_compose (o : Ops α) (nn : Nat) (p q : Int) (a : Array α)
    (hneg : ∀ i, i < nn → o.neg (o.neg (a.getD i o.zero)) = a.getD i o.zero) :
    Coeffs.rotate o nn p (Coeffs.rotate o nn q a) = Coeffs.rotate o nn (p + q) a := by
  apply Array.ext (by rw [Coeffs.size_rotate, Coeffs.size_rotate])
  intro k hk1 hk2
  have hk : k < nn := by rw [Coeffs.size_rotate] at hk1; exact hk1
  have hn : 0 < nn := by omega
  rw [rotate_getElem o nn p _ k hk, rotate_getElem o nn (p + q) _ k hk,
    sget_rotate o nn q a hneg _ (rotSrc_lt nn hn p k), rotSrc_comp nn hn]

/-- rotation depends on `p` only modulo `2nn` -/
theorem rotate_periodic (o : Ops α) (nn : Nat) (p : Int) (c : Int) (a : Array α) :
    Coeffs.rotate o nn (p + c * (2 * nn : Nat)) a = Coeffs.rotate o nn p a := by
  unfold Coeffs.rotate
  rw [negMask_add_mul]

theorem autom_compose (o : Ops α) (t : Nat) (p q : Int) (hp : p % 2 = 1) (hq : q % 2 = 1)
    (a r0 r1 r2 : Array α)
    (hneg : ∀ i, i < 2 ^ t → o.neg (o.neg (a.getD i o.zero)) = a.getD i o.zero)
    (h0 : r0.size = 2 ^ t) (h1 : r1.size = 2 ^ t) (h2 : r2.size = 2 ^ t) :
    Coeffs.automorphism o (2 ^ t) p (Coeffs.automorphism o (2 ^ t) q a r0) r1 =
      Coeffs.automorphism o (2 ^ t) (p * q) a r2 := by
  have hn : 0 < 2 ^ t := Nat.pow_pos (by norm_num)
  have hpq : (p * q) % 2 = 1 := by rw [Int.mul_emod, hp, hq]; rfl
  exact Scat.unique (autExp_surj t (p * q) hpq)
    (((autom_scat o t q hq a r0 hneg h0).comp
      (autom_scat o t p hp _ r1 (autom_invol o t q hq a r0 h0 hneg) h1)
      fun e _ => autExp_lt _ hn q e).congr fun e _ => autExp_mul _ hn p q e)
    (autom_scat o t (p * q) hpq a r2 hneg h2)

/-! ### examples: the hypotheses are satisfiable by concrete non-trivial instances (int64 arithmetic) -/

example : Coeffs.rotateInplace i64Ops 4 (-3) #[1, 2, 3, 4] = Coeffs.rotate i64Ops 4 (-3) #[1, 2, 3, 4] :=
  rotate_inplace_eq i64Ops 4 (-3) #[1, 2, 3, 4] rfl

example : Coeffs.mulXpMinusOneInplace i64Ops 6 1000000007 #[1, 2, 3, 4, 5, 6] =
    Coeffs.mulXpMinusOne i64Ops 6 1000000007 #[1, 2, 3, 4, 5, 6] :=
  mulxp_inplace_eq i64Ops 6 1000000007 _ rfl

example : Coeffs.automorphismInplace i64Ops (2 ^ 3) (-5) #[1, 2, 3, 4, 5, 6, 7, 8] =
    Coeffs.automorphism i64Ops (2 ^ 3) (-5) #[1, 2, 3, 4, 5, 6, 7, 8] #[0, 0, 0, 0, 0, 0, 0, 0] :=
  autom_inplace_eq i64Ops 3 (by decide) (-5) (by decide) _ _ rfl rfl

example : Coeffs.rotate i64Ops 4 5 (Coeffs.rotate i64Ops 4 (-9223372036854775807) #[1, -2, 3, -9223372036854775808]) =
    Coeffs.rotate i64Ops 4 (5 + -9223372036854775807) #[1, -2, 3, -9223372036854775808] :=
  rotate_compose i64Ops 4 5 _ _ (by
    intro i hi
    have : i = 0 ∨ i = 1 ∨ i = 2 ∨ i = 3 := by omega
    rcases this with rfl | rfl | rfl | rfl <;> decide)

example : (Coeffs.rotate i64Ops 4 1 #[1, 2, 3, 4])[0]? = some (rotCoeff i64Ops 4 1 #[1, 2, 3, 4] 0) :=
  (rotate_spec i64Ops 4 1 #[1, 2, 3, 4]).2 0 (by decide)

example : (Coeffs.automorphism i64Ops (2 ^ 2) 3 #[1, 2, 3, 4] #[9, 9, 9, 9])[autExp (2 ^ 2) 3 1 % 2 ^ 2]? =
    some (autVal i64Ops (2 ^ 2) 3 #[1, 2, 3, 4] 1) :=
  (autom_spec i64Ops 2 3 (by decide) #[1, 2, 3, 4] #[9, 9, 9, 9] rfl).2.1 1 (by decide)

example : Coeffs.automorphism i64Ops (2 ^ 2) 3 (Coeffs.automorphism i64Ops (2 ^ 2) 5 #[1, 2, 3, 4] #[0, 0, 0, 0])
      #[0, 0, 0, 0] = Coeffs.automorphism i64Ops (2 ^ 2) (3 * 5) #[1, 2, 3, 4] #[0, 0, 0, 0] :=
  autom_compose i64Ops 2 3 5 (by decide) (by decide) _ _ _ _ (by
    intro i hi
    have : i = 0 ∨ i = 1 ∨ i = 2 ∨ i = 3 := by
      have : (2 : Nat) ^ 2 = 4 := by norm_num
      omega
    rcases this with rfl | rfl | rfl | rfl <;> decide) rfl rfl rfl

end Spq.C09
