/-
  SrcVec: the C SOURCE of the reference limb-vector wrappers of `spqlios/arithmetic/vec_znx.c`, translated on every
  run (`Gen.CSrc.vec_znx_*_ref`: loops over limbs, calls of the generated kernel terms with `ptr + i*sl` pointer
  arguments, per-limb pointer-equality tests), simulates the HEAP MODEL of `Spq/VecZnx.lean` — the functions
  `Properties/C08.lean`, `C13.lean`, `C18.lean` are about.

  Setting: one arena buffer `B` of the interpreter memory holds the heap (`X : Array Int`, the heap's `mem`); the
  pointer parameters are bound to `(B, res)`, `(B, a)`, `(B, b)` (offsets in cells = the model's pointers); the
  scalar parameter `module` is `module->nn`.  Statement shape:

      (VecZnx.op i64Ops nn ⟨X, true⟩ res rsz rsl …).ok = true  →
        run fuel Gen.CSrc.vec_znx_op_ref [nn, rsz, rsl, …] [some (B, res), …] (m0.setIfInBounds B X)
          = .ok (m0.setIfInBounds B (VecZnx.op i64Ops nn ⟨X, true⟩ res rsz rsl …).mem)

  i.e. whenever the model reports no out-of-bounds access (its `ok` flag; `C08.*_no_fault` derive it from the
  declared extents), the source-level run succeeds — in particular without `Err.oob` — and produces the model's
  heap.  All `nn < 2^61`, all limb counts (0 and unequal included), all strides; per limb the result window and
  each source window are identical or disjoint (`SameOrDisj`, implied by `C08.SrcOK`).
-/
import SpqProofs.Lemmas.SrcVecC08
import SpqProofs.Lemmas.SrcVecKernAut
import SpqProofs.Lemmas.SrcVecLoop
namespace Spq.Src
open Spq Spq.CIR Spq.Heap

theorem src_vec_znx_zero_ref_eq_model (nn rsz rsl res : Nat) (hnn : nn < 2305843009213693952)
    (hrsz : rsz < 18446744073709551616)
    (m0 : Mem) (B : Nat) (hB : B < m0.size) (X : Array Int) (hX : X.size < 18446744073709551616)
    (hok : (VecZnx.zero i64Ops nn ⟨X, true⟩ res rsz rsl).ok = true) :
    ∀ fuel, rsz ≤ fuel →
      run fuel Gen.CSrc.vec_znx_zero_ref [(nn : Int), (rsz : Int), (rsl : Int)] [some (B, res)]
          (m0.setIfInBounds B X)
        = .ok (m0.setIfInBounds B (VecZnx.zero i64Ops nn ⟨X, true⟩ res rsz rsl).mem) := by
  intro fuel hf
  cir_enter Gen.CSrc.vec_znx_zero_ref
  cir_simp
  exact memOf_eq (for_limb0 m0 B nn res rsl ⟨X, true⟩ 0 rsz 0 hX (Nat.zero_le _) hrsz _ (size_kzero nn)
    (fun X ro hr f _ => arena_zero m0 B hB X nn hnn ro hr f) hok rfl (fun _ => rfl) (fun _ => rfl) (fun _ => rfl) (fun _ => rfl)
    (fun _ _ => rfl) fuel (fuel_le0 (k := 0) (Nat.le_refl _) hf)) rfl

theorem src_vec_znx_copy_ref_eq_model (nn rsz rsl asz asl res a : Nat) (hnn : nn < 2305843009213693952)
    (hrsz : rsz < 18446744073709551616)
    (m0 : Mem) (B : Nat) (hB : B < m0.size) (X : Array Int) (hX : X.size < 18446744073709551616)
    (hA : ∀ i, i < min rsz asz → SameOrDisj nn (res + i * rsl) (a + i * asl))
    (hok : (VecZnx.copy i64Ops nn ⟨X, true⟩ res rsz rsl a asz asl).ok = true) :
    ∀ fuel, rsz ≤ fuel →
      run fuel Gen.CSrc.vec_znx_copy_ref [(nn : Int), (rsz : Int), (rsl : Int), (asz : Int), (asl : Int)]
          [some (B, res), some (B, a)] (m0.setIfInBounds B X)
        = .ok (m0.setIfInBounds B (VecZnx.copy i64Ops nn ⟨X, true⟩ res rsz rsl a asz asl).mem) := by
  intro fuel hf
  have hs1 : min rsz asz ≤ rsz := Nat.min_le_left _ _
  have hok1 := (Good.forLimbs _ _ fun _ => good_limb0 _ _).mono _ hok
  cir_enter Gen.CSrc.vec_znx_copy_ref
  cir_simp
  rw [min_cond]; cir_simp
  refine memOf_seqK_eq (for_limb1 m0 B nn res rsl ⟨X, true⟩ 0 (min rsz asz) 0 hX (Nat.zero_le _)
    (Nat.lt_of_le_of_lt hs1 hrsz) _ (size_kcopy nn) a asl (fun k _ hk => hA k hk) (fun X ro ao hr ha hd f _ => arena_copy m0 B hB X nn hnn ro ao hr ha hd f)
    hok1 rfl rfl (fun _ => rfl) (fun _ => rfl) (fun _ => rfl) (fun _ => rfl) (fun _ => rfl) (fun _ _ => rfl) fuel (fuel_le0 (k := 0) (Nat.min_le_left _ _) hf)) ?_
  exact memOf_eq (for_limb0 m0 B nn res rsl _ (min rsz asz) rsz 0
    (((Good.forLimbs _ _ fun _ => good_limb1 nn _ _ _).size ⟨X, true⟩).trans_lt hX) hs1 hrsz _ (size_kzero nn)
    (fun X ro hr f _ => arena_zero m0 B hB X nn hnn ro hr f) hok rfl (fun _ => rfl) (fun _ => rfl) (fun _ => rfl) (fun _ => rfl)
    (fun _ _ => rfl) fuel (fuel_le0 (k := 0) (Nat.le_refl _) hf)) rfl

theorem src_vec_znx_negate_ref_eq_model (nn rsz rsl asz asl res a : Nat) (hnn : nn < 2305843009213693952)
    (hrsz : rsz < 18446744073709551616)
    (m0 : Mem) (B : Nat) (hB : B < m0.size) (X : Array Int) (hX : X.size < 18446744073709551616)
    (hA : ∀ i, i < min rsz asz → SameOrDisj nn (res + i * rsl) (a + i * asl))
    (hok : (VecZnx.negate i64Ops nn ⟨X, true⟩ res rsz rsl a asz asl).ok = true) :
    ∀ fuel, rsz + nn ≤ fuel →
      run fuel Gen.CSrc.vec_znx_negate_ref [(nn : Int), (rsz : Int), (rsl : Int), (asz : Int), (asl : Int)]
          [some (B, res), some (B, a)] (m0.setIfInBounds B X)
        = .ok (m0.setIfInBounds B (VecZnx.negate i64Ops nn ⟨X, true⟩ res rsz rsl a asz asl).mem) := by
  intro fuel hf
  have hs1 : min rsz asz ≤ rsz := Nat.min_le_left _ _
  have hok1 := (Good.forLimbs _ _ fun _ => good_limb0 _ _).mono _ hok
  cir_enter Gen.CSrc.vec_znx_negate_ref
  cir_simp
  rw [min_cond]; cir_simp
  refine memOf_seqK_eq (for_limb1 m0 B nn res rsl ⟨X, true⟩ 0 (min rsz asz) nn hX (Nat.zero_le _)
    (Nat.lt_of_le_of_lt hs1 hrsz) _ (size_kneg nn) a asl (fun k _ hk => hA k hk) (fun X => arena_negate m0 B hB X nn (Nat.lt_trans hnn (by decide)))
    hok1 rfl rfl (fun _ => rfl) (fun _ => rfl) (fun _ => rfl) (fun _ => rfl) (fun _ => rfl) (fun _ _ => rfl) fuel (fuel_le (Nat.min_le_left _ _) hf)) ?_
  exact memOf_eq (for_limb0 m0 B nn res rsl _ (min rsz asz) rsz 0
    (((Good.forLimbs _ _ fun _ => good_limb1 nn _ _ _).size ⟨X, true⟩).trans_lt hX) hs1 hrsz _ (size_kzero nn)
    (fun X ro hr f _ => arena_zero m0 B hB X nn hnn ro hr f) hok rfl (fun _ => rfl) (fun _ => rfl) (fun _ => rfl) (fun _ => rfl)
    (fun _ _ => rfl) fuel (fuel_le0 (Nat.le_refl _) hf)) rfl

theorem src_vec_znx_add_ref_eq_model (nn rsz rsl asz asl bsz bsl res a b : Nat) (hnn : nn < 2305843009213693952)
    (hrsz : rsz < 18446744073709551616) (hasz : asz < 18446744073709551616) (hbsz : bsz < 18446744073709551616)
    (m0 : Mem) (B : Nat) (hB : B < m0.size) (X : Array Int) (hX : X.size < 18446744073709551616)
    (hA : ∀ i, i < min rsz asz → SameOrDisj nn (res + i * rsl) (a + i * asl))
    (hBd : ∀ i, i < min rsz bsz → SameOrDisj nn (res + i * rsl) (b + i * bsl))
    (hok : (VecZnx.add i64Ops nn ⟨X, true⟩ res rsz rsl a asz asl b bsz bsl).ok = true) :
    ∀ fuel, rsz + nn ≤ fuel →
      run fuel Gen.CSrc.vec_znx_add_ref
          [(nn : Int), (rsz : Int), (rsl : Int), (asz : Int), (asl : Int), (bsz : Int), (bsl : Int)]
          [some (B, res), some (B, a), some (B, b)] (m0.setIfInBounds B X)
        = .ok (m0.setIfInBounds B (VecZnx.add i64Ops nn ⟨X, true⟩ res rsz rsl a asz asl b bsz bsl).mem) := by
  intro fuel hf
  have hnn64 : nn < 18446744073709551616 := Nat.lt_trans hnn (by decide)
  cir_enter Gen.CSrc.vec_znx_add_ref
  cir_simp
  by_cases hab : asz ≤ bsz
  · have hd : decide ((asz : Int) ≤ (bsz : Int)) = true := decide_eq_true (Int.ofNat_le.mpr hab)
    simp only [hd, if_true]
    rw [min_cond]; cir_simp
    rw [min_cond]; cir_simp
    have hs1 : min rsz asz ≤ min rsz bsz := min_le_min_of_le hab
    have hs2 : min rsz bsz ≤ rsz := Nat.min_le_left _ _
    unfold VecZnx.add at hok ⊢
    simp only [if_pos hab] at hok ⊢
    have hok2 := (Good.forLimbs _ _ fun _ => good_limb0 _ _).mono _ hok
    have hok1 := (Good.forLimbs _ _ fun _ => good_limb1 nn _ _ _).mono _ hok2
    refine memOf_seqK_eq (for_limb2 m0 B nn res rsl ⟨X, true⟩ 0 (min rsz asz) nn hX (Nat.zero_le _)
      (Nat.lt_of_le_of_lt (Nat.le_trans hs1 hs2) hrsz) _ (size_kadd nn) a asl b bsl (fun k _ hk => hA k hk)
      (fun k _ hk => hBd k (lt_min_of_le hk hab)) (fun X => arena_add m0 B hB X nn hnn64) hok1 rfl rfl rfl
      (fun _ => rfl) (fun _ => rfl) (fun _ => rfl) (fun _ => rfl) (fun _ => rfl) (fun _ => rfl) (fun _ _ => rfl) fuel (fuel_le (Nat.min_le_left _ _) hf)) ?_
    refine memOf_seq_eq (for_limb1 m0 B nn res rsl _ (min rsz asz) (min rsz bsz) 0 (((Good.forLimbs _ _ fun _ => good_limb2 nn _ _ _ _).size ⟨X, true⟩).trans_lt hX) hs1
      (Nat.lt_of_le_of_lt hs2 hrsz)
      _ (size_kcopy nn) b bsl (fun k _ hk => hBd k hk) (fun X ro ao hr ha hd f _ => arena_copy m0 B hB X nn hnn ro ao hr ha hd f) hok2 rfl rfl
      (fun _ => rfl) (fun _ => rfl) (fun _ => rfl) (fun _ => rfl) (fun _ => rfl) (fun _ _ => rfl) fuel (fuel_le0 (Nat.min_le_left _ _) hf)) ?_
    exact memOf_eq (for_limb0 m0 B nn res rsl _ (min rsz bsz) rsz 0 
      ((((Good.forLimbs _ _ fun _ => good_limb1 nn _ _ _).size _).trans ((Good.forLimbs _ _ fun _ => good_limb2 nn _ _ _ _).size ⟨X, true⟩)).trans_lt hX) hs2 hrsz
      _ (size_kzero nn) (fun X ro hr f _ => arena_zero m0 B hB X nn hnn ro hr f) hok rfl (fun _ => rfl) (fun _ => rfl)
      (fun _ => rfl) (fun _ => rfl) (fun _ _ => rfl) fuel (fuel_le0 (Nat.le_refl _) hf)) rfl
  · have hd : decide ((asz : Int) ≤ (bsz : Int)) = false := decide_eq_false (fun h => hab (Int.ofNat_le.mp h))
    have hba : bsz ≤ asz := Nat.le_of_not_le hab
    simp only [hd, Bool.false_eq_true, if_false]
    rw [min_cond]; cir_simp
    rw [min_cond]; cir_simp
    have hs1 : min rsz bsz ≤ min rsz asz := min_le_min_of_le hba
    have hs2 : min rsz asz ≤ rsz := Nat.min_le_left _ _
    unfold VecZnx.add at hok ⊢
    simp only [if_neg hab] at hok ⊢
    have hok2 := (Good.forLimbs _ _ fun _ => good_limb0 _ _).mono _ hok
    have hok1 := (Good.forLimbs _ _ fun _ => good_limb1 nn _ _ _).mono _ hok2
    refine memOf_seqK_eq (for_limb2 m0 B nn res rsl ⟨X, true⟩ 0 (min rsz bsz) nn hX (Nat.zero_le _)
      (Nat.lt_of_le_of_lt (Nat.le_trans hs1 hs2) hrsz) _ (size_kadd nn) a asl b bsl (fun k _ hk => hA k (lt_min_of_le hk hba))
      (fun k _ hk => hBd k hk) (fun X => arena_add m0 B hB X nn hnn64) hok1 rfl rfl rfl
      (fun _ => rfl) (fun _ => rfl) (fun _ => rfl) (fun _ => rfl) (fun _ => rfl) (fun _ => rfl) (fun _ _ => rfl) fuel (fuel_le (Nat.min_le_left _ _) hf)) ?_
    refine memOf_seq_eq (for_limb1 m0 B nn res rsl _ (min rsz bsz) (min rsz asz) 0 (((Good.forLimbs _ _ fun _ => good_limb2 nn _ _ _ _).size ⟨X, true⟩).trans_lt hX) hs1
      (Nat.lt_of_le_of_lt hs2 hrsz)
      _ (size_kcopy nn) a asl (fun k _ hk => hA k hk) (fun X ro ao hr ha hd f _ => arena_copy m0 B hB X nn hnn ro ao hr ha hd f) hok2 rfl rfl
      (fun _ => rfl) (fun _ => rfl) (fun _ => rfl) (fun _ => rfl) (fun _ => rfl) (fun _ _ => rfl) fuel (fuel_le0 (Nat.min_le_left _ _) hf)) ?_
    exact memOf_eq (for_limb0 m0 B nn res rsl _ (min rsz asz) rsz 0 
      ((((Good.forLimbs _ _ fun _ => good_limb1 nn _ _ _).size _).trans ((Good.forLimbs _ _ fun _ => good_limb2 nn _ _ _ _).size ⟨X, true⟩)).trans_lt hX) hs2 hrsz
      _ (size_kzero nn) (fun X ro hr f _ => arena_zero m0 B hB X nn hnn ro hr f) hok rfl (fun _ => rfl) (fun _ => rfl)
      (fun _ => rfl) (fun _ => rfl) (fun _ _ => rfl) fuel (fuel_le0 (Nat.le_refl _) hf)) rfl

theorem src_vec_znx_sub_ref_eq_model (nn rsz rsl asz asl bsz bsl res a b : Nat) (hnn : nn < 2305843009213693952)
    (hrsz : rsz < 18446744073709551616) (hasz : asz < 18446744073709551616) (hbsz : bsz < 18446744073709551616)
    (m0 : Mem) (B : Nat) (hB : B < m0.size) (X : Array Int) (hX : X.size < 18446744073709551616)
    (hA : ∀ i, i < min rsz asz → SameOrDisj nn (res + i * rsl) (a + i * asl))
    (hBd : ∀ i, i < min rsz bsz → SameOrDisj nn (res + i * rsl) (b + i * bsl))
    (hok : (VecZnx.sub i64Ops nn ⟨X, true⟩ res rsz rsl a asz asl b bsz bsl).ok = true) :
    ∀ fuel, rsz + nn ≤ fuel →
      run fuel Gen.CSrc.vec_znx_sub_ref
          [(nn : Int), (rsz : Int), (rsl : Int), (asz : Int), (asl : Int), (bsz : Int), (bsl : Int)]
          [some (B, res), some (B, a), some (B, b)] (m0.setIfInBounds B X)
        = .ok (m0.setIfInBounds B (VecZnx.sub i64Ops nn ⟨X, true⟩ res rsz rsl a asz asl b bsz bsl).mem) := by
  intro fuel hf
  have hnn64 : nn < 18446744073709551616 := Nat.lt_trans hnn (by decide)
  cir_enter Gen.CSrc.vec_znx_sub_ref
  cir_simp
  by_cases hab : asz ≤ bsz
  · have hd : decide ((asz : Int) ≤ (bsz : Int)) = true := decide_eq_true (Int.ofNat_le.mpr hab)
    simp only [hd, if_true]
    rw [min_cond]; cir_simp
    rw [min_cond]; cir_simp
    have hs1 : min rsz asz ≤ min rsz bsz := min_le_min_of_le hab
    have hs2 : min rsz bsz ≤ rsz := Nat.min_le_left _ _
    unfold VecZnx.sub at hok ⊢
    simp only [if_pos hab] at hok ⊢
    have hok2 := (Good.forLimbs _ _ fun _ => good_limb0 _ _).mono _ hok
    have hok1 := (Good.forLimbs _ _ fun _ => good_limb1 nn _ _ _).mono _ hok2
    refine memOf_seqK_eq (for_limb2 m0 B nn res rsl ⟨X, true⟩ 0 (min rsz asz) nn hX (Nat.zero_le _)
      (Nat.lt_of_le_of_lt (Nat.le_trans hs1 hs2) hrsz) _ (size_ksub nn) a asl b bsl (fun k _ hk => hA k hk)
      (fun k _ hk => hBd k (lt_min_of_le hk hab)) (fun X => arena_sub m0 B hB X nn hnn64) hok1 rfl rfl rfl
      (fun _ => rfl) (fun _ => rfl) (fun _ => rfl) (fun _ => rfl) (fun _ => rfl) (fun _ => rfl) (fun _ _ => rfl) fuel (fuel_le (Nat.min_le_left _ _) hf)) ?_
    refine memOf_seq_eq (for_limb1 m0 B nn res rsl _ (min rsz asz) (min rsz bsz) nn (((Good.forLimbs _ _ fun _ => good_limb2 nn _ _ _ _).size ⟨X, true⟩).trans_lt hX) hs1
      (Nat.lt_of_le_of_lt hs2 hrsz)
      _ (size_kneg nn) b bsl (fun k _ hk => hBd k hk) (fun X => arena_negate m0 B hB X nn hnn64) hok2 rfl rfl
      (fun _ => rfl) (fun _ => rfl) (fun _ => rfl) (fun _ => rfl) (fun _ => rfl) (fun _ _ => rfl) fuel (fuel_le (Nat.min_le_left _ _) hf)) ?_
    exact memOf_eq (for_limb0 m0 B nn res rsl _ (min rsz bsz) rsz 0 
      ((((Good.forLimbs _ _ fun _ => good_limb1 nn _ _ _).size _).trans ((Good.forLimbs _ _ fun _ => good_limb2 nn _ _ _ _).size ⟨X, true⟩)).trans_lt hX) hs2 hrsz
      _ (size_kzero nn) (fun X ro hr f _ => arena_zero m0 B hB X nn hnn ro hr f) hok rfl (fun _ => rfl) (fun _ => rfl)
      (fun _ => rfl) (fun _ => rfl) (fun _ _ => rfl) fuel (fuel_le0 (Nat.le_refl _) hf)) rfl
  · have hd : decide ((asz : Int) ≤ (bsz : Int)) = false := decide_eq_false (fun h => hab (Int.ofNat_le.mp h))
    have hba : bsz ≤ asz := Nat.le_of_not_le hab
    simp only [hd, Bool.false_eq_true, if_false]
    rw [min_cond]; cir_simp
    rw [min_cond]; cir_simp
    have hs1 : min rsz bsz ≤ min rsz asz := min_le_min_of_le hba
    have hs2 : min rsz asz ≤ rsz := Nat.min_le_left _ _
    unfold VecZnx.sub at hok ⊢
    simp only [if_neg hab] at hok ⊢
    have hok2 := (Good.forLimbs _ _ fun _ => good_limb0 _ _).mono _ hok
    have hok1 := (Good.forLimbs _ _ fun _ => good_limb1 nn _ _ _).mono _ hok2
    refine memOf_seqK_eq (for_limb2 m0 B nn res rsl ⟨X, true⟩ 0 (min rsz bsz) nn hX (Nat.zero_le _)
      (Nat.lt_of_le_of_lt (Nat.le_trans hs1 hs2) hrsz) _ (size_ksub nn) a asl b bsl (fun k _ hk => hA k (lt_min_of_le hk hba))
      (fun k _ hk => hBd k hk) (fun X => arena_sub m0 B hB X nn hnn64) hok1 rfl rfl rfl
      (fun _ => rfl) (fun _ => rfl) (fun _ => rfl) (fun _ => rfl) (fun _ => rfl) (fun _ => rfl) (fun _ _ => rfl) fuel (fuel_le (Nat.min_le_left _ _) hf)) ?_
    refine memOf_seq_eq (for_limb1 m0 B nn res rsl _ (min rsz bsz) (min rsz asz) 0 (((Good.forLimbs _ _ fun _ => good_limb2 nn _ _ _ _).size ⟨X, true⟩).trans_lt hX) hs1
      (Nat.lt_of_le_of_lt hs2 hrsz)
      _ (size_kcopy nn) a asl (fun k _ hk => hA k hk) (fun X ro ao hr ha hd f _ => arena_copy m0 B hB X nn hnn ro ao hr ha hd f) hok2 rfl rfl
      (fun _ => rfl) (fun _ => rfl) (fun _ => rfl) (fun _ => rfl) (fun _ => rfl) (fun _ _ => rfl) fuel (fuel_le0 (Nat.min_le_left _ _) hf)) ?_
    exact memOf_eq (for_limb0 m0 B nn res rsl _ (min rsz asz) rsz 0 
      ((((Good.forLimbs _ _ fun _ => good_limb1 nn _ _ _).size _).trans ((Good.forLimbs _ _ fun _ => good_limb2 nn _ _ _ _).size ⟨X, true⟩)).trans_lt hX) hs2 hrsz
      _ (size_kzero nn) (fun X ro hr f _ => arena_zero m0 B hB X nn hnn ro hr f) hok rfl (fun _ => rfl) (fun _ => rfl)
      (fun _ => rfl) (fun _ => rfl) (fun _ _ => rfl) fuel (fuel_le0 (Nat.le_refl _) hf)) rfl

/-! ### rotation: per limb the pointer-equality test `res + i*res_sl == a + i*a_sl` selects the in-place kernel
    (`nn = 2^t`, `t ≤ 60`; fuel `rsz + 2nn`: the in-place cycle walks need `2nn`) -/

theorem src_vec_znx_rotate_ref_eq_model (t : Nat) (ht : t ≤ 60) (nn : Nat) (hnn2 : nn = 2 ^ t) (p : Int)
    (rsz rsl asz asl res a : Nat) (hrsz : rsz < 18446744073709551616)
    (m0 : Mem) (B : Nat) (hB : B < m0.size) (X : Array Int) (hX : X.size < 18446744073709551616)
    (hA : ∀ i, i < min rsz asz → SameOrDisj nn (res + i * rsl) (a + i * asl))
    (hok : (VecZnx.rotate i64Ops nn p ⟨X, true⟩ res rsz rsl a asz asl).ok = true) :
    ∀ fuel, rsz + 2 * nn ≤ fuel →
      run fuel Gen.CSrc.vec_znx_rotate_ref
          [(nn : Int), p, (rsz : Int), (rsl : Int), (asz : Int), (asl : Int)]
          [some (B, res), some (B, a)] (m0.setIfInBounds B X)
        = .ok (m0.setIfInBounds B (VecZnx.rotate i64Ops nn p ⟨X, true⟩ res rsz rsl a asz asl).mem) := by
  intro fuel hf
  have hnn : nn < 2305843009213693952 := by
    have : 2 ^ t ≤ 2 ^ 60 := Nat.pow_le_pow_right (by decide) ht
    have e : (2 : Nat) ^ 60 = 1152921504606846976 := by decide
    omega
  have hs1 : min rsz asz ≤ rsz := Nat.min_le_left _ _
  have ht63 : t ≤ 63 := Nat.le_trans ht (by decide)
  have hok1 := (Good.forLimbs _ _ fun _ => good_limb0 _ _).mono _ hok
  cir_enter Gen.CSrc.vec_znx_rotate_ref
  cir_simp
  rw [min_cond]; cir_simp
  refine memOf_seqK_exists _ (for_limb_alias [(nn : Int), p] (fun j b1 o1 b2 o2 =>
      [(nn : Int), p, (rsz : Int), (rsl : Int), (asz : Int), (asl : Int), (nn : Int), ((min rsz asz : Nat) : Int),
        j, b1, o1, b2, o2, 0]) m0 B nn res rsl a asl ⟨X, true⟩ (min rsz asz) (2 * nn) hX (Nat.lt_of_le_of_lt hs1 hrsz)
    (Coeffs.rotateInplace i64Ops nn p) (fun _ => Coeffs.rotate i64Ops nn p) (fun _ x _ => size_krot nn p x) hA
    (fun X ro hr f hf => arena_rotate_inplace m0 B hB X nn t ht63 hnn2 p ro hr f hf)
    (fun X ro ao hr ha hd f hf => arena_rotate m0 B hB X nn t ht63 hnn2 p ro ao hr ha hd f (Nat.le_trans (Nat.le_mul_of_pos_left nn (by decide)) hf))
    hok1 rfl rfl (fun _ _ _ _ _ _ => rfl) (fun _ _ _ _ _ _ _ => rfl) (fun _ _ _ _ _ _ _ => rfl)
    (fun _ _ _ _ _ => ⟨rfl, rfl, rfl, rfl, rfl, rfl, rfl⟩) (fun _ _ _ _ _ _ => rfl) (fun _ _ _ _ _ _ => rfl) 0 0 0 0 0 (fun _ => rfl)
    fuel (Nat.le_trans (Nat.add_le_add_right hs1 _) hf)) ?_
  rintro _ ⟨b1, o1, b2, o2, rfl⟩
  exact memOf_eq (for_limb0 m0 B nn res rsl _ (min rsz asz) rsz 0
    (((Good.forLimbs _ _ fun _ => good_limbAlias nn (Coeffs.rotateInplace i64Ops nn p)
      (fun _ => Coeffs.rotate i64Ops nn p) _ _).size ⟨X, true⟩).trans_lt hX) hs1 hrsz _ (size_kzero nn)
    (fun X ro hr f _ => arena_zero m0 B hB X nn hnn ro hr f) hok rfl (fun _ => rfl) (fun _ => rfl) (fun _ => rfl) (fun _ => rfl)
    (fun _ _ => rfl) fuel (fuel_le0 (Nat.le_refl _) hf)) rfl

/-! ### automorphism: same shape as rotation; odd `p` (the in-place kernel of an aliased limb needs it); for a
    non-aliased limb the result depends on the prior content of the result limb (cells the scatter does not
    write), exactly as in the model -/

theorem src_vec_znx_automorphism_ref_eq_model (t : Nat) (ht : t ≤ 60) (nn : Nat) (hnn2 : nn = 2 ^ t) (p : Int) (hp : p % 2 = 1)
    (rsz rsl asz asl res a : Nat) (hrsz : rsz < 18446744073709551616)
    (m0 : Mem) (B : Nat) (hB : B < m0.size) (X : Array Int) (hX : X.size < 18446744073709551616)
    (hA : ∀ i, i < min rsz asz → SameOrDisj nn (res + i * rsl) (a + i * asl))
    (hok : (VecZnx.automorphism i64Ops nn p ⟨X, true⟩ res rsz rsl a asz asl).ok = true) :
    ∀ fuel, rsz + 3 * nn + 64 ≤ fuel →
      run fuel Gen.CSrc.vec_znx_automorphism_ref
          [(nn : Int), p, (rsz : Int), (rsl : Int), (asz : Int), (asl : Int)]
          [some (B, res), some (B, a)] (m0.setIfInBounds B X)
        = .ok (m0.setIfInBounds B (VecZnx.automorphism i64Ops nn p ⟨X, true⟩ res rsz rsl a asz asl).mem) := by
  intro fuel hf
  have hnn : nn < 2305843009213693952 := by
    have : 2 ^ t ≤ 2 ^ 60 := Nat.pow_le_pow_right (by decide) ht
    have e : (2 : Nat) ^ 60 = 1152921504606846976 := by decide
    omega
  have hs1 : min rsz asz ≤ rsz := Nat.min_le_left _ _
  have hok1 := (Good.forLimbs _ _ fun _ => good_limb0 _ _).mono _ hok
  cir_enter Gen.CSrc.vec_znx_automorphism_ref
  cir_simp
  rw [min_cond]; cir_simp
  refine memOf_seqK_exists _ (for_limb_alias [(nn : Int), p] (fun j b1 o1 b2 o2 =>
      [(nn : Int), p, (rsz : Int), (rsl : Int), (asz : Int), (asl : Int), (nn : Int), ((min rsz asz : Nat) : Int),
        j, b1, o1, b2, o2, 0]) m0 B nn res rsl a asl ⟨X, true⟩ (min rsz asz) (3 * nn + 64) hX (Nat.lt_of_le_of_lt hs1 hrsz)
    (Coeffs.automorphismInplace i64Ops nn p) (fun r0 inp => Coeffs.automorphism i64Ops nn p inp r0)
    (fun y x hy => (Coeffs.size_automorphism _ _ _ x y).trans hy) hA
    (fun X ro hr f hf => arena_automorphism_inplace m0 B hB X nn t (Nat.le_trans ht (by decide)) hnn2 p hp ro hr f hf)
    (fun X ro ao hr ha hd f hf => arena_automorphism m0 B hB X nn t (Nat.le_trans ht (by decide)) hnn2 p ro ao hr ha hd f
      (Nat.le_trans (Nat.le_trans (Nat.le_mul_of_pos_left nn (by decide)) (Nat.le_add_right _ _)) hf))
    hok1 rfl rfl (fun _ _ _ _ _ _ => rfl) (fun _ _ _ _ _ _ _ => rfl) (fun _ _ _ _ _ _ _ => rfl)
    (fun _ _ _ _ _ => ⟨rfl, rfl, rfl, rfl, rfl, rfl, rfl⟩) (fun _ _ _ _ _ _ => rfl) (fun _ _ _ _ _ _ => rfl) 0 0 0 0 0 (fun _ => rfl)
    fuel (by omega)) ?_
  rintro _ ⟨b1, o1, b2, o2, rfl⟩
  exact memOf_eq (for_limb0 m0 B nn res rsl _ (min rsz asz) rsz 0
    (((Good.forLimbs _ _ fun _ => good_limbAlias nn (Coeffs.automorphismInplace i64Ops nn p)
      (fun r0 inp => Coeffs.automorphism i64Ops nn p inp r0) _ _).size ⟨X, true⟩).trans_lt hX) hs1 hrsz _
    (size_kzero nn)
    (fun X ro hr f _ => arena_zero m0 B hB X nn hnn ro hr f) hok rfl (fun _ => rfl) (fun _ => rfl) (fun _ => rfl) (fun _ => rfl)
    (fun _ _ => rfl) fuel (by omega)) rfl

/-! ### composition with C08: from the extents the operation declares (`C08.InBounds`) and the aliasing contract
    (`C08.SrcOK`: a source is the output itself — same offset and stride — or all its limbs are disjoint from all
    output limbs) the source-level run succeeds (no `Err.oob`) and yields the heap `C08.*_spec` describes. -/

theorem src_vec_znx_zero_ref_no_oob (nn rsz rsl res : Nat) (hnn : nn < 2305843009213693952)
    (hrsz : rsz < 18446744073709551616)
    (m0 : Mem) (B : Nat) (hB : B < m0.size) (X : Array Int) (hX : X.size < 18446744073709551616)
    (hres : C08.InBounds nn X.size res rsz rsl) :
    ∀ fuel, rsz ≤ fuel →
      run fuel Gen.CSrc.vec_znx_zero_ref [(nn : Int), (rsz : Int), (rsl : Int)] [some (B, res)]
          (m0.setIfInBounds B X)
        = .ok (m0.setIfInBounds B (VecZnx.zero i64Ops nn ⟨X, true⟩ res rsz rsl).mem) :=
  src_vec_znx_zero_ref_eq_model nn rsz rsl res hnn hrsz m0 B hB X hX
    (C08.zero_no_fault i64Ops nn ⟨X, true⟩ res rsz rsl hres)

theorem src_vec_znx_copy_ref_no_oob (nn rsz rsl asz asl res a : Nat) (hnn : nn < 2305843009213693952)
    (hrsz : rsz < 18446744073709551616)
    (m0 : Mem) (B : Nat) (hB : B < m0.size) (X : Array Int) (hX : X.size < 18446744073709551616)
    (hres : C08.InBounds nn X.size res rsz rsl) (ha : C08.InBounds nn X.size a (min asz rsz) asl)
    (hsa : Heap.SrcOK nn res rsz rsl a asz asl) :
    ∀ fuel, rsz ≤ fuel →
      run fuel Gen.CSrc.vec_znx_copy_ref [(nn : Int), (rsz : Int), (rsl : Int), (asz : Int), (asl : Int)]
          [some (B, res), some (B, a)] (m0.setIfInBounds B X)
        = .ok (m0.setIfInBounds B (VecZnx.copy i64Ops nn ⟨X, true⟩ res rsz rsl a asz asl).mem) :=
  src_vec_znx_copy_ref_eq_model nn rsz rsl asz asl res a hnn hrsz m0 B hB X hX
    (sameOrDisj_of_srcOK nn res rsz rsl a asz asl hsa) (C08.copy_no_fault i64Ops nn ⟨X, true⟩ res rsz rsl a asz asl hres ha)

theorem src_vec_znx_negate_ref_no_oob (nn rsz rsl asz asl res a : Nat) (hnn : nn < 2305843009213693952)
    (hrsz : rsz < 18446744073709551616)
    (m0 : Mem) (B : Nat) (hB : B < m0.size) (X : Array Int) (hX : X.size < 18446744073709551616)
    (hres : C08.InBounds nn X.size res rsz rsl) (ha : C08.InBounds nn X.size a (min asz rsz) asl)
    (hsa : Heap.SrcOK nn res rsz rsl a asz asl) :
    ∀ fuel, rsz + nn ≤ fuel →
      run fuel Gen.CSrc.vec_znx_negate_ref [(nn : Int), (rsz : Int), (rsl : Int), (asz : Int), (asl : Int)]
          [some (B, res), some (B, a)] (m0.setIfInBounds B X)
        = .ok (m0.setIfInBounds B (VecZnx.negate i64Ops nn ⟨X, true⟩ res rsz rsl a asz asl).mem) :=
  src_vec_znx_negate_ref_eq_model nn rsz rsl asz asl res a hnn hrsz m0 B hB X hX
    (sameOrDisj_of_srcOK nn res rsz rsl a asz asl hsa)
    (C08.negate_no_fault i64Ops nn ⟨X, true⟩ res rsz rsl a asz asl hres ha)

theorem src_vec_znx_add_ref_no_oob (nn rsz rsl asz asl bsz bsl res a b : Nat) (hnn : nn < 2305843009213693952)
    (hrsz : rsz < 18446744073709551616) (hasz : asz < 18446744073709551616) (hbsz : bsz < 18446744073709551616)
    (m0 : Mem) (B : Nat) (hB : B < m0.size) (X : Array Int) (hX : X.size < 18446744073709551616)
    (hres : C08.InBounds nn X.size res rsz rsl) (ha : C08.InBounds nn X.size a (min asz rsz) asl)
    (hb : C08.InBounds nn X.size b (min bsz rsz) bsl)
    (hsa : Heap.SrcOK nn res rsz rsl a asz asl) (hsb : Heap.SrcOK nn res rsz rsl b bsz bsl) :
    ∀ fuel, rsz + nn ≤ fuel →
      run fuel Gen.CSrc.vec_znx_add_ref
          [(nn : Int), (rsz : Int), (rsl : Int), (asz : Int), (asl : Int), (bsz : Int), (bsl : Int)]
          [some (B, res), some (B, a), some (B, b)] (m0.setIfInBounds B X)
        = .ok (m0.setIfInBounds B (VecZnx.add i64Ops nn ⟨X, true⟩ res rsz rsl a asz asl b bsz bsl).mem) :=
  src_vec_znx_add_ref_eq_model nn rsz rsl asz asl bsz bsl res a b hnn hrsz hasz hbsz m0 B hB X hX
    (sameOrDisj_of_srcOK nn res rsz rsl a asz asl hsa) (sameOrDisj_of_srcOK nn res rsz rsl b bsz bsl hsb)
    (C08.add_no_fault i64Ops nn ⟨X, true⟩ res rsz rsl a asz asl b bsz bsl hres ha hb)

theorem src_vec_znx_sub_ref_no_oob (nn rsz rsl asz asl bsz bsl res a b : Nat) (hnn : nn < 2305843009213693952)
    (hrsz : rsz < 18446744073709551616) (hasz : asz < 18446744073709551616) (hbsz : bsz < 18446744073709551616)
    (m0 : Mem) (B : Nat) (hB : B < m0.size) (X : Array Int) (hX : X.size < 18446744073709551616)
    (hres : C08.InBounds nn X.size res rsz rsl) (ha : C08.InBounds nn X.size a (min asz rsz) asl)
    (hb : C08.InBounds nn X.size b (min bsz rsz) bsl)
    (hsa : Heap.SrcOK nn res rsz rsl a asz asl) (hsb : Heap.SrcOK nn res rsz rsl b bsz bsl) :
    ∀ fuel, rsz + nn ≤ fuel →
      run fuel Gen.CSrc.vec_znx_sub_ref
          [(nn : Int), (rsz : Int), (rsl : Int), (asz : Int), (asl : Int), (bsz : Int), (bsl : Int)]
          [some (B, res), some (B, a), some (B, b)] (m0.setIfInBounds B X)
        = .ok (m0.setIfInBounds B (VecZnx.sub i64Ops nn ⟨X, true⟩ res rsz rsl a asz asl b bsz bsl).mem) :=
  src_vec_znx_sub_ref_eq_model nn rsz rsl asz asl bsz bsl res a b hnn hrsz hasz hbsz m0 B hB X hX
    (sameOrDisj_of_srcOK nn res rsz rsl a asz asl hsa) (sameOrDisj_of_srcOK nn res rsz rsl b bsz bsl hsb)
    (C08.sub_no_fault i64Ops nn ⟨X, true⟩ res rsz rsl a asz asl b bsz bsl hres ha hb)

theorem src_vec_znx_rotate_ref_no_oob (t : Nat) (ht : t ≤ 60) (nn : Nat) (hnn2 : nn = 2 ^ t) (p : Int)
    (rsz rsl asz asl res a : Nat) (hrsz : rsz < 18446744073709551616)
    (m0 : Mem) (B : Nat) (hB : B < m0.size) (X : Array Int) (hX : X.size < 18446744073709551616)
    (hres : C08.InBounds nn X.size res rsz rsl) (ha : C08.InBounds nn X.size a (min asz rsz) asl)
    (hsa : Heap.SrcOK nn res rsz rsl a asz asl) :
    ∀ fuel, rsz + 2 * nn ≤ fuel →
      run fuel Gen.CSrc.vec_znx_rotate_ref
          [(nn : Int), p, (rsz : Int), (rsl : Int), (asz : Int), (asl : Int)]
          [some (B, res), some (B, a)] (m0.setIfInBounds B X)
        = .ok (m0.setIfInBounds B (VecZnx.rotate i64Ops nn p ⟨X, true⟩ res rsz rsl a asz asl).mem) :=
  src_vec_znx_rotate_ref_eq_model t ht nn hnn2 p rsz rsl asz asl res a hrsz m0 B hB X hX
    (sameOrDisj_of_srcOK nn res rsz rsl a asz asl hsa)
    (C08.rotate_no_fault i64Ops nn p ⟨X, true⟩ res rsz rsl a asz asl hres ha)

theorem src_vec_znx_automorphism_ref_no_oob (t : Nat) (ht : t ≤ 60) (nn : Nat) (hnn2 : nn = 2 ^ t) (p : Int)
    (hp : p % 2 = 1) (rsz rsl asz asl res a : Nat) (hrsz : rsz < 18446744073709551616)
    (m0 : Mem) (B : Nat) (hB : B < m0.size) (X : Array Int) (hX : X.size < 18446744073709551616)
    (hres : C08.InBounds nn X.size res rsz rsl) (ha : C08.InBounds nn X.size a (min asz rsz) asl)
    (hsa : Heap.SrcOK nn res rsz rsl a asz asl) :
    ∀ fuel, rsz + 3 * nn + 64 ≤ fuel →
      run fuel Gen.CSrc.vec_znx_automorphism_ref
          [(nn : Int), p, (rsz : Int), (rsl : Int), (asz : Int), (asl : Int)]
          [some (B, res), some (B, a)] (m0.setIfInBounds B X)
        = .ok (m0.setIfInBounds B (VecZnx.automorphism i64Ops nn p ⟨X, true⟩ res rsz rsl a asz asl).mem) :=
  src_vec_znx_automorphism_ref_eq_model t ht nn hnn2 p hp rsz rsl asz asl res a hrsz m0 B hB X hX
    (sameOrDisj_of_srcOK nn res rsz rsl a asz asl hsa)
    (C08.automorphism_no_fault i64Ops nn p ⟨X, true⟩ res rsz rsl a asz asl hres ha)

/-- a concrete instance: `res` (2 limbs) `= a` (1 limb, zero-extended) `+ b` (3 limbs, truncated), in place on `a`'s
    storage (`res == a`), stride 3 > nn = 2; one cell too few in the arena is reported as `Err.oob`. -/
example :
    run 9 Gen.CSrc.vec_znx_add_ref [2, 2, 3, 1, 3, 3, 2] [some (0, 0), some (0, 0), some (0, 6)]
        #[#[1, 2, 99, 3, 4, 99, 10, 20, 30, 40, 50, 60]]
      = .ok #[#[11, 22, 99, 30, 40, 99, 10, 20, 30, 40, 50, 60]]
    ∧ run 9 Gen.CSrc.vec_znx_add_ref [2, 2, 3, 1, 3, 3, 2] [some (0, 0), some (0, 0), some (0, 6)]
        #[#[1, 2, 99, 3, 4, 99, 10, 20, 30]] = .err .oob := by decide

end Spq.Src
