/-
  ErrWitness2 — non-vacuity of the metric-invariant theorems of C16Err2 at a size with real twiddles: N = 8 (m = 4), K = ℝ,
  the library's stored table patterns and installed configuration (`libMod8` of ErrWitness).  A PRODUCT OF A PRODUCT:
  P0 = exA8 ⊛ exB8 (DFT-space product of the pipeline), then `vmp_apply_dft_to_dft` with the 1×1 matrix (exC8), then the
  inverse transform: the binary64 result is exactly Q0 = (exA8 ⊛ exB8) ⊛ exC8, obtained from
  `C16Err2.idft_of_metric_f64_partial` with no hypothesis left, and cross-checked by evaluation.
-/
import SpqProofs.Lemmas.ErrWitnessChain
import SpqProofs.Properties.C16Err2
namespace Spq.ErrWitness2
open Spq Spq.Module Spq.ErrWitness Spq.ErrWitnessChain

/-- the metric representation of the svp-product (first product) with its budget -/
theorem witness_metric_rep_first_product_k2 : ProgErr2.MetricRep libMod8 PV 1 exI8 (fun _ => d0) := by
  refine ⟨exI8_size.trans rfl, fun i hi => ?_⟩
  obtain rfl : i = 0 := by omega
  rw [limbI, polyP, ← P0_eq]
  exact svpB.metric

/-- the second product (`vmp_apply_dft_to_dft` on the output of the first) keeps a metric representation -/
theorem witness_metric_rep_second_product_k2 :
    ProgErr2.MetricRep libMod8 (Prog.Val.mk libMod8.N 1 (Prog.vmpVal libMod8.N 1 (Prog.zext 1 fun i t => PV.coef i t) MV 1 1)) 1
      (vmpApplyDftToDft libMod8.parts 1 exI8 1 (vmpPrepare libMod8.parts (ProgErr.matOf libMod8 MV 1 1) 1 1) 1 1) d1 :=
  C16Err2.vmpDD_metric_f64_partial libMod8 PV 1 1 exI8 (fun _ => d0) MV 1 1 witness_metric_rep_first_product_k2 d1 d1_nonneg vmpB

/-- THE CHAIN: the inverse transform of the product of a product is the exact integer polynomial -/
theorem witness_product_of_product_exact_k2 :
    libMod8.parts.toZnx (libMod8.parts.ifft (dlimb R1 0 libMod8.N)) = Q0 := by
  have h := C16Err2.idft_of_metric_f64_partial libMod8 _ 1 _ d1 witness_metric_rep_second_product_k2 0 (by norm_num)
    (by rw [R1_eq, polyQ]; exact idftB)
  rw [R1_eq, polyQ] at h
  exact h

example : libMod8.parts.toZnx (libMod8.parts.ifft (dlimb R1 0 libMod8.N)) = Q0 := chain_eval
example : nmul 8 (nmul 8 exA8 exB8) exC8 = Q0 := Q0_eval

end Spq.ErrWitness2
