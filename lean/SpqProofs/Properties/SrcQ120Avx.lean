/-
  C07 / C10, translator tie of the q120 AVX2 PRODUCT kernels (`spqlios/q120/q120_arithmetic_avx2.c`): the terms
  generated by tools/c2lean.py, run by the CIR interpreter, compute the AVX2 MODEL functions of `lean/Spq/Q120.lean`
  (`baaAvx`, …) -- the functions `Properties/C10.lean` / `C04.lean` relate to the reference ones (the AVX2 and the
  reference kernels do NOT return the same word in general: `_mm256_mul_epu32` uses only the low halves of its
  operands, the reference code multiplies whole 64-bit lanes; they agree on in-layout operands, which is what C10
  proves about the two models).  That the 4 AVX2 lanes behave as 4 independent scalar lanes is not assumed
  for these kernels: `__m256i` locals are translated as 4 uint64 slots and every accepted intrinsic lane by lane
  (`_mm256_setzero_si256`, `_mm256_set1_epi64x`, `_mm256_loadu_si256`, `_mm256_storeu_si256`, `_mm256_add_epi64`,
  `_mm256_and_si256`, `_mm256_srli_epi64`, `_mm256_mul_epu32`; anything else is rejected).  Same conventions as
  `Properties/SrcQ120.lean` (precomputation struct = buffer of cells, every content with `h < 64`, every `ell`).
-/
import Gen.CSrc
import SpqProofs.Lemmas.SrcQ120Avx
import SpqProofs.Lemmas.SrcVec
import SpqProofs.Lemmas.SrcSymQ120Avx
namespace Spq.Src
open Spq Spq.CIR Spq.Q120

theorem src_q120_vec_mat1col_product_baa_avx2_eq_model (P : BaaPrecomp) (hh : P.h < 64)
    (ell : Nat) (hell : ell < 2305843009213693952) (mem : Mem) (pc r x y : Nat) (X Y : Array Nat)
    (hpc : buf mem pc = natBuf #[P.h, P.hpow 0, P.hpow 1, P.hpow 2, P.hpow 3]) (hrp : r ≠ pc)
    (hr : (buf mem r).size = 4) (hx : buf mem x = natBuf X) (hX : X.size = 4 * ell)
    (hy : buf mem y = natBuf Y) (hY : Y.size = 4 * ell) :
    ∀ fuel, ell ≤ fuel →
      run fuel Gen.CSrc.q120_vec_mat1col_product_baa_avx2 [(ell : Int)]
          [some (pc, 0), some (r, 0), some (x, 0), some (y, 0)] mem
        = .ok (mem.setIfInBounds r (natBuf (baaAvx P ell X Y))) := by
  intro fuel hf
  let F : Nat → Nat → Nat × Nat := fun n k => (laneTerms n X Y 4 k 4 k).foldl (baaAvxStep (2 ^ P.h)) (0, 0)
  let C : Nat → Sym.Ctx := fun n =>
    BaaAvx2.ctx [some (pc, 0), some (r, 0), some (x, 0), some (y, 0)] mem ell P.h x y n (F n)
  have hH : Sym.den (C 0) Q120Avx.H2 = P.h := Q120Avx.den_H2 (C 0) pc (baaCells P) rfl rfl hpc
  refine Sym.sexec_run_rows 6 BaaAvx2.loop BaaAvx2.fin C (C 0) ell (.lt (.atom 8 0) (.atom 0 0)) _ BaaAvx2.split rfl
    (by decide) rfl
    (fun _ => ⟨rfl, rfl, rfl⟩) ⟨rfl, rfl⟩ (pre := BaaAvx2.pre_runs)
    (preNeeds := (Q120Avx.tbl_met (C 0) pc r x y _ rfl rfl hpc _ 1
      (List.forall_mem_singleton.2 (lt_of_eq_of_lt hH hh)) (by simp)).good)
    (start := fun i l _ => BaaAvx2.start_den mem ell x y pc r (F 0) P hpc (fun _ => rfl) i l)
    (row := BaaAvx2.row_runs) (test := rfl)
    (testVal := fun _ _ => ⟨⟨trivial, trivial⟩, rfl⟩)
    (rowNeeds := fun n hn => (BaaAvx2.row_needs _ mem ell P.h x y n (F n) X Y hx hy hh (by omega) (by omega)).good)
    (next := fun n hn i l _ => BaaAvx2.row_next _ mem ell P.h x y n (F n) X Y hx hy (F (n + 1))
      (fun k => foldl_laneTerms_succ _ _ n X Y 4 k 4 k) (by omega) i l)
    fuel hf fun e H => ?_
  exact Sym.sexec_fills_natBuf BaaAvx2.fin_runs rfl rfl rfl _ Array.size_ofFn hr
    (Q120Avx.fin_needs (C ell) pc r x y _ rfl rfl hpc _ 5 hrp nofun (Nat.le_refl 5))
    (fun l hl => (BaaAvx2.fin_out _ mem ell x y ell pc (F ell) P rfl hpc l hl).trans
      (by simp [baaAvx, baaAvxLane, Array.getD, hl, F]))
    fuel (Nat.zero_le _) e H

theorem src_q120_vec_mat1col_product_baa_avx2_no_oob (P : BaaPrecomp) (hh : P.h < 64)
    (ell : Nat) (hell : ell < 2305843009213693952) (mem : Mem) (pc r x y : Nat) (X Y : Array Nat)
    (hpc : buf mem pc = natBuf #[P.h, P.hpow 0, P.hpow 1, P.hpow 2, P.hpow 3]) (hrp : r ≠ pc)
    (hr : (buf mem r).size = 4) (hx : buf mem x = natBuf X) (hX : X.size = 4 * ell)
    (hy : buf mem y = natBuf Y) (hY : Y.size = 4 * ell) :
    ∀ fuel e, e ≠ .fuel →
      run fuel Gen.CSrc.q120_vec_mat1col_product_baa_avx2 [(ell : Int)]
          [some (pc, 0), some (r, 0), some (x, 0), some (y, 0)] mem ≠ .err e :=
  run_no_other_error _ _ _ _ _ ell
    (src_q120_vec_mat1col_product_baa_avx2_eq_model P hh ell hell mem pc r x y X Y hpc hrp hr hx hX hy hY)

theorem src_q120_vec_mat1col_product_bbc_avx2_eq_model (P : BbcPrecomp) (hh : P.h < 64)
    (ell : Nat) (hell : ell < 2305843009213693952) (mem : Mem) (pc r x y : Nat) (X Y : Array Nat)
    (hpc : buf mem pc = natBuf (bbcCells P)) (hrp : r ≠ pc)
    (hr : (buf mem r).size = 4) (hx : buf mem x = natBuf X) (hX : X.size = 4 * ell)
    (hy : buf mem y = natBuf Y) (hY : Y.size = 4 * ell) :
    ∀ fuel, ell ≤ fuel →
      run fuel Gen.CSrc.q120_vec_mat1col_product_bbc_avx2 [(ell : Int)]
          [some (pc, 0), some (r, 0), some (x, 0), some (y, 0)] mem
        = .ok (mem.setIfInBounds r (natBuf (bbcAvx P ell X Y))) := by
  intro fuel hf
  let F : Nat → Nat → Nat × Nat := fun n k => (laneTerms n X Y 4 k 4 k).foldl bbcAvxStep (0, 0)
  let C : Nat → Sym.Ctx := fun n =>
    BaaAvx2.ctx [some (pc, 0), some (r, 0), some (x, 0), some (y, 0)] mem ell 32 x y n (F n)
  refine Sym.sexec_run_rows 6 BbcAvx2.loop BbcAvx2.fin C (C 0) ell (.lt (.atom 8 0) (.atom 0 0)) _ BbcAvx2.split rfl
    (by decide) rfl
    (fun _ => ⟨rfl, rfl, rfl⟩) ⟨rfl, rfl⟩ (pre := BbcAvx2.pre_runs)
    (preNeeds := (Q120Avx.tbl_met (C 0) pc r x y _ rfl rfl hpc [.lit 32] 0
      (List.forall_mem_singleton.2 (by decide : 32 < 64)) (Nat.zero_le _)).good)
    (start := fun i l _ => BaaAvx2.start32_den mem ell x y pc r (F 0) (fun _ => rfl) i l)
    (row := BbcAvx2.row_runs) (test := rfl)
    (testVal := fun _ _ => ⟨⟨trivial, trivial⟩, rfl⟩)
    (rowNeeds := fun n hn => (BaaAvx2.row_needs _ mem ell 32 x y n (F n) X Y hx hy (by decide) (by omega) (by omega)).good)
    (next := fun n hn i l _ => BbcAvx2.row_next _ mem ell x y n (F n) X Y hx hy (F (n + 1))
      (fun k => foldl_laneTerms_succ _ _ n X Y 4 k 4 k) (by omega) i l)
    fuel hf fun e H => ?_
  exact Sym.sexec_fills_natBuf BbcAvx2.fin_runs rfl rfl rfl _ Array.size_ofFn hr
    (Q120Avx.fin_needs (C ell) pc r x y _ rfl rfl hpc _ 9 hrp (List.forall_mem_singleton.2
      (lt_of_eq_of_lt (Q120Avx.den_H2 (C ell) pc (bbcCells P) rfl rfl hpc) hh)) (Nat.le_refl 9))
    (fun l hl => (BbcAvx2.fin_out _ mem ell x y ell pc (F ell) P rfl hpc l hl).trans
      (by simp [bbcAvx, bbcAvxLane, Array.getD, hl, F]))
    fuel (Nat.zero_le _) e H

theorem src_q120_vec_mat1col_product_bbc_avx2_no_oob (P : BbcPrecomp) (hh : P.h < 64)
    (ell : Nat) (hell : ell < 2305843009213693952) (mem : Mem) (pc r x y : Nat) (X Y : Array Nat)
    (hpc : buf mem pc = natBuf (bbcCells P)) (hrp : r ≠ pc)
    (hr : (buf mem r).size = 4) (hx : buf mem x = natBuf X) (hX : X.size = 4 * ell)
    (hy : buf mem y = natBuf Y) (hY : Y.size = 4 * ell) :
    ∀ fuel e, e ≠ .fuel →
      run fuel Gen.CSrc.q120_vec_mat1col_product_bbc_avx2 [(ell : Int)]
          [some (pc, 0), some (r, 0), some (x, 0), some (y, 0)] mem ≠ .err e :=
  run_no_other_error _ _ _ _ _ ell
    (src_q120_vec_mat1col_product_bbc_avx2_eq_model P hh ell hell mem pc r x y X Y hpc hrp hr hx hX hy hY)

theorem src_q120_vec_mat1col_product_bbb_avx2_eq_model (P : BbbPrecomp) (hh : P.h < 64)
    (ell : Nat) (hell : ell < 2305843009213693952) (mem : Mem) (pc r x y : Nat) (X Y : Array Nat)
    (hpc : buf mem pc = natBuf (bbbCells P)) (hrp : r ≠ pc)
    (hr : (buf mem r).size = 4) (hx : buf mem x = natBuf X) (hX : X.size = 4 * ell)
    (hy : buf mem y = natBuf Y) (hY : Y.size = 4 * ell) :
    ∀ fuel, ell ≤ fuel →
      run fuel Gen.CSrc.q120_vec_mat1col_product_bbb_avx2 [(ell : Int)]
          [some (pc, 0), some (r, 0), some (x, 0), some (y, 0)] mem
        = .ok (mem.setIfInBounds r (natBuf (bbbAvx P ell X Y))) := by
  intro fuel hf
  let F : Nat → Nat → S4 := fun n k => (laneTerms n X Y 4 k 4 k).foldl bbbAvxStep ⟨0, 0, 0, 0⟩
  let C : Nat → Sym.Ctx := fun n =>
    BbbAvx2.ctx [some (pc, 0), some (r, 0), some (x, 0), some (y, 0)] mem ell x y n (F n)
  refine Sym.sexec_run_rows 8 BbbAvx2.loop BbbAvx2.fin C (C 0) ell (.lt (.atom 10 0) (.atom 0 0)) _ BbbAvx2.split rfl
    (by decide) rfl
    (fun _ => ⟨rfl, rfl, rfl⟩) ⟨rfl, rfl⟩ (pre := BbbAvx2.pre_runs)
    (preNeeds := (Q120Avx.tbl_met (C 0) pc r x y _ rfl rfl hpc [.lit 32] 0
      (List.forall_mem_singleton.2 (by decide : 32 < 64)) (Nat.zero_le _)).good)
    (start := fun i l _ => BbbAvx2.start_den mem ell x y pc r (F 0) (fun _ => rfl) i l)
    (row := BbbAvx2.row_runs) (test := rfl)
    (testVal := fun _ _ => ⟨⟨trivial, trivial⟩, rfl⟩)
    (rowNeeds := fun n hn => (BbbAvx2.row_needs _ mem ell x y n (F n) X Y hx hy (by omega) (by omega)).good)
    (next := fun n hn i l _ => BbbAvx2.row_next _ mem ell x y n (F n) X Y hx hy (F (n + 1))
      (fun k => foldl_laneTerms_succ _ _ n X Y 4 k 4 k) (by omega) i l)
    fuel hf fun e H => ?_
  exact Sym.sexec_fills_natBuf BbbAvx2.fin_runs rfl rfl rfl _ Array.size_ofFn hr
    (Q120Avx.fin_needs (C ell) pc r x y _ rfl rfl hpc _ 29 hrp (List.forall_mem_singleton.2
      (lt_of_eq_of_lt (Q120Avx.den_H2 (C ell) pc (bbbCells P) rfl rfl hpc) hh)) (Nat.le_refl 29))
    (fun l hl => (BbbAvx2.fin_out _ mem ell x y ell pc (F ell) P rfl hpc l hl).trans
      (by simp [bbbAvx, bbbAvxLane, Array.getD, hl, F]))
    fuel (Nat.zero_le _) e H

theorem src_q120_vec_mat1col_product_bbb_avx2_no_oob (P : BbbPrecomp) (hh : P.h < 64)
    (ell : Nat) (hell : ell < 2305843009213693952) (mem : Mem) (pc r x y : Nat) (X Y : Array Nat)
    (hpc : buf mem pc = natBuf (bbbCells P)) (hrp : r ≠ pc)
    (hr : (buf mem r).size = 4) (hx : buf mem x = natBuf X) (hX : X.size = 4 * ell)
    (hy : buf mem y = natBuf Y) (hY : Y.size = 4 * ell) :
    ∀ fuel e, e ≠ .fuel →
      run fuel Gen.CSrc.q120_vec_mat1col_product_bbb_avx2 [(ell : Int)]
          [some (pc, 0), some (r, 0), some (x, 0), some (y, 0)] mem ≠ .err e :=
  run_no_other_error _ _ _ _ _ ell
    (src_q120_vec_mat1col_product_bbb_avx2_eq_model P hh ell hell mem pc r x y X Y hpc hrp hr hx hX hy hY)

end Spq.Src
