/-
  C16 — pipelines of API calls compute the corresponding expression in Z[X]/(X^N+1).

  Setting (coefficient-space fragment; definitions in `Spq/Prog.lean`).  A program is a list of calls `Prog.Op` (add, sub, negate, copy,
  rotate, automorphism, normalize) on variables that are region descriptors `(off, size, stride)` of one
  int64 heap; the destination of a call may be one of its sources (the C code then takes its in-place
  paths) or another variable.
   * `cstep`  = the heap model of `vec_znx.c` with wrapping int64 arithmetic;
   * `astep`  = exact arithmetic on integer polynomials: pointwise `±`, `X^p·a` (`polyRot`), `a(X^p)`
                (`polyAut` = `Σ a_i X^(ip)` reduced with `X^N = -1`), balanced base-`2^k` digits
                (`balancedDigits`, the specification of C05), sources zero-extended and the result
                truncated to the destination's limb count;
   * `WF`     = layout: `N = 2^t`, strides `≥ N`, all limbs inside the heap, distinct variables disjoint;
   * `InBudget` = along the abstract run every call is well-formed (`OpOK`) and every coefficient it stores
                fits an int64, inputs of `normalize` are `≤ 2^62` in absolute value, `k ∈ [1,62]`;
   * `R`      = heap cell `(v, i, c)` holds `env v i c`, heap size fixed, no out-of-bounds access so far.

  `coeff_prog_refines`: ∀ layouts, ∀ programs, ∀ inputs: `WF → InBudget → R env h → R (run astep) (run cstep)`.
  The per-call simulation theorems `*_sim` are the cases of `Prog.step_refines` (Lemmas/ProgStep.lean), derived
  from the C08 (value + frame + bounds), C09 (rotation / automorphism = ring maps; in-place = out-of-place) and
  C05 (normalize = balanced digits) specifications.
-/
import SpqProofs.Lemmas.ProgCheck
import SpqProofs.Lemmas.ProgStep
import SpqProofs.Lemmas.ProgToy
namespace Spq.C16
open Spq Heap Spq.C08 Spq.Prog

variable {nn hsz : Nat} {vars : List Var}

theorem add_sim (wf : WF nn hsz vars) (env : Env) (h : Heap Int) (d a b : Var)
    (hpre : OpPre nn vars (.add d a b) env) (hR : R nn hsz vars env h) :
    R nn hsz vars (astep nn (.add d a b) env) (cstep nn (.add d a b) h) :=
  Prog.step_refines wf (.add d a b) env h hpre hR

theorem sub_sim (wf : WF nn hsz vars) (env : Env) (h : Heap Int) (d a b : Var)
    (hpre : OpPre nn vars (.sub d a b) env) (hR : R nn hsz vars env h) :
    R nn hsz vars (astep nn (.sub d a b) env) (cstep nn (.sub d a b) h) :=
  Prog.step_refines wf (.sub d a b) env h hpre hR

theorem negate_sim (wf : WF nn hsz vars) (env : Env) (h : Heap Int) (d a : Var)
    (hpre : OpPre nn vars (.negate d a) env) (hR : R nn hsz vars env h) :
    R nn hsz vars (astep nn (.negate d a) env) (cstep nn (.negate d a) h) :=
  Prog.step_refines wf (.negate d a) env h hpre hR

theorem copy_sim (wf : WF nn hsz vars) (env : Env) (h : Heap Int) (d a : Var)
    (hpre : OpPre nn vars (.copy d a) env) (hR : R nn hsz vars env h) :
    R nn hsz vars (astep nn (.copy d a) env) (cstep nn (.copy d a) h) :=
  Prog.step_refines wf (.copy d a) env h hpre hR

/-- rotation by any `p : Int`: `d = a` runs the cycle-walking in-place kernel, `d ≠ a` the four-loop
    out-of-place kernel; both store `X^p · a` -/
theorem rotate_sim (wf : WF nn hsz vars) (env : Env) (h : Heap Int) (p : Int) (d a : Var)
    (hpre : OpPre nn vars (.rotate p d a) env) (hR : R nn hsz vars env h) :
    R nn hsz vars (astep nn (.rotate p d a) env) (cstep nn (.rotate p d a) h) :=
  Prog.step_refines wf (.rotate p d a) env h hpre hR

/-- automorphism `X ↦ X^p`, odd `p`: `d = a` runs the in-place kernel (valuation classes, paired orbit
    walks), `d ≠ a` the scatter, whose result does not depend on the prior content of `d` -/
theorem automorphism_sim (wf : WF nn hsz vars) (env : Env) (h : Heap Int) (p : Int) (d a : Var)
    (hpre : OpPre nn vars (.automorphism p d a) env) (hR : R nn hsz vars env h) :
    R nn hsz vars (astep nn (.automorphism p d a) env) (cstep nn (.automorphism p d a) h) :=
  Prog.step_refines wf (.automorphism p d a) env h hpre hR

/-- normalize, `k ∈ [1,62]`, inputs `≤ 2^62`: the stored limbs are the balanced digits of all `a.size`
    input limbs (dropped low limbs still propagate their carry), zero beyond `a.size`; in place or not -/
theorem normalize_sim (wf : WF nn hsz vars) (env : Env) (h : Heap Int) (k : Nat) (d a : Var)
    (hpre : OpPre nn vars (.normalize k d a) env) (hR : R nn hsz vars env h) :
    R nn hsz vars (astep nn (.normalize k d a) env) (cstep nn (.normalize k d a) h) :=
  Prog.step_refines wf (.normalize k d a) env h hpre hR

theorem step_refines (wf : WF nn hsz vars) (op : Op) (env : Env) (h : Heap Int)
    (hpre : OpPre nn vars op env) (hR : R nn hsz vars env h) :
    R nn hsz vars (astep nn op env) (cstep nn op h) :=
  Prog.step_refines wf op env h hpre hR

/-- **Refinement, coefficient-space fragment.**  For every well-formed layout, every program whose abstract
    run stays inside the budget, every environment and every heap representing it: the heap after running
    the model of the library represents the environment after running the exact interpreter. -/
theorem coeff_prog_refines (wf : WF nn hsz vars) (ops : List Op) (env : Env) (h : Heap Int)
    (hb : InBudget nn vars ops env) (hR : R nn hsz vars env h) :
    R nn hsz vars (run (astep nn) ops env) (run (cstep nn) ops h) :=
  sim_run (astep nn) (cstep nn) (R nn hsz vars) (OpPre nn vars)
    (fun op a s hpre hr => step_refines wf op a s hpre hr) ops env h hb hR

/-- read-back form: every output limb of every declared variable equals, coefficient by coefficient, the
    exact expression in Z[X]/(X^N+1) computed by the abstract interpreter; the heap keeps its size and no
    access of the run was out of bounds -/
theorem coeff_prog_output (wf : WF nn hsz vars) (ops : List Op) (env : Env) (h : Heap Int)
    (hb : InBudget nn vars ops env) (hR : R nn hsz vars env h) (v : Var) (hv : v ∈ vars) :
    (run (cstep nn) ops h).ok = true ∧ (run (cstep nn) ops h).mem.size = hsz ∧
    ∀ i c, i < v.size → c < nn →
      (readVar nn (run (cstep nn) ops h) v).coef i c = (run (astep nn) ops env v).coef i c := by
  have r := coeff_prog_refines wf ops env h hb hR
  exact ⟨r.2.1, r.1, readVar_of_R r v hv⟩

/-! ### mixed programs: DFT-space layer, modulo the soundness of the DFT-space functions

    The property, for the binary64 module `Cfg.parts`: every mixed program whose abstract run stays inside the
    C01 precision budget refines its abstract semantics.  What is proved here is that statement *relative to* `S : DftOpsSound c nn` — the record of the per-function facts
    `dft_exact`, `svp_prepare_exact`, `svp_exact`, `vmp_prepare_exact`, `vmp_exact`, `vmp_dd_exact`
    (`vmp_apply_dft_to_dft`, `OpD.vmpDD`), `dft_idft_exact`, `small_product_exact` about the module-level model (the C01 / C02 theorems, proved separately: exact
    arithmetic with budgets `True`, binary64 with the C01 bounds), together with the representation
    relations `RepV/RepS/RepM` they are stated with.  Everything else — reading operands from the heap with
    their strides, storing results, frames, the interplay with the coefficient-space calls, opaque objects
    being valid inputs of every later call — is proved.  `RD` also carries the provenance of raw transforms (a
    `VEC_ZNX_DFT` variable whose static tag `AState.raw` is set is, bit for bit, `vec_znx_dft` of its exact limbs:
    `Lemmas/ProgRaw.lean`), which `vmp_dd_exact` may use.  The one-call theorem is `Prog.stepG_refines` at the instance
    `OpsSoundG.ofSound S`, with the provenance carried along by `Prog.prov_step`.  The record is instantiated for the exact FFT network in
    `Properties/Closed.lean` (all budgets `True`, products of products included) and for the binary64 module
    `Cfg.parts` in `Properties/C16Err.lean` (`dftOpsSound_f64`: the C01Err / C02Err budgets). -/

variable {α : Type}

theorem stepD_refines_partial {c : Module.Parts α} (S : DftOpsSound c nn) (wf : WF nn hsz vars)
    (op : OpD) (a : AState) (s : CState α) (hpre : PreD S vars op a) (hR : RD S hsz vars a s) :
    RD S hsz vars (astepD nn op a) (cstepD c nn op s) := by
  obtain ⟨r1, r2, r3, r4, r5⟩ := hR
  obtain ⟨q1, q2, q3, q4⟩ := stepG_refines (OpsSoundG.ofSound S) wf op a (fun _ => ()) s ()
    (preG_of_preD S op a s hpre r5) ⟨r1, r2, r3, r4⟩
  exact ⟨q1, q2, q3, q4, prov_step c S.nn_eq wf op a s (fun d x e => by subst e; exact hpre.1) r1 r5⟩

/-- **Refinement of mixed programs, relative to `DftOpsSound`.**  (Named `_partial` because the fields of
    `S` are hypotheses here; the instances are `ClosedProps.prog_refines_closed` and
    `C16Err.prog_refines_sound_f64_partial`.)
    For every module `c`, every `S : DftOpsSound c nn`, every well-formed layout, every mixed program whose
    abstract run satisfies `PreD` (coefficient-space budget + the budgets of `S`) at every step: the final
    implementation state represents the final abstract state — the heap holds the exact integer limbs, and
    every opaque object written by the program represents the exact polynomial vector. -/
theorem prog_refines_partial {c : Module.Parts α} (S : DftOpsSound c nn) (wf : WF nn hsz vars)
    (ops : List OpD) (a : AState) (s : CState α)
    (hb : Guarded (PreD S vars) (astepD nn) ops a) (hR : RD S hsz vars a s) :
    RD S hsz vars (run (astepD nn) ops a) (run (cstepD c nn) ops s) :=
  sim_run (astepD nn) (cstepD c nn) (RD S hsz vars) (PreD S vars)
    (fun op a s hpre hr => stepD_refines_partial S wf op a s hpre hr) ops a s hb hR

/-- read-back form for the integer outputs of a mixed program -/
theorem prog_output_partial {c : Module.Parts α} (S : DftOpsSound c nn) (wf : WF nn hsz vars)
    (ops : List OpD) (a : AState) (s : CState α)
    (hb : Guarded (PreD S vars) (astepD nn) ops a) (hR : RD S hsz vars a s) (v : Var) (hv : v ∈ vars) :
    ∀ i t, i < v.size → t < nn →
      (readVar nn (run (cstepD c nn) ops s).heap v).coef i t = ((run (astepD nn) ops a).env v).coef i t := by
  exact readVar_of_R (prog_refines_partial S wf ops a s hb hR).1 v hv

/-! ### the hypotheses are satisfiable: `N = 4`, a heap of 22 cells, three variables
    `x` (2 limbs, stride 4), `y` (2 limbs, stride 5: one padding cell), `z` (1 limb); the program
    `x := x + y` (in place); `z := X^5 · x` (truncated to one limb); `y := y(X^3)` (in place);
    `x := normalize_base2^4 (x)` (in place) -/

def exX : Var := ⟨0, 2, 4⟩
def exY : Var := ⟨8, 2, 5⟩
def exZ : Var := ⟨18, 1, 4⟩
def exVars : List Var := [exX, exY, exZ]
def exHeap : Heap Int :=
  ⟨#[1, -2, 3, 100,  5, 6, -7, 8,   10, 20, 30, 40, 77,  50, 60, 70, -80, 77,  9, 9, 9, 9], true⟩
def exEnv : Env := fun v => readVar 4 exHeap v
def exProg : List Op :=
  [.add exX exX exY, .rotate 5 exZ exX, .automorphism 3 exY exY, .normalize 4 exX exX]

example : WF 4 22 exVars := WFb_sound _ _ _ (by decide)
example : InBudget 4 exVars exProg exEnv := InBudgetb_sound _ _ _ _ (by decide)
example : R 4 22 exVars exEnv exHeap := Rb_sound _ _ _ _ _ (by decide)

/-- both interpreters, evaluated: the heap after the model of the library (padding cells 12, 17 intact) … -/
example : (run (cstep 4) exProg exHeap).mem =
    #[-2, 6, 5, -8,  7, 2, -1, -8,   10, 40, -30, 20, 77,  50, -80, -70, 60, 77,  140, -11, -18, -33] := by
  decide +kernel
/-- … and the exact interpreter.  `x + y = (11+18X+33X²+140X³, 55+66X+63X²-72X³)`; `X^5·x₀ = -X·x₀ =
    140-11X-18X²-33X³`; `y₀(X³) = 10+40X-30X²+20X³`; base-16 digits of `x`, e.g. coefficient 3:
    `-72 = -4·16 - 8`, `140 - 4 = 9·16 - 8`, digits `(-8, -8)` -/
example : (run (astep 4) exProg exEnv exX, run (astep 4) exProg exEnv exY, run (astep 4) exProg exEnv exZ) =
    (#[#[-2, 6, 5, -8], #[7, 2, -1, -8]], #[#[10, 40, -30, 20], #[50, -80, -70, 60]],
     #[#[140, -11, -18, -33]]) := by
  decide +kernel
/-- the theorem instantiated -/
example : R 4 22 exVars (run (astep 4) exProg exEnv) (run (cstep 4) exProg exHeap) :=
  coeff_prog_refines (WFb_sound _ _ _ (by decide)) exProg exEnv exHeap
    (InBudgetb_sound _ _ _ _ (by decide)) (Rb_sound _ _ _ _ _ (by decide))
/-- the budget is a real hypothesis: with `x₀[3] = 2^63 - 10` the first sum leaves the int64 range; the
    library wraps, the exact interpreter does not, and `InBudget`'s checker rejects the run -/
example : let h : Heap Int := ⟨exHeap.mem.set! 3 9223372036854775798, true⟩
    InBudgetb 4 exVars exProg (fun v => readVar 4 h v) = false ∧
    (run (cstep 4) [.add exX exX exY] h).mem[3]? = some (-9223372036854775778) ∧
    (run (astep 4) [.add exX exX exY] (fun v => readVar 4 h v) exX).coef 0 3 = 9223372036854775838 := by
  decide +kernel

/-! ### `DftOpsSound` is inhabited (`toySound`: identity-transform module, dft/idft inside the budget,
    products outside), and a mixed program through it: `x := x + y; D := dft(x); z := idft(D)` (truncated
    to one limb, stride `N`); `z := -z` -/

def exD : DVar := ⟨0, 2⟩
def exProgD : List OpD := [.coeff (.add exX exX exY), .dft exD exX, .idft exZ exD, .coeff (.negate exZ exZ)]
def exA : AState := ⟨exEnv, fun _ => none, fun _ => none, fun _ => none, fun _ => none⟩
def exS : CState Int := ⟨exHeap, fun _ => #[], fun _ => #[], fun _ => #[]⟩

example : RD (toySound 4) 22 exVars (run (astepD 4) exProgD exA) (run (cstepD (toyParts 4) 4) exProgD exS) :=
  prog_refines_partial (toySound 4) (WFb_sound _ _ _ (by decide)) exProgD exA exS
    ⟨⟨OpOKb_sound _ _ _ (by decide), OpBudgetb_sound _ _ _ (by decide)⟩,
     ⟨by decide, trivial⟩,
     ⟨by decide, _, rfl, trivial⟩,
     ⟨OpOKb_sound _ _ _ (by decide), OpBudgetb_sound _ _ _ (by decide +kernel)⟩, trivial⟩
    (RD_init (toySound 4) exEnv exS (Rb_sound _ _ _ _ _ (by decide)))

example : (run (cstepD (toyParts 4) 4) exProgD exS).heap.mem =
    #[11, 18, 33, 140,  55, 66, 63, -72,   10, 20, 30, 40, 77,  50, 60, 70, -80, 77,  -11, -18, -33, -140] := by
  decide +kernel
example : (run (astepD 4) exProgD exA).env exZ = #[#[-11, -18, -33, -140]] := by decide +kernel

end Spq.C16
