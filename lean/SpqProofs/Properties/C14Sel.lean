/-
  C14, kernel SELECTION of `init_reim_to_znx64_precomp` (spqlios/reim/reim_conversions.c), the sibling of
  `C14.from_znx64_selection`, `C14.to_tnx_selection`, `C14.cplx_to_tnx32_selection`:

      if (m & (m - 1)) return spqlios_error(..);  if (is_not_pow2_double(&divisor)) return spqlios_error(..);
      if (log2bound > 64) return spqlios_error(..);
      resf = reim_to_znx64_ref;
      if (CPU_SUPPORTS("avx2") && m >= 8) { resf = log2bound <= 50 ? .._avx2_bnd50_fma : .._avx2_bnd63_fma; }

  Model: `Conv.initToZnx64 m divisor log2bound avx2 : Option ToZnx64Variant` (`Spq/Conv.lean`; `none` = `spqlios_error`).
  It is compared with the library: stream `f6_conv` (`harness/f6.cpp`, op `f6 to_znx64 api0|api1 m= log2bound=
  div=`) prints the NAME of `p->function` after `new_reim_to_znx64_precomp` and `Spq/Drv/Conv.lean` prints the variant
  returned by `initToZnx64`.

  The per-kernel theorems `C14.to_znx64_{ref,bnd50,bnd63}` have the hypothesis `(2*m) % 4 = 0` for the 4-lane
  do-while kernels; here it is DERIVED from the constructor (`to_znx64_avx_lanes`), and `to_znx64_dispatch` composes
  constructor + selected kernel into one statement about `reim_to_znx64` (`Conv.toZnx64 v`).
-/
import SpqProofs.Properties.C14
import SpqProofs.Lemmas.ConvSel
import Gen.Dispatch

namespace Spq.C14
open Spq Spq.F64 Spq.Conv

/-- which kernel `init_reim_to_znx64_precomp` installs, and under which argument checks it succeeds:
    * success implies `m & (m-1) == 0`, the divisor passes `is_not_pow2_double`, `log2bound ≤ 64`;
    * `bnd50`  ⟺  AVX2 ∧ `m ≥ 8` ∧ `log2bound ≤ 50`;
    * `bnd63`  ⟺  AVX2 ∧ `m ≥ 8` ∧ `50 < log2bound` (`≤ 64`);
    * `ref`    ⟺  no AVX2 ∨ `m < 8`. -/
theorem to_znx64_selection (m divisor log2bound : Nat) (avx2 : Bool) (v : ToZnx64Variant)
    (h : initToZnx64 m divisor log2bound avx2 = some v) :
    notPow2U32 m = false ∧ isNotPow2Double divisor = 0 ∧ log2bound ≤ 64 ∧
    (v = .bnd50 ↔ (avx2 = true ∧ 8 ≤ m ∧ log2bound ≤ 50)) ∧
    (v = .bnd63 ↔ (avx2 = true ∧ 8 ≤ m ∧ 50 < log2bound)) ∧
    (v = .ref ↔ (avx2 = false ∨ m < 8)) := by
  obtain ⟨h1, h2, h3, rfl⟩ := (initToZnx64_eq_some ..).1 h
  refine ⟨h1, h2, h3, ?_⟩
  cases avx2 <;> by_cases hm : 8 ≤ m <;> by_cases hl : log2bound ≤ 50 <;> simp [hm, hl] <;> omega

/-- a 4-lane AVX kernel (`bnd50` or `bnd63`) is installed only when `8 ≤ m` (a uint32 power of two), hence
    `2m` is a multiple of 4 — the hypothesis `hdiv` of `to_znx64_bnd50` / `to_znx64_bnd63` / `to_znx64_bnd63_wide`:
    the do-while loops of the kernels never run past `2m` doubles -/
theorem to_znx64_avx_lanes (m divisor log2bound : Nat) (avx2 : Bool) (v : ToZnx64Variant)
    (hm32 : m < 4294967296) (h : initToZnx64 m divisor log2bound avx2 = some v) (hv : v ≠ .ref) :
    avx2 = true ∧ 8 ≤ m ∧ m % 2 = 0 ∧ (2 * m) % 4 = 0 := by
  obtain ⟨h1, _, _, _, _, hr⟩ := to_znx64_selection m divisor log2bound avx2 v h
  have hnr : ¬ (avx2 = false ∨ m < 8) := fun hh => hv (hr.2 hh)
  have ha : avx2 = true := by cases avx2 <;> simp_all
  have hm : 8 ≤ m := by
    rcases Nat.lt_or_ge m 8 with hlt | hge
    · exact absurd (Or.inr hlt) hnr
    · exact hge
  have he := even_of_notPow2U32 m hm32 (by omega) h1
  exact ⟨ha, hm, he, by omega⟩

/-- the constructor is total on the documented domain: uint32 power of two `m`, divisor `2^j`, `log2bound ≤ 64` -/
theorem to_znx64_init_defined (m : Nat) (j : Int) (log2bound : Nat) (avx2 : Bool)
    (hm : notPow2U32 m = false) (hL : log2bound ≤ 64) :
    ∃ v, initToZnx64 m (pow2 j) log2bound avx2 = some v :=
  ⟨_, (initToZnx64_eq_some ..).2 ⟨hm, by simpa using isNotPow2Double_pow2 j, hL, rfl⟩⟩

/-- constructor + dispatched kernel (`reim_to_znx64(precomp, r, a)` = `precomp->function`): for a precomp built with
    divisor `2^j` and `log2bound = L`, every finite input with `|x/d| < 2^min(L,52)` is converted to an integer within
    1/2 of `x/d`, whichever of the three kernels was installed.  (`L ≤ 50`: the `bnd50` domain; `50 < L`: the
    proved `Within` range of `bnd63`, `2^52` — beyond it see `to_znx64_bnd63_wide`.) -/
theorem to_znx64_dispatch (m : Nat) (j : Int) (L : Nat) (avx2 : Bool) (v : ToZnx64Variant)
    (hm32 : m < 4294967296) (hinit : initToZnx64 m (pow2 j) L avx2 = some v)
    (hj1 : -1020 ≤ j) (hj2 : j ≤ 971) (x : Array Nat) (i : Nat) (hi : i < 2 * m)
    (hfin : F64.isFinite (x.getD i 0) = true) (hx64 : x.getD i 0 < 18446744073709551616)
    (hdom : MagLt (x.getD i 0) (pow2 j) (2 ^ min L 52)) :
    ∃ r, (toZnx64 v m (pow2 j) x)[i]? = some r ∧ Within r (x.getD i 0) (pow2 j) := by
  have hd0 : (0 : Int) ≤ toScaled (pow2 j) := by
    rw [toScaled_pow2 j (by omega) (by omega)]; positivity
  have mono : ∀ B : Int, (2 : Int) ^ min L 52 ≤ B → MagLt (x.getD i 0) (pow2 j) B := fun B hB =>
    lt_of_lt_of_le hdom (mul_le_mul_of_nonneg_right hB hd0)
  have hpow : ∀ e : Nat, min L 52 ≤ e → (2 : Int) ^ min L 52 ≤ 2 ^ e := fun e he =>
    pow_le_pow_right₀ (by norm_num) he
  obtain ⟨_, _, _, h50, h63, _⟩ := to_znx64_selection m (pow2 j) L avx2 v hinit
  cases v with
  | ref =>
    exact to_znx64_ref m j (by omega) (by omega) x i hi hfin (mono _ (by simpa using hpow 63 (by omega)))
  | bnd50 =>
    have hl := (h50.1 rfl).2.2
    have hdiv := (to_znx64_avx_lanes m (pow2 j) L avx2 _ hm32 hinit (by simp)).2.2.2
    exact to_znx64_bnd50 m j (by omega) hj2 x i hi hdiv (mono _ (by simpa using hpow 50 (by omega)))
  | bnd63 =>
    have hdiv := (to_znx64_avx_lanes m (pow2 j) L avx2 _ hm32 hinit (by simp)).2.2.2
    exact to_znx64_bnd63 m j hj1 hj2 x i hi hdiv hx64 (mono _ (by simpa using hpow 52 (by omega)))

/-! ### the hypotheses are satisfiable; the three branches are reached -/

example : initToZnx64 8 (pow2 (-3)) 50 true = some .bnd50 ∧ initToZnx64 8 (pow2 (-3)) 51 true = some .bnd63 ∧
    initToZnx64 8 (pow2 (-3)) 64 true = some .bnd63 ∧ initToZnx64 4 (pow2 (-3)) 40 true = some .ref ∧
    initToZnx64 1024 (pow2 5) 40 false = some .ref ∧ initToZnx64 8 (pow2 0) 65 true = none ∧
    initToZnx64 12 (pow2 0) 40 true = none ∧
    initToZnx64 8 4617315517961601024 40 true = none ∧            -- divisor 5.0 is refused, but
    initToZnx64 8 4613937818241073152 40 true = some .bnd50 := by  -- divisor 3.0 = 1.5·2 is ACCEPTED:
  -- `is_not_pow2_double` masks with 0x7FFFFFFFFFFFF (51 bits, the mantissa has 52); hence `to_znx64_selection`
  -- concludes `isNotPow2Double divisor = 0`, not `divisor = pow2 j` (known: comment and `na` verdict in `case_init32`, harness/cv.cpp)
  decide +kernel

/-- an instance of `to_znx64_dispatch`: m = 8, d = 8, L = 50, x[1] = 2^53 - 1 = (2^50 - 1/8)·8 -/
example : ∃ r, (toZnx64 .bnd50 8 (pow2 3) (Array.replicate 16 4845873199050653695))[1]? = some r ∧
    Within r 4845873199050653695 (pow2 3) := by
  have h := to_znx64_dispatch 8 3 50 true .bnd50 (by norm_num) (by decide +kernel) (by norm_num) (by norm_num)
    (Array.replicate 16 4845873199050653695) 1 (by norm_num) (by decide +kernel) (by decide +kernel)
    (by unfold MagLt; decide +kernel)
  simpa using h


/-! ### the constructor model against the LIVE library (regenerated dispatch facts) -/

/-- the kernel a variant stands for -/
def variantKernel : ToZnx64Variant → String
  | .ref => "reim_to_znx64_ref"
  | .bnd50 => "reim_to_znx64_avx2_bnd50_fma"
  | .bnd63 => "reim_to_znx64_avx2_bnd63_fma"

/-- is AVX2 available under CPU mask `i` of `Gen.Dispatch` (masks = disable (avx2, fma, avx512):
    (0,0,0), (1,1,1), (1,0,0), (0,1,0), (0,0,1)) -/
def avx2UnderMask : Nat → Bool
  | 1 => false
  | 2 => false
  | _ => true

/-- the `log2bound` values at which `tools/gen_dispatch.py` calls `new_reim_to_znx64_precomp` -/
def toZnx64Bounds : List (String × Nat) :=
  [("new_reim_to_znx64_precomp/50", 50), ("new_reim_to_znx64_precomp/51", 51),
   ("new_reim_to_znx64_precomp/52", 52), ("new_reim_to_znx64_precomp/63", 63)]

/-- Gen obligation: for every bound in {50, 51, 52, 63} and every row of `Gen.Dispatch.rows` for it (a CPU mask and the
    dimensions `m = 2^lg` it lists; which masks and dimensions occur is the generator's doing), the kernel
    that the LIVE library's `new_reim_to_znx64_precomp` installed (read back from the object on this run) is the one the
    model of the constructor `Conv.initToZnx64` selects — so `to_znx64_selection` / `to_znx64_dispatch` are about the
    constructor the library runs (in particular the 50/51 threshold), not only about a hand-typed copy of it.
    The second conjunct is the non-vacuity floor: all four bounds occur with both an AVX and a reference row. -/
theorem to_znx64_constructor_matches_library :
    (toZnx64Bounds.all fun nb =>
      (Gen.Dispatch.rows.filter fun r => r.1 == nb.1).all fun r =>
        r.2.2.2.all fun lg =>
          (initToZnx64 (2 ^ lg) (pow2 2) nb.2 (avx2UnderMask r.2.1)).map variantKernel == some r.2.2.1) = true ∧   -- divisor 4.0, as tools/gen_dispatch.py calls it
    (toZnx64Bounds.all fun nb =>
      (Gen.Dispatch.rows.any fun r => r.1 == nb.1 && r.2.2.1 == "reim_to_znx64_ref") &&
      (Gen.Dispatch.rows.any fun r => r.1 == nb.1 && r.2.2.1 != "reim_to_znx64_ref" && r.2.2.2.length ≥ 14)) = true := by
  decide +kernel

end Spq.C14
