/-
  C12 — shared modules and precomputed tables are safe for concurrent use.

  Model: threads are deterministic reactive programs over a shared memory (`Spq.Globals.Prog`); an
  execution is any interleaving (`sched : List Nat`) of their atomic read/write actions (sequentially
  consistent).  The shared locations of the library are its mutable static-storage objects, extracted
  from the object files on every run together with the call graph (`Gen.Globals`).

  (1) `readonly_schedule_indep`: if no thread ever writes a shared location then, for EVERY schedule,
      the shared memory never changes (so no two accesses conflict: there is no data race) and every
      thread observes exactly what it observes when run alone — its results are bit-for-bit those of
      a solo run.
  (2) `module_api_readonly` (Gen obligation): the closure, under the extracted call graph (indirect
      calls over-approximated by every address-taken function), of every exported entry point taking a
      `const MODULE*` / `const *_PRECOMP*` references NO shared mutable global (thread-local objects and the
      guarded verification hook's own mask/counter excluded).  With (1): any number of threads may call
      any of them on the same object concurrently.
  (3) `simple_after_warmup`: in the cache model of the `*_simple` functions (structure extracted from
      the source, `Gen.Caches`), once a call with the same key has completed, a call performs no write
      to the cache (state unchanged, no table built) — the documented warm-up protocol.
  Not a theorem (runtime residue, exhibited by the TSan stream only): real weak-memory interleavings,
  compiler reordering, and the first-use race of the `*_simple` functions themselves.
-/
import SpqProofs.Lemmas.Threads
import SpqProofs.Lemmas.Caches
import Gen.Globals
import Gen.Caches
namespace Spq.C12
open Spq Spq.Globals

theorem readonly_schedule_indep (progs : Nat → Prog) (hro : ReadOnly progs) (c0 : Conf) (sched : List Nat) :
    (runSched progs c0 sched).shared = c0.shared ∧
    ∀ t, (runSched progs c0 sched).hist t = (runSolo progs c0 t (sched.count t)).hist t :=
  -- view of a thread: the shared memory and its own history; invariant: the shared memory is that of `c0`
  have := Sched.indep (stepThread progs) (fun c t => (c.shared, c.hist t)) (fun c => c.shared = c0.shared)
    (stepThread_congr progs)
    (fun c t h => (stepThread_shared progs hro c t).trans h)
    (fun c t u _ h => Prod.ext (stepThread_shared progs hro c t) (stepThread_hist_other progs c t u h))
    sched c0 rfl
  ⟨this.1, fun t => (Prod.mk.inj (this.2 t)).2⟩

/-- no step of any interleaving of read-only threads is a write: no conflicting pair of accesses exists -/
theorem readonly_no_write_step (progs : Nat → Prog) (hro : ReadOnly progs) (c : Conf) (t : Nat) :
    ∀ l v, progs t (c.hist t) ≠ Act.write l v := fun l v => hro t _ l v

def graph : Graph := ⟨Gen.Globals.calls, Gen.Globals.indirect, Gen.Globals.addrTaken, Gen.Globals.refs⟩

/-- a global is shared mutable state: not thread-local and not part of the guarded verification hook -/
def sharedGlobal (g : Nat) : Bool :=
  let x := Gen.Globals.globals.getD g ("", false, false)
  !x.2.1 && !x.2.2

/-- Gen obligation: module-level and table-based entry points touch no shared mutable global -/
theorem module_api_readonly :
    touchedFrom graph 100000 Gen.Globals.apiRoots sharedGlobal = some [] := by
  rw [touchedFrom_eq]; decide +kernel

/-- the set of entry points this is about is not empty (non-vacuity) and contains the module API -/
theorem api_roots_nonempty :
    (Gen.Globals.apiRootNames.contains "znx_small_single_product" &&
     Gen.Globals.apiRootNames.contains "vmp_apply_dft" &&
     Gen.Globals.apiRootNames.contains "vec_znx_idft" &&
     Gen.Globals.apiRootNames.contains "reim_fft") = true := by decide +kernel

/-- the `*_simple` functions do reach shared mutable globals (their caches): the obligation above is not
    vacuous — the same closure computation finds them -/
theorem simple_api_not_readonly :
    (touchedFrom graph 100000 Gen.Globals.simpleRoots sharedGlobal).map (fun l => l.isEmpty) = some false := by
  rw [touchedFrom_eq]; decide +kernel

/-- warm-up protocol: after one completed call with the same key, a call leaves the cache untouched -/
theorem simple_after_warmup (r : Gen.Caches.Row) (st : Caches.State) (c : Caches.Call) :
    let spec : Caches.Spec := { slotByM := r.slotByM, guard := r.guard, initArgs := r.initArgs }
    let warm := (Caches.step spec st c).1
    (Caches.step spec warm c).1 = warm ∧ (Caches.step spec warm c).2.2 = false := by
  intro spec warm
  obtain ⟨e, he⟩ := Caches.step_same_key spec st c c rfl (fun _ _ => rfl)
  rw [he]
  exact ⟨rfl, rfl⟩

/-- Gen obligation tying the extracted cache structure to the warm-up protocol: a convenience function whose table is
    SHARED between threads (not thread-local) is keyed by the dimension alone (one slot per `m`, no further key), so after
    one completed call per dimension no later call rebuilds a shared table; caches with further key parameters
    (`divisor`, `log2bound`, …) are thread-local. -/
theorem shared_caches_keyed_by_dimension_only :
    Gen.Caches.rows.all (fun r => r.tls || (r.guard.isEmpty && r.slotByM)) = true ∧
    15 ≤ Gen.Caches.rows.length ∧ (Gen.Caches.rows.any fun r => !r.tls) = true ∧ (Gen.Caches.rows.any fun r => r.tls) = true := by
  decide +kernel

end Spq.C12
