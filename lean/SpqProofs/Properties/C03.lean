/-
  C03 — NTT120 transform is an exact, invertible negacyclic transform on all 64-bit data (q120 NTT/iNTT part).

  Objects.  `nttLane k levels R tbl x` / `inttLane …` are the model of ONE 64-bit lane of
  `q120_ntt_bb_avx2` / `q120_intt_bb_avx2` for `n = 2^k` (wrapped 64-bit arithmetic, `mul_epu32` truncation,
  mixed level-by-level / block-by-block schedule), taking the per-level metadata, the reduction metadata and
  the twiddle table as inputs.  `Gen.nttMeta k j`, `Gen.inttMeta k j` are lane `j` of the metadata extracted
  from the live precomp objects on every run; `tableFwd`, `tableInv` are the model of the integer part of the
  precomputation (compared exhaustively with the real tables by the stream `qn_tables`).
  `exNtt w k`, `exIntt v ninv k` are the exact transforms over `ZMod q`:
     exNtt:  twist `g_i ↦ g_i w^i`, then DIF levels `nn = 2^k … 2`, `(a, b) ↦ (a + b, (a - b) w^(j·2n/nn))`
             (no permutation: the output is in bit-reversed order);
     exIntt: DIT levels `nn = 2 … 2^k`, `(a, b) ↦ (a + b v^(j·2n/nn), a - b v^(j·2n/nn))`, then `g_i ↦ g_i v^i n^-1`.
-/
import SpqProofs.Lemmas.NttModLimb

namespace Spq.C03
open Spq.Q120Ntt Finset

/-- **the mixed schedule equals the plain level-by-level schedule** (a pass of one level acts block by block: `blocks_pass`):
    for every `n = 2^k`, every split point `2^ks ≤ n` (the code uses `min(n, CHANGE_MODE_N)`), every metadata,
    every table and every vector of `n` cells, forward and inverse.  In particular the result does not depend on
    `CHANGE_MODE_N`. -/
theorem sched_eq_rec (ks k : Nat) (hks : ks ≤ k) (levels : Array Level) (R : Reduc) (tbl x : Array Nat)
    (hx : x.size = 2 ^ k) :
    nttLaneS ks k levels R tbl x = nttPlain k levels R tbl x ∧
    inttLaneS ks k levels R tbl x = inttPlain k levels R tbl x :=
  ⟨nttLaneS_eq_plain ks k hks levels R tbl x hx, inttLaneS_eq_plain ks k hks levels R tbl x hx⟩

/-- the drivers' own split point -/
theorem sched_eq_rec_driver (k : Nat) (levels : Array Level) (R : Reduc) (tbl x : Array Nat) (hx : x.size = 2 ^ k) :
    nttLane k levels R tbl x = nttPlain k levels R tbl x ∧ inttLane k levels R tbl x = inttPlain k levels R tbl x :=
  sched_eq_rec _ k (Nat.min_le_left _ _) levels R tbl x hx

/-- **refinement, forward**: for every `n = 2^k`, `1 ≤ k ≤ 16`, every lane `j`, every vector of 64-bit
    words, every output word of the model run on the REAL metadata is congruent mod `q_j` to the exact
    transform `exNtt` of the input residues, with root `w = OMEGA_j^(2^16/n)`. -/
theorem ntt_refines (k j : Nat) (hk1 : 1 ≤ k) (hk : k ≤ 16) (hj : j < 4)
    (x : Array Nat) (hx : x.size = 2 ^ k) (hlt : ∀ i < 2 ^ k, rd x i < W64) :
    let M := Gen.nttMeta k j
    ∀ i < 2 ^ k,
      ((rd (nttLane k M.levels M.R (tableFwd M.q M.Ω k M.levels) x) i : Nat) : ZMod M.q)
        = exNtt ((omegaN M.q M.Ω k : Nat) : ZMod M.q) k (fun t => ((rd x t : Nat) : ZMod M.q)) i :=
  ((laneSpec_cur k j hk hj).fwd x ⟨hx, hlt⟩).2

/-- **refinement, inverse**: same for `q120_intt_bb_avx2` and `exIntt` with `v = w^-1`, `ninv = n^-1`. -/
theorem intt_refines (k j : Nat) (hk1 : 1 ≤ k) (hk : k ≤ 16) (hj : j < 4)
    (x : Array Nat) (hx : x.size = 2 ^ k) (hlt : ∀ i < 2 ^ k, rd x i < W64) :
    let M := Gen.inttMeta k j
    ∀ i < 2 ^ k,
      ((rd (inttLane k M.levels M.R (tableInv M.q M.Ω k M.levels) x) i : Nat) : ZMod M.q)
        = exIntt ((modqPow (omegaN M.q M.Ω k) (-1) M.q : Nat) : ZMod M.q)
            ((modqPow (2 ^ k) (-1) M.q : Nat) : ZMod M.q) k (fun t => ((rd x t : Nat) : ZMod M.q)) i :=
  ((laneSpec_cur k j hk hj).inv x ⟨hx, hlt⟩).2

/-- **the exact transforms are inverse of each other** whenever `w v = 1` and `2^k ninv = 1`
    (any modulus, any `k`): each DIT level undoes the DIF level of the same size up to the factor 2. -/
theorem dit_dif {q : Nat} (w v ninv : ZMod q) (k : Nat) (hwv : w * v = 1) (hn : (2 : ZMod q) ^ k * ninv = 1)
    (g : Nat → ZMod q) : exIntt v ninv k (exNtt w k g) = g :=
  exIntt_exNtt w v ninv k hwv hn g

/-- **round trip on all 64-bit data**: for every `n = 2^k`, `0 ≤ k ≤ 16`, every lane `j` and EVERY
    vector of 64-bit words `x`,  `intt (ntt x) ≡ x (mod q_j)` cell by cell, where both transforms run on the
    metadata of the real precomp objects and on the model's tables. -/
theorem roundtrip (k j : Nat) (hk : k ≤ 16) (hj : j < 4)
    (x : Array Nat) (hx : x.size = 2 ^ k) (hlt : ∀ i < 2 ^ k, rd x i < W64) :
    let F := Gen.nttMeta k j
    let I := Gen.inttMeta k j
    ∀ i < 2 ^ k,
      rd (inttLane k I.levels I.R (tableInv I.q I.Ω k I.levels)
            (nttLane k F.levels F.R (tableFwd F.q F.Ω k F.levels) x)) i % F.q = rd x i % F.q :=
  fun i hi => res_eq_iff.1 ((laneSpec_cur k j hk hj).roundtrip x ⟨hx, hlt⟩ i hi)

/-- **linearity mod q_j**: for every `n = 2^k`, `1 ≤ k ≤ 16`, lane `j`, scalar `a` and 64-bit vectors
    `x y z` with `z ≡ a·x + y (mod q_j)` cell by cell:  `ntt z ≡ a·ntt x + ntt y (mod q_j)` cell by cell. -/
theorem ntt_linear (k j : Nat) (hk1 : 1 ≤ k) (hk : k ≤ 16) (hj : j < 4) (a : Nat)
    (x y z : Array Nat) (hx : x.size = 2 ^ k) (hy : y.size = 2 ^ k) (hz : z.size = 2 ^ k)
    (hxl : ∀ i < 2 ^ k, rd x i < W64) (hyl : ∀ i < 2 ^ k, rd y i < W64) (hzl : ∀ i < 2 ^ k, rd z i < W64) :
    let M := Gen.nttMeta k j
    let ntt := fun v => nttLane k M.levels M.R (tableFwd M.q M.Ω k M.levels) v
    (∀ i < 2 ^ k, rd z i % M.q = (a * rd x i + rd y i) % M.q) →
    ∀ i < 2 ^ k, rd (ntt z) i % M.q = (a * rd (ntt x) i + rd (ntt y) i) % M.q := by
  intro M ntt hlin i hi
  apply (ZMod.natCast_eq_natCast_iff' _ _ _).1
  rw [Nat.cast_add, Nat.cast_mul]
  exact (laneSpec_cur k j hk hj).linear a x y z ⟨hx, hxl⟩ ⟨hy, hyl⟩ ⟨hz, hzl⟩
    (fun t ht => by rw [res, cast_of_mod_eq (hlin t ht), Nat.cast_add, Nat.cast_mul]; rfl) i hi

/-- **evaluation form**: for every `n = 2^k`, `1 ≤ k ≤ 16`, lane `j`, every 64-bit vector `x`, output cell
    `p` of the forward transform is congruent mod `q_j` to the value of the input polynomial `Σ x_i X^i` at
    `w^(2·brev_k(p)+1)`, `w = OMEGA_j^(2^16/n)` a primitive `2n`-th root of unity (`w^n = -1`):
    the transform is the evaluation map at the `n` roots of `X^n + 1`, in BIT-REVERSED order (the code has no
    permutation pass). -/
theorem dif_eval (k j : Nat) (hk1 : 1 ≤ k) (hk : k ≤ 16) (hj : j < 4)
    (x : Array Nat) (hx : x.size = 2 ^ k) (hlt : ∀ i < 2 ^ k, rd x i < W64) :
    let M := Gen.nttMeta k j
    let w : ZMod M.q := ((omegaN M.q M.Ω k : Nat) : ZMod M.q)
    w ^ (2 ^ k) = -1 ∧
    ∀ p < 2 ^ k,
      ((rd (nttLane k M.levels M.R (tableFwd M.q M.Ω k M.levels) x) p : Nat) : ZMod M.q)
        = ∑ i ∈ range (2 ^ k), ((rd x i : Nat) : ZMod M.q) * w ^ (i * (2 * brev k p + 1)) :=
  ⟨(laneSpec_cur k j hk hj).hw, (laneSpec_cur k j hk hj).eval x ⟨hx, hlt⟩⟩

/-- **convolution theorem**: for every `n = 2^k`, `1 ≤ k ≤ 16`, lane `j`, 64-bit vectors `x y p` with
    `p ≡ ntt x ⊙ ntt y (mod q_j)` cell by cell:  `intt p` is, coefficient by coefficient, congruent mod `q_j` to
    the negacyclic product `x·y mod (X^n + 1)` of the input polynomials. -/
theorem ntt_mul (k j : Nat) (hk1 : 1 ≤ k) (hk : k ≤ 16) (hj : j < 4)
    (x y p : Array Nat) (hx : x.size = 2 ^ k) (hy : y.size = 2 ^ k) (hp : p.size = 2 ^ k)
    (hxl : ∀ i < 2 ^ k, rd x i < W64) (hyl : ∀ i < 2 ^ k, rd y i < W64) (hpl : ∀ i < 2 ^ k, rd p i < W64) :
    let F := Gen.nttMeta k j
    let I := Gen.inttMeta k j
    let ntt := fun v => nttLane k F.levels F.R (tableFwd F.q F.Ω k F.levels) v
    (∀ i < 2 ^ k, rd p i % F.q = (rd (ntt x) i * rd (ntt y) i) % F.q) →
    ∀ i < 2 ^ k,
      ((rd (inttLane k I.levels I.R (tableInv I.q I.Ω k I.levels) p) i : Nat) : ZMod F.q)
        = nmul (2 ^ k) (fun t => ((rd x t : Nat) : ZMod F.q)) (fun t => ((rd y t : Nat) : ZMod F.q)) i := by
  intro F I ntt hprod
  exact (laneSpec_cur k j hk hj).mul x y p ⟨hx, hxl⟩ ⟨hy, hyl⟩ ⟨hp, hpl⟩ fun i hi => by
    rw [res, cast_of_mod_eq (hprod i hi), Nat.cast_mul]; rfl

/-! ### the hypotheses are satisfiable / the statements are not vacuous -/

/-- a concrete lane: n = 4, lane 0, the all-ones vector; the model's round trip gives back `2^64-1 mod q` -/
example :
    let F := Gen.nttMeta 2 0
    let I := Gen.inttMeta 2 0
    let x : Array Nat := #[W64 - 1, W64 - 1, W64 - 1, W64 - 1]
    (inttLane 2 I.levels I.R (tableInv I.q I.Ω 2 I.levels)
        (nttLane 2 F.levels F.R (tableFwd F.q F.Ω 2 F.levels) x)).map (· % F.q) = x.map (· % F.q)
    ∧ nttLane 2 F.levels F.R (tableFwd F.q F.Ω 2 F.levels) x ≠ x := by
  decide +kernel

/-- the certificate is not vacuous: halving the `q2bs` offset of one level of the real metadata is rejected -/
example :
    let M := Gen.nttMeta 4 0
    let bad := M.levels.modify 2 fun L => { L with q2bs := L.q2bs / 2 }
    certFwdOK M 4 = true ∧ certFwdOK { M with levels := bad } 4 = false := by
  decide +kernel

/-- the split point changes the order of the work, not the result: n = 8, lane 2, split at 2 / 4 / 8 -/
example :
    let M := Gen.nttMeta 3 2
    let tbl := tableFwd M.q M.Ω 3 M.levels
    let x : Array Nat := #[1, W64 - 1, 5, 0, 2 ^ 63, 7, W64 - 2, 3]
    nttLaneS 1 3 M.levels M.R tbl x = nttLaneS 3 3 M.levels M.R tbl x ∧
    nttLaneS 2 3 M.levels M.R tbl x = nttLaneS 3 3 M.levels M.R tbl x := by
  decide +kernel

/-- evaluation form on a concrete vector: n = 4, lane 1, output cell 1 is the value at `w^(2·brev_2(1)+1) = w^5` -/
example :
    let M := Gen.nttMeta 2 1
    let x : Array Nat := #[W64 - 1, 12345, 0, 2 ^ 63 + 1]
    let w := omegaN M.q M.Ω 2
    brev 2 1 = 2 ∧
    rd (nttLane 2 M.levels M.R (tableFwd M.q M.Ω 2 M.levels) x) 1 % M.q
      = (rd x 0 + rd x 1 * w ^ 5 + rd x 2 * w ^ 10 + rd x 3 * w ^ 15) % M.q := by
  decide +kernel

end Spq.C03
