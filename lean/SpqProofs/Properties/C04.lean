/-
  C04 — q120 lazy modular arithmetic never wraps 64 bits on any in-range operand.

  NTT / iNTT (`ntt_never_wraps`, `intt_never_wraps`): with the per-level metadata READ BACK FROM THE LIVE
  PRECOMPUTATION OBJECTS on every run (`Gen.Q120Meta`), for every n = 2^k (k = 1..16), every lane/prime and
  every vector of arbitrary 64-bit words: in every pass of the schedule no sum, no lazy subtraction
  `a + q·2^s − b` and no `mul_epu32` operand exceeds its word (`safeAll`), every output is < 2^64 and is
  congruent modulo the prime to the exact transform.  The obligation `certificate_current` is re-decided by the
  Lean kernel on the regenerated metadata (exact interval arithmetic on naturals — not the code's
  floating-point bit-size bookkeeping); `level_sound` / `cert_sound` (`Lemmas/NttCert.lean`) are the symbolic
  soundness theorems behind it (any metadata list, any number of levels).
  Products (`products_never_wrap`): for every length ell ≤ MAX_ELL (= 10000, extracted), every operand in its layout
  range (a/c: 32-bit words, b: ANY 64-bit lane), the two-accumulator kernels (reference: 64×64→64 products;
  AVX2: `mul_epu32` on 32-bit halves) give a result congruent to Σ x_i·y_i modulo the prime, and the AVX2 lane is the
  same 64-bit word as the reference lane.  The model's additions and products wrap at 64 bits and `mul_epu32` keeps
  the low 32 bits of its operands, so the congruence holds because nothing wraps; that no accumulator and no
  recombination wraps and that every `mul_epu32` operand fits 32 bits is stated by the lane lemmas
  `*RefLane_exact` / `*AvxLane_exact` of `Lemmas/C04Products.lean`.  The split
  points `h` and reduced powers are read back from the live `q120_new_vec_mat1col_product_*_precomp()` objects
  (`Gen.ProdPrecomp`; the floating-point search that chooses `h` is not modelled, only its result is checked).
  (n = 1: the transform is the identity; ell = 0: the product is 0 — see C03/C10.)
-/
import SpqProofs.Lemmas.C04Ntt
import SpqProofs.Lemmas.C04ProductsGen
import SpqProofs.Properties.C10
namespace Spq.C04
open Spq Spq.Q120Ntt

/-- Gen obligation (NTT): the exact-interval certificate accepts any 64-bit input for every size, lane and direction -/
theorem certificate_current (k j : Nat) (hk1 : 1 ≤ k) (hk : k ≤ 16) (hj : j < 4) :
    certFwdOK (Gen.nttMeta k j) k = true ∧ certInvOK (Gen.inttMeta k j) k = true :=
  ⟨(cert_current k j hk1 hk hj).1, (cert_current k j hk1 hk hj).2.1⟩

/-- forward NTT on arbitrary 64-bit lanes: nothing wraps, outputs congruent to the exact transform -/
theorem ntt_never_wraps (k j : Nat) (hk1 : 1 ≤ k) (hk : k ≤ 16) (hj : j < 4)
    (x : Array Nat) (hx : x.size = 2 ^ k) (hlt : ∀ i < 2 ^ k, rd x i < W64) :
    let M := Gen.nttMeta k j
    let tbl := tableFwd M.q M.Ω k M.levels
    let w : ZMod M.q := ((omegaN M.q M.Ω k : Nat) : ZMod M.q)
    safeAll (2 ^ k) M.R (fwdLSteps k M.levels tbl w) (rd x) ∧
    ∀ i < 2 ^ k, rd (nttLane k M.levels M.R tbl x) i < W64 ∧
      ((rd (nttLane k M.levels M.R tbl x) i : Nat) : ZMod M.q)
        = exNtt w k (fun t => ((rd x t : Nat) : ZMod M.q)) i := by
  intro M tbl w
  have hc := (cert_current k j hk1 hk hj).1
  obtain ⟨h1, h2, h3⟩ := (runsChain_nttLane k (by omega) M.levels M.R tbl w).words
    (stepOK_fwdLSteps M.q M.Ω k (certBound_spec hc).1 M.levels) (by rw [fwdLSteps_descs]; exact hc) x ⟨hx, hlt⟩
  exact ⟨h1, fun i hi => ⟨h2.2 i hi, by have := h3 i hi; rwa [exAll_fwdLSteps] at this⟩⟩

/-- inverse NTT, same statement -/
theorem intt_never_wraps (k j : Nat) (hk1 : 1 ≤ k) (hk : k ≤ 16) (hj : j < 4)
    (x : Array Nat) (hx : x.size = 2 ^ k) (hlt : ∀ i < 2 ^ k, rd x i < W64) :
    let M := Gen.inttMeta k j
    let tbl := tableInv M.q M.Ω k M.levels
    let v : ZMod M.q := ((modqPow (omegaN M.q M.Ω k) (-1) M.q : Nat) : ZMod M.q)
    let ninv : ZMod M.q := ((modqPow (2 ^ k) (-1) M.q : Nat) : ZMod M.q)
    safeAll (2 ^ k) M.R (invLSteps k M.levels tbl v ninv) (rd x) ∧
    ∀ i < 2 ^ k, rd (inttLane k M.levels M.R tbl x) i < W64 ∧
      ((rd (inttLane k M.levels M.R tbl x) i : Nat) : ZMod M.q)
        = exIntt v ninv k (fun t => ((rd x t : Nat) : ZMod M.q)) i := by
  intro M tbl v ninv
  have hc := (cert_current k j hk1 hk hj).2.1
  obtain ⟨h1, h2, h3⟩ := (runsChain_inttLane k (by omega) M.levels M.R tbl v ninv).words
    (stepOK_invLSteps M.q M.Ω k (certBound_spec hc).1 M.levels) (by rw [invLSteps_descs]; exact hc) x ⟨hx, hlt⟩
  exact ⟨h1, fun i hi => ⟨h2.2 i hi, by have := h3 i hi; rwa [exAll_invLSteps] at this⟩⟩

/-- Gen obligation (products): the bound predicates hold for the extracted split points, powers, primes and MAX_ELL -/
theorem product_bounds_current :
    Q120.baaOK Gen.q120_max_ell Q120.curBaa Gen.q120_q = true ∧ Q120.baaAvxOK Gen.q120_max_ell Q120.curBaa Gen.q120_q = true ∧
    Q120.bbbOK Gen.q120_max_ell Q120.curBbb Gen.q120_q = true ∧ Q120.bbbAvxOK Gen.q120_max_ell Q120.curBbb Gen.q120_q = true ∧
    Q120.bbcOK Gen.q120_max_ell Q120.curBbc Gen.q120_q = true ∧ Q120.bbcAvxOK Gen.q120_max_ell Q120.curBbc Gen.q120_q = true :=
  ⟨Q120.baaOK_current, Q120.baaAvxOK_current, Q120.bbbOK_current, Q120.bbbAvxOK_current, Q120.bbcOK_current, Q120.bbcAvxOK_current⟩

/-- a·a, b·b, b·c products: exact modulo each prime for every ell ≤ MAX_ELL and every in-layout operand, reference
    and AVX2, and AVX2 = reference word for word -/
theorem products_never_wrap (ell : Nat) (hell : ell ≤ Gen.q120_max_ell) (j : Nat) (hj : j < 4) :
    (∀ x y, Q120.ArrA x → Q120.ArrA y →
      (Q120.baaRef Q120.curBaa ell x y).getD j 0 % Gen.q120_q j = Q120.dot (Q120.laneTerms ell x y 4 j 4 j) % Gen.q120_q j ∧
      (Q120.baaAvx Q120.curBaa ell x y).getD j 0 = (Q120.baaRef Q120.curBaa ell x y).getD j 0) ∧
    (∀ x y, Q120.ArrB x → Q120.ArrB y →
      (Q120.bbbRef Q120.curBbb ell x y).getD j 0 % Gen.q120_q j = Q120.dot (Q120.laneTerms ell x y 4 j 4 j) % Gen.q120_q j ∧
      (Q120.bbbAvx Q120.curBbb ell x y).getD j 0 = (Q120.bbbRef Q120.curBbb ell x y).getD j 0) ∧
    (∀ x y, Q120.ArrB x → Q120.ArrB y → Q120.ValidC Gen.q120_q y →
      (Q120.bbcRef Q120.curBbc ell x y).getD j 0 % Gen.q120_q j = Q120.dotC (Q120.laneTerms ell x y 4 j 4 j) % Gen.q120_q j ∧
      (Q120.bbcAvx Q120.curBbc ell x y).getD j 0 = (Q120.bbcRef Q120.curBbc ell x y).getD j 0) :=
  ⟨fun x y hx hy => ⟨(C10.baa_exact ell hell x y hx hy j hj).1, (C10.baa_exact ell hell x y hx hy j hj).2.2⟩,
   fun x y hx hy => ⟨(C10.bbb_exact ell hell x y hx hy j hj).1, (C10.bbb_exact ell hell x y hx hy j hj).2.2⟩,
   fun x y hx hy hc => ⟨(C10.bbc_exact ell hell x y hx hy hc j hj).1, (C10.bbc_exact ell hell x y hx hy hc j hj).2.2⟩⟩

/-- Gen obligation: the product theorems' length domain (`MAX_ELL` of the source) covers the property's `0..10000` -/
theorem max_ell_covers : 10000 ≤ Gen.q120_max_ell := by decide

end Spq.C04
