/-
  C02 — the BINARY64 rounding budget of the vector-matrix product, proved about the model functions that are validated
  bit-exactly against the library (`Spq/Module.lean`: `vmpPrepare`, `vmpApplyDftToDft`, `vmpApplyDft`, `vecIdft`,
  `Cfg.parts`; `Spq/Reim4.lean`: the reim4 accumulation kernels).

  Property C02 (fixed text): "… preparing an integer matrix and applying it to an integer vector yields, after inverse
  DFT, column j = sum over i < min(nrows, input rows) of a_i * M[i][j] in Z[X]/(X^N+1) (within the C01 error budget
  summed over the rows, hence exact for small operands), and columns j >= ncols are exactly zero."
  The exact-arithmetic (layout) half is `Properties/C02.lean`; this file is the numeric half.

  Notation: `u = 2^-53`, `n = min nrows asz` (rows used), `γ(n) = (1+u)^(2n+2) − 1 ≈ (2n+2)u` (`gamD n`),
  `N = 2m = 2·2^k`.
   1. `dot_cols_err`: the four reim4 kernels (`reim4_vec_mat1col_product_{ref,avx2}`, `…2cols_product_{ref,avx2}`,
      `Kern.run`), any number of rows, either column of a pair: flag of the output cell ⇒ the cell is finite and
        |computed − Σ_i (a_i c_i − b_i d_i)| ≤ γ(n)·Σ_i (|a_i c_i| + |b_i d_i|)   (real part; imaginary part alike)
      — per kernel the proved exponents are ref: n+2, avx2/1col: n+1, avx2/2cols: 2n (`VmpErrDotErr.lean`).
      `dot_small_err`: the same for the `nn < 8` path (`reim_fftvec_mul` of row 0, then `reim_fftvec_addmul`; exponent n+1).
   2. `vmp_layout_f64`: the layout / addressing of `vmpPrepare` + `vmpApplyDftToDft` for an ARBITRARY arithmetic
      record (no ring laws): cell `t` of output column `j` is the accumulation recurrence `dotRe/dotIm` (order
      `colKind`: `ref`, `av1`, `av2`, `sm`) of `(adft_i[t])_i` and `(fft(M[i][j])[t])_i`; other columns are `zero`.
      Instantiated twice below: bit-level binary64 and flagged binary64.
   3. `vmp_err_partial` (every `k ≤ 16`, i.e. `N ≤ 131072`, both layouts, every shape, `n ≤ 2^25 − 1` rows): every
      coefficient of column `j < min ncols rsz` of `vecIdft (vmpApplyDft … (vmpPrepare …))` is an integer within
      `E_sum + 1/2` of the coefficient of `Σ_{i<n} a_i ⊛ M[i][j]`,
          E_sum = (12·log2(N) + 2n + 3)·u·Σ_{i<n} S_i,    S_i = ‖a_i‖₁·nb_i + na_i·‖M_ij‖₁  (nb_i ≥ ‖M_ij‖₂, na_i ≥ ‖a_i‖₂),
      i.e. `Σ_i 12·log2(N)·u·S_i` (C01Err's per-row budget: three transforms + the rounding of one product) plus the
      ACCUMULATION term `(2n+3)·u·Σ_i S_i` (`≥ γ(n)·ΣS_i`; the true first-order figure is `(3/4)·γ_K(n)·ΣS_i` with
      `γ_K` the per-kernel constant of item 1).  WHY THE ROWS ADD: the error is composed row by row in the 2-norm
      (Minkowski), using the backward-error form of the accumulation (each product `Â_i(t)·B̂_i(t)` carries its own
      relative perturbation `≤ 3/2·γ(n)`), so every row contributes `fB ε μ_n θ·S_i` exactly as one product of C01Err
      with `μ` replaced by `μ_n = 3/2·γ(n)`; then one inverse transform (`inv_compose`) and the final conversion.
      `vmp_exact_f64_partial` / `vmp_exact_real_partial`: `E_sum < 1/2` ⇒ the binary64 pipeline returns EXACTLY the integer
      matrix-vector product column (no domain hypothesis: `|coefficient| ≤ ΣS_i/2 < 2^48`).
      `vmp_zero_cols_f64`: columns `j ≥ min ncols rsz` (and, for `nn < 8`, every column when there is no usable row)
      are exactly zero in binary64 — unconditionally (no flags, any twiddle table: the inverse transform of `+0` cells
      consists of `±0` cells, which the conversion maps to 0).  `svp_zero_rows_f64`: the same for the rows `i ≥ asz` of
      the SVP pipeline.
  Hypotheses that remain (explicit, same style as C01Err): `VCfgOk` (= `CfgOk` + "FMA addmul kernel only for `m ≥ 4`"),
  twiddle accuracy of both tables, `VmpOk` (flags of the flagged run per stage: forward transforms of the `n` limbs and
  of the `n` entries of column `j`, the accumulation, the inverse transform), the box `|coefficients| < 2^50`, and
  (`vmp_err_partial` only) the domain of the final conversion.  "partial": constants 12 (not 8) and the explicit
  accumulation term; flags / twiddle accuracy are hypotheses.  For `nn < 8` (`k < 2`) with `n = 0` the column is
  covered by `vmp_zero_cols_f64` (exact 0 = empty sum) instead of `vmp_err_partial`.
   4. `no_overflow_of_box` (+ `fft_no_overflow_of_box`, `ifft_no_overflow_of_box`, `mul_no_overflow_of_box`): the
      NO-OVERFLOW half of the flag hypotheses of C06Err / C01Err follows from the magnitude box.  `arithU` / `aU` is
      the flagged arithmetic whose flag only records "the exact result is 0 or `≥ 2^-1022`" (`NoUnd`); if these
      UNDERFLOW-only flags hold, the inputs are bounded (`|coefficients| < 2^50`) and the stored twiddles are finite
      doubles of magnitude `≤ 1`, then the full flags hold (`ProdErr.PipeOk`, every `k ≤ 100`), because every exact
      intermediate result stays below `2^(102+9k) ≤ 2^1002 < 2^1023` (`2^50` → `8^k` per transform → `4·U²` for the
      product).  `small_product_exact_f64_noovf_partial`: C01Err's exactness theorem with only the underflow side
      condition left.  `vmp_no_overflow_of_box` (`k ≤ 64`, `n ≤ 2^25 − 1`): the same for the vector-matrix product,
      `VmpOkU ⇒ VmpOk` — the accumulation stage is bounded by `32·U²·(n+1)` (`U = 2^(50+3k)`; the rows add, each
      rounding contributes `(1+u)`, and `(1+u)^(2n) ≤ 4`), all four accumulation orders; and
      `vmp_exact_f64_noovf_partial`: the exactness theorem of item 3 with only the underflow side condition left.
-/
import SpqProofs.Lemmas.VmpErrKern
import SpqProofs.Lemmas.VmpErrF64
import SpqProofs.Lemmas.VmpErrTop
import SpqProofs.Lemmas.ProdErrReal
import SpqProofs.Lemmas.VmpErrExample
import SpqProofs.Lemmas.F64StdEx
import SpqProofs.Lemmas.VmpErrOvf8
import SpqProofs.Lemmas.VmpErrOvf12
import SpqProofs.Properties.C01Err
namespace Spq.C02Err
open Finset Spq Spq.Module Spq.Reim4 Spq.F64 Spq.VmpErr Spq.Fft.Alg Spq.FftErr Spq.ProdErr Spq.Conv

/-- **`dot_cols_err`**: binary64 `reim4_vec_mat1col_product_{ref,avx2}` / `reim4_vec_mat2cols_product_{ref,avx2}`
    (`Kn.run`, the model functions of `Spq/Reim4.lean`) on `n` rows, lane `k < 4` of the column at offset `o`
    (`o = 0`; `o = 8`: second column of a pair).  With `a_i + i·b_i` the vector entry and `c_i + i·d_i` the matrix
    entry of row `i` (`qRe/qIm/qvRe/qvIm`: the VALUES of the cells the kernel reads), if the flag of the output cell
    holds (flagged run on `arithOk`: no overflow, no underflow in the operations it depends on) then
      `|val(re) − Σ_i (a_i c_i − b_i d_i)| ≤ γ(n)·Σ_i (|a_i c_i| + |b_i d_i|)`,
      `|val(im) − Σ_i (a_i d_i + b_i c_i)| ≤ γ(n)·Σ_i (|a_i d_i| + |b_i c_i|)`,   `γ(n) = (1+2^-53)^(2n+2) − 1`. -/
theorem dot_cols_err (Kn : Kern) (n : ℕ) (dst u v : Array ℕ) (hb : Kn.w ≤ dst.size) (o : ℕ)
    (ho : o = 0 ∨ (o = 8 ∧ Kn.w = 16)) (k : ℕ) (hk : k < 4) :
    (Ok ((Kn.run arithOk n (dst.map lift) (u.map lift) (v.map lift)).getD (o + k) (lift 0)) →
      Fin64 ((Kn.run F64.arith n dst u v).getD (o + k) 0) ∧
      |val ((Kn.run F64.arith n dst u v).getD (o + k) 0) -
          ∑ i ∈ range n, (qRe u k i * qvRe v Kn.w o k i - qIm u k i * qvIm v Kn.w o k i)| ≤
        gamD n * ∑ i ∈ range n, (|qRe u k i * qvRe v Kn.w o k i| + |qIm u k i * qvIm v Kn.w o k i|)) ∧
    (Ok ((Kn.run arithOk n (dst.map lift) (u.map lift) (v.map lift)).getD (o + k + 4) (lift 0)) →
      Fin64 ((Kn.run F64.arith n dst u v).getD (o + k + 4) 0) ∧
      |val ((Kn.run F64.arith n dst u v).getD (o + k + 4) 0) -
          ∑ i ∈ range n, (qRe u k i * qvIm v Kn.w o k i + qIm u k i * qvRe v Kn.w o k i)| ≤
        gamD n * ∑ i ∈ range n, (|qRe u k i * qvIm v Kn.w o k i| + |qIm u k i * qvRe v Kn.w o k i|)) := by
  have hbl : Kn.w ≤ (dst.map lift).size := by rw [Array.size_map]; exact hb
  obtain ⟨a1, a2⟩ := kern_cells arithOk Kn n (dst.map lift) (u.map lift) (v.map lift) hbl o ho k hk
  obtain ⟨b1, b2⟩ := kern_cells F64.arith Kn n dst u v hb o ho k hk
  obtain ⟨l1, l2⟩ := lane_err Kn.dk n (fun h => by have := Kn.dk_ne h; omega) u v Kn.w o k
  have eg : (1 + gamD n) - 1 = gamD n := by ring
  constructor
  · intro hf
    have hf' := hf.ok
    change ((Kn.run arithOk n (dst.map lift) (u.map lift) (v.map lift)).getD (o + k) arithOk.zero).2 at hf'
    rw [a1] at hf'
    obtain ⟨f, p⟩ := l1 hf'
    have b1' : (Kn.run F64.arith n dst u v).getD (o + k) 0 = _ := b1
    rw [b1']
    exact ⟨f, by have := p.err; rw [eg] at this; exact this⟩
  · intro hf
    have hf' := hf.ok
    change ((Kn.run arithOk n (dst.map lift) (u.map lift) (v.map lift)).getD (o + k + 4) arithOk.zero).2 at hf'
    rw [a2] at hf'
    obtain ⟨f, p⟩ := l2 hf'
    have b2' : (Kn.run F64.arith n dst u v).getD (o + k + 4) 0 = _ := b2
    rw [b2']
    exact ⟨f, by have := p.err; rw [eg] at this; exact this⟩

/-- what `Kn.run` is: the four model functions -/
example {α : Type} (ar : RArith α) :
    Kern.run ar .ref1 = vecMat1colProductRef ar ∧ Kern.run ar .avx1 = vecMat1colProductAvx2 ar ∧
    Kern.run ar .ref2 = vecMat2colsProductRef ar ∧ Kern.run ar .avx2 = vecMat2colsProductAvx2 ar := ⟨rfl, rfl, rfl, rfl⟩

/-- the lane data of `dot_cols_err`: values of the cells `8i+k`, `8i+k+4` of `u` and `w·i+o+k`, `w·i+o+k+4` of `v` -/
example (u v : Array ℕ) (w o k i : ℕ) :
    qRe u k i = val (u.getD (8 * i + k) 0) ∧ qIm u k i = val (u.getD (8 * i + k + 4) 0) ∧
    qvRe v w o k i = val (v.getD (w * i + o + k) 0) ∧ qvIm v w o k i = val (v.getD (w * i + o + k + 4) 0) :=
  ⟨rfl, rfl, rfl, rfl⟩

theorem gamD_le (n : ℕ) (hn : 2 * n + 2 ≤ 67108864) : gamD n ≤ (2 * (n : ℚ) + 3) * u64 := gamD_le_lin n hn

/-- **`dot_small_err`**: the `nn < 8` path of `vmp_apply_dft_to_dft` (`smallChain`: `reim_fftvec_mul` of row 0, then
    `reim_fftvec_addmul` of the rows `1..n-1`, reference kernels — the library installs the FMA kernels for `m ≥ 4`
    only), `n ≥ 1` rows `A i` (vector) and `B i` (matrix column) in reim layout, complex `t < m`: same bound. -/
theorem dot_small_err (c : Cfg) (hnn : c.nn = 2 * (c.nn / 2)) (hmf : c.mulFma = false) (haf : c.addmulFma = false)
    (n : ℕ) (hn : 1 ≤ n) (A B : ℕ → Array ℕ) (t : ℕ) (ht : t < c.nn / 2) :
    (Ok ((smallChain (pOk c) n (fun i => (A i).map lift) (fun i => (B i).map lift)).getD t (lift 0)) →
      Fin64 ((smallChain (Cfg.parts c) n A B).getD t 0) ∧
      |val ((smallChain (Cfg.parts c) n A B).getD t 0) -
          ∑ i ∈ range n, (val ((A i).getD t 0) * val ((B i).getD t 0) -
            val ((A i).getD (t + c.nn / 2) 0) * val ((B i).getD (t + c.nn / 2) 0))| ≤
        gamD n * ∑ i ∈ range n, (|val ((A i).getD t 0) * val ((B i).getD t 0)| +
            |val ((A i).getD (t + c.nn / 2) 0) * val ((B i).getD (t + c.nn / 2) 0)|)) ∧
    (Ok ((smallChain (pOk c) n (fun i => (A i).map lift) (fun i => (B i).map lift)).getD (t + c.nn / 2) (lift 0)) →
      Fin64 ((smallChain (Cfg.parts c) n A B).getD (t + c.nn / 2) 0) ∧
      |val ((smallChain (Cfg.parts c) n A B).getD (t + c.nn / 2) 0) -
          ∑ i ∈ range n, (val ((A i).getD t 0) * val ((B i).getD (t + c.nn / 2) 0) +
            val ((A i).getD (t + c.nn / 2) 0) * val ((B i).getD t 0))| ≤
        gamD n * ∑ i ∈ range n, (|val ((A i).getD t 0) * val ((B i).getD (t + c.nn / 2) 0)| +
            |val ((A i).getD (t + c.nn / 2) 0) * val ((B i).getD t 0)|)) := by
  obtain ⟨a1, a2⟩ := (smallChain_cells (pOk c) hnn hmf haf n (fun i => (A i).map lift) (fun i => (B i).map lift)).2 t ht
  obtain ⟨b1, b2⟩ := (smallChain_cells (Cfg.parts c) hnn hmf haf n A B).2 t ht
  obtain ⟨d1, d2⟩ := dot_f64 .sm n (fun _ => hn) (fun i => (A i).getD t 0) (fun i => (A i).getD (t + c.nn / 2) 0)
    (fun i => (B i).getD t 0) (fun i => (B i).getD (t + c.nn / 2) 0)
  have eg : (1 + gamD n) - 1 = gamD n := by ring
  simp only [← getD_map_lift] at d1 d2
  have b1' : (smallChain (Cfg.parts c) n A B).getD t 0 = _ := b1
  have b2' : (smallChain (Cfg.parts c) n A B).getD (t + c.nn / 2) 0 = _ := b2
  rw [b1', b2']
  refine ⟨fun hf => ?_, fun hf => ?_⟩
  · have hf' : ((smallChain (pOk c) n (fun i => (A i).map lift) (fun i => (B i).map lift)).getD t (pOk c).ar.zero).2 := hf.ok
    rw [a1] at hf'
    obtain ⟨f, p⟩ := d1 hf'
    exact ⟨f, by have := p.err; rw [eg] at this; exact this⟩
  · have hf' : ((smallChain (pOk c) n (fun i => (A i).map lift) (fun i => (B i).map lift)).getD (t + (pOk c).m)
      (pOk c).ar.zero).2 := hf.ok
    rw [a2] at hf'
    obtain ⟨f, p⟩ := d2 hf'
    exact ⟨f, by have := p.err; rw [eg] at this; exact this⟩

/-- `smallChain` is literally what the `nn < 8` branch of `vmpApplyDftToDft` runs per column -/
example {α : Type} (c : Parts α) (n : ℕ) (A B : ℕ → Array α) :
    smallChain c n A B =
      (List.range (n - 1)).foldl (fun r k => addmul c r (A (k + 1)) (B (k + 1))) (mul c (A 0) (B 0)) := rfl

/-- **`vmp_layout_f64`**: layout of `vmpPrepare` / `vmpApplyDftToDft` for ANY arithmetic record `c.ar : RArith α`
    (no algebraic law is used; the conversion / FFT of the module only enter through `matDft c mat ncols i j`
    = `fft (fromZnx M[i][j])`): both prepared layouts (`nn ≥ 8`: reim4 blocks; `nn < 8`: column-major, reference
    `mul`/`addmul`), both dispatch flavours, every shape.  Cell `t` (real part) and `t + m` (imaginary part) of output
    column `j < min ncols rsz` are the accumulation recurrences
      `colRe c K adft mat ncols n j t = dotRe c.ar K (adft_i[t])_i (adft_i[t+m])_i (fft(M_ij)[t])_i (fft(M_ij)[t+m])_i n`
    over the rows `i < n = min nrows asz`, in the order `K = colKind c ncols rsz j` (`ref`: both reference kernels;
    `av2`: 2-column AVX2 kernel; `av1`: 1-column AVX2 kernel, only for the last column of an odd `ncols ≤ rsz`;
    `sm`: `nn < 8`); the columns from `min ncols rsz` on are `zero`; for `nn < 8` without a usable row all is `zero`. -/
theorem vmp_layout_f64 {α : Type} (c : Parts α) (hnn : c.nn = 2 * c.m) (hblk : 8 ≤ c.nn → c.m % 4 = 0)
    (hsm : c.nn < 8 → c.mulFma = false ∧ c.addmulFma = false) (mat : Array Int) (nrows ncols rsz asz : ℕ)
    (adft : Array α)
    (hT : c.nn < 8 → ∀ row col, row < nrows → col < ncols → (matDft c mat ncols row col).size = c.nn) :
    (vmpApplyDftToDft c rsz adft asz (vmpPrepare c mat nrows ncols) nrows ncols).size = rsz * c.nn ∧
    (∀ j t, j < min ncols rsz → t < c.m → (c.nn < 8 → 0 < min nrows asz) →
      (vmpApplyDftToDft c rsz adft asz (vmpPrepare c mat nrows ncols) nrows ncols).getD (j * c.nn + t) c.ar.zero =
        colRe c (colKind c ncols rsz j) adft mat ncols (min nrows asz) j t ∧
      (vmpApplyDftToDft c rsz adft asz (vmpPrepare c mat nrows ncols) nrows ncols).getD (j * c.nn + t + c.m) c.ar.zero =
        colIm c (colKind c ncols rsz j) adft mat ncols (min nrows asz) j t) ∧
    (∀ j x, min ncols rsz ≤ j →
      (vmpApplyDftToDft c rsz adft asz (vmpPrepare c mat nrows ncols) nrows ncols).getD (j * c.nn + x) c.ar.zero = c.ar.zero) ∧
    (c.nn < 8 → min nrows asz = 0 → ∀ x,
      (vmpApplyDftToDft c rsz adft asz (vmpPrepare c mat nrows ncols) nrows ncols).getD x c.ar.zero = c.ar.zero) :=
  vmp_layout_g c hnn hblk hsm mat nrows ncols rsz asz adft hT

/-- what `colRe` is -/
example {α : Type} (c : Parts α) (Kd : DotK) (adft : Array α) (mat : Array Int) (ncols n j t : ℕ) :
    colRe c Kd adft mat ncols n j t =
      dotRe c.ar Kd (fun i => adft.getD (i * c.nn + t) c.ar.zero) (fun i => adft.getD (i * c.nn + t + c.m) c.ar.zero)
        (fun i => (matDft c mat ncols i j).getD t c.ar.zero) (fun i => (matDft c mat ncols i j).getD (t + c.m) c.ar.zero) n :=
  rfl

/-- the recurrences, spelled out (two rows) -/
example {α : Type} (ar : RArith α) (a b c d : ℕ → α) :
    dotRe ar .ref a b c d 2 = ar.add (ar.add ar.zero (reRef ar (a 0) (b 0) (c 0) (d 0))) (reRef ar (a 1) (b 1) (c 1) (d 1)) ∧
    dotRe ar .av2 a b c d 2 = ar.fms (a 1) (c 1) (ar.fms (b 1) (d 1) (ar.fms (a 0) (c 0) (ar.fms (b 0) (d 0) ar.zero))) ∧
    dotRe ar .av1 a b c d 2 = ar.sub (ar.fma (a 1) (c 1) (ar.fma (a 0) (c 0) ar.zero)) (ar.fma (b 1) (d 1) (ar.fma (b 0) (d 0) ar.zero)) ∧
    dotRe ar .sm a b c d 2 = ar.add (reRef ar (a 0) (b 0) (c 0) (d 0)) (reRef ar (a 1) (b 1) (c 1) (d 1)) :=
  ⟨rfl, rfl, rfl, rfl⟩

variable {K : Type} [Field K] [LinearOrder K] [IsStrictOrderedRing K]

/-- **`vmp_err_partial`** (`k ≤ 16`: every `N = 2·2^k ≤ 131072`; `n = min nrows asz ≤ 2^25 − 1`).
    FULL property statement (NOT completely proved; constants differ, flags / twiddle accuracy are hypotheses):
      "column j = Σ_{i<n} a_i·M[i][j] in ℤ[X]/(X^N+1) within the C01 error budget summed over the rows".
    PROVED: every coefficient `r_t` of column `j < min ncols rsz` (`j < rsz2`) of
    `vecIdft (vmpApplyDft … (vmpPrepare …))` in the binary64 module is an integer with
      `|r_t − (Σ_{i<n} a_i ⊛ M[i][j])_t| ≤ E_sum + 1/2`,
      `E_sum = (12·(k+1) + 2n + 3)·2^-53·Σ_{i<n} (‖a_i‖₁·nb_i + na_i·‖M_ij‖₁)`,   `k + 1 = log2 N`.
    `a_i = limbOf a i asl N`, `M_ij = matEntry mat ncols N i j`; both prepared layouts, both dispatch flavours. -/
theorem vmp_err_partial (c : Cfg) (k : ℕ) (hk : k ≤ 16) (cN sN cNi sNi : ℕ → ℕ) (h : VCfgOk c k cN sN cNi sNi)
    (ζ ζi : Cplx K) (hζ : nsq ζ = 1) (hI : ζ ^ 2 ^ k = Ic) (hinv : ζ * ζi = 1)
    (hcs : ∀ ℓ d b, ℓ + d + 1 = k → b < 2 ^ ℓ →
      nsq (toC (((val (cN (twE ℓ d b)) : ℚ) : K), ((val (sN (twE ℓ d b)) : ℚ) : K)) - ζ ^ twE ℓ d b) ≤
        (((7 / 2 * u64 : ℚ)) : K) ^ 2)
    (hcsi : ∀ ℓ d b, ℓ + d + 1 = k → b < 2 ^ ℓ →
      nsq (toC (((val (cNi (twE ℓ d b)) : ℚ) : K), ((val (sNi (twE ℓ d b)) : ℚ) : K)) - ζi ^ twE ℓ d b) ≤
        (((7 / 2 * u64 : ℚ)) : K) ^ 2)
    (mat : Array Int) (nrows ncols : ℕ) (a : Array Int) (asz asl rsz rsz2 : ℕ)
    (hn : 2 * min nrows asz + 2 ≤ 67108864)
    (hA : ∀ i, i < min nrows asz → ∀ t, t < 2 * 2 ^ k →
      -1125899906842624 < (limbOf a i asl (2 * 2 ^ k)).getD t 0 ∧ (limbOf a i asl (2 * 2 ^ k)).getD t 0 < 1125899906842624)
    (hM : ∀ i j, i < nrows → j < ncols → ∀ t, t < 2 * 2 ^ k →
      -1125899906842624 < (matEntry mat ncols (2 * 2 ^ k) i j).getD t 0 ∧
        (matEntry mat ncols (2 * 2 ^ k) i j).getD t 0 < 1125899906842624)
    (j : ℕ) (hj : j < min ncols rsz) (hj2 : j < rsz2) (hpos : k < 2 → 0 < min nrows asz)
    (hok : VmpOk c k cN sN cNi sNi mat nrows ncols a asz asl rsz j)
    (na nb : ℕ → K) (hna0 : ∀ i, i < min nrows asz → 0 ≤ na i) (hnb0 : ∀ i, i < min nrows asz → 0 ≤ nb i)
    (hna : ∀ i, i < min nrows asz →
      ∑ t ∈ range (2 * 2 ^ k), (((limbOf a i asl (2 * 2 ^ k)).getD t 0 : Int) : K) ^ 2 ≤ na i ^ 2)
    (hnb : ∀ i, i < min nrows asz →
      ∑ t ∈ range (2 * 2 ^ k), (((matEntry mat ncols (2 * 2 ^ k) i j).getD t 0 : Int) : K) ^ 2 ≤ nb i ^ 2)
    (hnl : ∀ i, i < min nrows asz →
      nb i ≤ ∑ t ∈ range (2 * 2 ^ k), |(((matEntry mat ncols (2 * 2 ^ k) i j).getD t 0 : Int) : K)|)
    (hdom : ∀ t, t < 2 * 2 ^ k →
      |(((isum (2 * 2 ^ k) (min nrows asz)
          (fun i => nmul (2 * 2 ^ k) (limbOf a i asl (2 * 2 ^ k)) (matEntry mat ncols (2 * 2 ^ k) i j))).getD t 0 : Int) : K)| +
        (((12 * (k + 1 : ℚ) + 2 * (min nrows asz : ℕ) + 3) * u64 : ℚ) : K) *
          ∑ i ∈ range (min nrows asz),
            ((∑ t ∈ range (2 * 2 ^ k), |(((limbOf a i asl (2 * 2 ^ k)).getD t 0 : Int) : K)|) * nb i +
              na i * ∑ t ∈ range (2 * 2 ^ k), |(((matEntry mat ncols (2 * 2 ^ k) i j).getD t 0 : Int) : K)|)
        < ((Bv c.toVariant : ℚ) : K)) :
    ∀ t, t < 2 * 2 ^ k → ∃ r : ℤ,
      (dlimb (vecIdft (Cfg.parts c) rsz2
        (vmpApplyDft (Cfg.parts c) rsz a asz asl (vmpPrepare (Cfg.parts c) mat nrows ncols) nrows ncols) rsz) j (2 * 2 ^ k))[t]?
          = some r ∧
      |(r : K) - (((isum (2 * 2 ^ k) (min nrows asz)
          (fun i => nmul (2 * 2 ^ k) (limbOf a i asl (2 * 2 ^ k)) (matEntry mat ncols (2 * 2 ^ k) i j))).getD t 0 : Int) : K)| ≤
        (((12 * (k + 1 : ℚ) + 2 * (min nrows asz : ℕ) + 3) * u64 : ℚ) : K) *
          ∑ i ∈ range (min nrows asz),
            ((∑ t ∈ range (2 * 2 ^ k), |(((limbOf a i asl (2 * 2 ^ k)).getD t 0 : Int) : K)|) * nb i +
              na i * ∑ t ∈ range (2 * 2 ^ k), |(((matEntry mat ncols (2 * 2 ^ k) i j).getD t 0 : Int) : K)|)
        + 1 / 2 := by
  have hle : vbudget K k mat nrows ncols a asz asl j na nb ≤ _ :=
    vbudget_le (K := K) k hk mat nrows ncols a asz asl j hn na nb hna0 hnb0
  intro t ht
  obtain ⟨r, h1, h2⟩ := (col_out ⟨c, k, cN, sN, cNi, sNi, h.cfg, ζ, ζi, hζ, hI, hinv, hcs, hcsi⟩ (by show k ≤ 961; omega)
    h mat nrows ncols a asz asl rsz rsz2 hA hM j hj hj2 hpos hok na nb (fun i hi => ⟨hna0 i hi, hna i hi⟩)
    (fun i hi => ⟨hnb0 i hi, hnb i hi⟩) hnl).2
      (fun t ht => lt_of_le_of_lt (add_le_add_right hle _) (hdom t ht)) t ht
  exact ⟨r, h1, le_trans h2 (add_le_add_left hle _)⟩

/-- **`vmp_exact_f64_partial`**: if `E_sum < 1/2` the binary64 pipeline returns EXACTLY the column of the integer
    matrix-vector product, `Σ_{i < min nrows asz} a_i ⊛ M[i][j]` in `ℤ[X]/(X^N + 1)` (the right-hand side of
    `C02.vmp_exact`), as an array of integers — every `k ≤ 16`, both layouts, every kernel combination, every shape.
    No hypothesis on the domain of the final conversion. -/
theorem vmp_exact_f64_partial (c : Cfg) (k : ℕ) (hk : k ≤ 16) (cN sN cNi sNi : ℕ → ℕ) (h : VCfgOk c k cN sN cNi sNi)
    (ζ ζi : Cplx K) (hζ : nsq ζ = 1) (hI : ζ ^ 2 ^ k = Ic) (hinv : ζ * ζi = 1)
    (hcs : ∀ ℓ d b, ℓ + d + 1 = k → b < 2 ^ ℓ →
      nsq (toC (((val (cN (twE ℓ d b)) : ℚ) : K), ((val (sN (twE ℓ d b)) : ℚ) : K)) - ζ ^ twE ℓ d b) ≤
        (((7 / 2 * u64 : ℚ)) : K) ^ 2)
    (hcsi : ∀ ℓ d b, ℓ + d + 1 = k → b < 2 ^ ℓ →
      nsq (toC (((val (cNi (twE ℓ d b)) : ℚ) : K), ((val (sNi (twE ℓ d b)) : ℚ) : K)) - ζi ^ twE ℓ d b) ≤
        (((7 / 2 * u64 : ℚ)) : K) ^ 2)
    (mat : Array Int) (nrows ncols : ℕ) (a : Array Int) (asz asl rsz rsz2 : ℕ)
    (hn : 2 * min nrows asz + 2 ≤ 67108864)
    (hA : ∀ i, i < min nrows asz → ∀ t, t < 2 * 2 ^ k →
      -1125899906842624 < (limbOf a i asl (2 * 2 ^ k)).getD t 0 ∧ (limbOf a i asl (2 * 2 ^ k)).getD t 0 < 1125899906842624)
    (hM : ∀ i j, i < nrows → j < ncols → ∀ t, t < 2 * 2 ^ k →
      -1125899906842624 < (matEntry mat ncols (2 * 2 ^ k) i j).getD t 0 ∧
        (matEntry mat ncols (2 * 2 ^ k) i j).getD t 0 < 1125899906842624)
    (j : ℕ) (hj : j < min ncols rsz) (hj2 : j < rsz2) (hpos : k < 2 → 0 < min nrows asz)
    (hok : VmpOk c k cN sN cNi sNi mat nrows ncols a asz asl rsz j)
    (na nb : ℕ → K) (hna0 : ∀ i, i < min nrows asz → 0 ≤ na i) (hnb0 : ∀ i, i < min nrows asz → 0 ≤ nb i)
    (hna : ∀ i, i < min nrows asz →
      ∑ t ∈ range (2 * 2 ^ k), (((limbOf a i asl (2 * 2 ^ k)).getD t 0 : Int) : K) ^ 2 ≤ na i ^ 2)
    (hnb : ∀ i, i < min nrows asz →
      ∑ t ∈ range (2 * 2 ^ k), (((matEntry mat ncols (2 * 2 ^ k) i j).getD t 0 : Int) : K) ^ 2 ≤ nb i ^ 2)
    (hnl : ∀ i, i < min nrows asz →
      nb i ≤ ∑ t ∈ range (2 * 2 ^ k), |(((matEntry mat ncols (2 * 2 ^ k) i j).getD t 0 : Int) : K)|)
    (hE : (((12 * (k + 1 : ℚ) + 2 * (min nrows asz : ℕ) + 3) * u64 : ℚ) : K) *
          ∑ i ∈ range (min nrows asz),
            ((∑ t ∈ range (2 * 2 ^ k), |(((limbOf a i asl (2 * 2 ^ k)).getD t 0 : Int) : K)|) * nb i +
              na i * ∑ t ∈ range (2 * 2 ^ k), |(((matEntry mat ncols (2 * 2 ^ k) i j).getD t 0 : Int) : K)|)
        < 1 / 2) :
    dlimb (vecIdft (Cfg.parts c) rsz2
        (vmpApplyDft (Cfg.parts c) rsz a asz asl (vmpPrepare (Cfg.parts c) mat nrows ncols) nrows ncols) rsz) j (2 * 2 ^ k) =
      isum (2 * 2 ^ k) (min nrows asz)
        (fun i => nmul (2 * 2 ^ k) (limbOf a i asl (2 * 2 ^ k)) (matEntry mat ncols (2 * 2 ^ k) i j)) :=
  vmp_exact_col c k hk cN sN cNi sNi h ζ ζi hζ hI hinv hcs hcsi mat nrows ncols a asz asl rsz rsz2 hn hA hM j hj hj2 hpos hok
    na nb hna0 hnb0 hna hnb hnl hE

/-- **`vmp_exact_real_partial`**: `K = ℝ` with the TRUE 2-norms (`na_i = ‖a_i‖₂`, `nb_i = ‖M_ij‖₂`): if
    `(12·log2(N) + 2n + 3)·2^-53·Σ_{i<n} (‖a_i‖₁‖M_ij‖₂ + ‖a_i‖₂‖M_ij‖₁) < 1/2` the binary64 pipeline returns the exact
    column (the shape of the property text: the C01 budget summed over the rows, plus the accumulation term). -/
theorem vmp_exact_real_partial (c : Cfg) (k : ℕ) (hk : k ≤ 16) (cN sN cNi sNi : ℕ → ℕ) (h : VCfgOk c k cN sN cNi sNi)
    (ζ ζi : Cplx ℝ) (hζ : nsq ζ = 1) (hI : ζ ^ 2 ^ k = Ic) (hinv : ζ * ζi = 1)
    (hcs : ∀ ℓ d b, ℓ + d + 1 = k → b < 2 ^ ℓ →
      nsq (toC (((val (cN (twE ℓ d b)) : ℚ) : ℝ), ((val (sN (twE ℓ d b)) : ℚ) : ℝ)) - ζ ^ twE ℓ d b) ≤
        (((7 / 2 * u64 : ℚ)) : ℝ) ^ 2)
    (hcsi : ∀ ℓ d b, ℓ + d + 1 = k → b < 2 ^ ℓ →
      nsq (toC (((val (cNi (twE ℓ d b)) : ℚ) : ℝ), ((val (sNi (twE ℓ d b)) : ℚ) : ℝ)) - ζi ^ twE ℓ d b) ≤
        (((7 / 2 * u64 : ℚ)) : ℝ) ^ 2)
    (mat : Array Int) (nrows ncols : ℕ) (a : Array Int) (asz asl rsz rsz2 : ℕ)
    (hn : 2 * min nrows asz + 2 ≤ 67108864)
    (hA : ∀ i, i < min nrows asz → ∀ t, t < 2 * 2 ^ k →
      -1125899906842624 < (limbOf a i asl (2 * 2 ^ k)).getD t 0 ∧ (limbOf a i asl (2 * 2 ^ k)).getD t 0 < 1125899906842624)
    (hM : ∀ i j, i < nrows → j < ncols → ∀ t, t < 2 * 2 ^ k →
      -1125899906842624 < (matEntry mat ncols (2 * 2 ^ k) i j).getD t 0 ∧
        (matEntry mat ncols (2 * 2 ^ k) i j).getD t 0 < 1125899906842624)
    (j : ℕ) (hj : j < min ncols rsz) (hj2 : j < rsz2) (hpos : k < 2 → 0 < min nrows asz)
    (hok : VmpOk c k cN sN cNi sNi mat nrows ncols a asz asl rsz j)
    (hE : (((12 * (k + 1 : ℚ) + 2 * (min nrows asz : ℕ) + 3) * u64 : ℚ) : ℝ) *
          ∑ i ∈ range (min nrows asz),
            (n1 ℝ (limbOf a i asl (2 * 2 ^ k)) (2 * 2 ^ k) * n2 (matEntry mat ncols (2 * 2 ^ k) i j) (2 * 2 ^ k) +
              n2 (limbOf a i asl (2 * 2 ^ k)) (2 * 2 ^ k) * n1 ℝ (matEntry mat ncols (2 * 2 ^ k) i j) (2 * 2 ^ k))
        < 1 / 2) :
    dlimb (vecIdft (Cfg.parts c) rsz2
        (vmpApplyDft (Cfg.parts c) rsz a asz asl (vmpPrepare (Cfg.parts c) mat nrows ncols) nrows ncols) rsz) j (2 * 2 ^ k) =
      isum (2 * 2 ^ k) (min nrows asz)
        (fun i => nmul (2 * 2 ^ k) (limbOf a i asl (2 * 2 ^ k)) (matEntry mat ncols (2 * 2 ^ k) i j)) :=
  vmp_exact_col c k hk cN sN cNi sNi h ζ ζi hζ hI hinv hcs hcsi mat nrows ncols a asz asl rsz rsz2 hn hA hM j hj hj2 hpos hok
    (fun i => n2 (limbOf a i asl (2 * 2 ^ k)) (2 * 2 ^ k)) (fun i => n2 (matEntry mat ncols (2 * 2 ^ k) i j) (2 * 2 ^ k))
    (fun _ _ => n2_nonneg _ _) (fun _ _ => n2_nonneg _ _) (fun _ _ => n2_sq _ _) (fun _ _ => n2_sq _ _)
    (fun _ _ => n2_le_n1 _ _) hE

/-- **`vmp_zero_cols_f64`**: in the binary64 module, output limb `j < rsz2` of
    `vecIdft (vmpApplyDft … (vmpPrepare …))` is EXACTLY zero when `j ≥ min ncols rsz` (beyond the matrix, or beyond the
    DFT-space result) — and, for `nn < 8`, when there is no usable row (`min nrows asz = 0`: the `row_max == 0` guard).
    Unconditional: no flags, no hypothesis on the twiddle tables (`ifft` of `+0` cells gives `±0` cells, `toZnx` maps
    them to 0); the box on the matrix entries is only used for the size of their DFTs. -/
theorem vmp_zero_cols_f64 (c : Cfg) (k : ℕ) (hk : k ≤ 961) (cN sN cNi sNi : ℕ → ℕ) (h : VCfgOk c k cN sN cNi sNi)
    (mat : Array Int) (nrows ncols : ℕ) (a : Array Int) (asz asl rsz rsz2 : ℕ)
    (hM : ∀ i j, i < nrows → j < ncols → ∀ t, t < 2 * 2 ^ k →
      -1125899906842624 < (matEntry mat ncols (2 * 2 ^ k) i j).getD t 0 ∧
        (matEntry mat ncols (2 * 2 ^ k) i j).getD t 0 < 1125899906842624)
    (j : ℕ) (hj2 : j < rsz2) (hz : min ncols rsz ≤ j ∨ (k < 2 ∧ min nrows asz = 0)) :
    dlimb (vecIdft (Cfg.parts c) rsz2
        (vmpApplyDft (Cfg.parts c) rsz a asz asl (vmpPrepare (Cfg.parts c) mat nrows ncols) nrows ncols) rsz) j (2 * 2 ^ k) =
      Array.replicate (2 * 2 ^ k) 0 :=
  vmp_zero_col c k hk cN sN cNi sNi h mat nrows ncols a asz asl rsz rsz2 hM j hj2 hz

/-- **`svp_zero_rows_f64`**: in the binary64 module the rows `i ≥ asz` (no input limb) of
    `vecIdft (svpApply ppol vec)` are EXACTLY zero — for any prepared polynomial `ppol`, any tables, no flags. -/
theorem svp_zero_rows_f64 (c : Cfg) (k : ℕ) (hk : k ≤ 961) (cN sN cNi sNi : ℕ → ℕ) (h : CfgOk c k cN sN cNi sNi)
    (ppol : Array ℕ) (vec : Array Int) (asz asl rsz rsz2 i : ℕ) (hi : i < rsz2) (hz : asz ≤ i) :
    dlimb (vecIdft (Cfg.parts c) rsz2 (svpApply (Cfg.parts c) rsz ppol vec asz asl) rsz) i (2 * 2 ^ k) =
      Array.replicate (2 * 2 ^ k) 0 := by
  rw [idft_limb c k h.nn h.toVar rsz2 _ rsz i hi]
  by_cases hir : i < rsz
  · rw [if_pos hir, svp_limb c k cN sN cNi sNi h rsz ppol vec asz asl i hir, if_neg (by omega)]
    apply zero_col_out c k hk cN sN cNi sNi h _ (by simp)
    intro p _
    exact getD_replicate 0 _ p
  · rw [if_neg hir]

/-- the stage-wise flag hypothesis `VmpOk`, spelled out -/
example (c : Cfg) (k : ℕ) (cN sN cNi sNi : ℕ → ℕ) (mat : Array Int) (nrows ncols : ℕ) (a : Array Int)
    (asz asl rsz j : ℕ) :
    VmpOk c k cN sN cNi sNi mat nrows ncols a asz asl rsz j ↔
      ((∀ i, i < min nrows asz → FwdOk c k cN sN (limbOf a i asl (2 * 2 ^ k))) ∧
       (∀ i, i < min nrows asz → FwdOk c k cN sN (matEntry mat ncols (2 * 2 ^ k) i j)) ∧
       (∀ p, p < 2 * 2 ^ k → vmpFlag c mat nrows ncols a asz asl rsz (j * (2 * 2 ^ k) + p)) ∧
       InvOk c k cNi sNi (dlimb (vmpRes c mat nrows ncols a asz asl rsz) j (2 * 2 ^ k))) :=
  ⟨fun h => ⟨h.okA, h.okB, h.okD, h.okI⟩, fun h => ⟨h.1, h.2.1, h.2.2.1, h.2.2.2⟩⟩

/-! ### the hypotheses are satisfiable, the statements are not vacuous

  `N = 2` (`k = 0`), `K = ℚ`, `ζ = i`, `ζi = −i`, the all-reference module `exC`, the `1 × 1` matrix `M = (3 + 4X)`,
  the vector `a = (1 + 2X)`, `rsz = 1` DFT-space limb, `rsz2 = 2` output limbs: every hypothesis of the exactness
  theorem holds (`exVCfgOk`, `exVmpOk`: all flags of the flagged stage runs, `Lemmas/VmpErrExample.lean`), its
  conclusion is the evaluated model; the second output limb is a zero column.  (For `m ≥ 2` the exact roots are
  irrational: `K = ℝ`, and the twiddle-accuracy hypotheses become statements about the stored tables, as in C01Err.) -/

example : dlimb (vecIdft (Cfg.parts exC) 2
      (vmpApplyDft (Cfg.parts exC) 1 #[1, 2] 1 2 (vmpPrepare (Cfg.parts exC) #[3, 4] 1 1) 1 1) 1) 0 (2 * 2 ^ 0) =
    isum (2 * 2 ^ 0) (min 1 1) (fun i => nmul (2 * 2 ^ 0) (limbOf #[1, 2] i 2 (2 * 2 ^ 0)) (matEntry #[3, 4] 1 (2 * 2 ^ 0) i 0)) :=
  vmp_exact_f64_partial (K := ℚ) exC 0 (by omega) z0 z0 z0 z0 exVCfgOk Ic (-Ic)
    (by simp [nsq, Ic]) (by simp) (by rw [mul_neg, Ic_sq, neg_neg])
    (fun ℓ d b h => by omega) (fun ℓ d b h => by omega) #[3, 4] 1 1 #[1, 2] 1 2 1 2 (by decide)
    (by
      intro i hi t ht
      have : i = 0 := by omega
      subst this
      rw [exLimb]
      have : t = 0 ∨ t = 1 := by omega
      rcases this with rfl | rfl <;> decide)
    (by
      intro i j hi hj t ht
      have : i = 0 := by omega
      have : j = 0 := by omega
      subst_vars
      rw [exEntry]
      have : t = 0 ∨ t = 1 := by omega
      rcases this with rfl | rfl <;> decide)
    0 (by decide) (by decide) (fun _ => by decide) exVmpOk (fun _ => 3) (fun _ => 5)
    (fun _ _ => by norm_num) (fun _ _ => by norm_num)
    (by
      intro i hi
      have : i = 0 := by omega
      subst this
      rw [exLimb]
      exact (n2sq_pair ℚ 1 2).trans_le (by norm_num))
    (by
      intro i hi
      have : i = 0 := by omega
      subst this
      rw [exEntry]
      exact (n2sq_pair ℚ 3 4).trans_le (by norm_num))
    (by
      intro i hi
      have : i = 0 := by omega
      subst this
      rw [exEntry]
      exact le_of_le_of_eq (by norm_num) (n1_pair ℚ 3 4).symm)
    (by
      rw [show min 1 1 = 1 from rfl, sum_range_one, exLimb, exEntry]
      show _ * (n1 ℚ #[1, 2] 2 * _ + _ * n1 ℚ #[3, 4] 2) < _
      rw [n1_pair, n1_pair]; unfold u64; norm_num)

/-- the second output limb (`j = 1 ≥ min ncols rsz`) is a zero column -/
example : dlimb (vecIdft (Cfg.parts exC) 2
      (vmpApplyDft (Cfg.parts exC) 1 #[1, 2] 1 2 (vmpPrepare (Cfg.parts exC) #[3, 4] 1 1) 1 1) 1) 1 (2 * 2 ^ 0) =
    Array.replicate (2 * 2 ^ 0) 0 :=
  vmp_zero_cols_f64 exC 0 (by omega) z0 z0 z0 z0 exVCfgOk #[3, 4] 1 1 #[1, 2] 1 2 1 2
    (by
      intro i j hi hj t ht
      have : i = 0 := by omega
      have : j = 0 := by omega
      subst_vars
      rw [exEntry]
      have : t = 0 ∨ t = 1 := by omega
      rcases this with rfl | rfl <;> decide)
    1 (by decide) (Or.inl (by decide))

/-- the same values, by evaluating the bit-exact model and the specification: `(1 + 2X)(3 + 4X) = −5 + 10X mod X² + 1` -/
example : vecIdft (Cfg.parts exC) 2
      (vmpApplyDft (Cfg.parts exC) 1 #[1, 2] 1 2 (vmpPrepare (Cfg.parts exC) #[3, 4] 1 1) 1 1) 1 = #[-5, 10, 0, 0] ∧
    isum (2 * 2 ^ 0) (min 1 1) (fun i => nmul (2 * 2 ^ 0) (limbOf #[1, 2] i 2 (2 * 2 ^ 0)) (matEntry #[3, 4] 1 (2 * 2 ^ 0) i 0))
      = #[-5, 10] := by
  constructor <;> decide +kernel

/-- the flag hypothesis of `dot_cols_err` is satisfiable: one row, `u = 3 + i`, `v = 2 + i` in every lane
    (`Numerics.lean`), reference and AVX2 one-column kernels -/
example : Ok ((Kern.run arithOk .ref1 1 ((Array.replicate 8 0).map lift) (exU.map lift) (exV.map lift)).getD (0 + 0) (lift 0)) ∧
    Ok ((Kern.run arithOk .avx1 1 ((Array.replicate 8 0).map lift) (exU.map lift) (exV.map lift)).getD (0 + 0) (lift 0)) :=
  ⟨ex_ref_ok, ex_avx2_ok⟩

/-- **`fft_no_overflow_of_box`** (the flag hypothesis `hok` of `C06Err.reim_fft_err`): forward reim transform of `2^k`
    complexes whose cells are bounded by `U₀` with `8^k·U₀ < 2^1023`, stored twiddles finite and bounded by 1
    (`TabOk`): the UNDERFLOW-only flags (`aU`) imply the full flags (`aOk`), and every output is a finite double
    bounded by `8^k·U₀`. -/
theorem fft_no_overflow_of_box (fma : Bool) (k : ℕ) (cN sN : ℕ → ℕ) (htab : TabOk cN sN) (data : Array ℕ)
    (hdata : data.size = 2 * 2 ^ k) (U0 : ℚ) (hU0 : 0 ≤ U0) (hd : ∀ p, p < 2 * 2 ^ k → |F64.val data[p]!| ≤ U0)
    (hT : 8 ^ k * U0 < 2 ^ 1023)
    (hokU : ∀ p, p < 2 * 2 ^ k →
      ((Fft.reimFftA (famOf fma aU) (2 ^ k) ((((Fft.reimFftEnts (2 ^ k)).map (Fft.SchedN.valP cN sN)).toArray).map lift)
        (data.map lift))[p]!).2) :
    ∀ p, p < 2 * 2 ^ k →
      ((Fft.reimFftA (famOf fma aOk) (2 ^ k) ((((Fft.reimFftEnts (2 ^ k)).map (Fft.SchedN.valP cN sN)).toArray).map lift)
        (data.map lift))[p]!).2 ∧
      Fin64 ((Fft.reimFft (if fma then "fma" else "ref") (2 ^ k) (tabF k cN sN) data)[p]!) ∧
      |F64.val ((Fft.reimFft (if fma then "fma" else "ref") (2 ^ k) (tabF k cN sN) data)[p]!)| ≤ 8 ^ k * U0 :=
  fft_no_ovf' fma k cN sN htab data hdata U0 hU0 hd hT hokU

/-- **`ifft_no_overflow_of_box`** (the flag hypothesis of `C06Err.reim_ifft_err`): the same for the inverse transform -/
theorem ifft_no_overflow_of_box (fma : Bool) (k : ℕ) (cN sN : ℕ → ℕ) (htab : TabOk cN sN) (data : Array ℕ)
    (hdata : data.size = 2 * 2 ^ k) (U0 : ℚ) (hU0 : 0 ≤ U0) (hd : ∀ p, p < 2 * 2 ^ k → |F64.val data[p]!| ≤ U0)
    (hT : 8 ^ k * U0 < 2 ^ 1023)
    (hokU : ∀ p, p < 2 * 2 ^ k →
      ((Fft.reimIfftA (ifamOf fma aU) (2 ^ k) ((((Fft.reimIfftEnts (2 ^ k)).map (Fft.SchedN.valP cN sN)).toArray).map lift)
        (data.map lift))[p]!).2) :
    ∀ p, p < 2 * 2 ^ k →
      ((Fft.reimIfftA (ifamOf fma aOk) (2 ^ k) ((((Fft.reimIfftEnts (2 ^ k)).map (Fft.SchedN.valP cN sN)).toArray).map lift)
        (data.map lift))[p]!).2 ∧
      Fin64 ((Fft.reimIfft (if fma then "fma" else "ref") (2 ^ k) (tabI k cN sN) data)[p]!) ∧
      |F64.val ((Fft.reimIfft (if fma then "fma" else "ref") (2 ^ k) (tabI k cN sN) data)[p]!)| ≤ 8 ^ k * U0 :=
  ifft_no_ovf' fma k cN sN htab data hdata U0 hU0 hd hT hokU

/-- **`mul_no_overflow_of_box`** (the flag hypothesis of `C01Err.mul_err`): pointwise product of two DFT-space vectors
    bounded by `Ua`, `Ub` with `4·Ua·Ub < 2^1023` -/
theorem mul_no_overflow_of_box (fma : Bool) (m : ℕ) (hm : fma = true → m % 4 = 0) (a b : Array ℕ) (Ua Ub : ℚ)
    (hUa : 0 ≤ Ua) (hUb : 0 ≤ Ub) (ha : ∀ p, p < 2 * m → |F64.val (a.getD p 0)| ≤ Ua)
    (hb : ∀ p, p < 2 * m → |F64.val (b.getD p 0)| ≤ Ub) (hT : 4 * (Ua * Ub) < 2 ^ 1023)
    (hokU : ∀ p, p < 2 * m → ((mulA arithU fma m (a.map lift) (b.map lift)).getD p arithU.zero).2) :
    ∀ p, p < 2 * m →
      ((mulA arithOk fma m (a.map lift) (b.map lift)).getD p arithOk.zero).2 ∧
      Fin64 ((mulA F64.arith fma m a b).getD p 0) ∧ |F64.val ((mulA F64.arith fma m a b).getD p 0)| ≤ 4 * (Ua * Ub) :=
  mul_no_ovf fma m hm a b Ua Ub hUa hUb ha hb hT hokU

/-- **`no_overflow_of_box`**: for the whole `fft64_znx_small_single_product` pipeline (every `k ≤ 100`, i.e. far
    beyond the supported `N`), inputs in the coefficient box `|a_i|, |b_i| < 2^50`, stored twiddles of both tables
    finite and bounded by 1: the UNDERFLOW-only flags of the four stages (`PipeOkU`) imply the full flag hypothesis
    `PipeOk` of `C01Err` — no intermediate result can overflow; only the underflow side condition remains. -/
theorem no_overflow_of_box (c : Cfg) (k : ℕ) (hk : k ≤ 100) (cN sN cNi sNi : ℕ → ℕ) (h : CfgOk c k cN sN cNi sNi)
    (htab : TabOk cN sN) (htabi : TabOk cNi sNi) (a b : Array Int)
    (ha : ∀ i, i < 2 * 2 ^ k → -1125899906842624 < a.getD i 0 ∧ a.getD i 0 < 1125899906842624)
    (hb : ∀ i, i < 2 * 2 ^ k → -1125899906842624 < b.getD i 0 ∧ b.getD i 0 < 1125899906842624)
    (hok : PipeOkU c k cN sN cNi sNi a b) : PipeOk c k cN sN cNi sNi a b :=
  pipe_no_ovf c k hk cN sN cNi sNi h htab htabi a b ha hb hok

/-- the underflow-only flag of an operation, spelled out for the addition: flagged operands and an exact result that
    is 0 or at least `2^-1022` in magnitude (`arithOk` demands in addition `< 2^1024·(1 − 2^-54)`) -/
example (x y : ℕ × Prop) :
    (arithU.add x y).2 = (x.2 ∧ y.2 ∧ (F64.val x.1 + F64.val y.1 = 0 ∨ minNormal ≤ |F64.val x.1 + F64.val y.1|)) := rfl

/-- **`small_product_exact_f64_noovf_partial`**: `C01Err.small_product_exact_f64_partial` with ONLY the underflow side
    condition left of the flag hypothesis. -/
theorem small_product_exact_f64_noovf_partial {K : Type} [Field K] [LinearOrder K] [IsStrictOrderedRing K]
    (c : Cfg) (k : ℕ) (hk : k ≤ 16) (cN sN cNi sNi : ℕ → ℕ)
    (h : CfgOk c k cN sN cNi sNi) (htab : TabOk cN sN) (htabi : TabOk cNi sNi)
    (ζ ζi : Cplx K) (hζ : nsq ζ = 1) (hI : ζ ^ 2 ^ k = Ic) (hinv : ζ * ζi = 1)
    (hcs : ∀ ℓ d b, ℓ + d + 1 = k → b < 2 ^ ℓ →
      nsq (toC (((F64.val (cN (twE ℓ d b)) : ℚ) : K), ((F64.val (sN (twE ℓ d b)) : ℚ) : K)) - ζ ^ twE ℓ d b) ≤
        (((7 / 2 * u64 : ℚ)) : K) ^ 2)
    (hcsi : ∀ ℓ d b, ℓ + d + 1 = k → b < 2 ^ ℓ →
      nsq (toC (((F64.val (cNi (twE ℓ d b)) : ℚ) : K), ((F64.val (sNi (twE ℓ d b)) : ℚ) : K)) - ζi ^ twE ℓ d b) ≤
        (((7 / 2 * u64 : ℚ)) : K) ^ 2)
    (a b : Array Int)
    (ha : ∀ i, i < 2 * 2 ^ k → -1125899906842624 < a.getD i 0 ∧ a.getD i 0 < 1125899906842624)
    (hb : ∀ i, i < 2 * 2 ^ k → -1125899906842624 < b.getD i 0 ∧ b.getD i 0 < 1125899906842624)
    (hok : PipeOkU c k cN sN cNi sNi a b)
    (na nb : K) (hna0 : 0 ≤ na) (hnb0 : 0 ≤ nb)
    (hna : ∑ t ∈ range (2 * 2 ^ k), ((a.getD t 0 : Int) : K) ^ 2 ≤ na ^ 2)
    (hnb : ∑ t ∈ range (2 * 2 ^ k), ((b.getD t 0 : Int) : K) ^ 2 ≤ nb ^ 2)
    (hnl : nb ≤ ∑ t ∈ range (2 * 2 ^ k), |((b.getD t 0 : Int) : K)|)
    (hE : ((12 * (k + 1 : ℚ) * u64 : ℚ) : K) *
        ((∑ t ∈ range (2 * 2 ^ k), |((a.getD t 0 : Int) : K)|) * nb + na * ∑ t ∈ range (2 * 2 ^ k), |((b.getD t 0 : Int) : K)|)
      < 1 / 2) :
    smallProduct (Cfg.parts c) a b = nmul (2 * 2 ^ k) a b :=
  C01Err.small_product_exact_f64_partial c k hk cN sN cNi sNi h ζ ζi hζ hI hinv hcs hcsi a b ha hb
    (pipe_no_ovf c k (by omega) cN sN cNi sNi h htab htabi a b ha hb hok) na nb hna0 hnb0 hna hnb hnl hE

/-- the hypotheses of `no_overflow_of_box` are satisfiable (the instance of `ProdErrExample.lean`) -/
example : PipeOk exC 0 z0 z0 z0 z0 #[1, 2] #[3, 4] :=
  no_overflow_of_box exC 0 (by omega) z0 z0 z0 z0 exCfgOk exTabOk exTabOk #[1, 2] #[3, 4]
    (by intro i hi; have : i = 0 ∨ i = 1 := by omega
        rcases this with rfl | rfl <;> decide)
    (by intro i hi; have : i = 0 ∨ i = 1 := by omega
        rcases this with rfl | rfl <;> decide)
    exPipeOkU

/-- **`vmp_no_overflow_of_box`**: for the vector-matrix product (`k ≤ 64`, `n = min nrows asz ≤ 2^25 − 1` rows, both
    layouts, all four accumulation orders), coefficients in the box `< 2^50`, stored twiddles of both tables finite and
    bounded by 1: the UNDERFLOW-only flags of the four stages of column `j` (`VmpOkU`: forward transforms, accumulation
    `vmpFlagU`, inverse transform) imply the full flag hypothesis `VmpOk` of `vmp_err_partial` — no exact intermediate
    result exceeds `2^(130+9k) < 2^1023`. -/
theorem vmp_no_overflow_of_box (c : Cfg) (k : ℕ) (hk : k ≤ 64) (cN sN cNi sNi : ℕ → ℕ) (h : VCfgOk c k cN sN cNi sNi)
    (htab : TabOk cN sN) (htabi : TabOk cNi sNi)
    (mat : Array Int) (nrows ncols : ℕ) (a : Array Int) (asz asl rsz : ℕ) (hn : 2 * min nrows asz + 2 ≤ 67108864)
    (hA : ∀ i, i < min nrows asz → ∀ t, t < 2 * 2 ^ k →
      -1125899906842624 < (limbOf a i asl (2 * 2 ^ k)).getD t 0 ∧ (limbOf a i asl (2 * 2 ^ k)).getD t 0 < 1125899906842624)
    (hM : ∀ i j, i < nrows → j < ncols → ∀ t, t < 2 * 2 ^ k →
      -1125899906842624 < (matEntry mat ncols (2 * 2 ^ k) i j).getD t 0 ∧
        (matEntry mat ncols (2 * 2 ^ k) i j).getD t 0 < 1125899906842624)
    (j : ℕ) (hj : j < min ncols rsz) (hpos : k < 2 → 0 < min nrows asz)
    (hok : VmpOkU c k cN sN cNi sNi mat nrows ncols a asz asl rsz j) :
    VmpOk c k cN sN cNi sNi mat nrows ncols a asz asl rsz j :=
  vmp_no_ovf c k hk cN sN cNi sNi h htab htabi mat nrows ncols a asz asl rsz hn hA hM j hj hpos hok

/-- **`vmp_exact_f64_noovf_partial`**: `vmp_exact_f64_partial` with ONLY the underflow side condition left of the flag
    hypothesis: dispatch, twiddle accuracy and magnitude of both tables, box, underflow-only flags, and
    `E_sum < 1/2` ⇒ the binary64 pipeline returns exactly `Σ_{i<n} a_i ⊛ M[i][j]`. -/
theorem vmp_exact_f64_noovf_partial {K : Type} [Field K] [LinearOrder K] [IsStrictOrderedRing K]
    (c : Cfg) (k : ℕ) (hk : k ≤ 16) (cN sN cNi sNi : ℕ → ℕ) (h : VCfgOk c k cN sN cNi sNi)
    (htab : TabOk cN sN) (htabi : TabOk cNi sNi)
    (ζ ζi : Cplx K) (hζ : nsq ζ = 1) (hI : ζ ^ 2 ^ k = Ic) (hinv : ζ * ζi = 1)
    (hcs : ∀ ℓ d b, ℓ + d + 1 = k → b < 2 ^ ℓ →
      nsq (toC (((F64.val (cN (twE ℓ d b)) : ℚ) : K), ((F64.val (sN (twE ℓ d b)) : ℚ) : K)) - ζ ^ twE ℓ d b) ≤
        (((7 / 2 * u64 : ℚ)) : K) ^ 2)
    (hcsi : ∀ ℓ d b, ℓ + d + 1 = k → b < 2 ^ ℓ →
      nsq (toC (((F64.val (cNi (twE ℓ d b)) : ℚ) : K), ((F64.val (sNi (twE ℓ d b)) : ℚ) : K)) - ζi ^ twE ℓ d b) ≤
        (((7 / 2 * u64 : ℚ)) : K) ^ 2)
    (mat : Array Int) (nrows ncols : ℕ) (a : Array Int) (asz asl rsz rsz2 : ℕ)
    (hn : 2 * min nrows asz + 2 ≤ 67108864)
    (hA : ∀ i, i < min nrows asz → ∀ t, t < 2 * 2 ^ k →
      -1125899906842624 < (limbOf a i asl (2 * 2 ^ k)).getD t 0 ∧ (limbOf a i asl (2 * 2 ^ k)).getD t 0 < 1125899906842624)
    (hM : ∀ i j, i < nrows → j < ncols → ∀ t, t < 2 * 2 ^ k →
      -1125899906842624 < (matEntry mat ncols (2 * 2 ^ k) i j).getD t 0 ∧
        (matEntry mat ncols (2 * 2 ^ k) i j).getD t 0 < 1125899906842624)
    (j : ℕ) (hj : j < min ncols rsz) (hj2 : j < rsz2) (hpos : k < 2 → 0 < min nrows asz)
    (hok : VmpOkU c k cN sN cNi sNi mat nrows ncols a asz asl rsz j)
    (na nb : ℕ → K) (hna0 : ∀ i, i < min nrows asz → 0 ≤ na i) (hnb0 : ∀ i, i < min nrows asz → 0 ≤ nb i)
    (hna : ∀ i, i < min nrows asz →
      ∑ t ∈ range (2 * 2 ^ k), (((limbOf a i asl (2 * 2 ^ k)).getD t 0 : Int) : K) ^ 2 ≤ na i ^ 2)
    (hnb : ∀ i, i < min nrows asz →
      ∑ t ∈ range (2 * 2 ^ k), (((matEntry mat ncols (2 * 2 ^ k) i j).getD t 0 : Int) : K) ^ 2 ≤ nb i ^ 2)
    (hnl : ∀ i, i < min nrows asz →
      nb i ≤ ∑ t ∈ range (2 * 2 ^ k), |(((matEntry mat ncols (2 * 2 ^ k) i j).getD t 0 : Int) : K)|)
    (hE : (((12 * (k + 1 : ℚ) + 2 * (min nrows asz : ℕ) + 3) * u64 : ℚ) : K) *
          ∑ i ∈ range (min nrows asz),
            ((∑ t ∈ range (2 * 2 ^ k), |(((limbOf a i asl (2 * 2 ^ k)).getD t 0 : Int) : K)|) * nb i +
              na i * ∑ t ∈ range (2 * 2 ^ k), |(((matEntry mat ncols (2 * 2 ^ k) i j).getD t 0 : Int) : K)|)
        < 1 / 2) :
    dlimb (vecIdft (Cfg.parts c) rsz2
        (vmpApplyDft (Cfg.parts c) rsz a asz asl (vmpPrepare (Cfg.parts c) mat nrows ncols) nrows ncols) rsz) j (2 * 2 ^ k) =
      isum (2 * 2 ^ k) (min nrows asz)
        (fun i => nmul (2 * 2 ^ k) (limbOf a i asl (2 * 2 ^ k)) (matEntry mat ncols (2 * 2 ^ k) i j)) :=
  vmp_exact_col c k hk cN sN cNi sNi h ζ ζi hζ hI hinv hcs hcsi mat nrows ncols a asz asl rsz rsz2 hn hA hM j hj hj2 hpos
    (vmp_no_ovf c k (by omega) cN sN cNi sNi h htab htabi mat nrows ncols a asz asl rsz hn hA hM j hj hpos hok)
    na nb hna0 hnb0 hna hnb hnl hE

/-- the hypotheses of `vmp_no_overflow_of_box` are satisfiable (the instance of `Lemmas/VmpErrExample.lean`) -/
example : VmpOk exC 0 z0 z0 z0 z0 #[3, 4] 1 1 #[1, 2] 1 2 1 0 :=
  vmp_no_overflow_of_box exC 0 (by omega) z0 z0 z0 z0 exVCfgOk exTabOk exTabOk #[3, 4] 1 1 #[1, 2] 1 2 1 (by decide)
    (by
      intro i hi t ht
      have : i = 0 := by omega
      subst this
      rw [exLimb]
      have : t = 0 ∨ t = 1 := by omega
      rcases this with rfl | rfl <;> decide)
    (by
      intro i j hi hj t ht
      have : i = 0 := by omega
      have : j = 0 := by omega
      subst_vars
      rw [exEntry]
      have : t = 0 ∨ t = 1 := by omega
      rcases this with rfl | rfl <;> decide)
    0 (by decide) (fun _ => by decide) exVmpOkU

end Spq.C02Err
