/-
  C05 — base-2^k normalization yields the unique balanced digit expansion.

  Notation.  `balDigit k x = ((x + 2^(k-1)) mod 2^k) - 2^(k-1)` (floor mod): the representative of
  `x mod 2^k` in `[-2^(k-1), 2^(k-1))`; `balCarry k x = ⌊(x + 2^(k-1)) / 2^k⌋ = (x - balDigit k x)/2^k`.
  `balancedDigits k [a_0,…,a_{n-1}]` (index 0 = most significant limb, as in the C API) is the
  specification: exact integer arithmetic from the least significant limb; `val k` is
  `Σ_i a_i 2^(k(n-1-i))`; `Bnd62 v` is `|v| ≤ 2^62`.
-/
import SpqProofs.Lemmas.NormHeap
namespace Spq.C05
open Spq Heap Coeffs Spq.C08 Spq.Norm

/-- `get_base_k_digit(x, k) = (x << (64-k)) >> (64-k)` is the balanced residue of `x` mod `2^k`, for
    every `k ∈ [1,64]` and every `x` (no range hypothesis: the wrap of the left shift is exactly what
    discards the high bits). -/
theorem digit_spec (k : Nat) (hk : 1 ≤ k) (hk' : k ≤ 64) (x : Int) :
    digit x k = (x + 2 ^ (k - 1)) % 2 ^ k - 2 ^ (k - 1) ∧
    -2 ^ (k - 1) ≤ digit x k ∧ digit x k < 2 ^ (k - 1) ∧ (x - digit x k) % 2 ^ k = 0 := by
  rw [Norm.digit_spec k hk hk' x]
  exact ⟨rfl, (bal_range k hk x).1, (bal_range k hk x).2, balDigit_emod k x⟩

/-- `get_base_k_carry(x, digit, k) = (x - digit) >> k` is the exact quotient.  The subtraction
    `x - digit` wraps iff `x ≥ 2^63 - 2^(k-1)`; below that bound (in particular for `|x| ≤ 2^62`,
    `k ≤ 62`) there is no wrap. -/
theorem carry_spec (k : Nat) (hk : 1 ≤ k) (hk' : k ≤ 63) (x : Int)
    (hx1 : -9223372036854775808 ≤ x) (hx2 : x < 9223372036854775808 - 2 ^ (k - 1)) :
    carry x (digit x k) k = (x - digit x k) / 2 ^ k ∧
    x = digit x k + carry x (digit x k) k * 2 ^ k := by
  rw [Norm.carry_spec k hk hk' x hx1 hx2, Norm.digit_spec k hk (by omega) x]
  exact ⟨balCarry_eq k x, bal_decomp k x⟩

/-- the hypothesis of `carry_spec` is sharp: at `x = 2^63 - 2^(k-1)` (here `k = 1`, `x = INT64_MAX`)
    the difference wraps and the identity fails -/
example : let x := 9223372036854775807
    x ≠ digit x 1 + carry x (digit x 1) 1 * 2 ^ 1 := by decide

/-- with carry-in: `x + cin = y + cout·2^k` in ℤ (no wrap anywhere), `y` balanced, and the carry
    invariant `|cout| ≤ 2^(63-k) ≤ 2^62` that re-establishes the hypothesis on `cin` for the next limb -/
theorem limb_identity (k : Nat) (hk : 1 ≤ k) (hk' : k ≤ 62) (x cin : Int) (hx : Bnd62 x) (hc : Bnd62 cin) :
    let r := normCoef k x (some cin)
    x + cin = r.1 + r.2 * 2 ^ k ∧ -2 ^ (k - 1) ≤ r.1 ∧ r.1 < 2 ^ (k - 1) ∧
    -2 ^ (63 - k) ≤ r.2 ∧ r.2 ≤ 2 ^ (63 - k) ∧ Bnd62 r.2 :=
  limb_step k hk hk' x hx (some cin) hc

/-- without carry-in (`carry_in = NULL`): `x = y + cout·2^k` -/
theorem limb_identity_none (k : Nat) (hk : 1 ≤ k) (hk' : k ≤ 62) (x : Int) (hx : Bnd62 x) :
    let r := normCoef k x none
    x = r.1 + r.2 * 2 ^ k ∧ -2 ^ (k - 1) ≤ r.1 ∧ r.1 < 2 ^ (k - 1) ∧
    -2 ^ (63 - k) ≤ r.2 ∧ r.2 ≤ 2 ^ (63 - k) ∧ Bnd62 r.2 := by
  have := limb_step k hk hk' x hx none bnd62_zero
  rwa [Option.getD_none, add_zero] at this

/-- weakest convenient hypotheses (every `k ∈ [1,63]`): `-2^63 ≤ x < 2^63 - 2^(k-1)` and
    `-2^63 + 2^(k-1) ≤ cin ≤ 2^63 - 2^k` suffice for the exact identity -/
theorem limb_identity_weak (k : Nat) (hk : 1 ≤ k) (hk' : k ≤ 63) (x cin : Int)
    (hx1 : -9223372036854775808 ≤ x) (hx2 : x < 9223372036854775808 - 2 ^ (k - 1))
    (hc1 : -9223372036854775808 + 2 ^ (k - 1) ≤ cin) (hc2 : cin ≤ 9223372036854775808 - 2 ^ k) :
    let r := normCoef k x (some cin)
    x + cin = r.1 + r.2 * 2 ^ k ∧ -2 ^ (k - 1) ≤ r.1 ∧ r.1 < 2 ^ (k - 1) := by
  intro r
  have e : r = _ := normCoef_some k hk hk' x cin hx1 hx2 hc1 hc2
  rw [e]
  exact ⟨bal_decomp k _, (bal_range k hk _).1, (bal_range k hk _).2⟩

/-- `znx_normalize(nn, k, out, carry_out, in, carry_in)` on vectors.  The 8 argument shapes
    (`out`, `carry_out`, `carry_in` each NULL or not; `out = carry_out = NULL` is excluded by an
    assert) compute, lane by lane, the same pair `(y, cout)` as a function of `(in, carry_in)`: the
    shapes only differ in which of the two vectors are stored (the C skips the computation of the
    value it does not store).  The model returns both; the caller stores those whose pointer is
    non-null.  `cin = none` is `carry_in = NULL`. -/
theorem znx_normalize_spec (nn k : Nat) (hk : 1 ≤ k) (hk' : k ≤ 62) (inp : Array Int)
    (cin : Option (Array Int)) (hin : ∀ i, i < nn → Bnd62 (inp.getD i 0))
    (hcin : ∀ v, cin = some v → ∀ i, i < nn → Bnd62 (v.getD i 0)) :
    let r := znxNormalize nn k inp cin
    r.1.size = nn ∧ r.2.size = nn ∧
    ∀ i, i < nn →
      inp.getD i 0 + (cin.map fun v => v.getD i 0).getD 0 = r.1.getD i 0 + r.2.getD i 0 * 2 ^ k ∧
      -2 ^ (k - 1) ≤ r.1.getD i 0 ∧ r.1.getD i 0 < 2 ^ (k - 1) ∧ Bnd62 (r.2.getD i 0) := by
  intro r
  refine ⟨znx_size1 _ _ _ _, znx_size2 _ _ _ _, ?_⟩
  intro i hi
  have e1 : r.1.getD i 0 = (normCoef k (inp.getD i 0) (cin.map fun v => v.getD i 0)).1 := by
    rw [Array.getD_eq_getD_getElem?, znx_fst _ _ _ _ _ hi]; rfl
  have e2 : r.2.getD i 0 = (normCoef k (inp.getD i 0) (cin.map fun v => v.getD i 0)).2 :=
    znx_snd _ _ _ _ _ hi
  rw [e1, e2]
  have := limb_step k hk hk' _ (hin i hi) (cin.map fun v => v.getD i 0) (by
    cases cin with
    | none => exact bnd62_zero
    | some v => exact hcin v rfl i hi)
  exact ⟨this.1, this.2.1, this.2.2.1, this.2.2.2.2.2⟩

/-- (a) the specification `balancedDigits` is a balanced expansion of `T = val k as` modulo
    `2^(k·n)`: same length, every digit in `[-2^(k-1), 2^(k-1))`, and
    `Σ r_i 2^(k(n-1-i)) + carry·2^(kn) = Σ a_i 2^(k(n-1-i))` -/
theorem balanced_expansion_value (k : Nat) (hk : 1 ≤ k) (as : List Int) :
    (balancedDigits k as).1.length = as.length ∧
    Balanced k (balancedDigits k as).1 ∧
    val k (balancedDigits k as).1 + (balancedDigits k as).2 * 2 ^ (k * as.length) = val k as :=
  ⟨length_balancedDigits k as, balancedDigits_balanced k hk as, balancedDigits_val k as⟩

/-- (b) uniqueness: any balanced digit list of the same length whose value is congruent to `T`
    modulo `2^(k·n)` is `balancedDigits` -/
theorem balanced_expansion_unique (k : Nat) (hk : 1 ≤ k) (as ds : List Int) (hl : ds.length = as.length)
    (hb : Balanced k ds) (hc : (2 : Int) ^ (k * as.length) ∣ val k as - val k ds) :
    ds = (balancedDigits k as).1 := by
  apply balanced_unique k hk ds _ (by simp [hl]) hb (balancedDigits_balanced k hk as)
  rw [hl]
  have := balancedDigits_congr k as
  have e : val k ds - val k (balancedDigits k as).1
      = (val k as - val k (balancedDigits k as).1) - (val k as - val k ds) := by ring
  rw [e]
  exact Int.dvd_sub this hc

/-- (c) the model's per-coefficient chain (`normChain`: least significant limb first without
    carry-in, then every limb with the carry-out of the previous step) computes exactly
    `balancedDigits`, including the carry out of the most significant limb, and all intermediate
    carries stay within `2^62` -/
theorem normalize_coeff_spec (k : Nat) (hk : 1 ≤ k) (hk' : k ≤ 62) (as : List Int)
    (ha : ∀ a ∈ as, Bnd62 a) :
    (normChain k as).1 = (balancedDigits k as).1 ∧
    (normChain k as).2.getD 0 = (balancedDigits k as).2 ∧
    Bnd62 (balancedDigits k as).2 :=
  normChain_eq_of k Bnd62 Bnd62 (exactStep_bnd62 k hk hk') as ha

/-- specified content of output cell `(i, c)`: digit `i` of the balanced expansion of coefficient `c`
    of `a` (all `asz` limbs, so limbs dropped because `i ≥ rsz` still propagate their carry), and 0
    for limbs beyond `asz` -/
def digitCell (k : Nat) (m : Array Int) (a asz asl i c : Nat) : Int :=
  if i < asz then (balancedDigits k (coefLimbs m a asz asl c)).1.getD i 0 else 0

/-- `vec_znx_normalize_base2k_ref`: every `nn`, `k ∈ [1,62]`, every `(rsz, asz)` including 0 and
    `rsz ≠ asz`, every output stride `≥ nn`, `a` either the output itself (same offset and stride) or
    disjoint from it, every heap whose `a` limbs satisfy `|a| ≤ 2^62`:
    value + zero extension + frame.  (`rsz = 0`: the frame clause says the heap is unchanged;
    `asz = 0`: every output cell is 0.) -/
theorem normalize_spec (nn k : Nat) (hk : 1 ≤ k) (hk' : k ≤ 62) (h : Heap Int)
    (res rsz rsl a asz asl : Nat)
    (hsl : nn ≤ rsl) (hres : InBounds nn h.mem.size res rsz rsl)
    (ha : SrcOK nn res rsz rsl a asz asl)
    (hb : ∀ i c, i < asz → c < nn → Bnd62 (h.mem.getD (a + i * asl + c) 0)) :
    let h' := VecZnx.normalize nn k h res rsz rsl a asz asl
    h'.mem.size = h.mem.size ∧
    (∀ i c, i < rsz → c < nn →
      h'.mem[res + i * rsl + c]? = some (digitCell k h.mem a asz asl i c)) ∧
    Frame nn res rsz rsl h.mem h'.mem :=
  normalize_spec_of nn k Bnd62 Bnd62 (exactStep_bnd62 k hk hk') h res rsz rsl a asz asl hsl hres ha hb

/-- bounds: with the `rsz` output limbs and all `asz` input limbs inside the heap (the carry pass
    reads every limb of `a`, also those with `i ≥ rsz`) no access of the model is out of bounds -/
theorem normalize_no_fault (nn k : Nat) (h : Heap Int) (res rsz rsl a asz asl : Nat)
    (hsl : nn ≤ rsl) (hres : InBounds nn h.mem.size res rsz rsl)
    (ha : SrcOK nn res rsz rsl a asz asl) (hab : InBounds nn h.mem.size a asz asl) :
    (VecZnx.normalize nn k h res rsz rsl a asz asl).ok = h.ok :=
  (normalize_chain_spec nn k h res rsz rsl a asz asl hsl hres ha).2.2.2 hab

/-- `res_size = 0`: nothing is read or written (no hypothesis at all) -/
theorem normalize_size0_res (nn k : Nat) (h : Heap Int) (res rsl a asz asl : Nat) :
    VecZnx.normalize nn k h res 0 rsl a asz asl = h := by
  simp [VecZnx.normalize]

/-- `a_size = 0`: the result is zero on all `rsz` limbs -/
theorem normalize_size0_a (nn k : Nat) (hk : 1 ≤ k) (hk' : k ≤ 62) (h : Heap Int) (res rsz rsl a asl : Nat)
    (hsl : nn ≤ rsl) (hres : InBounds nn h.mem.size res rsz rsl) :
    let h' := VecZnx.normalize nn k h res rsz rsl a 0 asl
    (∀ i c, i < rsz → c < nn → h'.mem[res + i * rsl + c]? = some 0) ∧
    Frame nn res rsz rsl h.mem h'.mem ∧ h'.ok = h.ok := by
  intro h'
  have hs : SrcOK nn res rsz rsl a 0 asl := Or.inr (fun i j hi => by omega)
  obtain ⟨_, s2, s3⟩ := normalize_spec nn k hk hk' h res rsz rsl a 0 asl hsl hres hs
    (fun i c hi => by omega)
  refine ⟨?_, s3, normalize_no_fault nn k h res rsz rsl a 0 asl hsl hres hs (fun i hi => by omega)⟩
  intro i c hi hc
  rw [s2 i c hi hc]; simp [digitCell]

/-- `fft64_vec_znx_big_normalize_base2k`: same digits as normalizing the limbs of the big vector
    (stride `nn`); in place (`res = a`, `rsl = nn`) or disjoint -/
theorem big_eq (nn k : Nat) (hk : 1 ≤ k) (hk' : k ≤ 62) (h : Heap Int) (res rsz rsl a asz : Nat)
    (hsl : nn ≤ rsl) (hres : InBounds nn h.mem.size res rsz rsl)
    (ha : SrcOK nn res rsz rsl a asz nn)
    (hb : ∀ i c, i < asz → c < nn → Bnd62 (h.mem.getD (a + i * nn + c) 0)) :
    let h' := VecZnx.bigNormalize nn k h res rsz rsl a asz
    h' = VecZnx.normalize nn k h res rsz rsl a asz nn ∧
    h'.mem.size = h.mem.size ∧
    (∀ i c, i < rsz → c < nn →
      h'.mem[res + i * rsl + c]? = some (digitCell k h.mem a asz nn i c)) ∧
    Frame nn res rsz rsl h.mem h'.mem :=
  ⟨rfl, normalize_spec nn k hk hk' h res rsz rsl a asz nn hsl hres ha hb⟩

/-- limbs `begin, begin+step, …` (`n` of them) of coefficient `c` of the big vector at `a` -/
def rangeLimbs (m : Array Int) (nn a abegin astep n c : Nat) : List Int :=
  (List.range' 0 n).map fun j => m.getD (a + nn * (abegin + j * astep) + c) 0

/-- `fft64_vec_znx_big_range_normalize_base2k`: same digits as normalizing the selected limbs
    `begin, begin+step, … < end` of the big vector.  `1 ≤ step` and `begin ≤ end + step - 1` delimit
    the domain where the wrapper's `uint64_t` size computation `(end + step - 1 - begin) / step`
    neither divides by zero nor wraps (they are not needed by the proof). -/
theorem range_eq (nn k : Nat) (hk : 1 ≤ k) (hk' : k ≤ 62) (h : Heap Int)
    (res rsz rsl a abegin aend astep : Nat) (_hstep : 1 ≤ astep) (_hrange : abegin + 1 ≤ aend + astep)
    (hsl : nn ≤ rsl) (hres : InBounds nn h.mem.size res rsz rsl) :
    let n := (aend + astep - 1 - abegin) / astep
    SrcOK nn res rsz rsl (a + nn * abegin) n (nn * astep) →
    (∀ j c, j < n → c < nn → Bnd62 (h.mem.getD (a + nn * (abegin + j * astep) + c) 0)) →
    let h' := VecZnx.bigRangeNormalize nn k h res rsz rsl a abegin aend astep
    h' = VecZnx.normalize nn k h res rsz rsl (a + nn * abegin) n (nn * astep) ∧
    h'.mem.size = h.mem.size ∧
    (∀ i c, i < rsz → c < nn →
      h'.mem[res + i * rsl + c]? = some (if i < n then
        (balancedDigits k (rangeLimbs h.mem nn a abegin astep n c)).1.getD i 0 else 0)) ∧
    Frame nn res rsz rsl h.mem h'.mem := by
  intro n ha hb h'
  have eidx : ∀ j c, a + nn * abegin + j * (nn * astep) + c = a + nn * (abegin + j * astep) + c := by
    intro j c
    rw [Nat.mul_add, Nat.mul_left_comm j nn astep]; omega
  have hlim : ∀ c, coefLimbs h.mem (a + nn * abegin) n (nn * astep) c
      = rangeLimbs h.mem nn a abegin astep n c := by
    intro c
    simp only [limbsFrom, rangeLimbs, eidx]
  obtain ⟨s1, s2, s3⟩ := normalize_spec nn k hk hk' h res rsz rsl (a + nn * abegin) n (nn * astep)
    hsl hres ha (fun j c hj hc => by rw [eidx]; exact hb j c hj hc)
  refine ⟨rfl, s1, ?_, s3⟩
  intro i c hi hc
  have := s2 i c hi hc
  simp only [digitCell, hlim] at this
  exact this

/-! ### concrete instances: the hypotheses are satisfiable and the digits are the expected ones -/

/-- k = 3, one coefficient with limbs [5, -4, 7] (T = 5·64 - 4·8 + 7 = 295):
    7 = -1 + 1·8;  -4 + 1 = -3 + 0·8;  5 = -3 + 1·8;  digits [-3, -3, -1], carry out 1,
    and indeed -3·64 - 3·8 - 1 + 1·512 = 295 -/
example : balancedDigits 3 [5, -4, 7] = ([-3, -3, -1], 1) := by decide
example : normChain 3 [5, -4, 7] = ([-3, -3, -1], some 1) := by decide
example : val 3 [5, -4, 7] = 295 ∧ val 3 [-3, -3, -1] + 1 * 2 ^ (3 * 3) = 295 := by decide
/-- one step with carry-in: 7 + 1 = 0 + 1·8 -/
example : normCoef 3 7 (some 1) = (0, 1) := by decide
/-- boundary of the domain: k = 62, x = cin = 2^62: 2^63 = 0 + 2·2^62 -/
example : normCoef 62 4611686018427387904 (some 4611686018427387904) = (0, 2) := by decide
/-- maximal carry chain, all digits at the boundary: k = 2, limbs [1, 1, 2]:
    2 = -2 + 1·4;  1 + 1 = -2 + 1·4;  1 + 1 = -2 + 1·4 -/
example : normChain 2 [1, 1, 2] = ([-2, -2, -2], some 1) := by decide

/-- a heap instance of `normalize_spec` (nn = 2, k = 3, out of place, `rsz = 3`, `asz = 3`,
    `rsl = 2`, `asl = 3`): all hypotheses hold -/
example :
    let h : Heap Int := ⟨#[0, 0, 0, 0, 0, 0, 5, 1, 0, -4, 2, 0, 7, 3, 0], true⟩
    (2 ≤ 2) ∧ InBounds 2 h.mem.size 0 3 2 ∧ SrcOK 2 0 3 2 6 3 3 ∧
    (∀ i c, i < 3 → c < 2 → Bnd62 (h.mem.getD (6 + i * 3 + c) 0)) := by
  intro h
  refine ⟨Nat.le_refl _, ?_, ?_, ?_⟩
  · intro i hi; simp [h]; omega
  · right; intro i j hi hj; omega
  · intro i c hi hc
    have : i = 0 ∨ i = 1 ∨ i = 2 := by omega
    have : c = 0 ∨ c = 1 := by omega
    unfold Bnd62
    rcases ‹i = 0 ∨ i = 1 ∨ i = 2› with rfl | rfl | rfl <;> rcases ‹c = 0 ∨ c = 1› with rfl | rfl <;>
      simp [h]

/-- … and the model computes the digits [-3,-3,-1] / [1,2,3] (limb-major), leaving `a` intact -/
example :
    (VecZnx.normalize 2 3 ⟨#[0, 0, 0, 0, 0, 0, 5, 1, 0, -4, 2, 0, 7, 3, 0], true⟩ 0 3 2 6 3 3).mem
      = #[-3, 1, -3, 2, -1, 3, 5, 1, 0, -4, 2, 0, 7, 3, 0] := by decide +kernel

/-- the specified cells of that instance, as `normalize_spec` states them -/
example : (List.range 3).map (fun i => (List.range 2).map fun c =>
      digitCell 3 #[0, 0, 0, 0, 0, 0, 5, 1, 0, -4, 2, 0, 7, 3, 0] 6 3 3 i c)
    = [[-3, 1], [-3, 2], [-1, 3]] := by decide +kernel

/-- range variant: nn = 1, big vector at offset 2 with 6 limbs, range (begin, end, step) = (1, 6, 2)
    selects limbs 1, 3, 5 = [5, -4, 7]; `rsz = 2` -/
example :
    (VecZnx.bigRangeNormalize 1 3 ⟨#[0, 0, 9, 5, 9, -4, 9, 7], true⟩ 0 2 1 2 1 6 2).mem
      = #[-3, -3, 9, 5, 9, -4, 9, 7] ∧
    rangeLimbs #[0, 0, 9, 5, 9, -4, 9, 7] 1 2 1 2 3 0 = [5, -4, 7] := by decide +kernel

/-- in place, `rsz = 2 < asz = 3`: the dropped limb 7 still propagates its carry -/
example :
    (VecZnx.normalize 1 3 ⟨#[5, -4, 7], true⟩ 0 2 1 0 3 1).mem = #[-3, -3, 7] := by decide +kernel

end Spq.C05
