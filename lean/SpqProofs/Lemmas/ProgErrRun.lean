/-
  C16, binary64 side: from one call to programs.  The numeric budget of the exact run (`Guarded PreF`) and the
  static dataflow condition (`SingleProductDepth` on the tag map `a.raw`) give the guarded run of the binary64
  instance of `DftOpsSound`; the refinement is then `C16.prog_refines_partial` (`C16Err.prog_refines_f64_partial`).
-/
import SpqProofs.Lemmas.ProgErrLang
import SpqProofs.Lemmas.ProgStep
namespace Spq.ProgErr
open Spq Spq.Module Spq.Prog Spq.Closed
variable {K : Type} [Field K] [LinearOrder K] [IsStrictOrderedRing K] {hsz : ℕ} {vars : List Var}

theorem guarded_preD (M : F64Mod K) : ∀ (ops : List OpD) (a : AState),
    Guarded (PreF M vars) (astepD M.N) ops a → SingleProductDepth ops a.raw →
    Guarded (PreD (dftOpsSound_f64 M) vars) (astepD M.N) ops a
  | [], _, _, _ => trivial
  | o :: ops, a, hg, hs =>
    ⟨preD_of_preF M o a hg.1 hs.1, guarded_preD M ops _ hg.2 (by rw [raw_astepD]; exact hs.2)⟩

theorem guarded_preF (M : F64Mod K) : ∀ (ops : List OpD) (a : AState),
    Guarded (PreD (dftOpsSound_f64 M) vars) (astepD M.N) ops a →
    Guarded (PreF M vars) (astepD M.N) ops a ∧ SingleProductDepth ops a.raw
  | [], _, _ => ⟨trivial, trivial⟩
  | o :: ops, a, hg => by
    obtain ⟨h1, h2⟩ := preF_of_preD M o a hg.1
    obtain ⟨g1, g2⟩ := guarded_preF M ops _ hg.2
    rw [raw_astepD] at g2
    exact ⟨⟨h1, g1⟩, h2, g2⟩

theorem raw_run (nn : ℕ) : ∀ (ops : List OpD) (a : AState), (run (astepD nn) ops a).raw = run tagStep ops a.raw
  | [], _ => rfl
  | o :: ops, a => by
    rw [run_cons, run_cons, raw_run nn ops, raw_astepD]

end Spq.ProgErr
