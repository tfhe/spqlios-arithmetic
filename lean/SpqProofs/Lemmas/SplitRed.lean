/-
  The one reduction step the q120 product kernels and the NTT (`modq_red`, `split_precompmul_si256`) share:
  split a word at `2^h` and multiply the halves by constants congruent to `c` and `c·2^h` modulo q.  The value
  is bounded by the halves' ranges and is `≡ c·S`.
-/
import Mathlib.Tactic.Ring
import Mathlib.Data.Nat.ModEq
namespace Spq.Q120

def splitRed (h p p' S : Nat) : Nat := (S % 2 ^ h) * p + (S / 2 ^ h) * p'

theorem splitRed_le (h p p' S B : Nat) (hS : S ≤ B) :
    splitRed h p p' S ≤ (2 ^ h - 1) * p + (B / 2 ^ h) * p' := by
  have := Nat.mod_lt S (Nat.two_pow_pos h)
  exact Nat.add_le_add (Nat.mul_le_mul_right _ (by omega)) (Nat.mul_le_mul_right _ (Nat.div_le_div_right hS))

theorem splitRed_modEq (q h p p' c S : Nat) (hp : p % q = c % q) (hp' : p' % q = (c * 2 ^ h) % q) :
    Nat.ModEq q (splitRed h p p' S) (c * S) := by
  have e : c * S = (S % 2 ^ h) * c + (S / 2 ^ h) * (c * 2 ^ h) := by
    conv_lhs => rw [← Nat.mod_add_div S (2 ^ h)]
    ring
  rw [e]
  exact (Nat.ModEq.mul_left _ hp).add (Nat.ModEq.mul_left _ hp')

end Spq.Q120
