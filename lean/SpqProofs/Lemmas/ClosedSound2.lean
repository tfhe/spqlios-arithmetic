/-
  Closing C16, continued: the vector-matrix product in DFT space (from `Module.vmp_cols`), `vec_znx_idft`,
  the small product.
-/
import SpqProofs.Lemmas.ClosedSound
import SpqProofs.Lemmas.ModuleVmpCongr
import SpqProofs.Lemmas.ProgRaw
set_option linter.unusedSectionVars false
namespace Spq.Closed
open Finset Spq Spq.Module Spq.Prog Reim4

variable {R : Type} [CommRing R]

section
variable (c : Parts R) (z : ℕ → Cx R) (ha : ExactArith c) (hd : ExactDft c z) (hl : FromLocal c)
include ha hd

omit ha hd in
/-- the source array itself is the integer matrix -/
theorem vmp_prepare_sound (x : Array Int) (nrows ncols : ℕ) (f : ℕ → ℕ → ℤ)
    (hag : Agree c.nn x (nrows * ncols) c.nn f) :
    RepMx c (Val.mk c.nn (nrows * ncols) f) nrows ncols (vmpPrepare c x nrows ncols) := by
  refine ⟨x, ?_, rfl⟩
  intro i j hi hj
  have hidx : i * ncols + j < nrows * ncols := by
    have := mul_step i nrows ncols hi
    omega
  have e : matEntry x ncols c.nn i j = limbOf x (i * ncols + j) c.nn c.nn := rfl
  rw [e]
  refine ⟨size_limbOf _ _ _ _ (hag.1 _ hidx), ?_⟩
  intro t ht
  rw [limbOf_getD _ _ _ _ _ ht, hag.2 _ t hidx ht, coef_mk _ _ _ _ _ hidx ht]

include hl

theorem vmp_sound (x : Array Int) (asz asl rsz : ℕ) (f : ℕ → ℕ → ℤ) (M : Val) (pm : Array R) (nrows ncols : ℕ)
    (hag : Agree c.nn x asz asl f) (hM : RepMx c M nrows ncols pm) :
    RepVx c (Val.mk c.nn rsz (Prog.vmpVal c.nn asz (zext asz f) M nrows ncols)) rsz
      (vmpApplyDft c rsz x asz asl pm nrows ncols) := by
  obtain ⟨mat, hmat, rfl⟩ := hM
  have hra : min nrows asz ≤ asz := Nat.min_le_right _ _
  have hrn : min nrows asz ≤ nrows := Nat.min_le_left _ _
  obtain ⟨s1, s2⟩ := vmp_cols c z ha hd mat nrows ncols (fun i j hi hj => (hmat i j hi hj).1) x asz asl
    (fun i hi => size_limbOf _ _ _ _ (hag.1 i (by omega))) rsz
  refine ⟨s1, ?_⟩
  intro j hj
  rw [s2 j hj]
  by_cases h : j < min ncols rsz
  · rw [if_pos h]
    have hjc : j < ncols := by omega
    apply fft_congr c hl
    intro t ht
    rw [getD_isum _ _ _ _ ht, getD_polyArr _ _ _ ht, coef_mk _ _ _ _ _ hj ht]
    unfold Prog.vmpVal
    rw [if_pos hjc]
    apply progSumTo_congr
    intro i hi
    apply getD_nmul _ _ _ _ _ _ _ t ht
    · intro u hu
      rw [limbOf_getD _ _ _ _ _ hu, hag.2 i u (by omega) hu, zext, if_pos (by omega)]
    · intro u hu
      exact (hmat i j (by omega) hjc).2 u hu
  · rw [if_neg h]
    have hz : c.ar.zero = 0 := by rw [ha.har]; rfl
    rw [← hz]
    apply zero_limb c z ha hd hl
    intro t ht
    rw [coef_mk _ _ _ _ _ hj ht]
    unfold Prog.vmpVal
    rw [if_neg (by omega)]

/-- `vmp_apply_dft_to_dft` of ANY represented vector (raw transform or product: exact arithmetic has no rounding to
    propagate): the object equals `vmp_apply_dft` of the canonical integer vector -/
theorem vmp_dd_sound (P : Val) (asz rsz : ℕ) (d : Array R) (M : Val) (pm : Array R) (nrows ncols : ℕ)
    (hP : RepVx c P asz d) (hM : RepMx c M nrows ncols pm) :
    RepVx c (Val.mk c.nn rsz (Prog.vmpVal c.nn asz (zext asz fun i t => P.coef i t) M nrows ncols)) rsz
      (vmpApplyDftToDft c rsz d asz pm nrows ncols) := by
  have hag : Agree c.nn (flatOf c.nn asz fun i t => P.coef i t) asz c.nn (fun i t => P.coef i t) :=
    agree_flatOf c.nn asz _
  have hV := dft_sound c z ha hd hl _ asz c.nn asz _ hag
  have hsz : ∀ i, i < asz →
      (c.fft (c.fromZnx (limbOf (flatOf c.nn asz fun i t => P.coef i t) i c.nn c.nn))).size = c.nn :=
    fun i hi => hd.fft_size _ (hd.fromZnx_size _ (size_limbOf _ _ _ _ (hag.1 i hi)))
  have e1 := vmpApplyDft_eq c ha.hnn ha.hblk rsz (flatOf c.nn asz fun i t => P.coef i t) asz c.nn pm nrows ncols hsz
  have e2 : vmpApplyDftToDft c rsz d asz pm nrows ncols =
      vmpApplyDftToDft c rsz (vecDft c asz (flatOf c.nn asz fun i t => P.coef i t) asz c.nn) asz pm nrows ncols := by
    have hra : min nrows asz ≤ asz := Nat.min_le_right _ _
    apply vmpApply_congr c ha.hnn ha.hblk
    · intro x hx
      have hn : 0 < c.nn := by
        rcases Nat.eq_zero_or_pos c.nn with q | q
        · rw [q] at hx; omega
        · exact q
      have hi : x / c.nn < min nrows asz := (Nat.div_lt_iff_lt_mul hn).2 hx
      have hia : x / c.nn < asz := by omega
      have e : x = x / c.nn * c.nn + x % c.nn := by rw [Nat.mul_comm]; exact (Nat.div_add_mod x c.nn).symm
      have hk : x % c.nn < c.nn := Nat.mod_lt _ hn
      have hl1 : dlimb d (x / c.nn) c.nn =
          dlimb (vecDft c asz (flatOf c.nn asz fun i t => P.coef i t) asz c.nn) (x / c.nn) c.nn := by
        rw [hP.2 _ hia, hV.2 _ hia]
        apply fft_congr c hl
        intro t ht
        rw [getD_polyArr _ _ _ ht, getD_polyArr _ _ _ ht, coef_mk _ _ _ _ _ hia ht, zext, if_pos hia]
      have g := congrArg (fun v => v.getD (x % c.nn) c.ar.zero) hl1
      simp only [dlimb, getD_extract] at g
      rw [if_pos (by omega), if_pos (by omega), ← e] at g
      exact g
    · rw [hP.1]; exact Nat.mul_le_mul_right _ hra
    · rw [hV.1]; exact Nat.mul_le_mul_right _ hra
  rw [e2, ← e1]
  exact vmp_sound c z ha hd hl _ asz c.nn rsz _ M pm nrows ncols hag hM

omit ha hl in
theorem idft_sound (P : Val) (sz rsz : ℕ) (d : Array R) (h : RepVx c P sz d) (i t : ℕ) (hi : i < rsz) (ht : t < c.nn) :
    (vecIdft c rsz d sz).getD (i * c.nn + t) 0 = zext sz (fun i t => P.coef i t) i t := by
  obtain ⟨_, v⟩ := vecIdft_spec c rsz d sz
    (fun i => if i < sz then polyArr c.nn (P.coef i) else Array.replicate c.nn 0)
    (by
      intro i _
      by_cases hs : i < sz
      · rw [if_pos hs, if_pos hs, h.2 i hs, roundtrip c z hd _ (size_polyArr _ _)]
      · rw [if_neg hs, if_neg hs])
    (by intro i _; split <;> simp)
  have e := congrArg (fun a => a.getD t 0) (v i hi)
  simp only [dlimb, getD_extract] at e
  rw [if_pos (by omega)] at e
  rw [e, zext]
  by_cases hs : i < sz
  · rw [if_pos hs, if_pos hs, getD_polyArr _ _ _ ht]
  · rw [if_neg hs, if_neg hs]; simp [Array.getD_eq_getD_getElem?, ht]

theorem small_product_sound (a b : Array Int) (fa fb : ℕ → ℤ) (h1 : ∀ t, t < c.nn → a.getD t 0 = fa t)
    (h2 : ∀ t, t < c.nn → b.getD t 0 = fb t) (t : ℕ) (ht : t < c.nn) :
    (smallProduct c a b).getD t 0 = polyMul c.nn fa fb t := by
  have e : smallProduct c a b = smallProduct c (polyArr c.nn fa) (polyArr c.nn fb) := by
    unfold smallProduct
    rw [hl a (polyArr c.nn fa) (fun u hu => by rw [h1 u hu, getD_polyArr _ _ _ hu]),
      hl b (polyArr c.nn fb) (fun u hu => by rw [h2 u hu, getD_polyArr _ _ _ hu])]
  rw [e, smallProduct_exact c z ha hd _ _ (size_polyArr _ _) (size_polyArr _ _)]
  exact getD_nmul _ _ _ _ _ (fun u hu => getD_polyArr _ _ _ hu) (fun u hu => getD_polyArr _ _ _ hu) t ht

def dftOpsSound_of_exact : DftOpsSound c c.nn where
  nn_eq := rfl
  RepV := RepVx c
  RepS := RepSx c
  RepM := RepMx c
  dft_budget _ _ _ := True
  svp_prepare_budget _ := True
  svp_budget _ _ _ _ := True
  vmp_prepare_budget _ _ _ := True
  vmp_budget _ _ _ _ _ _ := True
  vmp_dd_budget _ _ _ _ _ _ _ := True
  idft_budget _ _ := True
  small_product_budget _ _ := True
  dft_exact := fun x asz asl rsz f _ hag _ => dft_sound c z ha hd hl x asz asl rsz f hag
  svp_prepare_exact := fun x f hx _ => svp_prepare_sound c hl x f hx
  svp_exact := fun x asz asl rsz f sp s _ hag hs _ => svp_sound c z ha hd hl x asz asl rsz f sp s hag hs
  vmp_prepare_exact := fun x nrows ncols f hag _ => vmp_prepare_sound c x nrows ncols f hag
  vmp_exact := fun x asz asl rsz f M pm nrows ncols _ hag hM _ =>
    vmp_sound c z ha hd hl x asz asl rsz f M pm nrows ncols hag hM
  vmp_dd_exact := fun P asz rsz d M pm nrows ncols _ hP _ hM _ =>
    vmp_dd_sound c z ha hd hl P asz rsz d M pm nrows ncols hP hM
  dft_idft_exact := fun P sz rsz d h _ i t hi ht => idft_sound c z hd P sz rsz d h i t hi ht
  small_product_exact := fun a b fa fb h1 h2 _ t ht => small_product_sound c z ha hd hl a b fa fb h1 h2 t ht

end
end Spq.Closed
