/-
  Layout lemmas for the module-level NTT120 model (`Spq/ModuleNtt.lean`): lanes of a limb, limbs of a vector,
  cell-by-cell description of `vecDft`, `vecIdft`, `vecIdftTmpA`.
-/
import SpqProofs.Lemmas.Q120ConvGen
import SpqProofs.Lemmas.NttSched
import Spq.ModuleNtt

namespace Spq.ModuleNtt
open Spq Spq.Q120 Spq.Q120Ntt

theorem two_pow_pos' (k : Nat) : 0 < 2 ^ k := Nat.pos_of_ne_zero (by exact Nat.ne_of_gt (Nat.two_pow_pos k))

@[simp] theorem size_lane (v : Array Nat) (j : Nat) : (lane v j).size = v.size / 4 := by simp [lane]

theorem rd_lane (v : Array Nat) (j t : Nat) (ht : t < v.size / 4) : rd (lane v j) t = v.getD (4 * t + j) 0 := by
  unfold rd lane; rw [getD_ofFn _ _ t ht]

@[simp] theorem size_interleave4 (n : Nat) (l0 l1 l2 l3 : Array Nat) : (interleave4 n l0 l1 l2 l3).size = 4 * n := by
  simp [interleave4]

theorem getD_interleave4 (n : Nat) (l0 l1 l2 l3 : Array Nat) (t j : Nat) (ht : t < n) (hj : j < 4) :
    (interleave4 n l0 l1 l2 l3).getD (4 * t + j) 0 = (pick4 l0 l1 l2 l3 j).getD t 0 := by
  unfold interleave4
  rw [getD_ofFn _ _ (4 * t + j) (by omega)]
  have e1 : (4 * t + j) % 4 = j := by omega
  have e2 : (4 * t + j) / 4 = t := by omega
  simp only [e1, e2]

theorem pick4_fun (f : Nat → Array Nat) (j : Nat) (hj : j < 4) : pick4 (f 0) (f 1) (f 2) (f 3) j = f j := by
  have : j = 0 ∨ j = 1 ∨ j = 2 ∨ j = 3 := by omega
  rcases this with rfl | rfl | rfl | rfl <;> simp [pick4]

@[simp] theorem size_nttCells (M : ModPre) (x : Array Nat) : (nttCells M x).size = 4 * 2 ^ M.k := by
  simp [nttCells, ModPre.nn]
@[simp] theorem size_inttCells (M : ModPre) (x : Array Nat) : (inttCells M x).size = 4 * 2 ^ M.k := by
  simp [inttCells, ModPre.nn]

theorem getD_nttCells (M : ModPre) (x : Array Nat) (t j : Nat) (ht : t < 2 ^ M.k) (hj : j < 4) :
    (nttCells M x).getD (4 * t + j) 0
      = rd (nttLane M.k (M.fwd j).levels (M.fwd j).R (M.fwd j).tbl (lane x j)) t := by
  unfold nttCells
  simp only []
  rw [getD_interleave4 M.nn _ _ _ _ t j ht hj,
    pick4_fun (fun j => nttLane M.k (M.fwd j).levels (M.fwd j).R (M.fwd j).tbl (lane x j)) j hj]
  rfl

theorem getD_inttCells (M : ModPre) (x : Array Nat) (t j : Nat) (ht : t < 2 ^ M.k) (hj : j < 4) :
    (inttCells M x).getD (4 * t + j) 0
      = rd (inttLane M.k (M.inv j).levels (M.inv j).R (M.inv j).tbl (lane x j)) t := by
  unfold inttCells
  simp only []
  rw [getD_interleave4 M.nn _ _ _ _ t j ht hj,
    pick4_fun (fun j => inttLane M.k (M.inv j).levels (M.inv j).R (M.inv j).tbl (lane x j)) j hj]
  rfl

theorem size_nttLane (k : Nat) (levels : Array Level) (R : Reduc) (tbl x : Array Nat) (hx : x.size = 2 ^ k) :
    (nttLane k levels R tbl x).size = 2 ^ k := by
  have hplain : nttLane k levels R tbl x = nttPlain k levels R tbl x :=
    nttLaneS_eq_plain _ k (Nat.min_le_left _ _) levels R _ x hx
  rw [hplain]
  unfold nttPlain
  split
  · exact hx
  · rw [size_foldl_of_step (fun y s => fwdPass R _ s y) (by simp [fwdPass]), size_pass, hx]

theorem size_inttLane (k : Nat) (levels : Array Level) (R : Reduc) (tbl x : Array Nat) (hx : x.size = 2 ^ k) :
    (inttLane k levels R tbl x).size = 2 ^ k := by
  have hplain : inttLane k levels R tbl x = inttPlain k levels R tbl x :=
    inttLaneS_eq_plain _ k (Nat.min_le_left _ _) levels R _ x hx
  rw [hplain]
  unfold inttPlain
  split
  · exact hx
  · rw [size_pass, size_foldl_of_step (fun y s => invPass R _ s y) (by simp [invPass]), hx]

theorem lane_nttCells (M : ModPre) (x : Array Nat) (hx : x.size = 4 * 2 ^ M.k) (j : Nat) (hj : j < 4) :
    lane (nttCells M x) j = nttLane M.k (M.fwd j).levels (M.fwd j).R (M.fwd j).tbl (lane x j) := by
  have hl : (lane x j).size = 2 ^ M.k := by rw [size_lane, hx]; omega
  apply ext_getD 0
  · rw [size_lane, size_nttCells, size_nttLane _ _ _ _ _ hl]; omega
  · intro t ht
    rw [size_lane, size_nttCells] at ht
    have ht' : t < 2 ^ M.k := by omega
    have := rd_lane (nttCells M x) j t (by rw [size_nttCells]; omega)
    unfold rd at this
    rw [this, getD_nttCells M x t j ht' hj]; rfl

@[simp] theorem size_cellsAt (buf : Array Nat) (off len : Nat) : (cellsAt buf off len).size = len := by simp [cellsAt]
theorem getD_cellsAt (buf : Array Nat) (off len t : Nat) (ht : t < len) :
    (cellsAt buf off len).getD t 0 = buf.getD (off + t) 0 := by
  unfold cellsAt; rw [getD_ofFn _ _ t ht]

theorem cellsAt_congr (b b' : Array Nat) (off len : Nat) (h : ∀ t < len, b.getD (off + t) 0 = b'.getD (off + t) 0) :
    cellsAt b off len = cellsAt b' off len := by
  apply ext_getD 0
  · simp
  · intro t ht
    rw [size_cellsAt] at ht
    rw [getD_cellsAt _ _ _ _ ht, getD_cellsAt _ _ _ _ ht, h t ht]

@[simp] theorem size_limbI64 (a : Array Int) (off len : Nat) : (limbI64 a off len).size = len := by simp [limbI64]
theorem getD_limbI64 (a : Array Int) (off len t : Nat) (ht : t < len) :
    (limbI64 a off len).getD t 0 = a.getD (off + t) 0 := by
  unfold limbI64; rw [getD_ofFn _ _ t ht]

theorem isI64_limbI64 (a : Array Int) (ha : ∀ t, IsI64 (a.getD t 0)) (off len t : Nat) :
    IsI64 ((limbI64 a off len).getD t 0) := by
  by_cases h : t < len
  · rw [getD_limbI64 _ _ _ _ h]; exact ha _
  · rw [getD_of_size_le _ _ _ (by rw [size_limbI64]; omega)]; unfold IsI64; omega

@[simp] theorem size_dftLimb (M : ModPre) (x : Array Int) : (dftLimb M x).size = 4 * 2 ^ M.k := by simp [dftLimb]
@[simp] theorem size_idftLimb (M : ModPre) (c : Array Nat) : (idftLimb M c).size = 2 ^ M.k := by
  simp [idftLimb, bToZnx128Vec, ModPre.nn]

@[simp] theorem size_vecDft (M : ModPre) (r : Nat) (a : Array Int) (s sl : Nat) :
    (vecDft M r a s sl).size = 4 * 2 ^ M.k * r := by simp [vecDft, ModPre.nn]

theorem getD_vecDft (M : ModPre) (r : Nat) (a : Array Int) (s sl : Nat) (i c : Nat) (hi : i < r) (hc : c < 4 * 2 ^ M.k) :
    (vecDft M r a s sl).getD (4 * 2 ^ M.k * i + c) 0
      = if i < min r s then (dftLimb M (limbI64 a (i * sl) (2 ^ M.k))).getD c 0 else 0 := by
  unfold vecDft
  simp only [ModPre.nn]
  rw [getD_ofFn _ _ _ (mul_add_lt hi hc)]
  simp only [mul_add_div_of_lt hc, mul_add_mod_of_lt hc]
  split
  · rename_i h; rw [getD_ofFn _ _ i h]
  · rfl

@[simp] theorem size_vecIdft (M : ModPre) (r : Nat) (dft : Array Nat) (s : Nat) :
    (vecIdft M r dft s).size = 2 ^ M.k * r := by simp [vecIdft, ModPre.nn]

theorem getD_vecIdft (M : ModPre) (r : Nat) (dft : Array Nat) (s : Nat) (i t : Nat) (hi : i < r) (ht : t < 2 ^ M.k) :
    (vecIdft M r dft s).getD (2 ^ M.k * i + t) 0
      = if i < min r s then (idftLimb M (cellsAt dft (4 * 2 ^ M.k * i) (4 * 2 ^ M.k))).getD t 0 else 0 := by
  unfold vecIdft
  simp only [ModPre.nn]
  rw [getD_ofFn _ _ _ (mul_add_lt hi ht)]
  simp only [mul_add_div_of_lt ht, mul_add_mod_of_lt ht]
  split
  · rename_i h; rw [getD_ofFn _ _ i h]
  · rfl

theorem vecIdftTmpA_fst (M : ModPre) (r : Nat) (dft : Array Nat) (s : Nat) :
    (vecIdftTmpA M r dft s).1 = vecIdft M r dft s := by
  have hbl : (Array.ofFn (n := min r s) fun i => bToZnx128Vec M.P M.nn
        ((Array.ofFn (n := min r s) fun i => inttCells M (cellsAt dft (4 * M.nn * i.val) (4 * M.nn))).getD i.val #[]))
      = Array.ofFn (n := min r s) fun i => idftLimb M (cellsAt dft (4 * M.nn * i.val) (4 * M.nn)) := by
    refine congrArg (fun f => Array.ofFn (n := min r s) f) (funext fun i => ?_)
    rw [getD_ofFn _ _ i.val i.isLt]
    rfl
  unfold vecIdftTmpA vecIdft
  simp only []
  rw [hbl]

theorem size_vecIdftTmpA_snd (M : ModPre) (r : Nat) (dft : Array Nat) (s : Nat) :
    (vecIdftTmpA M r dft s).2.size = dft.size := by simp [vecIdftTmpA]

/-- `_tmp_a` leaves in limb `i < smin` of its source the raw lanes of the inverse transform, and does not touch
    the other limbs -/
theorem getD_vecIdftTmpA_snd (M : ModPre) (r : Nat) (dft : Array Nat) (s : Nat) (i c : Nat) (hc : c < 4 * 2 ^ M.k)
    (hsz : 4 * 2 ^ M.k * i + c < dft.size) :
    (vecIdftTmpA M r dft s).2.getD (4 * 2 ^ M.k * i + c) 0
      = if i < min r s then (inttCells M (cellsAt dft (4 * 2 ^ M.k * i) (4 * 2 ^ M.k))).getD c 0
        else dft.getD (4 * 2 ^ M.k * i + c) 0 := by
  unfold vecIdftTmpA
  simp only [ModPre.nn]
  rw [getD_ofFn _ _ _ hsz]
  simp only [mul_add_div_of_lt hc, mul_add_mod_of_lt hc]
  split
  · rename_i h; rw [getD_ofFn _ _ i h]
  · rfl

end Spq.ModuleNtt
