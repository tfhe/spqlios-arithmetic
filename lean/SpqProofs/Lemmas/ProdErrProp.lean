/-
  C01 rounding budget: the domain side condition of the final conversion follows from the property's own
  precondition `min(‖a‖₁·‖b‖∞, ‖a‖∞·‖b‖₁) < 2^52` (for the kernels the module installs: `ref`, `bnd63`), `k ≤ 16`:
  `|c_i| < 2^52` and `E' ≤ 12·17·2^-53·2·N·2^52 < 2^25`.
-/
import SpqProofs.Lemmas.ProdErrBudget
import SpqProofs.Lemmas.ProdErrBound
namespace Spq.ProdErr
open Finset Spq Spq.Module Spq.F64 Spq.Conv
variable {K : Type} [Field K] [LinearOrder K] [IsStrictOrderedRing K]

theorem Bv_63 (v : ToZnx64Variant) (hv : v ≠ .bnd50) : Bv v = 9223372036854775808 := by
  cases v
  · rfl
  · exact absurd rfl hv
  · rfl

theorem hdom_of_budget52 (c : Cfg) (k : ℕ) (hk : k ≤ 16) (hvar : c.toVariant ≠ .bnd50) (a b : Array Int)
    (na nb ba bb : K) (hna0 : 0 ≤ na) (hnb0 : 0 ≤ nb)
    (hnla : na ≤ n1 K a (2 * 2 ^ k)) (hnlb : nb ≤ n1 K b (2 * 2 ^ k))
    (ha : ∀ t, t < 2 * 2 ^ k → |((a.getD t 0 : Int) : K)| ≤ ba)
    (hb : ∀ t, t < 2 * 2 ^ k → |((b.getD t 0 : Int) : K)| ≤ bb)
    (hbud : min (n1 K a (2 * 2 ^ k) * bb) (ba * n1 K b (2 * 2 ^ k)) < 4503599627370496) :
    ∀ i, i < 2 * 2 ^ k →
      |(((nmul (2 * 2 ^ k) a b).getD i 0 : Int) : K)| +
        ((12 * (k + 1 : ℚ) * u64 : ℚ) : K) * (n1 K a (2 * 2 ^ k) * nb + na * n1 K b (2 * 2 ^ k))
        < ((Bv c.toVariant : ℚ) : K) := by
  intro i hi
  rw [Bv_63 _ hvar]
  obtain ⟨la, hla⟩ : ∃ la, la = n1 K a (2 * 2 ^ k) := ⟨_, rfl⟩
  obtain ⟨lb, hlb⟩ : ∃ lb, lb = n1 K b (2 * 2 ^ k) := ⟨_, rfl⟩
  have hla0 : 0 ≤ la := by rw [hla]; exact n1_nonneg a _
  have hlb0 : 0 ≤ lb := by rw [hlb]; exact n1_nonneg b _
  have hc := nmul_coef_le (K := K) (2 * 2 ^ k) i hi a b ba bb ha hb
  have h1a := n1_le (K := K) (2 * 2 ^ k) a ba ha
  have h1b := n1_le (K := K) (2 * 2 ^ k) b bb hb
  rw [show ∑ t ∈ range (2 * 2 ^ k), |((a.getD t 0 : Int) : K)| = la from hla.symm] at hc h1a
  rw [show ∑ t ∈ range (2 * 2 ^ k), |((b.getD t 0 : Int) : K)| = lb from hlb.symm] at hc h1b
  rw [← hla] at hbud hnla ⊢
  rw [← hlb] at hbud hnlb ⊢
  obtain ⟨mn, hmn⟩ : ∃ mn, mn = min (la * bb) (ba * lb) := ⟨_, rfl⟩
  rw [← hmn] at hbud hc
  have hN : ((2 * 2 ^ k : ℕ) : K) ≤ 131072 := by
    have : 2 * 2 ^ k ≤ 131072 := by
      calc 2 * 2 ^ k ≤ 2 * 2 ^ 16 := Nat.mul_le_mul_left _ (Nat.pow_le_pow_right (by norm_num) hk)
        _ = 131072 := by norm_num
    exact_mod_cast this
  have hN0 : (0 : K) ≤ ((2 * 2 ^ k : ℕ) : K) := by positivity
  have hprod : la * lb ≤ ((2 * 2 ^ k : ℕ) : K) * mn := by
    rw [hmn, mul_min_of_nonneg _ _ hN0]
    apply le_min
    · calc la * lb ≤ la * (((2 * 2 ^ k : ℕ) : K) * bb) := mul_le_mul_of_nonneg_left h1b hla0
        _ = _ := by ring
    · calc la * lb ≤ (((2 * 2 ^ k : ℕ) : K) * ba) * lb := mul_le_mul_of_nonneg_right h1a hlb0
        _ = _ := by ring
  have hmn0 : 0 ≤ mn := le_trans (abs_nonneg _) hc
  have hS : la * nb + na * lb ≤ 2 * (131072 * 4503599627370496) := by
    have e1 : la * nb ≤ la * lb := mul_le_mul_of_nonneg_left hnlb hla0
    have e2 : na * lb ≤ la * lb := mul_le_mul_of_nonneg_right hnla hlb0
    have e3 : ((2 * 2 ^ k : ℕ) : K) * mn ≤ 131072 * 4503599627370496 :=
      mul_le_mul hN (le_of_lt hbud) hmn0 (by norm_num)
    linarith
  have hcoef : ((12 * (k + 1 : ℚ) * u64 : ℚ) : K) ≤ 204 / 9007199254740992 := by
    have : (12 * (k + 1 : ℚ) * u64 : ℚ) ≤ 204 / 9007199254740992 := by
      have hkq : (k : ℚ) ≤ 16 := by exact_mod_cast hk
      unfold u64
      rw [show (2 : ℚ) ^ (-53 : ℤ) = 1 / 9007199254740992 by norm_num]
      linarith
    have := (Rat.cast_le (K := K)).2 this
    refine le_trans this (le_of_eq ?_)
    push_cast; rfl
  have hcoef0 : (0 : K) ≤ ((12 * (k + 1 : ℚ) * u64 : ℚ) : K) := by
    have : (0 : ℚ) ≤ 12 * (k + 1 : ℚ) * u64 := by unfold u64; positivity
    exact_mod_cast this
  have hS0 : 0 ≤ la * nb + na * lb := by positivity
  have hE : ((12 * (k + 1 : ℚ) * u64 : ℚ) : K) * (la * nb + na * lb) ≤
      204 / 9007199254740992 * (2 * (131072 * 4503599627370496)) := mul_le_mul hcoef hS hS0 (by norm_num)
  have h63 : ((9223372036854775808 : ℚ) : K) = 9223372036854775808 := by push_cast; rfl
  rw [h63]
  have : (204 : K) / 9007199254740992 * (2 * (131072 * 4503599627370496)) = 26738688 := by norm_num
  rw [this] at hE
  linarith

end Spq.ProdErr
