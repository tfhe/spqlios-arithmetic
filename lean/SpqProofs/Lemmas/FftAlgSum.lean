/-
  `Fft.Alg.sumTo` as a `Finset` sum, for the places where the transform meets a specification written with `∑`
  (`FftAlg` itself stays free of `BigOperators`).
-/
import SpqProofs.Lemmas.FftAlg
import Mathlib.Algebra.BigOperators.Intervals
namespace Spq.Fft.Alg
open Finset

theorem sumTo_eq_sum {R : Type} [CommRing R] (n : ℕ) (f : ℕ → R) : sumTo n f = ∑ i ∈ range n, f i := by
  induction n with
  | zero => simp [sumTo]
  | succ n ih => rw [sumTo, sum_range_succ, ih]

end Spq.Fft.Alg
