/-
  C16, binary64 side, products of products: the CONSUMER side of the metric invariant.
  `idft_limb_of_metric`: a DFT-space limb `d` of finite cells with `‖d − DFT(x)‖₂² ≤ δ²·m`, the flags of ITS inverse
  transform, `S2 ≥ ‖x‖₂`, and `ε·(S2 + δ) + δ < 1/2` (`ε = (1+8u)^k − 1`)  ⇒  `toZnx (ifft d) = x` exactly
  (`ProdErr.near_out`).  `rt_consumer`, `prod_consumer`: the budgets `RtBudget` and `ProdBudget` (that of
  `C01Err.small_product_exact_f64_partial`) put the raw transform and the single product inside it.
-/
import SpqProofs.Lemmas.ProgErr2Col
namespace Spq.ProgErr2
open Finset Spq Spq.Module Spq.Fft Spq.Fft.Alg Spq.FftErr Spq.F64 Spq.Reim4 Spq.ProdErr Spq.VmpErr Spq.ProgErr Spq.Closed
  Spq.Conv Spq.C06Err
variable {K : Type} [Field K] [LinearOrder K] [IsStrictOrderedRing K]

/-- the budget of the inverse transform + the incoming DFT-space error, per coefficient: `ε·(S2 + δ) + δ` -/
def invBudget (M : F64Mod K) (S2 δ : K) : K := eps K M.k * (S2 + δ) + δ

theorem idft_limb_of_metric (M : F64Mod K) (d : Array ℕ) (x : Array Int) (δ : K) (hsz : d.size = M.N)
    (hrep : LimbMetric M d x δ) (hok : InvOk M.c M.k M.cNi M.sNi d) (S2 : K) (hS0 : 0 ≤ S2)
    (hS : n2sq K x M.N ≤ S2 ^ 2)
    (hdom : ∀ t, t < M.N → |((x.getD t 0 : Int) : K)| + invBudget M S2 δ < ((Bv M.c.toVariant : ℚ) : K))
    (hE : invBudget M S2 δ < 1 / 2) :
    M.parts.toZnx (M.parts.ifft d) = firstN M.N x := by
  apply array_eq_of_cells M.N
  · exact toZnx_size M.c M.k M.ok.cfg.nn M.ok.cfg.toVar _
  · exact size_firstN _ _
  · intro i hi
    rw [parts_ifft M.c M.k M.cN M.sN M.cNi M.sNi M.ok.cfg]
    obtain ⟨r, hr1, hr2⟩ := (near_out M.ctx (k961 M) d hsz hok x δ S2 (invBudget M S2 δ) hrep ⟨hS0, hS⟩ rfl).2 i hi (hdom i hi)
    refine ⟨r, hr1, ?_⟩
    rw [getD_firstN _ _ _ hi]
    exact int_eq_of_lt_one (K := K) r _ (by linarith)

/-- the domain condition of the final conversion follows from `S2 + 1/2 ≤ 2^50` (every kernel accepts `|x| < 2^50`) -/
theorem dom_of_box (M : F64Mod K) (x : Array Int) (δ S2 : K) (hS0 : 0 ≤ S2) (hS : n2sq K x M.N ≤ S2 ^ 2)
    (hbox : S2 + 1 / 2 ≤ 1125899906842624) (hE : invBudget M S2 δ < 1 / 2) :
    ∀ t, t < M.N → |((x.getD t 0 : Int) : K)| + invBudget M S2 δ < ((Bv M.c.toVariant : ℚ) : K) := by
  intro t ht
  have hBv := Bv_geK (K := K) M.c.toVariant
  have h2 := Size.coord (C := M.ctx) ⟨hS0, hS⟩ t ht
  linarith

/-- dft → idft: the consumer budget of a raw transform is the round-trip budget of `C16Err.roundtrip_exact_f64_partial` -/
theorem invBudget_raw_le16 (M : F64Mod K) (na : K) (hna : 0 ≤ na) :
    invBudget M na (eps K M.k * na) ≤ ((17 * (M.k + 1 : ℚ) * u64 : ℚ) : K) * na := by
  have e : invBudget M na (eps K M.k * na) = rtRel K M.k * na := by unfold invBudget rtRel; ring
  rw [e]
  exact mul_le_mul_of_nonneg_right (rtRel_le16 M.k M.hk) hna

theorem rt_consumer (M : F64Mod K) (a : Array Int) (na : K) (hna0 : 0 ≤ na) (hna : n2sq K a M.N ≤ na ^ 2)
    (hE : ((17 * (M.k + 1 : ℚ) * u64 : ℚ) : K) * na < 1 / 2) :
    (∀ t, t < M.N → |((a.getD t 0 : Int) : K)| + invBudget M na (eps K M.k * na) < ((Bv M.c.toVariant : ℚ) : K)) ∧
      invBudget M na (eps K M.k * na) < 1 / 2 := by
  have hE' := lt_of_le_of_lt (invBudget_raw_le16 M na hna0) hE
  have hsm := small_of_budget M.k 17 (by norm_num) na hna0 hE
  exact ⟨dom_of_box M a _ na hna0 hna (by linarith) hE', hE'⟩

/-- svp → idft: the consumer budget of a single product is the budget `E'` of `C01Err.small_product_exact_f64_partial` -/
theorem invBudget_svp_le16 (M : F64Mod K) (a b : Array Int) (na nb : K) (hna : 0 ≤ na) (hnb : 0 ≤ nb) :
    invBudget M ((n1 K a M.N * nb + na * n1 K b M.N) / 2) (svpDelta M a b na nb) ≤
      ((12 * (M.k + 1 : ℚ) * u64 : ℚ) : K) * (n1 K a M.N * nb + na * n1 K b M.N) := by
  have e : invBudget M ((n1 K a M.N * nb + na * n1 K b M.N) / 2) (svpDelta M a b na nb) = budget K M.k a b na nb := by
    unfold invBudget svpDelta budget eB; ring
  rw [e]
  exact budget_le16 M.k M.hk a b na nb hna hnb

theorem prod_consumer (M : F64Mod K) (a b : Array Int) (na nb : K) (hna0 : 0 ≤ na) (hnb0 : 0 ≤ nb)
    (hna : n2sq K a M.N ≤ na ^ 2) (hnb : n2sq K b M.N ≤ nb ^ 2)
    (hE : ((12 * (M.k + 1 : ℚ) * u64 : ℚ) : K) * (n1 K a M.N * nb + na * n1 K b M.N) < 1 / 2) :
    ∃ S2 : K, 0 ≤ S2 ∧ n2sq K (nmul M.N a b) M.N ≤ S2 ^ 2 ∧
      (∀ t, t < M.N → |(((nmul M.N a b).getD t 0 : Int) : K)| + invBudget M S2 (svpDelta M a b na nb) <
        ((Bv M.c.toVariant : ℚ) : K)) ∧
      invBudget M S2 (svpDelta M a b na nb) < 1 / 2 := by
  obtain ⟨S, hS⟩ : ∃ S, S = n1 K a M.N * nb + na * n1 K b M.N := ⟨_, rfl⟩
  have hS0 : 0 ≤ S := by
    rw [hS]
    have h1 : (0 : K) ≤ n1 K a M.N := n1_nonneg _ _
    have h2 : (0 : K) ≤ n1 K b M.N := n1_nonneg _ _
    positivity
  have hn2 : n2sq K (nmul M.N a b) M.N ≤ (S / 2) ^ 2 := by
    rw [hS]; exact (Size.nmul (C := M.ctx) ⟨hna0, hna⟩ ⟨hnb0, hnb⟩).2
  have hE' : invBudget M (S / 2) (svpDelta M a b na nb) < 1 / 2 := by
    rw [hS]; exact lt_of_le_of_lt (invBudget_svp_le16 M a b na nb hna0 hnb0) hE
  have hsm := small_of_budget M.k 12 (le_refl _) S hS0 (by rw [hS]; exact hE)
  exact ⟨S / 2, by positivity, hn2, dom_of_box M _ _ (S / 2) (by positivity) hn2 (by linarith) hE', hE'⟩

end Spq.ProgErr2
