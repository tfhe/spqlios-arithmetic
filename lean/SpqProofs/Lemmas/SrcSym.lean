/-
  A symbolic executor for `Spq.CIR` code over uint64 slots, with its soundness proof.  `sexec` runs a statement on
  a description `K` of the environment (slot ↦ symbolic value `SV` over named inputs) and returns the description
  afterwards, the side conditions met on the way, the fuel needed (`for` loops whose test is closed at every round
  are written out) and the stores of uint64 cells in the order they happen; `sexec_sound` says the interpreter does
  the same on every environment the description `Holds` of, in every memory that differs from the one the loads
  were justified in only in the buffers stored to (`Frame`: no load of the run may be from such a buffer).  A proof
  about a generated function takes the parts of its body by projection from the generated term (`seqTake`,
  `firstFor`, `afterFor`, …), has each run checked by evaluation (`runs`: it succeeds without a store, its side
  conditions are among the `Needs` given, it ends in the description expected; `fills`: its stores are a given
  window of a buffer), and is left with what is particular to the function: the description of the loop head,
  that the `Needs` are met (bounds), and what the resulting symbolic values denote (arithmetic).  For a loop whose
  number of rounds is not closed, `sexec_round` / `sexec_rows`: the run `renews` the description of the loop head
  with the inputs replaced by expressions `σ`, and `σ` denotes the inputs of the next round; the statements before
  the loop `renew` it likewise from the description of the function's entry.  `sexec_run_rows` and
  `sexec_fills_natBuf` put a function "prologue, row loop, rest that writes the result" together.
-/
import SpqProofs.Lemmas.SrcQ120Avx
import SpqProofs.Lemmas.SrcInv
import SpqProofs.Lemmas.SrcVec
namespace Spq.Sym
open Spq Spq.CIR Spq.Q120

/-- symbolic uint64 values -/
inductive SV
  | lit (n : Nat)
  | atom (i l : Nat)    -- input `i`, lane `l`
  | add (a b : SV)      -- wrapping
  | mul (a b : SV)      -- wrapping
  | land (a b : SV)
  | shr (a b : SV)
  | plus (a b : SV)     -- exact (cell offsets)
  | load (b o : SV)     -- cell `o` of buffer `b`
  | par (i : Nat)       -- the buffer pointer parameter `i` is bound to (at offset 0)
  | mask (a : SV)       -- `(1 << a) - 1`
  | lt (a b : SV)       -- 1 if `a < b`, else 0
  | load32 (b o w : SV) -- uint32 word `w` from cell `o` of buffer `b` on: half `w % 2` of cell `o + w / 2`
  deriving Repr, Inhabited, DecidableEq

/-- valuation of the atoms, a reading function for the memory, the memory itself -/
structure Ctx where
  Γ : List Ptr
  ρ : Nat → Nat → Nat
  M : Nat → Nat → Nat
  mem : Mem

/-- half `h` of a cell read as two uint32 (little endian) -/
def half (c h : Nat) : Nat :=
  if h = 0 then c % 18446744073709551616 % 4294967296 else c % 18446744073709551616 / 4294967296

theorem half_lt (c h : Nat) : half c h < 4294967296 := by
  unfold half
  split <;> omega

def den (C : Ctx) : SV → Nat
  | .lit n => n
  | .atom i l => C.ρ i l
  | .add a b => add64 (den C a) (den C b)
  | .mul a b => mul64 (den C a) (den C b)
  | .land a b => den C a &&& den C b
  | .shr a b => den C a / 2 ^ den C b
  | .plus a b => den C a + den C b
  | .load b o => C.M (den C b) (den C o)
  | .par i => ((C.Γ.getD i none).getD (0, 0)).1
  | .mask a => 2 ^ den C a - 1
  | .lt a b => if den C a < den C b then 1 else 0
  | .load32 b o w => half (C.M (den C b) (den C o + den C w / 2)) (den C w % 2)

theorem den_par {C : Ctx} {i b : Nat} (h : C.Γ.getD i none = some (b, 0)) : den C (.par i) = b := by
  simp only [den, h]
  rfl

/-- what the interpreter needs to hold for the value to be the one denoted: shifts `< 64`, loads in bounds, read
    by `C.M` and from a buffer outside `W` (the buffers the code stores to, so that the cell is still what it is in
    `C.mem` when it is read), pointer parameters bound at offset 0 -/
def ok (C : Ctx) (W : Nat → Prop) : SV → Prop
  | .lit _ => True
  | .atom _ _ => True
  | .add a b => ok C W a ∧ ok C W b
  | .mul a b => ok C W a ∧ ok C W b
  | .land a b => ok C W a ∧ ok C W b
  | .plus a b => ok C W a ∧ ok C W b
  | .shr a b => ok C W a ∧ ok C W b ∧ den C b < 64
  | .load b o => ok C W b ∧ ok C W o ∧ ¬ W (den C b) ∧
      loadCell C.mem (some (den C b, den C o)) 0 = .ok ((C.M (den C b) (den C o) : Nat) : Int)
  | .par i => C.Γ.getD i none = some (den C (.par i), 0)
  | .mask a => ok C W a ∧ den C a < 64
  | .lt a b => ok C W a ∧ ok C W b
  | .load32 b o w => ok C W b ∧ ok C W o ∧ ok C W w ∧ ¬ W (den C b) ∧
      loadCell C.mem (some (den C b, den C o + den C w / 2)) 0
        = .ok ((C.M (den C b) (den C o + den C w / 2) : Nat) : Int)

/-- the value of a symbolic value without inputs -/
def closed : SV → Option Nat
  | .lit n => some n
  | .add a b => (closed a).bind fun x => (closed b).bind fun y => some (add64 x y)
  | .mul a b => (closed a).bind fun x => (closed b).bind fun y => some (mul64 x y)
  | .lt a b => (closed a).bind fun x => (closed b).bind fun y => some (if x < y then 1 else 0)
  | .plus a b => (closed a).bind fun x => (closed b).bind fun y => some (x + y)
  | _ => none

theorem closed_bin {a b : SV} {g : Nat → Nat → Nat} {n : Nat}
    (h : ((closed a).bind fun x => (closed b).bind fun y => some (g x y)) = some n) :
    ∃ x y, closed a = some x ∧ closed b = some y ∧ g x y = n := by
  obtain ⟨x, ha, h⟩ := Option.bind_eq_some_iff.1 h
  obtain ⟨y, hb, h⟩ := Option.bind_eq_some_iff.1 h
  exact ⟨x, y, ha, hb, Option.some.inj h⟩

theorem den_closed (C : Ctx) : ∀ (sv : SV) (n : Nat), closed sv = some n → den C sv = n := by
  intro sv
  induction sv with
  | lit m => intro n h; cases h; rfl
  | add a b iha ihb | mul a b iha ihb | lt a b iha ihb | plus a b iha ihb =>
    intro n h
    obtain ⟨x, y, ha, hb, rfl⟩ := closed_bin h
    simp only [den, iha x ha, ihb y hb]
  | _ => intro n h; cases h

theorem ok_closed (C : Ctx) (W : Nat → Prop) : ∀ (sv : SV) (n : Nat), closed sv = some n → ok C W sv := by
  intro sv
  induction sv with
  | lit m => intro _ _; trivial
  | add a b iha ihb | mul a b iha ihb | lt a b iha ihb | plus a b iha ihb =>
    intro n h
    obtain ⟨x, y, ha, hb, _⟩ := closed_bin h
    exact ⟨iha x ha, ihb y hb⟩
  | _ => intro n h; cases h

/-- a closed value as a literal -/
def fold (sv : SV) : SV :=
  match closed sv with
  | some n => .lit n
  | none => sv

theorem den_fold (C : Ctx) (sv : SV) : den C (fold sv) = den C sv := by
  unfold fold
  split
  next n h => exact (den_closed C sv n h).symm
  next => rfl

abbrev K := List (Nat × SV)

/-- `(1 << H) - (uint64_t)1`; only for a variable `H`, so that soundness needs no induction hypothesis three
    levels down -/
def maskOf : Expr → Option Nat
  | .bin .sub .u64 (.bin .shl .u64 (.lit 1) (.var s)) (.cast .u64 (.lit 1)) => some s
  | _ => none

theorem maskOf_eq {e : Expr} {s : Nat} (h : maskOf e = some s) :
    e = .bin .sub .u64 (.bin .shl .u64 (.lit 1) (.var s)) (.cast .u64 (.lit 1)) := by
  unfold maskOf at h
  split at h
  · cases h; rfl
  · cases h

def maskVar : Expr → Option Nat
  | .cast .i64 e => maskOf e
  | _ => none

theorem maskVar_eq {e : Expr} {s : Nat} (h : maskVar e = some s) :
    e = .cast .i64 (.bin .sub .u64 (.bin .shl .u64 (.lit 1) (.var s)) (.cast .u64 (.lit 1))) := by
  unfold maskVar at h
  split at h
  · rw [maskOf_eq h]
  · cases h

/-- a pointer base as the description reads it: buffer and offset (a parameter is bound at offset 0) -/
def sevalP (k : K) : PBase → Option (SV × SV)
  | .pvar p => (k.lookup p).bind fun b => (k.lookup (p + 1)).bind fun off => some (b, off)
  | .param p => some (.par p, .lit 0)
  | .null => none

def sevalE (k : K) : Expr → Option SV
  | .lit v => if 0 ≤ v then some (.lit v.toNat) else none
  | .var s => k.lookup s
  | .bin .add .u64 a b => (sevalE k a).bind fun x => (sevalE k b).bind fun y => some (.add x y)
  | .bin .mul .u64 a b => (sevalE k a).bind fun x => (sevalE k b).bind fun y => some (.mul x y)
  | .bin .band .u64 a b => (sevalE k a).bind fun x => (sevalE k b).bind fun y => some (.land x y)
  | .bin .shr .u64 a b => (sevalE k a).bind fun x => (sevalE k b).bind fun y => some (.shr x y)
  | .bin .lt .u64 a b => (sevalE k a).bind fun x => (sevalE k b).bind fun y => some (.lt x y)
  | .bin .sub .u64 a b => match maskOf (.bin .sub .u64 a b) with
    | some s => (k.lookup s).bind fun x => some (.mask x)
    | none => none
  | .pload pb o => (sevalP k pb).bind fun p => (sevalE k o).bind fun i => some (.load p.1 (.plus p.2 i))
  | .pload32 pb o => (sevalP k pb).bind fun p => (sevalE k o).bind fun w => some (.load32 p.1 p.2 w)
  | .avar base len i => (sevalE k i).bind fun x => (closed x).bind fun j =>
      if j < len then k.lookup (base + j) else none
  -- `_mm256_set1_epi64x((1 << H) - 1)` as the translator prints it (`maskVar`: the subtraction, which is the
  -- only one the executor reads, under a cast to `int64_t`); any other cast only of a uint32
  -- word or of a closed value, since the value of an open term is not known to be below `2 ^ 64`
  | .cast .u64 e => match maskVar e with
    | some s => (k.lookup s).bind fun a => some (.mask a)
    | none => (sevalE k e).bind fun x => match x with
      | .load32 b o w => some (.load32 b o w)
      | _ => (closed x).bind fun n => some (.lit (n % 18446744073709551616))
  | _ => none

/-- `e` has `L` slots and holds what `k` says -/
def Holds (C : Ctx) (L : Nat) (k : K) (e : List Int) : Prop :=
  e.length = L ∧ ∀ s sv, k.lookup s = some sv → lget e s = ((den C sv : Nat) : Int)

theorem Holds.cons {C : Ctx} {L : Nat} {k : K} {e : List Int} (H : Holds C L k e) (x : Nat) (sv : SV) (hx : x < L) :
    Holds C L ((x, sv) :: k) (lset e x ((den C sv : Nat) : Int)) := by
  refine ⟨(length_lset _ _ _).trans H.1, fun s sv' h => ?_⟩
  rw [List.lookup_cons] at h
  by_cases hs : s = x
  · subst hs
    simp only [beq_self_eq_true] at h
    cases h
    exact lget_lset_self _ _ _ (by rw [H.1]; exact hx)
  · have : (s == x) = false := by simpa using hs
    rw [this] at h
    rw [lget_lset_ne _ _ _ _ (Ne.symm hs)]
    exact H.2 s sv' h

theorem mem_of_lookup {k : K} {s : Nat} {sv : SV} : k.lookup s = some sv → (s, sv) ∈ k := by
  induction k with
  | nil => intro h; cases h
  | cons p k ih =>
    obtain ⟨x, v⟩ := p
    intro h
    rw [List.lookup_cons] at h
    by_cases hs : s = x
    · subst hs
      simp only [beq_self_eq_true] at h
      cases h
      exact List.mem_cons_self
    · have : (s == x) = false := by simpa using hs
      rw [this] at h
      exact List.mem_cons_of_mem _ (ih h)

/-! ### one round of a loop: the description is re-established with the inputs replaced -/
def subst (σ : Nat → Nat → SV) : SV → SV
  | .lit n => .lit n
  | .atom i l => σ i l
  | .add a b => .add (subst σ a) (subst σ b)
  | .mul a b => .mul (subst σ a) (subst σ b)
  | .land a b => .land (subst σ a) (subst σ b)
  | .shr a b => .shr (subst σ a) (subst σ b)
  | .plus a b => .plus (subst σ a) (subst σ b)
  | .load b o => .load (subst σ b) (subst σ o)
  | .par i => .par i
  | .mask a => .mask (subst σ a)
  | .lt a b => .lt (subst σ a) (subst σ b)
  | .load32 b o w => .load32 (subst σ b) (subst σ o) (subst σ w)

/-- every atom of the value has a lane below `w` -/
def lanesBelow (w : Nat) : SV → Bool
  | .lit _ => true
  | .par _ => true
  | .atom _ l => decide (l < w)
  | .mask a => lanesBelow w a
  | .add a b => lanesBelow w a && lanesBelow w b
  | .mul a b => lanesBelow w a && lanesBelow w b
  | .land a b => lanesBelow w a && lanesBelow w b
  | .shr a b => lanesBelow w a && lanesBelow w b
  | .plus a b => lanesBelow w a && lanesBelow w b
  | .load a b => lanesBelow w a && lanesBelow w b
  | .lt a b => lanesBelow w a && lanesBelow w b
  | .load32 b o v => lanesBelow w b && lanesBelow w o && lanesBelow w v

theorem den_subst (C C' : Ctx) (σ : Nat → Nat → SV) (w : Nat) (hΓ : C'.Γ = C.Γ) (hM : C'.M = C.M)
    (hσ : ∀ i l, l < w → den C (σ i l) = C'.ρ i l) : ∀ sv, lanesBelow w sv = true → den C (subst σ sv) = den C' sv := by
  intro sv
  induction sv with
  | lit n => intro _; rfl
  | atom i l => intro h; exact hσ i l (of_decide_eq_true h)
  | par i => intro _; simp only [subst, den, hΓ]
  | mask a iha => intro h; simp only [subst, den, iha h]
  | load32 b o v ihb iho ihv =>
    intro h
    simp only [lanesBelow, Bool.and_eq_true] at h
    simp only [subst, den, ihb h.1.1, iho h.1.2, ihv h.2, hM]
  | _ a b iha ihb =>
    intro h
    simp only [lanesBelow, Bool.and_eq_true] at h
    simp only [subst, den, iha h.1, ihb h.2, hM]

/-- every slot `k` describes is described by `k'` as the same value of the inputs `σ`; the inputs have lanes below `w` -/
def renews (w : Nat) (σ : Nat → Nat → SV) (k k' : K) : Bool :=
  k.all fun p => lanesBelow w p.2 && k'.lookup p.1 == some (subst σ p.2)

theorem Holds.renew {C C' : Ctx} {L w : Nat} {k k' : K} {e : List Int} {σ : Nat → Nat → SV} (H : Holds C L k' e)
    (hΓ : C'.Γ = C.Γ) (hM : C'.M = C.M) (hσ : ∀ i l, l < w → den C (σ i l) = C'.ρ i l) (h : renews w σ k k' = true) :
    Holds C' L k e := by
  refine ⟨H.1, fun s sv hs => ?_⟩
  have := List.all_eq_true.1 h (s, sv) (mem_of_lookup hs)
  rw [Bool.and_eq_true] at this
  rw [H.2 s _ (eq_of_beq this.2), den_subst C C' σ w hΓ hM hσ sv this.1]

/-! ### the memories a run passes through -/
/-- `m` has the buffer sizes of `C.mem`, and its contents outside the buffers `W` -/
def Frame (C : Ctx) (W : Nat → Prop) (m : Mem) : Prop :=
  ∀ b, (buf m b).size = (buf C.mem b).size ∧ (¬ W b → buf m b = buf C.mem b)

theorem Frame.refl (C : Ctx) (W : Nat → Prop) : Frame C W C.mem := fun _ => ⟨rfl, fun _ => rfl⟩

theorem Frame.load {C : Ctx} {W : Nat → Prop} {m : Mem} (F : Frame C W m) {b : Nat} (hb : ¬ W b) (o : Nat) (i : Int) :
    loadCell m (some (b, o)) i = loadCell C.mem (some (b, o)) i := by
  simp only [loadCell, (F b).2 hb]

/-- a store `(b, o, v)`: buffer, cell, value -/
abbrev St := SV × SV × SV

/-- the memory after a store that is in bounds -/
def write (C : Ctx) (m : Mem) (st : St) : Mem :=
  m.setIfInBounds (den C st.1) ((buf m (den C st.1)).setIfInBounds (den C st.2.1) ((den C st.2.2 : Nat) : Int))

def writes (C : Ctx) (sts : List St) (m : Mem) : Mem := sts.foldl (write C) m

theorem writes_append (C : Ctx) (a b : List St) (m : Mem) : writes C (a ++ b) m = writes C b (writes C a m) :=
  List.foldl_append

/-- the store goes to a buffer of `W`, inside it -/
def St.ok (C : Ctx) (W : Nat → Prop) (st : St) : Prop :=
  W (den C st.1) ∧ den C st.2.1 < (buf C.mem (den C st.1)).size

theorem Frame.store {C : Ctx} {W : Nat → Prop} {m : Mem} (F : Frame C W m) {st : St} (h : st.ok C W) :
    storeCell m (some (den C st.1, den C st.2.1)) 0 ((den C st.2.2 : Nat) : Int) = .ok (write C m st) := by
  have := storeCell_nat m (den C st.1) (den C st.2.1) 0 ((den C st.2.2 : Nat) : Int)
    (by rw [(F _).1]; exact h.2)
  rw [Nat.add_zero] at this
  exact this

theorem Frame.write {C : Ctx} {W : Nat → Prop} {m : Mem} (F : Frame C W m) {st : St} (h : st.ok C W) :
    Frame C W (write C m st) := by
  intro b
  refine ⟨(size_buf_set m _ b _ (Array.size_setIfInBounds ..)).trans (F b).1, fun hb => ?_⟩
  rw [← (F b).2 hb]
  exact buf_set_ne m _ b _ (fun e => hb (e ▸ h.1))

theorem Frame.writes {C : Ctx} {W : Nat → Prop} : ∀ (sts : List St) {m : Mem}, Frame C W m →
    (∀ st ∈ sts, st.ok C W) → Frame C W (writes C sts m)
  | [], _, F, _ => F
  | st :: sts, _, F, h =>
    Frame.writes sts (F.write (h st List.mem_cons_self)) fun st' hs => h st' (List.mem_cons_of_mem _ hs)

theorem b2i_lt (x y : Nat) : b2i (decide ((x : Int) < (y : Int))) = ((if x < y then 1 else 0 : Nat) : Int) := by
  by_cases h : x < y <;> simp [b2i, h]

theorem half32_cast (c w : Nat) : half32 (c : Int) ((w : Int) % 2) = ((half c (w % 2) : Nat) : Int) := by
  unfold half32 half
  by_cases h : w % 2 = 0
  · rw [if_pos (by omega), if_pos h]
    omega
  · rw [if_neg (by omega), if_neg h]
    omega

theorem sevalP_sound {C : Ctx} {L : Nat} {k : K} {e : List Int} (H : Holds C L k e) (W : Nat → Prop) {pb : PBase}
    {p : SV × SV} (h : sevalP k pb = some p) (hb : ok C W p.1) (i : Nat) (v : Int) (hv : v = (i : Int)) :
    ptrAt C.Γ e pb v = .ok (some (den C p.1, den C p.2 + i)) := by
  cases pb with
  | null => cases h
  | param q => cases h; exact ptrAt_param_off C.Γ e q _ 0 v i hv hb
  | pvar q =>
    obtain ⟨b, hb', h⟩ := Option.bind_eq_some_iff.1 h
    obtain ⟨off, ho, h⟩ := Option.bind_eq_some_iff.1 h
    cases h
    exact ptrAt_pvar_nat C.Γ e q (den C b) (den C off) i v hv (H.2 q b hb') (H.2 (q + 1) off ho)

theorem sevalE_sound (C : Ctx) (L : Nat) (k : K) (e : List Int) (H : Holds C L k e) (W : Nat → Prop) (m : Mem)
    (F : Frame C W m) : ∀ (E : Expr) (sv : SV), sevalE k E = some sv → ok C W sv →
      eval C.Γ ⟨e, m⟩ E = .ok ((den C sv : Nat) : Int) := by
  intro E
  induction E with
  | lit v =>
    intro sv h _
    simp only [sevalE] at h
    split at h
    · cases h
      simp only [eval_lit, den]
      congr 1
      omega
    · cases h
  | var s =>
    intro sv h _
    simp only [sevalE] at h
    rw [eval_var]
    exact congrArg R.ok (H.2 s sv h)
  | bin op t a b iha ihb =>
    intro sv h hok
    cases op <;> cases t <;> simp only [sevalE] at h <;> try cases h
    case sub.u64 =>
      split at h
      next s hs =>
        cases maskOf_eq hs
        obtain ⟨x, hx, h⟩ := Option.bind_eq_some_iff.1 h
        cases h
        have hsh : (0 : Int) ≤ ((den C x : Nat) : Int) ∧ ((den C x : Nat) : Int) < 64 := by have := hok.2; omega
        simp only [eval_cast, eval_bin, eval_lit, eval_var, H.2 s x hx, R.bind_ok, wrap_u64, evalBin_shl_u64,
          evalBin_sub_u64, if_pos hsh, mask_cast _ hok.2, den]
      next => cases h
    all_goals
      cases ha : sevalE k a with
      | none => rw [ha] at h; cases h
      | some x =>
        cases hb : sevalE k b with
        | none => rw [ha, hb] at h; cases h
        | some y =>
          rw [ha, hb] at h
          cases h
          simp only [ok] at hok
          rw [eval_bin, iha x ha hok.1, ihb y hb (by first | exact hok.2 | exact hok.2.1)]
          first
            | (simp only [R.bind_ok, evalBin_add_u64, cast_add64, evalBin_mul_u64, cast_mul64, evalBin_band_u64,
                Int.toNat_natCast, evalBin_lt_u64, b2i_lt, den]; done)
            | (have hsh : (0 : Int) ≤ ((den C y : Nat) : Int) ∧ ((den C y : Nat) : Int) < 64 := by
                have := hok.2.2; omega
               simp only [R.bind_ok, evalBin_shr_u64, if_pos hsh, shr_cast, den])
  | avar base len i ihi =>
    intro sv h _
    simp only [sevalE] at h
    cases hi : sevalE k i with
    | none => rw [hi] at h; cases h
    | some x =>
      cases hj : closed x with
      | none => rw [hi] at h; simp only [Option.bind, hj] at h; cases h
      | some j =>
        rw [hi] at h
        simp only [Option.bind, hj] at h
        split at h
        next hlt =>
          have hg : (0 : Int) ≤ (j : Int) ∧ (j : Int) < (len : Int) := by omega
          rw [eval_avar, ihi x hi (ok_closed C W x j hj), den_closed C x j hj]
          simp only [R.bind_ok, if_pos hg, Int.toNat_natCast]
          exact congrArg R.ok (H.2 _ sv h)
        next => cases h
  | pload pb o iho =>
    intro sv h hok
    simp only [sevalE] at h
    obtain ⟨p, hp, h⟩ := Option.bind_eq_some_iff.1 h
    obtain ⟨i, hi, h⟩ := Option.bind_eq_some_iff.1 h
    cases h
    simp only [ok] at hok
    rw [eval_pload, iho i hi hok.2.1.2]
    simp only [R.bind_ok]
    rw [sevalP_sound H W hp hok.1 (den C i) _ rfl]
    simp only [R.bind_ok]
    exact (F.load hok.2.2.1 _ _).trans hok.2.2.2
  | pload32 pb o iho =>
    intro sv h hok
    simp only [sevalE] at h
    obtain ⟨p, hp, h⟩ := Option.bind_eq_some_iff.1 h
    obtain ⟨w, hw, h⟩ := Option.bind_eq_some_iff.1 h
    cases h
    simp only [ok] at hok
    rw [eval_pload32, iho w hw hok.2.2.1]
    simp only [R.bind_ok]
    rw [if_neg (by omega), sevalP_sound H W hp hok.1 (den C w / 2) _ (by omega), R.bind_ok, F.load hok.2.2.2.1,
      hok.2.2.2.2, R.bind_ok, half32_cast]
    rfl
  | cast t E ih =>
    intro sv h hok
    cases t <;> simp only [sevalE] at h <;> try cases h
    split at h
    next s hs =>
      cases maskVar_eq hs
      obtain ⟨a, ha, h⟩ := Option.bind_eq_some_iff.1 h
      cases h
      have hsh : (0 : Int) ≤ ((den C a : Nat) : Int) ∧ ((den C a : Nat) : Int) < 64 := by have := hok.2; omega
      simp only [eval_cast, eval_bin, eval_lit, eval_var, H.2 s a ha, R.bind_ok, wrap_u64, wrap_i64, wrapS_mod,
        evalBin_shl_u64, evalBin_sub_u64, if_pos hsh, mask_cast _ hok.2, mask_lt _ hok.2, den]
    next =>
      obtain ⟨x, hx, h⟩ := Option.bind_eq_some_iff.1 h
      split at h
      next b o w =>
        cases h
        rw [eval_cast, ih _ hx hok]
        have := half_lt (C.M (den C b) (den C o + den C w / 2)) (den C w % 2)
        simp only [R.bind_ok, wrap_u64, den]
        congr 1
        omega
      next =>
        obtain ⟨n, hn, h⟩ := Option.bind_eq_some_iff.1 h
        cases h
        rw [eval_cast, ih x hx (ok_closed C W x n hn), den_closed C x n hn]
        simp only [R.bind_ok, wrap_u64, den]
        rfl
  | _ => intro sv h _; simp only [sevalE] at h; cases h

/-- what a run leaves: the description afterwards, the values whose `ok` it needs, the fuel it needs, its stores in
    the order they happen -/
structure Res where
  k : K
  oks : List SV
  fuel : Nat
  stores : List St

/-- `a`, then `b` on the description `a` leaves; both get the same fuel -/
def thenRes (a b : K → Option Res) (k : K) : Option Res :=
  (a k).bind fun r1 => (b r1.k).bind fun r2 =>
    some ⟨r2.k, r1.oks ++ r2.oks, max r1.fuel r2.fuel, r1.stores ++ r2.stores⟩

/-- `while (test) step`, at most `n` rounds, as long as the test is closed.  A round costs one unit of fuel and
    hands what is left to `step` and to the rounds after it (`loopN`), so the need is exact. -/
def unroll (test : K → Option SV) (step : K → Option Res) : Nat → K → Option Res
  | 0, _ => none
  | n + 1, k => (test k).bind fun t => (closed t).bind fun v =>
      if v = 0 then some ⟨k, [], 0, []⟩
      else (step k).bind fun r1 => (unroll test step n r1.k).bind fun r2 =>
        some ⟨r2.k, r1.oks ++ r2.oks, 1 + max r1.fuel r2.fuel, r1.stores ++ r2.stores⟩

/-- the rounds of one loop `sexec` is prepared to write out -/
def maxRounds : Nat := 64

/-- symbolic execution: assignments (a closed value is kept as a literal, so that counters of unrolled loops stay
    literals), local arrays at closed indices, pointer locals set from a pointer local or parameter, stores of a
    uint64 cell through either (the cell as a literal if it is closed), `for` loops whose test is closed at every
    round -/
def sexec (L : Nat) : Stmt → K → Option Res
  | .skip, k => some ⟨k, [], 0, []⟩
  | .assign x e, k => if x < L then (sevalE k e).bind fun sv => some ⟨(x, fold sv) :: k, [sv], 0, []⟩ else none
  | .seq a b, k => thenRes (sexec L a) (sexec L b) k
  | .passign s pb o, k => (sevalP k pb).bind fun p => (sevalE k o).bind fun i =>
      if s + 1 < L then some ⟨(s + 1, fold (.plus p.2 i)) :: (s, p.1) :: k, [p.1, i], 0, []⟩ else none
  | .aset base len i e, k => (sevalE k i).bind fun x => (closed x).bind fun j => (sevalE k e).bind fun sv =>
      if j < len ∧ base + j < L then some ⟨(base + j, sv) :: k, [sv], 0, []⟩ else none
  | .pstore pb o e, k => (sevalP k pb).bind fun p => (sevalE k o).bind fun i => (sevalE k e).bind fun sv =>
      some ⟨k, [p.1, i, sv], 0, [(p.1, fold (.plus p.2 i), sv)]⟩
  | .for init c inc body, k =>
      thenRes (sexec L init) (unroll (fun k => sevalE k c) (thenRes (sexec L body) (sexec L inc)) maxRounds) k
  | _, _ => none

/-- `run` describes `x`: from an environment the description holds of and a memory that is `C.mem` outside the
    buffers `W`, given the side conditions (loads outside `W`, stores inside) and the fuel the run asks for, `x`
    ends normally with the stores of the run done and the new description holds -/
def Sound (C : Ctx) (L : Nat) (run : K → Option Res) (x : Nat → State → Out) : Prop :=
  ∀ k r, run k = some r → ∀ W e m, Holds C L k e → Frame C W m → (∀ sv ∈ r.oks, ok C W sv) →
    (∀ st ∈ r.stores, st.ok C W) → ∀ f, r.fuel ≤ f →
    ∃ e', x f ⟨e, m⟩ = .ok (.norm, ⟨e', writes C r.stores m⟩) ∧ Holds C L r.k e'

theorem Sound.seq {C : Ctx} {L : Nat} {a b : K → Option Res} {xa xb : Nat → State → Out} (ha : Sound C L a xa)
    (hb : Sound C L b xb) : Sound C L (thenRes a b) (fun f σ => seqK (xa f σ) (xb f)) := by
  intro k r h W e m H F hok hst f hf
  obtain ⟨r1, h1, h⟩ := Option.bind_eq_some_iff.1 h
  obtain ⟨r2, h2, h⟩ := Option.bind_eq_some_iff.1 h
  cases h
  have hst1 : ∀ st ∈ r1.stores, st.ok C W := fun st hs => hst st (List.mem_append_left _ hs)
  obtain ⟨e1, x1, H1⟩ := ha k r1 h1 W e m H F (fun sv hs => hok sv (List.mem_append_left _ hs)) hst1 f
    (Nat.le_trans (Nat.le_max_left _ _) hf)
  obtain ⟨e2, x2, H2⟩ := hb r1.k r2 h2 W e1 _ H1 (F.writes _ hst1)
    (fun sv hs => hok sv (List.mem_append_right _ hs)) (fun st hs => hst st (List.mem_append_right _ hs)) f
    (Nat.le_trans (Nat.le_max_right _ _) hf)
  exact ⟨e2, by simp only [x1, seqK_norm, x2, writes_append], H2⟩

theorem thenStep_of_seqK {x : Out} {k : State → Out} {σ' : State} (h : seqK x k = .ok (.norm, σ')) :
    thenStep x k = .ok (.norm, σ') := by
  cases x with
  | err e => cases h
  | ok p => obtain ⟨fl, σ⟩ := p; cases fl <;> first | exact h | cases h

theorem Sound.thenStep {C : Ctx} {L : Nat} {a b : K → Option Res} {xa xb : Nat → State → Out} (ha : Sound C L a xa)
    (hb : Sound C L b xb) : Sound C L (thenRes a b) (fun f σ => thenStep (xa f σ) (xb f)) := by
  intro k r h W e m H F hok hst f hf
  obtain ⟨e', hx, H'⟩ := ha.seq hb k r h W e m H F hok hst f hf
  exact ⟨e', thenStep_of_seqK hx, H'⟩

theorem Sound.unroll {C : Ctx} {L : Nat} {c : Expr} {step : K → Option Res} {x : Nat → State → Out}
    (hs : Sound C L step x) :
    ∀ n, Sound C L (unroll (fun k => sevalE k c) step n) (fun f σ => loopN (evalB C.Γ c) x f σ) := by
  intro n
  induction n with
  | zero => intro k r h; cases h
  | succ n ih =>
    intro k r h W e m H F hok hst f hf
    obtain ⟨t, ht, h⟩ := Option.bind_eq_some_iff.1 h
    obtain ⟨v, hv, h⟩ := Option.bind_eq_some_iff.1 h
    have hev : evalB C.Γ c ⟨e, m⟩ = .ok (decide (v ≠ 0)) := by
      rw [evalB_def, sevalE_sound C L k e H W m F c t ht (ok_closed C W t v hv), den_closed C t v hv]
      simp only [R.bind_ok, ne_eq, Int.natCast_eq_zero]
    split at h
    next h0 =>
      cases h
      refine ⟨e, ?_, H⟩
      show loopN (evalB C.Γ c) x f ⟨e, m⟩ = .ok (.norm, ⟨e, m⟩)
      cases f <;> simp [loopN, hev, h0]
    next h0 =>
      obtain ⟨r1, h1, h⟩ := Option.bind_eq_some_iff.1 h
      obtain ⟨r2, h2, h⟩ := Option.bind_eq_some_iff.1 h
      cases h
      simp only at hf hok hst
      obtain ⟨f', rfl⟩ : ∃ f', f = f' + 1 := ⟨f - 1, by omega⟩
      have hst1 : ∀ st ∈ r1.stores, st.ok C W := fun st hs => hst st (List.mem_append_left _ hs)
      obtain ⟨e1, x1, H1⟩ := hs k r1 h1 W e m H F (fun sv hs => hok sv (List.mem_append_left _ hs)) hst1 f' (by omega)
      obtain ⟨e2, x2, H2⟩ := ih r1.k r2 h2 W e1 _ H1 (F.writes _ hst1)
        (fun sv hs => hok sv (List.mem_append_right _ hs)) (fun st hs => hst st (List.mem_append_right _ hs)) f'
        (by omega)
      refine ⟨e2, ?_, H2⟩
      simp only [loopN, hev.trans (ok_decide_true h0), x1, writes_append]
      exact x2

theorem sexec_sound (C : Ctx) (L : Nat) : ∀ s : Stmt, Sound C L (sexec L s) (exec C.Γ s) := by
  intro s
  induction s with
  | skip =>
    intro k r h W e m H _ _ _ f _
    cases h
    exact ⟨e, rfl, H⟩
  | assign x E =>
    intro k r h W e m H F hok _ f _
    simp only [sexec] at h
    split at h
    next hx =>
      obtain ⟨sv, hE, h⟩ := Option.bind_eq_some_iff.1 h
      cases h
      refine ⟨_, ?_, H.cons x (fold sv) hx⟩
      rw [exec_assign, sevalE_sound C L k e H W m F E sv hE (hok sv (by simp)), den_fold]
      rfl
    next => cases h
  | seq a b iha ihb => exact iha.seq ihb
  | passign s pb o =>
    intro k r h W e m H F hok _ f _
    simp only [sexec] at h
    obtain ⟨p, hp, h⟩ := Option.bind_eq_some_iff.1 h
    obtain ⟨i, hi, h⟩ := Option.bind_eq_some_iff.1 h
    split at h
    next hs =>
      cases h
      refine ⟨_, ?_, (H.cons s p.1 (by omega)).cons (s + 1) (fold (.plus p.2 i)) hs⟩
      rw [exec_passign, sevalE_sound C L k e H W m F o i hi (hok i (by simp))]
      simp only [R.bind_ok]
      rw [sevalP_sound H W hp (hok p.1 (by simp)) (den C i) _ rfl]
      simp only [R.bind_ok, encPtr_some, den_fold, den]
      rfl
    next => cases h
  | aset base len i E =>
    intro k r h W e m H F hok _ f _
    simp only [sexec] at h
    obtain ⟨x, hi, h⟩ := Option.bind_eq_some_iff.1 h
    obtain ⟨j, hj, h⟩ := Option.bind_eq_some_iff.1 h
    obtain ⟨sv, hE, h⟩ := Option.bind_eq_some_iff.1 h
    split at h
    next hlt =>
      cases h
      have hg : (0 : Int) ≤ (j : Int) ∧ (j : Int) < (len : Int) := by omega
      refine ⟨_, ?_, H.cons (base + j) sv hlt.2⟩
      rw [exec_aset, sevalE_sound C L k e H W m F i x hi (ok_closed C W x j hj), den_closed C x j hj,
        sevalE_sound C L k e H W m F E sv hE (hok sv (by simp))]
      simp only [R.bind_ok, if_pos hg, Int.toNat_natCast]
      rfl
    next => cases h
  | pstore pb o E =>
    intro k r h W e m H F hok hst f _
    simp only [sexec] at h
    obtain ⟨p, hp, h⟩ := Option.bind_eq_some_iff.1 h
    obtain ⟨i, hi, h⟩ := Option.bind_eq_some_iff.1 h
    obtain ⟨sv, hE, h⟩ := Option.bind_eq_some_iff.1 h
    cases h
    have hw := F.store (hst _ List.mem_cons_self)
    rw [den_fold] at hw
    refine ⟨e, ?_, H⟩
    rw [exec_pstore, sevalE_sound C L k e H W m F o i hi (hok i (by simp)),
      sevalE_sound C L k e H W m F E sv hE (hok sv (by simp))]
    simp only [R.bind_ok]
    rw [sevalP_sound H W hp (hok p.1 (by simp)) (den C i) _ rfl]
    simp only [R.bind_ok]
    exact congrArg (fun x : R Mem => x.bind fun m' => R.ok (Flow.norm, (⟨e, m'⟩ : State))) hw
  | «for» init c inc body ihi ihinc ihb => exact ihi.seq ((ihb.thenStep ihinc).unroll maxRounds)
  | _ => intro k r h; simp only [sexec] at h; cases h

/-! ### the side conditions of a run, as a list that a Boolean test can sweep -/
inductive Cond
  | sh (b : SV)         -- a shift amount
  | ld (b o : SV)       -- a load
  | pr (i : Nat)        -- a pointer parameter
  deriving Repr, Inhabited

def conds : SV → List Cond
  | .lit _ => []
  | .atom _ _ => []
  | .add a b => conds a ++ conds b
  | .mul a b => conds a ++ conds b
  | .land a b => conds a ++ conds b
  | .plus a b => conds a ++ conds b
  | .shr a b => .sh b :: (conds a ++ conds b)
  | .load b o => .ld b o :: (conds b ++ conds o)
  | .par i => [.pr i]
  | .mask a => .sh a :: conds a
  | .lt a b => conds a ++ conds b
  | .load32 b o w => .ld b (.plus o (.shr w (.lit 1))) :: (conds b ++ conds o ++ conds w)

def Cond.holds (C : Ctx) (W : Nat → Prop) : Cond → Prop
  | .sh b => den C b < 64
  | .ld b o => ¬ W (den C b) ∧
      loadCell C.mem (some (den C b, den C o)) 0 = .ok ((C.M (den C b) (den C o) : Nat) : Int)
  | .pr i => C.Γ.getD i none = some (den C (.par i), 0)

theorem ok_of_conds (C : Ctx) (W : Nat → Prop) : ∀ sv : SV, (∀ c ∈ conds sv, c.holds C W) → ok C W sv := by
  intro sv
  induction sv with
  | lit n => intro _; trivial
  | atom i l => intro _; trivial
  | add a b iha ihb | mul a b iha ihb | land a b iha ihb | plus a b iha ihb | lt a b iha ihb =>
    intro h
    exact ⟨iha fun c hc => h c (by simp [conds, hc]), ihb fun c hc => h c (by simp [conds, hc])⟩
  | shr a b iha ihb =>
    intro h
    exact ⟨iha fun c hc => h c (by simp [conds, hc]), ihb fun c hc => h c (by simp [conds, hc]), h (.sh b) (by simp [conds])⟩
  | load b o ihb iho =>
    intro h
    exact ⟨ihb fun c hc => h c (by simp [conds, hc]), iho fun c hc => h c (by simp [conds, hc]), h (.ld b o) (by simp [conds])⟩
  | load32 b o w ihb iho ihw =>
    intro h
    exact ⟨ihb fun c hc => h c (by simp [conds, hc]), iho fun c hc => h c (by simp [conds, hc]),
      ihw fun c hc => h c (by simp [conds, hc]), h (.ld b (.plus o (.shr w (.lit 1)))) (by simp [conds])⟩
  | par i => intro h; exact h (.pr i) (by simp [conds])
  | mask a iha => intro h; exact ⟨iha fun c hc => h c (by simp [conds, hc]), h (.sh a) (by simp [conds])⟩

/-- the side conditions of a whole run follow from a Boolean sweep with a test `good` that is sound in `C` -/
theorem oks_of_all (C : Ctx) (W : Nat → Prop) (good : Cond → Bool) (hg : ∀ c, good c = true → c.holds C W)
    (svs : List SV) (h : (svs.all fun sv => (conds sv).all good) = true) : ∀ sv ∈ svs, ok C W sv := by
  intro sv hsv
  refine ok_of_conds C W sv fun c hc => hg c ?_
  rw [List.all_eq_true] at h
  have := h sv hsv
  rw [List.all_eq_true] at this
  exact this c hc

/-! ### the side conditions a piece of code may need, as data -/
/-- shift amounts, pointer parameters, windows `(b, o, w)`: cells `o + l`, `l < w`, of buffer `b`, and single
    cells `(b, o)` (for offsets that are not a base plus a closed value) -/
structure Needs where
  shifts : List SV
  params : List Nat
  loads : List (SV × SV × Nat)
  cells : List (SV × SV) := []

/-- cell `o` of buffer `b` lies in one of the windows -/
def Needs.inWindow (N : Needs) (b : SV) : SV → Bool
  | .plus o i => match closed i with
    | some l => N.loads.any fun t => t.1 == b && t.2.1 == o && decide (l < t.2.2)
    | none => false
  | _ => false

def Needs.good (N : Needs) : Cond → Bool
  | .sh b => N.shifts.contains b
  | .pr i => N.params.contains i
  | .ld b o => N.cells.contains (b, o) || N.inWindow b o

structure Needs.Met (N : Needs) (C : Ctx) : Prop where
  shifts : ∀ b ∈ N.shifts, den C b < 64
  params : ∀ i ∈ N.params, C.Γ.getD i none = some (den C (.par i), 0)
  loads : ∀ t ∈ N.loads, ∀ l, l < t.2.2 →
    loadCell C.mem (some (den C t.1, den C t.2.1 + l)) 0 = .ok ((C.M (den C t.1) (den C t.2.1 + l) : Nat) : Int)
  cells : ∀ t ∈ N.cells, loadCell C.mem (some (den C t.1, den C t.2)) 0 = .ok ((C.M (den C t.1) (den C t.2) : Nat) : Int)

/-- `W`: buffers that no load of `N` is from -/
theorem Needs.Met.goodW {N : Needs} {C : Ctx} (h : N.Met C) (W : Nat → Prop)
    (hl : ∀ t ∈ N.loads, ¬ W (den C t.1)) (hcl : ∀ t ∈ N.cells, ¬ W (den C t.1)) :
    ∀ c, N.good c = true → c.holds C W := by
  intro c hc
  cases c with
  | sh b => exact h.shifts b (List.contains_iff_mem.1 hc)
  | pr i => exact h.params i (List.contains_iff_mem.1 hc)
  | ld b o =>
    rcases Bool.or_eq_true_iff.1 hc with hc | hc
    · exact ⟨hcl _ (List.contains_iff_mem.1 hc), h.cells _ (List.contains_iff_mem.1 hc)⟩
    · cases o with
      | plus o i =>
        simp only [Needs.inWindow] at hc
        cases hi : closed i with
        | none => rw [hi] at hc; cases hc
        | some l =>
          rw [hi] at hc
          obtain ⟨t, ht, htc⟩ := List.any_eq_true.1 hc
          simp only [Bool.and_eq_true, beq_iff_eq, decide_eq_true_eq] at htc
          have := h.loads t ht l htc.2
          have hw := hl t ht
          rw [htc.1.1, htc.1.2] at this
          rw [htc.1.1] at hw
          simp only [Cond.holds, den, den_closed C i l hi]
          exact ⟨hw, this⟩
      | _ => cases hc

theorem Needs.Met.good {N : Needs} {C : Ctx} (h : N.Met C) : ∀ c, N.good c = true → c.holds C fun _ => False :=
  h.goodW _ (fun _ _ => id) (fun _ _ => id)

/-! ### a run checked by evaluation -/
/-- `sexec` runs `s` on `k` with a need of at most `fb` units of fuel and without a store, `good` accepts every
    side condition of the run and `post` the description it ends with -/
def runs (L fb : Nat) (s : Stmt) (k : K) (good : Cond → Bool) (post : K → Bool) : Bool :=
  match sexec L s k with
  | some r => post r.k && decide (r.fuel ≤ fb) && r.stores.isEmpty && r.oks.all fun sv => (conds sv).all good
  | none => false

theorem sexec_runs {C : Ctx} {L fb : Nat} {s : Stmt} {k : K} {good : Cond → Bool} {post : K → Bool}
    (h : runs L fb s k good post = true) (hg : ∀ c, good c = true → c.holds C fun _ => False) (f : Nat) (hf : fb ≤ f)
    (e : List Int) (H : Holds C L k e) :
    ∃ e' k', exec C.Γ s f ⟨e, C.mem⟩ = .ok (.norm, ⟨e', C.mem⟩) ∧ Holds C L k' e' ∧ post k' = true := by
  unfold runs at h
  cases hr : sexec L s k with
  | none => rw [hr] at h; cases h
  | some r =>
    rw [hr] at h
    simp only [Bool.and_eq_true, decide_eq_true_eq, List.isEmpty_iff] at h
    obtain ⟨e', hx, H'⟩ := sexec_sound C L s k r hr _ e _ H (Frame.refl C _) (oks_of_all C _ good hg r.oks h.2)
      (by rw [h.1.2]; nofun) f (Nat.le_trans h.1.1.2 hf)
    rw [h.1.2] at hx
    exact ⟨e', r.k, hx, H', h.1.1.1⟩

/-! ### a run that fills a window of a buffer -/
theorem write_fill (C : Ctx) (b o v : SV) (g : Nat → Int) (hk : den C o < (buf C.mem (den C b)).size)
    (hv : ((den C v : Nat) : Int) = g (den C o)) :
    write C (fillMem C.mem (den C b) g (den C o)) (b, o, v) = fillMem C.mem (den C b) g (den C o + 1) := by
  have h := store_fill C.mem (den C b) g (den C o) _ hk hv
  rw [storeCell_nat _ (den C b) 0 (den C o) _ (by rw [size_buf_set _ _ _ _ (size_fillTo _ _ _)]; omega),
    Nat.zero_add] at h
  exact R.ok.inj h

/-- the stores `out 0 … out (w - 1)` to the cells from `k0` on of buffer `b`, in this order -/
def window (b : SV) (k0 w : Nat) (out : Nat → SV) : List St := (List.range w).map fun l => (b, .lit (k0 + l), out l)

theorem window_ok (C : Ctx) (b : SV) (k0 w : Nat) (out : Nat → SV) (h : k0 + w ≤ (buf C.mem (den C b)).size) :
    ∀ st ∈ window b k0 w out, st.ok C (· = den C b) := by
  intro st hs
  obtain ⟨l, hl, rfl⟩ := List.mem_map.1 hs
  exact ⟨rfl, show k0 + l < (buf C.mem (den C b)).size by have := List.mem_range.1 hl; omega⟩

/-- stores that are a `window` whose values denote `g` carry the fill of the buffer on by `w` cells -/
theorem writes_window (C : Ctx) (b : SV) (k0 : Nat) (out : Nat → SV) (g : Nat → Int) : ∀ w,
    k0 + w ≤ (buf C.mem (den C b)).size → (∀ l, l < w → ((den C (out l) : Nat) : Int) = g (k0 + l)) →
    writes C (window b k0 w out) (fillMem C.mem (den C b) g k0) = fillMem C.mem (den C b) g (k0 + w) := by
  intro w
  induction w with
  | zero => intro _ _; rfl
  | succ w ih =>
    intro hsz hout
    unfold window
    rw [List.range_succ, List.map_append, writes_append]
    exact (congrArg _ (ih (by omega) fun l hl => hout l (by omega))).trans
      (write_fill C b (.lit (k0 + w)) (out w) g (by show k0 + w < _; omega) (hout w (by omega)))

/-- `sexec` runs `s` on `k` with a need of at most `fb` units of fuel, `good` accepts every side condition of the
    run, and its stores are `window b k0 w out` -/
def fills (L fb : Nat) (s : Stmt) (k : K) (good : Cond → Bool) (b : SV) (k0 w : Nat) (out : Nat → SV) : Bool :=
  match sexec L s k with
  | some r => (r.stores == window b k0 w out) && decide (r.fuel ≤ fb) && r.oks.all fun sv => (conds sv).all good
  | none => false

/-- the side conditions are asked with the buffer written as `W`: no load of the run is from it -/
theorem sexec_fills {C : Ctx} {L fb : Nat} {s : Stmt} {k : K} {good : Cond → Bool} {b : SV} {k0 w : Nat}
    {out : Nat → SV} (h : fills L fb s k good b k0 w out = true) {Γ : List Ptr} {mem : Mem} {r : Nat} (hΓ : C.Γ = Γ)
    (hmem : C.mem = mem) (hb : den C b = r) (g : Nat → Int) (hg : ∀ c, good c = true → c.holds C (· = r))
    (hsz : k0 + w ≤ (buf mem r).size) (hout : ∀ l, l < w → ((den C (out l) : Nat) : Int) = g (k0 + l)) (f : Nat)
    (hf : fb ≤ f) (e : List Int) (H : Holds C L k e) :
    ∃ e', exec Γ s f ⟨e, fillMem mem r g k0⟩ = .ok (.norm, ⟨e', fillMem mem r g (k0 + w)⟩) := by
  subst hΓ hmem hb
  unfold fills at h
  cases hr : sexec L s k with
  | none => rw [hr] at h; cases h
  | some r =>
    rw [hr] at h
    simp only [Bool.and_eq_true, decide_eq_true_eq, beq_iff_eq] at h
    have F : Frame C (· = den C b) (fillMem C.mem (den C b) g k0) := fun b' =>
      ⟨size_buf_set _ _ _ _ (size_fillTo _ _ _), fun hb => buf_set_ne _ _ _ _ hb⟩
    obtain ⟨e', hx, _⟩ := sexec_sound C L s k r hr _ e _ H F (oks_of_all C _ good hg r.oks h.2)
      (by rw [h.1.1]; exact window_ok C b k0 w out hsz) f (Nat.le_trans h.1.2 hf)
    rw [h.1.1, writes_window C b k0 out g w hsz hout] at hx
    exact ⟨e', hx⟩

/-- a run that writes the whole of buffer `r`, the values being those of `A` -/
theorem sexec_fills_natBuf {C : Ctx} {L fb : Nat} {s : Stmt} {k : K} {good : Cond → Bool} {b : SV} {w : Nat}
    {out : Nat → SV} (h : fills L fb s k good b 0 w out = true) {Γ : List Ptr} {mem : Mem} {r : Nat} (hΓ : C.Γ = Γ)
    (hmem : C.mem = mem) (hb : den C b = r) (A : Array Nat) (hA : A.size = w) (hsz : (buf mem r).size = w)
    (hg : ∀ c, good c = true → c.holds C (· = r)) (hout : ∀ l, l < w → den C (out l) = A.getD l 0) (f : Nat)
    (hf : fb ≤ f) (e : List Int) (H : Holds C L k e) :
    memOf (exec Γ s f ⟨e, mem⟩) = .ok (mem.setIfInBounds r (natBuf A)) := by
  obtain ⟨e', hx⟩ := sexec_fills h hΓ hmem hb (fun i => ((A.getD i 0 : Nat) : Int)) hg (by omega)
    (fun l hl => by rw [Nat.zero_add]; exact congrArg Nat.cast (hout l hl)) f hf e H
  rw [show fillMem mem r _ 0 = mem from set_fill_zero mem r _, Nat.zero_add, fillMem_all _ _ _ _ hsz,
    ← natBuf_eq_ofFn A w _ hA fun _ _ => rfl] at hx
  exact congrArg memOf hx

/-- a round of a `for` loop whose body and increment `sexec` can run: if the run `renews` the description with the
    inputs replaced by `σ`, and `σ` computes the inputs of the next round (context `C'`), the description holds again -/
theorem sexec_round {C C' : Ctx} {L fb w : Nat} {body inc : Stmt} {k : K} {good : Cond → Bool} {σ : Nat → Nat → SV}
    (h : runs L fb (.seq body inc) k good (renews w σ k) = true) (hg : ∀ c, good c = true → c.holds C fun _ => False)
    (hΓ : C'.Γ = C.Γ) (hM : C'.M = C.M) (hσ : ∀ i l, l < w → den C (σ i l) = C'.ρ i l) (f : Nat) (hf : fb ≤ f) (e : List Int)
    (H : Holds C L k e) :
    ∃ e', thenStep (exec C.Γ body f ⟨e, C.mem⟩) (fun σ' => exec C.Γ inc f σ') = .ok (.norm, ⟨e', C.mem⟩) ∧
      Holds C' L k e' := by
  obtain ⟨e', k', hx, H', hre⟩ := sexec_runs h hg f hf e H
  rw [exec_seq] at hx
  exact ⟨e', thenStep_of_seqK hx, H'.renew hΓ hM hσ hre⟩

theorem seqK_ok_inv {x : Out} {k : State → Out} {σ' : State} (h : seqK x k = .ok (.norm, σ')) :
    ∃ σ1, x = .ok (.norm, σ1) ∧ k σ1 = .ok (.norm, σ') := by
  cases x with
  | err e => cases h
  | ok p => obtain ⟨fl, σ⟩ := p; cases fl <;> first | exact ⟨σ, rfl, h⟩ | cases h

/-- statements `pre`, then a loop `for (init; c; inc) body` of `ell` rounds that are `sexec_round`s.  The run of
    `pre; init` from the description `kin` of the environment at the start (context `Cin`) `renews` the description
    `k` of the loop head with the inputs replaced by `σin`, which denote the inputs of round 0; `k` holds in context
    `C j` at round `j`, where the test `t` (`c` as `k` reads it) is 1 below `ell` and 0 at `ell` -/
theorem sexec_rows {Γ : List Ptr} {mem : Mem} {L fb w : Nat} {pre init inc body : Stmt} {c : Expr} {k kin : K}
    {good goodIn : Cond → Bool} {σ σin : Nat → Nat → SV} (C : Nat → Ctx) (Cin : Ctx) (ell : Nat) (t : SV)
    (hC : ∀ j, (C j).Γ = Γ ∧ (C j).M = Cin.M ∧ (C j).mem = mem) (hCin : Cin.Γ = Γ ∧ Cin.mem = mem)
    (hin : runs L 0 (.seq pre init) kin goodIn (renews w σin k) = true)
    (hgin : ∀ c, goodIn c = true → c.holds Cin fun _ => False)
    (hσin : ∀ i l, l < w → den Cin (σin i l) = (C 0).ρ i l)
    (h : runs L fb (.seq body inc) k good (renews w σ k) = true) (ht : sevalE k c = some t)
    (htv : ∀ j, j ≤ ell → ok (C j) (fun _ => False) t ∧ den (C j) t = if j < ell then 1 else 0)
    (hg : ∀ j, j < ell → ∀ c, good c = true → c.holds (C j) fun _ => False)
    (hσ : ∀ j, j < ell → ∀ i l, l < w → den (C j) (σ i l) = (C (j + 1)).ρ i l) (e0 : List Int)
    (H0 : Holds Cin L kin e0) :
    ∀ f, ell + fb ≤ f → Post (seqK (exec Γ pre f ⟨e0, mem⟩) (exec Γ (.for init c inc body) f))
      fun s => s.mem = mem ∧ Holds (C ell) L k s.env := by
  intro f hf
  have test : ∀ j, j ≤ ell → ∀ e, Holds (C j) L k e → evalB Γ c ⟨e, mem⟩ = .ok (decide (j < ell)) := by
    intro j hj e H
    obtain ⟨hΓj, _, hmj⟩ := hC j
    have := sevalE_sound (C j) L k e H _ _ (Frame.refl _ _) c t ht (htv j hj).1
    rw [hΓj, hmj] at this
    rw [evalB_def, this, (htv j hj).2]
    by_cases hlt : j < ell <;> simp [hlt]
  obtain ⟨e1, k1, hx, H1, hre⟩ := sexec_runs hin hgin f (Nat.zero_le _) e0 H0
  rw [hCin.1, hCin.2, exec_seq] at hx
  obtain ⟨σp, hp, hi⟩ := seqK_ok_inv hx
  rw [hp, seqK_norm]
  have hi : execK ExtSem.none Γ init f σp = .ok (.norm, ⟨e1, mem⟩) := hi
  show Post (execK ExtSem.none Γ (.for init c inc body) f σp) _
  rw [execK_for_def, hi]
  refine loopN_inv (evalB Γ c) _ (fun j s => s.mem = mem ∧ Holds (C j) L k s.env) 0 ell fb (Nat.zero_le _) ?_ ?_
    ⟨e1, mem⟩ ⟨rfl, H1.renew ((hC 0).1.trans hCin.1.symm) (hC 0).2.1 hσin hre⟩ f (by omega)
  · rintro j ⟨e, m⟩ _ hj ⟨hm, H⟩
    simp only at hm H
    subst hm
    refine ⟨(test j (by omega) e H).trans (ok_decide_true hj), fun f hf => ?_⟩
    obtain ⟨hΓj, hMj, hmj⟩ := hC j
    obtain ⟨hΓ', hM', hm'⟩ := hC (j + 1)
    obtain ⟨e', hrun, H'⟩ := sexec_round (C' := C (j + 1)) h (hg j hj) (hΓ'.trans hΓj.symm) (hM'.trans hMj.symm)
      (hσ j hj) f hf e H
    rw [hΓj, hmj] at hrun
    exact ⟨⟨e', m⟩, hrun, rfl, H'⟩
  · rintro ⟨e, m⟩ ⟨hm, H⟩
    simp only at hm H
    subst hm
    exact (test ell (Nat.le_refl _) e H).trans (ok_decide_false (Nat.lt_irrefl _))

/-! ### the parts of a generated function body -/
def firstFor : Stmt → Stmt
  | .seq (.for i c n b) _ => .for i c n b
  | .seq _ b => firstFor b
  | s => s
def afterFor : Stmt → Stmt
  | .seq (.for _ _ _ _) b => b
  | .seq _ b => afterFor b
  | s => s
def forBody : Stmt → Stmt | .for _ _ _ b => b | s => s
def forInc : Stmt → Stmt | .for _ _ i _ => i | s => s
def forInit : Stmt → Stmt | .for i _ _ _ => i | s => s
def forTest : Stmt → Expr | .for _ c _ _ => c | _ => .lit 0

/-- the first `n` statements of a sequence nested to the right, and what follows them -/
def seqTake : Nat → Stmt → Stmt
  | n + 1, .seq a b => .seq a (seqTake n b)
  | _, _ => .skip
def seqDrop : Nat → Stmt → Stmt
  | n + 1, .seq _ b => seqDrop n b
  | _, s => s

theorem exec_seq_split (Γ : List Ptr) (f : Nat) : ∀ (n : Nat) (s : Stmt) (σ : State),
    exec Γ s f σ = seqK (exec Γ (seqTake n s) f σ) (exec Γ (seqDrop n s) f) := by
  intro n
  induction n with
  | zero => intro s σ; rfl
  | succ n ih =>
    intro s σ
    cases s
    case seq a b =>
      show exec Γ (.seq a b) f σ = seqK (exec Γ (.seq a (seqTake n b)) f σ) (exec Γ (seqDrop n b) f)
      rw [exec_seq, exec_seq, seqK_assoc]
      exact congrArg (seqK _) (funext fun σ' => ih b σ')
    all_goals rfl

/-- the environment a function of one scalar argument is entered with -/
theorem Holds.entry (C : Ctx) (L : Nat) (a : Nat) (ha : C.ρ 0 0 = a) (hL : 0 < L) :
    Holds C L [(0, .atom 0 0)] ((a : Int) :: List.replicate (L - 1) 0) := by
  refine ⟨by rw [List.length_cons, List.length_replicate]; omega, fun s sv h => ?_⟩
  cases List.mem_singleton.1 (mem_of_lookup h)
  exact congrArg Nat.cast ha.symm

/-- a function of one scalar argument `ell` whose body is `n` statements, a row loop `loop` as in `sexec_rows` and
    a `rest`, which is left to the caller (`hfin`).  `hsplit` holds by `rfl`, but is best given as a lemma: in a call
    of this theorem the elaborator compares the two bodies before it knows `fn`, at many times the cost. -/
theorem sexec_run_rows {fn : Fn} {Γ : List Ptr} {mem : Mem} {L fb w : Nat} (n : Nat) (loop rest : Stmt) {k : K}
    {good goodIn : Cond → Bool} {σ σin : Nat → Nat → SV} (C : Nat → Ctx) (Cin : Ctx) (ell : Nat) (t : SV) (M : R Mem)
    (hsplit : seqDrop n fn.body = .seq (.for (forInit loop) (forTest loop) (forInc loop) (forBody loop)) rest)
    (hL : fn.nslots = L) (hL0 : 0 < L) (h0 : Cin.ρ 0 0 = ell)
    (hC : ∀ j, (C j).Γ = Γ ∧ (C j).M = Cin.M ∧ (C j).mem = mem) (hCin : Cin.Γ = Γ ∧ Cin.mem = mem)
    (pre : runs L 0 (.seq (seqTake n fn.body) (forInit loop)) [(0, .atom 0 0)] goodIn (renews w σin k) = true)
    (preNeeds : ∀ c, goodIn c = true → c.holds Cin fun _ => False)
    (start : ∀ i l, l < w → den Cin (σin i l) = (C 0).ρ i l)
    (row : runs L fb (.seq (forBody loop) (forInc loop)) k good (renews w σ k) = true)
    (test : sevalE k (forTest loop) = some t)
    (testVal : ∀ j, j ≤ ell → ok (C j) (fun _ => False) t ∧ den (C j) t = if j < ell then 1 else 0)
    (rowNeeds : ∀ j, j < ell → ∀ c, good c = true → c.holds (C j) fun _ => False)
    (next : ∀ j, j < ell → ∀ i l, l < w → den (C j) (σ i l) = (C (j + 1)).ρ i l) (f : Nat) (hf : ell + fb ≤ f)
    (hfin : ∀ e, Holds (C ell) L k e → memOf (exec Γ rest f ⟨e, mem⟩) = M) :
    run f fn [(ell : Int)] Γ mem = M := by
  unfold run
  rw [exec_seq_split Γ f n, hsplit, hL, show exec Γ (.seq (.for (forInit loop) (forTest loop) (forInc loop)
      (forBody loop)) rest) f = fun s => seqK (exec Γ (.for (forInit loop) (forTest loop) (forInc loop)
      (forBody loop)) f s) (exec Γ rest f) from funext fun s => exec_seq .., ← seqK_assoc]
  refine memOf_seqK_post _ _ _ M (sexec_rows C Cin ell t hC hCin pre preNeeds start row test testVal rowNeeds next _
    (Holds.entry Cin L ell h0 hL0) f hf) ?_
  rintro ⟨e, m⟩ ⟨hm, H⟩
  simp only at hm H
  subst hm
  exact hfin e H

end Spq.Sym
