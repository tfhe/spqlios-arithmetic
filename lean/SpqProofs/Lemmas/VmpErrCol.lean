/-
  C02 rounding budget: the cells of one output column of the binary64 vector-matrix product.
  `cell_sim`: two modules of one shape whose arithmetics are related by a simulation have related cells (`vmp_layout_g`
  on both, `dot_sim_on` on the accumulation recurrences).  `cell_transfer`: the flagged module against the bits and
  against the module on guarded rationals, whose cells are the recurrence itself: for ANY DFT-space operand, if the flag
  of cell `t` of column `j` holds, the cell is finite and its value is a perturbed sum (`PSum`) of the products of the
  VALUES of the cells of the operand with those of the forward transforms `stF (M[i][j])`.
-/
import SpqProofs.Lemmas.VmpErrStage
import SpqProofs.Lemmas.ModuleVmpExact
namespace Spq.VmpErr
open Finset Spq Spq.Module Spq.Fft Spq.Fft.Alg Spq.FftErr Spq.F64 Spq.Reim4 Spq.ProdErr

theorem PSum.congr {K : Type} [Field K] [LinearOrder K] [IsStrictOrderedRing K] {n : ℕ} {x m x' m' : ℕ → K} {G s : K}
    (h : PSum n x m G s) (hx : ∀ i, i < n → x i = x' i) (hm : ∀ i, i < n → m i = m' i) : PSum n x' m' G s := by
  obtain ⟨e, h1, h2⟩ := h
  refine ⟨e, fun i hi => by rw [← hm i hi]; exact h1 i hi, ?_⟩
  rw [h2]
  exact sum_congr rfl (fun i hi => by rw [hx i (mem_range.1 hi)])

/-- hypotheses on the dispatch for the vector-matrix product: `CfgOk` and "FMA addmul kernel only for `m ≥ 4`" -/
structure VCfgOk (c : Cfg) (k : ℕ) (cN sN cNi sNi : ℕ → ℕ) : Prop where
  cfg : CfgOk c k cN sN cNi sNi
  addmulFma : c.addmulFma = true → 2 ≤ k

/-- the output of `vmp_prepare` + `vmp_apply_dft` in the binary64 module -/
def vmpRes (c : Cfg) (mat : Array Int) (nrows ncols : ℕ) (a : Array Int) (asz asl rsz : ℕ) : Array ℕ :=
  vmpApplyDft (Cfg.parts c) rsz a asz asl (vmpPrepare (Cfg.parts c) mat nrows ncols) nrows ncols

/-- value of cell `t` of row `i` of a DFT-space operand (rows of `N` cells) -/
def qV (adft : Array ℕ) (N t : ℕ) : ℕ → ℚ := fun i => val (adft.getD (i * N + t) 0)
/-- value of cell `t` of the forward transform of matrix entry `(i, j)` -/
def qM (c : Cfg) (k : ℕ) (cN sN : ℕ → ℕ) (mat : Array Int) (ncols j t : ℕ) : ℕ → ℚ :=
  fun i => val ((stF c k cN sN (matEntry mat ncols (2 * 2 ^ k) i j)).getD t 0)

section
variable (c : Cfg) (k : ℕ) (cN sN cNi sNi : ℕ → ℕ) (h : VCfgOk c k cN sN cNi sNi)
include h

theorem p_nn : (Cfg.parts c).nn = 2 * 2 ^ k := h.cfg.nn
theorem p_hnn : (Cfg.parts c).nn = 2 * (Cfg.parts c).m := by
  rw [parts_m c k h.cfg.nn]; exact h.cfg.nn
theorem p_hblk : 8 ≤ (Cfg.parts c).nn → (Cfg.parts c).m % 4 = 0 := by
  intro h8
  rw [parts_m c k h.cfg.nn]
  rw [p_nn c k cN sN cNi sNi h] at h8
  have hk : 2 ≤ k := by
    by_contra hlt
    have : k = 0 ∨ k = 1 := by omega
    rcases this with rfl | rfl <;> omega
  exact pow_mod_four k hk
theorem nn_lt8 : (Cfg.parts c).nn < 8 → k < 2 := by
  intro h8
  rw [p_nn c k cN sN cNi sNi h] at h8
  by_contra hge
  have : 2 ^ 2 ≤ 2 ^ k := Nat.pow_le_pow_right (by norm_num) (by omega)
  omega
theorem p_hsm : (Cfg.parts c).nn < 8 → (Cfg.parts c).mulFma = false ∧ (Cfg.parts c).addmulFma = false := by
  intro h8
  have hk := nn_lt8 c k cN sN cNi sNi h h8
  constructor
  · show c.mulFma = false
    cases hf : c.mulFma
    · rfl
    · have := h.cfg.mulFma hf; omega
  · show c.addmulFma = false
    cases hf : c.addmulFma
    · rfl
    · have := h.addmulFma hf; omega

theorem matDft_stF (mat : Array Int) (ncols i j : ℕ) :
    matDft (Cfg.parts c) mat ncols i j = stF c k cN sN (matEntry mat ncols (2 * 2 ^ k) i j) := by
  unfold matDft matEntry
  rw [parts_fft c k cN sN cNi sNi h.cfg, p_nn c k cN sN cNi sNi h]

theorem matDft_size (mat : Array Int) (nrows ncols : ℕ)
    (hM : ∀ i j, i < nrows → j < ncols → Box k (matEntry mat ncols (2 * 2 ^ k) i j)) (row col : ℕ) (hr : row < nrows)
    (hc : col < ncols) : (matDft (Cfg.parts c) mat ncols row col).size = (Cfg.parts c).nn := by
  rw [matDft_stF c k cN sN cNi sNi h, p_nn c k cN sN cNi sNi h]
  exact stF_size c k cN sN cNi sNi h.cfg _ (hM row col hr hc)

theorem vecDft_row (a : Array Int) (asz asl n : ℕ) (hn : n ≤ asz)
    (hA : ∀ i, i < n → Box k (limbOf a i asl (2 * 2 ^ k))) (i : ℕ) (hi : i < n) :
    dlimb (vecDft (Cfg.parts c) n a asz asl) i (2 * 2 ^ k) = stF c k cN sN (limbOf a i asl (2 * 2 ^ k)) := by
  have hnn := p_nn c k cN sN cNi sNi h
  obtain ⟨_, b2⟩ := vecDft_spec (Cfg.parts c) n a asz asl (fun i => stF c k cN sN (limbOf a i asl (2 * 2 ^ k)))
    (fun i hi => by rw [if_pos (by omega), parts_fft c k cN sN cNi sNi h.cfg, hnn])
    (fun i hi => by rw [hnn]; exact stF_size c k cN sN cNi sNi h.cfg _ (hA i hi))
  have := b2 i hi
  rw [hnn] at this
  exact this

theorem vecDft_cell (a : Array Int) (asz asl n : ℕ) (hn : n ≤ asz)
    (hA : ∀ i, i < n → Box k (limbOf a i asl (2 * 2 ^ k))) (i x : ℕ) (hi : i < n) (hx : x < 2 * 2 ^ k) :
    (vecDft (Cfg.parts c) n a asz asl).getD (i * (2 * 2 ^ k) + x) 0 =
      (stF c k cN sN (limbOf a i asl (2 * 2 ^ k))).getD x 0 := by
  rw [← vecDft_row c k cN sN cNi sNi h a asz asl n hn hA i hi, dlimb_get 0 _ i (2 * 2 ^ k) x hx]

end

theorem cell_sim {α β : Type} {R : α → β → Prop} (P : Parts α) (Q : Parts β) (hs : RArith.Sim R P.ar Q.ar)
    (en : Q.nn = P.nn) (ev : Q.vmpAvx = P.vmpAvx) (hnn : P.nn = 2 * P.m) (hblk : 8 ≤ P.nn → P.m % 4 = 0)
    (hsm : P.nn < 8 → P.mulFma = false ∧ P.addmulFma = false) (hsmQ : Q.nn < 8 → Q.mulFma = false ∧ Q.addmulFma = false)
    (mat : Array Int) (nrows ncols rsz asz : ℕ) (x : Array α) (y : Array β)
    (hTP : P.nn < 8 → ∀ row col, row < nrows → col < ncols → (matDft P mat ncols row col).size = P.nn)
    (hTQ : Q.nn < 8 → ∀ row col, row < nrows → col < ncols → (matDft Q mat ncols row col).size = Q.nn)
    (j t : ℕ) (hj : j < min ncols rsz) (ht : t < P.m) (hpos : P.nn < 8 → 0 < min nrows asz)
    (hx : ∀ i, i < min nrows asz → ∀ u, u < P.nn → R (x.getD (i * P.nn + u) P.ar.zero) (y.getD (i * P.nn + u) Q.ar.zero))
    (hM : ∀ i, i < min nrows asz → ∀ u, u < P.nn →
      R ((matDft P mat ncols i j).getD u P.ar.zero) ((matDft Q mat ncols i j).getD u Q.ar.zero)) :
    R ((vmpApplyDftToDft P rsz x asz (vmpPrepare P mat nrows ncols) nrows ncols).getD (j * P.nn + t) P.ar.zero)
      ((vmpApplyDftToDft Q rsz y asz (vmpPrepare Q mat nrows ncols) nrows ncols).getD (j * P.nn + t) Q.ar.zero) ∧
    R ((vmpApplyDftToDft P rsz x asz (vmpPrepare P mat nrows ncols) nrows ncols).getD (j * P.nn + t + P.m) P.ar.zero)
      ((vmpApplyDftToDft Q rsz y asz (vmpPrepare Q mat nrows ncols) nrows ncols).getD (j * P.nn + t + P.m) Q.ar.zero) := by
  have em : Q.m = P.m := by show Q.nn / 2 = P.nn / 2; rw [en]
  have ek : colKind Q ncols rsz j = colKind P ncols rsz j := by
    unfold colKind colKind8 kind1 kind2; rw [en, ev]
  obtain ⟨_, L1, _, _⟩ := vmp_layout_g P hnn hblk hsm mat nrows ncols rsz asz x hTP
  obtain ⟨_, L2, _, _⟩ := vmp_layout_g Q (by rw [en, em]; exact hnn) (by rw [en, em]; exact hblk) hsmQ mat nrows ncols
    rsz asz y hTQ
  obtain ⟨a1, a2⟩ := L1 j t hj ht hpos
  obtain ⟨b1, b2⟩ := L2 j t hj (by rw [em]; exact ht) (by rw [en]; exact hpos)
  rw [en, ek] at b1
  rw [en, em, ek] at b2
  rw [a1, a2, b1, b2]
  unfold colRe colIm bRe bIm
  rw [en, em]
  have htm : t + P.m < P.nn := by omega
  exact dot_sim_on hs _ _ _ _ _ _ _ _ _ _ (colKind_sm P ncols rsz j _ hpos) (fun i hi => hx i hi t (by omega))
    (fun i hi => by unfold aIm; rw [Nat.add_assoc]; exact hx i hi _ htm) (fun i hi => hM i hi t (by omega))
    (fun i hi => hM i hi _ htm)

/-- the module on guarded rationals (prepared matrix = the VALUES of the bit-level DFTs of the entries) -/
noncomputable def pG (c : Cfg) : Parts ℚ :=
  mkParts arG c.nn c.mulFma c.addmulFma c.vmpAvx (fun x => ((Cfg.parts c).fft ((Cfg.parts c).fromZnx x)).map val)

theorem cell_transfer (c : Cfg) (k : ℕ) (cN sN cNi sNi : ℕ → ℕ) (h : VCfgOk c k cN sN cNi sNi)
    (mat : Array Int) (nrows ncols : ℕ) (adft : Array ℕ) (asz rsz : ℕ)
    (hM : ∀ i j, i < nrows → j < ncols → Box k (matEntry mat ncols (2 * 2 ^ k) i j))
    (j t : ℕ) (hj : j < min ncols rsz) (ht : t < 2 ^ k) (hpos : k < 2 → 0 < min nrows asz) :
    (((vmpApplyDftToDft (pOk c) rsz (adft.map lift) asz (vmpPrepare (pOk c) mat nrows ncols) nrows ncols).getD
        (j * (2 * 2 ^ k) + t) arithOk.zero).2 →
      Fin64 ((vmpApplyDftToDft (Cfg.parts c) rsz adft asz (vmpPrepare (Cfg.parts c) mat nrows ncols) nrows ncols).getD (j * (2 * 2 ^ k) + t) 0) ∧
      PSum (min nrows asz)
        (xRe (qV adft (2 * 2 ^ k) t) (qV adft (2 * 2 ^ k) (t + 2 ^ k)) (qM c k cN sN mat ncols j t)
          (qM c k cN sN mat ncols j (t + 2 ^ k)))
        (mRe (qV adft (2 * 2 ^ k) t) (qV adft (2 * 2 ^ k) (t + 2 ^ k)) (qM c k cN sN mat ncols j t)
          (qM c k cN sN mat ncols j (t + 2 ^ k)))
        (1 + gamD (min nrows asz)) (val ((vmpApplyDftToDft (Cfg.parts c) rsz adft asz (vmpPrepare (Cfg.parts c) mat nrows ncols) nrows ncols).getD (j * (2 * 2 ^ k) + t) 0))) ∧
    (((vmpApplyDftToDft (pOk c) rsz (adft.map lift) asz (vmpPrepare (pOk c) mat nrows ncols) nrows ncols).getD
        (j * (2 * 2 ^ k) + t + 2 ^ k) arithOk.zero).2 →
      Fin64 ((vmpApplyDftToDft (Cfg.parts c) rsz adft asz (vmpPrepare (Cfg.parts c) mat nrows ncols) nrows ncols).getD (j * (2 * 2 ^ k) + t + 2 ^ k) 0) ∧
      PSum (min nrows asz)
        (xIm (qV adft (2 * 2 ^ k) t) (qV adft (2 * 2 ^ k) (t + 2 ^ k)) (qM c k cN sN mat ncols j t)
          (qM c k cN sN mat ncols j (t + 2 ^ k)))
        (mIm (qV adft (2 * 2 ^ k) t) (qV adft (2 * 2 ^ k) (t + 2 ^ k)) (qM c k cN sN mat ncols j t)
          (qM c k cN sN mat ncols j (t + 2 ^ k)))
        (1 + gamD (min nrows asz))
        (val ((vmpApplyDftToDft (Cfg.parts c) rsz adft asz (vmpPrepare (Cfg.parts c) mat nrows ncols) nrows ncols).getD (j * (2 * 2 ^ k) + t + 2 ^ k) 0))) := by
  have hnn := p_nn c k cN sN cNi sNi h
  have hm := parts_m c k h.cfg.nn
  have hT := matDft_size c k cN sN cNi sNi h mat nrows ncols hM
  have hTmap : ∀ {γ : Type} (f : ℕ → γ) row col, row < nrows → col < ncols →
      ((matDft (Cfg.parts c) mat ncols row col).map f).size = (Cfg.parts c).nn :=
    fun f row col hr hc => by rw [Array.size_map]; exact hT row col hr hc
  have hpos' : (Cfg.parts c).nn < 8 → 0 < min nrows asz := fun h8 => hpos (nn_lt8 c k cN sN cNi sNi h h8)
  have ht' : t < (Cfg.parts c).m := by rw [hm]; exact ht
  have r0 := cell_sim (pOk c) (Cfg.parts c) arithOk_sim_arith rfl rfl (p_hnn c k cN sN cNi sNi h)
    (p_hblk c k cN sN cNi sNi h) (p_hsm c k cN sN cNi sNi h) (p_hsm c k cN sN cNi sNi h) mat nrows ncols rsz asz
    (adft.map lift) adft (fun _ => hTmap lift) (fun _ => hT) j t hj ht' hpos' (fun _ _ _ _ => rel1_lift adft _)
    (fun i _ u _ => rel1_lift (matDft (Cfg.parts c) mat ncols i j) u)
  have rq := cell_sim (pOk c) (pG c) arithOk_sim_arG rfl rfl (p_hnn c k cN sN cNi sNi h)
    (p_hblk c k cN sN cNi sNi h) (p_hsm c k cN sN cNi sNi h) (p_hsm c k cN sN cNi sNi h) mat nrows ncols rsz asz
    (adft.map lift) (adft.map val) (fun _ => hTmap lift) (fun _ => hTmap val) j t hj ht' hpos'
    (fun _ _ _ _ => lift_rel_arG adft _) (fun i _ u _ => lift_rel_arG (matDft (Cfg.parts c) mat ncols i j) u)
  obtain ⟨_, L, _, _⟩ := vmp_layout_g (pG c) (p_hnn c k cN sN cNi sNi h) (p_hblk c k cN sN cNi sNi h)
    (p_hsm c k cN sN cNi sNi h) mat nrows ncols rsz asz (adft.map val) (fun _ => hTmap val)
  obtain ⟨g1, g2⟩ := L j t hj ht' hpos'
  obtain ⟨p1, p2⟩ := dot_psum_arG (colKind (Cfg.parts c) ncols rsz j)
    (aRe arG.zero (adft.map val) (Cfg.parts c).nn t) (aIm arG.zero (adft.map val) (Cfg.parts c).nn (Cfg.parts c).m t)
    (bRe (pG c) mat ncols j t) (bIm (pG c) mat ncols j t) (min nrows asz)
    (colKind_sm (Cfg.parts c) ncols rsz j (min nrows asz) hpos')
  have z0 : arG.zero = val 0 := val_zero.symm
  have eA1 : ∀ i, aRe arG.zero (adft.map val) (Cfg.parts c).nn t i = qV adft (2 * 2 ^ k) t i := by
    intro i
    unfold aRe qV
    rw [hnn, z0, getD_map]
  have eA2 : ∀ i, aIm arG.zero (adft.map val) (Cfg.parts c).nn (Cfg.parts c).m t i = qV adft (2 * 2 ^ k) (t + 2 ^ k) i := by
    intro i
    unfold aIm qV
    rw [hnn, hm, Nat.add_assoc, z0, getD_map]
  have eB1 : ∀ i, bRe (pG c) mat ncols j t i = qM c k cN sN mat ncols j t i := by
    intro i
    show ((matDft (Cfg.parts c) mat ncols i j).map F64.val).getD t arG.zero = _
    unfold qM
    rw [z0, getD_map, matDft_stF c k cN sN cNi sNi h]
  have eB2 : ∀ i, bIm (pG c) mat ncols j t i = qM c k cN sN mat ncols j (t + 2 ^ k) i := by
    intro i
    show ((matDft (Cfg.parts c) mat ncols i j).map F64.val).getD (t + (Cfg.parts c).m) arG.zero = _
    unfold qM
    rw [z0, getD_map, matDft_stF c k cN sN cNi sNi h, hm]
  have p1' : PSum (min nrows asz) _ _ (1 + gamD (min nrows asz))
      (colRe (pG c) (colKind (pG c) ncols rsz j) (adft.map val) mat ncols (min nrows asz) j t) := p1
  have p2' : PSum (min nrows asz) _ _ (1 + gamD (min nrows asz))
      (colIm (pG c) (colKind (pG c) ncols rsz j) (adft.map val) mat ncols (min nrows asz) j t) := p2
  have q1 := p1'.congr (x' := xRe (qV adft (2 * 2 ^ k) t) (qV adft (2 * 2 ^ k) (t + 2 ^ k)) (qM c k cN sN mat ncols j t)
      (qM c k cN sN mat ncols j (t + 2 ^ k)))
    (m' := mRe (qV adft (2 * 2 ^ k) t) (qV adft (2 * 2 ^ k) (t + 2 ^ k)) (qM c k cN sN mat ncols j t)
      (qM c k cN sN mat ncols j (t + 2 ^ k)))
    (fun i _ => by simp only [xRe]; rw [eA1 i, eA2 i, eB1 i, eB2 i])
    (fun i _ => by simp only [mRe]; rw [eA1 i, eA2 i, eB1 i, eB2 i])
  have q2 := p2'.congr (x' := xIm (qV adft (2 * 2 ^ k) t) (qV adft (2 * 2 ^ k) (t + 2 ^ k)) (qM c k cN sN mat ncols j t)
      (qM c k cN sN mat ncols j (t + 2 ^ k)))
    (m' := mIm (qV adft (2 * 2 ^ k) t) (qV adft (2 * 2 ^ k) (t + 2 ^ k)) (qM c k cN sN mat ncols j t)
      (qM c k cN sN mat ncols j (t + 2 ^ k)))
    (fun i _ => by simp only [xIm]; rw [eA1 i, eA2 i, eB1 i, eB2 i])
    (fun i _ => by simp only [mIm]; rw [eA1 i, eA2 i, eB1 i, eB2 i])
  rw [← g1] at q1
  rw [← g2] at q2
  rw [show (pOk c).nn = 2 * 2 ^ k from hnn, show (pOk c).m = 2 ^ k from hm] at r0 rq
  rw [show (pG c).nn = 2 * 2 ^ k from hnn] at q1 q2
  rw [show (pG c).m = 2 ^ k from hm] at q2
  constructor
  · intro hf
    obtain ⟨f, e⟩ := rq.1 hf
    rw [← e, r0.1] at q1
    rw [r0.1] at f
    exact ⟨f, q1⟩
  · intro hf
    obtain ⟨f, e⟩ := rq.2 hf
    rw [← e, r0.2] at q2
    rw [r0.2] at f
    exact ⟨f, q2⟩

end Spq.VmpErr
