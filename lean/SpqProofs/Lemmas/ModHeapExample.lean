/-
  Concrete instances showing that the hypotheses of the ModHeap theorems are satisfiable:
   * the library's codec `Cells.f64` reads back what it stores,
   * a small exact module (`toyParts m`: `nn = 2m`, carrier `Int`, kernels acting limb-wise) is `Sized`;
   * `avxCfg16`: the configuration of the library's FFT64 module with every AVX / FMA kernel installed.
-/
import SpqProofs.Lemmas.ModHeapKern
namespace Spq.ModuleHeap
open Spq Heap Reim4

theorem roundTrip_f64 : RoundTrip Cells.f64 := fun _ => rfl

/-- integer cells, DFT-space carrier `Int` -/
def Cells.int : Cells Int Int := { dflt := 0, enc := id, dec := id, encI := id, decI := id }
theorem roundTrip_int : RoundTrip Cells.int := fun _ => rfl

def intArith : RArith Int :=
  { zero := 0, add := (· + ·), sub := (· - ·), mul := (· * ·), fma := fun a b c => a * b + c, fms := fun a b c => a * b - c }

/-- a toy module on `nn = 2m` cells: "transforms" that reverse / negate a limb (sizes are what matters here) -/
def toyParts (m : Nat) : Module.Parts Int :=
  { nn := 2 * m, ar := intArith, fromZnx := fun x => x, fft := fun x => x.reverse, ifft := fun x => x.reverse,
    toZnx := fun x => x.map (fun v => -v), mulFma := false, addmulFma := false, vmpAvx := false }

theorem sized_toy (m : Nat) : Sized (toyParts m) :=
  ⟨fun x hx => hx, fun x hx => by simpa [toyParts] using hx, fun x hx => by simpa [toyParts] using hx,
   fun x hx => by simpa [toyParts] using hx⟩

theorem toy_nn (m : Nat) : (toyParts m).nn = 2 * m := rfl
theorem toy_m (m : Nat) : (toyParts m).m = m := by simp [Module.Parts.m, toyParts]

/-- an arena of 64 cells holding 0, 1, …, 63 -/
def toyHeap : Heap Int := { mem := (Array.range 64).map (fun (i : Nat) => (i : Int)) }
theorem toyHeap_size : toyHeap.mem.size = 64 := by simp [toyHeap]

/-- the library's FFT64 module for `nn = 16` with every AVX / FMA kernel installed, arbitrary twiddle tables -/
def avxCfg16 (ft it : Array Nat) : Module.Cfg :=
  { nn := 16, fftFma := true, ifftFma := true, fromBnd50 := true, toVariant := Conv.ToZnx64Variant.bnd63,
    mulFma := true, addmulFma := true, vmpAvx := true, fftT := ft, ifftT := it }

end Spq.ModuleHeap
