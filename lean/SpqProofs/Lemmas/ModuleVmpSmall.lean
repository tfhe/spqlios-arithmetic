/-
  `vmpApplyDftToDft` against `vmpPrepare` on the plain column-major layout (`nn < 8`: `reim_fftvec_mul` of row 0, then
  `reim_fftvec_addmul` of the other rows; reference kernels — the library installs the FMA kernels for `m ≥ 4` only),
  and both layouts together, for an arbitrary arithmetic record: `vmp_layout_g`.  In the arithmetic of a commutative
  ring every accumulation order is the plain sum (`dot_ofRing`), which gives the exact statement C02.1.
-/
import SpqProofs.Lemmas.ModuleVmpLoop
import SpqProofs.Lemmas.ModuleSpec
namespace Spq.VmpErr
open Finset Spq Spq.Module Spq.Reim4
variable {α : Type}

/-- the reference pointwise kernels write cell `p` / `p + m` from the old cell and the operands' cells `p`, `p + m` -/
theorem lanes_split (z : α) (m : ℕ) (P Q : ℕ → α → α) (r : Array α) (hr : 2 * m ≤ r.size) :
    (lanes z m (fun i => i) (fun i => i + m) P Q r).size = r.size ∧
    ∀ p, p < m → (lanes z m (fun i => i) (fun i => i + m) P Q r).getD p z = P p (r.getD p z) ∧
      (lanes z m (fun i => i) (fun i => i + m) P Q r).getD (p + m) z = Q p (r.getD (p + m) z) := by
  obtain ⟨s1, s2, _⟩ := lanes_spec z m (fun i => i) (fun i => i + m) P Q r
    (by intro k k' _ _ h; exact h) (by intro k k' _ _ _; omega) (by intro k k' _ _; omega) (by intro k hk; omega)
  exact ⟨s1, s2⟩

theorem mul_cells_g (c : Parts α) (hnn : c.nn = 2 * c.m) (hf : c.mulFma = false) (a b : Array α) :
    (Module.mul c a b).size = c.nn ∧
    ∀ p, p < c.m →
      (Module.mul c a b).getD p c.ar.zero =
        reRef c.ar (a.getD p c.ar.zero) (a.getD (p + c.m) c.ar.zero) (b.getD p c.ar.zero) (b.getD (p + c.m) c.ar.zero) ∧
      (Module.mul c a b).getD (p + c.m) c.ar.zero =
        imRef c.ar (a.getD p c.ar.zero) (a.getD (p + c.m) c.ar.zero) (b.getD p c.ar.zero) (b.getD (p + c.m) c.ar.zero) := by
  unfold Module.mul
  simp only [hf, Bool.false_eq_true, if_false]
  obtain ⟨s, r⟩ := lanes_split c.ar.zero c.m
    (fun i _ => reRef c.ar (a.getD i c.ar.zero) (a.getD (i + c.m) c.ar.zero) (b.getD i c.ar.zero) (b.getD (i + c.m) c.ar.zero))
    (fun i _ => imRef c.ar (a.getD i c.ar.zero) (a.getD (i + c.m) c.ar.zero) (b.getD i c.ar.zero) (b.getD (i + c.m) c.ar.zero))
    (Array.replicate c.nn c.ar.zero) (by rw [Array.size_replicate, hnn])
  exact ⟨by rw [reimFftvecMulRef, s, Array.size_replicate], r⟩

theorem addmul_cells_g (c : Parts α) (hnn : c.nn = 2 * c.m) (hf : c.addmulFma = false) (r a b : Array α)
    (hr : r.size = c.nn) :
    (Module.addmul c r a b).size = c.nn ∧
    ∀ p, p < c.m →
      (Module.addmul c r a b).getD p c.ar.zero = c.ar.add (r.getD p c.ar.zero)
        (reRef c.ar (a.getD p c.ar.zero) (a.getD (p + c.m) c.ar.zero) (b.getD p c.ar.zero) (b.getD (p + c.m) c.ar.zero)) ∧
      (Module.addmul c r a b).getD (p + c.m) c.ar.zero = c.ar.add (r.getD (p + c.m) c.ar.zero)
        (imRef c.ar (a.getD p c.ar.zero) (a.getD (p + c.m) c.ar.zero) (b.getD p c.ar.zero) (b.getD (p + c.m) c.ar.zero)) := by
  unfold Module.addmul
  simp only [hf, Bool.false_eq_true, if_false]
  obtain ⟨s, q⟩ := lanes_split c.ar.zero c.m
    (fun i old => c.ar.add old (reRef c.ar (a.getD i c.ar.zero) (a.getD (i + c.m) c.ar.zero) (b.getD i c.ar.zero)
      (b.getD (i + c.m) c.ar.zero)))
    (fun i old => c.ar.add old (imRef c.ar (a.getD i c.ar.zero) (a.getD (i + c.m) c.ar.zero) (b.getD i c.ar.zero)
      (b.getD (i + c.m) c.ar.zero)))
    r (by rw [hr, hnn])
  exact ⟨by rw [reimFftvecAddmulRef, s, hr], q⟩

theorem dlimb_get (z : α) (adft : Array α) (i nn x : ℕ) (h : x < nn) : (dlimb adft i nn).getD x z = adft.getD (i * nn + x) z := by
  unfold dlimb
  rw [getD_extract, if_pos (by omega)]

theorem dlimb_get2 (z : α) (adft : Array α) (i nn t m : ℕ) (h : t + m < nn) :
    (dlimb adft i nn).getD (t + m) z = adft.getD (i * nn + t + m) z := by
  rw [dlimb_get z adft i nn (t + m) h, Nat.add_assoc]

theorem pcol_get (c : Parts α) (mat : Array Int) (nrows ncols : ℕ) (h8 : c.nn < 8)
    (hT : ∀ row col, row < nrows → col < ncols → (matDft c mat ncols row col).size = c.nn)
    (row col x : ℕ) (hr : row < nrows) (hc : col < ncols) (h : x < c.nn) :
    ((vmpPrepare c mat nrows ncols).extract ((col * nrows + row) * c.nn) ((col * nrows + row) * c.nn + c.nn)).getD x c.ar.zero
      = (matDft c mat ncols row col).getD x c.ar.zero := by
  have h8' : ¬ 8 ≤ c.nn := by omega
  have g := (vmpPrepare_cells_small c mat nrows ncols h8 hT).tiles_get (sTiles nrows ncols)
    (fun i hi x q => Or.inr (by
      unfold ModuleHeap.prepS ModuleHeap.prepCell; simp only [h8', if_false]
      exact ⟨i.1, hi.1, i.2, hi.2, by rwa [Nat.mul_comm] at q⟩)) (row, col) ⟨hr, hc⟩ x h
  simp only [sSlot] at g
  rw [Nat.mul_comm c.nn] at g
  rw [getD_extract, if_pos (by omega), g]

theorem smallChain_cells {α : Type} (c : Parts α) (hnn : c.nn = 2 * c.m) (hmf : c.mulFma = false)
    (haf : c.addmulFma = false) (n : ℕ) (A B : ℕ → Array α) :
    (smallChain c n A B).size = c.nn ∧
    ∀ t, t < c.m →
      (smallChain c n A B).getD t c.ar.zero =
        smRe c.ar (fun i => (A i).getD t c.ar.zero) (fun i => (A i).getD (t + c.m) c.ar.zero)
          (fun i => (B i).getD t c.ar.zero) (fun i => (B i).getD (t + c.m) c.ar.zero) (n - 1) ∧
      (smallChain c n A B).getD (t + c.m) c.ar.zero =
        smIm c.ar (fun i => (A i).getD t c.ar.zero) (fun i => (A i).getD (t + c.m) c.ar.zero)
          (fun i => (B i).getD t c.ar.zero) (fun i => (B i).getD (t + c.m) c.ar.zero) (n - 1) := by
  unfold smallChain
  refine foldl_range_inv
    (P := fun k (r : Array α) => r.size = c.nn ∧ ∀ t, t < c.m →
      r.getD t c.ar.zero = smRe c.ar (fun i => (A i).getD t c.ar.zero) (fun i => (A i).getD (t + c.m) c.ar.zero)
          (fun i => (B i).getD t c.ar.zero) (fun i => (B i).getD (t + c.m) c.ar.zero) k ∧
      r.getD (t + c.m) c.ar.zero = smIm c.ar (fun i => (A i).getD t c.ar.zero) (fun i => (A i).getD (t + c.m) c.ar.zero)
          (fun i => (B i).getD t c.ar.zero) (fun i => (B i).getD (t + c.m) c.ar.zero) k) _ _ _ ?_ ?_
  · obtain ⟨m1, m2⟩ := mul_cells_g c hnn hmf (A 0) (B 0)
    exact ⟨m1, fun t ht => by obtain ⟨v1, v2⟩ := m2 t ht; rw [v1, v2]; exact ⟨rfl, rfl⟩⟩
  · intro k r _ ⟨i1, i2⟩
    obtain ⟨m1, m2⟩ := addmul_cells_g c hnn haf r (A (k + 1)) (B (k + 1)) i1
    refine ⟨m1, fun t ht => ?_⟩
    obtain ⟨v1, v2⟩ := m2 t ht
    obtain ⟨j1, j2⟩ := i2 t ht
    rw [v1, v2, j1, j2]
    exact ⟨rfl, rfl⟩

theorem small_col_g (c : Parts α) (hnn : c.nn = 2 * c.m) (hmf : c.mulFma = false) (haf : c.addmulFma = false)
    (h8 : c.nn < 8) (mat : Array Int) (nrows ncols : ℕ)
    (hT : ∀ row col, row < nrows → col < ncols → (matDft c mat ncols row col).size = c.nn)
    (adft : Array α) (rowMax : ℕ) (hrm : rowMax ≤ nrows) (h0 : 0 < rowMax) (col : ℕ) (hc : col < ncols) :
    (smallChain c rowMax (fun i => dlimb adft i c.nn) (fun i =>
      (vmpPrepare c mat nrows ncols).extract ((col * nrows + i) * c.nn) ((col * nrows + i) * c.nn + c.nn))).size = c.nn ∧
    ∀ t, t < c.m →
      (smallChain c rowMax (fun i => dlimb adft i c.nn) (fun i =>
        (vmpPrepare c mat nrows ncols).extract ((col * nrows + i) * c.nn) ((col * nrows + i) * c.nn + c.nn))).getD t c.ar.zero
        = colRe c .sm adft mat ncols rowMax col t ∧
      (smallChain c rowMax (fun i => dlimb adft i c.nn) (fun i =>
        (vmpPrepare c mat nrows ncols).extract ((col * nrows + i) * c.nn) ((col * nrows + i) * c.nn + c.nn))).getD (t + c.m) c.ar.zero
        = colIm c .sm adft mat ncols rowMax col t := by
  obtain ⟨s, r⟩ := smallChain_cells c hnn hmf haf rowMax (fun i => dlimb adft i c.nn) (fun i =>
    (vmpPrepare c mat nrows ncols).extract ((col * nrows + i) * c.nn) ((col * nrows + i) * c.nn + c.nn))
  refine ⟨s, fun t ht => ?_⟩
  obtain ⟨q1, q2⟩ := dotRe_congr c.ar .sm _ _ _ _ (aRe c.ar.zero adft c.nn t) (aIm c.ar.zero adft c.nn c.m t)
    (bRe c mat ncols col t) (bIm c mat ncols col t) rowMax (fun _ => h0)
    (fun i _ => dlimb_get _ adft i c.nn t (by omega)) (fun i _ => dlimb_get2 _ adft i c.nn t c.m (by omega))
    (fun i hi => pcol_get c mat nrows ncols h8 hT i col t (by omega) hc (by omega))
    (fun i hi => pcol_get c mat nrows ncols h8 hT i col (t + c.m) (by omega) hc (by omega))
  exact ⟨(r t ht).1.trans q1, (r t ht).2.trans q2⟩

theorem vmpApply_small_inv_g (c : Parts α) (hnn : c.nn = 2 * c.m) (hmf : c.mulFma = false) (haf : c.addmulFma = false)
    (h8 : c.nn < 8) (mat : Array Int) (nrows ncols rsz asz : ℕ)
    (hT : ∀ row col, row < nrows → col < ncols → (matDft c mat ncols row col).size = c.nn) (adft : Array α)
    (h0 : 0 < min nrows asz) :
    CellInv c.ar.zero (cellV (fun col t => colRe c .sm adft mat ncols (min nrows asz) col t)
      (fun col t => colIm c .sm adft mat ncols (min nrows asz) col t) c.m c.nn) (rsz * c.nn)
      (fun x => x < min ncols rsz * c.nn)
      (vmpApplyDftToDft c rsz adft asz (vmpPrepare c mat nrows ncols) nrows ncols) := by
  have h8' : ¬ (8 ≤ c.nn) := by omega
  have hrm : min nrows asz ≤ nrows := Nat.min_le_left _ _
  have hcm : min ncols rsz ≤ rsz := Nat.min_le_right _ _
  have hcn : min ncols rsz ≤ ncols := Nat.min_le_left _ _
  have hz : (min nrows asz == 0) = false := by
    have : ¬ (min nrows asz = 0) := by omega
    simpa using this
  unfold vmpApplyDftToDft
  simp only [ge_iff_le, h8', if_false, hz, Bool.false_eq_true]
  refine (CellInv.fold (min ncols rsz) (fun C x => ModuleHeap.In (C * c.nn) c.nn x) _ (fun _ => False) _
    (CellInv.init _ _ _) ?_).congr
    (fun x => ⟨fun q => Or.inr ((ModuleHeap.smallCells_iff c.nn (min ncols rsz) x).2 q),
      fun q => (ModuleHeap.smallCells_iff c.nn (min ncols rsz) x).1 (q.resolve_left id)⟩)
  intro C res T hC hi
  have hb := mul_step C rsz c.nn (by omega)
  obtain ⟨r1, r2⟩ := small_col_g c hnn hmf haf h8 mat nrows ncols hT adft (min nrows asz) hrm h0 C (by omega)
  simp only [smallChain] at r1
  refine hi.writeIn (C * c.nn) c.nn _ r1 hb (fun k hk => ?_)
  by_cases hkm : k < c.m
  · rw [cellV_re _ _ _ _ _ _ hnn hkm]
    exact (r2 k hkm).1
  · obtain ⟨k', rfl⟩ : ∃ k', k = k' + c.m := ⟨k - c.m, by omega⟩
    rw [(by omega : C * c.nn + (k' + c.m) = C * c.nn + c.m + k'), cellV_im _ _ _ _ _ _ hnn (by omega)]
    exact (r2 k' (by omega)).2

/-- `nn < 8`, no usable row: the `row_max == 0` guard leaves the zero-initialised output -/
theorem vmpApply_small_zero_g (c : Parts α) (h8 : c.nn < 8) (rsz asz : ℕ) (adft pmat : Array α) (nrows ncols : ℕ)
    (h0 : min nrows asz = 0) :
    vmpApplyDftToDft c rsz adft asz pmat nrows ncols = Array.replicate (rsz * c.nn) c.ar.zero := by
  have h8' : ¬ (8 ≤ c.nn) := by omega
  unfold vmpApplyDftToDft
  simp only [ge_iff_le, h8', if_false, h0, beq_self_eq_true, if_true]
  generalize min ncols rsz = C
  induction C with
  | zero => rfl
  | succ C ih => rw [List.range_succ, List.foldl_append, ih]; rfl

/-- which accumulation order computes output column `j` -/
def colKind (c : Parts α) (ncols rsz j : ℕ) : DotK := if 8 ≤ c.nn then colKind8 c ncols rsz j else .sm

/-- the `nn < 8` accumulation order is only used with at least one row -/
theorem colKind_sm (c : Parts α) (ncols rsz j n : ℕ) (hpos : c.nn < 8 → 0 < n) :
    colKind c ncols rsz j = .sm → 1 ≤ n := by
  intro hk
  unfold colKind at hk
  by_cases h8 : 8 ≤ c.nn
  · rw [if_pos h8] at hk
    unfold colKind8 at hk
    split at hk
    · have := kind1_ne _ hk; omega
    · have := kind2_ne _ hk; omega
  · exact hpos (by omega)

/-- **layout of `vmpPrepare` / `vmpApplyDftToDft` for any arithmetic record** (no ring laws; the FFT / conversion of
    the module are only used through `matDft`): both prepared layouts, both dispatch flavours, every shape.
    Cell `t` / `t + m` of output column `j < min ncols rsz` is the accumulation recurrence `colRe / colIm` (order
    `colKind`) over the rows `i < min nrows asz` of `adft_i[t]` and `fft(M[i][j])[t]`; the columns from
    `min ncols rsz` on are `zero`; for `nn < 8` without usable row everything is `zero`. -/
theorem vmp_layout_g (c : Parts α) (hnn : c.nn = 2 * c.m) (hblk : 8 ≤ c.nn → c.m % 4 = 0)
    (hsm : c.nn < 8 → c.mulFma = false ∧ c.addmulFma = false) (mat : Array Int) (nrows ncols rsz asz : ℕ)
    (adft : Array α)
    (hT : c.nn < 8 → ∀ row col, row < nrows → col < ncols → (matDft c mat ncols row col).size = c.nn) :
    (vmpApplyDftToDft c rsz adft asz (vmpPrepare c mat nrows ncols) nrows ncols).size = rsz * c.nn ∧
    (∀ j t, j < min ncols rsz → t < c.m → (c.nn < 8 → 0 < min nrows asz) →
      (vmpApplyDftToDft c rsz adft asz (vmpPrepare c mat nrows ncols) nrows ncols).getD (j * c.nn + t) c.ar.zero =
        colRe c (colKind c ncols rsz j) adft mat ncols (min nrows asz) j t ∧
      (vmpApplyDftToDft c rsz adft asz (vmpPrepare c mat nrows ncols) nrows ncols).getD (j * c.nn + t + c.m) c.ar.zero =
        colIm c (colKind c ncols rsz j) adft mat ncols (min nrows asz) j t) ∧
    (∀ j x, min ncols rsz ≤ j →
      (vmpApplyDftToDft c rsz adft asz (vmpPrepare c mat nrows ncols) nrows ncols).getD (j * c.nn + x) c.ar.zero = c.ar.zero) ∧
    (c.nn < 8 → min nrows asz = 0 → ∀ x,
      (vmpApplyDftToDft c rsz adft asz (vmpPrepare c mat nrows ncols) nrows ncols).getD x c.ar.zero = c.ar.zero) := by
  by_cases h8 : 8 ≤ c.nn
  · obtain ⟨s1, s2, s3⟩ := (vmpApply_blk_cells c hnn (hblk h8) h8 mat nrows ncols rsz asz adft).read hnn
    have hk : ∀ j, colKind c ncols rsz j = colKind8 c ncols rsz j := fun j => by unfold colKind; rw [if_pos h8]
    exact ⟨s1, fun j t hj ht _ => by rw [hk]; exact s2 j t hj ht, s3, fun h => by omega⟩
  · have h8' : c.nn < 8 := by omega
    obtain ⟨hmf, haf⟩ := hsm h8'
    have hk : ∀ j, colKind c ncols rsz j = .sm := fun j => by unfold colKind; rw [if_neg h8]
    by_cases h0 : 0 < min nrows asz
    · obtain ⟨s1, s2, s3⟩ := (vmpApply_small_inv_g c hnn hmf haf h8' mat nrows ncols rsz asz (hT h8') adft h0).read hnn
      exact ⟨s1, fun j t hj ht _ => by rw [hk]; exact s2 j t hj ht, s3, fun _ hz => by omega⟩
    · have hz : min nrows asz = 0 := by omega
      have e := vmpApply_small_zero_g c h8' rsz asz adft (vmpPrepare c mat nrows ncols) nrows ncols hz
      rw [e]
      refine ⟨by simp, ?_, fun j x _ => getD_replicate _ _ _, fun _ _ x => getD_replicate _ _ _⟩
      intro j t _ _ hpos
      exact absurd (hpos h8') h0

section exact
variable {R : Type} [CommRing R]

theorem col_ofRing (c : Parts R) (har : c.ar = RArith.ofRing R) (K : DotK) (adft : Array R) (mat : Array Int)
    (ncols n j t : ℕ) (hn : K = .sm → 1 ≤ n) :
    (⟨colRe c K adft mat ncols n j t, colIm c K adft mat ncols n j t⟩ : Cx R) =
      ∑ i ∈ range n, cx adft (i * c.nn + t) (i * c.nn + t + c.m) * cx (matDft c mat ncols i j) t (t + c.m) := by
  obtain ⟨e1, e2⟩ := dot_ofRing K (aRe 0 adft c.nn t) (aIm 0 adft c.nn c.m t) (fun i => (matDft c mat ncols i j).getD t 0)
    (fun i => (matDft c mat ncols i j).getD (t + c.m) 0) n hn
  unfold colRe colIm bRe bIm
  rw [har]
  ext
  · rw [Cx.sum_re]; exact e1
  · rw [Cx.sum_im]; exact e2

end exact
end Spq.VmpErr

namespace Spq.Module
open Finset Spq Reim4
variable {R : Type} [CommRing R]

theorem dlimb_cx (adft : Array R) (i nn m t : Nat) (h : t + m < nn) :
    cx (dlimb adft i nn) t (t + m) = cx adft (i * nn + t) (i * nn + t + m) := by
  ext
  · exact VmpErr.dlimb_get 0 adft i nn t (by omega)
  · exact VmpErr.dlimb_get2 0 adft i nn t m h

/-- both layouts together (the statement of `C02.vmp_layout`); with `nn < 8` the FMA pointwise kernels are never
    installed (`0 < m < 4`), so the reference recurrence of `vmp_layout_g` applies -/
theorem vmp_layout_aux (c : Parts R) (ha : ExactArith c) (mat : Array Int) (nrows ncols rsz asz : Nat) (adft : Array R)
    (hT : c.nn < 8 → ∀ row col, row < nrows → col < ncols → (matDft c mat ncols row col).size = c.nn) :
    (vmpApplyDftToDft c rsz adft asz (vmpPrepare c mat nrows ncols) nrows ncols).size = rsz * c.nn ∧
    (∀ j t, j < min ncols rsz → t < c.m →
      cx (vmpApplyDftToDft c rsz adft asz (vmpPrepare c mat nrows ncols) nrows ncols) (j * c.nn + t) (j * c.nn + t + c.m)
        = ∑ i ∈ range (min nrows asz),
            cx adft (i * c.nn + t) (i * c.nn + t + c.m) * cx (matDft c mat ncols i j) t (t + c.m)) ∧
    (∀ j x, min ncols rsz ≤ j →
      (vmpApplyDftToDft c rsz adft asz (vmpPrepare c mat nrows ncols) nrows ncols).getD (j * c.nn + x) 0 = 0) := by
  have hnn := ha.hnn
  have hm := ha.hm
  have hz : c.ar.zero = 0 := by rw [ha.har]; rfl
  obtain ⟨s1, s2, s3, s4⟩ := VmpErr.vmp_layout_g c hnn ha.hblk
    (fun h8 => ⟨Bool.eq_false_iff.2 fun h => by have := ha.hmul h; omega,
      Bool.eq_false_iff.2 fun h => by have := ha.haddmul h; omega⟩) mat nrows ncols rsz asz adft hT
  rw [hz] at s2 s3 s4
  refine ⟨s1, fun j t hj ht => ?_, s3⟩
  by_cases h0 : c.nn < 8 ∧ min nrows asz = 0
  · rw [h0.2, range_zero, sum_empty]
    ext
    · exact s4 h0.1 h0.2 _
    · exact s4 h0.1 h0.2 _
  · obtain ⟨a, b⟩ := s2 j t hj ht (fun h8 => by omega)
    rw [← VmpErr.col_ofRing c ha.har (VmpErr.colKind c ncols rsz j) adft mat ncols (min nrows asz) j t
      (VmpErr.colKind_sm c ncols rsz j _ (fun h8 => by omega))]
    ext
    · exact a
    · exact b

end Spq.Module
