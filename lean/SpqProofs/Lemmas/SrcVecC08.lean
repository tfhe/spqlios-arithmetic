/-
  Bridge between the aliasing contract of C08 (`Heap.SrcOK`) and the per-limb window condition of the source
  theorems of the limb-vector wrappers (`SameOrDisj`).
-/
import SpqProofs.Lemmas.SrcVec
import SpqProofs.Lemmas.SrcVecKern
import SpqProofs.Properties.C08
namespace Spq.Src
open Spq Spq.CIR Spq.Heap

/-- `Heap.SrcOK` (the source is the output itself, or all its limbs are disjoint from all output limbs) gives the
    per-limb condition of the source theorems -/
theorem sameOrDisj_of_srcOK (nn res rsz rsl a asz asl : Nat) (h : Heap.SrcOK nn res rsz rsl a asz asl) :
    ∀ i, i < min rsz asz → SameOrDisj nn (res + i * rsl) (a + i * asl) := by
  intro i hi
  have hi' := Nat.lt_min.mp hi
  rcases h with ⟨h1, h2⟩ | h
  · subst h1; subst h2; exact Or.inl rfl
  · rcases h i i hi'.2 hi'.1 with h | h
    · exact Or.inr (Or.inr h)
    · exact Or.inr (Or.inl h)

end Spq.Src
