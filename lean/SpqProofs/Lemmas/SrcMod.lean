/-
  Source tie of the FFT64 module layer (`Properties/SrcMod.lean`), infrastructure:
   * `modSem c cd B`: the kernel calls of `Spq/ModuleHeap.lean` (`kFromZnx`, `kFft`, … applied to the arena held in
     buffer `B`) as an `ExtSem`;
   * `ok` is monotone along the model (`Heap.ok` is only ever and-ed), so a final `ok = true` gives `ok = true`
     after every prefix of the model's run: this is what lets the interpreter (which stops at the first failing
     access) be compared with the model (which records the failure in the flag and goes on);
   * the statement shapes of the module layer run on the arena: an opaque call (`execK_extcall_arena`), a counting loop
     against the model's `loop` (`arena_loop`: test and step are parameters, the body may end in `continue`), the zero
     fill of the remaining limbs (`execK_zeroD_arena`, `execK_zeroI_arena`).  The rules of `SrcTr` are proved from these.
-/
import Spq.ModuleHeap
import Spq.ModSem
import SpqProofs.Lemmas.ModHeapKern
import SpqProofs.Lemmas.SrcVec
import SpqProofs.Lemmas.SrcAvx
import SpqProofs.Lemmas.SrcU64
namespace Spq.CIR
open Spq Heap ModuleHeap

theorem callRet_ok (σ : State) (fl : Flow) (σ' : State) :
    callRet σ (.ok (fl, σ')) = .ok (.norm, { σ with mem := σ'.mem }) := rfl

/-- unfold `runK` on a generated function -/
macro "cirk_enter" fn:ident : tactic =>
  `(tactic| simp only [runK, $fn:ident, List.length_cons, List.length_nil, List.replicate, List.cons_append,
      List.nil_append, Nat.reduceSub, Nat.reduceAdd])

end Spq.CIR

namespace Spq.Src
open Spq Spq.CIR Heap ModuleHeap
variable {α : Type}

/-! ### the kernels of `Spq.ModuleHeap` as the semantics of the opaque calls -/

theorem heap_eta (H : Heap Int) (h : H.ok = true) : (⟨H.mem, true⟩ : Heap Int) = H := by
  cases H; simp_all

/-- a kernel call on the arena `m0[B := H.mem]` when the model stays `ok` -/
theorem onArena_ok (B : Nat) (k : Heap Int → Heap Int) (m0 : Mem) (H : Heap Int) (hB : B < m0.size)
    (hH : H.ok = true) (hk : (k H).ok = true) :
    onArena B k (m0.setIfInBounds B H.mem) = .ok (m0.setIfInBounds B (k H).mem) := by
  unfold onArena
  rw [buf_set_self m0 B _ hB, heap_eta H hH, hk, set_set]
  rfl

/-! ### what `modSem` does on each call the module layer makes, all pointers in the arena `B`

Proved on the unfolded definition: `simp [modSem]` would have to generate the splitter of a match on eleven string
literals in every proof that uses it. -/
section calls
variable (c : Module.Parts α) (cd : Cells Int α) (B nr : Nat) (m : Mem)

theorem modSem_fromZnx (dst src : Nat) :
    modSem c cd B nr "reim_from_znx64" [] [some (B, dst), some (B, src)] m = onArena B (kFromZnx c cd dst src) m := by
  delta modSem
  exact if_pos ⟨rfl, rfl⟩
theorem modSem_fft (p : Nat) : modSem c cd B nr "reim_fft" [] [some (B, p)] m = onArena B (kFft c cd p) m := by
  delta modSem
  exact if_pos rfl
theorem modSem_ifft (p : Nat) : modSem c cd B nr "reim_ifft" [] [some (B, p)] m = onArena B (kIfft c cd p) m := by
  delta modSem
  exact if_pos rfl
theorem modSem_toZnx (dst src : Nat) :
    modSem c cd B nr "reim_to_znx64" [] [some (B, dst), some (B, src)] m = onArena B (kToZnx c cd dst src) m := by
  delta modSem
  exact if_pos ⟨rfl, rfl⟩
theorem modSem_mul (r a b : Nat) :
    modSem c cd B nr "reim_fftvec_mul" [] [some (B, r), some (B, a), some (B, b)] m
      = onArena B (kMul c cd r a b) m := by
  delta modSem
  exact if_pos ⟨rfl, rfl, rfl⟩
theorem modSem_addmul (r a b : Nat) :
    modSem c cd B nr "reim_fftvec_addmul" [] [some (B, r), some (B, a), some (B, b)] m
      = onArena B (kAddmul c cd r a b) m := by
  delta modSem
  exact if_pos ⟨rfl, rfl, rfl⟩
theorem modSem_extract1 (blk dst src : Nat) :
    modSem c cd B nr "reim4_extract_1blk_from_reim_ref" [(c.m : Int), (blk : Int)] [some (B, dst), some (B, src)] m
      = onArena B (kExtract1 c cd blk dst src) m := by
  delta modSem
  exact if_pos ⟨rfl, rfl, rfl, Int.natCast_nonneg _⟩
theorem modSem_extractRows (rows blk dst src : Nat) :
    modSem c cd B nr "reim4_extract_1blk_from_contiguous_reim_ref" [(c.m : Int), (rows : Int), (blk : Int)]
        [some (B, dst), some (B, src)] m
      = onArena B (kExtractRows c cd rows blk dst src) m := by
  delta modSem
  exact if_pos ⟨rfl, rfl, rfl, Int.natCast_nonneg _, Int.natCast_nonneg _⟩
theorem modSem_prod2 (rows out u v : Nat) :
    modSem c cd B nr "reim4_vec_mat2cols_product_ref" [(rows : Int)] [some (B, out), some (B, u), some (B, v)] m
      = onArena B (kProd2 c cd rows nr out u v) m := by
  delta modSem
  exact if_pos ⟨rfl, rfl, rfl, Int.natCast_nonneg _⟩
theorem modSem_prod1 (rows out u v : Nat) :
    modSem c cd B nr "reim4_vec_mat1col_product_ref" [(rows : Int)] [some (B, out), some (B, u), some (B, v)] m
      = onArena B (kProd1 c cd rows nr out u v) m := by
  delta modSem
  exact if_pos ⟨rfl, rfl, rfl, Int.natCast_nonneg _⟩
theorem modSem_save (blk dst src : Nat) :
    modSem c cd B nr "reim4_save_1blk_to_reim_ref" [(c.m : Int), (blk : Int)] [some (B, dst), some (B, src)] m
      = onArena B (kSave c cd blk dst src) m := by
  delta modSem
  exact if_pos ⟨rfl, rfl, rfl, Int.natCast_nonneg _⟩
end calls

/-! ### `ok` only decreases -/
variable {γ : Type}

/-- a heap transformer that never sets `ok` back to `true` -/
def OkMono (k : Heap γ → Heap γ) : Prop := ∀ h, (k h).ok = true → h.ok = true

theorem okMono_id : OkMono (fun h : Heap γ => h) := fun _ h => h
theorem okMono_comp {f g : Heap γ → Heap γ} (hf : OkMono f) (hg : OkMono g) : OkMono (fun h => g (f h)) :=
  fun h hk => hf h (hg (f h) hk)
theorem okMono_tch (off n : Nat) : OkMono (tch (γ := γ) off n) := by
  intro h hk; simp [tch, Heap.touch] at hk; exact hk.1
theorem okMono_guard (b : Bool) : OkMono (ModuleHeap.guard (γ := γ) b) := by
  intro h hk; simp [ModuleHeap.guard] at hk; exact hk.1
theorem okMono_scr (tb rel n : Nat) : OkMono (scr (γ := γ) tb rel n) := okMono_guard _
theorem okMono_writeLimb (off : Nat) (l : Array γ) : OkMono (fun h : Heap γ => h.writeLimb off l) := by
  intro h hk; simp [Heap.writeLimb] at hk; exact hk.1
theorem okMono_wrD (cd : Cells γ α) (off : Nat) (x : Array α) : OkMono (wrD cd off x) := okMono_writeLimb _ _
theorem okMono_wrI (cd : Cells γ α) (off : Nat) (x : Array Int) : OkMono (wrI cd off x) := okMono_writeLimb _ _

theorem okMono_kCopy (cd : Cells γ α) (dst src n : Nat) : OkMono (kCopy cd dst src n) :=
  fun h hk => okMono_tch _ _ h (okMono_guard _ _ (okMono_writeLimb _ _ _ hk))

theorem okMono_ite (p : Prop) [Decidable p] {f g : Heap γ → Heap γ} (hf : OkMono f) (hg : OkMono g) :
    OkMono (fun h => if p then f h else g h) := by
  intro h hk
  by_cases hp : p
  · simp only [hp, if_true] at hk; exact hf h hk
  · simp only [hp, if_false] at hk; exact hg h hk

theorem loop_succ (n : Nat) (body : Nat → Heap γ → Heap γ) (h : Heap γ) :
    loop (n + 1) body h = body n (loop n body h) := by
  simp [loop, List.range_succ, List.foldl_append]

theorem okMono_loop (n : Nat) (body : Nat → Heap γ → Heap γ) (hb : ∀ i, OkMono (body i)) : OkMono (loop n body) := by
  induction n with
  | zero => exact fun _ h => h
  | succ n ih => intro h hk; rw [loop_succ] at hk; exact ih h (hb n _ hk)

/-- every prefix of an `ok` loop is `ok` -/
theorem loop_ok_prefix (body : Nat → Heap γ → Heap γ) (hb : ∀ i, OkMono (body i)) (h : Heap γ) :
    ∀ (n k : Nat), k ≤ n → (loop n body h).ok = true → (loop k body h).ok = true := by
  intro n
  induction n with
  | zero => intro k hk hn; have : k = 0 := by omega
            subst this; exact hn
  | succ n ih =>
    intro k hk hn
    by_cases he : k = n + 1
    · subst he; exact hn
    · rw [loop_succ] at hn
      exact ih k (by omega) (hb n _ hn)

/-! ### sizes -/
theorem size_writeLimb (h : Heap γ) (off : Nat) (l : Array γ) : (h.writeLimb off l).mem.size = h.mem.size := by
  simp [Heap.writeLimb]
theorem size_scr (tb rel n : Nat) (h : Heap γ) : (scr tb rel n h).mem.size = h.mem.size := rfl
theorem size_loop (n : Nat) (body : Nat → Heap γ → Heap γ) (hb : ∀ i h, (body i h).mem.size = h.mem.size)
    (h : Heap γ) : (loop n body h).mem.size = h.mem.size := by
  induction n with
  | zero => rfl
  | succ n ih => rw [loop_succ, hb, ih]

/-! ### what `ok` says about the addresses -/
theorem tch_bound (off n : Nat) (h : Heap γ) (hk : (tch off n h).ok = true) : off + n ≤ h.mem.size := by
  simp [tch, Heap.touch] at hk; exact hk.2
theorem kFft_bound (c : Module.Parts α) (cd : Cells γ α) (p : Nat) (h : Heap γ) (hk : (kFft c cd p h).ok = true) :
    p + c.nn ≤ h.mem.size := tch_bound p c.nn h (okMono_wrD cd _ _ _ hk)
theorem kIfft_bound (c : Module.Parts α) (cd : Cells γ α) (p : Nat) (h : Heap γ) (hk : (kIfft c cd p h).ok = true) :
    p + c.nn ≤ h.mem.size := tch_bound p c.nn h (okMono_wrD cd _ _ _ hk)
theorem kFromZnx_bound (c : Module.Parts α) (cd : Cells γ α) (dst src : Nat) (h : Heap γ)
    (hk : (kFromZnx c cd dst src h).ok = true) : src + c.nn ≤ h.mem.size :=
  tch_bound src c.nn h (okMono_guard _ _ (okMono_wrD cd _ _ _ hk))
theorem kToZnx_bound (c : Module.Parts α) (cd : Cells γ α) (dst src : Nat) (h : Heap γ)
    (hk : (kToZnx c cd dst src h).ok = true) : src + c.nn ≤ h.mem.size :=
  tch_bound src c.nn h (okMono_guard _ _ (okMono_wrI cd _ _ _ hk))
theorem wr_bound (h : Heap γ) (off : Nat) (l : Array γ) (hk : (h.writeLimb off l).ok = true) :
    off + l.size ≤ h.mem.size := by
  simp [Heap.writeLimb] at hk; exact hk.2
theorem kZeroD_bound (c : Module.Parts α) (cd : Cells γ α) (p n : Nat) (h : Heap γ)
    (hk : (kZeroD c cd p n h).ok = true) : p + n ≤ h.mem.size := by
  have := wr_bound h p _ hk
  simpa using this
theorem kZeroI_bound (cd : Cells γ α) (p n : Nat) (h : Heap γ)
    (hk : (kZeroI cd p n h).ok = true) : p + n ≤ h.mem.size := by
  have := wr_bound h p _ hk
  simpa using this

/-! ### the model's `kZero*` / `kCopy` (`memset` / `memcpy` on the arena: `memset_arena`, `memcpy_arena` of `SrcArena.lean`) -/
/-- `CIR.min_cond` for any decidability instance (the one `simp` leaves behind may mention the un-normalised slots) -/
theorem min_cond' (a b : Nat) (inst : Decidable ((a : Int) < (b : Int))) :
    (@ite (R Int) ((a : Int) < (b : Int)) inst (R.ok (a : Int)) (.ok (b : Int))) = .ok ((min a b : Nat) : Int) := by
  by_cases h : a < b
  · have : (a : Int) < (b : Int) := by omega
    simp [this, Nat.min_eq_left (Nat.le_of_lt h)]
  · have : ¬ (a : Int) < (b : Int) := by omega
    simp [this, Nat.min_eq_right (Nat.le_of_not_lt h)]

theorem kZeroD_mem (c : Module.Parts α) (cd : Cells Int α) (p n : Nat) (h : Heap Int) :
    (kZeroD c cd p n h).mem = Heap.writeArr h.mem p (Array.replicate n (cd.enc c.ar.zero)) := by
  simp [kZeroD, wrD, Heap.writeLimb]
theorem kZeroI_mem (cd : Cells Int α) (p n : Nat) (h : Heap Int) :
    (kZeroI cd p n h).mem = Heap.writeArr h.mem p (Array.replicate n (cd.encI 0)) := by
  simp [kZeroI, wrI, Heap.writeLimb]
theorem kCopy_mem (cd : Cells Int α) (dst src n : Nat) (h : Heap Int) :
    (kCopy cd dst src n h).mem = Heap.writeArr h.mem dst (h.readLimb cd.dflt src n) := by
  simp [kCopy, ModuleHeap.guard, tch, Heap.touch, Heap.writeLimb]
/-- what `kCopy … ok` says: both ranges inside the arena and disjoint -/
theorem kCopy_bound (cd : Cells Int α) (dst src n : Nat) (h : Heap Int) (hk : (kCopy cd dst src n h).ok = true) :
    src + n ≤ h.mem.size ∧ dst + n ≤ h.mem.size ∧ (dst + n ≤ src ∨ src + n ≤ dst) := by
  simp [kCopy, ModuleHeap.guard, tch, Heap.touch, Heap.writeLimb, Heap.readLimb, disj] at hk
  omega
/-- `readLimb` does not look at the flag -/
theorem readLimb_mk (M : Array Int) (b : Bool) (d : Int) (off n : Nat) :
    (⟨M, b⟩ : Heap Int).readLimb d off n = (⟨M, true⟩ : Heap Int).readLimb d off n := rfl

/-- a scratch guard that holds does nothing -/
theorem scr_of_ok (tb rel n : Nat) (h : Heap γ) (hk : (scr tb rel n h).ok = true) : scr tb rel n h = h := by
  have h1 := okMono_scr tb rel n h hk
  simp [scr, ModuleHeap.guard] at hk ⊢
  cases h
  simp_all

/-! ### bounds implied by `ok` for the reim4 kernels -/
theorem wrD_bound (cd : Cells γ α) (off : Nat) (x : Array α) (h : Heap γ) (hk : (wrD cd off x h).ok = true) :
    off + x.size ≤ h.mem.size := by
  have := wr_bound h off _ hk
  simpa using this
theorem wrD_mem_size (cd : Cells γ α) (off : Nat) (x : Array α) (h : Heap γ) : (wrD cd off x h).mem.size = h.mem.size := by
  simp [wrD, Heap.writeLimb]
theorem kExtract1_bound (c : Module.Parts α) (cd : Cells γ α) (blk dst src : Nat) (h : Heap γ)
    (hk : (kExtract1 c cd blk dst src h).ok = true) : dst + 8 ≤ h.mem.size ∧ src + c.nn ≤ h.mem.size := by
  have h1 := wrD_bound cd _ _ _ hk
  have h2 := tch_bound _ _ _ (okMono_guard _ _ (okMono_wrD cd _ _ _ hk))
  rw [size_extract1] at h1
  simp [ModuleHeap.guard, tch, Heap.touch] at h1
  exact ⟨h1, h2⟩
theorem kExtractRows_bound (c : Module.Parts α) (cd : Cells γ α) (rows blk dst src : Nat) (h : Heap γ)
    (hk : (kExtractRows c cd rows blk dst src h).ok = true) :
    dst + 8 * rows ≤ h.mem.size ∧ src + rows * c.nn ≤ h.mem.size := by
  have h1 := wrD_bound cd _ _ _ hk
  have h2 := tch_bound _ _ _ (okMono_guard _ _ (okMono_wrD cd _ _ _ hk))
  rw [size_extractRows] at h1
  simp [ModuleHeap.guard, tch, Heap.touch] at h1
  exact ⟨h1, h2⟩
theorem kProd2_bound (c : Module.Parts α) (cd : Cells γ α) (rows nrows out u v : Nat) (h : Heap γ)
    (hk : (kProd2 c cd rows nrows out u v h).ok = true) :
    out + 16 ≤ h.mem.size ∧ u + 8 * rows ≤ h.mem.size ∧ v + 16 * nrows ≤ h.mem.size := by
  have h1 := wrD_bound cd _ _ _ hk
  have h3 := okMono_guard _ _ (okMono_wrD cd _ _ _ hk)
  have h2 := tch_bound _ _ _ h3
  have h4 := tch_bound _ _ _ (okMono_tch _ _ _ h3)
  rw [size_prod2] at h1
  simp [ModuleHeap.guard, tch, Heap.touch] at h1 h2
  exact ⟨h1, h4, h2⟩
theorem kProd1_bound (c : Module.Parts α) (cd : Cells γ α) (rows nrows out u v : Nat) (h : Heap γ)
    (hk : (kProd1 c cd rows nrows out u v h).ok = true) :
    out + 8 ≤ h.mem.size ∧ u + 8 * rows ≤ h.mem.size ∧ v + 8 * nrows ≤ h.mem.size := by
  have h1 := wrD_bound cd _ _ _ hk
  have h3 := okMono_guard _ _ (okMono_wrD cd _ _ _ hk)
  have h2 := tch_bound _ _ _ h3
  have h4 := tch_bound _ _ _ (okMono_tch _ _ _ h3)
  rw [size_prod1] at h1
  simp [ModuleHeap.guard, tch, Heap.touch] at h1 h2
  exact ⟨h1, h4, h2⟩
theorem kSave_bound (c : Module.Parts α) (cd : Cells γ α) (blk dst src : Nat) (h : Heap γ)
    (hk : (kSave c cd blk dst src h).ok = true) :
    dst + 4 * blk + 4 ≤ h.mem.size ∧ dst + c.m + 4 * blk + 4 ≤ h.mem.size ∧ src + 8 ≤ h.mem.size := by
  have h1 := wrD_bound cd _ _ _ hk
  have h5 := okMono_wrD cd _ _ _ hk
  have h6 := wrD_bound cd _ _ _ h5
  have h2 := tch_bound _ _ _ (okMono_guard _ _ (okMono_wrD cd _ _ _ h5))
  rw [wrD_mem_size] at h1
  simp [ModuleHeap.guard, tch, Heap.touch, rdD, Heap.readLimb] at h1 h6
  exact ⟨h6, h1, h2⟩
theorem kMul_bound (c : Module.Parts α) (cd : Cells γ α) (r a b : Nat) (h : Heap γ)
    (hk : (kMul c cd r a b h).ok = true) : a + c.nn ≤ h.mem.size ∧ b + c.nn ≤ h.mem.size := by
  have h3 := okMono_guard _ _ (okMono_wrD cd _ _ _ hk)
  have h2 := tch_bound _ _ _ h3
  have h4 := tch_bound _ _ _ (okMono_tch _ _ _ h3)
  simp [tch, Heap.touch] at h2
  exact ⟨h4, h2⟩
theorem kAddmul_bound (c : Module.Parts α) (cd : Cells γ α) (r a b : Nat) (h : Heap γ)
    (hk : (kAddmul c cd r a b h).ok = true) :
    r + c.nn ≤ h.mem.size ∧ a + c.nn ≤ h.mem.size ∧ b + c.nn ≤ h.mem.size := by
  have h3 := okMono_guard _ _ (okMono_wrD cd _ _ _ hk)
  have h2 := tch_bound _ _ _ h3
  have h4 := tch_bound _ _ _ (okMono_tch _ _ _ h3)
  have h5 := tch_bound _ _ _ (okMono_tch _ _ _ (okMono_tch _ _ _ h3))
  simp [tch, Heap.touch] at h2 h4
  exact ⟨h5, h4, h2⟩

theorem kMul_bound_r (c : Module.Parts α) (cd : Cells γ α) (r a b : Nat) (h : Heap γ)
    (hk : (kMul c cd r a b h).ok = true) : r + c.nn ≤ h.mem.size := by
  have h1 := wrD_bound cd _ _ _ hk
  rw [ModuleHeap.size_mul] at h1
  simpa [ModuleHeap.guard, tch, Heap.touch] using h1

/-! ### statement fragments of the module layer run on the arena -/

/-- an opaque call whose semantics is the model's kernel call `k` on the arena -/
theorem execK_extcall_arena (K : ExtSem) (Γ : List Ptr) (name : String) (sargs : List Expr)
    (pargs : List (PBase × Expr)) (f : Nat) (env : List Int) (m0 : Mem) (B : Nat) (hB : B < m0.size)
    (H : Heap Int) (k : Heap Int → Heap Int) (vs : List Int) (ps : List Ptr)
    (hs : evalList Γ ⟨env, m0.setIfInBounds B H.mem⟩ sargs = .ok vs)
    (hp : evalPtrs Γ ⟨env, m0.setIfInBounds B H.mem⟩ pargs = .ok ps)
    (hK : K name vs ps (m0.setIfInBounds B H.mem) = onArena B k (m0.setIfInBounds B H.mem))
    (hH : H.ok = true) (hk : (k H).ok = true) :
    execK K Γ (.extcall name sargs pargs) f ⟨env, m0.setIfInBounds B H.mem⟩
      = .ok (.norm, ⟨env, m0.setIfInBounds B (k H).mem⟩) := by
  rw [execK_extcall, hs, hp, R.bind_ok, R.bind_ok, hK, onArena_ok B k m0 H hB hH hk]
  rfl

/-- a pointer local set to a non-null pointer -/
theorem execK_passign_some (K : ExtSem) (Γ : List Ptr) (s : Nat) (b : PBase) (o : Expr) (f : Nat) (σ : State)
    (v : Int) (bf off : Nat) (hv : eval Γ σ o = .ok v) (hp : ptrAt Γ σ.env b v = .ok (some (bf, off))) :
    execK K Γ (.passign s b o) f σ
      = .ok (.norm, ⟨lset (lset σ.env s (bf : Int)) (s + 1) (off : Int), σ.mem⟩) := by
  rw [execK_passign, hv, R.bind_ok, hp]
  rfl

/-- a pointer local set to `q + o` for a pointer local `q` of the arena and a `uint64_t` offset `o` followed on its
    exact value `n`: the offset slot holds `off + n mod 2 ^ 64` -/
theorem execK_passign_pvarU (K : ExtSem) (Γ : List Ptr) (s sb : Nat) (o : Expr) (f : Nat) (σ : State) (n bf off : Nat)
    (hv : EvU Γ σ o n) (h1 : lget σ.env sb = (bf : Int)) (h2 : lget σ.env (sb + 1) = (off : Int)) :
    execK K Γ (.passign s (.pvar sb) o) f σ
      = .ok (.norm, ⟨lset (lset σ.env s (bf : Int)) (s + 1) ((off + n % 18446744073709551616 : Nat) : Int), σ.mem⟩) :=
  execK_passign_some K Γ s (.pvar sb) o f σ _ bf _ hv (ptrAt_pvar_off Γ σ.env sb bf off _ _ rfl h1 h2)

theorem execK_assign_ok (K : ExtSem) (Γ : List Ptr) (x : Nat) (e : Expr) (f : Nat) (σ : State) (v : Int)
    (hv : eval Γ σ e = .ok v) : execK K Γ (.assign x e) f σ = .ok (.norm, ⟨lset σ.env x v, σ.mem⟩) := by
  rw [execK_assign, hv]
  rfl

/-- the test `a == b` on two values that are natural numbers -/
theorem evalB_eq_nat (Γ : List Ptr) (σ : State) (e1 e2 : Expr) (a b : Nat) (h1 : eval Γ σ e1 = .ok (a : Int))
    (h2 : eval Γ σ e2 = .ok (b : Int)) : evalB Γ (.bin .eq .u64 e1 e2) σ = .ok (decide (a = b)) := by
  rw [evalB_def, eval_bin, h1, h2, R.bind_ok, R.bind_ok, evalBin_eq_u64, R.bind_ok, decide_b2i_ne_zero]
  exact congrArg R.ok (decide_eq_decide.mpr Int.ofNat_inj)

/-- the test `a >= b` on two values that are natural numbers -/
theorem evalB_ge_nat (Γ : List Ptr) (σ : State) (e1 e2 : Expr) (a b : Nat) (h1 : eval Γ σ e1 = .ok (a : Int))
    (h2 : eval Γ σ e2 = .ok (b : Int)) : evalB Γ (.bin .ge .u64 e1 e2) σ = .ok (decide (b ≤ a)) := by
  rw [evalB_def, eval_bin, h1, h2, R.bind_ok, R.bind_ok, evalBin_ge_u64, R.bind_ok, decide_b2i_ne_zero]
  exact congrArg R.ok (decide_eq_decide.mpr Int.ofNat_le)

/-- the test `p && q` -/
theorem evalB_land (Γ : List Ptr) (σ : State) (a b : Expr) (p q : Prop) [Decidable p] [Decidable q]
    (ha : evalB Γ a σ = .ok (decide p)) (hb : evalB Γ b σ = .ok (decide q)) :
    evalB Γ (.land a b) σ = .ok (decide (p ∧ q)) := by
  rw [evalB_def] at ha hb ⊢
  rw [eval_land]
  cases ea : eval Γ σ a with
  | err e => rw [ea] at ha; cases ha
  | ok x =>
    rw [ea, R.bind_ok] at ha
    cases eb : eval Γ σ b with
    | err e => rw [eb] at hb; cases hb
    | ok y =>
      rw [eb, R.bind_ok] at hb
      injection ha with ha
      injection hb with hb
      by_cases hx : x = 0 <;> by_cases hy : y = 0 <;> simp_all

/-- the test `n % 2 == 1` -/
theorem evalB_odd (Γ : List Ptr) (σ : State) (e : Expr) (n : Nat) (h : eval Γ σ e = .ok (n : Int)) :
    evalB Γ (.bin .eq .u64 (.bin .mod .u64 e (.cast .u64 (.lit 2))) (.cast .u64 (.lit 1))) σ
      = .ok (decide (n % 2 = 1)) := by
  simp only [evalB_def, eval_bin, h, eval_cast, eval_lit, R.bind_ok, wrap_u64, evalBin_mod_u64, evalBin_eq_u64]
  rw [if_neg (by decide), R.bind_ok, R.bind_ok, decide_b2i_ne_zero]
  exact congrArg R.ok (decide_eq_decide.mpr (show (n : Int) % 2 = 1 ↔ n % 2 = 1 by omega))

/-- a `for` statement against the model's `loop n kb` on the arena, for any way of counting: `cE` holds exactly at the
    head of the first `n` iterations, `js := incE` ends an iteration.  `P k env`: what is known of the slots at the head
    of iteration `k`; the body is run on an arbitrary arena `H` of the right size on which the model's step `kb k` stays
    `ok`, so the caller never names the intermediate heaps. -/
theorem arena_loop (K : ExtSem) (Γ : List Ptr) (js : Nat) (e0 cE incE : Expr) (body : Stmt) (m0 : Mem) (B : Nat)
    (kb : Nat → Heap Int → Heap Int) (hkb : ∀ i, OkMono (kb i)) (hsz : ∀ i h, (kb i h).mem.size = h.mem.size)
    (n fb : Nat) (H0 : Heap Int) (hok : (loop n kb H0).ok = true)
    (P : Nat → List Int → Prop) (env0 : List Int) (v0 : Int)
    (he0 : eval Γ ⟨env0, m0.setIfInBounds B H0.mem⟩ e0 = .ok v0) (hP0 : P 0 (lset env0 js v0))
    (hc : ∀ k env m, k ≤ n → P k env → evalB Γ cE ⟨env, m⟩ = .ok (decide (k < n)))
    (hbody : ∀ k env H, k < n → P k env → H.ok = true → H.mem.size = H0.mem.size → (kb k H).ok = true →
      ∀ f, fb ≤ f → ∃ fl env' v, execK K Γ body f ⟨env, m0.setIfInBounds B H.mem⟩
          = .ok (fl, ⟨env', m0.setIfInBounds B (kb k H).mem⟩) ∧ fl ≠ .ret ∧
        (∀ m, eval Γ ⟨env', m⟩ incE = .ok v) ∧ P (k + 1) (lset env' js v)) :
    ∀ f, n + fb ≤ f → ∃ σ', execK K Γ (.for (.assign js e0) cE (.assign js incE) body) f
        ⟨env0, m0.setIfInBounds B H0.mem⟩
      = .ok (.norm, σ') ∧ σ'.mem = m0.setIfInBounds B (loop n kb H0).mem ∧ P n σ'.env := by
  intro f hf
  have hpre : ∀ k, k ≤ n → (loop k kb H0).ok = true := fun k hk => loop_ok_prefix kb hkb H0 n k hk hok
  have hsize : ∀ k, (loop k kb H0).mem.size = H0.mem.size := fun k => size_loop k kb hsz H0
  have h := execK_for_inv K Γ (.assign js e0) cE (.assign js incE) body ⟨env0, m0.setIfInBounds B H0.mem⟩
    (fun k σ => ∃ env, σ = ⟨env, m0.setIfInBounds B (loop k kb H0).mem⟩ ∧ P k env) 0 n fb (Nat.zero_le _)
    ?hi0 ?hstep ?hx f hf
  · obtain ⟨σ', h1, env', rfl, hP'⟩ := h
    exact ⟨_, h1, rfl, hP'⟩
  case hi0 =>
    intro f
    exact ⟨_, by rw [execK_assign, he0]; rfl, _, rfl, hP0⟩
  case hx =>
    rintro _ ⟨env, rfl, hPk⟩
    rw [hc n env _ (Nat.le_refl n) hPk]
    exact ok_decide_false (Nat.lt_irrefl n)
  case hstep =>
    rintro k _ _ hk ⟨env, rfl, hPk⟩
    refine ⟨by rw [hc k env _ (Nat.le_of_lt hk) hPk]; exact ok_decide_true hk, fun f hf => ?_⟩
    have hk1 := hpre (k + 1) hk
    rw [loop_succ] at hk1
    obtain ⟨fl, env', v, hb, hfl, hv, hP1⟩ := hbody k env _ hk hPk (hpre k (Nat.le_of_lt hk)) (hsize k) hk1 f hf
    refine ⟨⟨lset env' js v, m0.setIfInBounds B (loop (k + 1) kb H0).mem⟩, ?_, _, rfl, hP1⟩
    rw [hb, loop_succ]
    have hinc : execK K Γ (.assign js incE) f ⟨env', m0.setIfInBounds B (kb k (loop k kb H0)).mem⟩
        = .ok (.norm, ⟨lset env' js v, m0.setIfInBounds B (kb k (loop k kb H0)).mem⟩) := by
      rw [execK_assign, hv]
      rfl
    cases fl with
    | norm => exact hinc
    | cont => exact hinc
    | ret => exact absurd rfl hfl

/-- `memset(p, 0, 8 * n)` (the translated call of the libc function) on the arena -/
theorem execK_memset_arena (K : ExtSem) (Γ : List Ptr) (ty : Ty) (e0 eb : Expr) (pe : PBase × Expr) (f : Nat)
    (env : List Int) (m0 : Mem) (B : Nat) (hB : B < m0.size) (M : Array Int) (p n : Nat)
    (hty : ty.bits = 64) (hpat : memsetPattern ty 0 = 0)
    (hs : evalList Γ ⟨env, m0.setIfInBounds B M⟩ [e0, eb] = .ok [0, ((8 * n : Nat) : Int)])
    (hp : evalPtrs Γ ⟨env, m0.setIfInBounds B M⟩ [pe] = .ok [some (B, p)]) (hb : p + n ≤ M.size) :
    execK K Γ (.call (.memset 0 ty (.var 0) (.var 1)) 2 [e0, eb] [pe]) f ⟨env, m0.setIfInBounds B M⟩
      = .ok (.norm, ⟨env, m0.setIfInBounds B (Heap.writeArr M p (Array.replicate n 0))⟩) := by
  rw [execK_call, hs, hp, R.bind_ok, R.bind_ok, execK_memset]
  simp only [eval_var, lget_zero, lget_succ, List.cons_append, R.bind_ok, List.getD_cons_zero]
  rw [memset_arena m0 B hB M p n ty hty hpat hb]
  rfl

theorem execK_zeroD_arena (K : ExtSem) (Γ : List Ptr) (c : Module.Parts α) (cd : Cells Int α)
    (hz : cd.enc c.ar.zero = 0) (e0 eb : Expr) (pe : PBase × Expr) (f : Nat)
    (env : List Int) (m0 : Mem) (B : Nat) (hB : B < m0.size) (H : Heap Int) (p n : Nat)
    (hs : evalList Γ ⟨env, m0.setIfInBounds B H.mem⟩ [e0, eb] = .ok [0, ((8 * n : Nat) : Int)])
    (hp : evalPtrs Γ ⟨env, m0.setIfInBounds B H.mem⟩ [pe] = .ok [some (B, p)])
    (hk : (kZeroD c cd p n H).ok = true) :
    execK K Γ (.call (.memset 0 .f64 (.var 0) (.var 1)) 2 [e0, eb] [pe]) f ⟨env, m0.setIfInBounds B H.mem⟩
      = .ok (.norm, ⟨env, m0.setIfInBounds B (kZeroD c cd p n H).mem⟩) := by
  rw [execK_memset_arena K Γ .f64 e0 eb pe f env m0 B hB H.mem p n rfl rfl hs hp (kZeroD_bound c cd p n H hk),
    kZeroD_mem, hz]

theorem execK_zeroI_arena (K : ExtSem) (Γ : List Ptr) (cd : Cells Int α)
    (hzI : cd.encI 0 = 0) (e0 eb : Expr) (pe : PBase × Expr) (f : Nat)
    (env : List Int) (m0 : Mem) (B : Nat) (hB : B < m0.size) (H : Heap Int) (p n : Nat)
    (hs : evalList Γ ⟨env, m0.setIfInBounds B H.mem⟩ [e0, eb] = .ok [0, ((8 * n : Nat) : Int)])
    (hp : evalPtrs Γ ⟨env, m0.setIfInBounds B H.mem⟩ [pe] = .ok [some (B, p)])
    (hk : (kZeroI cd p n H).ok = true) :
    execK K Γ (.call (.memset 0 .i64 (.var 0) (.var 1)) 2 [e0, eb] [pe]) f ⟨env, m0.setIfInBounds B H.mem⟩
      = .ok (.norm, ⟨env, m0.setIfInBounds B (kZeroI cd p n H).mem⟩) := by
  rw [execK_memset_arena K Γ .i64 e0 eb pe f env m0 B hB H.mem p n rfl rfl hs hp (kZeroI_bound cd p n H hk),
    kZeroI_mem, hzI]
end Spq.Src
