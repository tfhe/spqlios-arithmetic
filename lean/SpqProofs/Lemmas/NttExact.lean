/-
  Exact (commutative-ring) counterparts of the q120 NTT passes, as functions of the index, and their
  algebra: each inverse level undoes the corresponding forward level up to the factor 2, passes are linear,
  a pass only reads its own block; whole transforms as lists of levels (`exFwdAll`, `exInvAll`) and the one fold
  `exRun` behind them.  Nothing here mentions the machine model.
-/
import Mathlib.Tactic.Ring
import Mathlib.Tactic.LinearCombination
import Mathlib.Algebra.Ring.Basic

namespace Spq.Q120Ntt

/-- kind of one pass of the schedule: pointwise multiplication by the twist words (with or without a modular
    folding of the input), forward (DIF) butterfly level, inverse (DIT) butterfly level -/
inductive Kind where
  | twist (red : Bool)
  | fwd
  | inv
deriving DecidableEq, Repr

variable {K : Type} [CommRing K]

def exTwist (τ : Nat → K) (g : Nat → K) (i : Nat) : K := g i * τ i

/-- DIF level on blocks of `nn`: `(a, b) ↦ (a + b, (a - b) * τ_{j-1})`, factor `1` at `j = 0` -/
def exFwd (nn : Nat) (τ : Nat → K) (g : Nat → K) (i : Nat) : K :=
  if i % nn < nn / 2 then g i + g (i + nn / 2)
  else (g (i - nn / 2) - g i) * (if i % nn = nn / 2 then 1 else τ (i % nn - nn / 2 - 1))

/-- DIT level on blocks of `nn`: `(a, b) ↦ (a + b * τ_{j-1}, a - b * τ_{j-1})`, factor `1` at `j = 0` -/
def exInv (nn : Nat) (τ : Nat → K) (g : Nat → K) (i : Nat) : K :=
  if i % nn < nn / 2 then g i + g (i + nn / 2) * (if i % nn = 0 then 1 else τ (i % nn - 1))
  else g (i - nn / 2) - g i * (if i % nn = nn / 2 then 1 else τ (i % nn - nn / 2 - 1))

def exL (k : Kind) (nn : Nat) (τ : Nat → K) (g : Nat → K) : Nat → K :=
  match k with
  | .twist _ => exTwist τ g
  | .fwd => exFwd nn τ g
  | .inv => exInv nn τ g

theorem idx_add_half {n nn i : Nat} (hdiv : nn ∣ n) (hi : i < n) (hj : i % nn < nn / 2) : i + nn / 2 < n := by
  obtain ⟨d, rfl⟩ := hdiv
  have hnn : 0 < nn := by
    rcases Nat.eq_zero_or_pos nn with h | h
    · subst h; simp at hi
    · exact h
  have h1 : i / nn < d := Nat.div_lt_of_lt_mul hi
  have h2 : nn * (i / nn) + i % nn = i := Nat.div_add_mod i nn
  have h3 : nn * (i / nn + 1) ≤ nn * d := Nat.mul_le_mul_left _ h1
  have h4 : nn / 2 + nn / 2 ≤ nn := by omega
  rw [Nat.mul_add, Nat.mul_one] at h3
  omega

theorem blk_mod_lo {H c r : Nat} (hr : r < H) : (c * (2 * H) + r) % (2 * H) = r := by
  rw [Nat.add_comm, Nat.add_mul_mod_self_right, Nat.mod_eq_of_lt (by omega)]

theorem blk_mod_hi {H c r : Nat} (hr : r < H) : (c * (2 * H) + r + H) % (2 * H) = r + H := by
  rw [Nat.add_assoc, Nat.add_comm, Nat.add_mul_mod_self_right, Nat.mod_eq_of_lt (by omega)]

theorem blk_cases {H : Nat} (hH : 0 < H) (i : Nat) :
    ∃ c r, r < H ∧ (i = c * (2 * H) + r ∨ i = c * (2 * H) + r + H) := by
  have h1 := Nat.div_add_mod i (2 * H)
  have h2 := Nat.mod_lt i (show 0 < 2 * H by omega)
  by_cases h : i % (2 * H) < H
  · exact ⟨i / (2 * H), i % (2 * H), h, Or.inl (by rw [Nat.mul_comm]; omega)⟩
  · exact ⟨i / (2 * H), i % (2 * H) - H, by omega, Or.inr (by rw [Nat.mul_comm]; omega)⟩

/-! ### the butterflies in block coordinates: block `c` of `2 * H` cells, offset `r < H` -/

theorem exFwd_lo {H : Nat} (τ g : Nat → K) (c r : Nat) (hr : r < H) :
    exFwd (2 * H) τ g (c * (2 * H) + r) = g (c * (2 * H) + r) + g (c * (2 * H) + r + H) := by
  simp only [exFwd, blk_mod_lo hr, Nat.mul_div_cancel_left H (by norm_num : 0 < 2), if_pos hr]

theorem exFwd_hi {H : Nat} (τ g : Nat → K) (c r : Nat) (hr : r < H) :
    exFwd (2 * H) τ g (c * (2 * H) + r + H)
      = (g (c * (2 * H) + r) - g (c * (2 * H) + r + H)) * (if r = 0 then 1 else τ (r - 1)) := by
  simp only [exFwd, blk_mod_hi hr, Nat.mul_div_cancel_left H (by norm_num : 0 < 2), if_neg (show ¬ r + H < H by omega),
    Nat.add_sub_cancel, Nat.add_eq_right]

theorem exInv_lo {H : Nat} (τ g : Nat → K) (c r : Nat) (hr : r < H) :
    exInv (2 * H) τ g (c * (2 * H) + r)
      = g (c * (2 * H) + r) + g (c * (2 * H) + r + H) * (if r = 0 then 1 else τ (r - 1)) := by
  simp only [exInv, blk_mod_lo hr, Nat.mul_div_cancel_left H (by norm_num : 0 < 2), if_pos hr]

theorem exInv_hi {H : Nat} (τ g : Nat → K) (c r : Nat) (hr : r < H) :
    exInv (2 * H) τ g (c * (2 * H) + r + H)
      = g (c * (2 * H) + r) - g (c * (2 * H) + r + H) * (if r = 0 then 1 else τ (r - 1)) := by
  simp only [exInv, blk_mod_hi hr, Nat.mul_div_cancel_left H (by norm_num : 0 < 2), if_neg (show ¬ r + H < H by omega),
    Nat.add_sub_cancel, Nat.add_eq_right]

theorem exL_congr (k : Kind) {n nn : Nat} (hdiv : nn ∣ n) (τ : Nat → K) (g g' : Nat → K)
    (h : ∀ i < n, g i = g' i) : ∀ i < n, exL k nn τ g i = exL k nn τ g' i := by
  intro i hi
  cases k with
  | twist r => simp only [exL, exTwist, h i hi]
  | fwd =>
    simp only [exL, exFwd]
    split
    · rename_i hj; rw [h i hi, h _ (idx_add_half hdiv hi hj)]
    · rw [h i hi, h (i - nn / 2) (by omega)]
  | inv =>
    simp only [exL, exInv]
    split
    · rename_i hj; rw [h i hi, h _ (idx_add_half hdiv hi hj)]
    · rw [h i hi, h (i - nn / 2) (by omega)]

theorem exL_add (k : Kind) (nn : Nat) (τ : Nat → K) (g g' : Nat → K) (i : Nat) :
    exL k nn τ (fun j => g j + g' j) i = exL k nn τ g i + exL k nn τ g' i := by
  cases k <;> simp only [exL, exTwist, exFwd, exInv] <;> (try split) <;> ring

theorem exL_smul (k : Kind) (nn : Nat) (τ : Nat → K) (c : K) (g : Nat → K) (i : Nat) :
    exL k nn τ (fun j => c * g j) i = c * exL k nn τ g i := by
  cases k <;> simp only [exL, exTwist, exFwd, exInv] <;> (try split) <;> ring

theorem exInv_exFwd (nn : Nat) (hnn : nn = 2 * (nn / 2)) (hnnpos : 0 < nn) (τ τ' : Nat → K) (hτ : ∀ t, τ t * τ' t = 1)
    (g : Nat → K) (i : Nat) : exInv nn τ' (exFwd nn τ g) i = 2 * g i := by
  obtain ⟨H, rfl⟩ : ∃ H, nn = 2 * H := ⟨nn / 2, hnn⟩
  obtain ⟨c, r, hr, rfl | rfl⟩ := blk_cases (H := H) (by omega) i
  · rw [exInv_lo _ _ _ _ hr, exFwd_lo _ _ _ _ hr, exFwd_hi _ _ _ _ hr]
    split
    · ring
    · linear_combination (g (c * (2 * H) + r) - g (c * (2 * H) + r + H)) * hτ (r - 1)
  · rw [exInv_hi _ _ _ _ hr, exFwd_lo _ _ _ _ hr, exFwd_hi _ _ _ _ hr]
    split
    · ring
    · linear_combination (-(g (c * (2 * H) + r) - g (c * (2 * H) + r + H))) * hτ (r - 1)

/-- forward levels, first element applied first -/
def exFwdAll : List (Nat × (Nat → K)) → (Nat → K) → (Nat → K)
  | [], g => g
  | s :: ls, g => exFwdAll ls (exFwd s.1 s.2 g)

/-- inverse levels, LAST element applied first (so that the list is in the forward order) -/
def exInvAll : List (Nat × (Nat → K)) → (Nat → K) → (Nat → K)
  | [], g => g
  | s :: ls, g => exInv s.1 s.2 (exInvAll ls g)

theorem exInvAll_exFwdAll_map (l : List Nat) (T T' : Nat → Nat → K)
    (h : ∀ nn ∈ l, nn = 2 * (nn / 2) ∧ 0 < nn ∧ ∀ t, T nn t * T' nn t = 1) (g : Nat → K) :
    exInvAll (l.map fun nn => (nn, T' nn)) (exFwdAll (l.map fun nn => (nn, T nn)) g)
      = fun i => (2 : K) ^ l.length * g i := by
  induction l generalizing g with
  | nil => funext i; simp [exInvAll, exFwdAll]
  | cons nn l ih =>
    obtain ⟨h2, h2', h3⟩ := h nn (List.mem_cons_self ..)
    simp only [List.map_cons, exInvAll, exFwdAll]
    rw [ih (fun m hm => h m (List.mem_cons_of_mem _ hm))]
    funext i
    rw [show exInv nn (T' nn) (fun j => (2 : K) ^ l.length * exFwd nn (T nn) g j) i
        = (2 : K) ^ l.length * exInv nn (T' nn) (exFwd nn (T nn) g) i from exL_smul .inv nn _ _ _ i,
      exInv_exFwd nn h2 h2' (T nn) (T' nn) h3, List.length_cons, pow_succ]
    ring

/-! ### one way to compose passes

  The compositions the statements use (`exFwdAll`, `exInvAll` here, `exAll` over machine levels in `NttCert`) are each
  `exRun` of a `map`, so additivity, homogeneity, locality and splitting over `++` are proved for `exRun` only. -/

/-- a pass: kind, block size, multipliers -/
abbrev XStep (K : Type) := Kind × Nat × (Nat → K)

/-- the passes one after the other, first element applied first -/
def exRun : List (XStep K) → (Nat → K) → (Nat → K)
  | [], g => g
  | s :: ls, g => exRun ls (exL s.1 s.2.1 s.2.2 g)

theorem exRun_append (l1 l2 : List (XStep K)) (g : Nat → K) : exRun (l1 ++ l2) g = exRun l2 (exRun l1 g) := by
  induction l1 generalizing g with
  | nil => rfl
  | cons s l ih => exact ih _

theorem exRun_add (ls : List (XStep K)) (g g' : Nat → K) :
    exRun ls (fun j => g j + g' j) = fun i => exRun ls g i + exRun ls g' i := by
  induction ls generalizing g g' with
  | nil => rfl
  | cons s ls ih =>
    simp only [exRun]
    rw [show exL s.1 s.2.1 s.2.2 (fun j => g j + g' j) = fun i => exL s.1 s.2.1 s.2.2 g i + exL s.1 s.2.1 s.2.2 g' i
      from funext (exL_add _ _ _ g g'), ih]

theorem exRun_smul (ls : List (XStep K)) (c : K) (g : Nat → K) :
    exRun ls (fun j => c * g j) = fun i => c * exRun ls g i := by
  induction ls generalizing g with
  | nil => rfl
  | cons s ls ih =>
    simp only [exRun]
    rw [show exL s.1 s.2.1 s.2.2 (fun j => c * g j) = fun i => c * exL s.1 s.2.1 s.2.2 g i
      from funext (exL_smul _ _ _ c g), ih]

theorem exRun_congr (n : Nat) (ls : List (XStep K)) (hdiv : ∀ s ∈ ls, s.2.1 ∣ n) (g g' : Nat → K)
    (h : ∀ i < n, g i = g' i) : ∀ i < n, exRun ls g i = exRun ls g' i := by
  induction ls generalizing g g' with
  | nil => exact h
  | cons s ls ih =>
    exact ih (fun t ht => hdiv t (List.mem_cons_of_mem _ ht)) _ _
      (exL_congr s.1 (hdiv s (List.mem_cons_self ..)) s.2.2 g g' h)

theorem exFwdAll_eq (ls : List (Nat × (Nat → K))) (g : Nat → K) :
    exFwdAll ls g = exRun (ls.map fun s => (Kind.fwd, s.1, s.2)) g := by
  induction ls generalizing g with
  | nil => rfl
  | cons s ls ih => exact ih _

theorem exInvAll_eq (ls : List (Nat × (Nat → K))) (g : Nat → K) :
    exInvAll ls g = exRun (ls.reverse.map fun s => (Kind.inv, s.1, s.2)) g := by
  induction ls generalizing g with
  | nil => rfl
  | cons s ls ih =>
    simp only [exInvAll, List.reverse_cons, List.map_append, exRun_append, ih]
    rfl

end Spq.Q120Ntt
