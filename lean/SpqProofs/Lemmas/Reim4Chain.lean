/-
  C17: the accumulating reim4 kernels read through their cells.  The cells are the accumulation recurrences of
  `VmpErrDot.lean` on the lane data (`dotAt_cells`, `mat1colAvx2_cells`, `VmpErr.mat2colsAvx2_cells`), so the exact sums
  are `dot_ofRing` (in C17); here are the cells the AVX2 kernels leave alone and the standard-model error bounds, the
  forward reading `PSum.err` of the perturbed sums of `VmpErrDotErr.lean`:
      |computed − Σ x_i| ≤ ((1+u)^(n+2) − 1) · Σ (|a_i c_i| + |b_i d_i|)
  — the usual `γ_{n+2}`-type bound ("a few units of rounding" relative to `Σ|u_i||v_i|`).
-/
import SpqProofs.Lemmas.VmpErrCells
import SpqProofs.Lemmas.VmpErrDotErr
namespace Spq.Reim4
open Finset Spq.VmpErr

section frame
variable {α : Type}

/-- the AVX2 product kernels end in two (four) register stores at the cells `0..7` (`0..15`) -/
theorem mat1colAvx2_frame (ar : RArith α) (n : Nat) (dst u v : Array α) (x : Nat) (hx : 8 ≤ x) (z : α) :
    (vecMat1colProductAvx2 ar n dst u v).getD x z = dst.getD x z := by
  unfold vecMat1colProductAvx2
  rw [V4.getD_store_out _ _ _ _ _ (by omega), V4.getD_store_out _ _ _ _ _ (by omega)]

theorem mat2colsAvx2_frame (ar : RArith α) (n : Nat) (dst u v : Array α) (x : Nat) (hx : 16 ≤ x) (z : α) :
    (vecMat2colsProductAvx2 ar n dst u v).getD x z = dst.getD x z := by
  unfold vecMat2colsProductAvx2
  rw [V4.getD_store_out _ _ _ _ _ (by omega), V4.getD_store_out _ _ _ _ _ (by omega),
    V4.getD_store_out _ _ _ _ _ (by omega), V4.getD_store_out _ _ _ _ _ (by omega)]

end frame

variable {K : Type} [Field K] [LinearOrder K] [IsStrictOrderedRing K]

theorem dotAt_err (ar : RArith K) (ε : K) (sm : StdModel ar ε) (n d : Nat) (uo vo : Nat → Nat) (dst u v : Array K)
    (hb : d + 8 ≤ dst.size) (k : Nat) (hk : k < 4) :
    |(Nat.fold n (fun t _ dst => addMulAt ar dst d u (uo t) v (vo t)) (zeroAt ar dst d)).getD (d + k) 0 -
        ∑ t ∈ range n, reX 0 u v (uo t + k) (vo t + k)| ≤
      ((1 + ε) ^ (n + 2) - 1) * ∑ t ∈ range n, reM 0 u v (uo t + k) (vo t + k) ∧
    |(Nat.fold n (fun t _ dst => addMulAt ar dst d u (uo t) v (vo t)) (zeroAt ar dst d)).getD (d + k + 4) 0 -
        ∑ t ∈ range n, imX 0 u v (uo t + k) (vo t + k)| ≤
      ((1 + ε) ^ (n + 2) - 1) * ∑ t ∈ range n, imM 0 u v (uo t + k) (vo t + k) := by
  obtain ⟨_, c, _⟩ := dotAt_cells ar n d uo vo dst u v hb
  obtain ⟨p1, p2⟩ := ref_psum ar ε sm (laneA 0 u uo k) (laneA 0 u uo (k + 4)) (laneA 0 v vo k) (laneA 0 v vo (k + 4)) n
  have c' := c k hk
  rw [sm.zero] at c'
  rw [c'.1, c'.2]
  exact ⟨p1.err, p2.err⟩

theorem fmaChain_err (ar : RArith K) (ε : K) (sm : StdModel ar ε) (p q : Nat → K) (n : Nat) :
    |fmaChain ar p q n - ∑ i ∈ range n, p i * q i| ≤ ((1 + ε) ^ n - 1) * ∑ i ∈ range n, |p i * q i| :=
  (chain_psum ar ε sm p q n).err

end Spq.Reim4
