/-
  Bridge, arbitrary `Ops`: if `φ : α → R` carries the operations `o : Ops α` to the operations of a
  commutative ring `R`, the `Ops`-level specification formulas map to the ring formulas.  For wrapping int64
  arithmetic (`i64Ops`) and `φ = (↑) : ℤ → ZMod 2^64` the cast forgets the wrap (`cast_wrapS`).
-/
import SpqProofs.Lemmas.BridgeArr
import Mathlib.Data.ZMod.Basic

namespace Spq.Bridge
open Polynomial Finset Spq.Rq

variable {R : Type} [CommRing R] {α : Type}

/-- `φ` is a homomorphism from the operations `o` to the ring operations of `R` -/
structure OpsHom (o : Ops α) (φ : α → R) : Prop where
  zero : φ o.zero = 0
  neg : ∀ x, φ (o.neg x) = - φ x
  add : ∀ x y, φ (o.add x y) = φ x + φ y
  sub : ∀ x y, φ (o.sub x y) = φ x - φ y

/-- an `α`-array read through `φ` as a function -/
def ofArrVia (o : Ops α) (φ : α → R) (a : Array α) : Nat → R := fun i => φ (a.getD i o.zero)

theorem opsHom_id : OpsHom (ringOps R) (fun x : R => x) := ⟨rfl, fun _ => rfl, fun _ _ => rfl, fun _ _ => rfl⟩

theorem rotCoeff_map (o : Ops α) (φ : α → R) (h : OpsHom o φ) (n : Nat) (p : Int) (a : Array α) (k : Nat) :
    φ (rotCoeff o n p a k) = rot n p (ofArrVia o φ a) k := by
  unfold rotCoeff rot ofArrVia
  split_ifs
  · rfl
  · rw [h.neg]

theorem mulXpCoeff_map (o : Ops α) (φ : α → R) (h : OpsHom o φ) (n : Nat) (p : Int) (a : Array α) (k : Nat) :
    φ (mulXpCoeff o n p a k) = mulxp n p (ofArrVia o φ a) k := by
  unfold mulXpCoeff mulxp
  rw [h.sub, rotCoeff_map o φ h]; rfl

theorem autVal_map (o : Ops α) (φ : α → R) (h : OpsHom o φ) (n : Nat) (p : Int) (a : Array α) (i : Nat) :
    φ (autVal o n p a i) = if autExp n p i < n then ofArrVia o φ a i else - ofArrVia o φ a i := by
  unfold autVal ofArrVia
  split_ifs
  · rfl
  · rw [h.neg]

omit [CommRing R] in
theorem ofArrVia_of_getElem? (o : Ops α) (φ : α → R) (r : Array α) (k : Nat) (v : α)
    (h : r[k]? = some v) : ofArrVia o φ r k = φ v := by
  unfold ofArrVia
  rw [Array.getD_eq_getD_getElem?, h]; rfl

theorem cast_wrapS (x : Int) : ((wrapS x : Int) : ZMod P64) = (x : ZMod P64) := by
  unfold wrapS
  have h63 : ((9223372036854775808 : Int) : ZMod P64) + ((9223372036854775808 : Int) : ZMod P64) = 0 := by
    rw [← Int.cast_add]
    exact_mod_cast ZMod.natCast_self P64
  have := ZMod.intCast_mod (x + 9223372036854775808) P64
  rw [Int.cast_sub, show ((18446744073709551616 : Int)) = ((P64 : Nat) : Int) by rfl, this, Int.cast_add]
  ring

theorem toPoly_ofArrVia_of_spec (o : Ops α) (φ : α → R) (n : Nat) (r : Array α) (F : Nat → α)
    (h : ∀ k, k < n → r[k]? = some (F k)) :
    toPoly n (ofArrVia o φ r) = toPoly n (fun k => φ (F k)) :=
  toPoly_congr n _ _ (fun k hk => ofArrVia_of_getElem? o φ r k _ (h k hk))

end Spq.Bridge
