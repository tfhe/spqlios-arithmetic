/-
  Structural level layer: the level network `VN` whose block `b` of level `(ℓ, d)` uses an ARBITRARY butterfly
  function `g ℓ d b` (no algebra), its inverse `VNI k g y n` (cell `p` after `n` inverse levels, block `b` of step `n`
  running `g (k-1-n) n b`).  `Step gl d A B` is the one thing the two networks have in common — one level of
  butterflies `2^d` apart takes `A` to `B` — and a twiddle pass whose butterflies ARE the `gl` of its block advances
  the block from `A` to `B` (`Step.tw`).  `Chain k lv g X`: a network as `k` such levels in a row; the forward and the
  inverse network are chains that differ in `lv` only (`VN_chain`, `VNI_chain`), so an induction along the levels is
  done once (`Chain.rel` here, `Chain.err` in `FftErrNet`).
  Law-free up to the last section, which reads the two networks through a map `π` into a commutative ring: with
  exact butterflies they are `V` of `FftAlg.lean` and its inverse (`Exact.VN_V`, `Exact.VNI_V`).
-/
import SpqProofs.Lemmas.FftAlg
import SpqProofs.Lemmas.FftView
import SpqProofs.Lemmas.FftLevelInv

namespace Spq.Fft.LevelN
open Spq.Fft Spq.Fft.Alg Spq.Fft.View
-- the block predicate of `FftLevelInv` and its composition lemmas mention no ring law
export Spq.Fft.Level (AdvG AdvG.id AdvG.empty)

variable {β : Type}

/-- the level network with per-block butterflies (same recursion as `V` of `FftAlg.lean` and `VH` of `FftErrNet.lean`) -/
def VN (g : ℕ → ℕ → ℕ → β → β → β × β) (a : ℕ → β) : ℕ → ℕ → ℕ → β
  | 0, _, p => a p
  | ℓ + 1, d, p =>
    if p % (2 * 2 ^ d) < 2 ^ d then
      (g ℓ d (p / (2 * 2 ^ d)) (VN g a ℓ (d + 1) p) (VN g a ℓ (d + 1) (p + 2 ^ d))).1
    else (g ℓ d (p / (2 * 2 ^ d)) (VN g a ℓ (d + 1) (p - 2 ^ d)) (VN g a ℓ (d + 1) p)).2

/-- `B` is `A` after one level of butterflies on cells `2^d` apart, block `b` (of `2·2^d` cells) running `gl b`.  Both
    networks step this way (`VN_step`, `VNI_step`), so a pass is related to either through this alone. -/
def Step (gl : ℕ → β → β → β × β) (d : ℕ) (A B : ℕ → β) : Prop :=
  ∀ p, B p = if p % (2 * 2 ^ d) < 2 ^ d then (gl (p / (2 * 2 ^ d)) (A p) (A (p + 2 ^ d))).1
    else (gl (p / (2 * 2 ^ d)) (A (p - 2 ^ d)) (A p)).2

theorem Step.tw {gl : ℕ → β → β → β × β} {d : ℕ} {A B : ℕ → β} (hL : Step gl d A B) (x : ℕ → β) (b off : ℕ)
    (hoff : off = 2 * 2 ^ d * b) (gb : β → β → β × β) (hq : gb = gl b) :
    AdvG A B x (twG (fun u v => (gb u v).1) (fun u v => (gb u v).2) (2 ^ d) off x) off (2 * 2 ^ d) := by
  subst hq
  refine ⟨fun hx p hp hp' => ?_, fun p hp => twG_out _ _ _ _ _ _ (by omega)⟩
  obtain ⟨hr, hb⟩ := pos_off hoff hp hp'
  rw [hL p, hb, hr]
  by_cases hlt : p - off < 2 ^ d
  · rw [if_pos hlt, twG_lo _ _ _ _ _ _ (by omega), hx p hp (by omega), hx (p + 2 ^ d) (by omega) (by omega)]
  · rw [if_neg hlt, twG_hi _ _ _ _ _ _ (by omega), hx p hp (by omega), hx (p - 2 ^ d) (by omega) (by omega)]

section forward
variable (g : ℕ → ℕ → ℕ → β → β → β × β) (a : ℕ → β)

abbrev AdvN (x y : ℕ → β) (ℓ d ℓ' d' off sz : ℕ) : Prop := AdvG (VN g a ℓ d) (VN g a ℓ' d') x y off sz

theorem VN_step (ℓ d : ℕ) : Step (g ℓ d) d (VN g a ℓ (d + 1)) (VN g a (ℓ + 1) d) := fun _ => by rw [VN]

end forward

/-- the inverse level network with per-block butterflies; `g` is indexed like the forward one: `(ℓ, d, b)` with
`ℓ = k − 1 − n`, `d = n` -/
def VNI (k : ℕ) (g : ℕ → ℕ → ℕ → β → β → β × β) (y : ℕ → β) : ℕ → ℕ → β
  | 0, p => y p
  | n + 1, p =>
    if p % (2 * 2 ^ n) < 2 ^ n then
      (g (k - 1 - n) n (p / (2 * 2 ^ n)) (VNI k g y n p) (VNI k g y n (p + 2 ^ n))).1
    else (g (k - 1 - n) n (p / (2 * 2 ^ n)) (VNI k g y n (p - 2 ^ n)) (VNI k g y n p)).2

section inverse
variable (k : ℕ) (g : ℕ → ℕ → ℕ → β → β → β × β) (y : ℕ → β)

abbrev AdvI (x x' : ℕ → β) (d d' off sz : ℕ) : Prop := AdvG (VNI k g y d) (VNI k g y d') x x' off sz

theorem VNI_step (ℓ d : ℕ) (hℓ : ℓ = k - 1 - d) : Step (g ℓ d) d (VNI k g y d) (VNI k g y (d + 1)) := by
  subst hℓ; exact fun _ => by rw [VNI]

end inverse

section chain
variable {γ δ : Type}

/-- `X 0, …, X k` is a network of `k` levels: level `i` takes `X i` to `X (i + 1)` with the butterflies `g ℓ d`,
    `(ℓ, d) = lv i`.  The forward and the inverse network differ in `lv` only, so what is proved by induction along
    the levels (`Chain.rel`, `FftErr.Chain.err`) is proved once for both. -/
def Chain (k : ℕ) (lv : ℕ → ℕ × ℕ) (g : ℕ → ℕ → ℕ → γ → γ → γ × γ) (X : ℕ → ℕ → γ) : Prop :=
  ∀ i, i < k → Step (g (lv i).1 (lv i).2) (lv i).2 (X i) (X (i + 1))

/-- forward: distances `2^(k-1), …, 1` -/
def lvF (k i : ℕ) : ℕ × ℕ := (i, k - 1 - i)
/-- inverse: distances `1, …, 2^(k-1)` -/
def lvI (k i : ℕ) : ℕ × ℕ := (k - 1 - i, i)

theorem lvF_sum (k i : ℕ) (hi : i < k) : (lvF k i).1 + (lvF k i).2 + 1 = k := by unfold lvF; dsimp only; omega
theorem lvI_sum (k i : ℕ) (hi : i < k) : (lvI k i).1 + (lvI k i).2 + 1 = k := by unfold lvI; dsimp only; omega

/-- a network given by levels `(ℓ, d)`, `ℓ + d = k`, as a chain: the one place where `ℓ + d = k` meets `k - i` -/
theorem Chain.fwd {W : ℕ → ℕ → ℕ → γ} {g : ℕ → ℕ → ℕ → γ → γ → γ × γ} (k : ℕ)
    (h : ∀ ℓ d, Step (g ℓ d) d (W ℓ (d + 1)) (W (ℓ + 1) d)) : Chain k (lvF k) g (fun i => W i (k - i)) := by
  intro i hi
  have e1 : k - i = k - 1 - i + 1 := by omega
  have e2 : k - (i + 1) = k - 1 - i := by omega
  show Step (g i (k - 1 - i)) (k - 1 - i) (W i (k - i)) (W (i + 1) (k - (i + 1)))
  rw [e1, e2]
  exact h i (k - 1 - i)

theorem VN_chain (k : ℕ) (g : ℕ → ℕ → ℕ → γ → γ → γ × γ) (a : ℕ → γ) :
    Chain k (lvF k) g (fun i => VN g a i (k - i)) := Chain.fwd k (VN_step g a)

theorem VNI_chain (k : ℕ) (g : ℕ → ℕ → ℕ → γ → γ → γ × γ) (y : ℕ → γ) :
    Chain k (lvI k) g (fun i => VNI k g y i) := fun i _ => VNI_step k g y _ i rfl

/-- Two chains over the same levels, on the cells of one transform (only the cells `p < 2^k` of `X 0`, `X' 0`
    matter), with a relation that may depend on the level: a butterfly of level `n` takes `Q n` to `Q (n + 1)`.  A unary
    invariant is the case `g' = g`, `X' = X`. -/
theorem Chain.rel {k : ℕ} {lv : ℕ → ℕ × ℕ} (hlv : ∀ i, i < k → (lv i).1 + (lv i).2 + 1 = k)
    (Q : ℕ → γ → δ → Prop) (g : ℕ → ℕ → ℕ → γ → γ → γ × γ) (g' : ℕ → ℕ → ℕ → δ → δ → δ × δ)
    (hg : ∀ n ℓ d b u u' v v', n < k → Q n u u' → Q n v v' →
      Q (n + 1) (g ℓ d b u v).1 (g' ℓ d b u' v').1 ∧ Q (n + 1) (g ℓ d b u v).2 (g' ℓ d b u' v').2)
    {X : ℕ → ℕ → γ} {X' : ℕ → ℕ → δ} (hX : Chain k lv g X) (hX' : Chain k lv g' X')
    (h0 : ∀ p, p < 2 ^ k → Q 0 (X 0 p) (X' 0 p)) : ∀ i, i ≤ k → ∀ p, p < 2 ^ k → Q i (X i p) (X' i p) := by
  intro i
  induction i with
  | zero => intro _; exact h0
  | succ i ih =>
    intro hi p hp
    have ih' := ih (by omega)
    rw [hX i hi p, hX' i hi p]
    split
    · rename_i hlt
      exact (hg _ _ _ _ _ _ _ _ hi (ih' p hp) (ih' _ ((block_lt (hlv i hi) hp).2 hlt))).1
    · exact (hg _ _ _ _ _ _ _ _ hi (ih' _ (Nat.lt_of_le_of_lt (Nat.sub_le _ _) hp)) (ih' p hp)).2

end chain
end Spq.Fft.LevelN

namespace Spq.Fft.Exact
open Spq.Fft Spq.Fft.Alg Spq.Fft.LevelN

section network
variable {R : Type} [CommRing R] {β : Type} (π : β → R) (g : ℕ → ℕ → ℕ → β → β → β × β) (k : ℕ) (ζ : R)

/-- If, seen through `π`, the butterfly of every block of the size-`2^k` transform is `(u, v) ↦ (u + W v, u − W v)` with
the twiddle `W = ζ^twE ℓ d b` of the block, then `VN g` is `V ζ` seen through `π`.  Only the blocks of the transform
count: the `i·ω` butterflies of the odd blocks realise `ζ^twE ℓ d b` only when `ℓ + d + 1 = k` (`twE_odd_block`). -/
theorem VN_V
    (hg : ∀ ℓ d b, ℓ + d + 1 = k → b < 2 ^ ℓ → ∀ u v,
      π (g ℓ d b u v).1 = π u + ζ ^ twE ℓ d b * π v ∧ π (g ℓ d b u v).2 = π u - ζ ^ twE ℓ d b * π v)
    (x : ℕ → β) (a : ℕ → R) (hx : ∀ p, p < 2 ^ k → π (x p) = a p) :
    ∀ ℓ d p, ℓ + d = k → p < 2 ^ k → π (VN g x ℓ d p) = V ζ a ℓ d p := by
  intro ℓ
  induction ℓ with
  | zero => intro d p _ hp; exact hx p hp
  | succ ℓ ih =>
    intro d p hk hp
    have hk' : ℓ + (d + 1) = k := by omega
    obtain ⟨hb, hm⟩ := block_lt (show ℓ + d + 1 = k by omega) hp
    rw [VN, V]
    by_cases hlt : p % (2 * 2 ^ d) < 2 ^ d
    · rw [if_pos hlt, if_pos hlt, (hg ℓ d _ (by omega) hb _ _).1, ih _ _ hk' hp, ih _ _ hk' (hm hlt)]
    · rw [if_neg hlt, if_neg hlt, (hg ℓ d _ (by omega) hb _ _).2, ih _ _ hk' (Nat.lt_of_le_of_lt (Nat.sub_le _ _) hp), ih _ _ hk' hp]

theorem chainI_V
    (hg : ∀ ℓ d b, ℓ + d + 1 = k → b < 2 ^ ℓ → ∃ W', ζ ^ twE ℓ d b * W' = 1 ∧
      ∀ u v, π (g ℓ d b u v).1 = π u + π v ∧ π (g ℓ d b u v).2 = (π u - π v) * W')
    {X : ℕ → ℕ → β} (hX : Chain k (lvI k) g X) (a : ℕ → R) (hy : ∀ q, q < 2 ^ k → π (X 0 q) = V ζ a k 0 q) :
    ∀ n p, n ≤ k → p < 2 ^ k → π (X n p) = 2 ^ n * V ζ a (k - n) n p := by
  intro n
  induction n with
  | zero => intro p _ hp; rw [hy p hp, pow_zero, one_mul, Nat.sub_zero]
  | succ n ih =>
    intro p hn hp
    have hk : k - 1 - n + n + 1 = k := by omega
    obtain ⟨hb, hm⟩ := block_lt hk hp
    have e1 : k - n = k - 1 - n + 1 := by omega
    have e2 : k - (n + 1) = k - 1 - n := by omega
    have hs : Step (g (k - 1 - n) n) n (X n) (X (n + 1)) := hX n (by omega)
    rw [hs p, e2]
    obtain ⟨b, r, hr, rfl | rfl⟩ := cell_cases (2 ^ n) (Nat.two_pow_pos n) p
    · obtain ⟨m1, m2⟩ := pos (2 ^ n) b r (by omega)
      rw [m1] at hm ⊢
      rw [m2] at hb ⊢
      obtain ⟨W', hW, hgb⟩ := hg (k - 1 - n) n _ hk hb
      rw [if_pos hr, (hgb _ _).1, ih _ (by omega) hp, ih _ (by omega) (hm hr), e1, V_lo _ _ _ _ _ _ hr,
        V_hi _ _ _ _ _ _ hr, pow_succ]
      ring
    · obtain ⟨m1, m2⟩ := pos (2 ^ n) b (r + 2 ^ n) (by omega)
      rw [Nat.add_assoc] at hb ⊢
      rw [m2] at hb ⊢
      rw [m1]
      obtain ⟨W', hW, hgb⟩ := hg (k - 1 - n) n _ hk hb
      rw [if_neg (by omega), ← Nat.add_assoc, Nat.add_sub_cancel, (hgb _ _).2, ih _ (by omega) (by omega),
        ih _ (by omega) hp, e1, V_lo _ _ _ _ _ _ hr, V_hi _ _ _ _ _ _ hr, pow_succ]
      linear_combination (2 ^ n * 2 * V ζ a (k - 1 - n) (n + 1) (2 * 2 ^ n * b + r + 2 ^ n)) * hW

theorem VNI_V
    (hg : ∀ ℓ d b, ℓ + d + 1 = k → b < 2 ^ ℓ → ∃ W', ζ ^ twE ℓ d b * W' = 1 ∧
      ∀ u v, π (g ℓ d b u v).1 = π u + π v ∧ π (g ℓ d b u v).2 = (π u - π v) * W')
    (y : ℕ → β) (a : ℕ → R) (hy : ∀ q, q < 2 ^ k → π (y q) = V ζ a k 0 q) :
    ∀ n p, n ≤ k → p < 2 ^ k → π (VNI k g y n p) = 2 ^ n * V ζ a (k - n) n p :=
  chainI_V π g k ζ hg (VNI_chain k g y) a hy

end network

end Spq.Fft.Exact
