/-
  The relation between one region of the arena and the functional `Spq.Module` model that fills a zero-initialised
  array, and the loop rule for it.

  `PRep enc z T G R`: the raw cells `G` hold the encoded value of the functional array `R` on the set `T` of cells
  written so far; off `T` the functional array is still `z` and nothing is said about the raw cells (the C code
  does not clear the result before filling it).  `Rep` adds the frame of the arena.  `sim_fold`: a heap `loop`
  refines a functional range fold for any relation indexed by the written set, if each iteration does; nested
  loops nest.  `fill_refine`: when the written set is a prefix of the region and the rest is `memset`, the region
  is the encoded functional result.
-/
import SpqProofs.Lemmas.ModHeapAgree
namespace Spq.ModuleHeap
open Spq Heap Reim4
variable {γ α : Type}

structure PRep (enc : α → γ) (z : α) (T : Nat → Prop) (G : Array γ) (R : Array α) : Prop where
  size : R.size = G.size
  inT : ∀ x, T x → G[x]? = (R.map enc)[x]?
  outT : ∀ x, ¬ T x → R[x]? = (Array.replicate G.size z)[x]?

theorem PRep.init (enc : α → γ) (z : α) (G : Array γ) : PRep enc z (fun _ => False) G (Array.replicate G.size z) :=
  ⟨by simp, fun _ q => q.elim, fun _ _ => rfl⟩

theorem PRep.congr {enc : α → γ} {z : α} {T T' : Nat → Prop} {G : Array γ} {R : Array α}
    (p : PRep enc z T G R) (h : ∀ x, T x ↔ T' x) : PRep enc z T' G R :=
  ⟨p.size, fun x q => p.inT x ((h x).2 q), fun x q => p.outT x (fun t => q ((h x).1 t))⟩

theorem PRep.write {enc : α → γ} {z : α} {T : Nat → Prop} {G : Array γ} {R : Array α}
    (p : PRep enc z T G R) (off n : Nat) (v : Array α) (hv : v.size = n) :
    PRep enc z (fun x => T x ∨ In off n x) (Module.writeAt G off (v.map enc)) (Module.writeAt R off v) := by
  have hs := p.size
  refine ⟨by rw [Module.size_writeAt, Module.size_writeAt, hs], fun x hx => ?_, fun x hx => ?_⟩
  · rw [Array.getElem?_map, Module.writeAt_eq_writeArr, Module.writeAt_eq_writeArr, getElem?_writeArr, getElem?_writeArr]
    simp only [Array.size_map]
    by_cases hw : off ≤ x ∧ x < off + v.size ∧ x < G.size
    · rw [if_pos hw, if_pos (by omega), Array.getElem?_map]
    · rw [if_neg hw, if_neg (by omega)]
      by_cases hi : In off n x
      · rw [Array.getElem?_eq_none (by unfold In at hi; omega), Array.getElem?_eq_none (by unfold In at hi; omega)]
        rfl
      · rw [p.inT x (hx.resolve_right hi), Array.getElem?_map]
  · rw [Module.writeAt_eq_writeArr, getElem?_writeArr_of_out _ _ _ _ (by unfold In at hx; omega), Module.size_writeAt]
    exact p.outT x (fun q => hx (Or.inl q))

theorem PRep.done {enc : α → γ} {z : α} {T : Nat → Prop} {g g' : Heap γ} {d : γ} {res N : Nat} {R : Array α}
    (p : PRep enc z T (g.readLimb d res N) R) (M n : Nat) (hM : M + n = N) (hT : ∀ x, T x ↔ x < M)
    (fz : Fr (In (res + M) n) g g') (vz : g'.readLimb d (res + M) n = Array.replicate n (enc z)) :
    g'.readLimb d res N = R.map enc := by
  have hsz := p.size
  simp only [size_readLimb] at hsz
  apply Array.ext
  · simp [hsz]
  · intro i h1 h2
    simp only [size_readLimb] at h1
    rw [← Option.some_inj, ← Array.getElem?_eq_getElem, ← Array.getElem?_eq_getElem]
    by_cases hi : i < M
    · have e1 : (g'.readLimb d res N)[i]? = (g.readLimb d res N)[i]? := by
        rw [getElem?_readLimb _ _ _ _ _ h1, getElem?_readLimb _ _ _ _ _ h1]
        simp only [Array.getD_eq_getD_getElem?]
        rw [fz.out (res + i) (by unfold In; omega)]
      rw [e1]
      exact p.inT i ((hT i).2 hi)
    · have e1 : (g'.readLimb d res N)[i]? = (g'.readLimb d (res + M) n)[i - M]? := by
        rw [getElem?_readLimb _ _ _ _ _ h1, getElem?_readLimb _ _ _ _ _ (by omega)]
        congr 2; omega
      rw [e1, vz, Array.getElem?_map, p.outT i (fun q => hi ((hT i).1 q))]
      simp only [size_readLimb]
      rw [Array.getElem?_replicate, Array.getElem?_replicate, if_pos (by omega), if_pos h1]
      rfl

def Rep (cd : Cells γ α) (z : α) (h : Heap γ) (W : Nat → Prop) (reg N : Nat) (T : Nat → Prop) (g : Heap γ) (R : Array α) : Prop :=
  Fr W h g ∧ PRep cd.enc z T (g.readLimb cd.dflt reg N) R

theorem Rep.start (cd : Cells γ α) (z : α) (h : Heap γ) (W : Nat → Prop) (reg N : Nat) :
    Rep cd z h W reg N (fun _ => False) h (Array.replicate N z) := by
  have := PRep.init cd.enc z (h.readLimb cd.dflt reg N)
  simp only [size_readLimb] at this
  exact ⟨Fr.refl _ h, this⟩

theorem Rep.store {cd : Cells γ α} {z : α} {h g g' : Heap γ} {W : Nat → Prop} {reg N : Nat} {T : Nat → Prop} {R : Array α}
    (r : Rep cd z h W reg N T g R) (off n : Nat) (v : Array α)
    (f : Fr (In (reg + off) n) g g') (val : g'.readLimb cd.dflt (reg + off) n = v.map cd.enc)
    (hW : ∀ x, In (reg + off) n x → W x) :
    Rep cd z h W reg N (fun x => T x ∨ In off n x) g' (Module.writeAt R off v) := by
  obtain ⟨fr, p⟩ := r
  have hv : v.size = n := by simpa using (congrArg Array.size val).symm
  refine ⟨(fr.trans f).mono (fun x q => q.elim id (hW x)), ?_⟩
  rw [region_step cd.dflt reg N off n _ f val]
  exact p.write off n v hv

/-- a kernel call that stores zeros in a window the functional side has not written (and will not write): the
    functional array stays as it is -/
theorem Rep.zero {cd : Cells γ α} {z : α} {h g g' : Heap γ} {W : Nat → Prop} {reg N : Nat} {T : Nat → Prop} {R : Array α}
    (r : Rep cd z h W reg N T g R) (off n : Nat)
    (f : Fr (In (reg + off) n) g g') (val : g'.readLimb cd.dflt (reg + off) n = (Array.replicate n z).map cd.enc)
    (hW : ∀ x, In (reg + off) n x → W x) (hT : ∀ x, In off n x → ¬ T x) :
    Rep cd z h W reg N (fun x => T x ∨ In off n x) g' R := by
  have st := r.store off n _ f val hW
  have e : Module.writeAt R off (Array.replicate n z) = R := by
    apply Array.ext
    · simp
    · intro i h1 h2
      rw [← Option.some_inj, ← Array.getElem?_eq_getElem, ← Array.getElem?_eq_getElem, Module.writeAt_eq_writeArr, getElem?_writeArr]
      split
      · next hw =>
        rw [Array.size_replicate] at hw
        have hs := r.2.size
        rw [r.2.outT i (hT i ⟨hw.1, hw.2.1⟩), Array.getElem?_replicate, Array.getElem?_replicate, if_pos (by omega),
          if_pos (by omega)]
      · rfl
  rwa [e] at st

theorem Rep.keep {cd : Cells γ α} {z : α} {h g g' : Heap γ} {W W' : Nat → Prop} {reg N : Nat} {T : Nat → Prop} {R : Array α}
    (r : Rep cd z h W reg N T g R) (f : Fr W' g g') (hW : ∀ x, W' x → W x) (hd : ∀ x, In reg N x → ¬ W' x) :
    Rep cd z h W reg N T g' R := by
  obtain ⟨fr, p⟩ := r
  refine ⟨(fr.trans f).mono (fun x q => q.elim id (hW x)), ?_⟩
  rw [readLimb_of_fr f cd.dflt reg N hd]
  exact p

/-- iteration `i` may use that only `T0` and the cells of the iterations before it have been written -/
theorem sim_fold {β : Type} (P : (Nat → Prop) → Heap γ → β → Prop) (n : Nat) (S : Nat → Nat → Prop)
    (body : Nat → Heap γ → Heap γ) (fb : β → Nat → β) (T0 : Nat → Prop) (h : Heap γ) (b : β) (h0 : P T0 h b)
    (hs : ∀ i g r T, i < n → (∀ x, T x → T0 x ∨ ∃ j, j < i ∧ S j x) → P T g r →
      P (fun x => T x ∨ S i x) (body i g) (fb r i)) :
    P (fun x => T0 x ∨ ∃ i, i < n ∧ S i x) (loop n body h) ((List.range n).foldl fb b) := by
  have := Module.fold_sets (fun T p => P T p.1 p.2) n S (fun p i => (body i p.1, fb p.2 i)) T0 (h, b) h0
    (fun i r T hi hT q => hs i r.1 r.2 T hi hT q)
  rwa [foldl_pair (fun g i => body i g) fb] at this

theorem loop_sim {β : Type} (P : Heap γ → β → Prop) (n : Nat) (body : Nat → Heap γ → Heap γ) (fb : β → Nat → β)
    (h : Heap γ) (b : β) (h0 : P h b) (hs : ∀ i g r, i < n → P g r → P (body i g) (fb r i)) :
    P (loop n body h) ((List.range n).foldl fb b) :=
  sim_fold (fun _ => P) n (fun _ _ => False) body fb (fun _ => False) h b h0 (fun i g r _ hi _ q => hs i g r hi q)

theorem fill_refine (cd : Cells γ α) (z : α) (h : Heap γ) (W : Nat → Prop) (reg N cnt : Nat) (S : Nat → Nat → Prop)
    (body : Nat → Heap γ → Heap γ) (fb : Array α → Nat → Array α) (tail : Heap γ → Heap γ) (M n : Nat) (hM : M + n = N)
    (hs : ∀ i g R T, i < cnt → (∀ x, T x → ∃ j, j < i ∧ S j x) → Rep cd z h W reg N T g R →
      Rep cd z h W reg N (fun x => T x ∨ S i x) (body i g) (fb R i))
    (hT : ∀ x, (∃ i, i < cnt ∧ S i x) ↔ x < M)
    (ht : ∀ g, Fr W h g → Fr (In (reg + M) n) g (tail g) ∧
      (tail g).readLimb cd.dflt (reg + M) n = Array.replicate n (cd.enc z))
    (hW : ∀ x, In (reg + M) n x → W x) :
    Fr W h (tail (loop cnt body h)) ∧
    (tail (loop cnt body h)).readLimb cd.dflt reg N = ((List.range cnt).foldl fb (Array.replicate N z)).map cd.enc := by
  obtain ⟨f, p⟩ := sim_fold (Rep cd z h W reg N) cnt S body fb _ h _ (Rep.start cd z h W reg N)
    (fun i g R T hi hT => hs i g R T hi (fun x q => (hT x q).resolve_left id))
  obtain ⟨fz, vz⟩ := ht _ f
  exact ⟨(f.trans fz).mono (fun x q => q.elim id (hW x)),
    p.done M n hM (fun x => ⟨fun q => (hT x).1 (q.resolve_left id), fun q => Or.inr ((hT x).2 q)⟩) fz vz⟩

end Spq.ModuleHeap
