/-
  C01 rounding budget: the two conversions of `Spq.Module.Cfg.parts` in rational terms.
  * `fromZnx` (both variants): `2m` cells, the value of cell `i` is exactly `x_i` for `|x_i| < 2^50`;
  * the divisor `(double) m` is the pattern of `2^k`;
  * `toZnx` (three variants): on its domain `|x/m| < B_v` returns an integer `r` with `|r·m − x| ≤ m/2`.
-/
import SpqProofs.Lemmas.ConvVec
import SpqProofs.Lemmas.NatBasic
import SpqProofs.Lemmas.ArrayBasic
import SpqProofs.Lemmas.ConvFrom
import SpqProofs.Lemmas.ConvToZnx
import SpqProofs.Lemmas.ConvBnd63Fix
import SpqProofs.Lemmas.ConvBnd63Wide
import SpqProofs.Lemmas.F64StdInt
import Spq.Module
namespace Spq.ProdErr
open Spq Spq.F64 Spq.Conv Spq.Module

theorem ofNat_pow2 (k : ℕ) (hk : k ≤ 1023) : F64.ofNat (2 ^ k) = pow2 (k : ℤ) := by
  unfold F64.ofNat
  have hpos : (0 : ℤ) < ((2 ^ k : ℕ) : ℤ) := by positivity
  rw [packSigned_pos hpos, Int.toNat_natCast]
  have := pack_exact_pattern false 1 k 0 52 (by norm_num) (by norm_num) (by push_cast; omega) (by push_cast; omega)
  rw [Nat.one_mul] at this
  rw [this]
  unfold normPat pow2 sgn
  simp only [Bool.false_eq_true, if_false, Nat.one_mul, Nat.zero_add]
  have e1 : ((0 : ℤ) + (k : ℤ) - ((52 : ℕ) : ℤ) + 1075).toNat = k + 1023 := by push_cast; omega
  have e2 : ((k : ℤ) + 1023).toNat = k + 1023 := by omega
  have e3 : 2 ^ 52 - 4503599627370496 = 0 := by norm_num
  rw [e1, e2, e3, Nat.add_zero]

theorem fromZnx_spec (c : Cfg) (k : ℕ) (hnn : c.nn = 2 * 2 ^ k) (hb : c.fromBnd50 = true → 1 ≤ k) (x : Array Int)
    (hx : ∀ i, i < 2 * 2 ^ k → -1125899906842624 < x.getD i 0 ∧ x.getD i 0 < 1125899906842624) :
    ((Cfg.parts c).fromZnx x).size = 2 * 2 ^ k ∧
    ∀ i, i < 2 * 2 ^ k → val (((Cfg.parts c).fromZnx x).getD i 0) = (x.getD i 0 : ℚ) := by
  have hm : c.nn / 2 = 2 ^ k := by rw [hnn]; exact two_mul_pow_half k
  have hpos : 0 < 2 ^ k := Nat.two_pow_pos k
  show (if c.fromBnd50 then fromZnx64Bnd50 (c.nn / 2) x else fromZnx64Ref (c.nn / 2) x).size = _ ∧
    ∀ i, i < 2 * 2 ^ k →
      val ((if c.fromBnd50 then fromZnx64Bnd50 (c.nn / 2) x else fromZnx64Ref (c.nn / 2) x).getD i 0) = _
  rw [hm]
  cases hfb : c.fromBnd50 with
  | false =>
    simp only [Bool.false_eq_true, if_false]
    refine ⟨scalarLoop_size _ _, fun i hi => ?_⟩
    have := scalarLoop_getElem? (2 * 2 ^ k) (fun i => fromZnx64RefLane (x.getD i 0)) i hi
    unfold fromZnx64Ref
    rw [getD_of_getElem? this]
    obtain ⟨h1, h2⟩ := hx i hi
    exact val_of_toScaled (fromZnx64RefLane_exact _ (by omega))
  | true =>
    have hdiv := two_mul_pow_mod_four k (hb hfb)
    simp only [if_true]
    refine ⟨chunks4_size _ _ hpos hdiv, fun i hi => ?_⟩
    have := chunks4_getElem? (fun i => fromZnx64Bnd50Lane (x.getD i 0)) (2 ^ k) i hpos hdiv hi
    unfold fromZnx64Bnd50
    rw [getD_of_getElem? this]
    obtain ⟨h1, h2⟩ := hx i hi
    exact val_of_toScaled (fromZnx64Bnd50Lane_exact _ (by omega) (by omega))

/-- the domain `|x/d| < B` of the three `reim_to_znx64` kernels (for `bnd63`: the documented `2^52` range, where the
    result is within 1/2, together with the extended range `[2^52, 2^63)` of the repaired kernel, where it is exact) -/
def Bv : ToZnx64Variant → ℚ
  | .ref => 9223372036854775808      -- 2^63
  | .bnd50 => 1125899906842624       -- 2^50
  | .bnd63 => 9223372036854775808    -- 2^63

theorem lane_to_rat (k : ℕ) (hk : k ≤ 971) (x : ℕ) (B : ℤ) (r : ℤ)
    (hdomQ : |val x| < (B : ℚ) * 2 ^ k)
    (hlane : |toScaled x| < B * toScaled (pow2 (k : ℤ)) →
      2 * |r * toScaled (pow2 (k : ℤ)) - toScaled x| ≤ toScaled (pow2 (k : ℤ))) :
    |(r : ℚ) * 2 ^ k - val x| ≤ 2 ^ k / 2 := by
  have hs : toScaled (pow2 (k : ℤ)) = 2 ^ (k + 1074) := by
    rw [toScaled_pow2 (k : ℤ) (by omega) (by omega)]
    congr 1
  have hP : (0 : ℚ) < 2 ^ 1074 := by positivity
  have h1 : |toScaled x| < B * toScaled (pow2 (k : ℤ)) := by
    rw [hs]
    have : ((|toScaled x| : ℤ) : ℚ) < ((B * 2 ^ (k + 1074) : ℤ) : ℚ) := by
      push_cast
      rw [toScaled_eq_val, abs_mul, abs_of_pos hP, pow_add, ← mul_assoc]
      exact mul_lt_mul_of_pos_right hdomQ hP
    exact_mod_cast this
  have h2 := hlane h1
  rw [hs] at h2
  have h3 : ((2 * |r * 2 ^ (k + 1074) - toScaled x| : ℤ) : ℚ) ≤ ((2 ^ (k + 1074) : ℤ) : ℚ) := by exact_mod_cast h2
  push_cast at h3
  rw [toScaled_eq_val, pow_add, ← mul_assoc, ← sub_mul, abs_mul, abs_of_pos hP] at h3
  have h4 : 2 * |(r : ℚ) * 2 ^ k - val x| ≤ 2 ^ k := by
    rw [← mul_assoc] at h3
    exact le_of_mul_le_mul_right h3 hP
  rw [le_div_iff₀ (by norm_num : (0 : ℚ) < 2), mul_comm]
  exact h4

theorem toZnx_spec (c : Cfg) (k : ℕ) (hk : k ≤ 961) (hnn : c.nn = 2 * 2 ^ k) (hv : c.toVariant ≠ .ref → 1 ≤ k)
    (d : Array ℕ) (i : ℕ) (hi : i < 2 * 2 ^ k) (hx64 : d.getD i 0 < 18446744073709551616)
    (hdom : |val (d.getD i 0)| < Bv c.toVariant * 2 ^ k) :
    ∃ r : ℤ, ((Cfg.parts c).toZnx d)[i]? = some r ∧ |(r : ℚ) * 2 ^ k - val (d.getD i 0)| ≤ 2 ^ k / 2 := by
  have hm : c.nn / 2 = 2 ^ k := by rw [hnn]; exact two_mul_pow_half k
  have hpos : 0 < 2 ^ k := Nat.two_pow_pos k
  show ∃ r : ℤ, (toZnx64 c.toVariant (c.nn / 2) (F64.ofNat (c.nn / 2)) d)[i]? = some r ∧ _
  rw [hm, ofNat_pow2 k (by omega)]
  cases hvar : c.toVariant with
  | ref =>
    rw [hvar] at hdom
    refine ⟨_, scalarLoop_getElem? _ _ i hi, ?_⟩
    exact lane_to_rat k (by omega) _ 9223372036854775808 _ (by simpa [Bv] using hdom)
      (toZnx64RefLane_spec (k : ℤ) (by omega) (by omega) _)
  | bnd50 =>
    rw [hvar] at hdom
    have hdiv := two_mul_pow_mod_four k (hv (by rw [hvar]; simp))
    refine ⟨_, chunks4_getElem? _ (2 ^ k) i hpos hdiv hi, ?_⟩
    exact lane_to_rat k (by omega) _ 1125899906842624 _ (by simpa [Bv] using hdom)
      (toZnx64Bnd50Lane_spec (k : ℤ) (by omega) (by omega) _)
  | bnd63 =>
    rw [hvar] at hdom
    have hdiv := two_mul_pow_mod_four k (hv (by rw [hvar]; simp))
    refine ⟨_, chunks4_getElem? _ (2 ^ k) i hpos hdiv hi, ?_⟩
    refine lane_to_rat k (by omega) _ 9223372036854775808 _ (by simpa [Bv] using hdom) ?_
    intro hhi
    by_cases h52 : |toScaled (d.getD i 0)| < 4503599627370496 * toScaled (pow2 (k : ℤ))
    · exact toZnx64Bnd63Lane_spec (k : ℤ) (by omega) (by omega) _ hx64 h52
    · have hw := toZnx64Bnd63Lane_wide (k : ℤ) (by omega) (by omega) _ hx64 (not_lt.1 h52) hhi
      rw [hw, sub_self, abs_zero, mul_zero, toScaled_pow2 (k : ℤ) (by omega) (by omega)]
      positivity

end Spq.ProdErr
