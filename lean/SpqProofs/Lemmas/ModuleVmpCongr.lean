/-
  `vmpApplyDftToDft` only reads the first `min nrows asz` rows of its input vector (any carrier, any prepared
  matrix); consequence: `vmp_apply_dft` (which transforms `min nrows asz` rows into scratch) equals
  `vmp_apply_dft_to_dft` of the full `vec_znx_dft` (C02.2).
-/
import SpqProofs.Lemmas.ModuleVec
namespace Spq.Module
open Spq Reim4
variable {α : Type}

theorem extractRows_congr (z : α) (m rowMax blk : Nat) (hb : 4 * blk + 4 ≤ m) (adft adft' : Array α)
    (h : ∀ x, x < rowMax * (2 * m) → adft.getD x z = adft'.getD x z) :
    extract1blkFromContiguousReimRef z m rowMax blk (Array.replicate (8 * rowMax) z) adft =
      extract1blkFromContiguousReimRef z m rowMax blk (Array.replicate (8 * rowMax) z) adft' := by
  have sz : ∀ src : Array α, (extract1blkFromContiguousReimRef z m rowMax blk (Array.replicate (8 * rowMax) z) src).size
      = 8 * rowMax := by
    intro src
    rw [extractC_eq_mapV4]
    obtain ⟨s1, _, _⟩ := mapV4_spec z (2 * rowMax) (fun i => 4 * i) (fun i _ => V4.load z src (4 * blk + i * m))
      (Array.replicate (8 * rowMax) z) (by intro j j' _ _ _; omega) (by intro j hj; simp; omega)
    rw [s1]; simp
  apply ext_getD z (by rw [sz, sz])
  intro x _
  by_cases hx : x < 8 * rowMax
  · have hi : x / 8 < rowMax := by omega
    have hstep := mul_step (x / 8) rowMax (2 * m) hi
    by_cases hk : x % 8 < 4
    · have e : x = 8 * (x / 8) + x % 8 := by omega
      rw [e, (extractRows_get z m rowMax blk _ adft (by simp) (x / 8) (x % 8) hi hk).1,
        (extractRows_get z m rowMax blk _ adft' (by simp) (x / 8) (x % 8) hi hk).1]
      exact h _ (by omega)
    · have e : x = 8 * (x / 8) + 4 + (x % 8 - 4) := by omega
      rw [e, (extractRows_get z m rowMax blk _ adft (by simp) (x / 8) (x % 8 - 4) hi (by omega)).2,
        (extractRows_get z m rowMax blk _ adft' (by simp) (x / 8) (x % 8 - 4) hi (by omega)).2]
      exact h _ (by omega)
  · rw [getD_of_size_le _ _ _ (by rw [sz]; omega), getD_of_size_le _ _ _ (by rw [sz]; omega)]

theorem dlimb_congr (z : α) (nn rowMax k : Nat) (hk : k < rowMax) (adft adft' : Array α)
    (h : ∀ x, x < rowMax * nn → adft.getD x z = adft'.getD x z)
    (hs : rowMax * nn ≤ adft.size) (hs' : rowMax * nn ≤ adft'.size) : dlimb adft k nn = dlimb adft' k nn := by
  have hstep := mul_step k rowMax nn hk
  unfold dlimb
  apply ext_getD z (by simp; omega)
  intro x _
  rw [getD_extract, getD_extract]
  by_cases hx : k * nn + x < k * nn + nn
  · rw [if_pos hx, if_pos hx]; exact h _ (by omega)
  · rw [if_neg hx, if_neg hx]

theorem vmpApply_congr (c : Parts α) (hnn : c.nn = 2 * c.m) (hblk : 8 ≤ c.nn → c.m % 4 = 0) (rsz asz nrows ncols : Nat)
    (pmat adft adft' : Array α)
    (h : ∀ x, x < min nrows asz * c.nn → adft.getD x c.ar.zero = adft'.getD x c.ar.zero)
    (hs : min nrows asz * c.nn ≤ adft.size) (hs' : min nrows asz * c.nn ≤ adft'.size) :
    vmpApplyDftToDft c rsz adft asz pmat nrows ncols = vmpApplyDftToDft c rsz adft' asz pmat nrows ncols := by
  unfold vmpApplyDftToDft
  by_cases h8 : 8 ≤ c.nn
  · simp only [ge_iff_le, h8, if_true]
    have hm4 := hblk h8
    apply foldl_range_congr
    intro blk hb res
    rw [extractRows_congr c.ar.zero c.m (min nrows asz) blk (by omega) adft adft' (by rw [← hnn]; exact h)]
  · simp only [ge_iff_le, h8, if_false]
    apply foldl_range_congr
    intro col _ res
    by_cases h0 : (min nrows asz == 0) = true
    · rw [if_pos h0, if_pos h0]
    · rw [if_neg h0, if_neg h0]
      have h0' : 0 < min nrows asz := by
        have : ¬ (min nrows asz = 0) := by simpa using h0
        omega
      rw [dlimb_congr c.ar.zero c.nn (min nrows asz) 0 h0' adft adft' h hs hs']
      refine congrArg (writeAt res (col * c.nn)) ?_
      apply foldl_range_congr
      intro k hk r
      rw [dlimb_congr c.ar.zero c.nn (min nrows asz) (k + 1) (by omega) adft adft' h hs hs']

theorem vmpApplyDft_eq (c : Parts α) (hnn : c.nn = 2 * c.m) (hblk : 8 ≤ c.nn → c.m % 4 = 0) (rsz : Nat) (a : Array Int)
    (asz asl : Nat) (pmat : Array α) (nrows ncols : Nat)
    (hsz : ∀ i, i < asz → (c.fft (c.fromZnx (limbOf a i asl c.nn))).size = c.nn) :
    vmpApplyDft c rsz a asz asl pmat nrows ncols =
      vmpApplyDftToDft c rsz (vecDft c asz a asz asl) asz pmat nrows ncols := by
  unfold vmpApplyDft
  dsimp only
  have hra : min nrows asz ≤ asz := Nat.min_le_right _ _
  obtain ⟨a1, a2⟩ := vecDft_spec c (min nrows asz) a asz asl (fun i => c.fft (c.fromZnx (limbOf a i asl c.nn)))
    (fun i hi => by rw [if_pos (by omega)]) (fun i hi => hsz i (by omega))
  obtain ⟨b1, b2⟩ := vecDft_spec c asz a asz asl (fun i => c.fft (c.fromZnx (limbOf a i asl c.nn)))
    (fun i hi => by rw [if_pos hi]) (fun i hi => hsz i hi)
  apply vmpApply_congr c hnn hblk
  · intro x hx
    have hn : 0 < c.nn := by
      rcases Nat.eq_zero_or_pos c.nn with q | q
      · rw [q] at hx; omega
      · exact q
    have hi : x / c.nn < min nrows asz := (Nat.div_lt_iff_lt_mul hn).2 hx
    have e : x = x / c.nn * c.nn + x % c.nn := by rw [Nat.mul_comm]; exact (Nat.div_add_mod x c.nn).symm
    have hk : x % c.nn < c.nn := Nat.mod_lt _ hn
    have g1 := congrArg (fun v => v.getD (x % c.nn) c.ar.zero) (a2 (x / c.nn) hi)
    have g2 := congrArg (fun v => v.getD (x % c.nn) c.ar.zero) (b2 (x / c.nn) (by omega))
    simp only [dlimb, getD_extract] at g1 g2
    rw [if_pos (by omega), ← e] at g1 g2
    rw [g1, g2]
  · exact Nat.le_of_eq a1.symm
  · rw [b1]; exact Nat.mul_le_mul_right _ hra

end Spq.Module
