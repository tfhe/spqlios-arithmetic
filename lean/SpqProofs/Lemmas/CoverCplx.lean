/-
  Vocabulary for the interleaved-complex kernels of `Spq/Cover.lean`: subtraction and `i·z` on `Cx`, the complex
  in a pair of adjacent cells, the loop count of the kernels on their domains.
-/
import SpqProofs.Lemmas.CoverBase
namespace Spq

namespace Cx
variable {R : Type} [CommRing R]

instance : Sub (Cx R) := ⟨fun x y => ⟨x.re - y.re, x.im - y.im⟩⟩
@[simp] theorem sub_re (x y : Cx R) : (x - y).re = x.re - y.re := rfl
@[simp] theorem sub_im (x y : Cx R) : (x - y).im = x.im - y.im := rfl

def mulI (x : Cx R) : Cx R := ⟨-x.im, x.re⟩
@[simp] theorem mulI_re (x : Cx R) : (mulI x).re = -x.im := rfl
@[simp] theorem mulI_im (x : Cx R) : (mulI x).im = x.re := rfl

end Cx

namespace Cover
open Reim4
variable {R : Type} [CommRing R]

def CArith.ofRing (R : Type) [CommRing R] : CArith R := { toRArith := RArith.ofRing R, neg := fun a => -a }

@[simp] theorem ofRing_neg (a : R) : (CArith.ofRing R).neg a = -a := rfl
@[simp] theorem ofRing_toRArith : (CArith.ofRing R).toRArith = RArith.ofRing R := rfl

def cxAt (x : Array R) (p : Nat) : Cx R := cx x p (p + 1)
@[simp] theorem cxAt_re (x : Array R) (p : Nat) : (cxAt x p).re = x.getD p 0 := rfl
@[simp] theorem cxAt_im (x : Array R) (p : Nat) : (cxAt x p).im = x.getD (p + 1) 0 := rfl

theorem ev_idxCplx (x : Array R) (i : Nat) : ev idxCplx x i = cxAt x (2 * i) := rfl

theorem ymmCount_exact (total step : Nat) (hd : step ∣ total) (h0 : 0 < total) : ymmCount total step = total :=
  doWhile_exact total step hd h0

theorem ymmCount_fma (m : Nat) (hm : m % 8 = 0) (h0 : 0 < m) : ymmCount (m / 2) 4 = m / 2 :=
  ymmCount_exact (m / 2) 4 (by omega) (by omega)
theorem ymmCount_avx512 (m : Nat) (hm : m % 16 = 0) (h0 : 0 < m) : 2 * ymmCount (m / 4) 4 = m / 2 := by
  rw [ymmCount_exact (m / 4) 4 (by omega) (by omega)]; omega
theorem ymmCount_bitw_fma (m : Nat) (hm : m % 2 = 0) (h0 : 0 < m) : ymmCount (m / 2) 1 = m / 2 :=
  ymmCount_exact (m / 2) 1 (by omega) (by omega)
theorem ymmCount_bitw_avx512 (m : Nat) (hm : m % 8 = 0) (h0 : 0 < m) : 2 * ymmCount (m / 4) 2 = m / 2 := by
  rw [ymmCount_exact (m / 4) 2 (by omega) (by omega)]; omega

theorem cplxFftvecCopyFma_spec (m : Nat) (hm : m % 8 = 0) (h0 : 0 < m) (r a : Array R) (hr : 2 * m ≤ r.size) :
    Pointwise idxCplx m r (cplxFftvecCopyFma (RArith.ofRing R) m r a) (fun i => ev idxCplx a i) := by
  unfold cplxFftvecCopyFma
  rw [ymmCount_fma m hm h0]
  have := mapV4_pointwise (m / 2) (fun j _ => V4.load 0 a (4 * j)) (fun i _ => ev idxCplx a i) r (by omega)
    (fun j e he _ => pairOf_load_cplx a j e he)
  rwa [show 2 * (m / 2) = m by omega] at this

end Cover
end Spq
