/-
  Windows of cells `[p, p+n)`: membership `In`, inclusion `Sub`, disjointness `Dj`.  The side conditions of the
  heap-level kernel calls (a limb lies inside its region, a source is off the written window) are terms of this
  algebra.
-/
import SpqProofs.Lemmas.Heap
namespace Spq.ModuleHeap
open Spq Heap

def In (p n x : Nat) : Prop := p ≤ x ∧ x < p + n

def Sub (p n q m : Nat) : Prop := q ≤ p ∧ p + n ≤ q + m

/-- the disjointness hypotheses of the heap theorems have this form unfolded -/
def Dj (p n q m : Nat) : Prop := p + n ≤ q ∨ q + m ≤ p

theorem Sub.refl (p n : Nat) : Sub p n p n := ⟨Nat.le_refl _, Nat.le_refl _⟩

theorem Sub.trans {p n q m r k : Nat} (a : Sub p n q m) (b : Sub q m r k) : Sub p n r k :=
  ⟨Nat.le_trans b.1 a.1, Nat.le_trans a.2 b.2⟩

theorem Sub.limb (base nn cnt k : Nat) (hk : k < cnt) : Sub (base + k * nn) nn base (cnt * nn) :=
  ⟨Nat.le_add_right _ _, by have := mul_step k cnt nn hk; omega⟩

theorem Sub.pre (base nn cnt k : Nat) (hk : k ≤ cnt) : Sub base (k * nn) base (cnt * nn) :=
  ⟨Nat.le_refl _, Nat.add_le_add_left (Nat.mul_le_mul_right nn hk) base⟩

theorem Sub.tail (base nn cnt k : Nat) (hk : k ≤ cnt) : Sub (base + k * nn) ((cnt - k) * nn) base (cnt * nn) :=
  ⟨Nat.le_add_right _ _, by rw [Nat.add_assoc, ← Nat.add_mul, Nat.add_sub_cancel' hk]; exact Nat.le_refl _⟩

theorem Sub.head (p n m : Nat) (h : n ≤ m) : Sub p n p m := ⟨Nat.le_refl _, Nat.add_le_add_left h p⟩

theorem Sub.at (q m off n : Nat) (h : off + n ≤ m) : Sub (q + off) n q m := ⟨Nat.le_add_right _ _, by omega⟩

theorem Sub.le {p n q m S : Nat} (a : Sub p n q m) (hb : q + m ≤ S) : p + n ≤ S := Nat.le_trans a.2 hb

theorem Sub.mem {p n q m : Nat} (a : Sub p n q m) (x : Nat) (hx : In p n x) : In q m x :=
  ⟨Nat.le_trans a.1 hx.1, Nat.lt_of_lt_of_le hx.2 a.2⟩

theorem Dj.symm {p n q m : Nat} (d : Dj p n q m) : Dj q m p n := Or.symm d

theorem Dj.mono {p n q m p' n' q' m' : Nat} (d : Dj p n q m) (a : Sub p' n' p n) (b : Sub q' m' q m) :
    Dj p' n' q' m' := by unfold Dj Sub at *; omega

theorem Dj.not_mem {p n q m : Nat} (d : Dj p n q m) (x : Nat) (hx : In p n x) : ¬ In q m x := by
  unfold Dj In at *; omega

theorem Dj.limbs (base nn j k : Nat) (h : j < k) : Dj (base + j * nn) nn (base + k * nn) nn :=
  Or.inl (by have := mul_step j k nn h; omega)

theorem In.out {p n x : Nat} (h : x < p ∨ p + n ≤ x) : ¬ In p n x :=
  fun q => h.elim (Nat.not_lt.2 q.1) (fun h => Nat.not_lt.2 h q.2)

theorem In.limb_lt {nn j k x : Nat} (hj : j < k) (a : In (j * nn) nn x) : ¬ In (k * nn) nn x := by
  have := mul_step j k nn hj; unfold In at *; omega

end Spq.ModuleHeap
