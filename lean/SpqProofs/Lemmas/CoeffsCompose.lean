/-
  Composition of rotations (additive in the exponent) and of automorphisms (multiplicative in the exponent),
  given `neg (neg x) = x`.  `Scat o nn F a r`: `r` is `a` with every monomial `X^e` sent to `X^(F e)`, exponents
  read modulo `2nn` with their sign; scatters compose (`Scat.comp`) and one along a map onto `[0, nn)` determines
  its array (`Scat.unique`).
-/
import SpqProofs.Lemmas.CoeffsAutom
namespace Spq.Rq
open Spq
variable {α : Type}

theorem sget_shift_cases (o : Ops α) (nn : Nat) (a : Array α) (e : Nat) (he : e < 2 * nn) :
    sget o nn a ((e + nn) % (2 * nn)) =
      if e < nn then o.neg (a.getD e o.zero) else a.getD (e - nn) o.zero := by
  unfold sget
  rw [Nat.two_mul] at he ⊢
  by_cases c : e < nn
  · rw [Nat.mod_eq_of_lt (Nat.add_lt_add_right c nn), if_neg (Nat.not_lt.2 (Nat.le_add_left _ _)),
      if_pos c, Nat.add_sub_cancel]
  · have hle : nn ≤ e := Nat.not_lt.1 c
    have h2 : e - nn < nn := Nat.sub_lt_left_of_lt_add hle he
    rw [mod_eq_sub_of_le (Nat.add_le_add_right hle nn) (by omega), Nat.add_sub_add_right, if_pos h2, if_neg c]

theorem sget_shift (o : Ops α) (nn : Nat) (a : Array α)
    (hneg : ∀ i, i < nn → o.neg (o.neg (a.getD i o.zero)) = a.getD i o.zero) (e : Nat)
    (he : e < 2 * nn) : sget o nn a ((e + nn) % (2 * nn)) = o.neg (sget o nn a e) := by
  rw [sget_shift_cases o nn a e he]
  unfold sget
  split
  · rfl
  · rw [hneg _ (Nat.sub_lt_left_of_lt_add (Nat.not_lt.1 ‹_›) (Nat.two_mul nn ▸ he))]

theorem sget_rotate (o : Ops α) (nn : Nat) (p : Int) (a : Array α)
    (hneg : ∀ i, i < nn → o.neg (o.neg (a.getD i o.zero)) = a.getD i o.zero) (e : Nat) (he : e < 2 * nn) :
    sget o nn (Coeffs.rotate o nn p a) e = sget o nn a (rotSrc nn p e) := by
  have hn : 0 < nn := by omega
  by_cases c : e < nn
  · conv_lhs => unfold sget
    rw [if_pos c, rotate_getD o nn p a e c]
  · conv_lhs => unfold sget
    rw [if_neg c, rotate_getD o nn p a (e - nn) (by omega), rotSrc_shift nn hn p e (by omega),
      sget_shift o nn a hneg _ (rotSrc_lt nn hn p _)]

def Scat (o : Ops α) (nn : Nat) (F : Nat → Nat) (a r : Array α) : Prop :=
  r.size = nn ∧ ∀ e, e < 2 * nn → sget o nn r (F e) = sget o nn a e

theorem Scat.comp {o : Ops α} {nn : Nat} {F F' : Nat → Nat} {a r r' : Array α}
    (h : Scat o nn F a r) (h' : Scat o nn F' r r') (hF : ∀ e, e < 2 * nn → F e < 2 * nn) :
    Scat o nn (fun e => F' (F e)) a r' :=
  ⟨h'.1, fun e he => by rw [h'.2 _ (hF e he), h.2 e he]⟩

theorem Scat.unique {o : Ops α} {nn : Nat} {F : Nat → Nat} {a r r' : Array α}
    (hF : ∀ k, k < nn → ∃ e, e < 2 * nn ∧ F e = k) (h : Scat o nn F a r) (h' : Scat o nn F a r') :
    r = r' := by
  refine ext_getD o.zero (by rw [h.1, h'.1]) fun k hk => ?_
  rw [h.1] at hk
  obtain ⟨e, he, hek⟩ := hF k hk
  have A := h.2 e he
  rw [← h'.2 e he, hek] at A
  unfold sget at A
  rwa [if_pos hk, if_pos hk] at A

theorem Scat.congr {o : Ops α} {nn : Nat} {F F' : Nat → Nat} {a r : Array α}
    (hF : ∀ e, e < 2 * nn → F e = F' e) (h : Scat o nn F a r) : Scat o nn F' a r :=
  ⟨h.1, fun e he => by rw [← hF e he]; exact h.2 e he⟩

theorem sget_invol (o : Ops α) (nn : Nat) (a : Array α)
    (hneg : ∀ i, i < nn → o.neg (o.neg (a.getD i o.zero)) = a.getD i o.zero) (e : Nat) (he : e < 2 * nn) :
    o.neg (o.neg (sget o nn a e)) = sget o nn a e := by
  unfold sget
  split
  · exact hneg _ ‹_›
  · rw [hneg _ (Nat.sub_lt_left_of_lt_add (Nat.not_lt.1 ‹_›) (Nat.two_mul nn ▸ he))]

/-- entries of a (surjective) scatter are `±` entries of the input, so `neg∘neg = id` is inherited -/
theorem Scat.invol {o : Ops α} {nn : Nat} {F : Nat → Nat} {a r : Array α}
    (hF : ∀ k, k < nn → ∃ e, e < 2 * nn ∧ F e = k) (h : Scat o nn F a r)
    (hneg : ∀ i, i < nn → o.neg (o.neg (a.getD i o.zero)) = a.getD i o.zero) :
    ∀ k, k < nn → o.neg (o.neg (r.getD k o.zero)) = r.getD k o.zero := by
  intro k hk
  obtain ⟨e, he, rfl⟩ := hF k hk
  have A := h.2 e he
  unfold sget at A
  rw [if_pos hk] at A
  rw [A]
  exact sget_invol o nn a hneg e he

theorem emod_eq_emod_of_dvd_sub {a b m : Int} (h : m ∣ a - b) : a % m = b % m :=
  Int.emod_eq_emod_iff_emod_sub_eq_zero.2 (Int.emod_eq_zero_of_dvd h)

theorem autExp_shift (nn : Nat) (hn : 0 < nn) (p : Int) (hp : p % 2 = 1) (i : Nat) :
    autExp nn p (i + nn) = (autExp nn p i + nn) % (2 * nn) := by
  have h1 := Int.emod_nonneg (((i + nn : Nat) : Int) * p) (show ((2 * nn : Nat) : Int) ≠ 0 by omega)
  have e : (((autExp nn p i + nn) % (2 * nn) : Nat) : Int) = (((i + nn : Nat) : Int) * p) % ((2 * nn : Nat) : Int) := by
    rw [Int.natCast_mod, Nat.cast_add, autExp_cast nn hn, Int.emod_add_emod]
    apply emod_eq_emod_of_dvd_sub
    obtain ⟨c, hc⟩ : ∃ c : Int, p = 2 * c + 1 := ⟨p / 2, by omega⟩
    refine ⟨-c, ?_⟩
    rw [hc]; push_cast; ring
  unfold autExp at e ⊢
  omega

theorem sget_autom (o : Ops α) (nn : Nat) (hn : 0 < nn) (p : Int) (hp : p % 2 = 1)
    (inp res : Array α)
    (hneg : ∀ i, i < nn → o.neg (o.neg (inp.getD i o.zero)) = inp.getD i o.zero)
    (hs : ∀ i, i < nn → res.getD (autExp nn p i % nn) o.zero = autVal o nn p inp i)
    (e : Nat) (he : e < 2 * nn) :
    sget o nn res (autExp nn p e) = sget o nn inp e := by
  by_cases c : e < nn
  · rw [sget_mod o _ res _ (autExp_lt _ hn p e), hs e c]
    unfold autVal sget
    rw [if_pos c]
    split
    · rfl
    · exact hneg e c
  · obtain ⟨i, rfl⟩ := Nat.exists_eq_add_of_le' (Nat.not_lt.1 c)
    have hi : i < nn := Nat.lt_of_add_lt_add_right (Nat.two_mul _ ▸ he)
    have hE := autExp_lt nn hn p i
    have h := hs i hi
    unfold autVal at h
    rw [autExp_shift _ hn p hp, sget_shift_cases o _ res _ hE]
    unfold sget
    rw [if_neg c, Nat.add_sub_cancel]
    by_cases d : autExp nn p i < nn
    · rw [if_pos d]; rw [Nat.mod_eq_of_lt d, if_pos d] at h; rw [h]
    · rw [if_neg d]; rw [mod_eq_sub_of_le (Nat.not_lt.1 d) hE, if_neg d] at h; exact h

theorem autExp_mul (nn : Nat) (hn : 0 < nn) (p q : Int) (e : Nat) :
    autExp nn p (autExp nn q e) = autExp nn (p * q) e := by
  have : ((autExp nn p (autExp nn q e) : Nat) : Int) = ((autExp nn (p * q) e : Nat) : Int) := by
    rw [autExp_cast nn hn, autExp_cast nn hn, autExp_cast nn hn, Int.mul_emod, Int.emod_emod,
      ← Int.mul_emod]
    congr 1; ring
  exact_mod_cast this

theorem autExp_surj (t : Nat) (p : Int) (hp : p % 2 = 1) (k : Nat) (hk : k < 2 ^ t) :
    ∃ e, e < 2 * 2 ^ t ∧ autExp (2 ^ t) p e = k := by
  have hn : 0 < 2 ^ t := Nat.pow_pos (by norm_num)
  obtain ⟨i, hi, hik⟩ := autPos_surj t p hp k hk
  have hE := autExp_lt (2 ^ t) hn p i
  by_cases c : autExp (2 ^ t) p i < 2 ^ t
  · exact ⟨i, by omega, by rw [Nat.mod_eq_of_lt c] at hik; exact hik⟩
  · refine ⟨i + 2 ^ t, by omega, ?_⟩
    have e1 : autExp (2 ^ t) p i % 2 ^ t = autExp (2 ^ t) p i - 2 ^ t := mod_eq_sub_of_le (by omega) (by omega)
    rw [autExp_shift _ hn p hp]
    have : autExp (2 ^ t) p i + 2 ^ t = k + 2 * 2 ^ t := by omega
    rw [this, Nat.add_mod_right, Nat.mod_eq_of_lt (by omega)]

theorem autom_scat (o : Ops α) (t : Nat) (p : Int) (hp : p % 2 = 1) (a r0 : Array α)
    (hneg : ∀ i, i < 2 ^ t → o.neg (o.neg (a.getD i o.zero)) = a.getD i o.zero)
    (h0 : r0.size = 2 ^ t) :
    Scat o (2 ^ t) (autExp (2 ^ t) p) a (Coeffs.automorphism o (2 ^ t) p a r0) :=
  ⟨by rw [Coeffs.size_automorphism, h0],
    sget_autom o (2 ^ t) (Nat.two_pow_pos t) p hp a _ hneg fun i hi => autom_scatter o t p hp a r0 h0 i hi⟩

theorem autom_invol (o : Ops α) (t : Nat) (p : Int) (hp : p % 2 = 1) (inp r0 : Array α)
    (h0 : r0.size = 2 ^ t)
    (hneg : ∀ i, i < 2 ^ t → o.neg (o.neg (inp.getD i o.zero)) = inp.getD i o.zero) :
    ∀ k, k < 2 ^ t → o.neg (o.neg ((Coeffs.automorphism o (2 ^ t) p inp r0).getD k o.zero)) =
      (Coeffs.automorphism o (2 ^ t) p inp r0).getD k o.zero :=
  Scat.invol (autExp_surj t p hp) (autom_scat o t p hp inp r0 hneg h0) hneg

end Spq.Rq
