/-
  The masks and the int64 wrap of `Spq/Mach.lean`, for the coefficient kernels and for the source tie alike.
  Core Lean only.
-/
import Spq.Mach
namespace Spq

theorem posMask_lt (p : Int) (m : Nat) (hm : 0 < m) : posMask p m < m := by
  unfold posMask
  have := Int.emod_lt_of_pos p (show (0 : Int) < m by omega)
  have := Int.emod_nonneg p (show (m : Int) ≠ 0 by omega)
  omega

theorem posMask_cast (p : Int) (m : Nat) (hm : 0 < m) : ((posMask p m : Nat) : Int) = p % (m : Int) :=
  Int.toNat_of_nonneg (Int.emod_nonneg _ (by omega))

theorem negMask_lt (p : Int) (m : Nat) (hm : 0 < m) : negMask p m < m := posMask_lt (-p) m hm

theorem posMask_odd (nn : Nat) (hn : 0 < nn) (p : Int) (hp : p % 2 = 1) : posMask p (2 * nn) % 2 = 1 := by
  have h := posMask_cast p (2 * nn) (by omega)
  have : (p % ((2 * nn : Nat) : Int)) % 2 = p % 2 := Int.emod_emod_of_dvd p ⟨nn, by omega⟩
  omega

theorem wrapS_id (z : Int) (h1 : -9223372036854775808 ≤ z) (h2 : z < 9223372036854775808) : wrapS z = z := by
  unfold wrapS; omega

end Spq
