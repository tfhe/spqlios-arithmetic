/-
  Base lemmas for `Spq/Cover.lean`: the scalar store loop `scalarMap` and the four-slice register loop `mapV4x4`.
-/
import SpqProofs.Lemmas.Reim4Fftvec
import Spq.Cover
namespace Spq
namespace Cover
open Reim4
variable {α : Type}

theorem scalarMap_size (n : Nat) (f : Nat → α) (res : Array α) : (scalarMap n f res).size = res.size := by
  unfold scalarMap
  induction n with
  | zero => rfl
  | succ n ih => rw [Nat.fold_succ]; simp only [Array.size_setIfInBounds]; exact ih

theorem scalarMap_getD (z : α) (n : Nat) (f : Nat → α) (res : Array α) (i : Nat) :
    (scalarMap n f res).getD i z = if i < n ∧ i < res.size then f i else res.getD i z := by
  obtain ⟨_, mv, mf⟩ := fold_local z n (fun i r => r.setIfInBounds i (f i)) (fun i x => x = i)
    (fun i => LocalOp.set z i (fun _ => f i)) res (fun j j' x _ _ h hx hx' => h (hx.symm.trans hx'))
  unfold scalarMap
  by_cases hi : i < n
  · rw [mv i hi i rfl, getD_setIfInBounds]
    simp only [hi, true_and]
  · rw [mf i (fun j hj h => hi (h ▸ hj)), if_neg (fun h => hi h.1)]

theorem mapV4x4_local (z : α) (p0 p1 p2 p3 : Nat) (F : V4 α → V4 α → V4 α → V4 α → V4 α × V4 α × V4 α × V4 α) :
    LocalOp z (fun r =>
        let q := F (V4.load z r p0) (V4.load z r p1) (V4.load z r p2) (V4.load z r p3)
        V4.store (V4.store (V4.store (V4.store r p0 q.1) p1 q.2.1) p2 q.2.2.1) p3 q.2.2.2)
      (fun x => (((p0 ≤ x ∧ x < p0 + 4) ∨ (p1 ≤ x ∧ x < p1 + 4)) ∨ (p2 ≤ x ∧ x < p2 + 4)) ∨ (p3 ≤ x ∧ x < p3 + 4)) := by
  have hK : ∀ q : V4 α × V4 α × V4 α × V4 α, LocalOp z
      (fun r => V4.store (V4.store (V4.store (V4.store r p0 q.1) p1 q.2.1) p2 q.2.2.1) p3 q.2.2.2)
      (fun x => (((p0 ≤ x ∧ x < p0 + 4) ∨ (p1 ≤ x ∧ x < p1 + 4)) ∨ (p2 ≤ x ∧ x < p2 + 4)) ∨ (p3 ≤ x ∧ x < p3 + 4)) :=
    fun q =>
      LocalOp.comp (f := fun r => V4.store (V4.store (V4.store r p0 q.1) p1 q.2.1) p2 q.2.2.1) (g := fun r => V4.store r p3 q.2.2.2)
        (F := fun x => ((p0 ≤ x ∧ x < p0 + 4) ∨ (p1 ≤ x ∧ x < p1 + 4)) ∨ (p2 ≤ x ∧ x < p2 + 4)) (G := fun x => p3 ≤ x ∧ x < p3 + 4)
        (LocalOp.comp (f := fun r => V4.store (V4.store r p0 q.1) p1 q.2.1) (g := fun r => V4.store r p2 q.2.2.1)
          (F := fun x => (p0 ≤ x ∧ x < p0 + 4) ∨ (p1 ≤ x ∧ x < p1 + 4)) (G := fun x => p2 ≤ x ∧ x < p2 + 4)
          (LocalOp.comp (f := fun r => V4.store r p0 q.1) (g := fun r => V4.store r p1 q.2.1)
            (F := fun x => p0 ≤ x ∧ x < p0 + 4) (G := fun x => p1 ≤ x ∧ x < p1 + 4)
            (LocalOp.store z p0 _) (LocalOp.store z p1 _))
          (LocalOp.store z p2 _))
        (LocalOp.store z p3 _)
  exact LocalOp.diag
    (K := fun r0 r =>
      let q := F (V4.load z r0 p0) (V4.load z r0 p1) (V4.load z r0 p2) (V4.load z r0 p3)
      V4.store (V4.store (V4.store (V4.store r p0 q.1) p1 q.2.1) p2 q.2.2.1) p3 q.2.2.2)
    (F := fun x => (((p0 ≤ x ∧ x < p0 + 4) ∨ (p1 ≤ x ∧ x < p1 + 4)) ∨ (p2 ≤ x ∧ x < p2 + 4)) ∨ (p3 ≤ x ∧ x < p3 + 4))
    (fun r0 => hK _)
    (fun r0 r0' _ h => by
      show (fun r =>
        let q := F (V4.load z r0 p0) (V4.load z r0 p1) (V4.load z r0 p2) (V4.load z r0 p3)
        V4.store (V4.store (V4.store (V4.store r p0 q.1) p1 q.2.1) p2 q.2.2.1) p3 q.2.2.2) = _
      rw [V4.load_congr z r0 r0' p0 (fun x h1 h2 => h x (Or.inl (Or.inl (Or.inl ⟨h1, h2⟩)))),
        V4.load_congr z r0 r0' p1 (fun x h1 h2 => h x (Or.inl (Or.inl (Or.inr ⟨h1, h2⟩)))),
        V4.load_congr z r0 r0' p2 (fun x h1 h2 => h x (Or.inl (Or.inr ⟨h1, h2⟩))),
        V4.load_congr z r0 r0' p3 (fun x h1 h2 => h x (Or.inr ⟨h1, h2⟩))])

theorem mapV4x4_spec (z : α) (n off : Nat) (F : Nat → V4 α → V4 α → V4 α → V4 α → V4 α × V4 α × V4 α × V4 α)
    (r : Array α) (hoff : 4 * n ≤ off) (hb : 3 * off + 4 * n ≤ r.size) :
    (mapV4x4 z n off F r).size = r.size ∧
    (∀ j, j < n → ∀ l, l < 4 →
      let q := F j (V4.load z r (4 * j)) (V4.load z r (off + 4 * j)) (V4.load z r (2 * off + 4 * j))
        (V4.load z r (3 * off + 4 * j))
      (mapV4x4 z n off F r).getD (4 * j + l) z = q.1.lane l ∧
      (mapV4x4 z n off F r).getD (off + 4 * j + l) z = q.2.1.lane l ∧
      (mapV4x4 z n off F r).getD (2 * off + 4 * j + l) z = q.2.2.1.lane l ∧
      (mapV4x4 z n off F r).getD (3 * off + 4 * j + l) z = q.2.2.2.lane l) ∧
    (∀ x, (∀ j, j < n → ∀ s, s < 4 → x < s * off + 4 * j ∨ s * off + 4 * j + 4 ≤ x) →
      (mapV4x4 z n off F r).getD x z = r.getD x z) := by
  obtain ⟨ms, mv, mf⟩ := fold_local z n _ _
    (fun j => mapV4x4_local z (4 * j) (off + 4 * j) (2 * off + 4 * j) (3 * off + 4 * j) (F j)) r
    (by intro j j' x h1 h2 h3 hx hx'; omega)
  refine ⟨ms, ?_, ?_⟩
  · intro j hj l hl
    -- the four windows of step `j` are disjoint and inside the array
    obtain ⟨o01, o02, o03, o12, o13, o23, b0, b1, b2, b3⟩ :
        4 * j + 4 ≤ off + 4 * j ∧ 4 * j + 4 ≤ 2 * off + 4 * j ∧ 4 * j + 4 ≤ 3 * off + 4 * j ∧
        off + 4 * j + 4 ≤ 2 * off + 4 * j ∧ off + 4 * j + 4 ≤ 3 * off + 4 * j ∧ 2 * off + 4 * j + 4 ≤ 3 * off + 4 * j ∧
        4 * j + 4 ≤ r.size ∧ off + 4 * j + 4 ≤ r.size ∧ 2 * off + 4 * j + 4 ≤ r.size ∧ 3 * off + 4 * j + 4 ≤ r.size := by
      omega
    have hin : ∀ p, p ≤ p + l ∧ p + l < p + 4 := fun p => ⟨Nat.le_add_right _ _, Nat.add_lt_add_left hl _⟩
    -- the cell is written by one of the four stores and left alone by the later ones
    refine ⟨?_, ?_, ?_, ?_⟩
    · exact (mv j hj (4 * j + l) (Or.inl (Or.inl (Or.inl (hin _))))).trans
        (by rw [V4.getD_store_disj _ _ _ _ _ _ hl (Or.inl o03), V4.getD_store_disj _ _ _ _ _ _ hl (Or.inl o02),
          V4.getD_store_disj _ _ _ _ _ _ hl (Or.inl o01), V4.getD_store_in _ _ _ _ _ hl b0])
    · exact (mv j hj (off + 4 * j + l) (Or.inl (Or.inl (Or.inr (hin _))))).trans
        (by rw [V4.getD_store_disj _ _ _ _ _ _ hl (Or.inl o13), V4.getD_store_disj _ _ _ _ _ _ hl (Or.inl o12),
          V4.getD_store_in _ _ _ _ _ hl (by rw [V4.size_store]; exact b1)])
    · exact (mv j hj (2 * off + 4 * j + l) (Or.inl (Or.inr (hin _)))).trans
        (by rw [V4.getD_store_disj _ _ _ _ _ _ hl (Or.inl o23),
          V4.getD_store_in _ _ _ _ _ hl (by rw [V4.size_store, V4.size_store]; exact b2)])
    · exact (mv j hj (3 * off + 4 * j + l) (Or.inr (hin _))).trans
        (by rw [V4.getD_store_in _ _ _ _ _ hl (by rw [V4.size_store, V4.size_store, V4.size_store]; exact b3)])
  · intro x hx
    apply mf
    intro j hj hc
    have a0 := hx j hj 0 (by omega)
    have a1 := hx j hj 1 (by omega)
    have a2 := hx j hj 2 (by omega)
    have a3 := hx j hj 3 (by omega)
    omega

end Cover
end Spq
