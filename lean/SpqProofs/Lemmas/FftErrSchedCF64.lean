/-
  C06.4: the `addsub(0, ω)` trick is exact on binary64: under the flags, `0 − ω` and `0 + ω` computed on bit patterns
  have the values `−ω`, `ω`; so the flagged `cfwdFma` / `cinvFma` are related to the `…Z` forms on guarded rationals.
-/
import SpqProofs.Lemmas.FftErrSchedCXfer
namespace Spq.FftErr
open Spq.Fft Spq.Fft.RelN Spq.F64

theorem relQ_zero : RelQ (lift 0) 0 := fun _ => ⟨fin64_zero, val_zero⟩

theorem arG_sub_zero (b : ℕ) (hb : Fin64 b) : arG.sub 0 (val b) = -val b := by
  have h : rnd (0 - val b) = 0 - val b := by
    rw [zero_sub, ← val_neg hb.1, rnd_val _ (fin64_neg hb)]
  show gd (GoodQ (0 - val b)) (rnd (0 - val b)) (0 - val b) = -val b
  unfold gd
  split
  · rw [h, zero_sub]
  · rw [zero_sub]

theorem arG_add_zero (b : ℕ) (hb : Fin64 b) : arG.add 0 (val b) = val b := by
  have h : rnd (0 + val b) = 0 + val b := by rw [zero_add, rnd_val _ hb]
  show gd (GoodQ (0 + val b)) (rnd (0 + val b)) (0 + val b) = val b
  unfold gd
  split
  · rw [h, zero_add]
  · rw [zero_add]

theorem zsub_rel {w : ℕ × Prop} {q : ℚ} (hw : RelQ w q) : RelQ (aOk.sub (lift 0) w) (aG.neg q) := by
  intro hf
  have hs := arithOk_sim_arG.sub relQ_zero hw hf
  have hw2 : w.2 := by
    have : (arithOk.sub (lift 0) w).2 = ((lift 0).2 ∧ w.2 ∧ NormalRange (val (lift 0).1 - val w.1)) :=
      arithOk_sub_snd _ _
    have hf' : (arithOk.sub (lift 0) w).2 := hf
    rw [this] at hf'
    exact hf'.2.1
  obtain ⟨fw, rfl⟩ := hw hw2
  exact ⟨hs.1, hs.2.trans (arG_sub_zero w.1 fw)⟩

theorem zadd_rel {w : ℕ × Prop} {q : ℚ} (hw : RelQ w q) : RelQ (aOk.add (lift 0) w) q := by
  intro hf
  have hs := arithOk_sim_arG.add relQ_zero hw hf
  have hw2 : w.2 := by
    have : (arithOk.add (lift 0) w).2 = ((lift 0).2 ∧ w.2 ∧ NormalRange (val (lift 0).1 + val w.1)) :=
      arithOk_add_snd _ _
    have hf' : (arithOk.add (lift 0) w).2 := hf
    rw [this] at hf'
    exact hf'.2.1
  obtain ⟨fw, rfl⟩ := hw hw2
  exact ⟨hs.1, hs.2.trans (arG_add_zero w.1 fw)⟩

theorem ctFmaC_simZ : BfSim RelQ (ctFmaC aOk (lift 0)) (ctFmaZ aG) := by
  intro ra ra' ia ia' rb rb' ib ib' wr wr' wi wi' h1 h2 h3 h4 h5 h6
  have h := aOk_sim_aG
  have nr := h.fma h4 (zsub_rel h6) (h.mul h3 h5)
  have ni := h.fma h3 (zadd_rel h6) (h.mul h4 h5)
  exact ⟨h.add h1 nr, h.add h2 ni, h.sub h1 nr, h.sub h2 ni⟩

theorem ictFmaC_simZ : BfSim RelQ (ictFmaC aOk (lift 0)) (ictFmaZ aG) := by
  intro ra ra' ia ia' rb rb' ib ib' wr wr' wi wi' h1 h2 h3 h4 h5 h6
  have h := aOk_sim_aG
  have rd := h.sub h1 h3
  have id := h.sub h2 h4
  exact ⟨h.add h1 h3, h.add h2 h4, h.fma id (zsub_rel h6) (h.mul rd h5), h.fma rd (zadd_rel h6) (h.mul id h5)⟩

theorem cfwdFma_simZ : CFlavSim RelQ (cfwdFma aOk (lift 0)) (cfwdFmaZ aG) :=
  ⟨ctFmaC_simZ, ctFma_sim aOk_sim_aG, lastFma_sim aOk_sim_aG, fwdFma_sim aOk_sim_aG⟩

theorem cinvFma_simZ : CFlavSim RelQ (cinvFma aOk (lift 0)) (cinvFmaZ aG) :=
  ⟨ictFmaC_simZ, ictFmaC_simZ, ofBf_sim (ictFma_sim aOk_sim_aG), invFma_sim aOk_sim_aG⟩

end Spq.FftErr
