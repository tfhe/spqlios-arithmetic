/-
  C06.4: the structural cplx network `VN (gNetC F …)` over an ordered field against the exact network `V`.
-/
import SpqProofs.Lemmas.FftErrSchedCRel
import SpqProofs.Lemmas.FftErrSchedINetN
namespace Spq.FftErr
open Finset Spq.Fft Spq.Fft.Alg Spq.Fft.SimP Spq.Fft.LevelN Spq.Fft.SchedN Spq.Fft.SchedC
variable {K : Type} [Field K] [LinearOrder K] [IsStrictOrderedRing K]

structure CFwdErrOK (F : CFlav K) (τ η : K) : Prop where
  ctTop : ∀ wh w : Cplx K, nsq w = 1 → nsq (wh - w) ≤ τ ^ 2 → BfErrAt (fun a b => bfC F.ctTop a b wh) w η
  ctOdd : ∀ wh w : Cplx K, nsq w = 1 → nsq (wh - w) ≤ τ ^ 2 → BfErrAt (fun a b => bfC F.ctOdd a b wh) w η
  last : ∀ wh nwh w : Cplx K, nsq w = 1 → nsq (wh - w) ≤ τ ^ 2 → nsq (nwh - -w) ≤ τ ^ 2 →
    BfErrAt (fun a b => lastC F.last a b wh nwh) w η
  big : FwdErrOK F.big τ η

theorem cfwdRef_errOK (A : Arith K) (u τ : K) (sm : FStd A u) (hτ : 0 ≤ τ) : CFwdErrOK (cfwdRef A) τ (eta u τ) :=
  ⟨fun wh w => butterfly_err_ref A u τ sm hτ wh w, fun wh w => butterfly_err_ref A u τ sm hτ wh w,
   fun wh nwh w h1 h2 _ => butterfly_err_last_ref A u τ sm hτ wh nwh w h1 h2, fwdRef_errOK A u τ sm hτ⟩

theorem cfwdFmaZ_errOK (A : Arith K) (u τ : K) (sm : FStd A u) (hτ : 0 ≤ τ) :
    CFwdErrOK (Spq.Fft.RelN.cfwdFmaZ A) τ (eta u τ) :=
  ⟨fun wh w => butterfly_err_fmaZ A u τ sm hτ wh w, fun wh w => butterfly_err_fma A u τ sm hτ wh w,
   fun wh nwh w h1 h2 h3 => butterfly_err_last_fma A u τ sm hτ wh nwh w h1 h2 h3, fwdFma_errOK A u τ sm hτ⟩

variable (F : CFlav K) (c s ns nc : ℕ → K) (k : ℕ) (ζ : Cplx K) (τ η : K)

theorem gCC_err (hF : CFwdErrOK F τ η) (hζ : nsq ζ = 1) (hI : ζ ^ 2 ^ k = Ic)
    (hcs : ∀ ℓ d b, ℓ + d + 1 = k → b < 2 ^ ℓ →
      nsq ((⟨c (twE ℓ d b), s (twE ℓ d b)⟩ : Cplx K) - ζ ^ twE ℓ d b) ≤ τ ^ 2)
    (hncs : ∀ ℓ b, ℓ + 1 = k → b < 2 ^ ℓ →
      nsq ((⟨nc (twE ℓ 0 b), ns (twE ℓ 0 b)⟩ : Cplx K) - -ζ ^ twE ℓ 0 b) ≤ τ ^ 2)
    (ℓ d b : ℕ) (hk : ℓ + d + 1 = k) (hb : b < 2 ^ ℓ) :
    BfErrAt (gCof (gNetC F c s ns nc k) ℓ d b) (ζ ^ twE ℓ d b) η := by
  have hw : nsq (ζ ^ twE ℓ d b) = 1 := by rw [nsq_pow, hζ, one_pow]
  have key := gNetC_cases F c s ns nc k ℓ d b (fun g => BfErrAt
      (fun x y => (toC (g (x.re, x.im) (y.re, y.im)).1, toC (g (x.re, x.im) (y.re, y.im)).2)) (ζ ^ twE ℓ d b) η)
    (fun hd => hF.last ⟨c (twE ℓ d b), s (twE ℓ d b)⟩ ⟨nc (twE ℓ d b), ns (twE ℓ d b)⟩ _ hw (hcs ℓ d b hk hb)
      (by subst hd; exact hncs ℓ b (by omega) hb))
    (hF.ctTop ⟨c (twE ℓ d b), s (twE ℓ d b)⟩ _ hw (hcs ℓ d b hk hb))
    (hF.ctOdd ⟨c (twE ℓ d b), s (twE ℓ d b)⟩ _ hw (hcs ℓ d b hk hb))
    (gC_err F.big c s k ζ τ η hF.big hζ hI hcs ℓ d b hk hb)
  exact key

end Spq.FftErr
