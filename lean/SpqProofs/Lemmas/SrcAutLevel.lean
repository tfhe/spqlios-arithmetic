/-
  One level of the in-place automorphism (`znx_automorphism_inplace_i64` / `rnx_automorphism_inplace_f64`):
  `aut_level` runs `levelStep` (body + increment of the generated `for`, obtained from the generated term by
  projection, never restated) from any state that stands for the level (`lR`) and lands where the model's
  `Rq.levelPass` says.  It is the dispatch over the `if` chain (`exec_if_seq`: each test is evaluated once, the
  branches not taken stay closed terms) and one application per branch: the three strided loops are `stride_swap`
  and `stride_map` (Lemmas/SrcAutIn), the paired walk is `while_rel` around `doWhile_rel`.  It is
  proved once, for a function whose level body is the generated int64 one with its negations at an element type `ty`
  (`Stmt.unAt`) and any coefficient record `o` with `ElemOps ty o`; `src_automorphism_inplace` puts the prologue and
  the level loop around it for a function whose whole body is the generated int64 one moved to `ty`, and both
  generated kernels are such functions.
-/
import Gen.CSrc
import SpqProofs.Lemmas.SrcAutIn
import SpqProofs.Lemmas.SrcRotFill
namespace Spq.CIR
open Spq

/-- the increment of the level loop: `binval <<= 1; vp = (vp << 1) & _2mn; orb >>= 1` -/
theorem level_inc (fn : Fn) (hfi : levelInc fn = levelInc Gen.CSrc.znx_automorphism_inplace_i64) (t nn : Nat)
    (hnn : nn = 2 ^ t) (binval vp orb : Nat) (hb : 2 * binval < 18446744073709551616)
    (hv : 2 * vp < 18446744073709551616) (Γ : List Ptr) (x0 x1 x3 x4 : Int) (rest : List Int) (m : Mem) (f : Nat) :
    exec Γ (levelInc fn) f
        ⟨x0 :: x1 :: ((2 * nn - 1 : Nat) : Int) :: x3 :: x4 :: (binval : Int) :: (vp : Int) :: (orb : Int) :: rest, m⟩
      = .ok (.norm, ⟨x0 :: x1 :: ((2 * nn - 1 : Nat) : Int) :: x3 :: x4 :: ((2 * binval : Nat) : Int)
          :: (((2 * vp) % (2 * nn) : Nat) : Int) :: ((orb / 2 : Nat) : Int) :: rest, m⟩) := by
  rw [hfi]
  dsimp only [levelInc, Gen.CSrc.znx_automorphism_inplace_i64]
  cir_simp [evalBin_shl_u64_one, evalBin_shr_u64_one, Int.toNat_natCast, shl_one_mask t nn hnn vp hv,
    mul_two_u64 binval hb]

section level
variable {ty : Ty} {o : Ops Int} (ho : ElemOps ty o) (fn : Fn)
  (hfb : levelBody fn = (levelBody Gen.CSrc.znx_automorphism_inplace_i64).unAt ty)
  (hfi : levelInc fn = levelInc Gen.CSrc.znx_automorphism_inplace_i64)
  (t : Nat) (ht : t ≤ 62) (nn : Nat) (hnn : nn = 2 ^ t) (pm : Nat) (hpm1 : pm % 2 = 1)
  {M : Array Int → Mem} {pr : Ptr} (hC : Cells M pr nn) (l binval vp orb : Nat) (res : Array Int)
  (hbin : binval = 2 ^ l) (hvp : vp < 2 * nn) (horb : orb ≤ nn) (hres : res.size = nn) (hlt : binval < nn)
include ho hfb hfi ht hnn hpm1 hC hbin hvp horb hres hlt

theorem aut_level (f : Nat) (hf3 : 3 * nn ≤ f) {σ : State} (hσ : lR nn pm M ⟨l, binval, vp, orb, res⟩ σ) :
    ∃ σ', levelStep fn [pr] f σ = .ok (if (Rq.levelPass o nn pm binval vp orb res).2 then .norm else .ret, σ') ∧
      if (Rq.levelPass o nn pm binval vp orb res).2 then
        lR nn pm M ⟨l + 1, 2 * binval, (2 * vp) % (2 * nn), orb / 2, (Rq.levelPass o nn pm binval vp orb res).1⟩ σ'
      else σ'.mem = M (Rq.levelPass o nn pm binval vp orb res).1 := by
  obtain ⟨x8, x9, x10, x11, x12, x13, x14, x15, x16, x17, x18, x19, x20, x21, rfl⟩ := hσ
  have hb1 : 1 ≤ binval := hbin ▸ Nat.one_le_two_pow
  have hn1 : 1 ≤ nn := hnn ▸ one_le_pow2 t
  have hn2 : nn ≤ 4611686018427387904 := hnn ▸ pow_le_p62 t ht
  have hs2 : 0 < 2 * binval := by omega
  rw [levelStep, hfb]
  dsimp only [levelBody, Gen.CSrc.znx_automorphism_inplace_i64, Stmt.unAt, Expr.unAt, Ty.elemAt]
  rw [exec_if_seq _ _ _ _ _ _ (decide (vp = binval)) ?c1]
  case c1 => cir_simp; exact ok_decide_congr (by omega)
  by_cases h1 : vp = binval
  · rw [if_pos (decide_eq_true h1), exec_ret, seqK_ret, thenStep_ret,
      show Rq.levelPass o nn pm binval vp orb res = (res, false) by rw [Rq.levelPass, if_pos h1]]
    exact ⟨_, rfl, rfl⟩
  rw [if_neg (mt of_decide_eq_true h1), exec_if_seq _ _ _ _ _ _ (decide ((vp + binval) % (2 * nn) = 0)) ?c2]
  case c2 =>
    cir_simp
    simp only [add_u64_nat vp binval (by omega), Int.toNat_natCast, (band_mask_nat t nn hnn _).1, Int.zero_emod]
    exact ok_decide_congr (by omega)
  by_cases h2 : (vp + binval) % (2 * nn) = 0
  · rw [if_pos (decide_eq_true h2), exec_seq, show Rq.levelPass o nn pm binval vp orb res
      = (Rq.negMirrorPass o nn binval res, false) by rw [Rq.levelPass, if_neg h1, if_pos h2]]
    show ∃ σ' : State, _ = R.ok (Flow.ret, σ') ∧ σ'.mem = _
    refine post_in (fun y => ∃ σ', thenStep (seqK (seqK y _) _) _ = .ok (.ret, σ') ∧ σ'.mem = _)
      (stride_swap (nn := nn) (lo := binval) (hi := nn / 2) (s := binval) (Γ := [pr]) (rp := 0) hC hb1 (show 8 < 22 by decide) (by omega)
        (by omega) res hres (by rfl) (fun e => .un .neg ty e) o.neg (fun _ _ _ h => eval_neg_elem ho h)
        (by decide) (show 9 < 22 by decide) hb1 (fun _ _ => by rfl) (fun _ _ _ => by rfl) (fun _ _ _ => by rfl) f (by omega))
      ?_
    rintro σ' ⟨dj, dt, rfl⟩
    generalize hY : List.foldl _ res _ = Y
    have hsz : Y.size = nn := by rw [← hY, size_foldl_of_step _ (by intro r j; simp), hres]
    cir_simp [hC.load Y (nn / 2) hsz (by omega), ho.neg, hC.store Y (nn / 2) _ hsz (by omega)]
    refine ⟨_, rfl, ?_⟩
    show M _ = M (Rq.negMirrorPass o nn binval res)
    simp only [Rq.negMirrorPass, ho.zero, hY]
  rw [if_neg (mt of_decide_eq_true h2),
    exec_if_seq _ _ _ _ _ _ (decide ((vp + 2 * nn - binval) % nn = 0)) ?c3]
  case c3 =>
    cir_simp
    simp only [Int.toNat_natCast, (band_mask_nat t nn hnn _).2, sub_mask_mod t nn hnn (by omega) vp binval (by omega),
      Int.zero_emod]
    exact ok_decide_congr (by omega)
  by_cases h3 : (vp + 2 * nn - binval) % nn = 0
  · rw [if_pos (decide_eq_true h3), exec_seq, show Rq.levelPass o nn pm binval vp orb res
      = (Rq.negatePass o nn binval res, false) by rw [Rq.levelPass, if_neg h1, if_neg h2, if_pos h3]]
    show ∃ σ' : State, _ = R.ok (Flow.ret, σ') ∧ σ'.mem = _
    refine post_in (fun y => ∃ σ', thenStep (seqK (seqK y _) _) _ = .ok (.ret, σ') ∧ σ'.mem = _)
      (stride_map (nn := nn) (lo := binval) (hi := nn) (s := 2 * binval) (Γ := [pr]) (rp := 0) hC hs2 (show 10 < 22 by decide) (by omega)
        (Nat.le_refl _) res hres (by rfl) (fun e => .un .neg ty e) o.neg (fun _ _ _ h => eval_neg_elem ho h)
        (fun _ _ => by rfl) (fun _ _ => by cir_simp; rw [two_mul_u64 binval (by omega)]) f (by omega))
      ?_
    rintro σ' ⟨dj, rfl⟩
    cir_simp
    refine ⟨_, rfl, ?_⟩
    show M _ = M (Rq.negatePass o nn binval res)
    simp only [Rq.negatePass, ho.zero]
  rw [if_neg (mt of_decide_eq_true h3), exec_if_seq _ _ _ _ _ _ (decide ((vp + binval) % nn = 0)) ?c4]
  case c4 =>
    cir_simp
    simp only [add_u64_nat vp binval (by omega), Int.toNat_natCast, (band_mask_nat t nn hnn _).2, Int.zero_emod]
    exact ok_decide_congr (by omega)
  by_cases h4 : (vp + binval) % nn = 0
  · rw [if_pos (decide_eq_true h4), exec_seq, show Rq.levelPass o nn pm binval vp orb res
      = (Rq.mirrorPass o nn binval res, true) by rw [Rq.levelPass, if_neg h1, if_neg h2, if_neg h3, if_pos h4]]
    show ∃ σ' : State, _ = R.ok (Flow.norm, σ') ∧ lR nn pm M _ σ'
    refine post_in (fun y => ∃ σ', thenStep (seqK (seqK y _) _) _ = .ok (.norm, σ') ∧ lR nn pm M _ σ')
      (stride_swap (nn := nn) (lo := binval) (hi := nn / 2) (s := 2 * binval) (Γ := [pr]) (rp := 0) hC hs2 (show 11 < 22 by decide)
        (by omega) (by omega) res hres (by rfl) (fun e => e) (fun v => v) (fun _ _ _ h => h)
        (by decide) (show 12 < 22 by decide) hb1 (fun _ _ => by rfl) (fun _ _ _ => by rfl)
        (fun _ _ _ => by cir_simp; rw [two_mul_u64 binval (by omega)]) f (by omega))
      ?_
    rintro σ' ⟨dj, dt, rfl⟩
    rw [seqK_norm, exec_cont, seqK_cont, thenStep_cont]
    simp only [lset_zero, lset_succ]
    rw [level_inc fn hfi t nn hnn binval vp orb (by omega) (by omega)]
    refine ⟨_, rfl, ?_⟩
    show lR nn pm M ⟨l + 1, 2 * binval, (2 * vp) % (2 * nn), orb / 2, Rq.mirrorPass o nn binval res⟩ _
    simp only [Rq.mirrorPass, ho.zero]
    exact ⟨_, _, _, _, _, _, _, _, _, _, _, _, _, _, rfl⟩
  rw [if_neg (mt of_decide_eq_true h4)]
  rw [show Rq.levelPass o nn pm binval vp orb res = (Coeffs.autWalkAll o nn pm orb nn binval 0 res, true) by
    rw [Rq.levelPass, if_neg h1, if_neg h2, if_neg h3, if_neg h4]]
  show ∃ σ' : State, _ = R.ok (Flow.norm, σ') ∧ lR nn pm M _ σ'
  cir_simp
  clear h1 h2 h3 h4
  have ht1 : 1 ≤ t := by
    rcases Nat.eq_zero_or_pos t with h | h
    · subst h; simp at hnn; omega
    · exact h
  let b0 : PB := ⟨binval, ⟨0, 0, 0, res, 0⟩⟩
  have hb0 : PBG nn orb nn b0 := ⟨hres, by
    show binval % nn ≠ 0
    rw [Nat.mod_eq_of_lt hlt]; omega, hlt, by show orb ≤ 0 + 2 * nn; omega, by show 0 ≤ orb + 2 * nn; omega⟩
  refine Post.thenStep _ _ _ _
    (while_rel _ _ _ (pbR nn pm M binval vp orb x8 x9 x10 x11 x12) (pbTst orb) (pbStp o nn pm) (PBG nn orb) nn
      ?hG ?hzero ?hcond ?hbody nn b0 _ f hb0 ⟨_, _, _, _, _, _, _, rfl⟩ (by omega)) ?fin
  case fin =>
    rintro σ' ⟨d15, d16, d17, d18, d19, d20, d21, rfl⟩
    rw [autWalkAll_eq o nn pm orb nn b0]
    exact ⟨_, level_inc fn hfi t nn hnn binval vp orb (by omega) (by omega) .., _, _, _, _, _, _, _, _, _, _, _, _, _, _, rfl⟩
  case hG =>
    intro m b h htst
    have := PBG_step o t pm orb m b (hnn ▸ h) htst
    rw [← hnn] at this
    exact this
  case hzero =>
    intro b ⟨_, _, _, h4, _⟩
    simp only [pbTst]
    exact decide_eq_false (by omega)
  case hcond =>
    rintro m b σ _ ⟨d15, d16, d17, d18, d19, d20, d21, rfl⟩
    cir_simp
    simp only [pbTst, Nat.cast_lt]
  case hbody =>
    rintro m b σ f' hG ⟨d15, d16, d17, d18, d19, d20, d21, rfl⟩ htst hf'
    obtain ⟨g1, g2, g3, g4, g5⟩ := hG
    have hnb : b.a.nb < orb := by simpa [pbTst] using htst
    have hjs1 : b.jstart ≠ 0 := fun h => g2 (by rw [h]; exact Nat.zero_mod _)
    cir_simp [hC.load b.a.res b.jstart g1 g3, sub_u64_nat nn b.jstart (by omega) (by omega),
      hC.load b.a.res (nn - b.jstart) g1 (by omega)]
    refine Post.seq _ _ (pR nn pm M binval vp orb x8 x9 x10 x11 x12 b.jstart
        (walkA (pStp o nn pm) (pEx b.jstart) nn (pbEnter o nn b))) _
      (doWhile_rel _ _ _ (pR nn pm M binval vp orb x8 x9 x10 x11 x12 b.jstart) (pStp o nn pm) (pEx b.jstart)
        (PAG nn) ?hG ?hbody ?hcond nn (pbEnter o nn b) _ f' ?hG0 ⟨d18, d19, d20, d21, by simp only [pbEnter, ho.zero]⟩
        ?hT (by omega)) ?after
    case after =>
      rintro σ' ⟨e18, e19, e20, e21, rfl⟩
      cir_simp [Int.toNat_natCast, five_mul_mask1 t nn hnn (by omega) b.jstart]
      exact ⟨_, rfl, _, _, _, _, _, _, _, rfl⟩
    case hG =>
      intro m' a h _
      have := PAG_step o t pm hpm1 m' a (hnn ▸ h)
      rw [← hnn] at this
      exact this
    case hG0 => exact ⟨g1, g2, by show b.a.nb + 2 * nn < 18446744073709551616; omega⟩
    case hT =>
      apply termA_of_pcloses o nn pm b.jstart nn
      have := pcloses_self t pm b.jstart hpm1 ht1 (hnn ▸ g3)
      rw [← hnn] at this
      exact this
    case hcond =>
      rintro a σ ⟨e18, e19, e20, e21, rfl⟩
      cir_simp
      simp only [pEx]
      by_cases h : a.j = b.jstart <;> simp [h]
    case hbody =>
      rintro m' a σ f'' ⟨q1, q2, q3⟩ ⟨e18, e19, e20, e21, rfl⟩
      have hnz : a.j * pm % (2 * nn) % nn ≠ 0 := by
        rw [Nat.mod_mul_left_mod]
        have := mul_odd_mod_ne_zero t pm a.j hpm1 (hnn ▸ q2)
        rw [← hnn] at this
        exact this
      have hmod : a.j * pm % (2 * nn) % nn < nn := Nat.mod_lt _ (by omega)
      simp only [pStp, ho.zero]
      cir_simp [Int.toNat_natCast, mul_mask2 t nn hnn (by omega) a.j pm, (band_mask_nat t nn hnn _).2]
      generalize a.j * pm % (2 * nn) = nj at hnz hmod ⊢
      generalize nj % nn = q at hnz hmod ⊢
      obtain ⟨j, t1, t2, X, nb⟩ := a
      simp only at q1 q3 ⊢
      clear g1 g2 g3 g4 g5 hnb hjs1 hb0 q2 hf' hf3 hlt hvp horb hpm1 ht1 hs2
      -- what the turn loads and stores, then one pass over its statements
      have hnq : nn - q < nn := by omega
      have hsub := sub_u64_nat nn q (by omega) (by omega)
      have hst1 := fun v => hC.store X q v q1 hmod
      have hst2 := fun v w => hC.store (X.setIfInBounds q v) (nn - q) w
        (by rw [Array.size_setIfInBounds]; exact q1) hnq
      by_cases hlt2 : nj < nn
      · cir_simp [hC.load X q q1 hmod, hsub, hC.load X (nn - q) q1 hnq, Nat.cast_lt, hlt2,
          decide_true, if_true, hst1, hst2, add_two_u64 nb (by omega)]
        exact ⟨_, rfl, _, _, _, _, rfl⟩
      · cir_simp [hC.load X q q1 hmod, hsub, hC.load X (nn - q) q1 hnq, Nat.cast_lt, hlt2,
          decide_false, Bool.false_eq_true, if_false, ho.neg, hst1, hst2, add_two_u64 nb (by omega)]
        exact ⟨_, rfl, _, _, _, _, rfl⟩

end level

/-- the in-place automorphism kernel at any element type: prologue, then the level loop against `Coeffs.autLevels`
    (`loopN_levels_rel`) with `aut_level`, on the cells of any family of memories -/
theorem src_automorphism_inplace {ty : Ty} {o : Ops Int} (ho : ElemOps ty o) (fn : Fn)
    (hfb : fn.body = Gen.CSrc.znx_automorphism_inplace_i64.body.unAt ty) (hfs : fn.nslots = 22) (t : Nat)
    (ht : t ≤ 62) (nn : Nat) (hnn : nn = 2 ^ t) (p : Int) (hp : p % 2 = 1) {M : Array Int → Mem}
    {pr : Ptr} (hC : Cells M pr nn) (X : Array Int) (hX : X.size = nn) :
    ∀ fuel, 3 * nn + 64 ≤ fuel →
      run fuel fn [(nn : Int), p] [pr] (M X) = .ok (M (Coeffs.automorphismInplace o nn p X)) := by
  obtain ⟨name, sc, ps, ns, body, ret⟩ := fn
  subst hfb hfs
  intro fuel hf
  have hn1 : 1 ≤ nn := hnn ▸ one_le_pow2 t
  have hn2 : nn ≤ 4611686018427387904 := by
    have : 2 ^ t ≤ 2 ^ 62 := Nat.pow_le_pow_right (by decide) ht
    have e : (2 : Nat) ^ 62 = 4611686018427387904 := by decide
    omega
  have em : ((2 % 18446744073709551616 * (nn : Int) % 18446744073709551616 - 1 % 18446744073709551616)
      % 18446744073709551616) = ((2 * nn - 1 : Nat) : Int) := by omega
  have em1 : (((nn : Int) - 1 % 18446744073709551616) % 18446744073709551616) = ((nn - 1 : Nat) : Int) := by omega
  -- p reduced mod 2nn
  obtain ⟨pm, hpmdef⟩ : ∃ pm, pm = posMask p (2 * nn) := ⟨_, rfl⟩
  have hpm2 : pm < 2 * nn := hpmdef ▸ posMask_lt p (2 * nn) (by omega)
  have e2n : 2 * nn - 1 = 2 ^ (t + 1) - 1 := by rw [hnn, two_mul_pow]
  have hpmask : ∀ x : Int, (x % 18446744073709551616).toNat &&& (2 * nn - 1) = posMask x (2 * nn) := by
    intro x
    rw [e2n, u64_and_mask x (t + 1) (by omega), ← two_mul_pow, ← hnn]
    rfl
  dsimp only [run, Gen.CSrc.znx_automorphism_inplace_i64, Stmt.unAt, Expr.unAt, Ty.elemAt, List.length_cons, List.length_nil,
    List.replicate, List.cons_append, List.nil_append, Nat.reduceSub, Nat.reduceAdd]
  cir_simp
  rw [em, em1, evalBin_shr_u64_one]; cir_simp
  simp only [Int.toNat_natCast]
  rw [hpmask p, ← hpmdef]
  have hpm63 : pm < 9223372036854775808 := by omega
  have ew : wrapS ((pm : Nat) : Int) = (pm : Int) := wrapS_nat pm hpm63
  show memOf (exec _ _ fuel ⟨[(nn : Int), wrapS (pm : Int), _, _, _, _, _, _, _, _, _, _, _, _, _, _, _, _, _, _, _, _], _⟩) = _
  rw [ew, exec_for_eq]; cir_simp
  simp only [Int.toNat_natCast]
  have evp : ((pm : Int) % 18446744073709551616).toNat &&& (2 * nn - 1) = pm := by
    rw [hpmask (pm : Int)]
    exact posMask_natCast pm (2 * nn) hpm2
  rw [evp]
  have e1 : (1 : Int) % 18446744073709551616 = ((1 : Nat) : Int) := by decide
  rw [e1, forLoop_def]
  -- the level loop
  let g0 : LG := ⟨0, 1, pm, nn / 2, X⟩
  have hg0 : LGood t nn g0 := ⟨rfl, Nat.zero_le _, hpm2, Nat.div_le_self nn 2, hX⟩
  let modelL : Nat → LG → Mem := fun m g => M (Coeffs.autLevels o nn pm m g.binval g.vp g.orb g.res)
  let fn0 : Fn := ⟨name, sc, ps, 22, Gen.CSrc.znx_automorphism_inplace_i64.body.unAt ty, ret⟩
  refine (loopN_levels_rel _ _ (lR nn pm M) (LGood t nn) (fun g => decide (g.binval < nn))
    (fun g M => ∀ m, modelL (m + 1) g = M)
    (fun g g' => (∀ m, modelL (m + 1) g = modelL m g') ∧ (t - g'.l) + 1 ≤ t - g.l)
    modelL (fun g => t - g.l) (3 * nn) ?hcond ?hrank ?hstop ?hdone ?hnext ?hstep 64 g0 _ fuel hg0 ?hR0 (by
      show t - 0 ≤ 64
      omega) (by
      show t - 0 + 3 * nn ≤ fuel
      omega)).trans ?fin
  case fin =>
    show R.ok (M (Coeffs.autLevels o nn pm 64 1 pm (nn / 2) X)) = _
    subst hpmdef
    rfl
  case hR0 => exact ⟨_, _, _, _, _, _, _, _, _, _, _, _, _, _, rfl⟩
  case hcond =>
    rintro g σ ⟨x8, x9, x10, x11, x12, x13, x14, x15, x16, x17, x18, x19, x20, x21, rfl⟩
    cir_simp
    simp only [Nat.cast_lt]
  case hrank =>
    intro g hI hc
    obtain ⟨h1, h2, _⟩ := hI
    have hlt : g.binval < nn := by simpa using hc
    have hlt2 : 2 ^ g.l < 2 ^ t := by rw [← h1, ← hnn]; exact hlt
    have := (Nat.pow_lt_pow_iff_right (a := 2) (by decide)).mp hlt2
    omega
  case hstop =>
    rintro m g σ ⟨x8, x9, x10, x11, x12, x13, x14, x15, x16, x17, x18, x19, x20, x21, rfl⟩ hc
    have hge : ¬ g.binval < nn := by simpa using hc
    simp only [modelL]
    cases m with
    | zero => rfl
    | succ m => unfold Coeffs.autLevels; rw [if_neg hge]
  case hdone => intro m g M _ h; exact h m
  case hnext => intro m g g' _ h; exact ⟨h.1 m, h.2⟩
  case hstep =>
    intro g σ hI hσ hc f hf3
    obtain ⟨l, binval, vp, orb, res⟩ := g
    obtain ⟨hbin, hl, hvp, horb, hres⟩ := hI
    simp only at hbin hl hvp horb hres hc
    have hlt : binval < nn := by simpa using hc
    have hpm1 : pm % 2 = 1 := hpmdef ▸ posMask_odd nn (by omega) p hp
    have hl1 : l + 1 ≤ t := by
      have hlt2 : 2 ^ l < 2 ^ t := by rw [← hbin, ← hnn]; exact hlt
      have := (Nat.pow_lt_pow_iff_right (a := 2) (by decide)).mp hlt2
      omega
    have hbin' : 2 * binval = 2 ^ (l + 1) := by rw [hbin, two_mul_pow]
    have hmodel := fun m => Rq.autLevels_succ o nn pm m binval vp orb res hlt
    have hvp' : (2 * vp) % (2 * nn) < 2 * nn := Nat.mod_lt _ (by omega)
    have horb' : orb / 2 ≤ nn := by have := Nat.div_le_self orb 2; omega
    have hrk : t - (l + 1) + 1 ≤ t - l := by omega
    show (∃ σ', levelStep fn0 [pr] f σ = _ ∧ _) ∨ (∃ g' σ', levelStep fn0 [pr] f σ = _ ∧ _)
    obtain ⟨σ', e1, e2⟩ := aut_level ho fn0 rfl rfl t ht nn hnn pm hpm1 hC l binval vp orb res hbin hvp horb
      hres hlt f hf3 hσ
    cases hb : (Rq.levelPass o nn pm binval vp orb res).2
    · rw [hb] at e1 e2
      exact Or.inl ⟨σ', e1, fun m => by
        simp only [modelL, hmodel, hb, Bool.false_eq_true, if_false]
        exact (show σ'.mem = _ from e2).symm⟩
    · rw [hb] at e1 e2
      exact Or.inr ⟨_, σ', e1, e2, ⟨fun m => by simp only [modelL, hmodel, if_pos hb], hrk⟩,
        hbin', hl1, hvp', horb', by rw [Rq.size_levelPass]; exact hres⟩

end Spq.CIR
