/-
  C05 helper lemmas, heap level: `VecZnx.normalize` as one downward pass over the limbs of `a` with a
  uniform step (`nstep`), the loop invariant relating the heap after the pass to the per-coefficient
  chain `normChain`, and the zero-extension loop.
-/
import SpqProofs.Lemmas.NormChain
import SpqProofs.Lemmas.VecOps
namespace Spq.Norm
open Spq Heap Coeffs Spq.C08

theorem znx_size1 (nn k : Nat) (inp : Array Int) (cin : Option (Array Int)) :
    (znxNormalize nn k inp cin).1.size = nn := by simp [znxNormalize]

theorem znx_size2 (nn k : Nat) (inp : Array Int) (cin : Option (Array Int)) :
    (znxNormalize nn k inp cin).2.size = nn := by simp [znxNormalize]

theorem znx_fst (nn k : Nat) (inp : Array Int) (cin : Option (Array Int)) (c : Nat) (hc : c < nn) :
    (znxNormalize nn k inp cin).1[c]? =
      some (normCoef k (inp.getD c 0) (cin.map fun v => v.getD c 0)).1 := by
  simp [znxNormalize, hc]

theorem znx_snd (nn k : Nat) (inp : Array Int) (cin : Option (Array Int)) (c : Nat) (hc : c < nn) :
    (znxNormalize nn k inp cin).2.getD c 0 =
      (normCoef k (inp.getD c 0) (cin.map fun v => v.getD c 0)).2 := by
  simp [znxNormalize, hc, Array.getD_eq_getD_getElem?]

abbrev NState := Heap Int × Option (Array Int)

/-- the limb step of `vec_znx_normalize_base2k_ref`: `znx_normalize(nn, k, out, cout, a_i, cin)` with
    `out = res_i` if `i < res_size`, else `out = NULL` -/
def nstep (nn k res rsz rsl a asl : Nat) (st : NState) (i : Nat) : NState :=
  let r := znxNormalize nn k (st.1.readLimb 0 (a + i * asl) nn) st.2
  (if i < rsz then (st.1.touch (a + i * asl) nn).writeLimb (res + i * rsl) r.1
   else st.1.touch (a + i * asl) nn, some r.2)

theorem range_split (rsz asz : Nat) (hr : rsz ≠ 0) (has : asz ≠ 0) :
    (List.range' 0 asz).reverse =
      (List.range' rsz (asz - rsz)).reverse ++ ((List.range' 1 (min rsz asz - 1)).reverse ++ [0]) := by
  obtain ⟨m, rfl⟩ : ∃ m, asz = m + 1 := ⟨asz - 1, by omega⟩
  have key : List.range' 1 m = List.range' 1 (min rsz (m + 1) - 1) ++ List.range' rsz (m + 1 - rsz) := by
    by_cases hlt : rsz < m + 1
    · have := @List.range'_append 1 (min rsz (m + 1) - 1) (m + 1 - rsz) 1
      rw [show 1 + 1 * (min rsz (m + 1) - 1) = rsz by omega] at this
      rw [this]; congr 1; omega
    · rw [show m + 1 - rsz = 0 by omega, show min rsz (m + 1) = m + 1 by omega]
      simp
  rw [List.range'_succ, key]
  simp

theorem normalize_nf (nn k : Nat) (h : Heap Int) (res rsz rsl a asz asl : Nat)
    (hr : rsz ≠ 0) (has : asz ≠ 0) :
    VecZnx.normalize nn k h res rsz rsl a asz asl =
      forLimbs asz rsz (fun i => limb0 (Coeffs.zero i64Ops nn) (res + i * rsl))
        ((List.range' 0 asz).reverse.foldl (nstep nn k res rsz rsl a asl) (h, none)).1 := by
  unfold VecZnx.normalize
  rw [if_neg hr, if_neg has]
  have hl := range_split rsz asz hr has
  rw [hl, List.foldl_append, List.foldl_append]
  simp only [List.foldl_cons, List.foldl_nil]
  have f1 : ∀ (st0 : NState),
      (List.range' rsz (asz - rsz)).reverse.foldl (fun (st : NState) i =>
        let r := Coeffs.znxNormalize nn k (st.1.readLimb 0 (a + i * asl) nn) st.2
        (st.1.touch (a + i * asl) nn, some r.2)) st0
      = (List.range' rsz (asz - rsz)).reverse.foldl (nstep nn k res rsz rsl a asl) st0 := by
    intro st0
    apply foldl_congr_mem
    intro i hi st
    rw [List.mem_reverse, List.mem_range'_1] at hi
    have : ¬ i < rsz := by omega
    simp [nstep, this]
  have f2 : ∀ (st0 : NState),
      (List.range' 1 (min rsz asz - 1)).reverse.foldl (fun (st : NState) i =>
        let r := Coeffs.znxNormalize nn k (st.1.readLimb 0 (a + i * asl) nn) st.2
        ((st.1.touch (a + i * asl) nn).writeLimb (res + i * rsl) r.1, some r.2)) st0
      = (List.range' 1 (min rsz asz - 1)).reverse.foldl (nstep nn k res rsz rsl a asl) st0 := by
    intro st0
    apply foldl_congr_mem
    intro i hi st
    rw [List.mem_reverse, List.mem_range'_1] at hi
    have : i < rsz := by omega
    simp [nstep, this]
  rw [f1, f2]
  have h0 : 0 < rsz := by omega
  simp [nstep, h0]

/-- limbs `lo, …, lo+n-1` of coefficient `c` of the vector at `a` (stride `asl`) -/
def limbsFrom (m : Array Int) (a asl c lo n : Nat) : List Int :=
  (List.range' lo n).map fun i => m.getD (a + i * asl + c) 0

/-- all `asz` limbs of coefficient `c`, most significant first -/
abbrev coefLimbs (m : Array Int) (a asz asl c : Nat) : List Int := limbsFrom m a asl c 0 asz

theorem limbsFrom_succ (m : Array Int) (a asl c lo n : Nat) :
    limbsFrom m a asl c lo (n + 1) = m.getD (a + lo * asl + c) 0 :: limbsFrom m a asl c (lo + 1) n := by
  simp [limbsFrom, List.range'_succ]

theorem limbsFrom_drop (m : Array Int) (a asl c asz i : Nat) :
    (coefLimbs m a asz asl c).drop i = limbsFrom m a asl c i (asz - i) := by
  simp [limbsFrom, ← List.map_drop, List.drop_range']

theorem pass_inv (nn k : Nat) (h : Heap Int) (res rsz rsl a asz asl : Nat)
    (hsl : nn ≤ rsl) (hres : InBounds nn h.mem.size res rsz rsl)
    (ha : SrcOK nn res rsz rsl a asz asl) (n lo : Nat) (hlo : lo + n = asz) :
    let st := (List.range' lo n).reverse.foldl (nstep nn k res rsz rsl a asl) (h, none)
    st.1.mem.size = h.mem.size ∧
    (∀ i c, lo ≤ i → i < asz → i < rsz → c < nn →
      st.1.mem[res + i * rsl + c]? = (normChain k (limbsFrom h.mem a asl c i (asz - i))).1.head?) ∧
    (∀ x, (∀ i, lo ≤ i → i < asz → i < rsz → x < res + i * rsl ∨ res + i * rsl + nn ≤ x) →
      st.1.mem[x]? = h.mem[x]?) ∧
    (∀ c, c < nn → (st.2.map fun v => v.getD c 0) = (normChain k (limbsFrom h.mem a asl c lo n)).2) ∧
    ((∀ i, lo ≤ i → i < asz → a + i * asl + nn ≤ h.mem.size) → st.1.ok = h.ok) := by
  induction n generalizing lo with
  | zero =>
    refine ⟨rfl, ?_, ?_, ?_, ?_⟩
    · intro i c h1 h2; omega
    · intro x _; rfl
    · intro c _; rfl
    · intro _; rfl
  | succ n ih =>
    have ih' := ih (lo + 1) (by omega)
    rw [List.range'_succ, List.reverse_cons, List.foldl_append]
    simp only [List.foldl_cons, List.foldl_nil]
    generalize (List.range' (lo + 1) n).reverse.foldl (nstep nn k res rsz rsl a asl) (h, none) = st at ih'
    obtain ⟨i1, i2, i3, i4, i5⟩ := ih'
    have hloa : lo < asz := by omega
    -- the limb read at step `lo` is the original one
    have hread : st.1.readLimb 0 (a + lo * asl) nn = h.readLimb 0 (a + lo * asl) nn := by
      apply readLimb_congr
      intro x hx1 hx2
      apply i3
      intro i hi1 hi2 hi3
      rcases ha with ⟨rfl, rfl⟩ | hdisj
      · have := stride_mono a asl nn hsl i lo (by omega); omega
      · have := hdisj lo i hloa hi3; omega
    have hinp : ∀ c, c < nn → (h.readLimb 0 (a + lo * asl) nn).getD c 0 = h.mem.getD (a + lo * asl + c) 0 := by
      intro c hc
      rw [Array.getD_eq_getD_getElem?, getElem?_readLimb _ _ _ _ _ hc]; rfl
    have hsz : (nstep nn k res rsz rsl a asl st lo).1.mem.size = h.mem.size := by
      unfold nstep
      split
      · simp [writeLimb, touch, i1]
      · simp [touch, i1]
    refine ⟨hsz, ?_, ?_, ?_, ?_⟩
    · intro i c hi1 hi2 hi3 hc
      by_cases hil : i = lo
      · subst hil
        simp only [nstep, if_pos hi3, writeLimb, touch]
        rw [getElem?_writeArr_of_in _ _ _ _ (by rw [znx_size1]; exact hc)
          (by rw [znx_size1, i1]; exact hres i hi3)]
        rw [znx_fst _ _ _ _ _ hc, hread, hinp c hc, i4 c hc]
        rw [show asz - i = n + 1 by omega, limbsFrom_succ]
        simp [normChain]
      · have hgt : lo < i := by omega
        have hkeep : (nstep nn k res rsz rsl a asl st lo).1.mem[res + i * rsl + c]? = st.1.mem[res + i * rsl + c]? := by
          unfold nstep
          split
          · simp only [writeLimb, touch]
            apply getElem?_writeArr_of_out
            rw [znx_size1]
            have := stride_mono res rsl nn hsl i lo hgt; omega
          · rfl
        rw [hkeep]
        exact i2 i c (by omega) hi2 hi3 hc
    · intro x hx
      have hrest : st.1.mem[x]? = h.mem[x]? :=
        i3 x (fun i hi1 hi2 hi3 => hx i (by omega) hi2 hi3)
      rw [← hrest]
      unfold nstep
      split
      · rename_i hlr
        simp only [writeLimb, touch]
        apply getElem?_writeArr_of_out
        rw [znx_size1]
        have := hx lo (by omega) hloa hlr; omega
      · rfl
    · intro c hc
      have : (nstep nn k res rsz rsl a asl st lo).2 =
          some (znxNormalize nn k (st.1.readLimb 0 (a + lo * asl) nn) st.2).2 := rfl
      rw [this, Option.map_some, znx_snd _ _ _ _ _ hc, hread, hinp c hc, i4 c hc, limbsFrom_succ]
      simp [normChain]
    · intro hab
      have hok := i5 (fun i hi1 hi2 => hab i (by omega) hi2)
      have hb1 := hab lo (by omega) hloa
      unfold nstep
      split
      · rename_i hlr
        have := hres lo hlr
        simp only [writeLimb, touch, znx_size1, i1, hok]
        simp [hb1, this]
      · simp only [touch, i1, hok]
        simp [hb1]

theorem zeroLoop_spec (nn : Nat) (h : Heap Int) (res rsl lo hi : Nat) (hsl : nn ≤ rsl)
    (hb : ∀ i, lo ≤ i → i < hi → res + i * rsl + nn ≤ h.mem.size) :
    let h' := forLimbs lo hi (fun i => limb0 (Coeffs.zero i64Ops nn) (res + i * rsl)) h
    h'.mem.size = h.mem.size ∧
    (∀ i c, lo ≤ i → i < hi → c < nn → h'.mem[res + i * rsl + c]? = some 0) ∧
    (∀ x, (∀ i, lo ≤ i → i < hi → x < res + i * rsl ∨ res + i * rsl + nn ≤ x) → h'.mem[x]? = h.mem[x]?) ∧
    h'.ok = h.ok := by
  intro h'
  have e : ∀ i, res + (lo + i) * rsl = res + lo * rsl + i * rsl := fun i => by rw [Nat.add_mul, Nat.add_assoc]
  have e' : h' = forLimbs 0 (hi - lo) (fun i => limb0 (Coeffs.zero i64Ops nn) (res + lo * rsl + i * rsl)) h := by
    show forLimbs lo hi _ h = _
    rw [forLimbs_shift]; simp only [e]
  obtain ⟨a, b, c, f⟩ := store_post (0 : Int) nn (fun _ => Coeffs.zero i64Ops nn) (fun _ => by simp) h (res + lo * rsl)
    (hi - lo) rsl hsl (fun i hi' => by rw [← e]; exact hb _ (by omega) (by omega))
  rw [← e'] at a b c f
  refine ⟨a, fun i c' h1 h2 hc => ?_, fun x hx => f x (fun i hi' => by rw [← e]; exact hx _ (by omega) (by omega)), b⟩
  have := c (i - lo) c' (by omega) hc
  rw [← e, show lo + (i - lo) = i by omega] at this
  rw [this]; simp [Coeffs.zero, i64Ops, hc]

def chainCell (k : Nat) (m : Array Int) (a asz asl i c : Nat) : Option Int :=
  if i < asz then (normChain k (limbsFrom m a asl c i (asz - i))).1.head? else some 0

theorem normalize_chain_spec (nn k : Nat) (h : Heap Int) (res rsz rsl a asz asl : Nat)
    (hsl : nn ≤ rsl) (hres : InBounds nn h.mem.size res rsz rsl)
    (ha : SrcOK nn res rsz rsl a asz asl) :
    let h' := VecZnx.normalize nn k h res rsz rsl a asz asl
    h'.mem.size = h.mem.size ∧
    (∀ i c, i < rsz → c < nn → h'.mem[res + i * rsl + c]? = chainCell k h.mem a asz asl i c) ∧
    Frame nn res rsz rsl h.mem h'.mem ∧
    (InBounds nn h.mem.size a asz asl → h'.ok = h.ok) := by
  intro h'
  by_cases hr : rsz = 0
  · have e : h' = h := by show VecZnx.normalize _ _ _ _ _ _ _ _ _ = _; unfold VecZnx.normalize; rw [if_pos hr]
    rw [e]
    refine ⟨rfl, ?_, fun x _ => rfl, fun _ => rfl⟩
    intro i c hi; omega
  by_cases has : asz = 0
  · have e : h' = forLimbs 0 rsz (fun i => limb0 (Coeffs.zero i64Ops nn) (res + i * rsl)) h := by
      show VecZnx.normalize _ _ _ _ _ _ _ _ _ = _; unfold VecZnx.normalize; rw [if_neg hr, if_pos has]
    obtain ⟨z1, z2, z3, z4⟩ := zeroLoop_spec nn h res rsl 0 rsz hsl (fun i _ hi => hres i hi)
    rw [e]
    refine ⟨z1, ?_, ?_, fun _ => z4⟩
    · intro i c hi hc
      rw [z2 i c (Nat.zero_le _) hi hc]
      simp [chainCell, has]
    · intro x hx
      exact z3 x (fun i _ hi => hx i hi)
  · have e : h' = _ := normalize_nf nn k h res rsz rsl a asz asl hr has
    have inv := pass_inv nn k h res rsz rsl a asz asl hsl hres ha asz 0 (by omega)
    simp only at inv
    generalize (List.range' 0 asz).reverse.foldl (nstep nn k res rsz rsl a asl) (h, none) = st at inv e
    obtain ⟨i1, i2, i3, _, i5⟩ := inv
    obtain ⟨z1, z2, z3, z4⟩ := zeroLoop_spec nn st.1 res rsl asz rsz hsl
      (fun i _ hi => by rw [i1]; exact hres i hi)
    rw [e]
    refine ⟨by rw [z1, i1], ?_, ?_, ?_⟩
    · intro i c hi hc
      by_cases hia : i < asz
      · rw [z3 _ (fun j hj1 hj2 => by
          have := stride_mono res rsl nn hsl j i (by omega); omega)]
        rw [i2 i c (Nat.zero_le _) hia hi hc]
        simp [chainCell, hia]
      · rw [z2 i c (by omega) hi hc]
        simp [chainCell, hia]
    · intro x hx
      rw [z3 x (fun i _ hi => hx i hi)]
      exact i3 x (fun i _ _ hi => hx i hi)
    · intro hab
      rw [z4]
      exact i5 (fun i _ hi => hab i hi)

theorem normalize_spec_of (nn k : Nat) (D C : Int → Prop) (hD : ExactStep k D C) (h : Heap Int)
    (res rsz rsl a asz asl : Nat)
    (hsl : nn ≤ rsl) (hres : InBounds nn h.mem.size res rsz rsl)
    (ha : SrcOK nn res rsz rsl a asz asl)
    (hb : ∀ i c, i < asz → c < nn → D (h.mem.getD (a + i * asl + c) 0)) :
    let h' := VecZnx.normalize nn k h res rsz rsl a asz asl
    h'.mem.size = h.mem.size ∧
    (∀ i c, i < rsz → c < nn → h'.mem[res + i * rsl + c]? =
      some (if i < asz then (balancedDigits k (coefLimbs h.mem a asz asl c)).1.getD i 0 else 0)) ∧
    Frame nn res rsz rsl h.mem h'.mem := by
  intro h'
  obtain ⟨s1, s2, s3, _⟩ := normalize_chain_spec nn k h res rsz rsl a asz asl hsl hres ha
  refine ⟨s1, ?_, s3⟩
  intro i c hi hc
  rw [s2 i c hi hc]
  unfold chainCell
  split
  · rename_i hia
    have hbnd : ∀ x ∈ limbsFrom h.mem a asl c i (asz - i), D x := by
      intro x hx
      simp only [limbsFrom, List.mem_map, List.mem_range'_1] at hx
      obtain ⟨j, hj, rfl⟩ := hx
      exact hb j c (by omega) hc
    rw [(normChain_eq_of k D C hD _ hbnd).1, ← limbsFrom_drop, balancedDigits_drop, List.head?_drop,
      List.getD_eq_getElem?_getD, List.getElem?_eq_getElem (by simp [limbsFrom]; exact hia)]
    rfl
  · rfl

end Spq.Norm
