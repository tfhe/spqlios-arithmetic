/-
  Facts about the constants READ FROM THE CODE (lean/Gen/Q120Consts.lean) that the conversion
  theorems of C10 need, by kernel evaluation; and the element-wise description of the vector forms
  of the conversions (what the driver runs).
-/
import SpqProofs.Lemmas.Q120Crt
import Gen.Q120Consts
namespace Spq.Q120

/-- the primes and CRT constants of the current build -/
def curParams : Q120Params := ⟨Gen.q120_q, Gen.q120_crt⟩

/-- `Qk_CRT_CST ≡ (Q/q_k)^{-1} (mod q_k)`, `Q` odd, sizes fit (see `crtOK`) -/
theorem crtOK_current : crtOK curParams = true := by decide +kernel
/-- `Q > 2^64`: every int64 is a centered representative -/
theorem bigQ_gt_current : 18446744073709551616 < bigQN curParams := by decide +kernel
/-- `0 < q_k ≤ 2^30` (what `add_bbb` needs not to wrap) -/
theorem primes_small_current : ∀ k, k < 4 → 0 < curParams.q k ∧ curParams.q k ≤ 1073741824 := by
  decide +kernel

theorem addBbb_getD (p : Q120Params) (nn : Nat) (x y : Array Nat) (i : Nat) (hi : i < 4 * nn) :
    (addBbb p nn x y).getD i 0 = addBbbLane (p.q (i % 4)) (x.getD i 0) (y.getD i 0) := by
  unfold addBbb; rw [getD_ofFn _ _ i hi]

theorem addCcc_getD (p : Q120Params) (nn : Nat) (x y : Array Nat) (i : Nat) (hi : i < 8 * nn) :
    (addCcc p nn x y).getD i 0 = addCccWord (p.q ((i % 8) / 2)) (x.getD i 0) (y.getD i 0) := by
  unfold addCcc; rw [getD_ofFn _ _ i hi]

theorem cFromB_getD (p : Q120Params) (nn : Nat) (x : Array Nat) (m : Nat) (hm : m < 4 * nn) :
    (cFromB p nn x).getD (2 * m) 0 = (cFromBLane (p.q (m % 4)) (x.getD m 0)).1
    ∧ (cFromB p nn x).getD (2 * m + 1) 0 = (cFromBLane (p.q (m % 4)) (x.getD m 0)).2 := by
  unfold cFromB
  rw [getD_ofFn _ _ (2 * m) (by omega), getD_ofFn _ _ (2 * m + 1) (by omega)]
  have e1 : 2 * m % 8 / 2 = m % 4 := by omega
  have e2 : (2 * m + 1) % 8 / 2 = m % 4 := by omega
  have e3 : 2 * m / 2 = m := by omega
  have e4 : (2 * m + 1) / 2 = m := by omega
  have e5 : 2 * m % 2 = 0 := by omega
  have e6 : (2 * m + 1) % 2 ≠ 0 := by omega
  simp only [e1, e2, e3, e4, e5, e6, if_true, if_false, and_self]

theorem bFromZnx64_getD (p : Q120Params) (nn : Nat) (x : Array Int) (i : Nat) (hi : i < 4 * nn) :
    (bFromZnx64 p nn x).getD i 0 = bFromZnx64Lane (p.q (i % 4)) (x.getD (i / 4) 0) := by
  unfold bFromZnx64; rw [getD_ofFn _ _ i hi]

theorem bFromZnx64_cell (p : Q120Params) (nn : Nat) (x : Array Int) (t j : Nat) (ht : t < nn) (hj : j < 4) :
    (bFromZnx64 p nn x).getD (4 * t + j) 0 = bFromZnx64Lane (p.q j) (x.getD t 0) := by
  rw [bFromZnx64_getD _ _ _ _ (by omega), show (4 * t + j) % 4 = j by omega, show (4 * t + j) / 4 = t by omega]

theorem cFromZnx64_getD (p : Q120Params) (nn : Nat) (x : Array Int) (j k : Nat) (hj : j < nn) (hk : k < 4) :
    (cFromZnx64 p nn x).getD (8 * j + 2 * k) 0 = (cFromZnx64Lane (p.q k) (x.getD j 0)).1
    ∧ (cFromZnx64 p nn x).getD (8 * j + 2 * k + 1) 0 = (cFromZnx64Lane (p.q k) (x.getD j 0)).2 := by
  unfold cFromZnx64
  rw [getD_ofFn _ _ (8 * j + 2 * k) (by omega), getD_ofFn _ _ (8 * j + 2 * k + 1) (by omega)]
  have e1 : (8 * j + 2 * k) % 8 / 2 = k := by omega
  have e2 : (8 * j + 2 * k + 1) % 8 / 2 = k := by omega
  have e3 : (8 * j + 2 * k) / 8 = j := by omega
  have e4 : (8 * j + 2 * k + 1) / 8 = j := by omega
  have e5 : (8 * j + 2 * k) % 2 = 0 := by omega
  have e6 : (8 * j + 2 * k + 1) % 2 ≠ 0 := by omega
  simp only [e1, e2, e3, e4, e5, e6, if_true, if_false, and_self]

theorem bToZnx128Vec_getD (p : Q120Params) (nn : Nat) (x : Array Nat) (j : Nat) (hj : j < nn) :
    (bToZnx128Vec p nn x).getD j 0 =
      bToZnx128 p (x.getD (4 * j) 0) (x.getD (4 * j + 1) 0) (x.getD (4 * j + 2) 0) (x.getD (4 * j + 3) 0) := by
  unfold bToZnx128Vec; rw [getD_ofFn _ _ j hj]

end Spq.Q120
