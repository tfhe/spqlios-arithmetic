/-
  C06.4: assembled rounding bound of the forward cplx transform on binary64 (interleaved layout).
-/
import SpqProofs.Lemmas.FftErrSchedCF64
import SpqProofs.Lemmas.FftErrSchedIFin
namespace Spq.FftErr
open Finset Spq.Fft Spq.Fft.Alg Spq.Fft.RelN Spq.Fft.SimP Spq.Fft.LevelN Spq.Fft.SchedN Spq.Fft.SchedC Spq.Fft.Sim Spq.F64
variable {K : Type} [Field K] [LinearOrder K] [IsStrictOrderedRing K]

/-- input / output cell `j` of an interleaved vector as a complex number over `K` -/
def cellC (v : Array ℕ) (j : ℕ) : Cplx K := toC (((val v[2 * j]! : ℚ) : K), ((val v[2 * j + 1]! : ℚ) : K))

/-- the exact forward transform of the values of the interleaved `data`: output `j` -/
def exactOutC (ζ : Cplx K) (k : ℕ) (data : Array ℕ) (j : ℕ) : Cplx K :=
  sumTo (2 ^ k) (fun i => cellC data i * ζ ^ ((1 + 4 * brev k j) * i))

theorem cfft_err_gen (Fb : CFlav ℕ) (FB : CFlav (ℕ × Prop)) (FQ : CFlav ℚ) (FK : CFlav K)
    (h1 : CFlavSim (fun (x : Nat × Prop) (b : Nat) => x.1 = b) FB Fb) (h2 : CFlavSim RelQ FB FQ)
    (h3 : CFlavSim (fun (q : ℚ) (x : K) => x = (q : K)) FQ FK)
    (hErr : CFwdErrOK FK (((7 / 2 * u64 : ℚ)) : K) (eta ((u64 : ℚ) : K) (((7 / 2 * u64 : ℚ)) : K)))
    (k : ℕ) (ζ : Cplx K) (hζ : nsq ζ = 1) (hI : ζ ^ 2 ^ k = Ic) (cN sN nsN ncN : ℕ → ℕ)
    (hcs : ∀ ℓ d b, ℓ + d + 1 = k → b < 2 ^ ℓ →
      nsq (toC (((val (cN (twE ℓ d b)) : ℚ) : K), ((val (sN (twE ℓ d b)) : ℚ) : K)) - ζ ^ twE ℓ d b) ≤
        (((7 / 2 * u64 : ℚ)) : K) ^ 2)
    (hncs : ∀ ℓ b, ℓ + 1 = k → b < 2 ^ ℓ →
      nsq (toC (((val (ncN (twE ℓ 0 b)) : ℚ) : K), ((val (nsN (twE ℓ 0 b)) : ℚ) : K)) - -ζ ^ twE ℓ 0 b) ≤
        (((7 / 2 * u64 : ℚ)) : K) ^ 2)
    (data : Array ℕ) (hdata : data.size = 2 * 2 ^ k)
    (hok : ∀ p, p < 2 * 2 ^ k →
      ((cplxFftA FB (2 ^ k) ((((cplxFftEnts (2 ^ k)).map (valQ cN sN nsN ncN)).toArray).map lift) (data.map lift))[p]!).2) :
    (∀ p, p < 2 * 2 ^ k →
      Fin64 ((cplxFftA Fb (2 ^ k) ((cplxFftEnts (2 ^ k)).map (valQ cN sN nsN ncN)).toArray data)[p]!)) ∧
    ∑ j ∈ range (2 ^ k),
        nsq (cellC (cplxFftA Fb (2 ^ k) ((cplxFftEnts (2 ^ k)).map (valQ cN sN nsN ncN)).toArray data) j
          - exactOutC ζ k data j) ≤
      ((1 + ((8 * u64 : ℚ) : K)) ^ k - 1) ^ 2 * ∑ j ∈ range (2 ^ k), nsq (exactOutC ζ k data j) := by
  rw [tableQ_map lift cN sN nsN ncN] at hok
  obtain ⟨s1, s2, s3⟩ := gNetC_sims Fb FB FQ FK h1 h2 h3 k cN sN nsN ncN
  exact (cellsCF k).err Fb FB FQ FK trivial trivial (cN, sN, nsN, ncN) (_, _, _, _) (_, _, _, _) (_, _, _, _) s1 s2 s3
    data hdata hok _ _
    (fwdN_err ζ hζ _ eta64_nonneg k _
      (gCC_err FK (fun e => ((val (cN e) : ℚ) : K)) (fun e => ((val (sN e) : ℚ) : K))
        (fun e => ((val (nsN e) : ℚ) : K)) (fun e => ((val (ncN e) : ℚ) : K)) k ζ _ _ hErr hζ hI hcs hncs) _)
    (fun j hj => V_top ζ _ k (pow_two_mul_of_I hI) j (mem_range.1 hj))

/-- the cplx implementation selected by `new_cplx_fft_precomp`: the FMA code only for `m > 4` -/
def cfamB (fma : Bool) (m : ℕ) {α : Type} (A : Arith α) (z : α) : CFlav α :=
  if fma && decide (m > 4) then cfwdFma A z else cfwdRef A

theorem cplxFft_eq (fma : Bool) (m : ℕ) (T data : Array ℕ) :
    cplxFft (if fma then "fma" else "ref") m T data = cplxFftA (cfamB fma m f64 0) m T data := by
  cases fma <;> rfl

theorem cfft_err_fam (fma : Bool) (k : ℕ) (ζ : Cplx K) (hζ : nsq ζ = 1) (hI : ζ ^ 2 ^ k = Ic) (cN sN nsN ncN : ℕ → ℕ)
    (hcs : ∀ ℓ d b, ℓ + d + 1 = k → b < 2 ^ ℓ →
      nsq (toC (((val (cN (twE ℓ d b)) : ℚ) : K), ((val (sN (twE ℓ d b)) : ℚ) : K)) - ζ ^ twE ℓ d b) ≤
        (((7 / 2 * u64 : ℚ)) : K) ^ 2)
    (hncs : ∀ ℓ b, ℓ + 1 = k → b < 2 ^ ℓ →
      nsq (toC (((val (ncN (twE ℓ 0 b)) : ℚ) : K), ((val (nsN (twE ℓ 0 b)) : ℚ) : K)) - -ζ ^ twE ℓ 0 b) ≤
        (((7 / 2 * u64 : ℚ)) : K) ^ 2)
    (data : Array ℕ) (hdata : data.size = 2 * 2 ^ k)
    (hok : ∀ p, p < 2 * 2 ^ k →
      ((cplxFftA (cfamB fma (2 ^ k) aOk (lift 0)) (2 ^ k)
        ((((cplxFftEnts (2 ^ k)).map (valQ cN sN nsN ncN)).toArray).map lift) (data.map lift))[p]!).2) :
    (∀ p, p < 2 * 2 ^ k →
      Fin64 ((cplxFftA (cfamB fma (2 ^ k) f64 0) (2 ^ k) ((cplxFftEnts (2 ^ k)).map (valQ cN sN nsN ncN)).toArray data)[p]!)) ∧
    ∑ j ∈ range (2 ^ k),
        nsq (cellC (cplxFftA (cfamB fma (2 ^ k) f64 0) (2 ^ k) ((cplxFftEnts (2 ^ k)).map (valQ cN sN nsN ncN)).toArray data) j
          - exactOutC ζ k data j) ≤
      ((1 + ((8 * u64 : ℚ) : K)) ^ k - 1) ^ 2 * ∑ j ∈ range (2 ^ k), nsq (exactOutC ζ k data j) := by
  unfold cfamB at hok ⊢
  by_cases hc : (fma && decide (2 ^ k > 4)) = true
  · rw [if_pos hc] at hok ⊢
    exact cfft_err_gen (cfwdFma f64 0) (cfwdFma aOk (lift 0)) (cfwdFmaZ aG) (cfwdFmaZ (liftA aG : Arith K))
      (cfwdFma_sim aOk_sim_f64 rfl) cfwdFma_simZ (cfwdFmaZ_sim (liftA_sim (K := K) aG aG_neg))
      (cfwdFmaZ_errOK (liftA aG) _ _ (liftA_fstd aG u64 aG_fstd) tau64_nonneg)
      k ζ hζ hI cN sN nsN ncN hcs hncs data hdata hok
  · rw [if_neg hc] at hok ⊢
    exact cfft_err_gen (cfwdRef f64) (cfwdRef aOk) (cfwdRef aG) (cfwdRef (liftA aG : Arith K))
      (cfwdRef_sim aOk_sim_f64) (cfwdRef_sim aOk_sim_aG) (cfwdRef_sim (liftA_sim (K := K) aG aG_neg))
      (cfwdRef_errOK (liftA aG) _ _ (liftA_fstd aG u64 aG_fstd) tau64_nonneg)
      k ζ hζ hI cN sN nsN ncN hcs hncs data hdata hok

end Spq.FftErr
