/-
  Slots by description.  `Has L d env`: the environment has `L` slots and holds what the association list `d` says
  (first entry wins).  A slot that is dead at a program point is simply not in `d`, so a loop head needs no family of
  literal slot lists with one parameter per dead slot; an assignment conses one entry (`Has.set`), a read is a lookup
  that `rfl` decides on the literal keys (`Has.get`).  The `Tr` rules on descriptions: `Tr.assignD`, `Tr.assignU`,
  `Tr.passignD`, `Tr.forD`, `Tr.runD`; a part of a body that writes no slot is a derivation by the rules on `(· = env)`
  for any `env` that the description holds of (`Tr.ofHas`).
-/
import SpqProofs.Lemmas.SrcTr
namespace Spq.CIR

def Has (L : Nat) (d : List (Nat × Int)) (env : List Int) : Prop :=
  env.length = L ∧ ∀ s v, d.lookup s = some v → lget env s = v

theorem Has.get {L : Nat} {d : List (Nat × Int)} {env : List Int} (H : Has L d env) (s : Nat) {v : Int}
    (h : d.lookup s = some v) : lget env s = v := H.2 s v h

/-- an assignment: also when `x` is described already -/
theorem Has.set {L : Nat} {d : List (Nat × Int)} {env : List Int} (H : Has L d env) (x : Nat) (v : Int) (hx : x < L) :
    Has L ((x, v) :: d) (lset env x v) := by
  refine ⟨(length_lset _ _ _).trans H.1, fun s w h => ?_⟩
  rw [List.lookup_cons] at h
  by_cases hs : s = x
  · subst hs
    rw [beq_self_eq_true] at h
    cases h
    exact lget_lset_self _ _ _ (H.1 ▸ hx)
  · rw [show (s == x) = false by simpa using hs] at h
    rw [lget_lset_ne _ _ _ _ (Ne.symm hs)]
    exact H.2 s w h

theorem Has.tail {L : Nat} {d : List (Nat × Int)} {env : List Int} {x : Nat} {w : Int} (H : Has L ((x, w) :: d) env)
    (hd : d.lookup x = none) : Has L d env :=
  ⟨H.1, fun s v h => H.2 s v (by
    rw [List.lookup_cons]
    by_cases hs : s = x
    · subst hs; rw [hd] at h; cases h
    · rw [show (s == x) = false by simpa using hs]; exact h)⟩

theorem Has.head {L : Nat} {d : List (Nat × Int)} {env : List Int} {s : Nat} {v : Int} (H : Has L ((s, v) :: d) env) :
    lget env s = v :=
  H.get s (by rw [List.lookup_cons, beq_self_eq_true])

/-- the first entry (a loop counter) set again -/
theorem Has.reset {L : Nat} {d : List (Nat × Int)} {env : List Int} {s : Nat} {v : Int} (H : Has L ((s, v) :: d) env)
    (w : Int) (hs : s < L) : Has L ((s, w) :: d) (lset env s w) := by
  refine ⟨(length_lset _ _ _).trans H.1, fun x u hl => ?_⟩
  rw [List.lookup_cons] at hl
  by_cases hx : x = s
  · subst hx
    rw [beq_self_eq_true] at hl
    cases hl
    exact lget_lset_self _ _ _ (H.1 ▸ hs)
  · rw [show (x == s) = false by simpa using hx] at hl
    rw [lget_lset_ne _ _ _ _ (Ne.symm hx)]
    exact H.2 x u (by rw [List.lookup_cons, show (x == s) = false by simpa using hx]; exact hl)

/-- the slots a function is entered with -/
def argsD : Nat → List Int → List (Nat × Int)
  | _, [] => []
  | i, a :: as => (i, a) :: argsD (i + 1) as

theorem lookup_argsD : ∀ (as : List Int) (i s : Nat) (v : Int), (argsD i as).lookup s = some v →
    i ≤ s ∧ lget as (s - i) = v ∧ s - i < as.length
  | [], _, _, _, h => by cases h
  | a :: as, i, s, v, h => by
    rw [argsD, List.lookup_cons] at h
    by_cases hs : s = i
    · subst hs
      rw [beq_self_eq_true] at h
      cases h
      exact ⟨Nat.le_refl _, by rw [Nat.sub_self]; rfl, by rw [Nat.sub_self]; exact Nat.zero_lt_succ _⟩
    · rw [show (s == i) = false by simpa using hs] at h
      obtain ⟨h1, h2, h3⟩ := lookup_argsD as (i + 1) s v h
      refine ⟨by omega, ?_, by simp only [List.length_cons]; omega⟩
      rw [show s - i = (s - (i + 1)) + 1 by omega]
      exact h2

theorem lget_append_left : ∀ (as bs : List Int) (s : Nat), s < as.length → lget (as ++ bs) s = lget as s
  | [], _, _, h => by cases h
  | _ :: _, _, 0, _ => rfl
  | _ :: as, bs, s + 1, h => lget_append_left as bs s (by simpa using h)

theorem has_args (args : List Int) (n : Nat) : Has (args.length + n) (argsD 0 args) (args ++ List.replicate n 0) :=
  ⟨by simp, fun s v h => by
    obtain ⟨_, h2, h3⟩ := lookup_argsD args 0 s v h
    rw [Nat.sub_zero] at h2 h3
    rw [lget_append_left _ _ _ h3, h2]⟩
end Spq.CIR

namespace Spq.Src
open Spq Spq.CIR Heap ModuleHeap
section tr
variable {K : ExtSem} {Γ : List Ptr} {m0 : Mem} {B N : Nat} {fb L : Nat} {R : List Int → Prop} {k : Heap Int → Heap Int}
  {d : List (Nat × Int)}

theorem Tr.assignD {r : Stmt} (x : Nat) (e : Expr) (v : Int) (hx : x < L)
    (hv : ∀ env m, Has L d env → eval Γ ⟨env, m⟩ e = .ok v)
    (h2 : Tr K Γ m0 B N fb (Has L ((x, v) :: d)) r k R) : Tr K Γ m0 B N fb (Has L d) (.seq (.assign x e) r) k R := by
  refine ⟨h2.1, fun env H hP hH hN hk f hf => ?_⟩
  obtain ⟨env2, e2, hR⟩ := h2.2 (lset env x v) H (hP.set x v hx) hH hN hk f hf
  exact ⟨env2, by rw [execK_seq, execK_assign_ok K Γ x e f _ v (hv env _ hP), seqK_norm]; exact e2, hR⟩

/-- a `uint64_t` assignment followed on its exact value: the slot holds `n mod 2 ^ 64` -/
theorem Tr.assignU {r : Stmt} (x : Nat) (e : Expr) (n : Nat) (hx : x < L)
    (hv : ∀ env m, Has L d env → EvU Γ ⟨env, m⟩ e n)
    (h2 : Tr K Γ m0 B N fb (Has L ((x, ((n % 18446744073709551616 : Nat) : Int)) :: d)) r k R) :
    Tr K Γ m0 B N fb (Has L d) (.seq (.assign x e) r) k R :=
  Tr.assignD x e _ hx hv h2

theorem Tr.passignD {r : Stmt} (s : Nat) (b : PBase) (o : Expr) (v : Int) (bf off : Nat) (hs : s + 1 < L)
    (hv : ∀ env m, Has L d env → eval Γ ⟨env, m⟩ o = .ok v)
    (hp : ∀ env, Has L d env → ptrAt Γ env b v = .ok (some (bf, off)))
    (h2 : Tr K Γ m0 B N fb (Has L ((s + 1, (off : Int)) :: (s, (bf : Int)) :: d)) r k R) :
    Tr K Γ m0 B N fb (Has L d) (.seq (.passign s b o) r) k R := by
  refine ⟨h2.1, fun env H hP hH hN hk f hf => ?_⟩
  obtain ⟨env2, e2, hR⟩ := h2.2 _ H ((hP.set s bf (by omega)).set (s + 1) off hs) hH hN hk f hf
  exact ⟨env2, by rw [execK_seq, execK_passign_some K Γ s b o f _ v bf off (hv env _ hP) (hp env hP), seqK_norm]; exact e2, hR⟩

/-- a pointer local set to `q + o` for a pointer local `q` and a `uint64_t` offset followed on its exact value, as a
    statement of its own -/
theorem Tr.passignPvarU (s sb : Nat) (o : Expr) (n bf off : Nat) (hs : s + 1 < L)
    (hv : ∀ env m, Has L d env → EvU Γ ⟨env, m⟩ o n) (h1 : ∀ env, Has L d env → lget env sb = (bf : Int))
    (h2 : ∀ env, Has L d env → lget env (sb + 1) = (off : Int)) :
    Tr K Γ m0 B N fb (Has L d) (.passign s (.pvar sb) o) (fun h => h)
      (Has L ((s + 1, ((off + n % 18446744073709551616 : Nat) : Int)) :: (s, (bf : Int)) :: d)) :=
  ⟨Good.id, fun env _ hP _ _ _ f _ => ⟨_, execK_passign_pvarU K Γ s sb o f ⟨env, _⟩ n bf off (hv env _ hP) (h1 env hP) (h2 env hP),
    (hP.set s bf (by omega)).set (s + 1) _ hs⟩⟩

/-- a described slot that is dead is forgotten -/
theorem Tr.dropD {s : Stmt} {Q : List Int → Prop} {x : Nat} {w : Int} (hd : d.lookup x = none)
    (h : Tr K Γ m0 B N fb (Has L d) s k Q) : Tr K Γ m0 B N fb (Has L ((x, w) :: d)) s k Q :=
  h.conseq (fun _ H => H.tail hd) fun _ q => q

/-- `for (js = lo; js < hi; ++js) body` against the model's loop: `d` describes the slots that the body leaves as they
    are (or restores); the counter is the first entry -/
theorem Tr.forD (js : Nat) (e0 hiE : Expr) (body : Stmt) (F : Nat → Heap Int → Heap Int)
    (hF : ∀ i, Good (F i)) (lo hi : Nat) (hlh : lo ≤ hi) (h64 : hi < 18446744073709551616) (hjs : js < L)
    (h0 : ∀ env m, Has L d env → eval Γ ⟨env, m⟩ e0 = .ok (lo : Int))
    (hhi : ∀ (j : Nat) env m, Has L ((js, (j : Int)) :: d) env → eval Γ ⟨env, m⟩ hiE = .ok (hi : Int))
    (hbody : ∀ j, lo ≤ j → j < hi →
      Tr K Γ m0 B N fb (Has L ((js, (j : Int)) :: d)) body (F j) (Has L ((js, (j : Int)) :: d))) :
    Tr K Γ m0 B N (hi - lo + fb) (Has L d) (.for (.assign js e0) (.bin .lt .u64 (.var js) hiE)
      (.assign js (.bin .add .u64 (.var js) (.lit 1))) body) (loop (hi - lo) fun i => F (i + lo))
      (Has L ((js, (hi : Int)) :: d)) := by
  have hg : ∀ i, Good (fun h => F (i + lo) h) := fun i => hF (i + lo)
  refine ⟨Good.loop _ hg, ?_⟩
  intro env H hP hH hN hk f hf
  obtain ⟨σ', e, hI, hm⟩ := for_count K Γ js e0 hiE body ⟨env, m0.setIfInBounds B H.mem⟩
    (fun j σ => Has L ((js, (j : Int)) :: d) σ.env ∧
      σ.mem = m0.setIfInBounds B (loop (j - lo) (fun i => F (i + lo)) H).mem) lo hi fb hlh h64
    (h0 env _ hP) ⟨hP.set js _ hjs, by rw [Nat.sub_self]; rfl⟩
    (fun j σ h => h.1.head)
    (fun j σ _ _ h => hhi j σ.env σ.mem h.1)
    (by
      rintro j ⟨envj, mj⟩ h1 h2 ⟨hD, hM⟩ f hf
      simp only at hD hM
      subst hM
      have hj : j + 1 - lo = (j - lo) + 1 := by omega
      have hok := loop_ok_prefix _ (fun i => (hg i).mono) H (hi - lo) (j + 1 - lo) (by omega) hk
      rw [hj, loop_succ, Nat.sub_add_cancel h1] at hok
      obtain ⟨env', e', hD'⟩ := (hbody j h1 h2).2 envj (loop (j - lo) (fun i => F (i + lo)) H) hD
        (loop_ok_prefix _ (fun i => (hg i).mono) H (hi - lo) (j - lo) (by omega) hk)
        (((Good.loop _ hg).size H).trans hN) hok f hf
      exact ⟨_, e', hD'.head, hD'.reset _ hjs,
        by rw [hj, loop_succ, Nat.sub_add_cancel h1]⟩) f hf
  obtain ⟨env', mem'⟩ := σ'
  simp only at hI hm
  subst hm
  exact ⟨env', e, hI⟩

/-- A counting loop in general form against the model's `loop n F`: the counter slot `js` holds `cnt k` at the head of
    round `k` (`cnt k = k` for `for (j = 0; j < hi; ++j)`, `2 * k` for the pair loop), `cE` is the test and `incE` the
    new counter; the body may end in `continue`. -/
theorem Tr.forGD (js : Nat) (e0 cE incE : Expr) (body : Stmt) (F : Nat → Heap Int → Heap Int)
    (hF : ∀ i, Good (F i)) (n : Nat) (cnt : Nat → Int) (hjs : js < L)
    (h0 : ∀ env m, Has L d env → eval Γ ⟨env, m⟩ e0 = .ok (cnt 0))
    (hc : ∀ k env m, k ≤ n → Has L ((js, cnt k) :: d) env → evalB Γ cE ⟨env, m⟩ = .ok (decide (k < n)))
    (hinc : ∀ k env m, k < n → Has L ((js, cnt k) :: d) env → eval Γ ⟨env, m⟩ incE = .ok (cnt (k + 1)))
    (hbody : ∀ k, k < n → TrB K Γ m0 B N fb (Has L ((js, cnt k) :: d)) body (F k) (Has L ((js, cnt k) :: d))) :
    Tr K Γ m0 B N (n + fb) (Has L d) (.for (.assign js e0) cE (.assign js incE) body) (loop n F)
      (Has L ((js, cnt n) :: d)) := by
  refine ⟨Good.loop _ hF, ?_⟩
  intro env H hP hH hN hk f hf
  obtain ⟨σ', e, hm, hQ⟩ := arena_loop K Γ js e0 cE incE body m0 B F (fun i => (hF i).mono) (fun i => (hF i).size)
    n fb H hk (fun k env => Has L ((js, cnt k) :: d) env) env (cnt 0) (h0 env _ hP) (hP.set js _ hjs)
    (fun k env m hk h => hc k env m hk h)
    (by
      intro k env' H' hk hE hH' hs hk1 f hf
      obtain ⟨fl, env'', e', hfl, hE'⟩ := (hbody k hk).2 _ H' hE hH' (hs.trans hN) hk1 f hf
      exact ⟨fl, _, cnt (k + 1), e', hfl, fun m => hinc k env'' m hk hE', hE'.reset _ hjs⟩) f hf
  obtain ⟨env', mem'⟩ := σ'
  exact ⟨env', by rw [e]; simp only at hm; rw [hm], hQ⟩

/-- `for (js = 0; js < hi; ++js) body` with a body that may end in `continue` -/
theorem Tr.forBD (js : Nat) (e0 hiE : Expr) (body : Stmt) (F : Nat → Heap Int → Heap Int)
    (hF : ∀ i, Good (F i)) (hi : Nat) (h64 : hi < 18446744073709551616) (hjs : js < L)
    (h0 : ∀ env m, Has L d env → eval Γ ⟨env, m⟩ e0 = .ok 0)
    (hhi : ∀ (j : Nat) env m, Has L ((js, (j : Int)) :: d) env → eval Γ ⟨env, m⟩ hiE = .ok (hi : Int))
    (hbody : ∀ j, j < hi →
      TrB K Γ m0 B N fb (Has L ((js, (j : Int)) :: d)) body (F j) (Has L ((js, (j : Int)) :: d))) :
    Tr K Γ m0 B N (hi + fb) (Has L d) (.for (.assign js e0) (.bin .lt .u64 (.var js) hiE)
      (.assign js (.bin .add .u64 (.var js) (.lit 1))) body) (loop hi F) (Has L ((js, (hi : Int)) :: d)) :=
  Tr.forGD js e0 (.bin .lt .u64 (.var js) hiE) (.bin .add .u64 (.var js) (.lit 1)) body F hF hi (fun j => (j : Int)) hjs h0
    (fun j env m _ H => by
      rw [evalB_def, eval_bin_ok (eval_var_eq H.head) (hhi j env m H) (evalBin_lt_u64 _ _), R.bind_ok,
        decide_b2i_ne_zero]
      exact congrArg R.ok (decide_eq_decide.mpr Int.ofNat_lt))
    (fun j env m hj H => by
      rw [eval_bin_ok (eval_var_eq H.head) (eval_lit _ _ _) (evalBin_add_u64 _ _)]
      exact congrArg R.ok (by omega))
    hbody

/-- the entry point -/
theorem Tr.runD {fn : Fn} {args : List Int} {X : Array Int} {f : Nat} {Q : List Int → Prop}
    (hL : args.length + (fn.nslots - args.length) = L) (h : Tr K Γ m0 B N fb (Has L (argsD 0 args)) fn.body k Q)
    (hN : X.size = N) (hok : (k ⟨X, true⟩).ok = true) (hf : fb ≤ f) :
    CIR.runK K f fn args Γ (m0.setIfInBounds B X) = .ok (m0.setIfInBounds B (k ⟨X, true⟩).mem) :=
  Tr.memOf h (hL ▸ has_args args _) hN hok hf

/-- a leaf over a description: the slots are whatever satisfies it -/
theorem Tr.ofHas {s : Stmt} (g : Good k) (h : ∀ env, Has L d env → Tr K Γ m0 B N fb (· = env) s k (· = env)) :
    Tr K Γ m0 B N fb (Has L d) s k (Has L d) :=
  ⟨g, fun env H hP hH hN hk f hf => by
    obtain ⟨env', e, rfl⟩ := (h env hP).2 env H rfl hH hN hk f hf
    exact ⟨_, e, hP⟩⟩
end tr
end Spq.Src
