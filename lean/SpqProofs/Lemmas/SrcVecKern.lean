/-
  The coefficient kernels called on windows of an arena buffer (as the limb-vector wrappers call them).  The
  element-wise kernels (zero, copy, negate, add, sub) are their theorems on windows (`Lemmas/SrcElemKern.lean`) with
  every window in buffer `B` of `m0[B := X]`.  The rotations are the kernel's theorem over
  `Cells` (`znx_rotate_cells`, `znx_rotate_inplace_cells`) at the window (`cells_window`), as the theorems of
  `Properties/SrcRot.lean` are the same theorem at a whole buffer; the arena `X` is first written as
  `writeArr X ro (win X ro nn)`.
-/
import SpqProofs.Lemmas.SrcArena
import SpqProofs.Lemmas.SrcElemKern
import SpqProofs.Lemmas.SrcWalk
namespace Spq.CIR
open Spq

section
variable (m0 : Mem) (B : Nat) (hB : B < m0.size) (X : Array Int) (nn : Nat)
include hB

theorem arena_zero (hnn : nn < 2305843009213693952) (ro : Nat) (hr : ro + nn ≤ X.size) :
    ∀ fuel, run fuel Gen.CSrc.znx_zero_i64_ref [(nn : Int)] [some (B, ro)] (m0.setIfInBounds B X)
      = .ok (m0.setIfInBounds B (Heap.writeArr X ro (Coeffs.zero i64Ops nn))) := by
  intro fuel
  have hX := buf_set_self m0 B X hB
  have h := znx_zero_i64_ref_window nn hnn (m0.setIfInBounds B X) B ro (hX.symm ▸ hr) fuel
  rwa [wset_arena m0 B hB] at h

theorem arena_copy (hnn : nn < 2305843009213693952) (ro ao : Nat) (hr : ro + nn ≤ X.size)
    (ha : ao + nn ≤ X.size) (hd : SameOrDisj nn ro ao) :
    ∀ fuel, run fuel Gen.CSrc.znx_copy_i64_ref [(nn : Int)] [some (B, ro), some (B, ao)] (m0.setIfInBounds B X)
      = .ok (m0.setIfInBounds B (Heap.writeArr X ro (Coeffs.copy i64Ops nn (win X ao nn)))) := by
  intro fuel
  have hX := buf_set_self m0 B X hB
  have h := znx_copy_i64_ref_windows nn hnn (m0.setIfInBounds B X) B ro B ao (hX.symm ▸ hr) (hX.symm ▸ ha) (fun _ => hd) fuel
  rwa [hX, wset_arena m0 B hB] at h

theorem arena_negate (hnn : nn < 18446744073709551616) (ro ao : Nat) (hr : ro + nn ≤ X.size)
    (ha : ao + nn ≤ X.size) (hd : SameOrDisj nn ro ao) :
    ∀ fuel, nn ≤ fuel →
      run fuel Gen.CSrc.znx_negate_i64_ref [(nn : Int)] [some (B, ro), some (B, ao)] (m0.setIfInBounds B X)
        = .ok (m0.setIfInBounds B (Heap.writeArr X ro (Coeffs.negate i64Ops nn (win X ao nn)))) := by
  intro fuel hf
  have hX := buf_set_self m0 B X hB
  have h := znx_negate_i64_ref_windows nn (m0.setIfInBounds B X) B ro B ao (hX.symm ▸ hr) (hX.symm ▸ ha) (fun _ => hd) hnn
    fuel hf
  rwa [hX, wset_arena m0 B hB] at h

theorem arena_add (hnn : nn < 18446744073709551616) (ro ao bo : Nat) (hr : ro + nn ≤ X.size)
    (ha : ao + nn ≤ X.size) (hb : bo + nn ≤ X.size) (hda : SameOrDisj nn ro ao) (hdb : SameOrDisj nn ro bo) :
    ∀ fuel, nn ≤ fuel →
      run fuel Gen.CSrc.znx_add_i64_ref [(nn : Int)] [some (B, ro), some (B, ao), some (B, bo)]
          (m0.setIfInBounds B X)
        = .ok (m0.setIfInBounds B (Heap.writeArr X ro (Coeffs.add i64Ops nn (win X ao nn) (win X bo nn)))) := by
  intro fuel hf
  have hX := buf_set_self m0 B X hB
  have h := znx_add_i64_ref_windows nn (m0.setIfInBounds B X) B ro B ao (hX.symm ▸ hr) (hX.symm ▸ ha) (fun _ => hda) B bo
    (hX.symm ▸ hb) (fun _ => hdb) hnn fuel hf
  rwa [hX, wset_arena m0 B hB] at h

theorem arena_sub (hnn : nn < 18446744073709551616) (ro ao bo : Nat) (hr : ro + nn ≤ X.size)
    (ha : ao + nn ≤ X.size) (hb : bo + nn ≤ X.size) (hda : SameOrDisj nn ro ao) (hdb : SameOrDisj nn ro bo) :
    ∀ fuel, nn ≤ fuel →
      run fuel Gen.CSrc.znx_sub_i64_ref [(nn : Int)] [some (B, ro), some (B, ao), some (B, bo)]
          (m0.setIfInBounds B X)
        = .ok (m0.setIfInBounds B (Heap.writeArr X ro (Coeffs.sub i64Ops nn (win X ao nn) (win X bo nn)))) := by
  intro fuel hf
  have hX := buf_set_self m0 B X hB
  have h := znx_sub_i64_ref_windows nn (m0.setIfInBounds B X) B ro B ao (hX.symm ▸ hr) (hX.symm ▸ ha) (fun _ => hda) B bo
    (hX.symm ▸ hb) (fun _ => hdb) hnn fuel hf
  rwa [hX, wset_arena m0 B hB] at h

end
end Spq.CIR

namespace Spq.CIR
open Spq

section
variable (m0 : Mem) (B : Nat) (hB : B < m0.size) (X : Array Int) (nn : Nat)
include hB

theorem arena_rotate (t : Nat) (ht : t ≤ 63) (hnn : nn = 2 ^ t) (p : Int) (ro ao : Nat) (hr : ro + nn ≤ X.size)
    (ha : ao + nn ≤ X.size) (hd : ro + nn ≤ ao ∨ ao + nn ≤ ro) :
    ∀ fuel, nn ≤ fuel →
      run fuel Gen.CSrc.znx_rotate_i64 [(nn : Int), p] [some (B, ro), some (B, ao)] (m0.setIfInBounds B X)
        = .ok (m0.setIfInBounds B (Heap.writeArr X ro (Coeffs.rotate i64Ops nn p (win X ao nn)))) := by
  intro fuel hf
  conv => lhs; rw [← writeArr_win_self X ro nn hr]
  exact znx_rotate_cells t ht nn hnn p (cells_window m0 B hB X ro nn hr) (win X ao nn)
    (fun Y k hY hk => load_window_disj m0 B hB X ro ao nn ha hd Y k hY hk) (win X ro nn) (size_win X ro nn) fuel hf

theorem arena_rotate_inplace (t : Nat) (ht : t ≤ 63) (hnn : nn = 2 ^ t) (p : Int) (ro : Nat)
    (hr : ro + nn ≤ X.size) :
    ∀ fuel, 2 * nn ≤ fuel →
      run fuel Gen.CSrc.znx_rotate_inplace_i64 [(nn : Int), p] [some (B, ro)] (m0.setIfInBounds B X)
        = .ok (m0.setIfInBounds B (Heap.writeArr X ro (Coeffs.rotateInplace i64Ops nn p (win X ro nn)))) := by
  intro fuel hf
  conv => lhs; rw [← writeArr_win_self X ro nn hr]
  exact znx_rotate_inplace_cells t ht nn hnn p (cells_window m0 B hB X ro nn hr) (win X ro nn) (size_win X ro nn) fuel hf

end
end Spq.CIR
