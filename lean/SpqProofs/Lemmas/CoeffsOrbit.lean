/-
  Orbits of `j ↦ (j + pn) mod nn` on `[0, nn)`: they are the classes modulo `d = gcd pn nn`, each of
  length `nn / d` (no assumption on `nn` besides `0 < nn`).
-/
import SpqProofs.Lemmas.CoeffsBasic
import Mathlib.Logic.Function.Iterate
import Mathlib.Data.Int.GCD
import Mathlib.Data.Nat.ModEq
namespace Spq.Rq

def addMod (nn pn : Nat) (j : Nat) : Nat := (j + pn) % nn

theorem addMod_iter (nn pn j i : Nat) (hj : j < nn) : (addMod nn pn)^[i] j = (j + i * pn) % nn := by
  induction i with
  | zero => simp [Nat.mod_eq_of_lt hj]
  | succ i ih =>
    rw [Function.iterate_succ_apply', ih, addMod, Nat.mod_add_mod]
    congr 1; ring

theorem addMod_iter_lt (nn pn j i : Nat) (hj : j < nn) : (addMod nn pn)^[i] j < nn := by
  rw [addMod_iter nn pn j i hj]; exact Nat.mod_lt _ (by omega)

theorem orbLen_mul (nn pn : Nat) : nn / Nat.gcd pn nn * Nat.gcd pn nn = nn :=
  Nat.div_mul_cancel (Nat.gcd_dvd_right _ _)

theorem orbLen_mul_pn (nn pn : Nat) : nn / Nat.gcd pn nn * pn = pn / Nat.gcd pn nn * nn := by
  have h1 := orbLen_mul nn pn
  have h2 : pn / Nat.gcd pn nn * Nat.gcd pn nn = pn := Nat.div_mul_cancel (Nat.gcd_dvd_left _ _)
  generalize nn / Nat.gcd pn nn = L at *
  generalize pn / Nat.gcd pn nn = b at *
  calc L * pn = L * (b * Nat.gcd pn nn) := by rw [h2]
    _ = b * (L * Nat.gcd pn nn) := by ring
    _ = b * nn := by rw [h1]

theorem addMod_ret (nn pn j : Nat) (hj : j < nn) : (addMod nn pn)^[nn / Nat.gcd pn nn] j = j := by
  rw [addMod_iter nn pn j _ hj, orbLen_mul_pn nn pn, Nat.add_mul_mod_self_right, Nat.mod_eq_of_lt hj]

theorem addMod_iter_mod (nn pn j i : Nat) (hj : j < nn) :
    ((addMod nn pn)^[i] j) % Nat.gcd pn nn = j % Nat.gcd pn nn := by
  rw [addMod_iter nn pn j _ hj, Nat.mod_mod_of_dvd _ (Nat.gcd_dvd_right _ _)]
  exact add_mul_mod_gcd j i pn nn

theorem addMod_mod (nn pn j : Nat) : (addMod nn pn j) % Nat.gcd pn nn = j % Nat.gcd pn nn := by
  unfold addMod
  rw [Nat.mod_mod_of_dvd _ (Nat.gcd_dvd_right _ _)]
  have := add_mul_mod_gcd j 1 pn nn
  rwa [Nat.one_mul] at this

theorem iterate_mod_of_ret {α : Type} (f : α → α) (x : α) (L : Nat) (h : f^[L] x = x) (m : Nat) :
    f^[m % L] x = f^[m] x := by
  conv_rhs => rw [← Nat.mod_add_div m L, Function.iterate_add_apply, Function.iterate_mul,
    Function.iterate_fixed h]

section
variable (nn pn : Nat) (hn : 0 < nn)
include hn

theorem gcd_pos' : 0 < Nat.gcd pn nn := Nat.gcd_pos_of_pos_right _ hn

theorem orbLen_pos : 0 < nn / Nat.gcd pn nn :=
  Nat.div_pos (Nat.le_of_dvd hn (Nat.gcd_dvd_right _ _)) (gcd_pos' nn pn hn)

theorem addMod_dist (j : Nat) (hj : j < nn) (i i' : Nat) (hi : i < nn / Nat.gcd pn nn)
    (hi' : i' < nn / Nat.gcd pn nn) (e : (addMod nn pn)^[i] j = (addMod nn pn)^[i'] j) : i = i' := by
  rw [addMod_iter nn pn j _ hj, addMod_iter nn pn j _ hj] at e
  have := Nat.ModEq.cancel_right_div_gcd hn (Nat.ModEq.add_left_cancel' j e)
  rw [Nat.gcd_comm] at this
  exact Nat.ModEq.eq_of_lt_of_lt this hi hi'

/-- some iterate reaches `y` (Bezout), and its count may be reduced modulo the period -/
theorem addMod_surj (s y : Nat) (hy : y < nn) (hs : s < Nat.gcd pn nn) (hys : y % Nat.gcd pn nn = s) :
    ∃ i, i < nn / Nat.gcd pn nn ∧ y = (addMod nn pn)^[i] s := by
  have hdle : Nat.gcd pn nn ≤ nn := Nat.le_of_dvd hn (Nat.gcd_dvd_right _ _)
  have hsn : s < nn := by omega
  suffices h : ∃ m, y = (addMod nn pn)^[m] s by
    obtain ⟨m, hm⟩ := h
    exact ⟨m % (nn / Nat.gcd pn nn), Nat.mod_lt _ (orbLen_pos nn pn hn),
      hm.trans (iterate_mod_of_ret _ s _ (addMod_ret nn pn s hsn) m).symm⟩
  rcases Nat.lt_or_ge (Nat.gcd pn nn) nn with hlt | hge
  · obtain ⟨u, -, hu⟩ := Nat.exists_mul_mod_eq_gcd hlt
    refine ⟨y / Nat.gcd pn nn * u, ?_⟩
    have e2 : pn * u ≡ Nat.gcd pn nn [MOD nn] := by
      unfold Nat.ModEq; rw [hu, Nat.mod_eq_of_lt hlt]
    have e3 : s + y / Nat.gcd pn nn * u * pn ≡ s + y / Nat.gcd pn nn * Nat.gcd pn nn [MOD nn] := by
      rw [Nat.mul_assoc, Nat.mul_comm u]
      exact Nat.ModEq.add_left _ (Nat.ModEq.mul_left _ e2)
    rw [addMod_iter nn pn s _ hsn, e3, ← hys, Nat.mod_add_div', Nat.mod_eq_of_lt hy]
  · have hd : Nat.gcd pn nn = nn := by omega
    exact ⟨0, by rw [← hys, hd, Nat.mod_eq_of_lt hy]; rfl⟩

end
end Spq.Rq
