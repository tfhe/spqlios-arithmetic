/-
  Windows of one arena buffer, stated with the heap primitives of `Spq/Heap.lean` (`Heap.writeArr`, `Heap.readLimb`):
  the limb-vector wrappers call the kernels with pointers INTO one buffer (`res + i*res_sl`, …).  The memories
  `wset m b ro Y` are `Cells` at `(b, ro)` (`cells_wset`; `cells_window`: those of one arena, `m0[B := writeArr X ro Y]`),
  so every kernel proved over `Cells` runs on a window as it does on a whole buffer; a disjoint window keeps its cells (`load_window_disj`).  `memset` / `memcpy` on
  windows of the arena are `writeArr`s of a constant / of a window (`memset_wmem`, `memcpy_wmem` at `m0[B := M]`).
-/
import SpqProofs.Lemmas.SrcWmem
namespace Spq.CIR
open Spq

theorem writeArr_win_self (M : Array Int) (t nn : Nat) (_ht : t + nn ≤ M.size) :
    Heap.writeArr M t (win M t nn) = M := by
  apply ext_getD 0 (by simp)
  intro i _
  rw [getD_writeArr, size_win]
  by_cases h1 : t ≤ i ∧ i < t + nn ∧ i < M.size
  · rw [if_pos h1, getD_win _ _ _ _ (by omega)]; congr 1; omega
  · rw [if_neg h1]

theorem writeArr_set (X : Array Int) (ro : Nat) (Y : Array Int) (i : Nat) (v : Int) (hi : i < Y.size)
    (hr : ro + Y.size ≤ X.size) :
    (Heap.writeArr X ro Y).setIfInBounds (ro + i) v = Heap.writeArr X ro (Y.setIfInBounds i v) := by
  apply ext_getD 0 (by simp)
  intro x _
  rw [getD_setIfInBounds, getD_writeArr, getD_writeArr, Array.size_setIfInBounds, Heap.size_writeArr]
  by_cases h : ro + i = x
  · subst h
    rw [if_pos ⟨rfl, by omega⟩, if_pos ⟨by omega, by omega, by omega⟩, getD_setIfInBounds,
      if_pos ⟨by omega, by omega⟩]
  · rw [if_neg (fun c => h c.1)]
    by_cases h2 : ro ≤ x ∧ x < ro + Y.size ∧ x < X.size
    · rw [if_pos h2, if_pos h2, getD_setIfInBounds_ne _ _ _ (by omega)]
    · rw [if_neg h2, if_neg h2]

/-- the memories `wset m b ro Y` are `Cells` at `(b, ro)`: what `wmem` steps through in index order, a loop that reads
    back what it wrote can step through in any order -/
theorem cells_wset (m : Mem) (b ro n : Nat) (hr : ro + n ≤ (buf m b).size) : Cells (wset m b ro) (some (b, ro)) n where
  load Y i hY hi := by
    have hb : b < m.size := lt_size_of_buf_size_pos m b (by omega)
    rw [wset, loadCell_nat _ _ _ _ (by rw [buf_set_self m b _ hb, Heap.size_writeArr]; omega), buf_set_self m b _ hb,
      getD_writeArr, if_pos (by omega), Nat.add_sub_cancel_left]
  store Y i v hY hi := by
    have hb : b < m.size := lt_size_of_buf_size_pos m b (by omega)
    rw [wset, storeCell_nat _ _ _ _ _ (by rw [buf_set_self m b _ hb, Heap.size_writeArr]; omega), buf_set_self m b _ hb,
      writeArr_set _ ro Y i v (by omega) (by omega), set_set, wset]

/-- the window `[ro, ro + n)` of buffer `B`, held as `m0[B := writeArr X ro Y]` -/
theorem cells_window (m0 : Mem) (B : Nat) (hB : B < m0.size) (X : Array Int) (ro n : Nat) (hr : ro + n ≤ X.size) :
    Cells (fun Y => m0.setIfInBounds B (Heap.writeArr X ro Y)) (some (B, ro)) n := by
  have h := cells_wset (m0.setIfInBounds B X) B ro n (by rw [buf_set_self m0 B X hB]; exact hr)
  rwa [show wset (m0.setIfInBounds B X) B ro = _ from funext (wset_arena m0 B hB X ro)] at h

/-- a window disjoint from the written one keeps its cells -/
theorem load_window_disj (m0 : Mem) (B : Nat) (hB : B < m0.size) (X : Array Int) (ro ao n : Nat) (ha : ao + n ≤ X.size)
    (hd : ro + n ≤ ao ∨ ao + n ≤ ro) (Y : Array Int) (k : Nat) (hY : Y.size = n) (hk : k < n) :
    loadCell (m0.setIfInBounds B (Heap.writeArr X ro Y)) (some (B, ao)) (k : Int) = .ok ((win X ao n).getD k 0) := by
  rw [loadCell_nat _ _ _ _ (by rw [buf_set_self m0 B _ hB, Heap.size_writeArr]; omega), buf_set_self m0 B _ hB,
    getD_writeArr, if_neg (by omega), getD_win _ _ _ _ hk]

/-! ### `memset` / `memcpy` on a window of the arena -/
theorem memset_arena (m0 : Mem) (B : Nat) (hB : B < m0.size) (M : Array Int) (p n : Nat) (ty : Ty)
    (hty : ty.bits = 64) (hpat : memsetPattern ty 0 = 0) (hb : p + n ≤ M.size) :
    memsetCells (m0.setIfInBounds B M) (some (B, p)) ty 0 ((8 * n : Nat) : Int)
      = .ok (m0.setIfInBounds B (Heap.writeArr M p (Array.replicate n 0))) := by
  have hX := buf_set_self m0 B M hB
  rw [memset_wmem _ B p n ty hty 0 (hX.symm ▸ hb), hpat, wmem_all, wset_arena m0 B hB]
  exact congrArg (fun Y => R.ok (m0.setIfInBounds B (Heap.writeArr M p Y)))
    (Array.ext (by simp) fun i h1 h2 => by simp)

theorem memcpy_arena (m0 : Mem) (B : Nat) (hB : B < m0.size) (M : Array Int) (d s n : Nat) (dflt : Int)
    (hd : d + n ≤ M.size) (hs : s + n ≤ M.size) (hdj : SameOrDisj n d s) :
    memcpyCells (m0.setIfInBounds B M) (some (B, d)) (some (B, s)) ((8 * n : Nat) : Int)
      = .ok (m0.setIfInBounds B (Heap.writeArr M d ((⟨M, true⟩ : Heap Int).readLimb dflt s n))) := by
  have hX := buf_set_self m0 B M hB
  rw [memcpy_wmem _ B d B s n (hX.symm ▸ hd) (hX.symm ▸ hs) (fun _ => hdj), wmem_all, wset_arena m0 B hB, hX]
  -- the cells read are inside `M`: the default does not show
  refine congrArg (fun Y => R.ok (m0.setIfInBounds B (Heap.writeArr M d Y))) (congrArg Array.ofFn (funext fun i => ?_))
  show M.getD (s + i.val) 0 = M.getD (s + i.val) dflt
  rw [getD_of_lt M _ (by omega), getD_of_lt M _ (by omega)]

end Spq.CIR
