/-
  C16 helpers for the provenance conjunct of `Prog.RD` (raw transforms) and for `vmp_apply_dft_to_dft`:
  the canonical flat array `Prog.flatOf`, "every array holding `f` has the canonical limbs `polyArr N (f i)`", and
  `vec_znx_dft` of any array holding a vector is `vec_znx_dft` of the canonical array of its abstract value
  (any module, any carrier: `vecDft` reads its argument only through `limbOf`).
-/
import SpqProofs.Lemmas.ProgDft
import SpqProofs.Lemmas.ClosedSound
import SpqProofs.Lemmas.ModuleVmpCongr
namespace Spq.Prog
open Spq Spq.Module Spq.Closed

variable {α : Type}

theorem size_flatOf (nn sz : Nat) (f : Nat → Nat → Int) : (flatOf nn sz f).size = sz * nn := by simp [flatOf]

theorem getD_flatOf (nn sz : Nat) (f : Nat → Nat → Int) (i t : Nat) (hi : i < sz) (ht : t < nn) :
    (flatOf nn sz f).getD (i * nn + t) 0 = f i t := by
  have h1 : i * nn + t < sz * nn := by
    have := mul_step i sz nn hi
    omega
  have e1 : (i * nn + t) / nn = i := by rw [Nat.mul_comm]; exact mul_add_div_of_lt ht
  have e2 : (i * nn + t) % nn = t := by rw [Nat.mul_comm]; exact mul_add_mod_of_lt ht
  simp [flatOf, Array.getD_eq_getD_getElem?, h1, e1, e2]

theorem agree_flatOf (nn sz : Nat) (f : Nat → Nat → Int) : Agree nn (flatOf nn sz f) sz nn f := by
  refine ⟨fun i hi => ?_, fun i t hi ht => getD_flatOf nn sz f i t hi ht⟩
  rw [size_flatOf]
  exact mul_step i sz nn hi

theorem polyArr_congr (N : ℕ) (f g : ℕ → ℤ) (h : ∀ t, t < N → f t = g t) : polyArr N f = polyArr N g := by
  unfold polyArr
  congr 1
  funext t
  exact h t.val t.isLt

theorem limbOf_agree {N : ℕ} {x : Array Int} {asz asl : ℕ} {f : ℕ → ℕ → ℤ} (hag : Agree N x asz asl f)
    (i : ℕ) (hi : i < asz) : limbOf x i asl N = polyArr N (f i) := by
  have hs : (limbOf x i asl N).size = N := size_limbOf _ _ _ _ (hag.1 i hi)
  apply Array.ext
  · rw [hs, size_polyArr]
  · intro t h1 h2
    rw [hs] at h1
    have e1 := limbOf_getD x i asl N t h1
    have e2 := getD_polyArr N (f i) t h1
    rw [hag.2 i t hi h1] at e1
    simp only [Array.getD_eq_getD_getElem?, Array.getElem?_eq_getElem h2] at e2
    have h1' : t < (limbOf x i asl N).size := by rw [hs]; exact h1
    simp only [Array.getD_eq_getD_getElem?, Array.getElem?_eq_getElem h1'] at e1
    simpa using e1.trans e2.symm

theorem vecDft_congr (c : Parts α) (rsz : ℕ) (x x' : Array Int) (asz asz' asl asl' : ℕ)
    (h : ∀ i, i < rsz → (i < asz ↔ i < asz') ∧ (i < asz → limbOf x i asl c.nn = limbOf x' i asl' c.nn)) :
    vecDft c rsz x asz asl = vecDft c rsz x' asz' asl' := by
  unfold vecDft
  apply foldl_range_congr
  intro i hi acc
  obtain ⟨h1, h2⟩ := h i hi
  by_cases ha : i < asz
  · rw [if_pos ha, if_pos (h1.1 ha), h2 ha]
  · rw [if_neg ha, if_neg (fun q => ha (h1.2 q))]

theorem vecDft_raw (c : Parts α) (nn : ℕ) (hnn : c.nn = nn) (rsz : ℕ) (x : Array Int) (asz asl : ℕ)
    (f : ℕ → ℕ → ℤ) (hag : Agree nn x asz asl f) :
    vecDft c rsz x asz asl =
      vecDft c rsz (flatOf nn rsz fun i t => (Val.mk nn rsz (zext asz f)).coef i t) (min asz rsz) nn := by
  apply vecDft_congr
  intro i hi
  refine ⟨⟨fun h => by omega, fun h => by omega⟩, fun ha => ?_⟩
  rw [hnn, limbOf_agree hag i ha, limbOf_agree (agree_flatOf nn rsz _) i hi]
  exact polyArr_congr _ _ _ (fun t ht => by rw [coef_mk _ _ _ _ _ hi ht, zext, if_pos ha])

end Spq.Prog
