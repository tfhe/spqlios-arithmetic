/-
  Refinement of the q120 NTT / iNTT model (mixed schedule, wrapped 64-bit arithmetic, model-generated tables)
  by the exact transforms `exNtt`, `exIntt` (`NttSpec`) in `ZMod q`, under the no-wrap certificate: the drivers run
  chains of function-level passes (`RunsChain`), whose exact counterparts are the two transforms.
-/
import SpqProofs.Lemmas.NttTable

namespace Spq.Q120Ntt

theorem fwdSteps_sizes (levels : Array Level) (k idx off : Nat) :
    (fwdSteps levels k idx off).map (·.nn) = fwdSizes k := by
  rw [fwdSteps_eq, fwdSizes_eq, List.map_map]; rfl

theorem invSteps_sizes (levels : Array Level) (c l off : Nat) :
    (invSteps levels c l off).map (·.nn) = invSizes c l := by
  rw [invSteps_eq, invSizes_eq, List.map_map]; rfl

def fwdDescs (k : Nat) (levels : Array Level) : List LDesc :=
  ⟨.twist false, 2 ^ k, levels.getD 0 default⟩ :: (fwdSteps levels k 1 (2 ^ k)).map fun s => ⟨.fwd, s.nn, s.L⟩

def invDescs (k : Nat) (levels : Array Level) : List LDesc :=
  ((invSteps levels k 0 0).map fun s => ⟨.inv, s.nn, s.L⟩) ++
    [⟨.twist (levels.getD k default).reduce, 2 ^ k, levels.getD k default⟩]

def mkFwdL {q : Nat} (tbl : Array Nat) (w : ZMod q) (k : Nat) (s : Step) : LStep q :=
  ⟨⟨.fwd, s.nn, s.L⟩, fun t => rd tbl (s.off + t), τLevel w (2 * 2 ^ k) s.nn⟩

def mkInvL {q : Nat} (tbl : Array Nat) (v : ZMod q) (k : Nat) (s : Step) : LStep q :=
  ⟨⟨.inv, s.nn, s.L⟩, fun t => rd tbl (s.off + t), τLevel v (2 * 2 ^ k) s.nn⟩

def fwdLSteps {q : Nat} (k : Nat) (levels : Array Level) (tbl : Array Nat) (w : ZMod q) : List (LStep q) :=
  ⟨⟨.twist false, 2 ^ k, levels.getD 0 default⟩, fun t => rd tbl t, fun i => w ^ i⟩ ::
    (fwdSteps levels k 1 (2 ^ k)).map (mkFwdL tbl w k)

def invLSteps {q : Nat} (k : Nat) (levels : Array Level) (tbl : Array Nat) (v ninv : ZMod q) : List (LStep q) :=
  (invSteps levels k 0 0).map (mkInvL tbl v k) ++
    [⟨⟨.twist (levels.getD k default).reduce, 2 ^ k, levels.getD k default⟩,
      fun t => rd tbl (2 ^ k - 1 - k + t), fun i => v ^ i * ninv⟩]

theorem fwdLSteps_descs {q : Nat} (k : Nat) (levels : Array Level) (tbl : Array Nat) (w : ZMod q) :
    (fwdLSteps k levels tbl w).map (·.d) = fwdDescs k levels := by
  simp [fwdLSteps, fwdDescs, mkFwdL, Function.comp_def]

theorem invLSteps_descs {q : Nat} (k : Nat) (levels : Array Level) (tbl : Array Nat) (v ninv : ZMod q) :
    (invLSteps k levels tbl v ninv).map (·.d) = invDescs k levels := by
  simp [invLSteps, invDescs, mkInvL, Function.comp_def]

theorem runsChain_nttLane {q : Nat} (k : Nat) (hk : k ≠ 0) (levels : Array Level) (R : Reduc) (tbl : Array Nat) (w : ZMod q) :
    RunsChain (2 ^ k) R (nttLane k levels R tbl) (fwdLSteps k levels tbl w) :=
  RunsChain.congr (fun x hx => by
      rw [show nttLane k levels R tbl x = _ from nttLaneS_eq_plain _ k (Nat.min_le_left _ _) levels R _ x hx]
      unfold nttPlain; rw [if_neg hk]; rfl)
    ((RunsChain.one _).comp (RunsChain.foldl (fwdPass R tbl) (mkFwdL tbl w k) (fun _ _ => rfl) _))

theorem runsChain_inttLane {q : Nat} (k : Nat) (hk : k ≠ 0) (levels : Array Level) (R : Reduc) (tbl : Array Nat)
    (v ninv : ZMod q) : RunsChain (2 ^ k) R (inttLane k levels R tbl) (invLSteps k levels tbl v ninv) :=
  RunsChain.congr (fun x hx => by
      rw [show inttLane k levels R tbl x = _ from inttLaneS_eq_plain _ k (Nat.min_le_left _ _) levels R _ x hx]
      unfold inttPlain; rw [if_neg hk]; rfl)
    ((RunsChain.foldl (invPass R tbl) (mkInvL tbl v k) (fun _ _ => rfl) _).comp (RunsChain.one _))

theorem exAll_fwdLSteps {q : Nat} (k : Nat) (levels : Array Level) (tbl : Array Nat) (w : ZMod q)
    (g : Nat → ZMod q) : exAll (fwdLSteps k levels tbl w) g = exNtt w k g := by
  rw [exAll_eq, exNtt_eq]
  simp only [fwdLSteps, nttPasses, exLevels, List.map_cons, List.map_map, ← fwdSteps_sizes levels k 1 (2 ^ k)]
  rfl

-- `Kind.twist` carries the folding flag of the machine pass, which `exL` ignores: hence the final `rfl`
theorem exAll_invLSteps {q : Nat} (k : Nat) (levels : Array Level) (tbl : Array Nat) (v ninv : ZMod q)
    (g : Nat → ZMod q) : exAll (invLSteps k levels tbl v ninv) g = exIntt v ninv k g := by
  rw [exAll_eq, exIntt_eq]
  simp only [invLSteps, inttPasses, exLevels, List.map_append, List.map_cons, List.map_nil, List.map_map,
    ← List.map_reverse, ← invSizes_reverse, List.reverse_reverse, ← invSteps_sizes levels k 0 0]
  rw [exRun_append, exRun_append]
  rfl

theorem RunsChain.refines {q n : Nat} {R : Reduc} {F : Array Nat → Array Nat} {ls : List (LStep q)}
    (hF : RunsChain n R F ls)
    (hstep : ∀ s ∈ ls, s.d.nn ∣ n ∧ TwSpec q s.d.L.h (twCount s.d n) s.tw s.τ)
    {B B' : Nat} (hcert : certOK q R (ls.map (·.d)) B = some B')
    (x : Array Nat) (hx : x.size = n) (hlt : ∀ i < n, rd x i < B) :
    (F x).size = n ∧ safeAll n R ls (rd x) ∧
      ∀ i < n, rd (F x) i < B' ∧ ((rd (F x) i : Nat) : ZMod q) = exAll ls (fun j => ((rd x j : Nat) : ZMod q)) i := by
  rw [hF.cells x hx]
  obtain ⟨h1, h2⟩ := cert_sim n R ls B B' hcert hstep (rd x) _ (Rep.refl hlt)
  exact ⟨hF.size x hx, h1, h2⟩

theorem stepOK_fwdLSteps (q Ω k : Nat) (hq : 1 < q) (levels : Array Level) :
    ∀ s ∈ fwdLSteps k levels (tableFwd q Ω k levels) ((omegaN q Ω k : Nat) : ZMod q),
      s.d.nn ∣ 2 ^ k ∧ TwSpec q s.d.L.h (twCount s.d (2 ^ k)) s.tw s.τ := by
  intro s hs
  rcases List.mem_cons.1 hs with rfl | hs
  · exact ⟨dvd_refl _, twSpec_tableFwd_twist q Ω k hq levels⟩
  · obtain ⟨t, ht, rfl⟩ := List.mem_map.1 hs
    obtain ⟨a, ha1, ha, hnn⟩ := mem_fwdSteps _ _ _ _ t ht
    exact ⟨by show t.nn ∣ 2 ^ k; rw [hnn]; exact pow_dvd_pow 2 ha,
      twSpec_slice q _ k a hq _ t ha1 ha hnn ((rd_tableFwd q Ω k levels).2 t ht)⟩

theorem stepOK_invLSteps (q Ω k : Nat) (hq : 1 < q) (levels : Array Level) :
    ∀ s ∈ invLSteps k levels (tableInv q Ω k levels) ((modqPow (omegaN q Ω k) (-1) q : Nat) : ZMod q)
        ((modqPow (2 ^ k) (-1) q : Nat) : ZMod q),
      s.d.nn ∣ 2 ^ k ∧ TwSpec q s.d.L.h (twCount s.d (2 ^ k)) s.tw s.τ := by
  intro s hs
  rcases List.mem_append.1 hs with hs | hs
  · obtain ⟨t, ht, rfl⟩ := List.mem_map.1 hs
    obtain ⟨a, ha1, ha, hnn⟩ := mem_invSteps _ _ _ _ t ht
    exact ⟨by show t.nn ∣ 2 ^ k; rw [hnn]; exact pow_dvd_pow 2 (by omega),
      twSpec_slice q _ k a hq _ t (by omega) (by omega) hnn ((rd_tableInv q Ω k levels).1 t ht)⟩
  · rw [List.mem_singleton] at hs; subst hs
    exact ⟨dvd_refl _, twSpec_tableInv_twist q Ω k hq levels⟩

end Spq.Q120Ntt
