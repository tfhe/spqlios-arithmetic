/-
  C16, binary64 side, products of products: the budgets in closed form with explicit constants (`k ≤ 16`, i.e.
  `N ≤ 131072`; `n ≤ 2^25 − 1` rows):
   * `muD_le`          : `μ_n = 3/2·γ(n) ≤ 3/2·(2n+3)·u`;
   * `colDelta_le16`   : `δ'_j ≤ Σ_i [(1+μ̄)(1+ε̄·m)·δ_i·‖M_ij‖₁ + (1+μ̄)·ε̄·‖P_i‖₁·nb_i + μ̄·(‖P_i‖₁·nb_i + na_i·‖M_ij‖₁)/2]`,
                          `ε̄ = 8·log2(N)·u`, `μ̄ = 3/2·(2n+3)·u`;
-/
import SpqProofs.Lemmas.ProgErr2Rep
namespace Spq.ProgErr2
open Finset Spq Spq.Module Spq.FftErr Spq.F64 Spq.ProdErr Spq.VmpErr Spq.ProgErr Spq.Closed Spq.Prog Spq.Fft.Alg
variable {K : Type} [Field K] [LinearOrder K] [IsStrictOrderedRing K]

theorem muD_le (n : ℕ) (hn : 2 * n + 2 ≤ 67108864) : ((muD n : ℚ) : K) ≤ ((3 / 2 * ((2 * (n : ℚ) + 3) * u64) : ℚ) : K) := by
  apply (Rat.cast_le (K := K)).2
  unfold muD
  have := gamD_le_lin n hn
  linarith

theorem colDelta_le16 (M : F64Mod K) (mat : Array Int) (ncols n : ℕ) (P : ℕ → Array Int) (j : ℕ) (δ na nb : ℕ → K)
    (hn : 2 * n + 2 ≤ 67108864) (hδ : ∀ i, i < n → 0 ≤ δ i) (hna : ∀ i, i < n → 0 ≤ na i) (hnb : ∀ i, i < n → 0 ≤ nb i)
    (hnl : ∀ i, i < n → nb i ≤ n1 K (matEntry mat ncols M.N i j) M.N) :
    colDelta M mat ncols n P j δ na nb ≤
      ∑ i ∈ range n,
        ((1 + ((3 / 2 * ((2 * (n : ℚ) + 3) * u64) : ℚ) : K)) * (1 + ((8 * (M.k + 1 : ℚ) * u64 : ℚ) : K) * 2 ^ M.k) * δ i *
            n1 K (matEntry mat ncols M.N i j) M.N +
          (1 + ((3 / 2 * ((2 * (n : ℚ) + 3) * u64) : ℚ) : K)) * ((8 * (M.k + 1 : ℚ) * u64 : ℚ) : K) * n1 K (P i) M.N * nb i +
          ((3 / 2 * ((2 * (n : ℚ) + 3) * u64) : ℚ) : K) *
            ((n1 K (P i) M.N * nb i + na i * n1 K (matEntry mat ncols M.N i j) M.N) / 2)) := by
  unfold colDelta
  apply sum_le_sum
  intro i hi
  have hi' := mem_range.1 hi
  have hμ : (0 : K) ≤ ((muD n : ℚ) : K) := by exact_mod_cast muD_nonneg n
  exact rowF_le_mono _ _ (δ i) (eps K M.k) _ (na i) (nb i) _ _ (2 ^ M.k) hμ (hδ i hi') (eps_nonneg M.k) (by positivity)
    (hna i hi') (hnb i hi') (n1_nonneg _ _) (hnl i hi') (muD_le n hn) (eps_le16 M.k M.hk)

end Spq.ProgErr2
