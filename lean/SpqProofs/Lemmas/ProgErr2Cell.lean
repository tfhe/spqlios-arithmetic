/-
  C16, binary64 side, products of products: the cells of one output column of the binary64
  `vmp_apply_dft_to_dft` applied to an ARBITRARY DFT-space operand `adft`, in the vocabulary `vmpFlagD`, `vmpResD`,
  `qD` (`VmpErr.cell_transfer` restated): if the flag of cell `t` of column `j` holds (flagged run on the lifted
  operand), the cell is finite and its value is a perturbed sum (`PSum`) of the products of the VALUES of the cells
  of `adft` with the values of the forward transforms `stF (M[i][j])` of the matrix entries.
-/
import SpqProofs.Lemmas.VmpErrCol
namespace Spq.ProgErr2
open Finset Spq Spq.Module Spq.Fft Spq.Fft.Alg Spq.FftErr Spq.F64 Spq.Reim4 Spq.ProdErr Spq.VmpErr

/-- **flag of output cell `p` of `vmp_apply_dft_to_dft` on the DFT-space operand `adft`**: the flagged run on the
    lifted operand and the lifted prepared matrix: every operation that cell `p` depends on had finite operands and an
    exact result that is 0 or in the normal range (`VmpErr.vmpFlag` is the case `adft = vec_znx_dft a`) -/
def vmpFlagD (c : Cfg) (mat : Array Int) (nrows ncols : ℕ) (adft : Array ℕ) (asz rsz p : ℕ) : Prop :=
  ((vmpApplyDftToDft (pOk c) rsz (adft.map lift) asz (vmpPrepare (pOk c) mat nrows ncols) nrows ncols).getD p
    arithOk.zero).2

/-- the output of `vmp_prepare` + `vmp_apply_dft_to_dft` in the binary64 module -/
def vmpResD (c : Cfg) (mat : Array Int) (nrows ncols : ℕ) (adft : Array ℕ) (asz rsz : ℕ) : Array ℕ :=
  vmpApplyDftToDft (Cfg.parts c) rsz adft asz (vmpPrepare (Cfg.parts c) mat nrows ncols) nrows ncols

/-- value of cell `t` of row `i` of the operand -/
def qD (adft : Array ℕ) (N t : ℕ) : ℕ → ℚ := fun i => val (adft.getD (i * N + t) 0)

theorem vmpFlag_eq (c : Cfg) (mat : Array Int) (nrows ncols : ℕ) (a : Array Int) (asz asl rsz p : ℕ) :
    vmpFlag c mat nrows ncols a asz asl rsz p =
      vmpFlagD c mat nrows ncols (vecDft (Cfg.parts c) (min nrows asz) a asz asl) asz rsz p := rfl

theorem vmpRes_eq (c : Cfg) (mat : Array Int) (nrows ncols : ℕ) (a : Array Int) (asz asl rsz : ℕ) :
    vmpRes c mat nrows ncols a asz asl rsz =
      vmpResD c mat nrows ncols (vecDft (Cfg.parts c) (min nrows asz) a asz asl) asz rsz := rfl

theorem cell_transfer_gen (c : Cfg) (k : ℕ) (cN sN cNi sNi : ℕ → ℕ) (h : VCfgOk c k cN sN cNi sNi)
    (mat : Array Int) (nrows ncols : ℕ) (adft : Array ℕ) (asz rsz : ℕ)
    (hM : ∀ i j, i < nrows → j < ncols → Box k (matEntry mat ncols (2 * 2 ^ k) i j))
    (j t : ℕ) (hj : j < min ncols rsz) (ht : t < 2 ^ k) (hpos : k < 2 → 0 < min nrows asz) :
    (vmpFlagD c mat nrows ncols adft asz rsz (j * (2 * 2 ^ k) + t) →
      Fin64 ((vmpResD c mat nrows ncols adft asz rsz).getD (j * (2 * 2 ^ k) + t) 0) ∧
      PSum (min nrows asz)
        (xRe (qD adft (2 * 2 ^ k) t) (qD adft (2 * 2 ^ k) (t + 2 ^ k)) (qM c k cN sN mat ncols j t)
          (qM c k cN sN mat ncols j (t + 2 ^ k)))
        (mRe (qD adft (2 * 2 ^ k) t) (qD adft (2 * 2 ^ k) (t + 2 ^ k)) (qM c k cN sN mat ncols j t)
          (qM c k cN sN mat ncols j (t + 2 ^ k)))
        (1 + gamD (min nrows asz)) (val ((vmpResD c mat nrows ncols adft asz rsz).getD (j * (2 * 2 ^ k) + t) 0))) ∧
    (vmpFlagD c mat nrows ncols adft asz rsz (j * (2 * 2 ^ k) + t + 2 ^ k) →
      Fin64 ((vmpResD c mat nrows ncols adft asz rsz).getD (j * (2 * 2 ^ k) + t + 2 ^ k) 0) ∧
      PSum (min nrows asz)
        (xIm (qD adft (2 * 2 ^ k) t) (qD adft (2 * 2 ^ k) (t + 2 ^ k)) (qM c k cN sN mat ncols j t)
          (qM c k cN sN mat ncols j (t + 2 ^ k)))
        (mIm (qD adft (2 * 2 ^ k) t) (qD adft (2 * 2 ^ k) (t + 2 ^ k)) (qM c k cN sN mat ncols j t)
          (qM c k cN sN mat ncols j (t + 2 ^ k)))
        (1 + gamD (min nrows asz))
        (val ((vmpResD c mat nrows ncols adft asz rsz).getD (j * (2 * 2 ^ k) + t + 2 ^ k) 0))) :=
  VmpErr.cell_transfer c k cN sN cNi sNi h mat nrows ncols adft asz rsz hM j t hj ht hpos

end Spq.ProgErr2
