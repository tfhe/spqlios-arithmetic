/-
  `rnx_divide_by_m_{ref,avx}`: cell-wise description, avx = ref, and the exact value for a power-of-two divisor.
-/
import SpqProofs.Lemmas.CoverBase
import SpqProofs.Lemmas.ConvToZnx
import SpqProofs.Lemmas.F64StdRnd
namespace Spq
namespace Cover
open Reim4 F64

theorem rnxRef_size (n m : Nat) (res a : Array Nat) : (rnxDivideByMRef n m res a).size = res.size :=
  scalarMap_size _ _ _

theorem rnxRef_getD (n m : Nat) (res a : Array Nat) (i : Nat) :
    (rnxDivideByMRef n m res a).getD i 0 =
      if i < n ∧ i < res.size then F64.mul (a.getD i 0) (invM m) else res.getD i 0 :=
  scalarMap_getD 0 n _ res i

theorem mulInvV_lane (invm : Nat) (a : Array Nat) (o l : Nat) (hl : l < 4) :
    (mulInvV invm a o).lane l = F64.mul (a.getD (o + l) 0) invm := by
  unfold mulInvV
  rw [V4.lane_map2, V4.lane_load _ _ _ _ hl, V4.lane_splat]

/-- the 8-wide `do … while` of the AVX kernel is the scalar loop over `8·⌈n/8⌉` cells -/
theorem rnxAvx_big (n m : Nat) (res a : Array Nat) (hn : 8 ≤ n) (hs : 8 * ((n + 7) / 8) ≤ res.size) :
    rnxDivideByMAvx n m res a = some (rnxDivideByMRef (8 * ((n + 7) / 8)) m res a) := by
  unfold rnxDivideByMAvx
  have h8 : ¬ n < 8 := by omega
  simp only [h8, if_false]
  congr 1
  have hit : 2 * doWhileIters n 8 = 2 * ((n + 7) / 8) := by
    unfold doWhileIters; rw [Nat.max_def]; split <;> omega
  rw [hit]
  obtain ⟨s1, _, s2, s3⟩ := mapV4_contig (0 : Nat) (2 * ((n + 7) / 8))
    (fun j _ => mulInvV (invM m) a (4 * j)) res (by omega)
  apply ext_getD 0 (by rw [s1, rnxRef_size])
  intro i _
  rw [rnxRef_getD]
  by_cases hi : i < 8 * ((n + 7) / 8)
  · have hi2 : i < res.size := by omega
    rw [if_pos ⟨hi, hi2⟩, s2 i (by omega), mulInvV_lane _ _ _ _ (Nat.mod_lt _ (by decide)), Nat.div_add_mod]
  · have hn' : ¬ (i < 8 * ((n + 7) / 8) ∧ i < res.size) := by omega
    rw [if_neg hn']
    exact s3 i (by omega)

/-- for `n = 1, 2, 4` the scalar loop unrolled is, store for store, what the AVX kernel does -/
theorem rnxAvx_small (n m : Nat) (res a : Array Nat) (hn : n = 1 ∨ n = 2 ∨ n = 4) :
    rnxDivideByMAvx n m res a = some (rnxDivideByMRef n m res a) := by
  unfold rnxDivideByMAvx rnxDivideByMRef scalarMap
  rcases hn with rfl | rfl | rfl
  · simp only [show (1 : Nat) < 8 by omega, if_true, beq_self_eq_true, Nat.fold_succ, Nat.fold_zero]
  · simp only [show (2 : Nat) < 8 by omega, if_true, show ((2 : Nat) == 1) = false by rfl, beq_self_eq_true,
      Bool.false_eq_true, if_false, Nat.fold_succ, Nat.fold_zero]
  · simp only [show (4 : Nat) < 8 by omega, if_true, show ((4 : Nat) == 1) = false by rfl,
      show ((4 : Nat) == 2) = false by rfl, beq_self_eq_true, Bool.false_eq_true, if_false, Nat.fold_succ, Nat.fold_zero,
      V4.store, mulInvV, V4.map2, V4.load, V4.splat, Nat.zero_add]

theorem invM_pow2 (j : Int) (h1 : -1022 ≤ j) (h2 : j ≤ 1022) :
    decode (invM (pow2 j)) = ⟨false, 4503599627370496, -52 - j⟩ :=
  Conv.decode_invdiv j h1 h2

theorem val_invM_pow2 (j : Int) (h1 : -1022 ≤ j) (h2 : j ≤ 1022) : val (invM (pow2 j)) = 2 ^ (-j) := by
  rw [val_of_decode (invM_pow2 j h1 h2)]
  unfold sv sI
  simp only [Bool.false_eq_true, if_false]
  push_cast
  rw [show (4503599627370496 : ℚ) = 2 ^ (52 : ℤ) by norm_num, ← two_zpow_add]
  congr 1
  ring

theorem val_pow2 (j : Int) (h1 : -1022 ≤ j) (h2 : j ≤ 1023) : val (pow2 j) = 2 ^ j := by
  rw [val_of_decode (Conv.decode_pow2 j h1 h2)]
  unfold sv sI
  simp only [Bool.false_eq_true, if_false]
  push_cast
  rw [show (4503599627370496 : ℚ) = 2 ^ (52 : ℤ) by norm_num, ← two_zpow_add]
  congr 1
  ring

theorem mul_invM_pow2_exact (x : Nat) (j : Int) (h1 : -1022 ≤ j) (h2 : j ≤ 1022)
    (hq : val x = 0 ∨ (minNormal ≤ |val x * 2 ^ (-j)| ∧ |val x * 2 ^ (-j)| < 2 ^ (1024 : ℤ))) :
    val (F64.mul x (invM (pow2 j))) = val x * 2 ^ (-j) := by
  rcases hq with h0 | ⟨hlo, hhi⟩
  · rw [val_mul, h0, zero_mul, zero_mul, rnd_zero]
  · have hm := decode_m_lt x
    rw [val_decode x, abs_mul, sv_abs, abs_of_pos (two_zpow_pos _), mul_assoc, ← two_zpow_add] at hlo hhi
    have hpos := two_zpow_pos ((decode x).e + -j)
    refine val_mul_pow2_exact x _ (-j) (val_invM_pow2 j h1 h2) ?_ ?_
    · -- `2^-1022 ≤ m·2^(e−j) < 2^53·2^(e−j)`
      have h3 : ((decode x).m : ℚ) * 2 ^ ((decode x).e + -j) < 2 ^ (53 : ℤ) * 2 ^ ((decode x).e + -j) :=
        mul_lt_mul_of_pos_right (by norm_num; exact_mod_cast hm) hpos
      rw [← two_zpow_add] at h3
      have := two_zpow_lt_iff.1 (lt_of_le_of_lt hlo h3)
      omega
    · rcases Int.lt_or_le (-1074) (decode x).e with he | he
      · have hmn := decode_m_ge_of_e x he
        have h3 : (2 : ℚ) ^ (52 : ℤ) * 2 ^ ((decode x).e + -j) ≤ ((decode x).m : ℚ) * 2 ^ ((decode x).e + -j) :=
          mul_le_mul_of_nonneg_right (by norm_num; exact_mod_cast hmn) hpos.le
        rw [← two_zpow_add] at h3
        have := two_zpow_lt_iff.1 (lt_of_le_of_lt h3 hhi)
        omega
      · omega

end Cover
end Spq
