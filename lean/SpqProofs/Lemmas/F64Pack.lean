/-
  `F64.pack` / `F64.decode` (binary64 on Nat bit patterns) from their definitions: `pack` is shift selection
  (`shiftOf`), round to nearest even (`rne`) and encoding (`pack_eq`); `decode` undoes `encode`; `pack` depends only
  on the value `M·2^E` (`pack_scale`), from which the cases without rounding follow.
-/
import Spq.F64
import Mathlib.Tactic.Ring
import Mathlib.Tactic.Linarith
import Mathlib.Tactic.Positivity
import Mathlib.Tactic.NormNum

namespace Spq.F64

/-- round-to-nearest-even of `M / 2^k` (the inner expression of `pack` for a right shift by `k`) -/
def rne (M k : Nat) : Nat :=
  if M % 2 ^ k > 2 ^ (k - 1) || (M % 2 ^ k == 2 ^ (k - 1) && M / 2 ^ k % 2 == 1) then M / 2 ^ k + 1 else M / 2 ^ k

def sgn (neg : Bool) : Nat := if neg then 9223372036854775808 else 0

/-- the significand after the shift `sh` chosen by `pack` -/
def rneI (M : Nat) (sh : Int) : Nat := if sh ≤ 0 then M * 2 ^ sh.natAbs else rne M sh.toNat

/-- the shift chosen by `pack`: 53 significant bits, but never below the exponent -1074 -/
def shiftOf (M : Nat) (E : Int) : Int :=
  if E + (((M.log2 + 1 : Nat) : Int) - 53) < -1074 then (((M.log2 + 1 : Nat) : Int) - 53) + (-1074 - (E + (((M.log2 + 1 : Nat) : Int) - 53)))
  else (((M.log2 + 1 : Nat) : Int) - 53)

/-- the encoding step of `pack` for a significand `q ≤ 2^53` and exponent `e1` -/
def encode (neg : Bool) (q : Nat) (e1 : Int) : Nat :=
  let qe : Nat × Int := if q == 9007199254740992 then (4503599627370496, e1 + 1) else (q, e1)
  if qe.1 < 4503599627370496 then sgn neg + qe.1
  else if qe.2 + 1075 ≥ 2047 then sgn neg + 2047 * 4503599627370496
  else sgn neg + (qe.2 + 1075).toNat * 4503599627370496 + (qe.1 - 4503599627370496)

theorem pack_eq (neg : Bool) (M : Nat) (E : Int) (hM : M ≠ 0) :
    pack neg M E = encode neg (rneI M (shiftOf M E)) (E + shiftOf M E) := by
  have h0 : (M == 0) = false := by simpa using hM
  unfold pack encode rneI rne shiftOf sgn
  simp only [h0, Bool.false_eq_true, if_false]

theorem pack_zero (neg : Bool) (E : Int) : pack neg 0 E = sgn neg := by
  unfold pack sgn; simp

theorem log2_succ_eq {M len : Nat} (h1 : 2 ^ len ≤ 2 * M) (h2 : M < 2 ^ len) : M.log2 + 1 = len := by
  have hM : M ≠ 0 := by
    rintro rfl
    have : 0 < 2 ^ len := by positivity
    omega
  cases len with
  | zero => simp at h2; omega
  | succ n =>
    have : M.log2 = n := (Nat.log2_eq_iff hM).2 ⟨by rw [pow_succ] at h1; omega, h2⟩
    omega

theorem log2_bounds {M : Nat} (hM : M ≠ 0) : 2 ^ (M.log2 + 1) ≤ 2 * M ∧ M < 2 ^ (M.log2 + 1) := by
  refine ⟨?_, Nat.lt_log2_self⟩
  have := Nat.log2_self_le hM
  rw [pow_succ]; omega

theorem shiftOf_normal {M : Nat} {E : Int} {len : Nat} (hlen : M.log2 + 1 = len) (h : -1074 ≤ E + (len : Int) - 53) :
    shiftOf M E = (len : Int) - 53 := by
  unfold shiftOf; rw [hlen]
  split <;> omega

theorem shiftOf_subnormal {M : Nat} {E : Int} {len : Nat} (hlen : M.log2 + 1 = len) (h : E + (len : Int) - 53 < -1074) :
    shiftOf M E = -1074 - E := by
  unfold shiftOf; rw [hlen]
  split <;> omega

theorem pow2_lt_imp {a b : Nat} (h : 2 ^ a < 2 ^ b) : a < b := (Nat.pow_lt_pow_iff_right (a := 2) (by norm_num)).1 h

theorem rne_zero (M : Nat) : rne M 0 = M := by
  unfold rne; simp [Nat.mod_one]

theorem rne_cases (M k : Nat) : rne M k = M / 2 ^ k ∨ rne M k = M / 2 ^ k + 1 := by
  unfold rne; split <;> simp

theorem rne_err (M k : Nat) :
    2 * (rne M k * 2 ^ k) ≤ 2 * M + 2 ^ k ∧ 2 * M ≤ 2 * (rne M k * 2 ^ k) + 2 ^ k := by
  have hP : 0 < 2 ^ k := by positivity
  have hdm := Nat.div_add_mod M (2 ^ k)
  have hr := Nat.mod_lt M hP
  rw [Nat.mul_comm] at hdm
  rcases Nat.eq_zero_or_pos k with rfl | hk
  · rw [rne_zero]; simp
  have hhalf : 2 * 2 ^ (k - 1) = 2 ^ k := by
    rw [← pow_succ']; congr 1; omega
  unfold rne
  generalize hq0 : M / 2 ^ k = q0 at *
  generalize hrr : M % 2 ^ k = r at *
  generalize 2 ^ (k - 1) = half at *
  generalize hPP : 2 ^ k = P at *
  split
  · rename_i hc
    simp only [Bool.or_eq_true, decide_eq_true_eq, Bool.and_eq_true, beq_iff_eq] at hc
    rw [Nat.add_mul, Nat.one_mul]
    generalize q0 * P = t at *
    omega
  · rename_i hc
    simp only [Bool.or_eq_true, decide_eq_true_eq, Bool.and_eq_true, beq_iff_eq, not_or, not_and] at hc
    generalize q0 * P = t at *
    omega

theorem rne_err_abs (M k : Nat) : 2 * |(rne M k : Int) * 2 ^ k - M| ≤ 2 ^ k := by
  obtain ⟨e1, e2⟩ := rne_err M k
  have e1' : 2 * ((rne M k : Int) * 2 ^ k) ≤ 2 * M + 2 ^ k := by exact_mod_cast e1
  have e2' : 2 * (M : Int) ≤ 2 * ((rne M k : Int) * 2 ^ k) + 2 ^ k := by exact_mod_cast e2
  rcases abs_cases ((rne M k : Int) * 2 ^ k - M) with ⟨h, _⟩ | ⟨h, _⟩ <;> rw [h] <;> linarith

theorem rne_exact (a k : Nat) : rne (a * 2 ^ k) k = a := by
  have hP : 0 < 2 ^ k := by positivity
  have hh : 0 < 2 ^ (k - 1) := by positivity
  unfold rne
  rw [Nat.mul_mod_left, Nat.mul_div_cancel _ hP]
  have : ¬ (0 > 2 ^ (k - 1)) := by omega
  have h2 : (0 == 2 ^ (k - 1)) = false := by
    simp only [beq_eq_false_iff_ne]; omega
  simp [h2]

theorem le_rne {M k a : Nat} (h : a * 2 ^ k ≤ M) : a ≤ rne M k := by
  have hP : 0 < 2 ^ k := by positivity
  have : a ≤ M / 2 ^ k := (Nat.le_div_iff_mul_le hP).2 h
  rcases rne_cases M k with h1 | h1 <;> omega

theorem rne_le {M k a : Nat} (h : M ≤ a * 2 ^ k) : rne M k ≤ a := by
  have hP : 0 < 2 ^ k := by positivity
  rcases Nat.lt_or_ge M (a * 2 ^ k) with hlt | hge
  · have : M / 2 ^ k < a := (Nat.div_lt_iff_lt_mul hP).2 hlt
    rcases rne_cases M k with h1 | h1 <;> omega
  · have : M = a * 2 ^ k := by omega
    rw [this, rne_exact]

theorem rne_of_lt_half (a k ρ : Nat) (h : 2 * ρ < 2 ^ k) : rne (a * 2 ^ k + ρ) k = a := by
  have hG : 0 < 2 ^ k := by positivity
  have h1 : a ≤ rne (a * 2 ^ k + ρ) k := le_rne (Nat.le_add_right _ _)
  obtain ⟨e1, _⟩ := rne_err (a * 2 ^ k + ρ) k
  have h2 : rne (a * 2 ^ k + ρ) k * 2 ^ k < (a + 1) * 2 ^ k := by rw [Nat.add_mul, Nat.one_mul]; omega
  have := Nat.lt_of_mul_lt_mul_right h2
  omega

theorem shift_clamped (M : Nat) (E : Int) (L : Nat) (hM : M ≠ 0) (hlt : M < 2 ^ L) (h : E + L - 53 < -1074) :
    shiftOf M E = -1074 - E ∧ rneI M (-1074 - E) ≤ 4503599627370496 := by
  obtain ⟨len, hlen⟩ : ∃ len, M.log2 + 1 = len := ⟨_, rfl⟩
  have hlenL : len ≤ L := by
    have := pow2_lt_imp (lt_of_le_of_lt (Nat.log2_self_le hM) hlt)
    omega
  have hb2 : M < 2 ^ len := by rw [← hlen]; exact Nat.lt_log2_self
  refine ⟨shiftOf_subnormal hlen (by omega), ?_⟩
  unfold rneI
  split
  · have : M * 2 ^ (-1074 - E).natAbs < 2 ^ len * 2 ^ (-1074 - E).natAbs := Nat.mul_lt_mul_of_pos_right hb2 (by positivity)
    rw [← pow_add] at this
    have h2 : 2 ^ (len + (-1074 - E).natAbs) ≤ 2 ^ 52 := Nat.pow_le_pow_right (by norm_num) (by omega)
    exact (lt_of_lt_of_le this h2).le
  · apply rne_le
    have h2 : 2 ^ len ≤ 2 ^ 52 * 2 ^ (-1074 - E).toNat := by rw [← pow_add]; exact Nat.pow_le_pow_right (by norm_num) (by omega)
    exact (lt_of_lt_of_le hb2 h2).le

theorem shift_normal {M : Nat} {E : Int} {len : Nat} (hM : M ≠ 0) (hlen : M.log2 + 1 = len)
    (h : -1074 ≤ E + (len : Int) - 53) :
    shiftOf M E = (len : Int) - 53 ∧ 4503599627370496 ≤ rneI M ((len : Int) - 53) ∧
      rneI M ((len : Int) - 53) ≤ 9007199254740992 := by
  obtain ⟨hb1, hb2⟩ := log2_bounds hM
  rw [hlen] at hb1 hb2
  refine ⟨shiftOf_normal hlen h, ?_⟩
  unfold rneI
  split
  · obtain ⟨n, hn⟩ : ∃ n : Nat, (len : Int) - 53 = -(n : Int) := ⟨53 - len, by omega⟩
    rw [hn, Int.natAbs_neg, Int.natAbs_natCast]
    have e : 2 ^ len * 2 ^ n = 9007199254740992 := by rw [← pow_add, show len + n = 53 by omega]; rfl
    have h1 : M * 2 ^ n < 2 ^ len * 2 ^ n := Nat.mul_lt_mul_of_pos_right hb2 (by positivity)
    have h2 : 2 ^ len * 2 ^ n ≤ 2 * (M * 2 ^ n) := by rw [← Nat.mul_assoc]; exact Nat.mul_le_mul_right _ hb1
    omega
  · obtain ⟨k, hk⟩ : ∃ k : Nat, (len : Int) - 53 = (k : Int) := ⟨len - 53, by omega⟩
    rw [hk, Int.toNat_natCast]
    have e : 2 ^ len = 9007199254740992 * 2 ^ k := by rw [show len = 53 + k by omega, pow_add]; rfl
    exact ⟨le_rne (by omega), rne_le (by omega)⟩

theorem shift_range (M : Nat) (E : Int) (hM : M ≠ 0) :
    rneI M (shiftOf M E) ≤ 9007199254740992 ∧ -1074 ≤ E + shiftOf M E ∧
      (rneI M (shiftOf M E) < 4503599627370496 → E + shiftOf M E = -1074) := by
  rcases Int.lt_or_le (E + ((M.log2 + 1 : Nat) : Int) - 53) (-1074) with h | h
  · obtain ⟨hsh, hq⟩ := shift_clamped M E (M.log2 + 1) hM Nat.lt_log2_self h
    rw [hsh]; omega
  · obtain ⟨hsh, hq1, hq2⟩ := shift_normal hM rfl h
    rw [hsh]; omega

theorem sgn_cases (neg : Bool) : (neg = false ∧ sgn neg = 0) ∨ (neg = true ∧ sgn neg = 9223372036854775808) := by
  cases neg <;> simp [sgn]

theorem decode_normal_pattern (neg : Bool) (ex fr : Nat) (h1 : 1 ≤ ex) (h2 : ex ≤ 2046) (hfr : fr < 4503599627370496) :
    decode (sgn neg + ex * 4503599627370496 + fr) = ⟨neg, fr + 4503599627370496, (ex : Int) - 1075⟩ := by
  have hex : (sgn neg + ex * 4503599627370496 + fr) / 4503599627370496 % 2048 = ex := by
    rcases sgn_cases neg with ⟨_, h⟩ | ⟨_, h⟩ <;> rw [h] <;> omega
  have hfrac : (sgn neg + ex * 4503599627370496 + fr) % 4503599627370496 = fr := by
    rcases sgn_cases neg with ⟨_, h⟩ | ⟨_, h⟩ <;> rw [h] <;> omega
  have hs : ((sgn neg + ex * 4503599627370496 + fr) / 9223372036854775808 % 2 == 1) = neg := by
    rcases sgn_cases neg with ⟨hn, h⟩ | ⟨hn, h⟩ <;> rw [h, hn]
    · have : (0 + ex * 4503599627370496 + fr) / 9223372036854775808 % 2 = 0 := by omega
      rw [this]; rfl
    · have : (9223372036854775808 + ex * 4503599627370496 + fr) / 9223372036854775808 % 2 = 1 := by omega
      rw [this]; rfl
  have hne : (ex == 0) = false := by simp; omega
  simp only [decode, expField, fracField, signBit, hex, hfrac, hs, hne, Bool.false_eq_true, if_false]

theorem decode_subnormal_pattern (neg : Bool) (q : Nat) (hq : q < 4503599627370496) :
    decode (sgn neg + q) = ⟨neg, q, -1074⟩ := by
  have hex : (sgn neg + q) / 4503599627370496 % 2048 = 0 := by
    rcases sgn_cases neg with ⟨_, h⟩ | ⟨_, h⟩ <;> rw [h] <;> omega
  have hfrac : (sgn neg + q) % 4503599627370496 = q := by
    rcases sgn_cases neg with ⟨_, h⟩ | ⟨_, h⟩ <;> rw [h] <;> omega
  have hs : ((sgn neg + q) / 9223372036854775808 % 2 == 1) = neg := by
    rcases sgn_cases neg with ⟨hn, h⟩ | ⟨hn, h⟩ <;> rw [h, hn]
    · have : (0 + q) / 9223372036854775808 % 2 = 0 := by omega
      rw [this]; rfl
    · have : (9223372036854775808 + q) / 9223372036854775808 % 2 = 1 := by omega
      rw [this]; rfl
  simp only [decode, expField, fracField, signBit, hex, hfrac, hs, beq_self_eq_true, if_true]

theorem decode_sgn (s : Bool) : decode (sgn s) = ⟨s, 0, -1074⟩ := by
  have := decode_subnormal_pattern s 0 (by norm_num)
  simpa using this

theorem encode_normal (neg : Bool) (q : Nat) (e1 : Int) (hq1 : 4503599627370496 ≤ q) (hq2 : q < 9007199254740992)
    (he : e1 + 1075 < 2047) :
    encode neg q e1 = sgn neg + (e1 + 1075).toNat * 4503599627370496 + (q - 4503599627370496) := by
  have h1 : (q == 9007199254740992) = false := by simp; omega
  have h2 : ¬ q < 4503599627370496 := by omega
  have h3 : ¬ e1 + 1075 ≥ 2047 := by omega
  simp only [encode, h1, Bool.false_eq_true, if_false, h2, h3]

theorem encode_carry (neg : Bool) (e1 : Int) (he : e1 + 1 + 1075 < 2047) :
    encode neg 9007199254740992 e1 = sgn neg + (e1 + 1 + 1075).toNat * 4503599627370496 := by
  have h3 : ¬ e1 + 1 + 1075 ≥ 2047 := by omega
  simp [encode, h3]

theorem encode_subnormal (neg : Bool) (q : Nat) (e1 : Int) (hq : q < 4503599627370496) :
    encode neg q e1 = sgn neg + q := by
  have h1 : (q == 9007199254740992) = false := by simp; omega
  simp only [encode, h1, Bool.false_eq_true, if_false, hq, if_true]

theorem decode_encode_normal (neg : Bool) (q : Nat) (e1 : Int) (hq1 : 4503599627370496 ≤ q) (hq2 : q < 9007199254740992)
    (he0 : -1074 ≤ e1) (he : e1 ≤ 971) :
    decode (encode neg q e1) = ⟨neg, q, e1⟩ := by
  rw [encode_normal neg q e1 hq1 hq2 (by omega),
    decode_normal_pattern neg (e1 + 1075).toNat (q - 4503599627370496) (by omega) (by omega) (by omega)]
  congr 1
  · omega
  · omega

theorem decode_encode_carry (neg : Bool) (e1 : Int) (he0 : -1074 ≤ e1) (he : e1 + 1 ≤ 971) :
    decode (encode neg 9007199254740992 e1) = ⟨neg, 4503599627370496, e1 + 1⟩ := by
  rw [encode_carry neg e1 (by omega)]
  have := decode_normal_pattern neg (e1 + 1 + 1075).toNat 0 (by omega) (by omega) (by omega)
  rw [Nat.add_zero] at this
  rw [this]
  congr 1
  omega

theorem decode_encode_subnormal (neg : Bool) (q : Nat) (e1 : Int) (hq : q < 4503599627370496) :
    decode (encode neg q e1) = ⟨neg, q, -1074⟩ := by
  rw [encode_subnormal neg q e1 hq, decode_subnormal_pattern neg q hq]

theorem encode_lt (neg : Bool) (q : Nat) (e1 : Int) (hq : q ≤ 9007199254740992) : encode neg q e1 < 18446744073709551616 := by
  have hs : sgn neg ≤ 9223372036854775808 := by cases neg <;> simp [sgn]
  unfold encode
  simp only []
  split_ifs <;> simp only [] at * <;> omega

theorem pack_lt (neg : Bool) (M : Nat) (E : Int) : pack neg M E < 18446744073709551616 := by
  by_cases hM : M = 0
  · subst hM; rw [pack_zero]; cases neg <;> simp [sgn]
  · rw [pack_eq neg M E hM]; exact encode_lt _ _ _ (shift_range M E hM).1

theorem decode_m_lt (b : Nat) : (decode b).m < 9007199254740992 := by
  unfold decode expField fracField
  simp only []
  split <;> simp only [] <;> omega

theorem decode_e_ge (b : Nat) : -1074 ≤ (decode b).e := by
  unfold decode expField fracField
  simp only []
  split
  · simp
  · rename_i h
    simp only [beq_iff_eq] at h
    simp only []
    omega

theorem decode_e_le (b : Nat) : (decode b).e ≤ 972 := by
  unfold decode expField fracField
  simp only []
  split
  · simp
  · simp only []; omega

theorem decode_e_le_finite (b : Nat) (h : isFinite b = true) : (decode b).e ≤ 971 := by
  unfold isFinite expField at h
  simp only [bne_iff_ne, ne_eq] at h
  unfold decode expField fracField
  simp only []
  split
  · simp
  · simp only []; omega

theorem decode_m_ge_of_e (b : Nat) (h : -1074 < (decode b).e) : 4503599627370496 ≤ (decode b).m := by
  unfold decode expField fracField at *
  simp only [] at *
  split
  · rename_i h0; simp only [h0, if_true] at h; omega
  · simp only []; omega

theorem pack_round (neg : Bool) (M : Nat) (E : Int) (k : Nat)
    (h1 : 4503599627370496 * 2 ^ k ≤ M) (h2 : M < 9007199254740992 * 2 ^ k) (hE : -1074 ≤ E + k) :
    pack neg M E = encode neg (rne M k) (E + k) := by
  have hP : 0 < 2 ^ k := by positivity
  have hM : M ≠ 0 := by omega
  have hlen : M.log2 + 1 = 53 + k := by
    apply log2_succ_eq
    · rw [pow_add]; norm_num; omega
    · rw [pow_add]; norm_num; omega
  have hsh : shiftOf M E = (k : Int) := by
    rw [shiftOf_normal hlen (by push_cast; omega)]; push_cast; omega
  rw [pack_eq neg M E hM, hsh]
  unfold rneI
  rcases Nat.eq_zero_or_pos k with rfl | hk
  · simp [rne_zero]
  · have : ¬ ((k : Int) ≤ 0) := by omega
    simp only [this, if_false, Int.toNat_natCast]

theorem rne_range {M k : Nat} (h1 : 4503599627370496 * 2 ^ k ≤ M) (h2 : M < 9007199254740992 * 2 ^ k) :
    4503599627370496 ≤ rne M k ∧ rne M k ≤ 9007199254740992 :=
  ⟨le_rne h1, rne_le (Nat.le_of_lt h2)⟩

theorem rne_scale (M k t : Nat) (hk : 1 ≤ k) : rne (M * 2 ^ t) (k + t) = rne M k := by
  have hP : 0 < 2 ^ t := by positivity
  have e1 : 2 ^ (k + t) = 2 ^ k * 2 ^ t := pow_add 2 k t
  have e2 : 2 ^ (k + t - 1) = 2 ^ (k - 1) * 2 ^ t := by rw [← pow_add]; congr 1; omega
  unfold rne
  rw [e1, e2, Nat.mul_mod_mul_right, Nat.mul_div_mul_right _ _ hP]
  generalize M % 2 ^ k = r
  generalize 2 ^ (k - 1) = h
  generalize 2 ^ t = P at *
  have c1 : (r * P > h * P) ↔ (r > h) := by
    constructor
    · intro hh; exact Nat.lt_of_mul_lt_mul_right hh
    · intro hh; exact Nat.mul_lt_mul_of_pos_right hh hP
  have c2 : (r * P = h * P) ↔ (r = h) := by
    constructor
    · intro hh; exact Nat.eq_of_mul_eq_mul_right hP hh
    · intro hh; rw [hh]
  simp only [c1, c2, beq_iff_eq, Bool.or_eq_true, Bool.and_eq_true, decide_eq_true_eq]

theorem log2_scale {M : Nat} (hM : M ≠ 0) (t : Nat) : (M * 2 ^ t).log2 + 1 = M.log2 + 1 + t := by
  obtain ⟨hb1, hb2⟩ := log2_bounds hM
  apply log2_succ_eq
  · rw [pow_add]
    calc 2 ^ (M.log2 + 1) * 2 ^ t ≤ (2 * M) * 2 ^ t := Nat.mul_le_mul_right _ hb1
      _ = 2 * (M * 2 ^ t) := by ring
  · rw [pow_add]; exact Nat.mul_lt_mul_of_pos_right hb2 (by positivity)

theorem shiftOf_scale {M : Nat} (hM : M ≠ 0) (E : Int) (t : Nat) :
    shiftOf (M * 2 ^ t) (E - t) = shiftOf M E + t := by
  unfold shiftOf; rw [log2_scale hM t]; push_cast; split <;> split <;> omega

theorem rneI_scale (M : Nat) (sh : Int) (t : Nat) : rneI (M * 2 ^ t) (sh + t) = rneI M sh := by
  unfold rneI
  by_cases h1 : sh + t ≤ 0
  · have h2 : sh ≤ 0 := by omega
    simp only [h1, h2, if_true]
    have : sh.natAbs = t + (sh + t).natAbs := by omega
    rw [this, pow_add]; ring
  · by_cases h2 : sh ≤ 0
    · simp only [h1, h2, if_true, if_false]
      obtain ⟨j, hj⟩ : ∃ j : Nat, (sh + t).toNat = j := ⟨_, rfl⟩
      have ht : t = sh.natAbs + j := by omega
      rw [hj, ht, pow_add, ← mul_assoc, rne_exact]
    · simp only [h1, h2, if_false]
      have : (sh + t).toNat = sh.toNat + t := by omega
      rw [this, rne_scale _ _ _ (by omega)]

theorem pack_scale (neg : Bool) (M : Nat) (E : Int) (t : Nat) : pack neg (M * 2 ^ t) (E - t) = pack neg M E := by
  by_cases hM : M = 0
  · subst hM; rw [Nat.zero_mul, pack_zero, pack_zero]
  have hM' : M * 2 ^ t ≠ 0 := Nat.mul_ne_zero hM (by positivity)
  rw [pack_eq neg _ _ hM', pack_eq neg _ _ hM, shiftOf_scale hM, rneI_scale]
  congr 1; omega

theorem pack_rescale (neg : Bool) (a t : Nat) (E : Int) (k : Nat) :
    pack neg (a * 2 ^ t) E = pack neg (a * 2 ^ k) (E + t - k) := by
  rw [pack_scale neg a (E + t) k, ← pack_scale neg a (E + t) t]
  congr 1; omega

theorem pack_normal (neg : Bool) (q : Nat) (e : Int) (h1 : 4503599627370496 ≤ q) (h2 : q < 9007199254740992)
    (he : -1074 ≤ e) : pack neg q e = encode neg q e := by
  have := pack_round neg q e 0 (by simpa using h1) (by simpa using h2) (by simpa using he)
  simpa [rne_zero] using this

theorem pack_small (neg : Bool) (M : Nat) (E : Int) (k : Nat)
    (h1 : 4503599627370496 ≤ M * 2 ^ k) (h2 : M * 2 ^ k < 9007199254740992) (hE : -1074 ≤ E - k) :
    pack neg M E = encode neg (M * 2 ^ k) (E - k) := by
  rw [← pack_scale neg M E k, pack_normal neg _ _ h1 h2 hE]

theorem decode_pack_small (neg : Bool) (M : Nat) (E : Int) (k : Nat)
    (h1 : 4503599627370496 ≤ M * 2 ^ k) (h2 : M * 2 ^ k < 9007199254740992) (hE : -1074 ≤ E - k) (hov : E - k ≤ 971) :
    decode (pack neg M E) = ⟨neg, M * 2 ^ k, E - k⟩ := by
  rw [pack_small neg M E k h1 h2 hE]
  exact decode_encode_normal neg _ _ h1 h2 hE hov

theorem exists_norm_shift {M : Nat} (hM : M ≠ 0) (h : M < 9007199254740992) :
    ∃ k, k ≤ 52 ∧ 4503599627370496 ≤ M * 2 ^ k ∧ M * 2 ^ k < 9007199254740992 := by
  obtain ⟨hb1, hb2⟩ := log2_bounds hM
  obtain ⟨len, hlen⟩ : ∃ len, M.log2 + 1 = len := ⟨_, rfl⟩
  rw [hlen] at hb1 hb2
  have hlen53 : len ≤ 53 := by
    by_contra hc
    have : 2 ^ 54 ≤ 2 ^ len := Nat.pow_le_pow_right (by norm_num) (by omega)
    norm_num at this; omega
  have hlen1 : 1 ≤ len := by omega
  refine ⟨53 - len, by omega, ?_, ?_⟩
  · have : 2 ^ len * 2 ^ (53 - len) = 2 ^ 53 := by rw [← pow_add]; congr 1; omega
    have h3 : 2 ^ len * 2 ^ (53 - len) ≤ (2 * M) * 2 ^ (53 - len) := Nat.mul_le_mul_right _ hb1
    rw [this] at h3; norm_num at h3; linarith
  · have : 2 ^ len * 2 ^ (53 - len) = 2 ^ 53 := by rw [← pow_add]; congr 1; omega
    have hP : 0 < 2 ^ (53 - len) := by positivity
    have h3 : M * 2 ^ (53 - len) < 2 ^ len * 2 ^ (53 - len) := Nat.mul_lt_mul_of_pos_right hb2 hP
    rw [this] at h3; norm_num at h3; exact h3

theorem exists_binade (V : Nat) (hV : 4503599627370496 ≤ V) :
    ∃ k, 4503599627370496 * 2 ^ k ≤ V ∧ V < 9007199254740992 * 2 ^ k := by
  have hV0 : V ≠ 0 := by omega
  have h1 := Nat.log2_self_le hV0
  have h2 : V < 2 ^ (V.log2 + 1) := Nat.lt_log2_self
  have h52 : 52 ≤ V.log2 := by
    by_contra hc
    have : 2 ^ (V.log2 + 1) ≤ 2 ^ 52 := Nat.pow_le_pow_right (by norm_num) (by omega)
    norm_num at this; omega
  refine ⟨V.log2 - 52, ?_, ?_⟩
  · have : 4503599627370496 * 2 ^ (V.log2 - 52) = 2 ^ V.log2 := by
      have : (4503599627370496 : Nat) = 2 ^ 52 := by norm_num
      rw [this, ← pow_add]; congr 1; omega
    rw [this]; exact h1
  · have : 9007199254740992 * 2 ^ (V.log2 - 52) = 2 ^ (V.log2 + 1) := by
      have : (9007199254740992 : Nat) = 2 ^ 53 := by norm_num
      rw [this, ← pow_add]; congr 1; omega
    rw [this]; exact h2

end Spq.F64
