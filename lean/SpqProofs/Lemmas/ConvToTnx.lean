/-
  double → torus double (`reim_to_tnx_ref` / `reim_to_tnx_avx`, same lane function) with the table built by
  `init_reim_to_tnx_precomp`, for every `log2overhead ≤ 48` and every divisor `2^j`.
-/
import SpqProofs.Lemmas.ConvToZnx

namespace Spq.Conv
open Spq.F64

/-- `0.5 + 6·2^L` has exponent field `L+1025` and fraction `2^51 + 2^(49-L)` -/
theorem ovh_eq : ∀ L, L ≤ 48 →
    tnxOvhCst L = (L + 1025) * 4503599627370496 + (2251799813685248 + 2 ^ (49 - L)) := by
  decide +kernel

/-- `mask_or = ovh.u & (-1 << nbits)`: sign, exponent and the leading fraction bit of `ovh` (value `6·2^L`) -/
theorem maskOr_eq : ∀ L, L ≤ 48 →
    tnxOvhCst L &&& ((18446744073709551615 * 2 ^ (50 - L)) % 18446744073709551616) =
      (L + 1025) * 4503599627370496 + 2251799813685248 := by
  decide +kernel

theorem pow_49_lt (L : Nat) : 2 ^ (49 - L) ≤ 562949953421312 := by
  have : (2 : Nat) ^ (49 - L) ≤ 2 ^ 49 := Nat.pow_le_pow_right (by norm_num) (by omega)
  norm_num at this; exact this

theorem two_mul_pow_49 (L : Nat) (hL : L ≤ 48) : 2 * 2 ^ (49 - L) = 2 ^ (50 - L) := by
  rw [← pow_succ']; congr 1; omega

theorem decode_ovh (L : Nat) (hL : L ≤ 48) :
    decode (tnxOvhCst L) = ⟨false, 6755399441055744 + 2 ^ (49 - L), (L : Int) - 50⟩ := by
  rw [ovh_eq L hL]
  have h49 := pow_49_lt L
  have := decode_pos_pattern (L + 1025) (2251799813685248 + 2 ^ (49 - L)) (by omega) (by omega) (by omega)
  rw [this]
  have e1 : 2251799813685248 + 2 ^ (49 - L) + 4503599627370496 = 6755399441055744 + 2 ^ (49 - L) := by omega
  have e2 : ((L + 1025 : Nat) : Int) - 1075 = (L : Int) - 50 := by push_cast; omega
  rw [e1, e2]

theorem isNotPow2Double_eq (d : Nat) : isNotPow2Double d = d &&& 2251799813685247 := rfl

theorem pow2_and_low (j : Int) : pow2 j &&& 2251799813685247 = 0 := by
  unfold pow2
  have h := Nat.and_two_pow_sub_one_eq_mod ((j + 1023).toNat * 4503599627370496) 51
  norm_num at h
  rw [h]; omega

theorem isNotPow2Double_pow2 (j : Int) : (isNotPow2Double (pow2 j) != 0) = false := by
  rw [isNotPow2Double_eq, pow2_and_low]
  rfl

theorem toTnxLane_of_init (m : Nat) (j : Int) (L : Nat) (avx2 : Bool) (p : ToTnxPrecomp) (x : Nat)
    (hm : notPow2U32 m = false) (hL : L ≤ 48) (hinit : initToTnx m (pow2 j) L avx2 = some p) :
    toTnxLane p x = F64.sub (((add x (mul (tnxOvhCst L) (pow2 j))) &&& (2 ^ (50 - L) - 1)) |||
        (tnxOvhCst L &&& ((18446744073709551615 * 2 ^ (50 - L)) % 18446744073709551616))) (tnxOvhCst L) ∧ p.m = m
      ∧ p.useAvx = (avx2 && decide (m ≥ 8)) := by
  have hd := isNotPow2Double_pow2 j
  have hL52 : ¬ L > 52 := by omega
  have hnb : ((50 + 18446744073709551616 - L) % 18446744073709551616) % 64 = 50 - L := by omega
  have hp : 2 ^ (50 - L) ≤ 2 ^ 50 := Nat.pow_le_pow_right (by norm_num) (by omega)
  have hp0 : 0 < 2 ^ (50 - L) := by positivity
  have hma : (2 ^ (50 - L) + 18446744073709551616 - 1) % 18446744073709551616 = 2 ^ (50 - L) - 1 := by
    norm_num at hp
    omega
  unfold initToTnx at hinit
  simp only [hm, hd, hL52, Bool.false_eq_true, if_false, hnb, hma] at hinit
  injection hinit with hinit
  subst hinit
  unfold toTnxLane
  simp only []
  exact ⟨trivial, trivial, trivial⟩

theorem low_bits (A q L : Nat) (hA : 1 ≤ A) (hq : 4503599627370496 ≤ q) (hL : L ≤ 48) :
    (A * 4503599627370496 + (q - 4503599627370496)) % 2 ^ (50 - L) = q % 2 ^ (50 - L) := by
  have hN : (4503599627370496 : Nat) = 2 ^ (2 + L) * 2 ^ (50 - L) := by
    rw [← pow_add]
    have : 2 + L + (50 - L) = 52 := by omega
    rw [this]; norm_num
  obtain ⟨A', rfl⟩ : ∃ A', A = A' + 1 := ⟨A - 1, by omega⟩
  have : (A' + 1) * 4503599627370496 + (q - 4503599627370496) = A' * 4503599627370496 + q := by omega
  rw [this, hN, ← mul_assoc, Nat.mul_comm _ (2 ^ (50 - L)), Nat.mul_add_mod]

theorem or_low51 (f a : Nat) (hf : f < 2251799813685248) :
    f ||| (a * 2251799813685248) = a * 2251799813685248 + f := by
  have h := Nat.two_pow_add_eq_or_of_lt (i := 51) (b := f) (by norm_num; exact hf) a
  rw [Nat.or_comm]
  norm_num at h
  rw [Nat.mul_comm a]; exact h.symm

theorem or_maskOr (f L : Nat) (hf : f < 2251799813685248) :
    f ||| ((L + 1025) * 4503599627370496 + 2251799813685248) = (L + 1025) * 4503599627370496 + (2251799813685248 + f) := by
  have e1 : (L + 1025) * 4503599627370496 + 2251799813685248 = (2 * (L + 1025) + 1) * 2251799813685248 := by omega
  rw [e1, or_low51 f _ hf]; ring

/-- `add_cst = ovh * divisor`, exactly -/
theorem decode_tnxAddCst (j : Int) (L : Nat) (hj1 : -1022 ≤ j) (hj2 : j ≤ 900) (hL : L ≤ 48) :
    decode (mul (tnxOvhCst L) (pow2 j)) = ⟨false, 6755399441055744 + 2 ^ (49 - L), (L : Int) - 50 + j⟩ := by
  have h49 := pow_49_lt L
  have h49p : 0 < 2 ^ (49 - L) := by positivity
  exact (decode_mul_pow2 (decode_ovh L hL) (by omega) (by omega) j hj1 (by omega) (by omega) (by omega)).1

/-- `reim_to_tnx_ref` / `reim_to_tnx_avx`, one lane, with the table of `init_reim_to_tnx_precomp(m, 2^j, L)`:
    for `|x/d| ≤ 2^L` the result `r` satisfies, for some integer `n`,
      `|r − (x/d − n)| ≤ 2^(L−51)`   and   `−1/2 ≤ r < 1/2`
    (stated on exact values scaled by 2^1074: `rs = r·2^1074`, `ds = d·2^1074`, `xs = x·2^1074`, so that
     `r − x/d + n = (rs·ds − xs·2^1074 + n·ds·2^1074) / (2^1074·ds)`). -/
theorem toTnxLane_spec (m : Nat) (j : Int) (L : Nat) (avx2 : Bool) (p : ToTnxPrecomp) (x : Nat)
    (hm : notPow2U32 m = false) (hj1 : -1022 ≤ j) (hj2 : j ≤ 900) (hL : L ≤ 48)
    (hinit : initToTnx m (pow2 j) L avx2 = some p)
    (hdom : |toScaled x| ≤ 2 ^ L * toScaled (pow2 j)) :
    ∃ n : Int,
      2 ^ 51 * |toScaled (toTnxLane p x) * toScaled (pow2 j) - toScaled x * 2 ^ 1074 + n * toScaled (pow2 j) * 2 ^ 1074|
        ≤ 2 ^ L * 2 ^ 1074 * toScaled (pow2 j) ∧
      -(2 ^ 1073) ≤ toScaled (toTnxLane p x) ∧ toScaled (toTnxLane p x) < 2 ^ 1073 := by
  obtain ⟨hlane, _, _⟩ := toTnxLane_of_init m j L avx2 p x hm hL hinit
  rw [hlane, maskOr_eq L hL]
  have hc := decode_tnxAddCst j L hj1 hj2 hL
  -- H = 2^(49-L): half of the torus unit in ulps of the constant; u = ulp of the add constant; U = ulp of the sub constant
  obtain ⟨H, hH⟩ : ∃ H, H = 2 ^ (49 - L) := ⟨_, rfl⟩
  have hNH : 2 ^ (50 - L) = 2 * H := by rw [hH, two_mul_pow_49 L hL]
  have hHpos : 0 < H := by rw [hH]; positivity
  have hH49 : H ≤ 562949953421312 := by rw [hH]; exact pow_49_lt L
  have hHI : (H : Int) = 2 ^ (49 - L) := by rw [hH]; push_cast; rfl
  rw [← hH] at hc
  obtain ⟨u, hu⟩ : ∃ u : Int, u = 2 ^ (((L : Int) - 50 + j + 1074).toNat) := ⟨_, rfl⟩
  obtain ⟨U, hU⟩ : ∃ U : Int, U = 2 ^ (1024 + L) := ⟨_, rfl⟩
  have hupos : 0 < u := by rw [hu]; positivity
  have hUpos : 0 < U := by rw [hU]; positivity
  have hds : toScaled (pow2 j) = 2 * (H : Int) * u := by
    rw [toScaled_pow2 j hj1 (by omega), hHI, hu, ← pow_succ', ← pow_add]; congr 1; omega
  have h1074 : (2 : Int) ^ 1074 = 2 * (H : Int) * U := by
    have key : ∀ n, 49 - L + 1 + (1024 + L) = n → 2 * (H : Int) * U = 2 ^ n := fun n hn => by
      rw [hHI, hU, ← pow_succ', ← pow_add, hn]
    exact (key 1074 (by omega)).symm
  have h1073 : (2 : Int) ^ 1073 = (H : Int) * U := by
    have key : ∀ n, 49 - L + (1024 + L) = n → (H : Int) * U = 2 ^ n := fun n hn => by rw [hHI, hU, ← pow_add, hn]
    exact (key 1073 (by omega)).symm
  have hLH : (2 : Int) ^ L * (2 * (H : Int)) = 1125899906842624 := by
    rw [hHI, ← pow_succ', ← pow_add]
    have : L + (49 - L + 1) = 50 := by omega
    rw [this]; norm_num
  -- the magic addition: `q − mc` is `x/u` rounded
  obtain ⟨q, hq1, hq, hpat, herr⟩ := add_magic_val (x := x) hc 1125899906842624 (by omega) (by omega) (by omega)
    (by rw [← hu]; rw [hds] at hdom; calc |toScaled x| ≤ 2 ^ L * (2 * (H : Int) * u) := hdom
          _ = ((1125899906842624 : Nat) : Int) * u := by rw [← mul_assoc, ← mul_assoc, mul_assoc ((2 : Int) ^ L), hLH]; norm_num)
  rw [← hu] at herr
  -- split `q` at the torus unit `2H`
  obtain ⟨f, hfdef⟩ : ∃ f, f = q % 2 ^ (50 - L) := ⟨_, rfl⟩
  obtain ⟨n', hn'def⟩ : ∃ n', n' = q / 2 ^ (50 - L) := ⟨_, rfl⟩
  have hqdm : q = 2 ^ (50 - L) * n' + f := by rw [hfdef, hn'def]; exact (Nat.div_add_mod q _).symm
  have hf : f < 2 ^ (50 - L) := by rw [hfdef]; exact Nat.mod_lt _ (by positivity)
  have hand : (((L : Int) - 50 + j + 1075).toNat * 4503599627370496 + (q - 4503599627370496)) &&& (2 ^ (50 - L) - 1)
      = f := by
    rw [Nat.and_two_pow_sub_one_eq_mod, low_bits _ q L (by omega) hq1 hL, hfdef]
  rw [hpat, hand]
  rw [hNH] at hf hqdm
  rw [or_maskOr f L (by omega)]
  -- the subtraction of `subCst` is exact: both operands are multiples of `U`, the difference is `(f − H)·U`
  have hcur : decode ((L + 1025) * 4503599627370496 + (2251799813685248 + f)) =
      ⟨false, 6755399441055744 + f, (L : Int) - 50⟩ := by
    have := decode_pos_pattern (L + 1025) (2251799813685248 + f) (by omega) (by omega) (by omega)
    rw [this]
    have e1 : 2251799813685248 + f + 4503599627370496 = 6755399441055744 + f := by omega
    have e2 : ((L + 1025 : Nat) : Int) - 1075 = (L : Int) - 50 := by push_cast; omega
    rw [e1, e2]
  have hovhlt : tnxOvhCst L < 18446744073709551616 := by rw [ovh_eq L hL]; omega
  have hdovh := decode_ovh L hL
  rw [← hH] at hdovh
  have hUe : ((L : Int) - 50 + 1074).toNat = 1024 + L := by omega
  have hvc : toScaled ((L + 1025) * 4503599627370496 + (2251799813685248 + f)) = ((6755399441055744 + f : Nat) : Int) * U := by
    rw [toScaled_of_decode' hcur, hUe, hU]; rfl
  have hvo : toScaled (tnxOvhCst L) = ((6755399441055744 + H : Nat) : Int) * U := by
    rw [toScaled_of_decode' hdovh, hUe, hU]; rfl
  have hD : toScaled ((L + 1025) * 4503599627370496 + (2251799813685248 + f)) - toScaled (tnxOvhCst L)
      = ((f : Int) - H) * 2 ^ (1024 + L) := by
    rw [hvc, hvo, hU]; push_cast; ring
  have hsub := toScaled_sub_exact _ (tnxOvhCst L) hovhlt
    (hD ▸ Rep64.mul_pow (w := (f : Int) - H) (by omega) (1024 + L) (by omega))
  rw [hsub, hD, ← hU, hds, h1074, h1073]
  have hfN : (f : Int) < 2 * (H : Int) := by exact_mod_cast hf
  have hf0 : (0 : Int) ≤ f := Int.natCast_nonneg f
  have hqI : (q : Int) = 2 * (H : Int) * n' + f := by rw [hqdm]; push_cast; ring
  have hmcN : ((6755399441055744 + H : Nat) : Int) = 6 * 2 ^ L * (2 * (H : Int)) + H := by
    push_cast
    have : (6 : Int) * 2 ^ L * (2 * (H : Int)) = 6755399441055744 := by rw [mul_assoc, hLH]; norm_num
    rw [this]
  have hpos : 0 < 2 * (H : Int) * U := by positivity
  refine ⟨(n' : Int) - 6 * 2 ^ L, ?_, ?_, ?_⟩
  · have hexpr : ((f : Int) - H) * U * (2 * (H : Int) * u) - toScaled x * (2 * (H : Int) * U)
        + ((n' : Int) - 6 * 2 ^ L) * (2 * (H : Int) * u) * (2 * (H : Int) * U)
        = (2 * (H : Int) * U) * (((q : Int) - ((6755399441055744 + H : Nat) : Int)) * u - toScaled x) := by
      rw [hmcN, hqI]; ring
    have hrhs : (2 : Int) ^ L * (2 * (H : Int) * U) * (2 * (H : Int) * u)
        = (2 * (H : Int) * U) * (1125899906842624 * u) := by rw [← hLH]; ring
    rw [hexpr, hrhs, abs_mul, abs_of_pos hpos, mul_left_comm]
    apply mul_le_mul_of_nonneg_left _ hpos.le
    linarith only [herr]
  · have : -((H : Int) * U) = (-(H : Int)) * U := by ring
    rw [this]; exact mul_le_mul_of_nonneg_right (by linarith only [hf0]) hUpos.le
  · exact mul_lt_mul_of_pos_right (by linarith only [hfN]) hUpos

end Spq.Conv
