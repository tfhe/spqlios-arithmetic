/-
  `znx_normalize` called on windows of one arena buffer, as `vec_znx_normalize_base2k_ref` calls it: `out` and `in`
  are limbs of `res` / `a` (identical or disjoint windows), `carry_out` / `carry_in` are the scratch window
  `[t, t+nn)` (disjoint from both limbs) or null.  First the six shapes on any windows: the memories of the loops
  (`Lemmas/SrcNorm.lean`) are `wmem`, for two results `wmem` of `wmem` (`Lemmas/SrcWmem.lean`).
-/
import SpqProofs.Lemmas.SrcAvxKern
import SpqProofs.Lemmas.SrcNorm
namespace Spq.CIR
open Spq

/-! ### on windows: each pointer is `(buffer, offset)`; a source window lies in another buffer than a result window, or is
    identical to it or disjoint from it; the two result windows lie in different buffers or are disjoint -/
section windows
variable (nn : Nat) (hnn : nn < 18446744073709551616) (k : Nat) (hk1 : 1 ≤ k) (hk2 : k ≤ 63) (mem : Mem)
  (i io : Nat) (hi : io + nn ≤ (buf mem i).size)
include hnn hk1 hk2 hi

section one
variable (o oo : Nat) (ho : oo + nn ≤ (buf mem o).size) (hio : i = o → SameOrDisj nn oo io)
include ho hio

theorem znx_normalize_out_windows :
    ∀ fuel, nn ≤ fuel →
      run fuel Gen.CSrc.znx_normalize [(nn : Int), (k : Int)] [some (o, oo), none, some (i, io), none] mem
        = .ok (wset mem o oo (Coeffs.znxNormalize nn k (win (buf mem i) io nn) none).1) := by
  intro fuel hf
  have h := znx_normalize_out nn hnn k hk1 hk2 _ (i, io) _ (ahead_wmem mem o nn oo _ i io hi hio) (o, oo)
    (fills_wmem mem o nn oo _ ho) fuel hf
  rw [wmem_zero, wmem_all] at h
  rw [h, znxNormalize_fst]
  rfl

theorem znx_normalize_cout_windows :
    ∀ fuel, nn ≤ fuel →
      run fuel Gen.CSrc.znx_normalize [(nn : Int), (k : Int)] [none, some (o, oo), some (i, io), none] mem
        = .ok (wset mem o oo (Coeffs.znxNormalize nn k (win (buf mem i) io nn) none).2) := by
  intro fuel hf
  have h := znx_normalize_cout nn hnn k hk1 hk2 _ (i, io) _ (ahead_wmem mem o nn oo _ i io hi hio) (o, oo)
    (fills_wmem mem o nn oo _ ho) fuel hf
  rw [wmem_zero, wmem_all] at h
  rw [h, znxNormalize_snd]
  rfl

variable (ci cio : Nat) (hci : cio + nn ≤ (buf mem ci).size) (hcio : ci = o → SameOrDisj nn oo cio)
include hci hcio

theorem znx_normalize_out_cin_windows :
    ∀ fuel, nn ≤ fuel →
      run fuel Gen.CSrc.znx_normalize [(nn : Int), (k : Int)] [some (o, oo), none, some (i, io), some (ci, cio)] mem
        = .ok (wset mem o oo (Coeffs.znxNormalize nn k (win (buf mem i) io nn) (some (win (buf mem ci) cio nn))).1) := by
  intro fuel hf
  have h := znx_normalize_out_cin nn hnn k hk1 hk2 _ (i, io) _ (ahead_wmem mem o nn oo _ i io hi hio) (o, oo) (ci, cio) _
    (ahead_wmem mem o nn oo _ ci cio hci hcio)
    (fills_wmem mem o nn oo _ ho) fuel hf
  rw [wmem_zero, wmem_all] at h
  rw [h, znxNormalize_fst]
  rfl

theorem znx_normalize_cout_cin_windows :
    ∀ fuel, nn ≤ fuel →
      run fuel Gen.CSrc.znx_normalize [(nn : Int), (k : Int)] [none, some (o, oo), some (i, io), some (ci, cio)] mem
        = .ok (wset mem o oo (Coeffs.znxNormalize nn k (win (buf mem i) io nn) (some (win (buf mem ci) cio nn))).2) := by
  intro fuel hf
  have h := znx_normalize_cout_cin nn hnn k hk1 hk2 _ (i, io) _ (ahead_wmem mem o nn oo _ i io hi hio) (o, oo) (ci, cio) _
    (ahead_wmem mem o nn oo _ ci cio hci hcio)
    (fills_wmem mem o nn oo _ ho) fuel hf
  rw [wmem_zero, wmem_all] at h
  rw [h, znxNormalize_snd]
  rfl

end one

section two
variable (o oo c co : Nat) (hoc : c = o → oo + nn ≤ co ∨ co + nn ≤ oo) (ho : oo + nn ≤ (buf mem o).size)
  (hc : co + nn ≤ (buf mem c).size) (hio : i = o → SameOrDisj nn oo io) (hic : i = c → SameOrDisj nn co io)
include hoc ho hc hio hic

theorem znx_normalize_out_cout_windows :
    ∀ fuel, nn ≤ fuel →
      run fuel Gen.CSrc.znx_normalize [(nn : Int), (k : Int)] [some (o, oo), some (c, co), some (i, io), none] mem
        = .ok (wset (wset mem o oo (Coeffs.znxNormalize nn k (win (buf mem i) io nn) none).1) c co
            (Coeffs.znxNormalize nn k (win (buf mem i) io nn) none).2) := by
  intro fuel hf
  have h := znx_normalize_out_cout nn hnn k hk1 hk2 _ (i, io) _ (ahead_wmem2 mem o oo c co nn _ _ i io hi hio hic)
    (o, oo) (c, co) _
    (storesTo_wmem2_fst mem o oo c co nn _ _ hoc ho) (storesTo_wmem2_snd mem o oo c co nn _ _ hc) fuel hf
  rw [wmem2_zero, wmem_all, wmem_all] at h
  rw [h, znxNormalize_fst, znxNormalize_snd]
  rfl

variable (ci cio : Nat) (hci : cio + nn ≤ (buf mem ci).size) (hcio : ci = o → SameOrDisj nn oo cio)
  (hcic : ci = c → SameOrDisj nn co cio)
include hci hcio hcic

theorem znx_normalize_out_cout_cin_windows :
    ∀ fuel, nn ≤ fuel →
      run fuel Gen.CSrc.znx_normalize [(nn : Int), (k : Int)] [some (o, oo), some (c, co), some (i, io), some (ci, cio)] mem
        = .ok (wset (wset mem o oo (Coeffs.znxNormalize nn k (win (buf mem i) io nn) (some (win (buf mem ci) cio nn))).1) c co
            (Coeffs.znxNormalize nn k (win (buf mem i) io nn) (some (win (buf mem ci) cio nn))).2) := by
  intro fuel hf
  have h := znx_normalize_out_cout_cin nn hnn k hk1 hk2 _ (i, io) _ (ahead_wmem2 mem o oo c co nn _ _ i io hi hio hic)
    (o, oo) (c, co) (ci, cio) _
    (ahead_wmem2 mem o oo c co nn _ _ ci cio hci hcio hcic) _
    (storesTo_wmem2_fst mem o oo c co nn _ _ hoc ho) (storesTo_wmem2_snd mem o oo c co nn _ _ hc) fuel hf
  rw [wmem2_zero, wmem_all, wmem_all] at h
  rw [h, znxNormalize_fst, znxNormalize_snd]
  rfl

end two
end windows

/-! ### every window in buffer `B` of `m0[B := X]`: `out` / `in` at `ro` / `ao`, the carries at the scratch window `t` -/
section kern
variable (m0 : Mem) (B : Nat) (hB : B < m0.size) (X : Array Int) (nn : Nat)
include hB

theorem arena_norm_cout (hnn : nn < 18446744073709551616) (k : Nat) (hk1 : 1 ≤ k) (hk2 : k ≤ 63) (ao t : Nat)
    (ha : ao + nn ≤ X.size) (ht : t + nn ≤ X.size) (hat : ao + nn ≤ t ∨ t + nn ≤ ao) :
    ∀ fuel, nn ≤ fuel →
      run fuel Gen.CSrc.znx_normalize [(nn : Int), (k : Int)] [none, some (B, t), some (B, ao), none] (m0.setIfInBounds B X)
        = .ok (m0.setIfInBounds B (Heap.writeArr X t (Coeffs.znxNormalize nn k (win X ao nn) none).2)) := by
  intro fuel hf
  have hX := buf_set_self m0 B X hB
  have h := znx_normalize_cout_windows nn hnn k hk1 hk2 (m0.setIfInBounds B X) B ao (hX.symm ▸ ha)
    B t (hX.symm ▸ ht) (fun _ => .inr (by omega)) fuel hf
  rwa [hX, wset_arena m0 B hB] at h

theorem arena_norm_cout_cin (hnn : nn < 18446744073709551616) (k : Nat) (hk1 : 1 ≤ k) (hk2 : k ≤ 63) (ao t : Nat)
    (ha : ao + nn ≤ X.size) (ht : t + nn ≤ X.size) (hat : ao + nn ≤ t ∨ t + nn ≤ ao) :
    ∀ fuel, nn ≤ fuel →
      run fuel Gen.CSrc.znx_normalize [(nn : Int), (k : Int)] [none, some (B, t), some (B, ao), some (B, t)] (m0.setIfInBounds B X)
        = .ok (m0.setIfInBounds B (Heap.writeArr X t (Coeffs.znxNormalize nn k (win X ao nn) (some (win X t nn))).2)) := by
  intro fuel hf
  have hX := buf_set_self m0 B X hB
  have h := znx_normalize_cout_cin_windows nn hnn k hk1 hk2 (m0.setIfInBounds B X) B ao (hX.symm ▸ ha)
    B t (hX.symm ▸ ht) (fun _ => .inr (by omega)) B t (hX.symm ▸ ht) (fun _ => .inl rfl) fuel hf
  rwa [hX, wset_arena m0 B hB] at h

theorem arena_norm_out_cout (hnn : nn < 18446744073709551616) (k : Nat) (hk1 : 1 ≤ k) (hk2 : k ≤ 63) (ro ao t : Nat)
    (hr : ro + nn ≤ X.size) (ha : ao + nn ≤ X.size) (ht : t + nn ≤ X.size) (hda : SameOrDisj nn ro ao) (hrt : ro + nn ≤ t ∨ t + nn ≤ ro) (hat : ao + nn ≤ t ∨ t + nn ≤ ao) :
    ∀ fuel, nn ≤ fuel →
      run fuel Gen.CSrc.znx_normalize [(nn : Int), (k : Int)] [some (B, ro), some (B, t), some (B, ao), none] (m0.setIfInBounds B X)
        = .ok (m0.setIfInBounds B (Heap.writeArr (Heap.writeArr X ro (Coeffs.znxNormalize nn k (win X ao nn) none).1) t (Coeffs.znxNormalize nn k (win X ao nn) none).2)) := by
  intro fuel hf
  have hX := buf_set_self m0 B X hB
  have h := znx_normalize_out_cout_windows nn hnn k hk1 hk2 (m0.setIfInBounds B X) B ao (hX.symm ▸ ha)
    B ro B t (fun _ => hrt) (hX.symm ▸ hr) (hX.symm ▸ ht) (fun _ => hda)
    (fun _ => .inr (by omega)) fuel hf
  rwa [hX, wset_arena m0 B hB, wset_arena m0 B hB] at h

theorem arena_norm_out_cout_cin (hnn : nn < 18446744073709551616) (k : Nat) (hk1 : 1 ≤ k) (hk2 : k ≤ 63) (ro ao t : Nat)
    (hr : ro + nn ≤ X.size) (ha : ao + nn ≤ X.size) (ht : t + nn ≤ X.size) (hda : SameOrDisj nn ro ao) (hrt : ro + nn ≤ t ∨ t + nn ≤ ro) (hat : ao + nn ≤ t ∨ t + nn ≤ ao) :
    ∀ fuel, nn ≤ fuel →
      run fuel Gen.CSrc.znx_normalize [(nn : Int), (k : Int)] [some (B, ro), some (B, t), some (B, ao), some (B, t)] (m0.setIfInBounds B X)
        = .ok (m0.setIfInBounds B (Heap.writeArr (Heap.writeArr X ro (Coeffs.znxNormalize nn k (win X ao nn) (some (win X t nn))).1) t (Coeffs.znxNormalize nn k (win X ao nn) (some (win X t nn))).2)) := by
  intro fuel hf
  have hX := buf_set_self m0 B X hB
  have h := znx_normalize_out_cout_cin_windows nn hnn k hk1 hk2 (m0.setIfInBounds B X) B ao (hX.symm ▸ ha)
    B ro B t (fun _ => hrt) (hX.symm ▸ hr) (hX.symm ▸ ht) (fun _ => hda)
    (fun _ => .inr (by omega)) B t (hX.symm ▸ ht) (fun _ => .inr hrt) (fun _ => .inl rfl) fuel hf
  rwa [hX, wset_arena m0 B hB, wset_arena m0 B hB] at h

theorem arena_norm_out (hnn : nn < 18446744073709551616) (k : Nat) (hk1 : 1 ≤ k) (hk2 : k ≤ 63) (ro ao t : Nat)
    (hr : ro + nn ≤ X.size) (ha : ao + nn ≤ X.size) (ht : t + nn ≤ X.size) (hda : SameOrDisj nn ro ao) (hrt : ro + nn ≤ t ∨ t + nn ≤ ro) (hat : ao + nn ≤ t ∨ t + nn ≤ ao) :
    ∀ fuel, nn ≤ fuel →
      run fuel Gen.CSrc.znx_normalize [(nn : Int), (k : Int)] [some (B, ro), none, some (B, ao), none] (m0.setIfInBounds B X)
        = .ok (m0.setIfInBounds B (Heap.writeArr X ro (Coeffs.znxNormalize nn k (win X ao nn) none).1)) := by
  intro fuel hf
  have hX := buf_set_self m0 B X hB
  have h := znx_normalize_out_windows nn hnn k hk1 hk2 (m0.setIfInBounds B X) B ao (hX.symm ▸ ha)
    B ro (hX.symm ▸ hr) (fun _ => hda) fuel hf
  rwa [hX, wset_arena m0 B hB] at h

theorem arena_norm_out_cin (hnn : nn < 18446744073709551616) (k : Nat) (hk1 : 1 ≤ k) (hk2 : k ≤ 63) (ro ao t : Nat)
    (hr : ro + nn ≤ X.size) (ha : ao + nn ≤ X.size) (ht : t + nn ≤ X.size) (hda : SameOrDisj nn ro ao) (hrt : ro + nn ≤ t ∨ t + nn ≤ ro) (hat : ao + nn ≤ t ∨ t + nn ≤ ao) :
    ∀ fuel, nn ≤ fuel →
      run fuel Gen.CSrc.znx_normalize [(nn : Int), (k : Int)] [some (B, ro), none, some (B, ao), some (B, t)] (m0.setIfInBounds B X)
        = .ok (m0.setIfInBounds B (Heap.writeArr X ro (Coeffs.znxNormalize nn k (win X ao nn) (some (win X t nn))).1)) := by
  intro fuel hf
  have hX := buf_set_self m0 B X hB
  have h := znx_normalize_out_cin_windows nn hnn k hk1 hk2 (m0.setIfInBounds B X) B ao (hX.symm ▸ ha)
    B ro (hX.symm ▸ hr) (fun _ => hda) B t (hX.symm ▸ ht) (fun _ => .inr hrt) fuel hf
  rwa [hX, wset_arena m0 B hB] at h

end kern

end Spq.CIR
