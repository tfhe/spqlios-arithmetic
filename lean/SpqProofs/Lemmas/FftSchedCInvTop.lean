/-
  Structural schedule theorem (inverse cplx): the radix-2 schedule `cibfs2` (m ≤ 8), `cirec16` and the top-level
  theorem `cifftRI_struct`.
-/
import SpqProofs.Lemmas.FftSchedCInv
namespace Spq.Fft.SchedC
open Spq.Fft Spq.Fft.Alg Spq.Fft.View Spq.Fft.Sim Spq.Fft.SimP Spq.Fft.LevelN Spq.Fft.KernN Spq.Fft.Tw Spq.Fft.SchedN

variable {R : Type} [Inhabited R]
variable (F : CFlav R) (c s : ℕ → R) (k : ℕ) (y : ℕ → R × R)

section table
variable {v : Ent → R} (hv : InvTab v c s)
include hv

/-- one inverse twiddle level of `cibfs2` over a block (blocks of size `h ≥ 2` become blocks of size `2h`) -/
theorem cilevel_runs (hk3 : k ≤ 3) {ℓ0 D b0 m off pw j d h ss : ℕ} (hB : Blk k ℓ0 D b0 m off pw)
    (hD : D = j + (d + 1)) (hd : d ≠ 0) (hh : h = 2 ^ d) (hss : ss = twE ℓ0 d b0) :
    Runs v ((List.range (m / (2 * h))).flatMap (fun b =>
        eM (ss + frbN (4 * 2 ^ k) b / 2) ++ eM (ss + frbN (4 * 2 ^ k) b / 2)))
      (fun T st => iterFrom (fun b (st : RI R × ℕ) =>
        (twPassL F.ctTop F.lanesTop T st.2 h (off + b * (2 * h)) st.1, st.2 + 4)) (m / (2 * h)) 0 st)
      (VNI k (gNetCI F c s k) y d) (VNI k (gNetCI F c s k) y (d + 1)) off m :=
  Runs.blocks k hB hD (show 2 * h = 2 ^ (d + 1) by rw [hh, pow_succ]; ring) rfl
    (fun b => eM (ss + frbN (4 * 2 ^ k) b / 2) ++ eM (ss + frbN (4 * 2 ^ k) b / 2))
    (fun b T st => (twPassL F.ctTop F.lanesTop T st.2 h (off + b * (2 * h)) st.1, st.2 + 4)) fun b hb hS =>
    (itwL_runs F c s k y hv F.ctTop F.lanesTop hS (gNetCI_small F c s k (ℓ0 + j) d (b0 * 2 ^ j + b) hk3 hd)
      (hB.sub_pass hD hss hb)).of_eq rfl (fun T st => by rw [Nat.mul_div_cancel_left h Nat.two_pos]) rfl rfl

/-- the `h = 2, 4, …, m/2` loop of `cibfs2`: `n` levels are left -/
theorem cibfs2Levels_runs (hk3 : k ≤ 3) {ℓ0 D b0 m off pw : ℕ} (hB : Blk k ℓ0 D b0 m off pw) :
    ∀ n fuel d h ss, d + n = D → 1 ≤ d → h = 2 ^ d → ss = twE ℓ0 d b0 → n ≤ fuel →
      Runs v (ciBfs2Levels (4 * 2 ^ k) m fuel h ss) (fun T st => cibfs2Levels F T m off fuel h st)
        (VNI k (gNetCI F c s k) y d) (VNI k (gNetCI F c s k) y D) off m := by
  intro n
  induction n with
  | zero =>
    intro fuel d h ss hd hd1 hh hss hfuel
    obtain rfl : d = D := hd
    have hnot : ¬ h ≤ m / 2 := hh ▸ fun hc => Nat.lt_irrefl _ ((hB.le_half_iff d).1 hc)
    cases fuel with
    | zero => exact (Runs.id _ _ off m).of_eq (by rw [ciBfs2Levels]) (fun T st => by rw [cibfs2Levels]) rfl rfl
    | succ f =>
      exact (Runs.id _ _ off m).of_eq (by rw [ciBfs2Levels, if_neg hnot])
        (fun T st => by rw [cibfs2Levels, if_neg hnot]) rfl rfl
  | succ n ih =>
    intro fuel d h ss hd hd1 hh hss hfuel
    obtain ⟨f, rfl⟩ : ∃ f, fuel = f + 1 := Nat.exists_eq_add_one.2 (Nat.lt_of_lt_of_le n.succ_pos hfuel)
    have hdD : D = n + (d + 1) := by rw [← hd]; ring
    have hle : h ≤ m / 2 := hh ▸ (hB.le_half_iff d).2 (by omega)
    have st := cilevel_runs F c s k y hv hk3 hB hdD (Nat.pos_iff_ne_zero.1 hd1) hh hss
    have nx := ih f (d + 1) (h * 2) (ss * 2) (by rw [← hd]; ring) (Nat.le_add_left 1 d) (by rw [hh, pow_succ])
      (by rw [hss, twE_dsucc]) (Nat.le_of_succ_le_succ hfuel)
    exact (st.seq nx).of_eq (by rw [ciBfs2Levels, if_pos hle]) (fun T st => by rw [cibfs2Levels, if_pos hle]) rfl rfl

/-- the `h = 1` loop of `cibfs2`: one inverse butterfly per pair, one table entry per pair -/
theorem cifirst_runs (hk3 : k ≤ 3) {ℓ0 D1 b0 m off pw ss : ℕ} (hB : Blk k ℓ0 (D1 + 1) b0 m off pw)
    (hss : ss = twE ℓ0 0 b0) :
    Runs v ((List.range (m / 2)).flatMap (fun i => eM (ss + frbN (4 * 2 ^ k) i / 2)))
      (fun T st => iterFrom (fun j (st : RI R × ℕ) =>
        let t := st.2
        let s := st.1
        let a := off + 2 * j
        let r := F.last s.re[a]! s.im[a]! s.re[a + 1]! s.im[a + 1]! T[t]! T[t + 1]! T[t]! T[t + 1]!
        ((⟨(s.re.set! a r.1).set! (a + 1) r.2.2.1, (s.im.set! a r.2.1).set! (a + 1) r.2.2.2⟩ : RI R), t + 2))
        (m / 2) 0 st)
      (VNI k (gNetCI F c s k) y 0) (VNI k (gNetCI F c s k) y 1) off m :=
  Runs.blocks k hB (j := D1) (e := 0 + 1) rfl (by norm_num : 2 = 2 ^ (0 + 1)) rfl
    (fun i => eM (ss + frbN (4 * 2 ^ k) i / 2))
    (fun j T st => (bf (fun ra ia rb ib wr wi => F.last ra ia rb ib wr wi T[st.2]! T[st.2 + 1]!) st.1 (off + 2 * j)
      (off + 2 * j + 1) T[st.2]! T[st.2 + 1]!, st.2 + 2)) fun j hj hS =>
    Runs.step 2 rfl (fun T t s => bf (fun ra ia rb ib wr wi => F.last ra ia rb ib wr wi T[t]! T[t + 1]!)
      s (off + 2 * j) (off + 2 * j + 1) T[t]! T[t + 1]!) fun N T t s1 hs1 hN hT => by
      obtain ⟨w0, w0'⟩ := hv.read_eM T t _ hT
      rw [hB.sub_pass rfl hss hj] at w0 w0'
      rw [Nat.mul_comm j 2] at hS hN ⊢
      exact pair1_adv (VNI_step k (gNetCI F c s k) y (ℓ0 + D1) 0 hS.lvl_pass)
        (fun ra ia rb ib wr wi => F.last ra ia rb ib wr wi T[t]! T[t + 1]!) T[t]! T[t + 1]! (b0 * 2 ^ D1 + j) (off + 2 * j)
        (off + 2 * j + 1) hS.pos rfl hN (by rw [gNetCI_last F c s k _ _ hk3, w0, w0']; rfl) s1 hs1

theorem cibfs2_runs (hk3 : k ≤ 3) {ℓ0 D1 b0 m off pw : ℕ} (hB : Blk k ℓ0 (D1 + 1) b0 m off pw) :
    Runs v (ciBfs2 (4 * 2 ^ k) m pw) (fun T st => cibfs2 F T m off st)
      (VNI k (gNetCI F c s k) y 0) (VNI k (gNetCI F c s k) y (D1 + 1)) off m := by
  have hss : pw / m = twE ℓ0 0 b0 := by
    have := hB.cursor (e := 0) (Nat.zero_le _)
    rwa [pow_zero, Nat.mul_one] at this
  have s1 := cifirst_runs F c s k y hv hk3 hB hss
  have s2 := cibfs2Levels_runs F c s k y hv hk3 hB D1 m 1 2 (pw / m * 2) (Nat.add_comm 1 D1) (Nat.le_refl 1) (pow_one 2).symm
    (by rw [hss, twE_dsucc]) (Nat.le_of_lt (Nat.lt_of_succ_lt hB.lt_size))
  exact (s1.seq s2).of_eq (by rw [ciBfs2]) (fun _ _ => rfl) rfl rfl

theorem cirec16_runs (hl : F.lanesOdd = false) : ∀ fuel {D ℓ0 b0 m off pw : ℕ}, Blk k ℓ0 D b0 m off pw → 11 ≤ D →
    m ≤ fuel →
    Runs v (ciRec (4 * 2 ^ k) fuel m pw) (fun T st => cirec16 F T fuel m off st)
      (VNI k (gNetCI F c s k) y 0) (VNI k (gNetCI F c s k) y D) off m :=
  Runs.recB k 11 2048 (by norm_num) (Tab := ciRec (4 * 2 ^ k)) (rec := fun T f m off st => cirec16 F T f m off st)
    (Epre := fun _ => []) (Epost := fun x => eM x ++ eM x) (pre := fun _ _ _ st => st)
    (post := fun T h off st => (twPassL F.ctTop F.lanesTop T st.2 h off st.1, st.2 + 4))
    (In := fun _ _ => VNI k (gNetCI F c s k) y 0) (Out := fun _ D => VNI k (gNetCI F c s k) y D)
    (fun f m pw h => by
      rw [ciRec, if_neg (fun h1 => h (Nat.le_trans h1 (by norm_num))), if_neg (fun h8 => h (Nat.le_trans h8 (by norm_num))),
        if_neg h, List.append_assoc (_ ++ _)]; rfl)
    (fun T f m off st h => by
      rw [cirec16, if_neg (fun h1 => h (Nat.le_trans h1 (by norm_num))),
        if_neg (fun h8 => h (Nat.le_trans h8 (by norm_num))), if_neg h])
    (fun f D ℓ b m off pw hB hD hle => by
      have hD11 := hB.below (C := 11) (by norm_num) hle
      have hge := hB.size_ge (C := 11) (c := 2048) (by norm_num) hD
      have hk := hB.lvl
      exact (cibfs16_runs F c s k y hv hl hB (Nat.le_trans (by norm_num) hD) hD11 (by omega)).of_eq
        (by rw [ciRec, if_neg (by omega), if_neg (by omega), if_pos hle])
        (fun T st => by rw [cirec16, if_neg (by omega), if_neg (by omega), if_pos hle]) rfl rfl)
    (fun _ _ => Runs.id _ _ _ _)
    (fun {D ℓ b m off pw} hB hD => itwL_runs F c s k y hv F.ctTop F.lanesTop hB
      (gNetCI_top F c s k ℓ D b (by have := hB.lvl; omega) (by have := hB.lvl; omega)) hB.pw_half)

theorem cifftRI_structV (hl : F.lanesOdd = false) (s0 : RI R) (hs : Valid (2 ^ k) s0) :
    (∀ p, p < 2 ^ k → prs (cifftRI F (2 ^ k) (((cplxIfftEnts (2 ^ k)).map v).toArray) s0) p
      = VNI k (gNetCI F c s k) (prs s0) k p) ∧
    Valid (2 ^ k) (cifftRI F (2 ^ k) (((cplxIfftEnts (2 ^ k)).map v).toArray) s0) := by
  have key : AdvI k (gNetCI F c s k) (prs s0) (prs s0)
        (prs (cifftRI F (2 ^ k) (((cplxIfftEnts (2 ^ k)).map v).toArray) s0)) 0 k 0 (2 ^ k) ∧
      Valid (2 ^ k) (cifftRI F (2 ^ k) (((cplxIfftEnts (2 ^ k)).map v).toArray) s0) := by
    have hB : Blk k 0 k 0 (2 ^ k) 0 (2 ^ k) := Blk.top rfl
    by_cases hk0 : k = 0
    · subst hk0
      simp only [cifftRI, pow_zero, Nat.le_refl, ↓reduceIte]
      exact ⟨AdvG.id _ _ _ _, hs⟩
    have h2 : 2 ≤ 2 ^ k := by
      have : 2 ^ 1 ≤ 2 ^ k := Nat.pow_le_pow_right (by omega) (by omega)
      simpa using this
    have hpos : 0 < 2 ^ k := by omega
    obtain ⟨f, hf⟩ : ∃ f, 2 ^ k = f + 1 := ⟨2 ^ k - 1, by omega⟩
    have hE : cplxIfftEnts (2 ^ k) = if 2 ^ k ≤ 8 then ciBfs2 (4 * 2 ^ k) (2 ^ k) (2 ^ k)
        else if 2 ^ k ≤ 2048 then ciBfs16 (4 * 2 ^ k) (2 ^ k) (2 ^ k)
        else ciRec (4 * 2 ^ k) (2 ^ k) (2 ^ k) (2 ^ k) := by
      unfold cplxIfftEnts
      by_cases h8 : 2 ^ k ≤ 8
      · rw [if_pos h8]; conv_lhs => rw [hf, ciRec, ← hf, if_neg (show ¬ 2 ^ k ≤ 1 by omega), if_pos h8]
      · rw [if_neg h8]
        by_cases hle : 2 ^ k ≤ 2048
        · rw [if_pos hle]
          conv_lhs => rw [hf, ciRec, ← hf, if_neg (show ¬ 2 ^ k ≤ 1 by omega), if_neg h8, if_pos hle]
        · rw [if_neg hle]
    unfold cifftRI
    rw [if_neg (show ¬ 2 ^ k ≤ 1 by omega), hE]
    by_cases h8 : 2 ^ k ≤ 8
    · rw [if_pos h8, if_pos h8]
      have hk3 : k ≤ 3 := by
        by_contra hc
        have : 2 ^ 4 ≤ 2 ^ k := Nat.pow_le_pow_right (by omega) (by omega)
        omega
      obtain ⟨k1, rfl⟩ := Nat.exists_eq_add_one_of_ne_zero hk0
      exact (cibfs2_runs F c s (k1 + 1) (prs s0) hv hk3 hB).run s0 hs
    rw [if_neg h8, if_neg h8]
    have hD4 : 4 ≤ k := by
      by_contra hc
      have : k ≤ 3 := by omega
      have : 2 ^ k ≤ 2 ^ 3 := Nat.pow_le_pow_right (by omega) this
      omega
    by_cases hle : 2 ^ k ≤ 2048
    · rw [if_pos hle, if_pos hle]
      have hk11 : k ≤ 11 := hB.below (C := 11) (by norm_num) hle
      exact (cibfs16_runs F c s k (prs s0) hv hl hB hD4 hk11 (Nat.min_eq_left hk11)).run s0 hs
    · rw [if_neg hle, if_neg hle]
      obtain ⟨k1, hk1, h11⟩ := hB.above (C := 11) (by norm_num) hle
      exact (cirec16_runs F c s k (prs s0) hv hl (2 ^ k) hB (hk1 ▸ Nat.le_succ_of_le h11) (Nat.le_refl _)).run s0 hs
  refine ⟨fun p hp => ?_, key.2⟩
  exact key.1.1 (fun q _ _ => rfl) p (Nat.zero_le _) (by omega)

end table

theorem cifftRI_struct (hl : F.lanesOdd = false) (s0 : RI R) (hs : Valid (2 ^ k) s0) :
    (∀ p, p < 2 ^ k → prs (cifftRI F (2 ^ k) (((cplxIfftEnts (2 ^ k)).map (valP c s)).toArray) s0) p
      = VNI k (gNetCI F c s k) (prs s0) k p) ∧
    Valid (2 ^ k) (cifftRI F (2 ^ k) (((cplxIfftEnts (2 ^ k)).map (valP c s)).toArray) s0) :=
  cifftRI_structV F c s k (InvTab.valP c s) hl s0 hs

end Spq.Fft.SchedC
