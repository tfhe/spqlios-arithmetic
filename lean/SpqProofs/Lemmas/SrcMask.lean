/-
  The index masks of the rotation / automorphism kernels: for `nn = 2^t` (`t ≤ 63`, the C contract) the C
  expressions `(-p) & (2*nn - 1)` and `(a + p) & (2*nn - 1)`, evaluated with uint64/int64 wrap-around exactly
  as the interpreter does, are the residues `negMask` / `posMask` of the model.
-/
import Spq.CIR
import SpqProofs.Lemmas.NatBasic
import SpqProofs.Lemmas.MachBasic
namespace Spq.CIR

theorem pow_le_p63 (t : Nat) (ht : t ≤ 63) : 2 ^ t ≤ 9223372036854775808 := by
  have : 2 ^ t ≤ 2 ^ 63 := Nat.pow_le_pow_right (by decide) ht
  simpa using this

theorem one_le_pow2 (t : Nat) : 1 ≤ 2 ^ t := Nat.one_le_two_pow

/-- `2*nn - 1` computed in uint64 (`2*nn` may wrap to 0 when `nn = 2^63`; the difference is still `2nn-1`) -/
theorem mask_val (nn : Nat) (h1 : 1 ≤ nn) (h2 : nn ≤ 9223372036854775808) :
    ((2 % 18446744073709551616 * (nn : Int) % 18446744073709551616 - 1 % 18446744073709551616)
        % 18446744073709551616).toNat = 2 * nn - 1 := by
  omega

/-- `nn - 1` in uint64 -/
theorem mask_val1 (nn : Nat) (h1 : 1 ≤ nn) (h2 : nn ≤ 9223372036854775808) :
    (((nn : Int) - 1 % 18446744073709551616) % 18446744073709551616).toNat = nn - 1 := by
  omega

/-- uint64 arithmetic on small naturals does not wrap -/
theorem add_u64_nat (a b : Nat) (h : a + b < 18446744073709551616) :
    ((a : Int) + (b : Int)) % 18446744073709551616 = ((a + b : Nat) : Int) := by
  omega

theorem succ_u64_nat (a : Nat) (h : a + 1 < 18446744073709551616) :
    ((a : Int) + 1) % 18446744073709551616 = ((a + 1 : Nat) : Int) := by
  omega

theorem sub_u64_nat (a b : Nat) (h : b ≤ a) (ha : a < 18446744073709551616) :
    ((a : Int) - (b : Int)) % 18446744073709551616 = ((a - b : Nat) : Int) := by
  omega

/-- the masks `2*nn - 1` and `nn - 1` as the interpreter computes them in uint64 -/
theorem mask_int (nn : Nat) (h1 : 1 ≤ nn) (h2 : nn ≤ 9223372036854775808) :
    (2 % 18446744073709551616 * (nn : Int) % 18446744073709551616 - 1 % 18446744073709551616)
        % 18446744073709551616 = ((2 * nn - 1 : Nat) : Int) := by
  omega

theorem mask1_int (nn : Nat) (h1 : 1 ≤ nn) (h2 : nn ≤ 9223372036854775808) :
    ((nn : Int) - 1 % 18446744073709551616) % 18446744073709551616 = ((nn - 1 : Nat) : Int) := by
  omega

theorem p64_eq : (18446744073709551616 : Int) = ((2 ^ 64 : Nat) : Int) := by decide

/-- low bits of the uint64 image of any integer = its residue -/
theorem u64_and_mask (x : Int) (s : Nat) (hs : s ≤ 64) :
    (x % 18446744073709551616).toNat &&& (2 ^ s - 1) = (x % ((2 ^ s : Nat) : Int)).toNat := by
  rw [Nat.and_two_pow_sub_one_eq_mod]
  have hy : 0 ≤ x % 18446744073709551616 := Int.emod_nonneg _ (by decide)
  have hpos : (((2 ^ s : Nat) : Int)) ≠ 0 := by
    have : 0 < 2 ^ s := Nat.two_pow_pos s
    omega
  have hz : 0 ≤ x % ((2 ^ s : Nat) : Int) := Int.emod_nonneg _ hpos
  apply Int.ofNat_inj.mp
  rw [Int.natCast_emod, Int.toNat_of_nonneg hy, Int.toNat_of_nonneg hz]
  apply Int.emod_emod_of_dvd
  rw [p64_eq]
  exact Int.natCast_dvd_natCast.mpr (Nat.pow_dvd_pow 2 hs)

/-- `(-p) & (2*nn-1)` as the interpreter evaluates it -/
theorem negmask_src (t : Nat) (ht : t ≤ 63) (p : Int) :
    ((negS p % 18446744073709551616).toNat &&&
      ((2 % 18446744073709551616 * ((2 ^ t : Nat) : Int) % 18446744073709551616 - 1 % 18446744073709551616)
        % 18446744073709551616).toNat) = negMask p (2 * 2 ^ t) := by
  rw [mask_val _ (one_le_pow2 t) (pow_le_p63 t ht), two_mul_pow, u64_and_mask _ _ (by omega)]
  unfold negMask negS wrapS
  congr 1
  have hd : (((2 ^ (t + 1) : Nat)) : Int) ∣ 18446744073709551616 := by
    rw [p64_eq]
    exact Int.natCast_dvd_natCast.mpr (Nat.pow_dvd_pow 2 (by omega))
  have h1 : ((-p + 9223372036854775808) % 18446744073709551616 - 9223372036854775808)
      % 18446744073709551616 = (-p) % 18446744073709551616 := by omega
  rw [← Int.emod_emod_of_dvd _ hd, h1, Int.emod_emod_of_dvd _ hd]

/-- `(a + p) & (2*nn-1)` with `a : uint64_t`, `p : int64_t` converted to uint64 -/
theorem posmask_src (t : Nat) (ht : t ≤ 63) (a : Nat) (p : Int) :
    ((((a : Int) + p % 18446744073709551616) % 18446744073709551616).toNat &&&
      ((2 % 18446744073709551616 * ((2 ^ t : Nat) : Int) % 18446744073709551616 - 1 % 18446744073709551616)
        % 18446744073709551616).toNat) = posMask ((a : Int) + p) (2 * 2 ^ t) := by
  rw [mask_val _ (one_le_pow2 t) (pow_le_p63 t ht), two_mul_pow, u64_and_mask _ _ (by omega)]
  unfold posMask
  congr 1
  have hd : (((2 ^ (t + 1) : Nat)) : Int) ∣ 18446744073709551616 := by
    rw [p64_eq]
    exact Int.natCast_dvd_natCast.mpr (Nat.pow_dvd_pow 2 (by omega))
  have h1 : ((a : Int) + p % 18446744073709551616) % 18446744073709551616
      = ((a : Int) + p) % 18446744073709551616 := by omega
  rw [← Int.emod_emod_of_dvd ((a : Int) + p % 18446744073709551616) hd, h1, Int.emod_emod_of_dvd _ hd]

end Spq.CIR

namespace Spq.CIR
theorem negmask_src' (t : Nat) (ht : t ≤ 63) (nn : Nat) (hnn : nn = 2 ^ t) (p : Int) :
    ((negS p % 18446744073709551616).toNat &&&
      ((2 % 18446744073709551616 * (nn : Int) % 18446744073709551616 - 1 % 18446744073709551616)
        % 18446744073709551616).toNat) = negMask p (2 * nn) := by
  subst hnn; exact negmask_src t ht p

theorem posmask_src' (t : Nat) (ht : t ≤ 63) (nn : Nat) (hnn : nn = 2 ^ t) (a : Nat) (p : Int) :
    ((((a : Int) + p % 18446744073709551616) % 18446744073709551616).toNat &&&
      ((2 % 18446744073709551616 * (nn : Int) % 18446744073709551616 - 1 % 18446744073709551616)
        % 18446744073709551616).toNat) = posMask ((a : Int) + p) (2 * nn) := by
  subst hnn; exact posmask_src t ht a p

end Spq.CIR
