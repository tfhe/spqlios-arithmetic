/-
  Base lemmas for the reim4 / complex-vector kernels (C17): single-cell and register stores, the generic loop
  theorem "iterations with pairwise disjoint footprints", and the specifications of the loop combinators `lanes`,
  `mapV4x2`, `mapV4`, whose steps are local operations (`LocalOp`) by composition of stores.
-/
import Spq.Reim4
import SpqProofs.Lemmas.ArrayBasic
import SpqProofs.Lemmas.NatBasic
namespace Spq
variable {α : Type}

namespace V4

theorem lane_splat (x : α) (l : Nat) : (splat x).lane l = x := by
  rcases l with _ | _ | _ | _ <;> rfl

theorem lane_map2 (f : α → α → α) (a b : V4 α) (l : Nat) :
    (map2 f a b).lane l = f (a.lane l) (b.lane l) := by
  rcases l with _ | _ | _ | _ <;> rfl

theorem lane_map3 (f : α → α → α → α) (a b c : V4 α) (l : Nat) :
    (map3 f a b c).lane l = f (a.lane l) (b.lane l) (c.lane l) := by
  rcases l with _ | _ | _ | _ <;> rfl

theorem lane_load (z : α) (a : Array α) (o l : Nat) (hl : l < 4) : (load z a o).lane l = a.getD (o + l) z := by
  rcases l with _ | _ | _ | _ | l
  · rfl
  · rfl
  · rfl
  · rfl
  · omega

@[simp] theorem size_store (a : Array α) (o : Nat) (v : V4 α) : (store a o v).size = a.size := by
  simp [store]

theorem getD_store (a : Array α) (o : Nat) (v : V4 α) (i : Nat) (z : α) :
    (store a o v).getD i z = if o ≤ i ∧ i < o + 4 ∧ i < a.size then v.lane (i - o) else a.getD i z := by
  unfold store
  simp only [getD_setIfInBounds, Array.size_setIfInBounds]
  by_cases h3 : o + 3 = i
  · subst h3
    by_cases hs : o + 3 < a.size
    · have e : o + 3 - o = 3 := by omega
      simp [hs, e, lane]
    · have : a.size ≤ o + 3 := by omega
      simp [hs, getD_of_size_le a (o + 3) z this]
  by_cases h2 : o + 2 = i
  · subst h2
    by_cases hs : o + 2 < a.size
    · have e : o + 2 - o = 2 := by omega
      simp [hs, e, lane]
    · have : a.size ≤ o + 2 := by omega
      simp [hs, getD_of_size_le a (o + 2) z this]
  by_cases h1 : o + 1 = i
  · subst h1
    by_cases hs : o + 1 < a.size
    · have e : o + 1 - o = 1 := by omega
      simp [hs, e, lane]
    · have : a.size ≤ o + 1 := by omega
      simp [hs, getD_of_size_le a (o + 1) z this]
  by_cases h0 : o = i
  · subst h0
    by_cases hs : o < a.size
    · simp [hs, lane]
    · have : a.size ≤ o := by omega
      simp [hs, getD_of_size_le a o z this]
  · have : ¬ (o ≤ i ∧ i < o + 4 ∧ i < a.size) := by omega
    simp [h3, h2, h1, h0, this]

theorem getD_store_in (a : Array α) (o : Nat) (v : V4 α) (l : Nat) (z : α) (hl : l < 4) (hb : o + 4 ≤ a.size) :
    (store a o v).getD (o + l) z = v.lane l := by
  rw [getD_store]
  have h : o ≤ o + l ∧ o + l < o + 4 ∧ o + l < a.size := by omega
  rw [if_pos h]
  congr 1; omega

theorem getD_store_out (a : Array α) (o : Nat) (v : V4 α) (i : Nat) (z : α) (h : i < o ∨ o + 4 ≤ i) :
    (store a o v).getD i z = a.getD i z := by
  rw [getD_store]
  have : ¬ (o ≤ i ∧ i < o + 4 ∧ i < a.size) := by omega
  rw [if_neg this]

theorem getD_store_disj (a : Array α) (o : Nat) (v : V4 α) (p l : Nat) (z : α) (hl : l < 4) (h : p + 4 ≤ o ∨ o + 4 ≤ p) :
    (store a o v).getD (p + l) z = a.getD (p + l) z :=
  getD_store_out a o v (p + l) z (by omega)

theorem load_congr (z : α) (a a' : Array α) (o : Nat) (h : ∀ x, o ≤ x → x < o + 4 → a.getD x z = a'.getD x z) :
    load z a o = load z a' o := by
  unfold load
  rw [h o (by omega) (by omega), h (o + 1) (by omega) (by omega), h (o + 2) (by omega) (by omega),
    h (o + 3) (by omega) (by omega)]

end V4

namespace Reim4

theorem doWhile_exact (total step : Nat) (hd : step ∣ total) (h0 : 0 < total) :
    step * doWhileIters total step = total :=
  mul_doWhile_count total step hd h0

/-- `f` writes only cells of `foot`, and what it writes there depends only on what it finds there (and on the size) -/
structure LocalOp (z : α) (f : Array α → Array α) (foot : Nat → Prop) : Prop where
  size : ∀ r, (f r).size = r.size
  frame : ∀ r x, ¬ foot x → (f r).getD x z = r.getD x z
  loc : ∀ r r', r.size = r'.size → (∀ x, foot x → r.getD x z = r'.getD x z) →
    ∀ x, foot x → (f r).getD x z = (f r').getD x z

/-- Give `f g F G` explicitly: left to unification they make `whnf` time out. -/
theorem LocalOp.comp {z : α} {f g : Array α → Array α} {F G : Nat → Prop}
    (hf : LocalOp z f F) (hg : LocalOp z g G) : LocalOp z (fun r => g (f r)) (fun x => F x ∨ G x) where
  size := fun r => by rw [hg.size, hf.size]
  frame := fun r x hx => by
    rw [hg.frame _ x (fun h => hx (Or.inr h)), hf.frame _ x (fun h => hx (Or.inl h))]
  loc := fun r r' hs h x hx => by
    have hfs : (f r).size = (f r').size := by rw [hf.size, hf.size, hs]
    have hagree : ∀ y, G y → (f r).getD y z = (f r').getD y z := by
      intro y hy
      by_cases hFy : F y
      · exact hf.loc r r' hs (fun w hw => h w (Or.inl hw)) y hFy
      · rw [hf.frame r y hFy, hf.frame r' y hFy]; exact h y (Or.inr hy)
    by_cases hG : G x
    · exact hg.loc _ _ hfs hagree x hG
    · rw [hg.frame _ x hG, hg.frame _ x hG]
      by_cases hFx : F x
      · exact hf.loc r r' hs (fun w hw => h w (Or.inl hw)) x hFx
      · rw [hf.frame r x hFx, hf.frame r' x hFx]; exact h x hx

/-- a step `r ↦ K r r` whose stored values (first argument) are computed from the array it started with -/
theorem LocalOp.diag {z : α} {K : Array α → Array α → Array α} {F : Nat → Prop}
    (hK : ∀ r0, LocalOp z (K r0) F)
    (hdep : ∀ r0 r0', r0.size = r0'.size → (∀ x, F x → r0.getD x z = r0'.getD x z) → K r0 = K r0') :
    LocalOp z (fun r => K r r) F where
  size := fun r => (hK r).size r
  frame := fun r x hx => (hK r).frame r x hx
  loc := fun r r' hs h x hx => by rw [hdep r r' hs h]; exact (hK r').loc r r' hs h x hx

theorem LocalOp.store (z : α) (p : Nat) (v : V4 α) : LocalOp z (fun r => V4.store r p v) (fun x => p ≤ x ∧ x < p + 4) where
  size := fun r => V4.size_store r p v
  frame := fun r x hx => V4.getD_store_out r p v x z (by omega)
  loc := fun r r' hs h x hx => by rw [V4.getD_store, V4.getD_store, hs, h x hx]

theorem LocalOp.set (z : α) (p : Nat) (f : α → α) :
    LocalOp z (fun r => r.setIfInBounds p (f (r.getD p z))) (fun x => x = p) where
  size := fun r => Array.size_setIfInBounds
  frame := fun r x hx => by rw [getD_setIfInBounds, if_neg (fun h => hx h.1.symm)]
  loc := fun r r' hs h x hx => by rw [getD_setIfInBounds, getD_setIfInBounds, hs, h p rfl, h x hx]

theorem LocalOp.mono {z : α} {f : Array α → Array α} {F F' : Nat → Prop} (h : LocalOp z f F) (hF : ∀ x, F x → F' x) :
    LocalOp z f F' where
  size := h.size
  frame := fun r x hx => h.frame r x (fun hx' => hx (hF x hx'))
  loc := fun r r' hs hag x hx => by
    by_cases hFx : F x
    · exact h.loc r r' hs (fun y hy => hag y (hF y hy)) x hFx
    · rw [h.frame r x hFx, h.frame r' x hFx]; exact hag x hx

theorem LocalOp.fold {z : α} (n : Nat) (body : Nat → Array α → Array α) (foot : Nat → Prop)
    (hl : ∀ k, k < n → LocalOp z (body k) foot) : LocalOp z (fun r => Nat.fold n (fun k _ r => body k r) r) foot := by
  induction n with
  | zero => exact ⟨fun _ => rfl, fun _ _ _ => rfl, fun _ _ _ h x hx => h x hx⟩
  | succ n ih =>
    have e : (fun r => Nat.fold (n + 1) (fun k _ r => body k r) r) = fun r => body n (Nat.fold n (fun k _ r => body k r) r) :=
      funext fun r => Nat.fold_succ ..
    rw [e]
    exact (LocalOp.comp (f := fun r => Nat.fold n (fun k _ r => body k r) r) (g := body n) (F := foot) (G := foot)
      (ih (fun k hk => hl k (by omega))) (hl n (by omega))).mono (fun x hx => hx.elim id id)

/-- `foot j x` says that iteration `j` may write cell `x`.  If the iterations are local on pairwise disjoint footprints, then
    after the loop every footprint holds what its iteration computes *on the initial array*, and every other cell is unchanged. -/
theorem fold_local (z : α) (n : Nat) (body : Nat → Array α → Array α) (foot : Nat → Nat → Prop)
    (hl : ∀ j, LocalOp z (body j) (foot j)) (r0 : Array α)
    (hdisj : ∀ j j' x, j < n → j' < n → j ≠ j' → foot j x → ¬ foot j' x) :
    (Nat.fold n (fun j _ r => body j r) r0).size = r0.size ∧
    (∀ j, j < n → ∀ x, foot j x → (Nat.fold n (fun j _ r => body j r) r0).getD x z = (body j r0).getD x z) ∧
    (∀ x, (∀ j, j < n → ¬ foot j x) → (Nat.fold n (fun j _ r => body j r) r0).getD x z = r0.getD x z) := by
  induction n with
  | zero => exact ⟨rfl, fun j hj => absurd hj (Nat.not_lt_zero _), fun x _ => rfl⟩
  | succ n ih =>
    have ih' := ih (fun j j' x h1 h2 h3 => hdisj j j' x (by omega) (by omega) h3)
    rw [Nat.fold_succ]
    generalize Nat.fold n (fun j _ r => body j r) r0 = rn at ih'
    obtain ⟨ihs, ihv, ihf⟩ := ih'
    refine ⟨by rw [(hl n).size, ihs], ?_, ?_⟩
    · intro j hj x hx
      by_cases hjn : j = n
      · -- the last step finds its footprint as it was at the start: no earlier step wrote there
        subst hjn
        exact (hl j).loc rn r0 ihs
          (fun y hy => ihf y (fun j' hj' hc => hdisj j j' y (by omega) (by omega) (by omega) hy hc)) x hx
      · rw [(hl n).frame rn x (hdisj j n x (by omega) (by omega) hjn hx)]
        exact ihv j (by omega) x hx
    · intro x hx
      rw [(hl n).frame rn x (hx n (by omega))]
      exact ihf x (fun j hj => hx j (by omega))

theorem lanes_size (z : α) (n : Nat) (p q : Nat → Nat) (P Q : Nat → α → α) (dst : Array α) :
    (lanes z n p q P Q dst).size = dst.size := by
  unfold lanes
  induction n with
  | zero => rfl
  | succ n ih => rw [Nat.fold_succ]; simp only [Array.size_setIfInBounds]; exact ih

theorem lanes_spec (z : α) (n : Nat) (p q : Nat → Nat) (P Q : Nat → α → α) (dst : Array α)
    (hp : ∀ k k', k < n → k' < n → k ≠ k' → p k ≠ p k')
    (hq : ∀ k k', k < n → k' < n → k ≠ k' → q k ≠ q k')
    (hpq : ∀ k k', k < n → k' < n → p k ≠ q k')
    (hb : ∀ k, k < n → p k < dst.size ∧ q k < dst.size) :
    (lanes z n p q P Q dst).size = dst.size ∧
    (∀ k, k < n → (lanes z n p q P Q dst).getD (p k) z = P k (dst.getD (p k) z) ∧
                  (lanes z n p q P Q dst).getD (q k) z = Q k (dst.getD (q k) z)) ∧
    (∀ x, (∀ k, k < n → x ≠ p k ∧ x ≠ q k) → (lanes z n p q P Q dst).getD x z = dst.getD x z) := by
  obtain ⟨ms, mv, mf⟩ := fold_local z n _ _
    (fun k => LocalOp.comp (f := fun r => r.setIfInBounds (p k) (P k (r.getD (p k) z)))
      (g := fun r => r.setIfInBounds (q k) (Q k (r.getD (q k) z))) (F := fun x => x = p k) (G := fun x => x = q k)
      (LocalOp.set z (p k) (P k)) (LocalOp.set z (q k) (Q k))) dst
    (by
      intro j j' x h1 h2 h3 hx hx'
      rcases hx with hx | hx <;> rcases hx' with hx' | hx'
      · exact hp j j' h1 h2 h3 (hx.symm.trans hx')
      · exact hpq j j' h1 h2 (hx.symm.trans hx')
      · exact hpq j' j h2 h1 (hx'.symm.trans hx)
      · exact hq j j' h1 h2 h3 (hx.symm.trans hx'))
  refine ⟨ms, ?_, fun x hx => mf x (fun j hj hc => hc.elim (hx j hj).1 (hx j hj).2)⟩
  intro k hk
  obtain ⟨hb1, hb2⟩ := hb k hk
  have hne : p k ≠ q k := hpq k k hk hk
  constructor
  · exact (mv k hk (p k) (Or.inl rfl)).trans
      (by rw [getD_setIfInBounds, if_neg (fun h => hne h.1.symm), getD_setIfInBounds, if_pos ⟨rfl, hb1⟩])
  · exact (mv k hk (q k) (Or.inr rfl)).trans
      (by rw [getD_setIfInBounds, if_pos ⟨rfl, by rw [Array.size_setIfInBounds]; exact hb2⟩, getD_setIfInBounds,
        if_neg (fun h => hne h.1)])

theorem mapV4x2_local (z : α) (p q : Nat) (F : V4 α → V4 α → V4 α × V4 α) :
    LocalOp z (fun r => V4.store (V4.store r p (F (V4.load z r p) (V4.load z r q)).1) q (F (V4.load z r p) (V4.load z r q)).2)
      (fun x => (p ≤ x ∧ x < p + 4) ∨ (q ≤ x ∧ x < q + 4)) := by
  have hK : ∀ r0 : Array α, LocalOp z
      (fun r => V4.store (V4.store r p (F (V4.load z r0 p) (V4.load z r0 q)).1) q (F (V4.load z r0 p) (V4.load z r0 q)).2)
      (fun x => (p ≤ x ∧ x < p + 4) ∨ (q ≤ x ∧ x < q + 4)) :=
    fun r0 => LocalOp.comp (f := fun r => V4.store r p (F (V4.load z r0 p) (V4.load z r0 q)).1)
      (g := fun r => V4.store r q (F (V4.load z r0 p) (V4.load z r0 q)).2)
      (F := fun x => p ≤ x ∧ x < p + 4) (G := fun x => q ≤ x ∧ x < q + 4)
      (LocalOp.store z p _) (LocalOp.store z q _)
  exact LocalOp.diag
    (K := fun r0 r => V4.store (V4.store r p (F (V4.load z r0 p) (V4.load z r0 q)).1) q (F (V4.load z r0 p) (V4.load z r0 q)).2)
    (F := fun x => (p ≤ x ∧ x < p + 4) ∨ (q ≤ x ∧ x < q + 4)) hK
    (fun r0 r0' _ h => by
      show (fun r => V4.store (V4.store r p (F (V4.load z r0 p) (V4.load z r0 q)).1) q (F (V4.load z r0 p) (V4.load z r0 q)).2) = _
      rw [V4.load_congr z r0 r0' p (fun x h1 h2 => h x (Or.inl ⟨h1, h2⟩)),
        V4.load_congr z r0 r0' q (fun x h1 h2 => h x (Or.inr ⟨h1, h2⟩))])

theorem mapV4x2_spec (z : α) (n : Nat) (p q : Nat → Nat) (F : Nat → V4 α → V4 α → V4 α × V4 α) (r : Array α)
    (hp : ∀ j j', j < n → j' < n → j ≠ j' → p j + 4 ≤ p j' ∨ p j' + 4 ≤ p j)
    (hq : ∀ j j', j < n → j' < n → j ≠ j' → q j + 4 ≤ q j' ∨ q j' + 4 ≤ q j)
    (hpq : ∀ j j', j < n → j' < n → p j + 4 ≤ q j' ∨ q j' + 4 ≤ p j)
    (hb : ∀ j, j < n → p j + 4 ≤ r.size ∧ q j + 4 ≤ r.size) :
    (mapV4x2 z n p q F r).size = r.size ∧
    (∀ j, j < n → ∀ l, l < 4 →
      (mapV4x2 z n p q F r).getD (p j + l) z = (F j (V4.load z r (p j)) (V4.load z r (q j))).1.lane l ∧
      (mapV4x2 z n p q F r).getD (q j + l) z = (F j (V4.load z r (p j)) (V4.load z r (q j))).2.lane l) ∧
    (∀ x, (∀ j, j < n → (x < p j ∨ p j + 4 ≤ x) ∧ (x < q j ∨ q j + 4 ≤ x)) →
      (mapV4x2 z n p q F r).getD x z = r.getD x z) := by
  obtain ⟨ms, mv, mf⟩ := fold_local z n _ _ (fun j => mapV4x2_local z (p j) (q j) (F j)) r
    (by
      intro j j' x h1 h2 h3 hx hx'
      have a := hp j j' h1 h2 h3
      have b := hq j j' h1 h2 h3
      have c := hpq j j' h1 h2
      have d := hpq j' j h2 h1
      omega)
  refine ⟨ms, ?_, fun x hx => mf x (fun j hj hc => by have := hx j hj; omega)⟩
  intro j hj l hl
  obtain ⟨hb1, hb2⟩ := hb j hj
  have hne := hpq j j hj hj
  have hin : ∀ o, o ≤ o + l ∧ o + l < o + 4 := fun o => ⟨Nat.le_add_right _ _, Nat.add_lt_add_left hl _⟩
  constructor
  · exact (mv j hj (p j + l) (Or.inl (hin _))).trans
      (by rw [V4.getD_store_disj _ _ _ _ _ _ hl hne, V4.getD_store_in _ _ _ _ _ hl hb1])
  · exact (mv j hj (q j + l) (Or.inr (hin _))).trans
      (by rw [V4.getD_store_in _ _ _ _ _ hl (by rw [V4.size_store]; exact hb2)])

theorem mapV4_local (z : α) (p : Nat) (F : V4 α → V4 α) :
    LocalOp z (fun r => V4.store r p (F (V4.load z r p))) (fun x => p ≤ x ∧ x < p + 4) :=
  LocalOp.diag (K := fun r0 r => V4.store r p (F (V4.load z r0 p))) (F := fun x => p ≤ x ∧ x < p + 4)
    (fun r0 => LocalOp.store z p _)
    (fun r0 r0' _ h => by
      show (fun r => V4.store r p (F (V4.load z r0 p))) = _
      rw [V4.load_congr z r0 r0' p (fun x h1 h2 => h x ⟨h1, h2⟩)])

theorem mapV4_spec (z : α) (n : Nat) (p : Nat → Nat) (F : Nat → V4 α → V4 α) (r : Array α)
    (hp : ∀ j j', j < n → j' < n → j ≠ j' → p j + 4 ≤ p j' ∨ p j' + 4 ≤ p j)
    (hb : ∀ j, j < n → p j + 4 ≤ r.size) :
    (mapV4 z n p F r).size = r.size ∧
    (∀ j, j < n → ∀ l, l < 4 → (mapV4 z n p F r).getD (p j + l) z = (F j (V4.load z r (p j))).lane l) ∧
    (∀ x, (∀ j, j < n → x < p j ∨ p j + 4 ≤ x) → (mapV4 z n p F r).getD x z = r.getD x z) := by
  obtain ⟨ms, mv, mf⟩ := fold_local z n _ _ (fun j => mapV4_local z (p j) (F j)) r
    (by intro j j' x h1 h2 h3 hx hx'; have := hp j j' h1 h2 h3; omega)
  refine ⟨ms, ?_, fun x hx => mf x (fun j hj hc => by have := hx j hj; omega)⟩
  intro j hj l hl
  exact (mv j hj (p j + l) ⟨Nat.le_add_right _ _, Nat.add_lt_add_left hl _⟩).trans (V4.getD_store_in _ _ _ _ _ hl (hb j hj))

theorem mapV4_contig (z : α) (n : Nat) (F : Nat → V4 α → V4 α) (r : Array α) (hb : 4 * n ≤ r.size) :
    (mapV4 z n (fun j => 4 * j) F r).size = r.size ∧
    (∀ j, j < n → ∀ l, l < 4 →
      (mapV4 z n (fun j => 4 * j) F r).getD (4 * j + l) z = (F j (V4.load z r (4 * j))).lane l) ∧
    (∀ x, x < 4 * n →
      (mapV4 z n (fun j => 4 * j) F r).getD x z = (F (x / 4) (V4.load z r (4 * (x / 4)))).lane (x % 4)) ∧
    (∀ x, 4 * n ≤ x → (mapV4 z n (fun j => 4 * j) F r).getD x z = r.getD x z) := by
  obtain ⟨s1, s2, s3⟩ := mapV4_spec z n (fun j => 4 * j) F r (by intro j j' _ _ _; omega) (by intro j hj; omega)
  refine ⟨s1, s2, fun x hx => ?_, fun x hx => s3 x (by intro j hj; omega)⟩
  have := s2 (x / 4) (Nat.div_lt_of_lt_mul hx) (x % 4) (Nat.mod_lt _ (by decide))
  rwa [Nat.div_add_mod] at this

end Reim4
end Spq
