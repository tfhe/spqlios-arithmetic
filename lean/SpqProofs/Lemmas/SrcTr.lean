/-
  The judgement of the module layer and of the limb-vector wrappers:

    `Tr … fb P s k Q`:  statement `s`, run with fuel ≥ `fb` on the arena `m0[B := H.mem]` with slots satisfying `P`,
                          ends normally and does to the arena what the model's heap transformer `k` does to `H`,
                          provided `k H` is `ok`; afterwards the slots satisfy `Q`.

  The interpreter stops at the first failing access, the model records the failure in `ok` and goes on; the two are
  compared under the hypothesis that the WHOLE model run is `ok`, so every rule that splits a run (`Tr.seq`, `Tr.for`)
  needs `Good k`: `ok` is never set back.  The judgement carries it, the leaves supply it.  One rule per statement form;
  an entry point is a derivation that follows the C body.  The slot predicates `P`, `Q` are arbitrary: the entry points
  of the module layer use descriptions of the slots (`SrcHas`: a dead slot is simply absent); the rules of this file that
  fix a slot list, `(· = env)`, are the leaves (a call changes no slot: `Tr.ofHas` takes them to descriptions) and what
  the limb-vector wrappers use (`Tr.for` with a family `E`, `J` of literal lists at the loop head, one parameter per slot
  that a round leaves changed).

  A derivation is one term, elaborated against the goal.  The leaves are terms of the evaluation calculus (`SrcEv`,
  `SrcU64`): a slot is read by `Has.get` from the description (by `rfl` from a literal list), a `uint64_t` index is
  followed on its exact value (`EvU`) and bounded once, where it is used as an offset, by the `ok` of the model step
  that uses it (`lt_of_addr`, `addr_of_wrapped`).  The statement parts written `_` in the rules are found by
  unification, so the slot predicate in front of a rule has to be known when the rule is elaborated: it comes from
  outside (`Tr.post`, `Tr.dropD` change the description on one side only), else the `rfl`s of the leaves are postponed and
  the errors appear far from the cause.
-/
import SpqProofs.Lemmas.SrcMod
namespace Spq.Src
open Spq Spq.CIR Heap ModuleHeap
variable {α γ : Type}

/-- the heap transformers of the models: `ok` is never set back, the arena keeps its size -/
structure Good (k : Heap γ → Heap γ) : Prop where
  mono : OkMono k
  size : ∀ h, (k h).mem.size = h.mem.size

theorem Good.id : Good (fun h : Heap γ => h) := ⟨okMono_id, fun _ => rfl⟩
theorem Good.comp {f g : Heap γ → Heap γ} (hf : Good f) (hg : Good g) : Good (fun h => g (f h)) :=
  ⟨okMono_comp hf.mono hg.mono, fun h => (hg.size _).trans (hf.size h)⟩
/-- a step whose data is read from the heap it is applied to -/
theorem Good.dep {ι : Sort _} (r : Heap γ → ι) {F : ι → Heap γ → Heap γ} (hF : ∀ x, Good (F x)) :
    Good (fun h => F (r h) h) :=
  ⟨fun h => (hF (r h)).mono h, fun h => (hF (r h)).size h⟩
theorem Good.ite (p : Prop) [Decidable p] {f g : Heap γ → Heap γ} (hf : Good f) (hg : Good g) :
    Good (fun h => if p then f h else g h) :=
  ⟨okMono_ite p hf.mono hg.mono, fun h => by split; exact hf.size h; exact hg.size h⟩
theorem Good.loop (n : Nat) {kb : Nat → Heap γ → Heap γ} (hb : ∀ i, Good (kb i)) : Good (loop n kb) :=
  ⟨okMono_loop n kb fun i => (hb i).mono, size_loop n kb fun i => (hb i).size⟩

theorem good_tch (off n : Nat) : Good (tch (γ := γ) off n) := ⟨okMono_tch off n, fun _ => rfl⟩
theorem good_guard (b : Bool) : Good (ModuleHeap.guard (γ := γ) b) := ⟨okMono_guard b, fun _ => rfl⟩
theorem good_scr (tb rel n : Nat) : Good (scr (γ := γ) tb rel n) := good_guard _
theorem good_writeLimb (off : Nat) (l : Array γ) : Good (fun h : Heap γ => h.writeLimb off l) :=
  ⟨okMono_writeLimb off l, fun h => size_writeLimb h off l⟩
theorem good_wrD (cd : Cells γ α) (off : Nat) (x : Array α) : Good (wrD cd off x) := good_writeLimb _ _
theorem good_wrI (cd : Cells γ α) (off : Nat) (x : Array Int) : Good (wrI cd off x) := good_writeLimb _ _

/-! each kernel call is touches and guards followed by writes of data read from the heap it started from -/
section kernels
variable (c : Module.Parts α) (cd : Cells γ α)
theorem good_kFromZnx (dst src : Nat) : Good (kFromZnx c cd dst src) :=
  Good.dep (fun h => rdI cd h src c.nn) fun _ => ((good_tch _ _).comp (good_guard _)).comp (good_wrD cd _ _)
theorem good_kFft (p : Nat) : Good (kFft c cd p) :=
  Good.dep (fun h => rdD cd h p c.nn) fun _ => (good_tch _ _).comp (good_wrD cd _ _)
theorem good_kIfft (p : Nat) : Good (kIfft c cd p) :=
  Good.dep (fun h => rdD cd h p c.nn) fun _ => (good_tch _ _).comp (good_wrD cd _ _)
theorem good_kToZnx (dst src : Nat) : Good (kToZnx c cd dst src) :=
  Good.dep (fun h => rdD cd h src c.nn) fun _ => ((good_tch _ _).comp (good_guard _)).comp (good_wrI cd _ _)
theorem good_kMul (r a b : Nat) : Good (kMul c cd r a b) :=
  Good.dep (fun h => (rdD cd h a c.nn, rdD cd h b c.nn)) fun x =>
    (((good_tch _ _).comp (good_tch _ _)).comp (good_guard _)).comp (good_wrD cd r (Module.mul c x.1 x.2))
theorem good_kAddmul (r a b : Nat) : Good (kAddmul c cd r a b) :=
  Good.dep (fun h => (rdD cd h r c.nn, rdD cd h a c.nn, rdD cd h b c.nn)) fun x =>
    ((((good_tch _ _).comp (good_tch _ _)).comp (good_tch _ _)).comp (good_guard _)).comp
      (good_wrD cd r (Module.addmul c x.1 x.2.1 x.2.2))
theorem good_kExtract1 (blk dst src : Nat) : Good (kExtract1 c cd blk dst src) :=
  Good.dep (fun h => rdD cd h src c.nn) fun _ => ((good_tch _ _).comp (good_guard _)).comp (good_wrD cd _ _)
theorem good_kExtractRows (rows blk dst src : Nat) : Good (kExtractRows c cd rows blk dst src) :=
  Good.dep (fun h => rdD cd h src (rows * c.nn)) fun _ => ((good_tch _ _).comp (good_guard _)).comp (good_wrD cd _ _)
theorem good_kProd2 (rows nrows out u v : Nat) : Good (kProd2 c cd rows nrows out u v) :=
  Good.dep (fun h => (rdD cd h u (8 * rows), rdD cd h v (16 * nrows))) fun x =>
    (((good_tch _ _).comp (good_tch _ _)).comp (good_guard _)).comp (good_wrD cd out (prod2 c rows x.1 x.2))
theorem good_kProd1 (rows nrows out u v : Nat) : Good (kProd1 c cd rows nrows out u v) :=
  Good.dep (fun h => (rdD cd h u (8 * rows), rdD cd h v (8 * nrows))) fun x =>
    (((good_tch _ _).comp (good_tch _ _)).comp (good_guard _)).comp (good_wrD cd out (prod1 c rows x.1 x.2))
theorem good_kSave (blk dst src : Nat) : Good (kSave c cd blk dst src) :=
  Good.dep (fun h => rdD cd h src 8) fun x =>
    (((good_tch _ _).comp (good_guard _)).comp (good_wrD cd _ (x.extract 0 4))).comp (good_wrD cd _ (x.extract 4 8))
theorem good_kZeroD (p n : Nat) : Good (kZeroD c cd p n) := good_wrD cd _ _
theorem good_kZeroI (p n : Nat) : Good (kZeroI cd p n) := good_wrI cd _ _
theorem good_kCopy (dst src n : Nat) : Good (kCopy cd dst src n) :=
  Good.dep (fun h => h.readLimb cd.dflt src n) fun x => ((good_tch _ _).comp (good_guard _)).comp (good_writeLimb dst x)
end kernels

section tr
variable (K : ExtSem) (Γ : List Ptr) (m0 : Mem) (B N : Nat)

def Tr (fb : Nat) (P : List Int → Prop) (s : Stmt) (k : Heap Int → Heap Int) (Q : List Int → Prop) : Prop :=
  Good k ∧ ∀ env H, P env → H.ok = true → H.mem.size = N → (k H).ok = true → ∀ f, fb ≤ f →
    ∃ env', execK K Γ s f ⟨env, m0.setIfInBounds B H.mem⟩ = .ok (.norm, ⟨env', m0.setIfInBounds B (k H).mem⟩) ∧ Q env'

variable {K Γ m0 B N} {fb : Nat} {P Q R : List Int → Prop} {k k1 k2 : Heap Int → Heap Int}

/-- `k1`, `k2` come from the two derivations and `k` from the model, whose definition is a pipeline of steps in some
    bracketing: that they agree is checked by unfolding (`hk`), not found by unification -/
theorem Tr.seq {a b : Stmt} (h1 : Tr K Γ m0 B N fb P a k1 Q) (h2 : Tr K Γ m0 B N fb Q b k2 R)
    (hk : ∀ h, k h = k2 (k1 h) := by intro; rfl) : Tr K Γ m0 B N fb P (.seq a b) k R := by
  obtain rfl : k = fun h => k2 (k1 h) := funext hk
  refine ⟨h1.1.comp h2.1, fun env H hP hH hN hok f hf => ?_⟩
  obtain ⟨env1, e1, hQ⟩ := h1.2 env H hP hH hN (h2.1.mono _ hok) f hf
  obtain ⟨env2, e2, hR⟩ := h2.2 env1 (k1 H) hQ (h2.1.mono _ hok) ((h1.1.size H).trans hN) hok f hf
  exact ⟨env2, by rw [execK_seq, e1, seqK_norm, e2], hR⟩

/-- a statement that only writes slots in front of `b` -/
theorem Tr.slots {a b : Stmt} {env env1 : List Int}
    (h1 : ∀ m f, execK K Γ a f ⟨env, m⟩ = .ok (.norm, ⟨env1, m⟩)) (h2 : Tr K Γ m0 B N fb (· = env1) b k R) :
    Tr K Γ m0 B N fb (· = env) (.seq a b) k R := by
  refine ⟨h2.1, ?_⟩
  rintro _ H rfl hH hN hk f hf
  obtain ⟨env2, e2, hR⟩ := h2.2 env1 H rfl hH hN hk f hf
  exact ⟨env2, by rw [execK_seq, h1, seqK_norm, e2], hR⟩

/-- a pointer local set to a pointer into the arena in front of `r` -/
theorem Tr.passign {r : Stmt} {env : List Int} (s : Nat) (b : PBase) (o : Expr) (v : Int) (bf off : Nat)
    (hv : ∀ m, eval Γ ⟨env, m⟩ o = .ok v) (hp : ptrAt Γ env b v = .ok (some (bf, off)))
    (h2 : Tr K Γ m0 B N fb (· = lset (lset env s (bf : Int)) (s + 1) (off : Int)) r k R) :
    Tr K Γ m0 B N fb (· = env) (.seq (.passign s b o) r) k R :=
  Tr.slots (fun m f => execK_passign_some K Γ s b o f ⟨env, m⟩ v bf off (hv m) hp) h2

theorem Tr.conseq {P' Q' : List Int → Prop} {s : Stmt} (h : Tr K Γ m0 B N fb P s k Q)
    (hP : ∀ env, P' env → P env) (hQ : ∀ env, Q env → Q' env) : Tr K Γ m0 B N fb P' s k Q' :=
  ⟨h.1, fun env H h1 hH hN hk f hf => (h.2 env H (hP env h1) hH hN hk f hf).imp fun env' q => ⟨q.1, hQ env' q.2⟩⟩

theorem Tr.post {Q' : List Int → Prop} {s : Stmt} (h : Tr K Γ m0 B N fb P s k Q) (hQ : ∀ env, Q env → Q' env) :
    Tr K Γ m0 B N fb P s k Q' :=
  h.conseq (fun _ h => h) hQ

/-- the slots after a loop body, as an instance of the loop's `E` -/
theorem Tr.pick {J : Type} {E : J → List Int} {s : Stmt} (x : J) (h : Tr K Γ m0 B N fb P s k (· = E x)) :
    Tr K Γ m0 B N fb P s k (fun env => ∃ x, env = E x) :=
  h.post fun _ h => ⟨x, h⟩

theorem Tr.mono {fb' : Nat} {s : Stmt} (h : Tr K Γ m0 B N fb P s k Q) (hf : fb ≤ fb') : Tr K Γ m0 B N fb' P s k Q :=
  ⟨h.1, fun env H hP hH hN hk f hf' => h.2 env H hP hH hN hk f (Nat.le_trans hf hf')⟩

/-- facts about the addresses are read off the model's `ok` before the statement is run: the `ok` of a call does not
    always bound all its own addresses, that of the call after it does -/
theorem Tr.of_ok {s : Stmt} {φ : Prop} (g : Good k) (hφ : ∀ H, H.mem.size = N → (k H).ok = true → φ)
    (h : φ → Tr K Γ m0 B N fb P s k Q) : Tr K Γ m0 B N fb P s k Q :=
  ⟨g, fun env H hP hH hN hk => (h (hφ H hN hk)).2 env H hP hH hN hk⟩

/-- an opaque call: what has to be said is where its arguments point, given that the model's call stays `ok` -/
theorem Tr.extcall (hB : B < m0.size) {env : List Int} (name : String) (sargs : List Expr)
    (pargs : List (PBase × Expr)) {k : Heap Int → Heap Int} (g : Good k)
    (h : ∀ H : Heap Int, H.mem.size = N → (k H).ok = true → ∃ vs ps,
      evalList Γ ⟨env, m0.setIfInBounds B H.mem⟩ sargs = .ok vs ∧
      evalPtrs Γ ⟨env, m0.setIfInBounds B H.mem⟩ pargs = .ok ps ∧
      K name vs ps (m0.setIfInBounds B H.mem) = onArena B k (m0.setIfInBounds B H.mem)) :
    Tr K Γ m0 B N fb (· = env) (.extcall name sargs pargs) k (· = env) := by
  refine ⟨g, ?_⟩
  rintro e H rfl hH hN hk f _
  obtain ⟨vs, ps, h1, h2, h3⟩ := h H hN hk
  exact ⟨e, execK_extcall_arena K Γ name sargs pargs f e m0 B hB H k vs ps h1 h2 h3 hH hk, rfl⟩

/-- a call of a translated function whose own theorem is an equation of `runK` on the arena (a limb kernel on
    windows, another entry point, a libc function) -/
theorem Tr.call {env : List Int} (fn : Fn) (sargs : List Expr) (pargs : List (PBase × Expr))
    {k : Heap Int → Heap Int} (g : Good k) (vs : List Int) (ps : List Ptr)
    (hargs : ∀ H : Heap Int, H.mem.size = N → (k H).ok = true →
      evalList Γ ⟨env, m0.setIfInBounds B H.mem⟩ sargs = .ok vs ∧ evalPtrs Γ ⟨env, m0.setIfInBounds B H.mem⟩ pargs = .ok ps)
    (hrun : ∀ X : Array Int, X.size = N → (k ⟨X, true⟩).ok = true → ∀ f, fb ≤ f →
      runK K f fn vs ps (m0.setIfInBounds B X) = .ok (m0.setIfInBounds B (k ⟨X, true⟩).mem)) :
    Tr K Γ m0 B N fb (· = env) (.call fn.body fn.nslots sargs pargs) k (· = env) := by
  refine ⟨g, ?_⟩
  rintro e H rfl hH hN hk f hf
  obtain ⟨h1, h2⟩ := hargs H hN hk
  refine ⟨e, ?_, rfl⟩
  rw [← heap_eta H hH] at hk ⊢
  rw [execK_call_run, h1, h2, R.bind_ok, R.bind_ok, hrun H.mem hN hk f hf]
  rfl

/-- `for (j = lo; j < hi; ++j) body` against the model's loop whose step at counter `j` is `F j`.  `E j x` is the slot
    list at the loop head as a function of the counter and of what the previous iteration left in the slots the body
    overwrites before use (`J = Unit` when there are none): at a call site a list literal, and every hypothesis about
    it holds by `rfl`. -/
theorem Tr.for {J : Type} {env : List Int} (js : Nat) (e0 hiE : Expr) (body : Stmt) (F : Nat → Heap Int → Heap Int)
    (hF : ∀ i, Good (F i)) (lo hi : Nat) (hlh : lo ≤ hi) (h64 : hi < 18446744073709551616) (E : Int → J → List Int)
    (h0 : (∀ m, eval Γ ⟨env, m⟩ e0 = .ok (lo : Int)) ∧ ∃ x, lset env js (lo : Int) = E lo x)
    (hE : ∀ v x, lget (E v x) js = v ∧ (∀ w, lset (E v x) js w = E w x) ∧ ∀ m, eval Γ ⟨E v x, m⟩ hiE = .ok (hi : Int))
    (hbody : ∀ j x, lo ≤ j → j < hi → Tr K Γ m0 B N fb (· = E j x) body (F j) (fun env => ∃ x', env = E j x')) :
    Tr K Γ m0 B N (hi - lo + fb) (· = env) (.for (.assign js e0) (.bin .lt .u64 (.var js) hiE)
      (.assign js (.bin .add .u64 (.var js) (.lit 1))) body) (loop (hi - lo) fun i => F (i + lo))
      (fun env => ∃ x, env = E hi x) := by
  have hg : ∀ i, Good (fun h => F (i + lo) h) := fun i => hF (i + lo)
  refine ⟨Good.loop _ hg, ?_⟩
  rintro env H rfl hH hN hk f hf
  obtain ⟨x0, hx0⟩ := h0.2
  obtain ⟨σ', e, x, rfl⟩ := for_count K Γ js e0 hiE body ⟨env, m0.setIfInBounds B H.mem⟩
    (fun j σ => ∃ x, σ = ⟨E j x, m0.setIfInBounds B (loop (j - lo) (fun i => F (i + lo)) H).mem⟩) lo hi fb hlh h64
    (h0.1 _) ⟨x0, by rw [hx0, Nat.sub_self]; rfl⟩
    (by rintro j _ ⟨x, rfl⟩; exact (hE _ x).1)
    (by rintro j _ _ _ ⟨x, rfl⟩; exact (hE _ x).2.2 _)
    (by
      rintro j _ h1 h2 ⟨x, rfl⟩ f hf
      have hj : j + 1 - lo = (j - lo) + 1 := by omega
      have hok := loop_ok_prefix _ (fun i => (hg i).mono) H (hi - lo) (j + 1 - lo) (by omega) hk
      rw [hj, loop_succ, Nat.sub_add_cancel h1] at hok
      obtain ⟨env', e', x', rfl⟩ := (hbody j x h1 h2).2 _ (loop (j - lo) (fun i => F (i + lo)) H) rfl
        (loop_ok_prefix _ (fun i => (hg i).mono) H (hi - lo) (j - lo) (by omega) hk)
        (((Good.loop _ hg).size H).trans hN) hok f hf
      exact ⟨_, e', (hE _ x').1, x', by rw [(hE _ x').2.1, hj, loop_succ, Nat.sub_add_cancel h1]⟩) f hf
  exact ⟨_, e, x, rfl⟩

/-- `memset(p, 0, n * 8)` on a DFT-space buffer against `kZeroD` -/
theorem Tr.zeroD (hB : B < m0.size) (c : Module.Parts α) (cd : Cells Int α) (hz : cd.enc c.ar.zero = 0)
    {env : List Int} (e0 eb : Expr) (pe : PBase × Expr) (p n : Nat)
    (h : ∀ H : Heap Int, H.mem.size = N → p + n ≤ N →
      eval Γ ⟨env, m0.setIfInBounds B H.mem⟩ e0 = .ok 0 ∧
      eval Γ ⟨env, m0.setIfInBounds B H.mem⟩ eb = .ok ((n * 8 : Nat) : Int) ∧
      evalPtrs Γ ⟨env, m0.setIfInBounds B H.mem⟩ [pe] = .ok [some (B, p)]) :
    Tr K Γ m0 B N fb (· = env) (.call (.memset 0 .f64 (.var 0) (.var 1)) 2 [e0, eb] [pe]) (kZeroD c cd p n) (· = env) := by
  refine ⟨good_kZeroD c cd p n, ?_⟩
  rintro e H rfl _ hN hk f _
  obtain ⟨h0, h1, h2⟩ := h H hN (by rw [← hN]; exact kZeroD_bound c cd p n H hk)
  exact ⟨e, execK_zeroD_arena K Γ c cd hz e0 eb pe f e m0 B hB H p n
    (evalList_cons_ok h0 (evalList_cons_ok (Nat.mul_comm n 8 ▸ h1) rfl)) h2 hk, rfl⟩

/-- `memset(p, 0, n * 8)` on an integer buffer against `kZeroI` -/
theorem Tr.zeroI (hB : B < m0.size) (cd : Cells Int α) (hzI : cd.encI 0 = 0)
    {env : List Int} (e0 eb : Expr) (pe : PBase × Expr) (p n : Nat)
    (h : ∀ H : Heap Int, H.mem.size = N → p + n ≤ N →
      eval Γ ⟨env, m0.setIfInBounds B H.mem⟩ e0 = .ok 0 ∧
      eval Γ ⟨env, m0.setIfInBounds B H.mem⟩ eb = .ok ((n * 8 : Nat) : Int) ∧
      evalPtrs Γ ⟨env, m0.setIfInBounds B H.mem⟩ [pe] = .ok [some (B, p)]) :
    Tr K Γ m0 B N fb (· = env) (.call (.memset 0 .i64 (.var 0) (.var 1)) 2 [e0, eb] [pe]) (kZeroI cd p n) (· = env) := by
  refine ⟨good_kZeroI cd p n, ?_⟩
  rintro e H rfl _ hN hk f _
  obtain ⟨h0, h1, h2⟩ := h H hN (by rw [← hN]; exact kZeroI_bound cd p n H hk)
  exact ⟨e, execK_zeroI_arena K Γ cd hzI e0 eb pe f e m0 B hB H p n
    (evalList_cons_ok h0 (evalList_cons_ok (Nat.mul_comm n 8 ▸ h1) rfl)) h2 hk, rfl⟩

/-- a scratch guard in front of a model step: when the guarded step stays `ok` the guard held and did nothing; any
    number of guards by repetition -/
theorem Tr.scr {s : Stmt} {k' : Heap Int → Heap Int} (tb rel n : Nat) (h : Tr K Γ m0 B N fb P s k Q)
    (hk : ∀ h, k' h = k (ModuleHeap.scr tb rel n h) := by intro; rfl) : Tr K Γ m0 B N fb P s k' Q := by
  obtain rfl : k' = fun h => k (ModuleHeap.scr tb rel n h) := funext hk
  refine ⟨(good_scr tb rel n).comp h.1, fun env H hP hH hN hk f hf => ?_⟩
  have q := scr_of_ok tb rel n H (h.1.mono _ hk)
  simp only [q] at hk ⊢
  exact h.2 env H hP hH hN hk f hf

/-- a test on slots only in front of two branches -/
theorem Tr.iteP {c : Expr} {t e : Stmt} (p : Prop) [Decidable p]
    (hc : ∀ env m, P env → evalB Γ c ⟨env, m⟩ = .ok (decide p)) (g1 : Good k1) (g2 : Good k2)
    (h1 : p → Tr K Γ m0 B N fb P t k1 Q) (h2 : ¬ p → Tr K Γ m0 B N fb P e k2 Q) :
    Tr K Γ m0 B N fb P (.ite c t e) (fun h => if p then k1 h else k2 h) Q := by
  refine ⟨g1.ite p g2, ?_⟩
  intro env H hP hH hN hk f hf
  rw [execK_ite, hc env _ hP, CIR.R.bind_ok]
  by_cases hp : p
  · simp only [hp, if_true, decide_true] at hk ⊢
    exact (h1 hp).2 env H hP hH hN hk f hf
  · simp only [hp, if_false, decide_false] at hk ⊢
    exact (h2 hp).2 env H hP hH hN hk f hf

theorem Tr.ite {c : Expr} {t e : Stmt} {env : List Int} (p : Prop) [Decidable p]
    (hc : ∀ m, evalB Γ c ⟨env, m⟩ = .ok (decide p)) (g1 : Good k1) (g2 : Good k2)
    (h1 : p → Tr K Γ m0 B N fb (· = env) t k1 Q) (h2 : ¬ p → Tr K Γ m0 B N fb (· = env) e k2 Q) :
    Tr K Γ m0 B N fb (· = env) (.ite c t e) (fun h => if p then k1 h else k2 h) Q :=
  Tr.iteP p (fun _ m he => he ▸ hc m) g1 g2 h1 h2

/-- a test on slots in front of two branches that only write slots: the model does not branch (it computes the value
    by a closed formula, the code by cases) -/
theorem Tr.iteId {c : Expr} {t e : Stmt} (p : Prop) [Decidable p]
    (hc : ∀ env m, P env → evalB Γ c ⟨env, m⟩ = .ok (decide p))
    (h1 : p → Tr K Γ m0 B N fb P t (fun h => h) Q) (h2 : ¬ p → Tr K Γ m0 B N fb P e (fun h => h) Q) :
    Tr K Γ m0 B N fb P (.ite c t e) (fun h => h) Q := by
  refine ⟨Good.id, ?_⟩
  intro env H hP hH hN hk f hf
  rw [execK_ite, hc env _ hP, CIR.R.bind_ok]
  by_cases hp : p
  · rw [decide_eq_true hp, if_pos rfl]
    exact (h1 hp).2 env H hP hH hN hk f hf
  · rw [decide_eq_false hp, if_neg Bool.false_ne_true]
    exact (h2 hp).2 env H hP hH hN hk f hf

theorem Tr.skip : Tr K Γ m0 B N fb P .skip (fun h => h) P :=
  ⟨Good.id, fun env _ hP _ _ _ _ _ => ⟨env, rfl, hP⟩⟩

/-- `memcpy(dst, src, n * 8)` inside the arena against `kCopy` -/
theorem Tr.copy (hB : B < m0.size) (cd : Cells Int α) {env : List Int} (d s : Nat) (nE : Expr) (dst src n : Nat)
    (hd : Γ.getD d none = some (B, dst)) (hs : Γ.getD s none = some (B, src))
    (h : ∀ H : Heap Int, H.mem.size = N → dst + n ≤ N → src + n ≤ N →
      eval Γ ⟨env, m0.setIfInBounds B H.mem⟩ nE = .ok ((n * 8 : Nat) : Int)) :
    Tr K Γ m0 B N fb (· = env) (.memcpy d s nE) (kCopy cd dst src n) (· = env) := by
  refine ⟨good_kCopy cd dst src n, ?_⟩
  rintro e ⟨M, b⟩ rfl _ hN hk f _
  obtain ⟨c1, c2, c3⟩ := kCopy_bound cd dst src n _ hk
  refine ⟨e, ?_, rfl⟩
  rw [execK_memcpy, h _ hN (hN ▸ c2) (hN ▸ c1), Nat.mul_comm n 8, hd, hs, R.bind_ok, memcpy_arena m0 B hB M dst src n cd.dflt c2 c1 (Or.inr c3),
    kCopy_mem]
  rfl

/-- from a derivation for the rest of a body (after the slot assignments in front have been executed) to the entry point -/
theorem Tr.memOf {s : Stmt} {env : List Int} {X : Array Int} {f : Nat} (h : Tr K Γ m0 B N fb P s k Q) (hP : P env)
    (hN : X.size = N) (hok : (k ⟨X, true⟩).ok = true) (hf : fb ≤ f) :
    memOf (execK K Γ s f ⟨env, m0.setIfInBounds B X⟩) = .ok (m0.setIfInBounds B (k ⟨X, true⟩).mem) := by
  obtain ⟨env', e, _⟩ := h.2 env ⟨X, true⟩ hP rfl hN hok f hf
  rw [e]; rfl

/-- `Tr` for a loop body: it may end in `continue` -/
def TrB (K : ExtSem) (Γ : List Ptr) (m0 : Mem) (B N : Nat) (fb : Nat) (P : List Int → Prop) (s : Stmt) (k : Heap Int → Heap Int) (Q : List Int → Prop) : Prop :=
  Good k ∧ ∀ env H, P env → H.ok = true → H.mem.size = N → (k H).ok = true → ∀ f, fb ≤ f →
    ∃ fl env', execK K Γ s f ⟨env, m0.setIfInBounds B H.mem⟩ = .ok (fl, ⟨env', m0.setIfInBounds B (k H).mem⟩) ∧
      fl ≠ .ret ∧ Q env'


theorem Tr.toB {s : Stmt} (h : Tr K Γ m0 B N fb P s k Q) : TrB K Γ m0 B N fb P s k Q :=
  ⟨h.1, fun env H hP hH hN hk f hf => by
    obtain ⟨env', e, hQ⟩ := h.2 env H hP hH hN hk f hf
    exact ⟨.norm, env', e, by decide, hQ⟩⟩

/-- statements that cannot end in `continue` in front of the rest of a loop body -/
theorem TrB.seq {a b : Stmt} (h1 : Tr K Γ m0 B N fb P a k1 Q) (h2 : TrB K Γ m0 B N fb Q b k2 R)
    (hk : ∀ h, k h = k2 (k1 h) := by intro; rfl) : TrB K Γ m0 B N fb P (.seq a b) k R := by
  obtain rfl : k = fun h => k2 (k1 h) := funext hk
  refine ⟨h1.1.comp h2.1, fun env H hP hH hN hok f hf => ?_⟩
  obtain ⟨env1, e1, hQ⟩ := h1.2 env H hP hH hN (h2.1.mono _ hok) f hf
  obtain ⟨fl, env2, e2, hfl, hR⟩ := h2.2 env1 (k1 H) hQ (h2.1.mono _ hok) ((h1.1.size H).trans hN) hok f hf
  exact ⟨fl, env2, by rw [execK_seq, e1, seqK_norm, e2], hfl, hR⟩

/-- `if (c) { a; continue; }` in front of the rest `r` of a loop body -/
theorem TrB.guard {c : Expr} {a r : Stmt} (p : Prop) [Decidable p]
    (hc : ∀ env m, P env → evalB Γ c ⟨env, m⟩ = .ok (decide p)) (g1 : Good k1) (g2 : Good k2)
    (h1 : p → Tr K Γ m0 B N fb P a k1 Q) (h2 : ¬ p → Tr K Γ m0 B N fb P r k2 Q) :
    TrB K Γ m0 B N fb P (.seq (.ite c (.seq a .cont) .skip) r) (fun h => if p then k1 h else k2 h) Q := by
  refine ⟨g1.ite p g2, ?_⟩
  intro e H hP hH hN hk f hf
  rw [execK_seq, execK_ite, hc e _ hP, CIR.R.bind_ok]
  by_cases hp : p
  · simp only [hp, if_true, decide_true] at hk ⊢
    obtain ⟨env', e1, hQ⟩ := (h1 hp).2 e H hP hH hN hk f hf
    exact ⟨.cont, env', by rw [execK_seq, e1, seqK_norm, execK_cont, seqK_cont], by decide, hQ⟩
  · simp only [hp, if_false, decide_false, Bool.false_eq_true] at hk ⊢
    obtain ⟨env', e2, hQ⟩ := (h2 hp).2 e H hP hH hN hk f hf
    exact ⟨.norm, env', by rw [execK_skip, seqK_norm, e2], by decide, hQ⟩

end tr

/-- the test `p != q` on two pointers into one buffer -/
theorem evalB_ptrNe (Γ : List Ptr) (σ : State) (b1 b2 : PBase) (o1 o2 : Expr) (t : Ty) (v1 v2 : Int) (bf r s : Nat)
    (h1 : eval Γ σ o1 = .ok v1) (h2 : eval Γ σ o2 = .ok v2) (p1 : ptrAt Γ σ.env b1 v1 = .ok (some (bf, r)))
    (p2 : ptrAt Γ σ.env b2 v2 = .ok (some (bf, s))) :
    evalB Γ (.un .lnot t (.ptrEq b1 o1 b2 o2)) σ = .ok (decide ((r != s) = true)) := by
  rw [evalB_def, eval_un, eval_ptrEq, h1, h2, R.bind_ok, R.bind_ok, p1, p2, R.bind_ok, R.bind_ok, R.bind_ok, evalUn_lnot,
    R.bind_ok]
  by_cases h : r = s <;> simp [h, b2i]

/-- the test `p == q` on two pointers into one buffer -/
theorem evalB_ptrEq (Γ : List Ptr) (σ : State) (b1 b2 : PBase) (o1 o2 : Expr) (v1 v2 : Int) (bf r s : Nat)
    (h1 : eval Γ σ o1 = .ok v1) (h2 : eval Γ σ o2 = .ok v2) (p1 : ptrAt Γ σ.env b1 v1 = .ok (some (bf, r)))
    (p2 : ptrAt Γ σ.env b2 v2 = .ok (some (bf, s))) :
    evalB Γ (.ptrEq b1 o1 b2 o2) σ = .ok (decide (r = s)) := by
  rw [evalB_def, eval_ptrEq, h1, h2, R.bind_ok, R.bind_ok, p1, p2, R.bind_ok, R.bind_ok, R.bind_ok, decide_b2i_ne_zero]
  by_cases h : r = s <;> simp [h]

end Spq.Src
