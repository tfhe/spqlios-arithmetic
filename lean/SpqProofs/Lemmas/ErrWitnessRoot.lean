/-
  Non-vacuity witness for the binary64 rounding theorems at a size WITH real twiddle factors
  (`k = 2`, `m = 4`, `N = 8`, `K = ℝ`): the exact root and rational enclosures.

  `cis θ = cos θ + i·sin θ` in `Cplx ℝ` (the type of C06Err), de Moivre, `ζ = cis(π/8) = exp(iπ/2m)`, `ζi = cis(−π/8)`;
  `cos(π/8) = √(2+√2)/2`, `sin(π/8) = √(2−√2)/2`, `cos(π/4) = sin(π/4) = √2/2` are enclosed between rationals by
  squaring (`a ≤ √x ⇐ a² ≤ x`, `√x ≤ b ⇐ 0 ≤ b ∧ x ≤ b²`), all numerals checked by `norm_num`.
-/
import SpqProofs.Lemmas.FftErrSchedFin
import Mathlib.Analysis.SpecialFunctions.Trigonometric.Basic
import Mathlib.Analysis.Real.Sqrt
namespace Spq.ErrWitness
open Spq.FftErr Spq.F64

noncomputable def cis (θ : ℝ) : Cplx ℝ := ⟨Real.cos θ, Real.sin θ⟩

theorem cis_re (θ : ℝ) : (cis θ).re = Real.cos θ := rfl
theorem cis_im (θ : ℝ) : (cis θ).im = Real.sin θ := rfl

theorem cis_mul (a b : ℝ) : cis a * cis b = cis (a + b) := by
  ext
  · simp only [QuadraticAlgebra.re_mul, cis_re, cis_im, Real.cos_add]; ring
  · simp only [QuadraticAlgebra.im_mul, cis_re, cis_im, Real.sin_add]; ring

theorem cis_zero : cis 0 = 1 := by
  ext <;> simp [cis, QuadraticAlgebra.re_one, QuadraticAlgebra.im_one]

theorem cis_pow (θ : ℝ) (e : ℕ) : cis θ ^ e = cis (e * θ) := by
  induction e with
  | zero => simp [cis_zero]
  | succ e ih =>
    rw [pow_succ, ih, cis_mul]
    congr 1
    push_cast; ring

theorem nsq_cis (θ : ℝ) : nsq (cis θ) = 1 := by
  simp only [nsq, cis_re, cis_im]
  exact Real.cos_sq_add_sin_sq θ

theorem cis_pi_div_two : cis (Real.pi / 2) = Ic := by
  ext <;> simp [cis, Ic]

theorem cis_neg_pi_div_two : cis (-(Real.pi / 2)) = -Ic := by
  ext <;> simp [cis, Ic]

/-- the primitive 16th root of unity `exp(iπ/8) = exp(iπ/(2m))`, `m = 4` -/
noncomputable def zeta : Cplx ℝ := cis (Real.pi / 8)
/-- its inverse (= conjugate) `exp(−iπ/8)` -/
noncomputable def zetai : Cplx ℝ := cis (-(Real.pi / 8))

theorem nsq_zeta : nsq zeta = 1 := nsq_cis _
theorem nsq_zetai : nsq zetai = 1 := nsq_cis _

theorem zeta_pow_m : zeta ^ 2 ^ 2 = Ic := by
  unfold zeta
  rw [cis_pow, ← cis_pi_div_two]
  congr 1
  push_cast; ring

theorem zetai_pow_m : zetai ^ 2 ^ 2 = -Ic := by
  unfold zetai
  rw [cis_pow, ← cis_neg_pi_div_two]
  congr 1
  push_cast; ring

theorem zeta_mul_zetai : zeta * zetai = 1 := by
  unfold zeta zetai
  rw [cis_mul, add_neg_cancel, cis_zero]

theorem zetai_conj : zetai = ⟨zeta.re, -zeta.im⟩ := by
  ext <;> simp [zeta, zetai, cis]

/-! ### the powers that the `m = 4` network uses: exponents `twE ℓ d b ∈ {2, 1, 5}` -/

theorem zeta_pow1 : zeta ^ 1 = ⟨Real.cos (Real.pi / 8), Real.sin (Real.pi / 8)⟩ := by
  rw [pow_one]; rfl

theorem zeta_pow2 : zeta ^ 2 = ⟨Real.cos (Real.pi / 4), Real.sin (Real.pi / 4)⟩ := by
  unfold zeta
  rw [cis_pow]
  have : ((2 : ℕ) : ℝ) * (Real.pi / 8) = Real.pi / 4 := by push_cast; ring
  rw [this]; rfl

theorem zeta_pow5 : zeta ^ 5 = ⟨-Real.sin (Real.pi / 8), Real.cos (Real.pi / 8)⟩ := by
  unfold zeta
  rw [cis_pow]
  have : ((5 : ℕ) : ℝ) * (Real.pi / 8) = Real.pi / 8 + Real.pi / 2 := by push_cast; ring
  rw [this]
  ext
  · exact Real.cos_add_pi_div_two _
  · exact Real.sin_add_pi_div_two _

theorem zetai_pow (e : ℕ) : zetai ^ e = ⟨(zeta ^ e).re, -(zeta ^ e).im⟩ := by
  unfold zeta zetai
  rw [cis_pow, cis_pow, mul_neg]
  ext <;> simp [cis]

theorem sqrt_two_ge (a : ℝ) (h : a ^ 2 ≤ 2) : a ≤ √2 := Real.le_sqrt_of_sq_le h

theorem sqrt_two_le (b : ℝ) (hb : 0 ≤ b) (h : 2 ≤ b ^ 2) : √2 ≤ b := Real.sqrt_le_iff.2 ⟨hb, h⟩

/-- `lo ≤ √(2+√2)/2 ≤ hi` from `((2lo)² − 2)² ≤ 2 ≤ ((2hi)² − 2)²` -/
theorem cos8_encl (lo hi : ℝ) (hhi : 0 ≤ hi) (h1 : ((2 * lo) ^ 2 - 2) ^ 2 ≤ 2)
    (h2 : 0 ≤ (2 * hi) ^ 2 - 2) (h3 : 2 ≤ ((2 * hi) ^ 2 - 2) ^ 2) :
    lo ≤ Real.cos (Real.pi / 8) ∧ Real.cos (Real.pi / 8) ≤ hi := by
  rw [Real.cos_pi_div_eight]
  have a1 := sqrt_two_ge _ h1
  have a2 := sqrt_two_le _ h2 h3
  constructor
  · have : 2 * lo ≤ √(2 + √2) := Real.le_sqrt_of_sq_le (by linarith)
    linarith
  · have : √(2 + √2) ≤ 2 * hi := Real.sqrt_le_iff.2 ⟨by linarith, by linarith⟩
    linarith

/-- `lo ≤ √(2−√2)/2 ≤ hi` from `(2 − (2hi)²)² ≤ 2 ≤ (2 − (2lo)²)²` -/
theorem sin8_encl (lo hi : ℝ) (hhi : 0 ≤ hi) (h1 : 0 ≤ 2 - (2 * lo) ^ 2) (h2 : 2 ≤ (2 - (2 * lo) ^ 2) ^ 2)
    (h3 : (2 - (2 * hi) ^ 2) ^ 2 ≤ 2) :
    lo ≤ Real.sin (Real.pi / 8) ∧ Real.sin (Real.pi / 8) ≤ hi := by
  rw [Real.sin_pi_div_eight]
  have a1 := sqrt_two_le _ h1 h2
  have a2 := sqrt_two_ge _ h3
  constructor
  · have : 2 * lo ≤ √(2 - √2) := Real.le_sqrt_of_sq_le (by linarith)
    linarith
  · have : √(2 - √2) ≤ 2 * hi := Real.sqrt_le_iff.2 ⟨by linarith, by linarith⟩
    linarith

theorem cs4_encl (lo hi : ℝ) (hhi : 0 ≤ hi) (h1 : (2 * lo) ^ 2 ≤ 2) (h2 : 2 ≤ (2 * hi) ^ 2) :
    lo ≤ √2 / 2 ∧ √2 / 2 ≤ hi := by
  have a1 := sqrt_two_ge _ h1
  have a2 := sqrt_two_le (2 * hi) (by linarith) h2
  constructor <;> linarith

end Spq.ErrWitness
