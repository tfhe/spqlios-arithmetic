/-
  Integer core of the repaired `reim_to_znx64_avx2_bnd63_fma` (offset = pred(d/2) = d·(1/2 − 2^-54)):
  with `X = |x|`, `D = d`, `Dh = d/2`, `δ = d·2^-54` in a common unit, the rounded sum `fl(X + Dh − δ)` never
  crosses a multiple of `D` in the wrong direction.  Pure `Nat` arithmetic on powers of two.
-/
import SpqProofs.Lemmas.F64Pack

namespace Spq.Conv
open Spq.F64

theorem pow2_le_of_le {a b : Nat} (h : a ≤ b) : 2 ^ a ≤ 2 ^ b := Nat.pow_le_pow_right (by norm_num) h

theorem exp_lt_of_mul_lt {k s r : Nat} (h : 4503599627370496 * 2 ^ k < 2 ^ s * 2 ^ r) : k + 52 < s + r := by
  have h52 : (4503599627370496 : Nat) = 2 ^ 52 := by norm_num
  rw [h52, ← pow_add, ← pow_add] at h
  have := pow2_lt_imp h
  omega

/-- facts about the powers of two of the divisor: `D = 2·Dh`, `Dh = 2^53·δ` -/
theorem divisor_pows (dd : Nat) (hdd : 54 ≤ dd) :
    2 ^ dd = 2 * 2 ^ (dd - 1) ∧ 2 ^ (dd - 1) = 9007199254740992 * 2 ^ (dd - 54) := by
  constructor
  · rw [← pow_succ']; congr 1; omega
  · have : (9007199254740992 : Nat) = 2 ^ 53 := by norm_num
    rw [this, ← pow_add]; congr 1; omega

theorem grid_le_divisor (X dd k : Nat) (hdd : 54 ≤ dd) (hdom : X < 4503599627370496 * 2 ^ dd)
    (hlo : 4503599627370496 * 2 ^ k ≤ X + 9007199254740991 * 2 ^ (dd - 54)) : k ≤ dd := by
  obtain ⟨h1, h2⟩ := divisor_pows dd hdd
  have hV : X + 9007199254740991 * 2 ^ (dd - 54) < 2 ^ 53 * 2 ^ dd := by
    have : (2 : Nat) ^ 53 = 9007199254740992 := by norm_num
    rw [this]
    have hpos : 0 < 2 ^ (dd - 54) := by positivity
    omega
  have := exp_lt_of_mul_lt (lt_of_le_of_lt hlo hV)
  omega

/-- the residue of `X + Dh` modulo `D` lies on the grid `c = 2^k1` of `X` when `c < D`, and is `Dh` when `D` divides `X` -/
theorem residue_grid (mx k1 dd N ρ : Nat) (hdd : 1 ≤ dd) (hN : N * 2 ^ dd + ρ = mx * 2 ^ k1 + 2 ^ (dd - 1))
    (hρ : ρ < 2 ^ dd) : (k1 < dd ∧ 2 ^ k1 ∣ ρ) ∨ (dd ≤ k1 ∧ ρ = 2 ^ (dd - 1)) := by
  rcases Nat.lt_or_ge k1 dd with hk | hk
  · refine Or.inl ⟨hk, ?_⟩
    have hcD : 2 ^ k1 ∣ 2 ^ dd := pow_dvd_pow 2 (by omega)
    have hcDh : 2 ^ k1 ∣ 2 ^ (dd - 1) := pow_dvd_pow 2 (by omega)
    have hcX : 2 ^ k1 ∣ mx * 2 ^ k1 := Dvd.intro_left _ rfl
    have h1 : 2 ^ k1 ∣ N * 2 ^ dd + ρ := by rw [hN]; exact Nat.dvd_add hcX hcDh
    exact (Nat.dvd_add_right (Dvd.dvd.mul_left hcD N)).1 h1
  · refine Or.inr ⟨hk, ?_⟩
    obtain ⟨z, hz⟩ : 2 ^ dd ∣ mx * 2 ^ k1 := Dvd.dvd.mul_left (pow_dvd_pow 2 hk) mx
    have hlt : 2 ^ (dd - 1) < 2 ^ dd := Nat.pow_lt_pow_right (by norm_num) (by omega)
    have h1 : (N * 2 ^ dd + ρ) % 2 ^ dd = ρ := by rw [Nat.mul_comm, Nat.mul_add_mod, Nat.mod_eq_of_lt hρ]
    have h2 : (mx * 2 ^ k1 + 2 ^ (dd - 1)) % 2 ^ dd = 2 ^ (dd - 1) := by
      rw [hz, Nat.mul_add_mod, Nat.mod_eq_of_lt hlt]
    rw [hN, h2] at h1
    exact h1.symm

/-- Upper side: if `N·D ≤ X + Dh < (N+1)·D` then `V = X + Dh − δ` is strictly below the midpoint between
    `(N+1)·D − G` and `(N+1)·D` on its rounding grid `G = 2^k`: `2V + G < 2(N+1)D`. -/
theorem core63_upper (mx k1 dd k N ρ : Nat) (hmx : mx < 9007199254740992) (hdd : 54 ≤ dd)
    (hdom : mx * 2 ^ k1 < 4503599627370496 * 2 ^ dd)
    (hlo : 4503599627370496 * 2 ^ k ≤ mx * 2 ^ k1 + 9007199254740991 * 2 ^ (dd - 54))
    (hN : N * 2 ^ dd + ρ = mx * 2 ^ k1 + 2 ^ (dd - 1)) (hρ : ρ < 2 ^ dd) :
    2 * (mx * 2 ^ k1 + 9007199254740991 * 2 ^ (dd - 54)) + 2 ^ k < 2 * ((N + 1) * 2 ^ dd) := by
  obtain ⟨hD, hDh⟩ := divisor_pows dd hdd
  have hkdd := grid_le_divisor _ dd k hdd hdom hlo
  have hGD : 2 ^ k ≤ 2 ^ dd := pow2_le_of_le hkdd
  have hδpos : 0 < 2 ^ (dd - 54) := by positivity
  rw [Nat.add_mul, Nat.one_mul]
  -- goal in terms of g = D − ρ : G < 2g + 2δ
  rcases Nat.lt_or_ge (mx * 2 ^ k1) (9007199254740991 * 2 ^ (dd - 54)) with hsmall | hbig
  · -- X < H' : V < D, so G ≤ 2δ
    have hV : 4503599627370496 * 2 ^ k < 2 ^ 54 * 2 ^ (dd - 54) := by
      have : (2 : Nat) ^ 54 = 18014398509481984 := by norm_num
      rw [this]; omega
    have hk := exp_lt_of_mul_lt hV
    have hG : 2 ^ k ≤ 2 ^ (dd - 53) := pow2_le_of_le (by omega)
    have h2δ : 2 ^ (dd - 53) = 2 * 2 ^ (dd - 54) := by rw [← pow_succ']; congr 1; omega
    omega
  · -- X ≥ H' : V ≤ 2X < 2^54·c, so G ≤ 2c
    have hV : 4503599627370496 * 2 ^ k < 2 ^ 54 * 2 ^ k1 := by
      have : (2 : Nat) ^ 54 = 18014398509481984 := by norm_num
      rw [this]
      have hc : 0 < 2 ^ k1 := by positivity
      have := Nat.mul_lt_mul_of_pos_right hmx hc
      omega
    have hk := exp_lt_of_mul_lt hV
    have hG : 2 ^ k ≤ 2 ^ (k1 + 1) := pow2_le_of_le (by omega)
    rw [pow_succ] at hG
    rcases residue_grid mx k1 dd N ρ (by omega) hN hρ with ⟨hk1, hcρ⟩ | ⟨hk1, hρeq⟩
    · -- `ρ` on the grid `c` of `X`, hence `g = D − ρ ≥ c`
      have hcg : 2 ^ k1 ∣ 2 ^ dd - ρ := Nat.dvd_sub (pow_dvd_pow 2 (by omega)) hcρ
      have hg : 2 ^ k1 ≤ 2 ^ dd - ρ := Nat.le_of_dvd (by omega) hcg
      omega
    · omega

/-- Lower side: the smallest multiple `N'·D` of `D` with `X − Dh ≤ N'·D` is `≤ V = X + Dh − δ`
    (a representable `X` cannot sit within `δ = D·2^-54` above a half-integer multiple of `D`). -/
theorem core63_lower (mx k1 dd N' ρ' : Nat) (hmx : mx < 9007199254740992) (hdd : 54 ≤ dd)
    (hN : N' * 2 ^ dd + ρ' + 1 = mx * 2 ^ k1 + 2 ^ (dd - 1)) (hρ : ρ' < 2 ^ dd) :
    N' * 2 ^ dd ≤ mx * 2 ^ k1 + 9007199254740991 * 2 ^ (dd - 54) := by
  obtain ⟨hD, hDh⟩ := divisor_pows dd hdd
  have hδpos : 0 < 2 ^ (dd - 54) := by positivity
  by_contra hcon
  -- then ε = ρ' + 1 < δ
  have hε : ρ' + 1 < 2 ^ (dd - 54) := by omega
  rcases Nat.eq_zero_or_pos N' with h0 | hpos
  · subst h0; omega
  · -- X > Dh = 2^53·δ, hence c > δ
    have hND : 2 ^ dd ≤ N' * 2 ^ dd := Nat.le_mul_of_pos_left _ hpos
    have hX : 9007199254740992 * 2 ^ (dd - 54) < mx * 2 ^ k1 := by omega
    have hc : 2 ^ (dd - 54) < 2 ^ k1 := by
      have hcpos : 0 < 2 ^ k1 := by positivity
      by_contra hle
      have : mx * 2 ^ k1 ≤ mx * 2 ^ (dd - 54) := Nat.mul_le_mul_left _ (by omega)
      have : mx * 2 ^ (dd - 54) < 9007199254740992 * 2 ^ (dd - 54) := Nat.mul_lt_mul_of_pos_right hmx hδpos
      omega
    have hk1 := pow2_lt_imp hc
    have hc2 : 2 ^ (dd - 53) ≤ 2 ^ k1 := pow2_le_of_le (by omega)
    have h2δ : 2 ^ (dd - 53) = 2 * 2 ^ (dd - 54) := by rw [← pow_succ']; congr 1; omega
    rcases residue_grid mx k1 dd N' (ρ' + 1) (by omega) (by rw [← Nat.add_assoc]; exact hN) (by omega) with
      ⟨hk, hcε⟩ | ⟨hk, hεeq⟩
    · have := Nat.le_of_dvd (by omega) hcε
      omega
    · omega

/-- The integer part of the rounded sum is a correct rounding of `X/D`: with `F = rne V k` the significand of
    `fl(X + Dh − δ)` on its grid `2^k` and `R = ⌊F·2^k / D⌋`, `R·D ≤ X + Dh` and `X ≤ R·D + Dh`. -/
theorem core63 (mx k1 dd k R : Nat) (hmx : mx < 9007199254740992) (hdd : 54 ≤ dd)
    (hdom : mx * 2 ^ k1 < 4503599627370496 * 2 ^ dd)
    (hlo : 4503599627370496 * 2 ^ k ≤ mx * 2 ^ k1 + 9007199254740991 * 2 ^ (dd - 54))
    (hR1 : R * 2 ^ dd ≤ rne (mx * 2 ^ k1 + 9007199254740991 * 2 ^ (dd - 54)) k * 2 ^ k)
    (hR2 : rne (mx * 2 ^ k1 + 9007199254740991 * 2 ^ (dd - 54)) k * 2 ^ k < (R + 1) * 2 ^ dd) :
    R * 2 ^ dd ≤ mx * 2 ^ k1 + 2 ^ (dd - 1) ∧ mx * 2 ^ k1 ≤ R * 2 ^ dd + 2 ^ (dd - 1) := by
  obtain ⟨hD, hDh⟩ := divisor_pows dd hdd
  have hkdd := grid_le_divisor _ dd k hdd hdom hlo
  obtain ⟨V, hV⟩ : ∃ V, V = mx * 2 ^ k1 + 9007199254740991 * 2 ^ (dd - 54) := ⟨_, rfl⟩
  have hDpos : 0 < 2 ^ dd := by positivity
  have hTG : 2 ^ (dd - k) * 2 ^ k = 2 ^ dd := by rw [← pow_add]; congr 1; omega
  obtain ⟨e1, _⟩ := rne_err V k
  constructor
  · -- `N = ⌊(X + Dh)/D⌋`: the rounded sum stays below `(N+1)·D`, so `R ≤ N`
    have hdm := Nat.div_add_mod (mx * 2 ^ k1 + 2 ^ (dd - 1)) (2 ^ dd)
    have hml := Nat.mod_lt (mx * 2 ^ k1 + 2 ^ (dd - 1)) hDpos
    obtain ⟨N, hN⟩ : ∃ N, N = (mx * 2 ^ k1 + 2 ^ (dd - 1)) / 2 ^ dd := ⟨_, rfl⟩
    rw [← hN, Nat.mul_comm] at hdm
    have hup := core63_upper mx k1 dd k N _ hmx hdd hdom hlo hdm hml
    rw [← hV] at hup hR1
    have hF : rne V k * 2 ^ k < (N + 1) * 2 ^ dd := by omega
    have hR : R < N + 1 := Nat.lt_of_mul_lt_mul_right (lt_of_le_of_lt hR1 hF)
    have : R * 2 ^ dd ≤ N * 2 ^ dd := Nat.mul_le_mul_right _ (by omega)
    omega
  · -- `N' = ⌊(X + Dh − 1)/D⌋`: the rounded sum does not fall below `N'·D`, so `N' ≤ R`
    have hDhpos : 0 < 2 ^ (dd - 1) := by positivity
    have hdm := Nat.div_add_mod (mx * 2 ^ k1 + 2 ^ (dd - 1) - 1) (2 ^ dd)
    have hml := Nat.mod_lt (mx * 2 ^ k1 + 2 ^ (dd - 1) - 1) hDpos
    obtain ⟨N', hN'⟩ : ∃ N', N' = (mx * 2 ^ k1 + 2 ^ (dd - 1) - 1) / 2 ^ dd := ⟨_, rfl⟩
    obtain ⟨ρ', hρ'⟩ : ∃ ρ', ρ' = (mx * 2 ^ k1 + 2 ^ (dd - 1) - 1) % 2 ^ dd := ⟨_, rfl⟩
    rw [← hN', ← hρ', Nat.mul_comm] at hdm
    rw [← hρ'] at hml
    have hN1 : N' * 2 ^ dd + ρ' + 1 = mx * 2 ^ k1 + 2 ^ (dd - 1) := by omega
    have hlow := core63_lower mx k1 dd N' ρ' hmx hdd hN1 hml
    rw [← hV] at hlow hR2
    rw [← hTG, ← Nat.mul_assoc] at hlow
    have hF : N' * 2 ^ (dd - k) * 2 ^ k ≤ rne V k * 2 ^ k := Nat.mul_le_mul_right _ (le_rne hlow)
    rw [Nat.mul_assoc, hTG] at hF
    have hR : N' < R + 1 := Nat.lt_of_mul_lt_mul_right (lt_of_le_of_lt hF hR2)
    have : N' * 2 ^ dd ≤ R * 2 ^ dd := Nat.mul_le_mul_right _ (by omega)
    omega

end Spq.Conv
