/-
  C02 rounding budget: every accumulation order of `VmpErrDot.lean` is a perturbed sum under the standard
  model `StdModel ar u`:  real part `Σ (a_i c_i − b_i d_i)`, magnitudes `|a_i c_i| + |b_i d_i|`,
  imaginary part `Σ (a_i d_i + b_i c_i)`, magnitudes `|a_i d_i| + |b_i c_i|`, with
    ref: G = (1+u)^(n+2),  av1: (1+u)^(n+1),  av2: (1+u)^(2n),  sm: (1+u)^(n+1);   uniformly `(1+u)^(2n+2)`.
-/
import SpqProofs.Lemmas.VmpErrPSum
namespace Spq.VmpErr
open Finset Spq Spq.Reim4
variable {K : Type} [Field K] [LinearOrder K] [IsStrictOrderedRing K]

def xRe (a b c d : ℕ → K) : ℕ → K := fun i => a i * c i - b i * d i
def mRe (a b c d : ℕ → K) : ℕ → K := fun i => |a i * c i| + |b i * d i|
def xIm (a b c d : ℕ → K) : ℕ → K := fun i => a i * d i + b i * c i
def mIm (a b c d : ℕ → K) : ℕ → K := fun i => |a i * d i| + |b i * c i|

theorem xRe_le (a b c d : ℕ → K) (i : ℕ) : |xRe a b c d i| ≤ mRe a b c d i := by
  unfold xRe mRe
  calc |a i * c i - b i * d i| = |a i * c i + -(b i * d i)| := by rw [sub_eq_add_neg]
    _ ≤ |a i * c i| + |-(b i * d i)| := abs_add_le _ _
    _ = _ := by rw [abs_neg]
theorem xIm_le (a b c d : ℕ → K) (i : ℕ) : |xIm a b c d i| ≤ mIm a b c d i := abs_add_le _ _
theorem mRe_nonneg (a b c d : ℕ → K) (i : ℕ) : 0 ≤ mRe a b c d i := by unfold mRe; positivity
theorem mIm_nonneg (a b c d : ℕ → K) (i : ℕ) : 0 ≤ mIm a b c d i := by unfold mIm; positivity

theorem one_le_opow {u : K} (hu : 0 ≤ u) (e : ℕ) : (1 : K) ≤ (1 + u) ^ e := one_le_pow₀ (by linarith)
theorem opow_mono {u : K} (hu : 0 ≤ u) {e e' : ℕ} (h : e ≤ e') : (1 + u) ^ e ≤ (1 + u) ^ e' :=
  pow_le_pow_right₀ (by linarith) h

/-- two fused steps: the shape of the 2-column AVX2 kernel -/
theorem PSum.step2 {n : ℕ} {x m : ℕ → K} {G s u δ1 δ2 P Q : K} (h : PSum n x m G s) (hx : ∀ i, i < n → |x i| ≤ m i)
    (hG : 1 ≤ G) (h1 : |δ1| ≤ u) (h2 : |δ2| ≤ u) (hxn : x n = P + Q) (hmn : m n = |P| + |Q|) :
    PSum (n + 1) x m (G * (1 + u) * (1 + u)) ((s + Q) * (1 + δ1) * (1 + δ2) + P * (1 + δ2)) := by
  have hu : 0 ≤ u := le_trans (abs_nonneg _) h1
  have hG1 : 1 ≤ G * (1 + u) := one_le_mul_of_one_le_of_one_le hG (by linarith)
  have hs := (h.scale hx hG h1).scale hx hG1 h2
  have he : |Q * ((1 + δ1) * (1 + δ2) - 1) + P * δ2| ≤ (G * (1 + u) * (1 + u) - 1) * m n := by
    have a1 : |(1 + δ1) * (1 + δ2) - 1| ≤ (1 + u) * (1 + u) - 1 := by
      have : (1 + δ1) * (1 + δ2) - 1 = δ1 + δ2 + δ1 * δ2 := by ring
      rw [this]
      calc |δ1 + δ2 + δ1 * δ2| ≤ |δ1 + δ2| + |δ1 * δ2| := abs_add_le _ _
        _ ≤ |δ1| + |δ2| + |δ1| * |δ2| := by rw [abs_mul]; linarith [abs_add_le δ1 δ2]
        _ ≤ u + u + u * u := by
          have := mul_le_mul h1 h2 (abs_nonneg _) hu
          linarith
        _ = _ := by ring
    have a2 : |Q * ((1 + δ1) * (1 + δ2) - 1)| ≤ |Q| * ((1 + u) * (1 + u) - 1) := by
      rw [abs_mul]; exact mul_le_mul_of_nonneg_left a1 (abs_nonneg _)
    have a3 : |P * δ2| ≤ |P| * u := by rw [abs_mul]; exact mul_le_mul_of_nonneg_left h2 (abs_nonneg _)
    have a4 : |P| * u ≤ |P| * ((1 + u) * (1 + u) - 1) := mul_le_mul_of_nonneg_left (by linarith [mul_nonneg hu hu]) (abs_nonneg _)
    have a5 : ((1 + u) * (1 + u) - 1) * (|P| + |Q|) ≤ (G * (1 + u) * (1 + u) - 1) * (|P| + |Q|) :=
      mul_le_mul_of_nonneg_right
        (by linarith [mul_le_mul_of_nonneg_right hG (show (0 : K) ≤ (1 + u) * (1 + u) by positivity)]) (by positivity)
    rw [hmn]
    calc |Q * ((1 + δ1) * (1 + δ2) - 1) + P * δ2| ≤ |Q * ((1 + δ1) * (1 + δ2) - 1)| + |P * δ2| := abs_add_le _ _
      _ ≤ ((1 + u) * (1 + u) - 1) * (|P| + |Q|) := by linarith
      _ ≤ _ := a5
  have := hs.snoc he
  have e : s * (1 + δ1) * (1 + δ2) + (x n + (Q * ((1 + δ1) * (1 + δ2) - 1) + P * δ2)) =
      (s + Q) * (1 + δ1) * (1 + δ2) + P * (1 + δ2) := by rw [hxn]; ring
  rw [e] at this
  exact this

variable (ar : RArith K) (u : K) (sm : StdModel ar u) (a b c d : ℕ → K)
include sm

theorem ref_psum (n : ℕ) :
    PSum n (xRe a b c d) (mRe a b c d) ((1 + u) ^ (n + 2)) (refRe ar a b c d n) ∧
    PSum n (xIm a b c d) (mIm a b c d) ((1 + u) ^ (n + 2)) (refIm ar a b c d n) := by
  have hu := sm.u_nonneg
  induction n with
  | zero => rw [refRe, refIm, sm.zero]; exact ⟨PSum.zero _ _ _, PSum.zero _ _ _⟩
  | succ n ih =>
    have hp : (1 + u) ^ (n + 1 + 2) = (1 + u) ^ (n + 2) * (1 + u) := pow_succ _ _
    rw [hp, refRe, refIm]
    exact ⟨ih.1.step (G' := (1 + u) ^ 2) (t := reRef ar (a n) (b n) (c n) (d n)) (fun i _ => xRe_le a b c d i) hu
        (one_le_opow hu _) (opow_mono hu (by omega)) (reRef_err ar u sm (a n) (b n) (c n) (d n)).1 (sm.add _ _),
      ih.2.step (G' := (1 + u) ^ 2) (t := imRef ar (a n) (b n) (c n) (d n)) (fun i _ => xIm_le a b c d i) hu
        (one_le_opow hu _) (opow_mono hu (by omega)) (imRef_err ar u sm (a n) (b n) (c n) (d n)).1 (sm.add _ _)⟩

theorem sm_psum (k : ℕ) :
    PSum (k + 1) (xRe a b c d) (mRe a b c d) ((1 + u) ^ (k + 2)) (smRe ar a b c d k) ∧
    PSum (k + 1) (xIm a b c d) (mIm a b c d) ((1 + u) ^ (k + 2)) (smIm ar a b c d k) := by
  have hu := sm.u_nonneg
  induction k with
  | zero =>
    rw [smRe, smIm]
    have r := (PSum.zero (xRe a b c d) (mRe a b c d) ((1 + u) ^ (0 + 2))).snoc
      (e := reRef ar (a 0) (b 0) (c 0) (d 0) - xRe a b c d 0) (reRef_err ar u sm (a 0) (b 0) (c 0) (d 0)).1
    have i := (PSum.zero (xIm a b c d) (mIm a b c d) ((1 + u) ^ (0 + 2))).snoc
      (e := imRef ar (a 0) (b 0) (c 0) (d 0) - xIm a b c d 0) (imRef_err ar u sm (a 0) (b 0) (c 0) (d 0)).1
    rw [show (0 : K) + (xRe a b c d 0 + (reRef ar (a 0) (b 0) (c 0) (d 0) - xRe a b c d 0)) =
      reRef ar (a 0) (b 0) (c 0) (d 0) by ring] at r
    rw [show (0 : K) + (xIm a b c d 0 + (imRef ar (a 0) (b 0) (c 0) (d 0) - xIm a b c d 0)) =
      imRef ar (a 0) (b 0) (c 0) (d 0) by ring] at i
    exact ⟨r, i⟩
  | succ k ih =>
    have hp : (1 + u) ^ (k + 1 + 2) = (1 + u) ^ (k + 2) * (1 + u) := pow_succ _ _
    rw [hp, smRe, smIm]
    exact ⟨ih.1.step (G' := (1 + u) ^ 2) (t := reRef ar (a (k + 1)) (b (k + 1)) (c (k + 1)) (d (k + 1))) (fun i _ => xRe_le a b c d i) hu
        (one_le_opow hu _) (opow_mono hu (by omega)) (reRef_err ar u sm (a (k + 1)) (b (k + 1)) (c (k + 1)) (d (k + 1))).1 (sm.add _ _),
      ih.2.step (G' := (1 + u) ^ 2) (t := imRef ar (a (k + 1)) (b (k + 1)) (c (k + 1)) (d (k + 1))) (fun i _ => xIm_le a b c d i) hu
        (one_le_opow hu _) (opow_mono hu (by omega)) (imRef_err ar u sm (a (k + 1)) (b (k + 1)) (c (k + 1)) (d (k + 1))).1 (sm.add _ _)⟩

theorem chain_psum (p q : ℕ → K) (n : ℕ) :
    PSum n (fun i => p i * q i) (fun i => |p i * q i|) ((1 + u) ^ n) (fmaChain ar p q n) := by
  have hu := sm.u_nonneg
  induction n with
  | zero => rw [fmaChain, sm.zero]; exact PSum.zero _ _ _
  | succ n ih =>
    rw [pow_succ, fmaChain]
    refine ih.step (G' := 1) (t := p n * q n) (fun i _ => le_refl _) hu (one_le_opow hu _) (one_le_opow hu _)
      (by simp) ?_
    have := sm.fma (p n) (q n) (fmaChain ar p q n)
    rw [add_comm (fmaChain ar p q n)]
    exact this

theorem av1_psum (n : ℕ) :
    PSum n (xRe a b c d) (mRe a b c d) ((1 + u) ^ (n + 1)) (av1Re ar a b c d n) ∧
    PSum n (xIm a b c d) (mIm a b c d) ((1 + u) ^ (n + 1)) (av1Im ar a b c d n) := by
  have hu := sm.u_nonneg
  constructor
  · obtain ⟨δ, hδ, he⟩ := rel_factor hu (sm.sub (fmaChain ar a c n) (fmaChain ar b d n))
    have h := ((chain_psum ar u sm a c n).addsg (chain_psum ar u sm b d n) (sg := -1) (Or.inr rfl)).scale
      (fun i _ => by
        have := xRe_le a b c d i
        unfold xRe mRe at this
        simpa [sub_eq_add_neg] using this) (one_le_opow hu _) hδ
    rw [pow_succ]
    unfold av1Re
    rw [he, sub_eq_add_neg, ← neg_one_mul (fmaChain ar b d n)]
    have ex : (fun i => a i * c i + -1 * (b i * d i)) = xRe a b c d := by
      funext i; unfold xRe; ring
    rw [ex] at h
    exact h
  · obtain ⟨δ, hδ, he⟩ := rel_factor hu (sm.add (fmaChain ar a d n) (fmaChain ar b c n))
    have h := ((chain_psum ar u sm a d n).addsg (chain_psum ar u sm b c n) (sg := 1) (Or.inl rfl)).scale
      (fun i _ => by
        have := xIm_le a b c d i
        unfold xIm mIm at this
        simpa using this) (one_le_opow hu _) hδ
    rw [pow_succ]
    unfold av1Im
    rw [he]
    have ex : (fun i => a i * d i + 1 * (b i * c i)) = xIm a b c d := by
      funext i; unfold xIm; ring
    rw [ex, one_mul] at h
    exact h

theorem av2_psum (n : ℕ) :
    PSum n (xRe a b c d) (mRe a b c d) ((1 + u) ^ (2 * n)) (av2Re ar a b c d n) ∧
    PSum n (xIm a b c d) (mIm a b c d) ((1 + u) ^ (2 * n)) (av2Im ar a b c d n) := by
  have hu := sm.u_nonneg
  induction n with
  | zero => rw [av2Re, av2Im, sm.zero]; exact ⟨PSum.zero _ _ _, PSum.zero _ _ _⟩
  | succ n ih =>
    have hp : (1 + u) ^ (2 * (n + 1)) = (1 + u) ^ (2 * n) * (1 + u) * (1 + u) := by
      rw [show 2 * (n + 1) = 2 * n + 1 + 1 by ring, pow_succ, pow_succ]
    rw [hp, av2Re, av2Im]
    constructor
    · obtain ⟨δ1, h1, e1⟩ := rel_factor hu (sm.fms (b n) (d n) (av2Re ar a b c d n))
      obtain ⟨δ2, h2, e2⟩ := rel_factor hu (sm.fms (a n) (c n) (ar.fms (b n) (d n) (av2Re ar a b c d n)))
      have := ih.1.step2 (P := a n * c n) (Q := -(b n * d n)) (fun i _ => xRe_le a b c d i) (one_le_opow hu _) h1 h2
        (by unfold xRe; ring) (by unfold mRe; rw [abs_neg])
      rw [e2, e1]
      have ex : (a n * c n - (b n * d n - av2Re ar a b c d n) * (1 + δ1)) * (1 + δ2) =
          (av2Re ar a b c d n + -(b n * d n)) * (1 + δ1) * (1 + δ2) + a n * c n * (1 + δ2) := by ring
      rw [ex]
      exact this
    · obtain ⟨δ1, h1, e1⟩ := rel_factor hu (sm.fma (a n) (d n) (av2Im ar a b c d n))
      obtain ⟨δ2, h2, e2⟩ := rel_factor hu (sm.fma (b n) (c n) (ar.fma (a n) (d n) (av2Im ar a b c d n)))
      have := ih.2.step2 (P := b n * c n) (Q := a n * d n) (fun i _ => xIm_le a b c d i) (one_le_opow hu _) h1 h2
        (by unfold xIm; ring) (by unfold mIm; ring)
      rw [e2, e1]
      have ex : (b n * c n + (a n * d n + av2Im ar a b c d n) * (1 + δ1)) * (1 + δ2) =
          (av2Im ar a b c d n + a n * d n) * (1 + δ1) * (1 + δ2) + b n * c n * (1 + δ2) := by ring
      rw [ex]
      exact this

theorem dot_psum (Kd : DotK) (n : ℕ) (hn : Kd = .sm → 1 ≤ n) :
    PSum n (xRe a b c d) (mRe a b c d) ((1 + u) ^ (2 * n + 2)) (dotRe ar Kd a b c d n) ∧
    PSum n (xIm a b c d) (mIm a b c d) ((1 + u) ^ (2 * n + 2)) (dotIm ar Kd a b c d n) := by
  have hu := sm.u_nonneg
  cases Kd with
  | ref =>
    obtain ⟨h1, h2⟩ := ref_psum ar u sm a b c d n
    exact ⟨h1.mono (fun i _ => mRe_nonneg a b c d i) (opow_mono hu (by omega)),
      h2.mono (fun i _ => mIm_nonneg a b c d i) (opow_mono hu (by omega))⟩
  | av1 =>
    obtain ⟨h1, h2⟩ := av1_psum ar u sm a b c d n
    exact ⟨h1.mono (fun i _ => mRe_nonneg a b c d i) (opow_mono hu (by omega)),
      h2.mono (fun i _ => mIm_nonneg a b c d i) (opow_mono hu (by omega))⟩
  | av2 =>
    obtain ⟨h1, h2⟩ := av2_psum ar u sm a b c d n
    exact ⟨h1.mono (fun i _ => mRe_nonneg a b c d i) (opow_mono hu (by omega)),
      h2.mono (fun i _ => mIm_nonneg a b c d i) (opow_mono hu (by omega))⟩
  | sm =>
    have h1n := hn rfl
    obtain ⟨k, rfl⟩ : ∃ k, n = k + 1 := ⟨n - 1, by omega⟩
    obtain ⟨h1, h2⟩ := sm_psum ar u sm a b c d k
    simp only [dotRe, dotIm, Nat.add_sub_cancel]
    exact ⟨h1.mono (fun i _ => mRe_nonneg a b c d i) (opow_mono hu (by omega)),
      h2.mono (fun i _ => mIm_nonneg a b c d i) (opow_mono hu (by omega))⟩

end Spq.VmpErr
