/-
  C05, per-coefficient level: the specification `balancedDigits` (exact integer arithmetic, least significant
  limb first) and the proof that the model's chain of `normCoef` steps computes it when all limbs satisfy `|a_i| ≤ 2^62`.

  Limb lists are written most significant limb first (index 0 = most significant, as in the C API);
  the recursion `a :: as` therefore handles the *less* significant limbs `as` first and then `a`.
-/
import SpqProofs.Lemmas.NormDigit
import Mathlib.Tactic.LinearCombination
namespace Spq.Norm
open Spq Coeffs

/-- `|v| ≤ 2^62` with literal bounds -/
def Bnd62 (v : Int) : Prop := -4611686018427387904 ≤ v ∧ v ≤ 4611686018427387904

theorem bnd62_zero : Bnd62 0 := by unfold Bnd62; omega

theorem pow_le_62 (k : Nat) (hk : k ≤ 62) : (2 : Int) ^ k ≤ 4611686018427387904 := by
  have e : (2 : Int) ^ k * 2 ^ (62 - k) = 4611686018427387904 := by
    rw [← pow_add, show k + (62 - k) = 62 by omega]; norm_num
  have hP : (0 : Int) < 2 ^ k := by positivity
  have hM : (0 : Int) < 2 ^ (62 - k) := by positivity
  have : (2 : Int) ^ k * 1 ≤ 2 ^ k * 2 ^ (62 - k) := mul_le_mul_of_nonneg_left (by linarith) (le_of_lt hP)
  linarith

theorem balCarry_bound (k : Nat) (hk : 1 ≤ k) (hk' : k ≤ 63) (t : Int)
    (h1 : -9223372036854775808 ≤ t) (h2 : t ≤ 9223372036854775808) :
    -2 ^ (63 - k) ≤ balCarry k t ∧ balCarry k t ≤ 2 ^ (63 - k) := by
  have hPM := pow_mul_63 k hk'
  have hP : (0 : Int) < 2 ^ k := by positivity
  obtain ⟨g1, g2⟩ := bal_range k hk t
  have gd := bal_decomp k t
  have hsp := pow_split k hk
  have hH : (0 : Int) < 2 ^ (k - 1) := by positivity
  generalize balDigit k t = y at *
  generalize balCarry k t = Q at *
  generalize (2 : Int) ^ (63 - k) = M at *
  generalize (2 : Int) ^ (k - 1) = H at *
  generalize (2 : Int) ^ k = P at *
  constructor
  · by_contra hcon
    have : (Q + M + 1) * P ≤ 0 * P := mul_le_mul_of_nonneg_right (by linarith) (le_of_lt hP)
    have e : (Q + M + 1) * P = Q * P + P * M + P := by ring
    linarith
  · by_contra hcon
    have : 1 * P ≤ (Q - M) * P := mul_le_mul_of_nonneg_right (by linarith) (le_of_lt hP)
    have e : (Q - M) * P = Q * P - P * M := by ring
    linarith

theorem balCarry_bnd62 (k : Nat) (hk : 1 ≤ k) (hk' : k ≤ 63) (t : Int)
    (h1 : -9223372036854775808 ≤ t) (h2 : t ≤ 9223372036854775808) : Bnd62 (balCarry k t) := by
  obtain ⟨b1, b2⟩ := balCarry_bound k hk hk' t h1 h2
  have : (2 : Int) ^ (63 - k) ≤ 4611686018427387904 := pow_le_62 (63 - k) (by omega)
  unfold Bnd62; constructor <;> linarith

theorem normCoef_eq (k : Nat) (hk : 1 ≤ k) (hk' : k ≤ 62) (x : Int) (hx : Bnd62 x)
    (c : Option Int) (hc : Bnd62 (c.getD 0)) :
    normCoef k x c = (balDigit k (x + c.getD 0), balCarry k (x + c.getD 0)) := by
  have hP := pow_le_62 k hk'
  have hsp := pow_split k hk
  have hH : (0 : Int) < 2 ^ (k - 1) := by positivity
  unfold Bnd62 at hx hc
  cases c with
  | none =>
    simp only [Option.getD_none, add_zero]
    apply normCoef_none k hk (by omega) <;> linarith [hx.1, hx.2]
  | some c =>
    simp only [Option.getD_some] at hc ⊢
    apply normCoef_some k hk (by omega) <;> linarith [hx.1, hx.2, hc.1, hc.2]

theorem limb_step (k : Nat) (hk : 1 ≤ k) (hk' : k ≤ 62) (x : Int) (hx : Bnd62 x) (c : Option Int)
    (hc : Bnd62 (c.getD 0)) :
    x + c.getD 0 = (normCoef k x c).1 + (normCoef k x c).2 * 2 ^ k ∧
    -2 ^ (k - 1) ≤ (normCoef k x c).1 ∧ (normCoef k x c).1 < 2 ^ (k - 1) ∧
    -2 ^ (63 - k) ≤ (normCoef k x c).2 ∧ (normCoef k x c).2 ≤ 2 ^ (63 - k) ∧ Bnd62 (normCoef k x c).2 := by
  rw [normCoef_eq k hk hk' x hx c hc]
  unfold Bnd62 at hx hc
  have l : -9223372036854775808 ≤ x + c.getD 0 := by linarith [hx.1, hc.1]
  have u : x + c.getD 0 ≤ 9223372036854775808 := by linarith [hx.2, hc.2]
  have b := balCarry_bound k hk (by omega) _ l u
  exact ⟨bal_decomp k _, (bal_range k hk _).1, (bal_range k hk _).2, b.1, b.2, balCarry_bnd62 k hk (by omega) _ l u⟩

/-- balanced base-`2^k` digits of a limb list (most significant first) and the carry out of the most
    significant limb: exact integer arithmetic, processed from the least significant limb -/
def balancedDigits (k : Nat) : List Int → List Int × Int
  | [] => ([], 0)
  | a :: as =>
    let r := balancedDigits k as
    (balDigit k (a + r.2) :: r.1, balCarry k (a + r.2))

/-- value `Σ_i a_i 2^(k (n-1-i))` -/
def val (k : Nat) : List Int → Int
  | [] => 0
  | a :: as => a * 2 ^ (k * as.length) + val k as

def Balanced (k : Nat) (ds : List Int) : Prop := ∀ d ∈ ds, -2 ^ (k - 1) ≤ d ∧ d < 2 ^ (k - 1)

@[simp] theorem length_balancedDigits (k : Nat) (as : List Int) :
    (balancedDigits k as).1.length = as.length := by
  induction as with
  | nil => rfl
  | cons a as ih => simp [balancedDigits, ih]

theorem balancedDigits_drop (k : Nat) (as : List Int) (i : Nat) :
    (balancedDigits k (as.drop i)).1 = (balancedDigits k as).1.drop i := by
  induction as generalizing i with
  | nil => simp [balancedDigits]
  | cons a as ih =>
    cases i with
    | zero => rfl
    | succ i => simp [balancedDigits, ih]

theorem balancedDigits_val (k : Nat) (as : List Int) :
    val k (balancedDigits k as).1 + (balancedDigits k as).2 * 2 ^ (k * as.length) = val k as := by
  induction as with
  | nil => simp [balancedDigits, val]
  | cons a as ih =>
    simp only [balancedDigits, val, length_balancedDigits, List.length_cons]
    have hd := bal_decomp k (a + (balancedDigits k as).2)
    have hp : (2 : Int) ^ (k * (as.length + 1)) = 2 ^ k * 2 ^ (k * as.length) := by
      rw [Nat.mul_succ, pow_add]; ring
    rw [hp]
    generalize balDigit k (a + (balancedDigits k as).2) = d at *
    generalize balCarry k (a + (balancedDigits k as).2) = q at *
    have : a * 2 ^ (k * as.length) + (balancedDigits k as).2 * 2 ^ (k * as.length)
        = (d + q * 2 ^ k) * 2 ^ (k * as.length) := by rw [← hd]; ring
    linarith [this, add_mul d (q * 2 ^ k) ((2 : Int) ^ (k * as.length)),
      mul_assoc q ((2 : Int) ^ k) (2 ^ (k * as.length))]

theorem balancedDigits_balanced (k : Nat) (hk : 1 ≤ k) (as : List Int) :
    Balanced k (balancedDigits k as).1 := by
  induction as with
  | nil => intro d hd; simp [balancedDigits] at hd
  | cons a as ih =>
    intro d hd
    simp only [balancedDigits, List.mem_cons] at hd
    rcases hd with rfl | hd
    · exact bal_range k hk _
    · exact ih d hd

theorem balancedDigits_congr (k : Nat) (as : List Int) :
    (2 : Int) ^ (k * as.length) ∣ val k as - val k (balancedDigits k as).1 := by
  refine ⟨(balancedDigits k as).2, ?_⟩
  have := balancedDigits_val k as
  linarith

theorem balanced_unique (k : Nat) (hk : 1 ≤ k) (ds ds' : List Int) (hl : ds.length = ds'.length)
    (hb : Balanced k ds) (hb' : Balanced k ds')
    (hc : (2 : Int) ^ (k * ds.length) ∣ val k ds - val k ds') : ds = ds' := by
  induction ds generalizing ds' with
  | nil =>
    cases ds' with
    | nil => rfl
    | cons _ _ => simp at hl
  | cons d ds ih =>
    cases ds' with
    | nil => simp at hl
    | cons d' ds' =>
      simp only [List.length_cons, Nat.add_right_cancel_iff] at hl
      simp only [val, List.length_cons] at hc
      rw [← hl] at hc
      have hp : (2 : Int) ^ (k * (ds.length + 1)) = 2 ^ k * 2 ^ (k * ds.length) := by
        rw [Nat.mul_succ, pow_add]; ring
      rw [hp] at hc
      have hM : (0 : Int) < 2 ^ (k * ds.length) := by positivity
      generalize (2 : Int) ^ (k * ds.length) = M at *
      have htail : ds = ds' := by
        apply ih ds' hl (fun x hx => hb x (List.mem_cons_of_mem _ hx))
          (fun x hx => hb' x (List.mem_cons_of_mem _ hx))
        obtain ⟨t, ht⟩ := hc
        exact ⟨2 ^ k * t - (d - d'), by linear_combination ht⟩
      subst htail
      have hd : (2 : Int) ^ k ∣ d - d' := by
        obtain ⟨t, ht⟩ := hc
        refine ⟨t, ?_⟩
        have : (d - d') * M = (2 ^ k * t) * M := by linear_combination ht
        exact Int.eq_of_mul_eq_mul_right (ne_of_gt hM) this
      have h1 := hb d (by simp)
      have h2 := hb' d' (by simp)
      have hsp := pow_split k hk
      have : d - d' = 0 := by
        apply Int.eq_zero_of_abs_lt_dvd hd
        rw [abs_lt]; constructor <;> linarith [h1.1, h1.2, h2.1, h2.2]
      rw [show d = d' by linarith]

/-- the model's per-coefficient chain: limbs processed from the least significant one, the first step
    without carry-in (`carry_in = NULL`), every later step with the carry of the previous one -/
def normChain (k : Nat) : List Int → List Int × Option Int
  | [] => ([], none)
  | a :: as =>
    let r := normChain k as
    let s := normCoef k a r.2
    (s.1 :: r.1, some s.2)

@[simp] theorem length_normChain (k : Nat) (as : List Int) : (normChain k as).1.length = as.length := by
  induction as with
  | nil => rfl
  | cons a as ih => simp [normChain, ih]

/-- one `znx_normalize` step is exact on limbs in `D` and keeps the carry invariant `C`
    (`t = x + carry-in`; `C` is what re-establishes the hypothesis of the next step) -/
def ExactStep (k : Nat) (D C : Int → Prop) : Prop :=
  C 0 ∧ ∀ x (c : Option Int), D x → C (c.getD 0) →
    normCoef k x c = (balDigit k (x + c.getD 0), balCarry k (x + c.getD 0)) ∧
    C (balCarry k (x + c.getD 0))

theorem normChain_eq_of (k : Nat) (D C : Int → Prop) (hD : ExactStep k D C) (as : List Int)
    (ha : ∀ a ∈ as, D a) :
    (normChain k as).1 = (balancedDigits k as).1 ∧
    (normChain k as).2.getD 0 = (balancedDigits k as).2 ∧
    C (balancedDigits k as).2 := by
  induction as with
  | nil => exact ⟨rfl, rfl, hD.1⟩
  | cons a as ih =>
    obtain ⟨e1, e2, e3⟩ := ih (fun x hx => ha x (List.mem_cons_of_mem _ hx))
    obtain ⟨s1, s2⟩ := hD.2 a (normChain k as).2 (ha a (by simp)) (by rw [e2]; exact e3)
    simp only [normChain, balancedDigits]
    rw [s1, e1, e2] at *
    exact ⟨rfl, rfl, s2⟩

theorem exactStep_bnd62 (k : Nat) (hk : 1 ≤ k) (hk' : k ≤ 62) : ExactStep k Bnd62 Bnd62 := by
  refine ⟨bnd62_zero, ?_⟩
  intro x c hx hc
  refine ⟨normCoef_eq k hk hk' x hx c hc, ?_⟩
  unfold Bnd62 at hx hc
  apply balCarry_bnd62 k hk (by omega) <;> linarith [hx.1, hx.2, hc.1, hc.2]

end Spq.Norm
