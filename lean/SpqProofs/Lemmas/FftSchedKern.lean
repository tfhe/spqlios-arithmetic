/-
  Structural kernel layer: the array kernels (forward and inverse) advance their block of the network `VN g a` /
  `VNI k g y` whenever the butterflies they execute (butterfly function + the table entries they read) are the `g`'s
  of the blocks.  `Adv N f A B off sz` states this for a kernel `f`; the one-level passes are stated for any `Step`, so
  they serve `VN` and `VNI` alike; the 16-point leaves (and the transforms of size ≤ 8 in `…Top`, `…InvTop`) are
  composed from them by `Adv.seq` / `par` / `sweep`, in the order in which the kernels are written.
-/
import SpqProofs.Lemmas.FftSchedSim
import SpqProofs.Lemmas.FftSchedLevel

namespace Spq.Fft.KernN
open Spq.Fft Spq.Fft.Alg Spq.Fft.View Spq.Fft.Sim Spq.Fft.SimP Spq.Fft.LevelN

variable {R : Type} [Inhabited R]
def Adv (N : ℕ) (f : RI R → RI R) (A B : ℕ → R × R) (off sz : ℕ) : Prop :=
  ∀ s, Valid N s → AdvG A B (prs s) (prs (f s)) off sz ∧ Valid N (f s)

section adv
variable {N : ℕ} {f f1 f2 : RI R → RI R} {A B C : ℕ → R × R} {off sz sz1 sz2 : ℕ}

theorem Adv.seq (h1 : Adv N f1 A B off sz) (h2 : Adv N f2 B C off sz) : Adv N (fun s => f2 (f1 s)) A C off sz :=
  fun s hs => ⟨(h1 s hs).1.seq (h2 _ (h1 s hs).2).1, (h2 _ (h1 s hs).2).2⟩

theorem Adv.par (h1 : Adv N f1 A B off sz1) (h2 : Adv N f2 A B (off + sz1) sz2) :
    Adv N (fun s => f2 (f1 s)) A B off (sz1 + sz2) :=
  fun s hs => ⟨(h1 s hs).1.par (h2 _ (h1 s hs).2).1, (h2 _ (h1 s hs).2).2⟩

theorem Adv.of_eq {f' : RI R → RI R} {off' sz' : ℕ} (h : Adv N f A B off sz) (hf : ∀ s, f' s = f s) (ho : off' = off)
    (hz : sz' = sz) : Adv N f' A B off' sz' := by
  subst ho hz; intro s hs; rw [hf]; exact h s hs

theorem Adv.sweep (fb : ℕ → RI R → RI R) (n : ℕ) (h : ∀ b, b < n → Adv N (fb b) A B (off + b * sz) sz) :
    Adv N (fun s => iterFrom fb n 0 s) A B off (n * sz) := by
  induction n with
  | zero => exact fun s hs => ⟨by simpa [iterFrom] using AdvG.empty A B _ off, hs⟩
  | succ n ih =>
    exact ((ih (fun b hb => h b (by omega))).par (h n (by omega))).of_eq
      (fun s => by rw [iterFrom_succ_last, Nat.zero_add]) rfl (by ring)

end adv

section step
variable {gl : ℕ → R × R → R × R → (R × R) × (R × R)} {d : ℕ} {A B : ℕ → R × R} {N : ℕ}

theorem twPass_adv (hL : Step gl d A B) (f : Bf R) (b off : ℕ) (wr wi : R) (hoff : off = 2 * 2 ^ d * b)
    (hN : off + 2 * 2 ^ d ≤ N) (hq : bfV f wr wi = gl b) : Adv N (twPass f (2 ^ d) off wr wi) A B off (2 * 2 ^ d) := by
  intro s hs
  have h1 := twPass_sim N f wr wi _ _ (realP f wr wi) (2 ^ d) off s hs (by omega)
  rw [h1.1]
  exact ⟨hL.tw _ b off hoff _ hq, h1.2⟩

theorem tw_adv (hL : Step gl d A B) (fn : Bf R) (wr wi : R) (b off h : ℕ) (ia ib : ℕ → ℕ) (hh : h = 2 ^ d)
    (hoff : off = 2 * h * b) (hN : off + 2 * h ≤ N) (ha : ∀ i, ia i = off + i) (hb : ∀ i, ib i = off + h + i)
    (hq : bfV fn wr wi = gl b) :
    Adv N (fun s => iterFrom (fun i s => bf fn s (ia i) (ib i) wr wi) h 0 s) A B off (2 * h) := by
  subst hh
  obtain rfl : ia = fun i => off + i := funext ha
  obtain rfl : ib = fun i => off + 2 ^ d + i := funext hb
  exact twPass_adv hL fn b off wr wi hoff hN hq

theorem pair1_adv (hL : Step gl 0 A B) (fn : Bf R) (wr wi : R) (b p p1 : ℕ) (hp : p = 2 * b) (h1 : p1 = p + 1)
    (hN : p + 2 ≤ N) (hq : bfV fn wr wi = gl b) : Adv N (fun s => bf fn s p p1 wr wi) A B p 2 := by
  subst h1
  intro s0 hs
  have h1 := SimP.bf_sim N fn wr wi _ _ (realP fn wr wi) s0 p (p + 1) hs (by omega) (by omega) (by omega)
  rw [h1.1, G_eq_twG1]
  exact ⟨hL.tw _ b p (by omega) _ hq, h1.2⟩

theorem pair2_adv (hL : Step gl 1 A B) (fn : Bf R) (wr wi : R) (b p p1 p2 p3 : ℕ) (hp : p = 4 * b)
    (h1 : p1 = p + 1) (h2 : p2 = p + 2) (h3 : p3 = p + 3) (hN : p + 4 ≤ N) (hq : bfV fn wr wi = gl b) :
    Adv N (fun s => bf fn (bf fn s p p2 wr wi) p1 p3 wr wi) A B p 4 := by
  intro s0 hs
  have e := SimP.bf2_sim N fn fn wr wi wr wi _ _ _ _ (realP fn wr wi) (realP fn wr wi) s0 p p2 p1 p3 hs (by omega)
    (by omega) (by omega) (by omega) (by omega) (by omega)
  rw [e.1, G_G_eq_twG2 _ _ p p1 p2 p3 h1 h2 h3]
  exact ⟨hL.tw _ b p (by omega) _ hq, e.2⟩

/-- the loop of `bitwiddle` / `invbitwiddle` on the pairs `(off+i, off+2h+i)`, `(off+h+i, off+3h+i)`: one level of
    block `b`, on cells `2h` apart -/
theorem wide_adv (hL : Step gl (d + 1) A B) (fn : Bf R) (wr wi : R) (b off h : ℕ) (hh : h = 2 ^ d)
    (hoff : off = 4 * h * b) (hN : off + 4 * h ≤ N) (hq : bfV fn wr wi = gl b) :
    Adv N (fun s => iterFrom (fun i s => bf fn (bf fn s (off + i) (off + 2 * h + i) wr wi) (off + h + i)
      (off + 3 * h + i) wr wi) h 0 s) A B off (4 * h) := by
  intro s hs
  have l := loop_sim N
    (fun i s => bf fn (bf fn s (off + i) (off + 2 * h + i) wr wi) (off + h + i) (off + 3 * h + i) wr wi)
    (fun i x => G _ _ (off + h + i) (off + 3 * h + i) (G _ _ (off + i) (off + 2 * h + i) x)) h
    (fun j s hj hs => bf2_sim N fn fn wr wi wr wi _ _ _ _ (realP fn wr wi) (realP fn wr wi) s _ _ _ _ hs (by omega)
      (by omega) (by omega) (by omega) (by omega) (by omega)) s hs
  rw [loop2] at l
  rw [l.1]
  have e2 : 2 ^ (d + 1) = 2 * h := by rw [pow_succ, hh]; ring
  have := hL.tw (prs s) b off (by rw [e2, hoff]; ring) _ hq
  rw [e2] at this
  exact ⟨this.of_eq rfl (by ring), l.2⟩

/-- the other loop, on the pairs `(off+i, off+h+i)`, `(off+2h+i, off+3h+i)`: one level of the blocks `2b`, `2b+1` -/
theorem halves_adv (hL : Step gl d A B) (fn fn' : Bf R) (wr wi : R) (b off h : ℕ) (hh : h = 2 ^ d)
    (hoff : off = 4 * h * b) (hN : off + 4 * h ≤ N) (hq : bfV fn wr wi = gl (2 * b))
    (hq' : bfV fn' wr wi = gl (2 * b + 1)) :
    Adv N (fun s => iterFrom (fun i s => bf fn' (bf fn s (off + i) (off + h + i) wr wi) (off + 2 * h + i)
      (off + 3 * h + i) wr wi) h 0 s) A B off (4 * h) := by
  intro s hs
  have l := loop_sim N
    (fun i s => bf fn' (bf fn s (off + i) (off + h + i) wr wi) (off + 2 * h + i) (off + 3 * h + i) wr wi)
    (fun i x => G _ _ (off + 2 * h + i) (off + 3 * h + i) (G _ _ (off + i) (off + h + i) x)) h
    (fun j s hj hs => bf2_sim N fn fn' wr wi wr wi _ _ _ _ (realP fn wr wi) (realP fn' wr wi) s _ _ _ _ hs (by omega)
      (by omega) (by omega) (by omega) (by omega) (by omega)) s hs
  rw [loop3] at l
  rw [l.1]
  subst hh
  exact ⟨((hL.tw (prs s) (2 * b) off (by rw [hoff]; ring) _ hq).par
    (hL.tw _ (2 * b + 1) (off + 2 * 2 ^ d) (by rw [hoff]; ring) _ hq')).of_eq rfl (by ring), l.2⟩

end step

/-- What a 16-point leaf on block `b` of level `ℓ` needs of a network `g`.  The leaf runs the four levels `ℓ … ℓ + 3`
of its block: `F.ct` on the block itself, and at level `ℓ + t + 1` (`t < 3`) the two halves of its sub-block `j` of
level `ℓ + t` (the blocks `2 (b 2^t + j)` and the next one) run `F.ct` and `F.cit` on ONE twiddle `tw t j`.  The
forward leaf keeps its twiddles in the order `w0, tw 0 0, tw 1 0, tw 1 1, tw 2 0, …` (`tw t j = w (2^t + j)`), the
inverse leaf in the order of its levels (`tw t j = w (j + (8 − 2·2^t))`, `w0 = w 7`). -/
structure LeafNet (F : Flav R) (g : ℕ → ℕ → ℕ → R × R → R × R → (R × R) × (R × R)) (w0 : R × R) (tw : ℕ → ℕ → R × R)
    (ℓ b : ℕ) : Prop where
  top : bfV F.ct w0.1 w0.2 = g ℓ 3 b
  even : ∀ t j, t < 3 → j < 2 ^ t →
    bfV F.ct (tw t j).1 (tw t j).2 = g (ℓ + t + 1) (2 - t) (2 * (b * 2 ^ t + j))
  odd : ∀ t j, t < 3 → j < 2 ^ t →
    bfV F.cit (tw t j).1 (tw t j).2 = g (ℓ + t + 1) (2 - t) (2 * (b * 2 ^ t + j) + 1)

theorem leaf_idx_lt {t j : ℕ} (ht : t < 3) (hj : j < 2 ^ t) : 2 ^ t + j < 8 := by
  have : 2 ^ t ≤ 2 ^ 2 := Nat.pow_le_pow_right Nat.two_pos (Nat.le_of_lt_succ ht)
  omega

section forward
variable (g : ℕ → ℕ → ℕ → R × R → R × R → (R × R) × (R × R)) (a : ℕ → R × R) {N : ℕ}

theorem bitwiddle_advN (F : Flav R) (T : Array R) (t N ℓ d b off h : ℕ) (s : RI R)
    (hs : Valid N s) (hh : h = 2 ^ d) (hoff : off = 4 * h * b) (hN : off + 4 * h ≤ N)
    (hq0 : bfV F.ct T[t]! T[t + 1]! = g ℓ (d + 1) b)
    (hq1 : bfV F.ct T[t + 2]! T[t + 3]! = g (ℓ + 1) d (2 * b))
    (hq1' : bfV F.cit T[t + 2]! T[t + 3]! = g (ℓ + 1) d (2 * b + 1)) :
    AdvN g a (prs s) (prs (bitwiddle F T t h off s)) ℓ (d + 2) (ℓ + 2) d off (4 * h) ∧
      Valid N (bitwiddle F T t h off s) :=
  ((wide_adv (VN_step g a ℓ (d + 1)) F.ct _ _ b off h hh hoff hN hq0).seq
    (halves_adv (VN_step g a (ℓ + 1) d) F.ct F.cit _ _ b off h hh hoff hN hq1 hq1')) s hs

theorem fft16K_adv (F : Flav R) (w : ℕ → R × R) (ℓ b off : ℕ) (hoff : off = 16 * b) (hN : off + 16 ≤ N)
    (hg : LeafNet F g (w 0) (fun t j => w (2 ^ t + j)) ℓ b) :
    Adv N (fft16K F w off) (VN g a ℓ 4) (VN g a (ℓ + 4) 0) off 16 := by
  have l0 := tw_adv (N := N) (VN_step g a ℓ 3) F.ct _ _ b off 8 (fun i => off + i) (fun i => off + 8 + i) rfl (by omega) (by omega)
    (fun _ => rfl) (fun _ => rfl) hg.top
  have l1a := tw_adv (N := N) (VN_step g a (ℓ + 1) 2) F.ct _ _ _ off 4 (fun i => off + i) (fun i => off + 4 + i) rfl
    (by omega) (by omega) (fun _ => rfl) (fun _ => rfl) (hg.even 0 0 (by norm_num) (by norm_num))
  have l1b := tw_adv (N := N) (VN_step g a (ℓ + 1) 2) F.cit _ _ _ (off + 8) 4 (fun i => off + 8 + i)
    (fun i => off + 12 + i) rfl (by omega) (by omega) (fun _ => rfl) (fun _ => by omega)
    (hg.odd 0 0 (by norm_num) (by norm_num))
  have l2a := pair2_adv (N := N) (VN_step g a (ℓ + 2) 1) F.ct _ _ _ off (off + 1) (off + 2) (off + 3) (by omega) rfl rfl rfl
    (by omega) (hg.even 1 0 (by norm_num) (by norm_num))
  have l2b := pair2_adv (N := N) (VN_step g a (ℓ + 2) 1) F.cit _ _ _ (off + 4) (off + 5) (off + 6) (off + 7) (by omega)
    rfl rfl rfl (by omega) (hg.odd 1 0 (by norm_num) (by norm_num))
  have l2c := pair2_adv (N := N) (VN_step g a (ℓ + 2) 1) F.ct _ _ _ (off + 8) (off + 9) (off + 10) (off + 11) (by omega)
    rfl rfl rfl (by omega) (hg.even 1 1 (by norm_num) (by norm_num))
  have l2d := pair2_adv (N := N) (VN_step g a (ℓ + 2) 1) F.cit _ _ _ (off + 12) (off + 13) (off + 14) (off + 15) (by omega)
    rfl rfl rfl (by omega) (hg.odd 1 1 (by norm_num) (by norm_num))
  have l3 := Adv.sweep (N := N) (A := VN g a (ℓ + 3) 1) (B := VN g a (ℓ + 3 + 1) 0) (off := off) (sz := 4)
    (fun q s => bf F.cit (bf F.ct s (off + 4 * q) (off + 4 * q + 1) (w (4 + q)).1 (w (4 + q)).2)
      (off + 4 * q + 2) (off + 4 * q + 3) (w (4 + q)).1 (w (4 + q)).2) 4
    (fun q hq =>
      ((pair1_adv (N := N) (VN_step g a (ℓ + 3) 0) F.ct _ _ _ (off + 4 * q) (off + 4 * q + 1) (by omega) rfl (by omega)
          (hg.even 2 q (by norm_num) hq)).par
        (pair1_adv (N := N) (VN_step g a (ℓ + 3) 0) F.cit _ _ _ (off + 4 * q + 2) (off + 4 * q + 3) (by omega)
          rfl (by omega) (hg.odd 2 q (by norm_num) hq))).of_eq (fun _ => rfl) (by omega) rfl)
  exact (((l0.seq (l1a.par l1b)).seq (((l2a.par l2b).par (l2c.of_eq (fun _ => rfl) (by omega) rfl)).par
    (l2d.of_eq (fun _ => rfl) (by omega) rfl))).seq l3).of_eq (fun _ => rfl) rfl rfl

end forward

section inverse
variable (k : ℕ) (g : ℕ → ℕ → ℕ → R × R → R × R → (R × R) × (R × R)) (y : ℕ → R × R)

theorem invbitwiddle_advN (F : Flav R) (T : Array R) (t N ℓ d b off h : ℕ) (s : RI R)
    (hs : Valid N s) (hℓ : ℓ + d + 2 = k) (hh : h = 2 ^ d) (hoff : off = 4 * h * b) (hN : off + 4 * h ≤ N)
    (hq0 : bfV F.ct T[t]! T[t + 1]! = g (ℓ + 1) d (2 * b))
    (hq0' : bfV F.cit T[t]! T[t + 1]! = g (ℓ + 1) d (2 * b + 1))
    (hq1 : bfV F.ct T[t + 2]! T[t + 3]! = g ℓ (d + 1) b) :
    AdvI k g y (prs s) (prs (invbitwiddle F T t h off s)) d (d + 2) off (4 * h) ∧
      Valid N (invbitwiddle F T t h off s) :=
  ((halves_adv (VNI_step k g y (ℓ + 1) d (by omega)) F.ct F.cit _ _ b off h hh hoff hN hq0 hq0').seq
    (wide_adv (VNI_step k g y ℓ (d + 1) (by omega)) F.ct _ _ b off h hh hoff hN hq1)) s hs

variable {N : ℕ}

theorem ifft16K_adv (F : Flav R) (w : ℕ → R × R) (ℓ b off : ℕ) (hℓ : ℓ + 4 = k) (hoff : off = 16 * b)
    (hN : off + 16 ≤ N) (hg : LeafNet F g (w 7) (fun t j => w (j + (8 - 2 * 2 ^ t))) ℓ b) :
    Adv N (ifft16K F w off) (VNI k g y 0) (VNI k g y 4) off 16 := by
  have l0 := Adv.sweep (N := N) (A := VNI k g y 0) (B := VNI k g y 1) (off := off) (sz := 4)
    (fun q s => bf F.cit (bf F.ct s (off + 4 * q) (off + 4 * q + 1) (w q).1 (w q).2)
      (off + 4 * q + 2) (off + 4 * q + 3) (w q).1 (w q).2) 4
    (fun q hq =>
      ((pair1_adv (N := N) (VNI_step k g y (ℓ + 3) 0 (by omega)) F.ct _ _ _ (off + 4 * q) (off + 4 * q + 1)
          (by omega) rfl (by omega) (hg.even 2 q (by norm_num) hq)).par
        (pair1_adv (N := N) (VNI_step k g y (ℓ + 3) 0 (by omega)) F.cit _ _ _ (off + 4 * q + 2)
          (off + 4 * q + 3) (by omega) rfl (by omega) (hg.odd 2 q (by norm_num) hq))).of_eq (fun _ => rfl) (by omega) rfl)
  have hs1 := VNI_step k g y (ℓ + 2) 1 (by omega)
  have l1a := pair2_adv (N := N) hs1 F.ct _ _ _ off (off + 1) (off + 2) (off + 3) (by omega) rfl rfl rfl (by omega)
    (hg.even 1 0 (by norm_num) (by norm_num))
  have l1b := pair2_adv (N := N) hs1 F.cit _ _ _ (off + 4) (off + 5) (off + 6) (off + 7) (by omega) rfl rfl rfl
    (by omega) (hg.odd 1 0 (by norm_num) (by norm_num))
  have l1c := pair2_adv (N := N) hs1 F.ct _ _ _ (off + 8) (off + 9) (off + 10) (off + 11) (by omega) rfl rfl rfl
    (by omega) (hg.even 1 1 (by norm_num) (by norm_num))
  have l1d := pair2_adv (N := N) hs1 F.cit _ _ _ (off + 12) (off + 13) (off + 14) (off + 15) (by omega) rfl rfl
    rfl (by omega) (hg.odd 1 1 (by norm_num) (by norm_num))
  have hs2 := VNI_step k g y (ℓ + 1) 2 (by omega)
  have l2a := tw_adv (N := N) hs2 F.ct _ _ _ off 4 (fun i => off + i) (fun i => off + 4 + i) rfl (by omega) (by omega)
    (fun _ => rfl) (fun _ => rfl) (hg.even 0 0 (by norm_num) (by norm_num))
  have l2b := tw_adv (N := N) hs2 F.cit _ _ _ (off + 8) 4 (fun i => off + 8 + i) (fun i => off + 12 + i) rfl
    (by omega) (by omega) (fun _ => rfl) (fun _ => by omega) (hg.odd 0 0 (by norm_num) (by norm_num))
  have l3 := tw_adv (N := N) (VNI_step k g y ℓ 3 (by omega)) F.ct _ _ b off 8 (fun i => off + i) (fun i => off + 8 + i) rfl
    (by omega) (by omega) (fun _ => rfl) (fun _ => rfl) hg.top
  exact (((l0.seq (((l1a.par l1b).par (l1c.of_eq (fun _ => rfl) (by omega) rfl)).par
    (l1d.of_eq (fun _ => rfl) (by omega) rfl))).seq (l2a.par l2b)).seq l3).of_eq (fun _ => rfl) rfl rfl

end inverse
end Spq.Fft.KernN
