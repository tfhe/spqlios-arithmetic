/-
  A concrete instance for the binary64 dot-product theorems: one row, `u = 3 + i`, `v = 2 + i` in every lane
  (`u·v = 5 + 5i`).  The arrays lie in the box `(g, E0) = (0, 2)` (integers of magnitude ≤ 4), so the flags of both
  kernels hold by `ref_ok_of_inBox` / `avx2_ok_of_inBox`.
-/
import SpqProofs.Lemmas.F64StdBox
import Mathlib.Tactic.IntervalCases
namespace Spq.F64
open Spq.Reim4

/-- `u = (3 + i, 3 + i, 3 + i, 3 + i)`, one row -/
def exU : Array Nat := #[4613937818241073152, 4613937818241073152, 4613937818241073152, 4613937818241073152,
         4607182418800017408, 4607182418800017408, 4607182418800017408, 4607182418800017408]
/-- `v = (2 + i, …)` -/
def exV : Array Nat := #[4611686018427387904, 4611686018427387904, 4611686018427387904, 4611686018427387904,
         4607182418800017408, 4607182418800017408, 4607182418800017408, 4607182418800017408]

theorem gridQ_ofInt (x : Int) (hx : x.natAbs < 9007199254740992) : GridQ 0 (val (ofInt x)) := by
  rw [val_ofInt hx]; exact ⟨x, by simp⟩

theorem box_small_int {b : Nat} {x : Int} (h : b = ofInt x) (hx : x.natAbs ≤ 4) :
    Fin64 b ∧ GridQ 0 (val b) ∧ |val b| ≤ 2 ^ (2 : ℤ) := by
  have hx' : x.natAbs < 9007199254740992 := by omega
  subst h
  refine ⟨?_, gridQ_ofInt x hx', ?_⟩
  · have := (packSigned_std x 0 false (by
      rw [zpow_zero, mul_one]; exact (normalRange_int x hx').noOvf)).1.1
    exact this
  · rw [val_ofInt hx', ← natAbs_cast_abs]
    have h4 : ((x.natAbs : ℕ) : ℚ) ≤ 4 := by exact_mod_cast hx
    have e : (2 : ℚ) ^ (2 : ℤ) = 4 := by norm_num
    rw [e]; exact h4

theorem exU_box : InBox 0 2 exU := by
  intro i hi
  have hi' : i < 8 := hi
  have p1 : (4607182418800017408 : Nat) = ofInt 1 := by decide +kernel
  have p3 : (4613937818241073152 : Nat) = ofInt 3 := by decide +kernel
  interval_cases i
  all_goals first
    | exact box_small_int (x := 3) p3 (by decide)
    | exact box_small_int (x := 1) p1 (by decide)

theorem exV_box : InBox 0 2 exV := by
  intro i hi
  have hi' : i < 8 := hi
  have p1 : (4607182418800017408 : Nat) = ofInt 1 := by decide +kernel
  have p2 : (4611686018427387904 : Nat) = ofInt 2 := by decide +kernel
  interval_cases i
  all_goals first
    | exact box_small_int (x := 2) p2 (by decide)
    | exact box_small_int (x := 1) p1 (by decide)

theorem ex_ref_ok : Ok ((vecMat1colProductRef arithOk 1 ((Array.replicate 8 0).map lift) (exU.map lift) (exV.map lift)).getD 0 (lift 0)) :=
  (ref_ok_of_inBox 1 (Array.replicate 8 0) exU exV 0 2 (by simp) exU_box exV_box (by omega) (by norm_num) 0 (by omega)).1
theorem ex_avx2_ok : Ok ((vecMat1colProductAvx2 arithOk 1 ((Array.replicate 8 0).map lift) (exU.map lift) (exV.map lift)).getD 0 (lift 0)) :=
  (avx2_ok_of_inBox 1 (Array.replicate 8 0) exU exV 0 2 (by simp) exU_box exV_box (by omega) (by norm_num) 0 (by omega)).1

end Spq.F64
