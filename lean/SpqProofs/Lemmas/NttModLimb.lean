/-
  One limb of the module-level NTT120 transforms.  `ModSpec M w v ninv` is what the limb and vector theorems need of a
  module description: CRT constants that pass `crtOK`, `Q > 2^64`, primes `≤ 2^30`, every lane an exact transform pair
  (`LaneSpec`).  The live module `curMod k` (metadata of the real precomp objects `Gen.nttMeta` / `Gen.inttMeta`, model
  tables, primes and CRT constants of the build) is one for `k ≤ 16` (`modSpec_cur`): the only place where the live
  data enters the module level.
-/
import SpqProofs.Lemmas.NttModBasic
import SpqProofs.Lemmas.C04Ntt

namespace Spq.ModuleNtt
open Spq Spq.Q120 Spq.Q120Ntt

/-- the NTT120 module of dimension `2^k` of the current build: metadata extracted from the live precomp objects,
    tables from the table model (`qn_tables` stream), constants of `q120_common.h` -/
def curMod (k : Nat) : ModPre :=
  { k := k, P := curParams,
    fwd := fun j => ⟨(Gen.nttMeta k j).levels, (Gen.nttMeta k j).R,
      tableFwd (Gen.nttMeta k j).q (Gen.nttMeta k j).Ω k (Gen.nttMeta k j).levels⟩,
    inv := fun j => ⟨(Gen.inttMeta k j).levels, (Gen.inttMeta k j).R,
      tableInv (Gen.inttMeta k j).q (Gen.inttMeta k j).Ω k (Gen.inttMeta k j).levels⟩ }

/-- the two generated descriptions of the primes agree -/
theorem meta_q (k j : Nat) (hj : j < 4) :
    (Gen.nttMeta k j).q = Gen.q120_q j ∧ (Gen.inttMeta k j).q = Gen.q120_q j
    ∧ (Gen.nttMeta k j).Ω = Gen.q120_omega j := by
  have : j = 0 ∨ j = 1 ∨ j = 2 ∨ j = 3 := by omega
  rcases this with rfl | rfl | rfl | rfl <;> exact ⟨rfl, rfl, rfl⟩

theorem sel4_getD (c : Array Nat) (t j : Nat) (hj : j < 4) :
    sel4 (c.getD (4 * t) 0) (c.getD (4 * t + 1) 0) (c.getD (4 * t + 2) 0) (c.getD (4 * t + 3) 0) j
      = c.getD (4 * t + j) 0 := by
  have : j = 0 ∨ j = 1 ∨ j = 2 ∨ j = 3 := by omega
  rcases this with rfl | rfl | rfl | rfl <;> rfl

/-- coefficient `t` of `idftLimb M c` is the unique centred integer with the residues of the inverse-transformed
    lanes (any module whose CRT constants pass `crtOK`) -/
theorem idftLimb_eq (M : ModPre) (ok : crtOK M.P = true) (c : Array Nat) (t : Nat) (ht : t < 2 ^ M.k) (z : Int)
    (hz : -(((bigQN M.P : Int) - 1) / 2) ≤ z ∧ z ≤ ((bigQN M.P : Int) - 1) / 2)
    (h : ∀ j, j < 4 →
      ((rd (inttLane M.k (M.inv j).levels (M.inv j).R (M.inv j).tbl (lane c j)) t : Nat) : Int) % (M.P.q j : Int)
        = z % (M.P.q j : Int)) :
    (idftLimb M c).getD t 0 = z := by
  unfold idftLimb
  rw [bToZnx128Vec_getD _ M.nn _ _ ht]
  apply lift_eq M.P ok _ _ _ _ z hz
  intro j hj
  rw [sel4_getD _ t j hj, getD_inttCells M c t j ht hj]
  exact h j hj

/-- every coefficient of `idftLimb` is in the centred range of `Q` (in particular an `__int128_t`) -/
theorem idftLimb_centered (M : ModPre) (ok : crtOK M.P = true) (c : Array Nat) (t : Nat) (ht : t < 2 ^ M.k) :
    -(((bigQN M.P : Int) - 1) / 2) ≤ (idftLimb M c).getD t 0
    ∧ (idftLimb M c).getD t 0 ≤ ((bigQN M.P : Int) - 1) / 2 := by
  unfold idftLimb
  rw [bToZnx128Vec_getD _ M.nn _ _ ht]
  exact bToZnx128_centered M.P ok _ _ _ _

theorem size_bFromZnx64 (p : Q120Params) (nn : Nat) (x : Array Int) : (bFromZnx64 p nn x).size = 4 * nn := by
  simp [bFromZnx64]

theorem bFromZnx64_lt (p : Q120Params) (nn : Nat) (x : Array Int) (i : Nat) : (bFromZnx64 p nn x).getD i 0 < W64 := by
  by_cases hi : i < 4 * nn
  · rw [bFromZnx64_getD _ _ _ _ hi]
    unfold bFromZnx64Lane Spq.Q120.add64
    exact Nat.mod_lt _ (by decide)
  · rw [getD_of_size_le _ _ _ (by rw [size_bFromZnx64]; omega)]; decide

/-- the Int `%` of the CRT side against the `ZMod` cast of the transform side -/
theorem cast_eq_iff_int_mod {q a : Nat} {b : Int} :
    ((a : Nat) : ZMod q) = ((b : Int) : ZMod q) ↔ (a : Int) % (q : Int) = b % (q : Int) := by
  rw [← ZMod.intCast_eq_intCast_iff', Int.cast_natCast]

theorem getD_dftLimb (M : ModPre) (j p : Nat) (hp : p < 2 ^ M.k) (hj : j < 4) (x : Array Int) :
    (dftLimb M x).getD (4 * p + j) 0
      = rd (nttLane M.k (M.fwd j).levels (M.fwd j).R (M.fwd j).tbl (lane (bFromZnx64 M.P (2 ^ M.k) x) j)) p :=
  getD_nttCells M (bFromZnx64 M.P (2 ^ M.k) x) p j hp hj

structure ModSpec (M : ModPre) (w v ninv : (j : Nat) → ZMod (M.P.q j)) : Prop where
  crt : crtOK M.P = true
  big : 18446744073709551616 < bigQN M.P
  small : ∀ j, j < 4 → 0 < M.P.q j ∧ M.P.q j ≤ 1073741824
  laneOK : ∀ j, j < 4 → LaneSpec (M.P.q j) M.k (w j) (v j) (ninv j)
    (nttLane M.k (M.fwd j).levels (M.fwd j).R (M.fwd j).tbl)
    (inttLane M.k (M.inv j).levels (M.inv j).R (M.inv j).tbl)

/-- `laneSpec_cur` with prime and root under the names of `Spq/Q120` and the lanes under those of `curMod` -/
theorem laneSpec_mod (k j : Nat) (hk : k ≤ 16) (hj : j < 4) :
    LaneSpec (Gen.q120_q j) k
      ((omegaN (Gen.q120_q j) (Gen.q120_omega j) k : Nat) : ZMod (Gen.q120_q j))
      ((modqPow (omegaN (Gen.q120_q j) (Gen.q120_omega j) k) (-1) (Gen.q120_q j) : Nat) : ZMod (Gen.q120_q j))
      ((modqPow (2 ^ k) (-1) (Gen.q120_q j) : Nat) : ZMod (Gen.q120_q j))
      (nttLane k ((curMod k).fwd j).levels ((curMod k).fwd j).R ((curMod k).fwd j).tbl)
      (inttLane k ((curMod k).inv j).levels ((curMod k).inv j).R ((curMod k).inv j).tbl) := by
  obtain ⟨e1, _, e3⟩ := meta_q k j hj
  rw [← e1, ← e3]
  exact laneSpec_cur k j hk hj

theorem modSpec_cur (k : Nat) (hk : k ≤ 16) :
    ModSpec (curMod k)
      (fun j => ((omegaN (Gen.q120_q j) (Gen.q120_omega j) k : Nat) : ZMod (Gen.q120_q j)))
      (fun j => ((modqPow (omegaN (Gen.q120_q j) (Gen.q120_omega j) k) (-1) (Gen.q120_q j) : Nat) : ZMod (Gen.q120_q j)))
      (fun j => ((modqPow (2 ^ k) (-1) (Gen.q120_q j) : Nat) : ZMod (Gen.q120_q j))) :=
  ⟨crtOK_current, bigQ_gt_current, primes_small_current, fun j hj => laneSpec_mod k j hk hj⟩

namespace ModSpec
variable {M : ModPre} {w v ninv : (j : Nat) → ZMod (M.P.q j)} (S : ModSpec M w v ninv)
include S

theorem lane_b (j : Nat) (hj : j < 4) (x : Array Int) (hx : ∀ t, IsI64 (x.getD t 0)) :
    Words M.k (lane (bFromZnx64 M.P (2 ^ M.k) x) j)
    ∧ ∀ t < 2 ^ M.k, res (M.P.q j) (lane (bFromZnx64 M.P (2 ^ M.k) x) j) t
        = ((x.getD t 0 : Int) : ZMod (M.P.q j)) := by
  have hrd : ∀ t < 2 ^ M.k, rd (lane (bFromZnx64 M.P (2 ^ M.k) x) j) t
      = (bFromZnx64 M.P (2 ^ M.k) x).getD (4 * t + j) 0 :=
    fun t ht => rd_lane _ _ _ (by rw [size_bFromZnx64]; omega)
  refine ⟨⟨by rw [size_lane, size_bFromZnx64]; omega, fun t ht => ?_⟩, fun t ht => ?_⟩
  · rw [hrd t ht]
    exact bFromZnx64_lt _ _ _ _
  · rw [res, hrd t ht, bFromZnx64_cell _ _ _ t j ht hj]
    obtain ⟨h1, h2⟩ := S.small j hj
    exact cast_eq_iff_int_mod.2
      (bFromZnx64Lane_spec (M.P.q j) (x.getD t 0) h1 (Nat.le_trans h2 (by omega)) (hx t)).2

theorem i64_centered (z : Int) (hz : IsI64 z) :
    -(((bigQN M.P : Int) - 1) / 2) ≤ z ∧ z ≤ ((bigQN M.P : Int) - 1) / 2 := by
  have := S.big
  unfold IsI64 at hz
  generalize bigQN M.P = Q at *
  omega

/-- **one limb, round trip**: int64 → residues → NTT → iNTT → CRT lift is the identity on every int64 limb -/
theorem idft_dft_limb (x : Array Int) (hx : ∀ t, IsI64 (x.getD t 0)) (t : Nat) (ht : t < 2 ^ M.k) :
    (idftLimb M (dftLimb M x)).getD t 0 = x.getD t 0 := by
  apply idftLimb_eq M S.crt _ t ht _ (S.i64_centered _ (hx t))
  intro j hj
  obtain ⟨hb, hc⟩ := S.lane_b j hj x hx
  apply cast_eq_iff_int_mod.1
  have hl : lane (dftLimb M x) j
      = nttLane M.k (M.fwd j).levels (M.fwd j).R (M.fwd j).tbl (lane (bFromZnx64 M.P (2 ^ M.k) x) j) :=
    lane_nttCells M (bFromZnx64 M.P (2 ^ M.k) x) (size_bFromZnx64 _ _ _) j hj
  rw [hl]
  exact ((S.laneOK j hj).roundtrip _ hb t ht).trans (hc t ht)

end ModSpec

end Spq.ModuleNtt
