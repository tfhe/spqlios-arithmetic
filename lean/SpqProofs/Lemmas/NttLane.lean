/-
  The interface between one lane of the machine model and the algebra.  `LaneSpec q k w v ninv F I`: `F`, `I` map
  vectors of `2^k` 64-bit words to such vectors and are, on residues mod `q`, the exact transforms `exNtt w k`,
  `exIntt v ninv k` for a root with `w v = 1`, `2^k ninv = 1`, `w^(2^k) = -1`.  What the properties say of a lane
  (round trip, linearity, evaluation form, convolution, zero) follows from the interface alone.
-/
import SpqProofs.Lemmas.NttEval
import SpqProofs.Lemmas.NttRefine

namespace Spq.Q120Ntt
open Finset

theorem cast_one_of_mod {q a : Nat} (hq : 1 < q) (h : a % q = 1) : ((a : Nat) : ZMod q) = 1 := by
  have : ((a : Nat) : ZMod q) = ((1 : Nat) : ZMod q) := cast_of_mod_eq (by rw [h, Nat.mod_eq_of_lt hq])
  simpa using this

/-- `x^(2^k) mod q` by `k` modular squarings -/
def sqPow (q x : Nat) : Nat → Nat
  | 0 => x % q
  | k+1 => (sqPow q x k * sqPow q x k) % q

theorem cast_sqPow (q x k : Nat) : ((sqPow q x k : Nat) : ZMod q) = ((x : Nat) : ZMod q) ^ (2 ^ k) := by
  induction k with
  | zero => simp [sqPow]
  | succ k ih => simp only [sqPow]; rw [ZMod.natCast_mod, Nat.cast_mul, ih, pow_succ, pow_mul]; ring

theorem cast_neg_one_of_sqPow {q x k : Nat} (hq : 1 < q) (h : sqPow q x k = q - 1) :
    ((x : Nat) : ZMod q) ^ (2 ^ k) = -1 := by
  rw [← cast_sqPow, h, Nat.cast_sub (by omega), ZMod.natCast_self]; simp

def res (q : Nat) (x : Array Nat) : Nat → ZMod q := fun i => ((rd x i : Nat) : ZMod q)

theorem res_eq_iff {q : Nat} {x y : Array Nat} {i j : Nat} : res q x i = res q y j ↔ rd x i % q = rd y j % q :=
  ZMod.natCast_eq_natCast_iff' _ _ _

def Words (k : Nat) (x : Array Nat) : Prop := x.size = 2 ^ k ∧ ∀ i < 2 ^ k, rd x i < W64

structure LaneSpec (q k : Nat) (w v ninv : ZMod q) (F I : Array Nat → Array Nat) : Prop where
  fwd : ∀ x, Words k x → Words k (F x) ∧ ∀ i < 2 ^ k, res q (F x) i = exNtt w k (res q x) i
  inv : ∀ x, Words k x → Words k (I x) ∧ ∀ i < 2 ^ k, res q (I x) i = exIntt v ninv k (res q x) i
  hwv : w * v = 1
  hn : (2 : ZMod q) ^ k * ninv = 1
  hw : w ^ (2 ^ k) = -1

namespace LaneSpec
variable {q k : Nat} {w v ninv : ZMod q} {F I : Array Nat → Array Nat} (S : LaneSpec q k w v ninv F I)
include S

/-- `I` inverts whatever is congruent to an exact forward transform -/
theorem inv_of_fwd (p : Array Nat) (hp : Words k p) (g : Nat → ZMod q)
    (h : ∀ i < 2 ^ k, res q p i = exNtt w k g i) : ∀ i < 2 ^ k, res q (I p) i = g i := by
  intro i hi
  rw [(S.inv p hp).2 i hi, exIntt_congr v ninv k _ _ h i hi, exIntt_exNtt w v ninv k S.hwv S.hn]

theorem roundtrip (x : Array Nat) (hx : Words k x) : ∀ i < 2 ^ k, res q (I (F x)) i = res q x i :=
  S.inv_of_fwd _ (S.fwd x hx).1 _ (S.fwd x hx).2

theorem eval (x : Array Nat) (hx : Words k x) (j : Nat) (hj : j < 2 ^ k) :
    res q (F x) j = ∑ i ∈ range (2 ^ k), res q x i * w ^ (i * (2 * brev k j + 1)) := by
  rw [(S.fwd x hx).2 j hj, exNtt_eval w k S.hw _ j hj]

theorem mul (x y p : Array Nat) (hx : Words k x) (hy : Words k y) (hp : Words k p)
    (h : ∀ i < 2 ^ k, res q p i = res q (F x) i * res q (F y) i) :
    ∀ i < 2 ^ k, res q (I p) i = nmul (2 ^ k) (res q x) (res q y) i :=
  S.inv_of_fwd p hp _ fun i hi => by
    rw [h i hi, (S.fwd x hx).2 i hi, (S.fwd y hy).2 i hi, exNtt_nmul w k S.hw _ _ i hi]

theorem linear (a : ZMod q) (x y z : Array Nat) (hx : Words k x) (hy : Words k y) (hz : Words k z)
    (h : ∀ i < 2 ^ k, res q z i = a * res q x i + res q y i) :
    ∀ i < 2 ^ k, res q (F z) i = a * res q (F x) i + res q (F y) i := by
  intro i hi
  rw [(S.fwd z hz).2 i hi, (S.fwd x hx).2 i hi, (S.fwd y hy).2 i hi, ← exNtt_smul, ← exNtt_add]
  exact exNtt_congr w k _ _ h i hi

theorem zero (p : Array Nat) (hp : Words k p) (h : ∀ i < 2 ^ k, res q p i = 0) : ∀ i < 2 ^ k, res q (I p) i = 0 :=
  S.inv_of_fwd p hp (fun _ => 0) fun i hi => by
    rw [h i hi]
    have := exNtt_smul w k 0 (fun _ => 0) i
    simpa using this.symm

end LaneSpec

/-- `n = 1`: both drivers return at once, `exNtt w 0 g 0 = g 0` and `exIntt v ninv 0 g 0 = g 0 * ninv` with
    `ninv = 1`, so the interface holds for any tables and metadata -/
theorem laneSpec_zero {q : Nat} (w v ninv : ZMod q) (hwv : w * v = 1) (hn : (2 : ZMod q) ^ 0 * ninv = 1)
    (hw : w ^ (2 ^ 0) = -1) (lF lI : Array Level) (RF RI : Reduc) (tF tI : Array Nat) :
    LaneSpec q 0 w v ninv (nttLane 0 lF RF tF) (inttLane 0 lI RI tI) := by
  have hni : ninv = 1 := by simpa using hn
  refine ⟨fun x hx => ⟨hx, fun i hi => ?_⟩, fun x hx => ⟨hx, fun i hi => ?_⟩, hwv, hn, hw⟩
  · have : i = 0 := by simpa using hi
    subst this
    simp [nttLane, nttLaneS, exNtt, exLevels, fwdSizes, exFwdAll, exTwist]
  · have : i = 0 := by simpa using hi
    subst this
    simp [inttLane, inttLaneS, exIntt, exLevels, fwdSizes, exInvAll, exTwist, hni]

end Spq.Q120Ntt
