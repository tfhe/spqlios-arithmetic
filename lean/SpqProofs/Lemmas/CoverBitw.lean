/-
  Exact-arithmetic description of `cplx_fftvec_bitwiddle_{fma,avx512}`: the register `bitwReg` is two levels of `twP`
  (`bitwReg_eq`), so a description of `twP` per level gives the column function for any `BitwCfg` (`bitwReg_lanes`);
  the loop over the four slices is `bitwLoop_spec`.
-/
import SpqProofs.Lemmas.CoverTwiddle
namespace Spq
namespace Cover
open Reim4
variable {R : Type} [CommRing R]

/-- two butterfly levels on one column `(A, B, C, D)` of the four slices, with arbitrary "products":
    `(A,C) <- (A + T1 C, A - T1 C)`, `(B,D) <- (B + T1 D, B - T1 D)`, then
    `(A,B) <- (A + T2 B, A - T2 B)`, `(C,D) <- (C + T3 D, C - T3 D)` -/
def bitwGen (T1 T2 T3 : Cx R → Cx R) (A B C D : Cx R) : Cx R × Cx R × Cx R × Cx R :=
  let A1 := A + T1 C
  let B1 := B + T1 D
  let C1 := A - T1 C
  let D1 := B - T1 D
  (A1 + T2 B1, A1 - T2 B1, C1 + T3 D1, C1 - T3 D1)

/-- what the upper 256-bit half of a zmm in `cplx_fftvec_bitwiddle_avx512` before commit 36935af (D9) computes
    instead of a product by a twiddle
    (`t` = real part of the twiddle of that parity): `(x.re·t − x.re·t, x.im·t + x.re·t)` -/
def hiT (t : R) (x : Cx R) : Cx R := ⟨x.re * t - x.re * t, x.im * t + x.re * t⟩

def LanesAre (q : V4 R × V4 R × V4 R × V4 R) (e : Nat) (Q : Cx R × Cx R × Cx R × Cx R) : Prop :=
  pairOf q.1 e = Q.1 ∧ pairOf q.2.1 e = Q.2.1 ∧ pairOf q.2.2.1 e = Q.2.2.1 ∧ pairOf q.2.2.2 e = Q.2.2.2

/-- per-column function of `cplx_fftvec_bitwiddle_fma`: first level `ω`, second level `(ω.re, ω.re)` for the
    pair `(A, B)` and `(ω.im, ω.im)` for the pair `(C, D)` (sic) -/
def bitwFmaCx (w A B C D : Cx R) : Cx R × Cx R × Cx R × Cx R :=
  bitwGen (fun x => x * w) (fun x => x * ⟨w.re, w.re⟩) (fun x => x * ⟨w.im, w.im⟩) A B C D

/-- per-column function of the upper half of a zmm in `cplx_fftvec_bitwiddle_avx512` before commit 36935af (D9) -/
def bitwHiCx (w A B C D : Cx R) : Cx R × Cx R × Cx R × Cx R :=
  bitwGen (hiT w.re) (hiT w.re) (hiT w.re) A B C D

/-- the same operation with the data duplicated instead of swapped and the real part in both constants (D9) -/
theorem twPair_hi (x : Cx R) (t : R) : twPair x ⟨x.re, x.re⟩ ⟨t, t⟩ ⟨t, t⟩ = hiT t x := rfl

theorem bitwReg_eq {α : Type} (ar : RArith α) (c : BitwCfg α) (a b cc d : V4 α) :
    bitwReg ar c a b cc d =
      (V4.add ar (V4.add ar a (twP ar c.sh cc c.om1rr c.om1ii))
          (twP ar c.sh (V4.add ar b (twP ar c.sh d c.om1rr c.om1ii)) c.om2rr c.om2ii),
       V4.sub ar (V4.add ar a (twP ar c.sh cc c.om1rr c.om1ii))
          (twP ar c.sh (V4.add ar b (twP ar c.sh d c.om1rr c.om1ii)) c.om2rr c.om2ii),
       V4.add ar (V4.sub ar a (twP ar c.sh cc c.om1rr c.om1ii))
          (twP ar c.sh (V4.sub ar b (twP ar c.sh d c.om1rr c.om1ii)) c.om3rr c.om3ii),
       V4.sub ar (V4.sub ar a (twP ar c.sh cc c.om1rr c.om1ii))
          (twP ar c.sh (V4.sub ar b (twP ar c.sh d c.om1rr c.om1ii)) c.om3rr c.om3ii)) := rfl

theorem bitwReg_lanes (c : BitwCfg R) (T1 T2 T3 : Cx R → Cx R) (e : Nat)
    (h1 : ∀ v, pairOf (twP (RArith.ofRing R) c.sh v c.om1rr c.om1ii) e = T1 (pairOf v e))
    (h2 : ∀ v, pairOf (twP (RArith.ofRing R) c.sh v c.om2rr c.om2ii) e = T2 (pairOf v e))
    (h3 : ∀ v, pairOf (twP (RArith.ofRing R) c.sh v c.om3rr c.om3ii) e = T3 (pairOf v e))
    (a b cc d : V4 R) :
    LanesAre (bitwReg (RArith.ofRing R) c a b cc d) e
      (bitwGen T1 T2 T3 (pairOf a e) (pairOf b e) (pairOf cc e) (pairOf d e)) := by
  rw [bitwReg_eq]
  simp only [LanesAre, bitwGen, pairOf_add, pairOf_sub, h1, h2, h3, and_self]

theorem bitwReg_fma_lanes (o a b c d : V4 R) (e : Nat) (he : e < 2) :
    LanesAre (bitwReg (RArith.ofRing R) (bitwCfgFma o) a b c d) e
      (bitwFmaCx (pairOf o e) (pairOf a e) (pairOf b e) (pairOf c e) (pairOf d e)) :=
  bitwReg_lanes (bitwCfgFma o) (fun x => x * pairOf o e) (fun x => x * (⟨(pairOf o e).re, (pairOf o e).re⟩ : Cx R))
    (fun x => x * (⟨(pairOf o e).im, (pairOf o e).im⟩ : Cx R)) e
    (fun v => twP_shuf5_pair v o e he)
    (fun v => twP_shuf5_mul v _ _ (pairOf o e).re (pairOf o e).re e he (pairOf_shuf0 o e he) (pairOf_shuf0 o e he))
    (fun v => twP_shuf5_mul v _ _ (pairOf o e).im (pairOf o e).im e he (pairOf_shuf15 o e he) (pairOf_shuf15 o e he))
    a b c d

theorem bitwReg_hi_lanes (o a b c d : V4 R) (e : Nat) (he : e < 2) :
    LanesAre (bitwReg (RArith.ofRing R) (bitwCfgAvx512Hi o) a b c d) e
      (bitwHiCx (pairOf o e) (pairOf a e) (pairOf b e) (pairOf c e) (pairOf d e)) := by
  have h : ∀ v, pairOf (twP (RArith.ofRing R) V4.shuf0 v (V4.shuf0 o) (V4.shuf0 o)) e = hiT (pairOf o e).re (pairOf v e) :=
    fun v => by rw [pairOf_twP _ _ _ _ _ he, pairOf_shuf0 _ _ he, pairOf_shuf0 _ _ he, twPair_hi]
  exact bitwReg_lanes (bitwCfgAvx512Hi o) _ _ _ e h h h a b c d

theorem cxAt_eq_pairOf (res : Array R) (v : V4 R) (p q e : Nat) (he : e < 2) (hq : q = p + 2 * e)
    (h : ∀ l, l < 4 → res.getD (p + l) 0 = v.lane l) : cxAt res q = pairOf v e := by
  subst hq
  ext
  · exact h (2 * e) (by omega)
  · exact h (2 * e + 1) (by omega)

theorem bitwLoop_spec (n m off : Nat) (hm : m = 2 * n) (F : Nat → V4 R → V4 R → V4 R → V4 R → V4 R × V4 R × V4 R × V4 R)
    (G : Nat → Cx R → Cx R → Cx R → Cx R → Cx R × Cx R × Cx R × Cx R) (a : Array R)
    (hoff : 2 * m ≤ off) (hb : 3 * off + 2 * m ≤ a.size)
    (hF : ∀ j e, e < 2 → ∀ va vb vc vd,
      LanesAre (F j va vb vc vd) e (G (2 * j + e) (pairOf va e) (pairOf vb e) (pairOf vc e) (pairOf vd e))) :
    (mapV4x4 0 n off F a).size = a.size ∧
    (∀ i, i < m →
      let Q := G i (cxAt a (2 * i)) (cxAt a (off + 2 * i)) (cxAt a (2 * off + 2 * i)) (cxAt a (3 * off + 2 * i))
      cxAt (mapV4x4 0 n off F a) (2 * i) = Q.1 ∧
      cxAt (mapV4x4 0 n off F a) (off + 2 * i) = Q.2.1 ∧
      cxAt (mapV4x4 0 n off F a) (2 * off + 2 * i) = Q.2.2.1 ∧
      cxAt (mapV4x4 0 n off F a) (3 * off + 2 * i) = Q.2.2.2) ∧
    (∀ x, (∀ s, s < 4 → x < s * off ∨ s * off + 2 * m ≤ x) → (mapV4x4 0 n off F a).getD x 0 = a.getD x 0) := by
  subst hm
  obtain ⟨s1, s2, s3⟩ := mapV4x4_spec (0 : R) n off F a (by omega) (by omega)
  refine ⟨s1, ?_, ?_⟩
  · intro i hi
    obtain ⟨j, e, he, rfl⟩ : ∃ j e, e < 2 ∧ i = 2 * j + e := ⟨i / 2, i % 2, Nat.mod_lt _ (by decide), (Nat.div_add_mod i 2).symm⟩
    intro Q
    have S := s2 j (by omega)
    have q0 : 2 * (2 * j + e) = 4 * j + 2 * e := by omega
    have q : ∀ o, o + 2 * (2 * j + e) = o + 4 * j + 2 * e := fun o => by omega
    have L := hF j e he (V4.load 0 a (4 * j)) (V4.load 0 a (off + 4 * j))
      (V4.load 0 a (2 * off + 4 * j)) (V4.load 0 a (3 * off + 4 * j))
    rw [pairOf_load a (4 * j) _ e he q0, pairOf_load a (off + 4 * j) _ e he (q off),
      pairOf_load a (2 * off + 4 * j) _ e he (q (2 * off)), pairOf_load a (3 * off + 4 * j) _ e he (q (3 * off))] at L
    obtain ⟨l1, l2, l3, l4⟩ := L
    exact ⟨(cxAt_eq_pairOf _ _ (4 * j) _ e he q0 (fun l hl => (S l hl).1)).trans l1,
      (cxAt_eq_pairOf _ _ (off + 4 * j) _ e he (q off) (fun l hl => (S l hl).2.1)).trans l2,
      (cxAt_eq_pairOf _ _ (2 * off + 4 * j) _ e he (q (2 * off)) (fun l hl => (S l hl).2.2.1)).trans l3,
      (cxAt_eq_pairOf _ _ (3 * off + 4 * j) _ e he (q (3 * off)) (fun l hl => (S l hl).2.2.2)).trans l4⟩
  · intro x hx
    apply s3
    intro j hj s hs
    have := hx s hs
    omega

end Cover
end Spq
