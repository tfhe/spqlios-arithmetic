/-
  Convenience lemmas for concrete instances: small integers as doubles, simple sufficient conditions for
  `NoOvf` / `NormalRange`.
-/
import SpqProofs.Lemmas.F64StdOps
namespace Spq.F64

theorem val_ofInt {x : Int} (hx : x.natAbs < 9007199254740992) : val (ofInt x) = x :=
  val_of_toScaled (toScaled_ofInt hx)

theorem noOvf_of_le {q : ℚ} (h : |q| ≤ 2 ^ (1023 : ℤ)) : NoOvf q := by
  unfold NoOvf
  refine lt_of_le_of_lt h ?_
  rw [ovfThr_eq_971]
  have e : (2 : ℚ) ^ (1023 : ℤ) = 2 ^ 52 * 2 ^ (971 : ℤ) := by
    rw [← zpow_natCast, ← two_zpow_add]; norm_num
  rw [e]
  exact mul_lt_mul_of_pos_right (by norm_num) (two_zpow_pos 971)

theorem normalRange_of {q : ℚ} (h1 : 2 ^ (-1022 : ℤ) ≤ |q|) (h2 : |q| ≤ 2 ^ (1023 : ℤ)) : NormalRange q :=
  Or.inr ⟨h1, noOvf_of_le h2⟩

theorem normalRange_int (x : Int) (hx : x.natAbs < 9007199254740992) : NormalRange (x : ℚ) := by
  by_cases h0 : x = 0
  · left; exact_mod_cast h0
  · apply normalRange_of
    · have h1 : (1 : ℚ) ≤ |(x : ℚ)| := by
        rw [← Int.cast_abs]; exact_mod_cast Int.one_le_abs h0
      have h2 : (2 : ℚ) ^ (-1022 : ℤ) ≤ 1 := zpow_le_one_of_nonpos₀ (by norm_num) (by norm_num)
      exact le_trans h2 h1
    · have h1 : |(x : ℚ)| ≤ 2 ^ (53 : ℤ) := by
        rw [← natAbs_cast_abs]
        have : (2 : ℚ) ^ (53 : ℤ) = ((9007199254740992 : ℕ) : ℚ) := by norm_num
        rw [this]; exact_mod_cast (le_of_lt hx)
      exact le_trans h1 (two_zpow_le (by norm_num))
end Spq.F64
