/-
  C01 rounding budget: facts about the EXACT networks used to compose the error bounds.
  * Parseval: `Σ‖V ℓ d‖² = 2^ℓ·Σ‖a‖²` (forward network, unit-modulus root), `Σ‖WI n‖² = 2^n·Σ‖y‖²` (inverse network);
  * the inverse network is linear;
  * `|Σ_t f_t| ≤ Σ_t g_t` when `|f_t| ≤ g_t` (squared form), used for `|A(z)| ≤ ‖a‖₁`.
-/
import SpqProofs.Lemmas.FftErrSchedIFin
import SpqProofs.Lemmas.FftAlgSum
namespace Spq.ProdErr
open Finset Spq.Fft.Alg Spq.FftErr
variable {K : Type} [Field K] [LinearOrder K] [IsStrictOrderedRing K]

theorem V_norm (ζ : Cplx K) (hζ : nsq ζ = 1) (a : ℕ → Cplx K) (k : ℕ) :
    ∀ ℓ d, ℓ + d = k →
      ∑ p ∈ range (2 ^ k), nsq (V ζ a ℓ d p) = 2 ^ ℓ * ∑ p ∈ range (2 ^ k), nsq (a p) := by
  intro ℓ
  induction ℓ with
  | zero => intro d _; simp [V]
  | succ ℓ ih =>
    intro d hk
    have ih' := ih (d + 1) (by omega)
    have hn : 2 ^ k = 2 ^ ℓ * (2 * 2 ^ d) := by rw [← hk, pow_add, pow_succ]; ring
    have hw : ∀ b, nsq ((fun b => ζ ^ twE ℓ d b) b) = 1 := fun b => by simp only []; rw [nsq_pow, hζ, one_pow]
    simp only [V_succ]
    rw [hn] at ih' ⊢
    rw [lvl_norm _ hw, ih', pow_succ]
    ring

theorem WI_norm (k : ℕ) (w : ℕ → ℕ → Cplx K) (hw : ∀ n b, nsq (w n b) = 1) (y : ℕ → Cplx K) :
    ∀ n, n ≤ k → ∑ p ∈ range (2 ^ k), nsq (WI w y n p) = 2 ^ n * ∑ p ∈ range (2 ^ k), nsq (y p) := by
  intro n
  induction n with
  | zero => intro _; simp [WI]
  | succ n ih =>
    intro hk
    have ih' := ih (by omega)
    have hn : 2 ^ k = 2 ^ (k - 1 - n) * (2 * 2 ^ n) := by
      rw [show 2 * 2 ^ n = 2 ^ (n + 1) by rw [pow_succ]; ring, ← pow_add]; congr 1; omega
    have e1 : ∀ p, WI w y (n + 1) p = ILvl (w n) (2 ^ n) (WI w y n) p := fun p => rfl
    simp only [e1]
    rw [hn] at ih' ⊢
    rw [ilvl_norm (w n) (hw n), ih', pow_succ]
    ring

theorem WI_sub (w : ℕ → ℕ → Cplx K) (y y' : ℕ → Cplx K) :
    ∀ n p, WI w (fun q => y q - y' q) n p = WI w y n p - WI w y' n p := by
  intro n
  induction n with
  | zero => intro p; rfl
  | succ n ih =>
    intro p
    show ILvl (w n) (2 ^ n) (WI w (fun q => y q - y' q) n) p =
      ILvl (w n) (2 ^ n) (WI w y n) p - ILvl (w n) (2 ^ n) (WI w y' n) p
    rw [ilvl_sub]
    congr 1
    funext q
    exact ih q

theorem WIk_norm (k : ℕ) (ζi : Cplx K) (hζ : nsq ζi = 1) (y : ℕ → Cplx K) :
    ∑ p ∈ range (2 ^ k), nsq (WIk k ζi y k p) = 2 ^ k * ∑ p ∈ range (2 ^ k), nsq (y p) :=
  WI_norm k _ (fun n b => by rw [nsq_pow, hζ, one_pow]) y k (le_refl k)

theorem WIk_sub (k : ℕ) (ζi : Cplx K) (y y' : ℕ → Cplx K) (p : ℕ) :
    WIk k ζi (fun q => y q - y' q) k p = WIk k ζi y k p - WIk k ζi y' k p :=
  WI_sub _ y y' k p

theorem WIk_congr_on (k : ℕ) (ζi : Cplx K) (y y' : ℕ → Cplx K) (hy : ∀ p, p < 2 ^ k → y p = y' p) (p : ℕ)
    (hp : p < 2 ^ k) : WIk k ζi y k p = WIk k ζi y' k p :=
  WI_congr_on _ k y y' hy k p (le_refl k) hp

theorem nsq_sumTo_le (n : ℕ) (f : ℕ → Cplx K) (g : ℕ → K) (hg : ∀ t, t < n → 0 ≤ g t)
    (hf : ∀ t, t < n → nsq (f t) ≤ g t ^ 2) : nsq (sumTo n f) ≤ (∑ t ∈ range n, g t) ^ 2 := by
  induction n with
  | zero => simp [sumTo]
  | succ n ih =>
    have ih' := ih (fun t ht => hg t (by omega)) (fun t ht => hf t (by omega))
    have h0 : 0 ≤ ∑ t ∈ range n, g t := sum_nonneg (fun t ht => hg t (by have := mem_range.1 ht; omega))
    have := one_tri (sumTo n f) (f n) (∑ t ∈ range n, g t) (g n) 1 h0 (hg n (by omega))
      (by rw [mul_one]; exact ih') (by rw [mul_one]; exact hf n (by omega))
    rw [sumTo, sum_range_succ]
    rw [mul_one] at this
    exact this

theorem sum_halves {M : Type} [AddCommMonoid M] (m : ℕ) (g : ℕ → M) :
    ∑ t ∈ range (2 * m), g t = ∑ p ∈ range m, (g p + g (m + p)) := by
  rw [two_mul, sum_range_add, sum_add_distrib]

end Spq.ProdErr
