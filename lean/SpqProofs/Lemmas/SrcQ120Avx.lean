/-
  Helpers for the q120 AVX2 product kernels translated with scalarised `__m256i` locals
  (`Properties/SrcQ120Avx.lean`): the lane primitives as the interpreter computes them.
-/
import SpqProofs.Lemmas.SrcQ120
namespace Spq.CIR
open Spq Spq.Q120

/-- `(uint64_t)(long long)v` keeps the 64-bit pattern -/
theorem wrapS_mod (v : Int) : wrapS v % 18446744073709551616 = v % 18446744073709551616 := by
  simp only [wrapS]; omega

/-- the shift count `(int)H` for `H < 64` -/
theorem wrap_i32_small (h : Nat) (hh : h < 64) : Ty.wrap .i32 (h : Int) = (h : Int) := by
  simp only [Ty.wrap]; omega

theorem mask32_lit : (4294967295 : Int).toNat = 2 ^ 32 - 1 := by decide
theorem band_lo32 (p : Nat) : ((((p : Int)).toNat &&& (4294967295 : Int).toNat : Nat) : Int)
    = ((p % 4294967296 : Nat) : Int) := by
  rw [mask32_lit, Int.toNat_natCast, Nat.and_two_pow_sub_one_eq_mod]

/-- `_mm256_mul_epu32` on one lane: exact product of the low halves -/
theorem cast_mulEpu32 (a b : Nat) :
    ((a % 4294967296 : Nat) : Int) * ((b % 4294967296 : Nat) : Int) % 18446744073709551616
      = ((mulEpu32 a b : Nat) : Int) := by
  have e : ((a % 4294967296 : Nat) : Int) * ((b % 4294967296 : Nat) : Int)
      = (((a % 4294967296) * (b % 4294967296) : Nat) : Int) := (Int.natCast_mul _ _).symm
  have h1 : a % 4294967296 ≤ 4294967295 := by omega
  have h2 : b % 4294967296 ≤ 4294967295 := by omega
  have h3 : (a % 4294967296) * (b % 4294967296) ≤ 4294967295 * 4294967295 := Nat.mul_le_mul h1 h2
  rw [e]; simp only [mulEpu32]
  generalize (a % 4294967296) * (b % 4294967296) = Q at h3 ⊢
  omega
end Spq.CIR
