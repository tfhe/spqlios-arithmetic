/-
  Out-of-place automorphism `X ↦ X^p` (odd `p`, `nn = 2^t`): the scatter loop writes every cell exactly
  once, with `res[(i·p mod 2nn) mod nn] = ± inp[i]`.
-/
import SpqProofs.Lemmas.CoeffsRotate
import Mathlib.Data.Fintype.Card
import Mathlib.Data.Fintype.EquivFin
import Mathlib.Algebra.Order.Group.Unbundled.Int
import Mathlib.RingTheory.Coprime.Basic
namespace Spq.Rq
open Spq
variable {α : Type}

theorem autExp_lt (nn : Nat) (hn : 0 < nn) (p : Int) (i : Nat) : autExp nn p i < 2 * nn :=
  posMask_lt _ _ (by omega)

theorem autExp_cast (nn : Nat) (hn : 0 < nn) (p : Int) (i : Nat) :
    ((autExp nn p i : Nat) : Int) = ((i : Int) * p) % ((2 * nn : Nat) : Int) :=
  posMask_cast _ _ (by omega)

theorem autExp_zero (nn : Nat) (p : Int) : autExp nn p 0 = 0 := by simp [autExp]

theorem autExp_succ (nn : Nat) (hn : 0 < nn) (p : Int) (k : Nat) :
    autExp nn p (k + 1) = posMask ((autExp nn p k : Int) + p) (2 * nn) := by
  unfold posMask
  rw [autExp_cast nn hn, Int.emod_add_emod]
  unfold autExp
  congr 2; push_cast; ring

theorem autPos_cast (nn : Nat) (hn : 0 < nn) (p : Int) (i : Nat) :
    ((autExp nn p i % nn : Nat) : Int) = ((i : Int) * p) % (nn : Int) := by
  rw [Int.natCast_mod, autExp_cast nn hn]
  exact Int.emod_emod_of_dvd _ ⟨2, by push_cast; ring⟩

theorem autPos_inj_of_coprime (n : Nat) (hn : 0 < n) (p : Int) (hc : IsCoprime (n : Int) p)
    (i i' : Nat) (hi : i < n) (hi' : i' < n) (e : autExp n p i % n = autExp n p i' % n) : i = i' := by
  have e' := congrArg (fun (x : Nat) => (x : Int)) e
  simp only [autPos_cast n hn] at e'
  rw [Int.emod_eq_emod_iff_emod_sub_eq_zero] at e'
  have d := Int.dvd_of_emod_eq_zero e'
  rw [← Int.sub_mul] at d
  have d2 := hc.dvd_of_dvd_mul_right d
  have : (i : Int) - (i' : Int) = 0 := by
    apply Int.eq_zero_of_abs_lt_dvd d2
    rw [abs_lt]
    constructor <;> omega
  omega

theorem autPos_inj (t : Nat) (p : Int) (hp : p % 2 = 1) (i i' : Nat) (hi : i < 2 ^ t) (hi' : i' < 2 ^ t)
    (e : autExp (2 ^ t) p i % 2 ^ t = autExp (2 ^ t) p i' % 2 ^ t) : i = i' := by
  refine autPos_inj_of_coprime (2 ^ t) (Nat.pow_pos (by norm_num)) p ?_ i i' hi hi' e
  have h2 : IsCoprime (2 : Int) p := ⟨-(p / 2), 1, by omega⟩
  have hc : ∀ s : Nat, IsCoprime ((2 : Int) ^ s) p := fun s => by
    induction s with
    | zero => rw [pow_zero]; exact isCoprime_one_left
    | succ s ih => rw [pow_succ]; exact ih.mul_left h2
  push_cast
  exact hc t

theorem autPos_surj (t : Nat) (p : Int) (hp : p % 2 = 1) (k : Nat) (hk : k < 2 ^ t) :
    ∃ i, i < 2 ^ t ∧ autExp (2 ^ t) p i % 2 ^ t = k := by
  have hn : 0 < 2 ^ t := Nat.pow_pos (by norm_num)
  let f : Fin (2 ^ t) → Fin (2 ^ t) := fun i => ⟨autExp (2 ^ t) p i % 2 ^ t, Nat.mod_lt _ hn⟩
  have finj : Function.Injective f := by
    intro a b hab
    have := congrArg Fin.val hab
    exact Fin.ext (autPos_inj t p hp a b a.isLt b.isLt this)
  obtain ⟨i, hi⟩ := (Finite.injective_iff_surjective.1 finj) ⟨k, hk⟩
  exact ⟨i, i.isLt, congrArg Fin.val hi⟩

def AutInv (o : Ops α) (nn : Nat) (p : Int) (inp : Array α) (k : Nat) (st : Nat × Array α) : Prop :=
  st.1 = autExp nn p k ∧ st.2.size = nn ∧
  ∀ i, i ≤ k → st.2.getD (autExp nn p i % nn) o.zero = autVal o nn p inp i

theorem autom_fold (o : Ops α) (t : Nat) (p : Int) (hp : p % 2 = 1) (inp res0 : Array α)
    (hr : res0.size = 2 ^ t) :
    ∀ k, k < 2 ^ t → AutInv o (2 ^ t) p inp k
      ((List.range k).foldl (Coeffs.automStep o (2 ^ t) p inp)
        (0, res0.setIfInBounds 0 (inp.getD 0 o.zero))) := by
  have hn : 0 < 2 ^ t := Nat.pow_pos (by norm_num)
  intro k
  induction k with
  | zero =>
    intro _
    refine ⟨by simp [autExp_zero], by simp [hr], ?_⟩
    intro i hi
    have : i = 0 := by omega
    subst this
    simp only [List.range_zero, List.foldl_nil, autExp_zero, Nat.zero_mod, getD_setIfInBounds, autVal]
    simp [hr, hn]
  | succ k ih =>
    intro hk
    obtain ⟨h1, h2, h3⟩ := ih (by omega)
    rw [List.range_succ, List.foldl_append]
    generalize (List.range k).foldl (Coeffs.automStep o (2 ^ t) p inp)
        (0, res0.setIfInBounds 0 (inp.getD 0 o.zero)) = st at h1 h2 h3
    simp only [List.foldl_cons, List.foldl_nil, Coeffs.automStep]
    rw [h1, ← autExp_succ _ hn]
    have ha := autExp_lt (2 ^ t) hn p (k + 1)
    set a := autExp (2 ^ t) p (k + 1) with ha_def
    have key : (if a < 2 ^ t then st.2.setIfInBounds a (inp.getD (k + 1) o.zero)
        else st.2.setIfInBounds (a - 2 ^ t) (o.neg (inp.getD (k + 1) o.zero))) =
        st.2.setIfInBounds (a % 2 ^ t) (autVal o (2 ^ t) p inp (k + 1)) := by
      unfold autVal
      rw [← ha_def]
      by_cases c : a < 2 ^ t
      · simp only [c, if_true, Nat.mod_eq_of_lt c]
      · have e1 : a % 2 ^ t = a - 2 ^ t := mod_eq_sub_of_le (by omega) (by omega)
        simp only [c, if_false, e1]
    rw [key]
    refine ⟨rfl, by simp [h2], ?_⟩
    intro i hi
    by_cases c : i = k + 1
    · subst c
      rw [getD_setIfInBounds, if_pos ⟨rfl, by rw [h2]; exact Nat.mod_lt _ hn⟩]
    · have : a % 2 ^ t ≠ autExp (2 ^ t) p i % 2 ^ t := by
        intro h
        have := autPos_inj t p hp (k + 1) i hk (by omega) h
        omega
      rw [getD_setIfInBounds_ne _ _ _ this]
      exact h3 i (by omega)

theorem autom_scatter (o : Ops α) (t : Nat) (p : Int) (hp : p % 2 = 1) (inp res0 : Array α)
    (hr : res0.size = 2 ^ t) (i : Nat) (hi : i < 2 ^ t) :
    (Coeffs.automorphism o (2 ^ t) p inp res0).getD (autExp (2 ^ t) p i % 2 ^ t) o.zero =
      autVal o (2 ^ t) p inp i := by
  have hn : 0 < 2 ^ t := Nat.pow_pos (by norm_num)
  have := autom_fold o t p hp inp res0 hr (2 ^ t - 1) (by omega)
  exact this.2.2 i (by omega)

end Spq.Rq
