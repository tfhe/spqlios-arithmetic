/-
  Basic facts of the coefficient kernels: reduction modulo `M` and `2M`, the index masks.
-/
import SpqProofs.Lemmas.RqSpec
import SpqProofs.Lemmas.ArrayBasic
import SpqProofs.Lemmas.NatBasic
import SpqProofs.Lemmas.MachBasic
import Mathlib.Tactic.Ring
import Mathlib.Tactic.Linarith
namespace Spq.Rq
variable {α : Type}

theorem getD_of_getElem? {a : Array α} {i : Nat} {v z : α} (h : a[i]? = some v) : a.getD i z = v :=
  Spq.getD_of_getElem? h

theorem add_mul_mod_gcd (s k a M : Nat) : (s + k * a) % Nat.gcd a M = s % Nat.gcd a M := by
  obtain ⟨c, hc⟩ := Nat.gcd_dvd_left a M
  have : s + k * a = s + Nat.gcd a M * (k * c) := by
    conv_lhs => rw [hc]
    ring
  rw [this, Nat.add_mul_mod_self_left]

theorem emod_eq_of_dvd_sub {x y M : Int} (h0 : 0 ≤ y) (h1 : y < M) (hd : M ∣ x - y) : x % M = y := by
  obtain ⟨c, hc⟩ := hd
  have : x = y + M * c := by omega
  rw [this, Int.add_mul_emod_self_left]
  exact Int.emod_eq_of_lt h0 h1

theorem negMask_add_mul (p c : Int) (m : Nat) : negMask (p + c * (m : Int)) m = negMask p m := by
  have : -(p + c * (m : Int)) = -p + (-c) * (m : Int) := by ring
  unfold negMask; rw [this, Int.add_mul_emod_self_right]

theorem posMask_mod_half (p : Int) (m : Nat) (hm : 0 < m) : posMask p (2 * m) % m = posMask p m := by
  have h := posMask_cast p (2 * m) (by omega)
  have h' := posMask_cast p m hm
  have : (p % ((2 * m : Nat) : Int)) % (m : Int) = p % (m : Int) := Int.emod_emod_of_dvd p ⟨2, by push_cast; ring⟩
  have e : ((posMask p (2 * m) % m : Nat) : Int) = (posMask p m : Nat) := by
    rw [Int.natCast_mod, h, this, h']
  exact_mod_cast e

end Spq.Rq
