/-
  The no-wrap certificate of the q120 NTT / iNTT (one lane, modulus `q`).  `levelOK`: exact interval arithmetic on `Nat`
  for one pass; from the exclusive input bound `B` it checks every `mul_epu32` operand `< 2^32`, every sum `< 2^64`,
  every `a + q2bs - b` without borrow, the shape of the masks / constants, and returns the exclusive output bound.
  Soundness is a simulation of the exact chain by the machine chain: `Lz q B a r` (the word `a` is `< B` and stands for
  the residue `r`) has one closure lemma per machine operation; `Rep` / `cert_sim` carry it over vectors and levels.
-/
import SpqProofs.Lemmas.NttArith
import SpqProofs.Lemmas.NttExact
import Mathlib.Data.ZMod.Basic

namespace Spq.Q120Ntt

structure LDesc where
  kind : Kind
  nn : Nat
  L : Level

def runL (R : Reduc) (d : LDesc) (tw f : Nat → Nat) : Nat → Nat :=
  match d.kind with
  | .twist red => twistAt d.L R red tw f
  | .fwd => fwdAt d.nn d.L R tw f
  | .inv => invAt d.nn d.L R tw f

def twistSafe (L : Level) (R : Reduc) (red : Bool) (tw f : Nat → Nat) (i : Nat) : Prop :=
  redIfSafe R red (f i) ∧ splitMulSafe (redIf R red (f i)) (tw i) L.h L.mask

def fwdSafe (nn : Nat) (L : Level) (R : Reduc) (tw f : Nat → Nat) (i : Nat) : Prop :=
  if i % nn < nn / 2 then
    redIfSafe R L.reduce (f i) ∧ redIfSafe R L.reduce (f (i + nn / 2)) ∧
      addSafe (redIf R L.reduce (f i)) (redIf R L.reduce (f (i + nn / 2)))
  else
    redIfSafe R L.reduce (f (i - nn / 2)) ∧ redIfSafe R L.reduce (f i) ∧
      addSafe (redIf R L.reduce (f (i - nn / 2))) L.q2bs ∧
      subSafe (add64 (redIf R L.reduce (f (i - nn / 2))) L.q2bs) (redIf R L.reduce (f i)) ∧
      (i % nn ≠ nn / 2 →
        splitMulSafe (sub64 (add64 (redIf R L.reduce (f (i - nn / 2))) L.q2bs) (redIf R L.reduce (f i)))
          (tw (i % nn - nn / 2 - 1)) L.h L.mask)

/-- `b * po` of the inverse butterfly (`po` absent at `j = 0`) -/
def invBo (L : Level) (R : Reduc) (tw : Nat → Nat) (b : Nat) (first : Bool) (t : Nat) : Nat :=
  if first then redIf R L.reduce b else splitMul (redIf R L.reduce b) (tw t) L.h L.mask

def invSafe (nn : Nat) (L : Level) (R : Reduc) (tw f : Nat → Nat) (i : Nat) : Prop :=
  if i % nn < nn / 2 then
    redIfSafe R L.reduce (f i) ∧ redIfSafe R L.reduce (f (i + nn / 2)) ∧
      (i % nn ≠ 0 → splitMulSafe (redIf R L.reduce (f (i + nn / 2))) (tw (i % nn - 1)) L.h L.mask) ∧
      addSafe (redIf R L.reduce (f i)) (invBo L R tw (f (i + nn / 2)) (i % nn = 0) (i % nn - 1))
  else
    redIfSafe R L.reduce (f (i - nn / 2)) ∧ redIfSafe R L.reduce (f i) ∧
      (i % nn ≠ nn / 2 → splitMulSafe (redIf R L.reduce (f i)) (tw (i % nn - nn / 2 - 1)) L.h L.mask) ∧
      addSafe (redIf R L.reduce (f (i - nn / 2))) L.q2bs ∧
      subSafe (add64 (redIf R L.reduce (f (i - nn / 2))) L.q2bs)
        (invBo L R tw (f i) (i % nn = nn / 2) (i % nn - nn / 2 - 1))

def safeL (R : Reduc) (d : LDesc) (tw f : Nat → Nat) (i : Nat) : Prop :=
  match d.kind with
  | .twist red => twistSafe d.L R red tw f i
  | .fwd => fwdSafe d.nn d.L R tw f i
  | .inv => invSafe d.nn d.L R tw f i

/-- `modq_red` on inputs `< B`: shape of the constants, operands, worst-case sum; exclusive output bound -/
def redOK (q : Nat) (R : Reduc) (B : Nat) : Option Nat :=
  if R.mask + 1 = 2 ^ R.h ∧ R.cst < W32 ∧ R.cst % q = 2 ^ R.h % q ∧ B ≤ 2 ^ (R.h + 32) ∧
      2 ^ R.h - 1 + (B - 1) / 2 ^ R.h * R.cst < W64
  then some (2 ^ R.h - 1 + (B - 1) / 2 ^ R.h * R.cst + 1) else none

def redIfOK (q : Nat) (R : Reduc) (b : Bool) (B : Nat) : Option Nat := if b then redOK q R B else some B

/-- `split_precompmul_si256` by a packed residue `< q` on inputs `< B` -/
def mulOK (q : Nat) (L : Level) (B : Nat) : Option Nat :=
  if q ≤ W32 ∧ L.h ≤ 32 ∧ L.mask + 1 = 2 ^ L.h ∧ B ≤ 2 ^ (L.h + 32) ∧
      (2 ^ L.h - 1 + (B - 1) / 2 ^ L.h) * (q - 1) < W64
  then some ((2 ^ L.h - 1 + (B - 1) / 2 ^ L.h) * (q - 1) + 1) else none

/-- one pass on inputs `< B` (exclusive); returns the exclusive bound of the outputs -/
def levelOK (q : Nat) (R : Reduc) (d : LDesc) (B : Nat) : Option Nat :=
  match d.kind with
  | .twist red => (redIfOK q R red B).bind (mulOK q d.L)
  | .fwd =>
    (redIfOK q R d.L.reduce B).bind fun B1 =>
      if d.L.q2bs % q = 0 ∧ 2 * B1 - 1 ≤ W64 ∧ B1 - 1 + d.L.q2bs < W64 ∧ B1 - 1 ≤ d.L.q2bs then
        (if d.nn = 2 then some (B1 + d.L.q2bs) else mulOK q d.L (B1 + d.L.q2bs)).bind fun Bm =>
          some (max (2 * B1 - 1) (max (B1 + d.L.q2bs) Bm))
      else none
  | .inv =>
    (redIfOK q R d.L.reduce B).bind fun B1 =>
      (if d.nn = 2 then some B1 else (mulOK q d.L B1).bind fun Bm => some (max B1 Bm)).bind fun Bbo =>
        if d.L.q2bs % q = 0 ∧ B1 + Bbo - 1 ≤ W64 ∧ B1 - 1 + d.L.q2bs < W64 ∧ Bbo - 1 ≤ d.L.q2bs then
          some (max (B1 + Bbo - 1) (B1 + d.L.q2bs))
        else none

def TwSpec (q h T : Nat) (tw : Nat → Nat) (τ : Nat → ZMod q) : Prop :=
  ∀ t < T, ∃ u, u < q ∧ tw t = packTw q h u ∧ ((u : Nat) : ZMod q) = τ t

/-- number of twiddle words a pass reads (`n` for a twist; `nn - nn/2 - 1` for a level, which is `nn/2 - 1` when `nn` is even) -/
def twCount (d : LDesc) (n : Nat) : Nat :=
  match d.kind with
  | .twist _ => n
  | _ => d.nn - d.nn / 2 - 1

theorem cast_of_mod_eq {q a b : Nat} (h : a % q = b % q) : ((a : Nat) : ZMod q) = ((b : Nat) : ZMod q) :=
  (ZMod.natCast_eq_natCast_iff' a b q).2 h

def Lz (q B a : Nat) (r : ZMod q) : Prop := a < B ∧ ((a : Nat) : ZMod q) = r

namespace Lz
variable {q B B1 Bm Ba Bb a b c : Nat} {r s : ZMod q}

theorem of_lt (h : a < B) : Lz q B a ((a : Nat) : ZMod q) := ⟨h, rfl⟩

theorem mono (h : Lz q B a r) (hB : B ≤ B1) : Lz q B1 a r := ⟨lt_of_lt_of_le h.1 hB, h.2⟩

theorem red {R : Reduc} {f : Bool} (hok : redIfOK q R f B = some B1) (h : Lz q B a r) :
    redIfSafe R f a ∧ Lz q B1 (redIf R f a) r := by
  cases f with
  | false =>
    simp only [redIfOK, Bool.false_eq_true, if_false, Option.some.injEq] at hok
    subst hok
    exact ⟨(by intro h; cases h), (by simpa [redIf] using h.1), (by simpa [redIf] using h.2)⟩
  | true =>
    simp only [redIfOK, if_true, redOK, Option.ite_none_right_eq_some, Option.some.injEq] at hok
    obtain ⟨⟨h1, h2, h3, h4, h5⟩, rfl⟩ := hok
    obtain ⟨s1, _, s3, s4⟩ := modqRed_sound q R a B h1 h2 h3 h.1 h4 h5
    refine ⟨fun _ => s1, ?_, ?_⟩
    · simp only [redIf, if_true]; omega
    · simp only [redIf, if_true]; exact (cast_of_mod_eq s3).trans h.2

theorem mul {L : Level} {w : Nat} {τ : ZMod q} (hok : mulOK q L B = some Bm) (h : Lz q B a r)
    (hw : ∃ u, u < q ∧ w = packTw q L.h u ∧ ((u : Nat) : ZMod q) = τ) :
    splitMulSafe a w L.h L.mask ∧ Lz q Bm (splitMul a w L.h L.mask) (r * τ) := by
  obtain ⟨u, hu, rfl, rfl⟩ := hw
  simp only [mulOK, Option.ite_none_right_eq_some, Option.some.injEq] at hok
  obtain ⟨⟨h1, h2, h3, h4, h5⟩, rfl⟩ := hok
  obtain ⟨s1, _, s3, s4⟩ := splitMul_sound q u L.h L.mask a B h1 hu h2 h3 h.1 h4 h5
  exact ⟨s1, by omega, by rw [cast_of_mod_eq s3, Nat.cast_mul, h.2]⟩

theorem add (ha : Lz q Ba a r) (hb : Lz q Bb b s) (hfit : Ba + Bb - 1 ≤ W64) :
    addSafe a b ∧ Lz q (Ba + Bb - 1) (add64 a b) (r + s) := by
  have hs : addSafe a b := by have := ha.1; have := hb.1; unfold addSafe; omega
  refine ⟨hs, ?_, ?_⟩
  · rw [add64_eq hs]; have := ha.1; have := hb.1; omega
  · rw [add64_eq hs, Nat.cast_add, ha.2, hb.2]

/-- the lazy subtraction `a + c − b` of a butterfly: `c = q·2^s` (the level's offset) is a multiple of `q` that dominates `b` -/
theorem lazySub (ha : Lz q Ba a r) (hb : Lz q Bb b s) (hc : c % q = 0) (h3 : Ba - 1 + c < W64) (hbc : Bb - 1 ≤ c) :
    addSafe a c ∧ subSafe (add64 a c) b ∧ Lz q (Ba + c) (sub64 (add64 a c) b) (r - s) := by
  have := ha.1
  have := hb.1
  have hs : addSafe a c := by unfold addSafe; omega
  have hsub : subSafe (add64 a c) b := by unfold subSafe; rw [add64_eq hs]; omega
  have h0 : ((c : Nat) : ZMod q) = 0 := (ZMod.natCast_eq_zero_iff c q).2 (Nat.dvd_of_mod_eq_zero hc)
  refine ⟨hs, hsub, ?_, ?_⟩ <;> rw [sub64_eq hsub (add64_lt _ _), add64_eq hs]
  · omega
  · rw [Nat.cast_sub (by omega), Nat.cast_add, h0, add_zero, ha.2, hb.2]

end Lz

theorem levelOK_fwd {q : Nat} {R : Reduc} {nn : Nat} {L : Level} {B B' : Nat}
    (h : levelOK q R ⟨.fwd, nn, L⟩ B = some B') :
    ∃ B1 Bm, redIfOK q R L.reduce B = some B1 ∧ L.q2bs % q = 0 ∧ 2 * B1 - 1 ≤ W64 ∧ B1 - 1 + L.q2bs < W64 ∧
      B1 - 1 ≤ L.q2bs ∧ (nn ≠ 2 → mulOK q L (B1 + L.q2bs) = some Bm) ∧
      2 * B1 - 1 ≤ B' ∧ B1 + L.q2bs ≤ B' ∧ (nn ≠ 2 → Bm ≤ B') := by
  simp only [levelOK, Option.bind_eq_some_iff, Option.ite_none_right_eq_some, Option.some.injEq] at h
  obtain ⟨B1, hB1, ⟨c1, c2, c3, c4⟩, Bm, hBm, rfl⟩ := h
  exact ⟨B1, Bm, hB1, c1, c2, c3, c4, fun h2 => by rwa [if_neg h2] at hBm, le_max_left _ _,
    le_trans (le_max_left _ _) (le_max_right _ _), fun _ => le_trans (le_max_right _ _) (le_max_right _ _)⟩

theorem level_sound_fwd (q n : Nat) (R : Reduc) (nn : Nat) (L : Level) (B B' : Nat)
    (hok : levelOK q R ⟨.fwd, nn, L⟩ B = some B') (hdiv : nn ∣ n)
    (tw : Nat → Nat) (τ : Nat → ZMod q) (htw : TwSpec q L.h (nn - nn / 2 - 1) tw τ)
    (f : Nat → Nat) (hf : ∀ i < n, f i < B) :
    ∀ i < n, fwdSafe nn L R tw f i ∧ Lz q B' (fwdAt nn L R tw f i) (exFwd nn τ (fun j => ((f j : Nat) : ZMod q)) i) := by
  intro i hi
  obtain ⟨B1, Bm, hB1, c1, c2, c3, c4, hm, b1, b2, b3⟩ := levelOK_fwd hok
  have hnnpos : 0 < nn := Nat.pos_of_dvd_of_pos hdiv (by omega)
  have hjlt : i % nn < nn := Nat.mod_lt _ hnnpos
  simp only [fwdSafe, fwdAt, exFwd]
  split
  · rename_i hj
    obtain ⟨sa, la⟩ := Lz.red hB1 (Lz.of_lt (hf i hi))
    obtain ⟨sb, lb⟩ := Lz.red hB1 (Lz.of_lt (hf _ (idx_add_half hdiv hi hj)))
    obtain ⟨ss, ls⟩ := la.add lb (by omega)
    exact ⟨⟨sa, sb, ss⟩, ls.mono (by omega)⟩
  · rename_i hj
    obtain ⟨sa, la⟩ := Lz.red hB1 (Lz.of_lt (hf (i - nn / 2) (by omega)))
    obtain ⟨sb, lb⟩ := Lz.red hB1 (Lz.of_lt (hf i hi))
    obtain ⟨s1, s2, ld⟩ := la.lazySub lb c1 c3 c4
    split
    · rename_i hjh
      exact ⟨⟨sa, sb, s1, s2, fun h => absurd hjh h⟩, by rw [mul_one]; exact ld.mono b2⟩
    · rename_i hjh
      have hnn2 : nn ≠ 2 := by intro h2; subst h2; omega
      obtain ⟨sm, lm⟩ := ld.mul (hm hnn2) (htw (i % nn - nn / 2 - 1) (by omega))
      exact ⟨⟨sa, sb, s1, s2, fun _ => sm⟩, lm.mono (b3 hnn2)⟩

/-- `Bbo` bounds the second operand `b * po` of the inverse butterfly, multiplied (`nn ≠ 2`, `j ≠ 0`) or not -/
theorem levelOK_inv {q : Nat} {R : Reduc} {nn : Nat} {L : Level} {B B' : Nat}
    (h : levelOK q R ⟨.inv, nn, L⟩ B = some B') :
    ∃ B1 Bbo, redIfOK q R L.reduce B = some B1 ∧ B1 ≤ Bbo ∧ (nn ≠ 2 → ∃ Bm, mulOK q L B1 = some Bm ∧ Bm ≤ Bbo) ∧
      L.q2bs % q = 0 ∧ B1 + Bbo - 1 ≤ W64 ∧ B1 - 1 + L.q2bs < W64 ∧ Bbo - 1 ≤ L.q2bs ∧
      B1 + Bbo - 1 ≤ B' ∧ B1 + L.q2bs ≤ B' := by
  simp only [levelOK, Option.bind_eq_some_iff, Option.ite_none_right_eq_some, Option.some.injEq] at h
  obtain ⟨B1, hB1, Bbo, hBbo, ⟨c1, c2, c3, c4⟩, rfl⟩ := h
  refine ⟨B1, Bbo, hB1, ?_, fun h2 => ?_, c1, c2, c3, c4, le_max_left _ _, le_max_right _ _⟩
  · split at hBbo
    · simp only [Option.some.injEq] at hBbo; omega
    · obtain ⟨Bm, _, hBm⟩ := Option.bind_eq_some_iff.1 hBbo
      rw [← Option.some.inj hBm]; exact le_max_left _ _
  · rw [if_neg h2] at hBbo
    obtain ⟨Bm, hm, hBm⟩ := Option.bind_eq_some_iff.1 hBbo
    exact ⟨Bm, hm, by rw [← Option.some.inj hBm]; exact le_max_right _ _⟩

theorem level_sound_inv (q n : Nat) (R : Reduc) (nn : Nat) (L : Level) (B B' : Nat)
    (hok : levelOK q R ⟨.inv, nn, L⟩ B = some B') (hdiv : nn ∣ n)
    (tw : Nat → Nat) (τ : Nat → ZMod q) (htw : TwSpec q L.h (nn - nn / 2 - 1) tw τ)
    (f : Nat → Nat) (hf : ∀ i < n, f i < B) :
    ∀ i < n, invSafe nn L R tw f i ∧ Lz q B' (invAt nn L R tw f i) (exInv nn τ (fun j => ((f j : Nat) : ZMod q)) i) := by
  intro i hi
  obtain ⟨B1, Bbo, hB1, hle, hm, c1, c2, c3, c4, b1, b2⟩ := levelOK_inv hok
  have hnnpos : 0 < nn := Nat.pos_of_dvd_of_pos hdiv (by omega)
  have hjlt : i % nn < nn := Nat.mod_lt _ hnnpos
  have hbo : ∀ {x : Nat} {r : ZMod q}, Lz q B1 x r → ∀ (first : Prop) [Decidable first] (t : Nat),
      (¬ first → nn ≠ 2 ∧ t < nn - nn / 2 - 1) →
      (¬ first → splitMulSafe x (tw t) L.h L.mask) ∧
        Lz q Bbo (if first then x else splitMul x (tw t) L.h L.mask) (r * (if first then 1 else τ t)) := by
    intro x r hx first _ t hft
    by_cases hfirst : first
    · simp only [if_pos hfirst, mul_one]; exact ⟨fun h => absurd hfirst h, hx.mono hle⟩
    · obtain ⟨h2, ht⟩ := hft hfirst
      obtain ⟨Bm, hBm, hBmle⟩ := hm h2
      obtain ⟨sm, lm⟩ := hx.mul hBm (htw t ht)
      simp only [if_neg hfirst]; exact ⟨fun _ => sm, lm.mono hBmle⟩
  simp only [invSafe, invAt, exInv, invBo, decide_eq_true_eq]
  split
  · rename_i hj
    obtain ⟨sa, la⟩ := Lz.red hB1 (Lz.of_lt (hf i hi))
    obtain ⟨sb, lb⟩ := Lz.red hB1 (Lz.of_lt (hf _ (idx_add_half hdiv hi hj)))
    obtain ⟨so, lo⟩ := hbo lb (i % nn = 0) (i % nn - 1) (fun h0 => ⟨by intro h2; subst h2; omega, by omega⟩)
    obtain ⟨ss, ls⟩ := la.add lo c2
    exact ⟨⟨sa, sb, so, ss⟩, ls.mono b1⟩
  · rename_i hj
    obtain ⟨sa, la⟩ := Lz.red hB1 (Lz.of_lt (hf (i - nn / 2) (by omega)))
    obtain ⟨sb, lb⟩ := Lz.red hB1 (Lz.of_lt (hf i hi))
    obtain ⟨so, lo⟩ := hbo lb (i % nn = nn / 2) (i % nn - nn / 2 - 1)
      (fun h0 => ⟨by intro h2; subst h2; omega, by omega⟩)
    obtain ⟨s1, s2, ld⟩ := la.lazySub lo c1 c3 c4
    exact ⟨⟨sa, sb, so, s1, s2⟩, ld.mono b2⟩

/-- **level_sound**: if the computable check accepts the level for the input bound `B`, then for every input
    vector with cells `< B` (cells `< n`, `nn ∣ n`), at every cell: no intermediate exceeds its word, the output
    is `< B'`, and it is congruent mod `q` to the exact pass applied to the residues of the inputs. -/
theorem level_sound (q n : Nat) (R : Reduc) (d : LDesc) (B B' : Nat)
    (hok : levelOK q R d B = some B') (hdiv : d.nn ∣ n)
    (tw : Nat → Nat) (τ : Nat → ZMod q) (htw : TwSpec q d.L.h (twCount d n) tw τ)
    (f : Nat → Nat) (hf : ∀ i < n, f i < B) :
    ∀ i < n, safeL R d tw f i ∧ runL R d tw f i < B' ∧
      ((runL R d tw f i : Nat) : ZMod q) = exL d.kind d.nn τ (fun j => ((f j : Nat) : ZMod q)) i := by
  obtain ⟨kind, nn, L⟩ := d
  cases kind with
  | twist red =>
    intro i hi
    simp only [levelOK, Option.bind_eq_some_iff] at hok
    obtain ⟨B1, hB1, hm⟩ := hok
    obtain ⟨sr, lr⟩ := Lz.red hB1 (Lz.of_lt (hf i hi))
    obtain ⟨sm, lm⟩ := lr.mul hm (htw i hi)
    exact ⟨⟨sr, sm⟩, lm.1, lm.2⟩
  | fwd => exact fun i hi => let h := level_sound_fwd q n R nn L B B' hok hdiv tw τ htw f hf i hi; ⟨h.1, h.2.1, h.2.2⟩
  | inv => exact fun i hi => let h := level_sound_inv q n R nn L B B' hok hdiv tw τ htw f hf i hi; ⟨h.1, h.2.1, h.2.2⟩

/-- cells `≥ n` do not exist in the vector: the array layer reads them as 0 -/
def clip (n : Nat) (f : Nat → Nat) : Nat → Nat := fun i => if i < n then f i else 0

structure LStep (q : Nat) where
  d : LDesc
  tw : Nat → Nat
  τ : Nat → ZMod q

def runAll {q : Nat} (n : Nat) (R : Reduc) : List (LStep q) → (Nat → Nat) → (Nat → Nat)
  | [], f => f
  | s :: ls, f => runAll n R ls (clip n (runL R s.d s.tw f))

def exAll {q : Nat} : List (LStep q) → (Nat → ZMod q) → (Nat → ZMod q)
  | [], g => g
  | s :: ls, g => exAll ls (exL s.d.kind s.d.nn s.τ g)

def safeAll {q : Nat} (n : Nat) (R : Reduc) : List (LStep q) → (Nat → Nat) → Prop
  | [], _ => True
  | s :: ls, f => (∀ i < n, safeL R s.d s.tw f i) ∧ safeAll n R ls (clip n (runL R s.d s.tw f))

def certOK (q : Nat) (R : Reduc) : List LDesc → Nat → Option Nat
  | [], B => some B
  | d :: ds, B => (levelOK q R d B).bind (certOK q R ds)

theorem exAll_eq {q : Nat} (ls : List (LStep q)) (g : Nat → ZMod q) :
    exAll ls g = exRun (ls.map fun s => (s.d.kind, s.d.nn, s.τ)) g := by
  induction ls generalizing g with
  | nil => rfl
  | cons s ls ih => exact ih _

def Rep (q n B : Nat) (f : Nat → Nat) (g : Nat → ZMod q) : Prop := ∀ i < n, Lz q B (f i) (g i)

theorem Rep.refl {q n B : Nat} {f : Nat → Nat} (hf : ∀ i < n, f i < B) : Rep q n B f (fun j => ((f j : Nat) : ZMod q)) :=
  fun i hi => Lz.of_lt (hf i hi)

theorem level_sim {q n : Nat} {R : Reduc} {s : LStep q} {B B1 : Nat} (hok : levelOK q R s.d B = some B1)
    (hdiv : s.d.nn ∣ n) (htw : TwSpec q s.d.L.h (twCount s.d n) s.tw s.τ) {f : Nat → Nat} {g : Nat → ZMod q}
    (h : Rep q n B f g) :
    (∀ i < n, safeL R s.d s.tw f i) ∧ Rep q n B1 (clip n (runL R s.d s.tw f)) (exL s.d.kind s.d.nn s.τ g) := by
  have hl := level_sound q n R s.d B B1 hok hdiv s.tw s.τ htw f (fun i hi => (h i hi).1)
  refine ⟨fun i hi => (hl i hi).1, fun i hi => ?_⟩
  simp only [clip, if_pos hi]
  exact ⟨(hl i hi).2.1, (hl i hi).2.2.trans (exL_congr s.d.kind hdiv s.τ _ g (fun j hj => (h j hj).2) i hi)⟩

/-- the simulation along a list of levels: the machine chain keeps standing for the exact chain, whatever `g` it started from -/
theorem cert_sim {q : Nat} (n : Nat) (R : Reduc) (ls : List (LStep q)) (B B' : Nat)
    (hok : certOK q R (ls.map (·.d)) B = some B')
    (hstep : ∀ s ∈ ls, s.d.nn ∣ n ∧ TwSpec q s.d.L.h (twCount s.d n) s.tw s.τ)
    (f : Nat → Nat) (g : Nat → ZMod q) (h : Rep q n B f g) :
    safeAll n R ls f ∧ Rep q n B' (runAll n R ls f) (exAll ls g) := by
  induction ls generalizing f g B with
  | nil =>
    simp only [List.map_nil, certOK, Option.some.injEq] at hok
    subst hok; exact ⟨trivial, h⟩
  | cons s ls ih =>
    simp only [List.map_cons, certOK, Option.bind_eq_some_iff] at hok
    obtain ⟨B1, hB1, hrest⟩ := hok
    obtain ⟨hd, ht⟩ := hstep s (List.mem_cons_self ..)
    obtain ⟨hs, hr⟩ := level_sim hB1 hd ht h
    obtain ⟨hs', hr'⟩ := ih B1 hrest (fun t ht => hstep t (List.mem_cons_of_mem _ ht)) _ _ hr
    exact ⟨⟨hs, hs'⟩, hr'⟩

/-- **cert_sound**: folding `levelOK` over ANY list of levels: if the fold accepts the input bound `B` and
    returns `B'`, then for every input vector with cells `< B`, in every pass nothing exceeds its word, the final
    cells are `< B'` and congruent mod `q` to the exact transform of the residues. -/
theorem cert_sound {q : Nat} (n : Nat) (R : Reduc) (ls : List (LStep q)) (B B' : Nat)
    (hok : certOK q R (ls.map (·.d)) B = some B')
    (hdiv : ∀ s ∈ ls, s.d.nn ∣ n)
    (htw : ∀ s ∈ ls, TwSpec q s.d.L.h (twCount s.d n) s.tw s.τ)
    (f : Nat → Nat) (hf : ∀ i < n, f i < B) :
    safeAll n R ls f ∧ ∀ i < n, runAll n R ls f i < B' ∧
      ((runAll n R ls f i : Nat) : ZMod q) = exAll ls (fun j => ((f j : Nat) : ZMod q)) i :=
  cert_sim n R ls B B' hok (fun s hs => ⟨hdiv s hs, htw s hs⟩) f _ (Rep.refl hf)

end Spq.Q120Ntt
