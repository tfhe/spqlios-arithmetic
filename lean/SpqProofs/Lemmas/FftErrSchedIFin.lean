/-
  C06.4: assembled rounding bound of the inverse reim transform on binary64, and the characterisation of the exact
  inverse network (`V ∘ WIk = 2^k · id`; `WIk ∘ V = 2^k · id` is `WIk_V` of `FftErrSchedINetN`).
-/
import SpqProofs.Lemmas.FftErrSchedIXfer
import SpqProofs.Lemmas.FftErrSchedINetN
import SpqProofs.Lemmas.FftErrSchedFin
namespace Spq.FftErr
open Finset Spq.Fft Spq.Fft.Alg Spq.Fft.RelN Spq.Fft.SimP Spq.Fft.LevelN Spq.Fft.SchedN Spq.Fft.Sim Spq.F64
variable {K : Type} [Field K] [LinearOrder K] [IsStrictOrderedRing K]

/-- the exact (unnormalised) inverse transform of the values of `data`: output `j` of the exact inverse network -/
def exactInv (ζi : Cplx K) (k : ℕ) (data : Array ℕ) (j : ℕ) : Cplx K :=
  WIk k ζi (fun p => toC (((val data[p]! : ℚ) : K), ((val data[2 ^ k + p]! : ℚ) : K))) k j

theorem V_of_WIk (k : ℕ) (ζ ζi : Cplx K) (hinv : ζ * ζi = 1) (y : ℕ → Cplx K) :
    ∀ ℓ, ℓ ≤ k → ∀ p, V ζ (fun q => WIk k ζi y k q) ℓ (k - ℓ) p = 2 ^ ℓ * WIk k ζi y (k - ℓ) p := by
  intro ℓ
  induction ℓ with
  | zero => intro _ p; simp [V]
  | succ ℓ ih =>
    intro hk p
    have ih' := ih (by omega)
    obtain ⟨d, hd⟩ : ∃ d, k - (ℓ + 1) = d := ⟨_, rfl⟩
    have e1 : k - ℓ = d + 1 := by omega
    have e2 : k - 1 - d = ℓ := by omega
    have hW : ∀ b, ζ ^ twE ℓ d b * ζi ^ twE ℓ d b = 1 := fun b => by rw [← mul_pow, hinv, one_pow]
    rw [hd]
    rw [e1] at ih'
    have w1 : ∀ q, WIk k ζi y (d + 1) q = ILvl (fun b => ζi ^ twE ℓ d b) (2 ^ d) (WIk k ζi y d) q := by
      intro q; unfold WIk; rw [WI]; simp only [e2]
    obtain ⟨b, r, hr, hp | hp⟩ := cell_cases (2 ^ d) (Nat.two_pow_pos d) p
    · rw [hp, V_lo _ _ _ _ _ _ hr, ih', ih', w1, w1, ILvl_lo _ _ _ b r hr, ILvl_hi _ _ _ b r hr]
      linear_combination (2 ^ ℓ * (WIk k ζi y d (2 * 2 ^ d * b + r) - WIk k ζi y d (2 * 2 ^ d * b + r + 2 ^ d))) * hW b
    · rw [hp, V_hi _ _ _ _ _ _ hr, ih', ih', w1, w1, ILvl_lo _ _ _ b r hr, ILvl_hi _ _ _ b r hr]
      linear_combination (-(2 : Cplx K) ^ ℓ * (WIk k ζi y d (2 * 2 ^ d * b + r) - WIk k ζi y d (2 * 2 ^ d * b + r + 2 ^ d))) * hW b

theorem V_WIk (k : ℕ) (ζ ζi : Cplx K) (hinv : ζ * ζi = 1) (y : ℕ → Cplx K) (j : ℕ) :
    V ζ (fun q => WIk k ζi y k q) k 0 j = 2 ^ k * y j := by
  have := V_of_WIk k ζ ζi hinv y k le_rfl j
  rw [Nat.sub_self] at this
  exact this

theorem WI_congr_on (w : ℕ → ℕ → Cplx K) (k : ℕ) (y y' : ℕ → Cplx K) (hy : ∀ p, p < 2 ^ k → y p = y' p) :
    ∀ n p, n ≤ k → p < 2 ^ k → WI w y n p = WI w y' n p := by
  intro n p hn hp
  exact Chain.rel (lvI_sum k) (fun _ => Eq) _ _ (fun _ _ _ _ _ _ _ _ _ hu hv => by rw [hu, hv]; exact ⟨rfl, rfl⟩)
    (WI_chain k (fun _ d => w d) y) (WI_chain k (fun _ d => w d) y') hy n hn p hp

theorem ifft_err_fam (Fam : ∀ {α : Type}, Arith α → Flav α) (hFam : FamOK Fam)
    (hErr : ∀ (A : Arith K) (u τ : K), FStd A u → 0 ≤ τ → InvErrOK (Fam A) τ (eta u τ))
    (k : ℕ) (ζi : Cplx K) (hζ : nsq ζi = 1) (hI : ζi ^ 2 ^ k = -Ic) (cN sN : ℕ → ℕ)
    (hcs : ∀ ℓ d b, ℓ + d + 1 = k → b < 2 ^ ℓ →
      nsq (toC (((val (cN (twE ℓ d b)) : ℚ) : K), ((val (sN (twE ℓ d b)) : ℚ) : K)) - ζi ^ twE ℓ d b) ≤
        (((7 / 2 * u64 : ℚ)) : K) ^ 2)
    (data : Array ℕ) (hdata : data.size = 2 * 2 ^ k)
    (hok : ∀ p, p < 2 * 2 ^ k →
      ((reimIfftA (Fam aOk) (2 ^ k) ((((reimIfftEnts (2 ^ k)).map (valP cN sN)).toArray).map lift) (data.map lift))[p]!).2) :
    (∀ p, p < 2 * 2 ^ k → Fin64 ((reimIfftA (Fam f64) (2 ^ k) ((reimIfftEnts (2 ^ k)).map (valP cN sN)).toArray data)[p]!)) ∧
    ∑ j ∈ range (2 ^ k), nsq (outC (reimIfftA (Fam f64) (2 ^ k) ((reimIfftEnts (2 ^ k)).map (valP cN sN)).toArray data) k j
        - exactInv ζi k data j) ≤
      ((1 + ((8 * u64 : ℚ) : K)) ^ k - 1) ^ 2 * ∑ j ∈ range (2 ^ k), nsq (exactInv ζi k data j) := by
  rw [table_map lift cN sN] at hok
  obtain ⟨s1, s2, s3⟩ := gNet_sims (K := K) Fam hFam k cN sN
  exact (xformI k).netCells.err (Fam f64) (Fam aOk) (Fam aG) (Fam (liftA aG : Arith K)) trivial trivial (cN, sN)
    (_, _) (_, _) (_, _)     s1 s2 s3 data hdata hok _ _
    (invN_err k ζi _ hζ eta64_nonneg _
      (gC_err (Fam (liftA aG : Arith K)) (fun e => ((val (cN e) : ℚ) : K)) (fun e => ((val (sN e) : ℚ) : K)) k ζi
        _ _ (hErr (liftA aG) _ _ (liftA_fstd aG u64 aG_fstd) tau64_nonneg) hζ hI hcs) _)
    (fun _ _ => rfl)

def ifamOf (fma : Bool) : ∀ {α : Type}, Arith α → Flav α := fun {α} A => if fma then invFma (α := α) A else invRef A

theorem reimIfft_eq (fma : Bool) (m : ℕ) (T data : Array ℕ) :
    reimIfft (if fma then "fma" else "ref") m T data = reimIfftA (ifamOf fma f64) m T data := by
  cases fma <;> rfl

end Spq.FftErr
