/-
  C16 helper: `DftOpsSound` is inhabited.  The "identity-transform module" (`fft = ifft = id`, carrier `Int`)
  supports `vec_znx_dft` / `vec_znx_idft` with budget `True` — the round trip through the opaque layout
  (limbs concatenated with stride `nn`, zero rows beyond the source size) is exact — and declares the
  product calls outside its budget (its pointwise product is not the negacyclic product).
-/
import SpqProofs.Lemmas.ProgSim
namespace Spq.Prog
open Spq

theorem concat_spec {β : Type} (nn : Nat) (piece : Nat → Array β) (d : β) (n : Nat)
    (hp : ∀ i, i < n → (piece i).size = nn) :
    ((List.range n).foldl (fun acc i => acc ++ piece i) #[]).size = n * nn ∧
    ∀ i t, i < n → t < nn →
      ((List.range n).foldl (fun acc i => acc ++ piece i) #[]).getD (i * nn + t) d = (piece i).getD t d := by
  induction n with
  | zero => exact ⟨by simp, fun i t hi => by omega⟩
  | succ n ih =>
    obtain ⟨s, v⟩ := ih (fun i hi => hp i (by omega))
    rw [List.range_succ, List.foldl_append]
    simp only [List.foldl_cons, List.foldl_nil]
    generalize (List.range n).foldl (fun acc i => acc ++ piece i) #[] = r at s v
    refine ⟨by rw [Array.size_append, s, hp n (by omega), Nat.succ_mul], ?_⟩
    intro i t hi ht
    simp only [Array.getD_eq_getD_getElem?] at v ⊢
    by_cases e : i = n
    · subst e
      rw [Array.getElem?_append_right (by rw [s]; omega), s, Nat.add_sub_cancel_left]
    · have hlt : i < n := by omega
      have h1 : (i + 1) * nn ≤ n * nn := Nat.mul_le_mul_right _ (by omega)
      rw [Nat.succ_mul] at h1
      rw [Array.getElem?_append_left (by rw [s]; omega)]
      exact v i t hlt ht

def toyArith : RArith Int :=
  { zero := 0, add := (· + ·), sub := (· - ·), mul := (· * ·), fma := fun a b c => a * b + c,
    fms := fun a b c => a * b - c }

def toyParts (nn : Nat) : Module.Parts Int :=
  { nn := nn, ar := toyArith, fromZnx := id, fft := id, ifft := id, toZnx := id,
    mulFma := false, addmulFma := false, vmpAvx := false }

theorem extract_size (x : Array Int) (lo nn : Nat) (h : lo + nn ≤ x.size) :
    (x.extract lo (lo + nn)).size = nn := by
  simp; omega

theorem extract_getD (x : Array Int) (lo nn t : Nat) (h : lo + nn ≤ x.size) (ht : t < nn) :
    (x.extract lo (lo + nn)).getD t 0 = x.getD (lo + t) 0 := by
  simp only [Array.getD_eq_getD_getElem?, Array.getElem?_extract]
  have : t < min (lo + nn) x.size - lo := by omega
  simp [this]

def toySound (nn : Nat) : DftOpsSound (toyParts nn) nn where
  nn_eq := rfl
  RepV P sz d := d.size = sz * nn ∧ ∀ i t, i < sz → t < nn → d.getD (i * nn + t) 0 = P.coef i t
  RepS _ _ := True
  RepM _ _ _ _ := True
  dft_budget _ _ _ := True
  svp_prepare_budget _ := True
  svp_budget _ _ _ _ := False
  vmp_prepare_budget _ _ _ := True
  vmp_budget _ _ _ _ _ _ := False
  vmp_dd_budget _ _ _ _ _ _ _ := False
  idft_budget _ _ := True
  small_product_budget _ _ := False
  dft_exact := by
    intro x asz asl rsz f hsl hag _
    have hp : ∀ i, i < rsz →
        (if i < asz then (toyParts nn).fft ((toyParts nn).fromZnx (Module.limbOf x i asl (toyParts nn).nn))
          else Array.replicate (toyParts nn).nn (toyParts nn).ar.zero).size = nn := by
      intro i _
      split
      · rename_i hi
        have := extract_size x (i * asl) nn (hag.1 i hi)
        simpa [toyParts, Module.limbOf] using this
      · simp [toyParts]
    obtain ⟨s, v⟩ := concat_spec nn _ (0 : Int) rsz hp
    refine ⟨s, fun i t hi ht => ?_⟩
    unfold Module.vecDft
    rw [v i t hi ht, coef_mk _ _ _ _ _ hi ht]
    unfold zext
    split
    · rename_i hia
      have := extract_getD x (i * asl) nn t (hag.1 i hia) ht
      show _ = f i t
      rw [← hag.2 i t hia ht]
      simpa [toyParts, Module.limbOf] using this
    · simp [toyParts, toyArith, Array.getD, ht]
  svp_prepare_exact := fun _ _ _ _ => trivial
  svp_exact := fun _ _ _ _ _ _ _ _ _ _ hb => hb.elim
  vmp_prepare_exact := fun _ _ _ _ _ _ => trivial
  vmp_exact := fun _ _ _ _ _ _ _ _ _ _ _ _ hb => hb.elim
  vmp_dd_exact := fun _ _ _ _ _ _ _ _ _ _ _ _ hb => hb.elim
  dft_idft_exact := by
    intro P sz rsz d hrep _ i t hi ht
    obtain ⟨hs, hv⟩ := hrep
    have hp : ∀ i, i < rsz →
        (if i < sz then (toyParts nn).toZnx ((toyParts nn).ifft (Module.dlimb d i (toyParts nn).nn))
          else Array.replicate (toyParts nn).nn 0).size = nn := by
      intro i _
      split
      · rename_i hi
        have h1 : (i + 1) * nn ≤ sz * nn := Nat.mul_le_mul_right _ (by omega)
        rw [Nat.succ_mul] at h1
        have := extract_size d (i * nn) nn (by omega)
        simpa [toyParts, Module.dlimb] using this
      · simp [toyParts]
    obtain ⟨_, v⟩ := concat_spec nn _ (0 : Int) rsz hp
    unfold Module.vecIdft
    rw [v i t hi ht]
    unfold zext
    split
    · rename_i his
      have h1 : (i + 1) * nn ≤ sz * nn := Nat.mul_le_mul_right _ (by omega)
      rw [Nat.succ_mul] at h1
      have := extract_getD d (i * nn) nn t (by omega) ht
      show _ = P.coef i t
      rw [← hv i t his ht]
      simpa [toyParts, Module.dlimb] using this
    · simp [toyParts, Array.getD, ht]
  small_product_exact := fun _ _ _ _ _ _ hb => hb.elim

end Spq.Prog
