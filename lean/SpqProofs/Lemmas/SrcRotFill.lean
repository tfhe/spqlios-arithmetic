/-
  Fill loops whose right-hand side reads another buffer at a shifted index (rotation, multiplication by `X^p - 1`):
  `rot_loops`, one statement for both kernels, both element types and both cases of the models.  The right-hand
  sides are evaluated by composing the `eval_*` lemmas; the int64 and double kernels differ only in the type tag of
  their negations and subtractions, which `ElemOps` relates to the coefficient record of the model.  `rot_cells` is
  `rot_loops` with the result on `Cells`.  `rotate_cells`, `mul_xp_minus_one_cells` are the two kernels on such cells, each
  proved once for any function whose body is the generated `int64_t` body with the element type changed (`Stmt.unAt`):
  the `double` kernel is one by `rfl` on the two generated terms, so a change of either source shows there.
-/
import Gen.CSrc
import Spq.Coeffs
import SpqProofs.Lemmas.SrcFill
import SpqProofs.Lemmas.SrcMask
namespace Spq.CIR

/-- the interpreter's arithmetic at the element type `ty` is the coefficient record `o` -/
structure ElemOps (ty : Ty) (o : Ops Int) : Prop where
  zero : o.zero = 0
  neg : ∀ x, evalUn .neg ty x = .ok (o.neg x)
  sub : ∀ x y, evalBin .sub ty x y = .ok (o.sub x y)

theorem elem_i64 : ElemOps .i64 i64Ops := ⟨rfl, fun _ => rfl, fun _ _ => rfl⟩
theorem elem_f64 : ElemOps .f64 f64Ops := ⟨rfl, fun _ => rfl, fun _ _ => rfl⟩

/-- the type tag `t` of an operation when the element type `int64_t` becomes `ty` -/
def Ty.elemAt : Ty → Ty → Ty
  | .i64, ty => ty
  | t, _ => t

/-- `e` with the element type `int64_t` replaced by `ty`: every unary operation (in these kernels the negations of
    coefficients) and every binary operation at `.i64` is moved to `ty`.  What stands under a cast is left as it is:
    there the kernels compute an index from the `int64_t` parameter `p`, which the `double` kernels have too. -/
def Expr.unAt (ty : Ty) : Expr → Expr
  | .un op _ e => .un op ty (e.unAt ty)
  | .load p i => .load p (i.unAt ty)
  | .bin op t a b => .bin op (t.elemAt ty) (a.unAt ty) (b.unAt ty)
  | .cond c a b => .cond (c.unAt ty) (a.unAt ty) (b.unAt ty)
  | e => e

def Stmt.unAt (ty : Ty) : Stmt → Stmt
  | .assign s e => .assign s (e.unAt ty)
  | .store p i e => .store p (i.unAt ty) (e.unAt ty)
  | .seq a b => .seq (a.unAt ty) (b.unAt ty)
  | .ite c t e => .ite (c.unAt ty) (t.unAt ty) (e.unAt ty)
  | .while c b => .while (c.unAt ty) (b.unAt ty)
  | .for i c inc b => .for (i.unAt ty) (c.unAt ty) (inc.unAt ty) (b.unAt ty)
  | .doWhile b c => .doWhile (b.unAt ty) (c.unAt ty)
  | s => s

section evalLemmas
variable {Γ : List Ptr} {σ : State}

theorem eval_neg_elem {ty : Ty} {o : Ops Int} (h : ElemOps ty o) {e : Expr} {v : Int}
    (he : eval Γ σ e = .ok v) : eval Γ σ (.un .neg ty e) = .ok (o.neg v) := by
  rw [eval_un, he, R.bind_ok, h.neg]

theorem eval_sub_elem {ty : Ty} {o : Ops Int} (h : ElemOps ty o) {e1 e2 : Expr} {v1 v2 : Int}
    (h1 : eval Γ σ e1 = .ok v1) (h2 : eval Γ σ e2 = .ok v2) :
    eval Γ σ (.bin .sub ty e1 e2) = .ok (o.sub v1 v2) := by
  rw [eval_bin, h1, R.bind_ok, h2, R.bind_ok, h.sub]

theorem eval_var_eq {x : Nat} {v : Int} (h : lget σ.env x = v) : eval Γ σ (.var x) = .ok v := by
  rw [eval_var, h]

theorem eval_add_u64 {e1 e2 : Expr} {a b : Nat} (h1 : eval Γ σ e1 = .ok (a : Int))
    (h2 : eval Γ σ e2 = .ok (b : Int)) (h : a + b < 18446744073709551616) :
    eval Γ σ (.bin .add .u64 e1 e2) = .ok ((a + b : Nat) : Int) := by
  rw [eval_bin, h1, R.bind_ok, h2, R.bind_ok, evalBin_add_u64]
  congr 1
  omega

theorem eval_sub_u64 {e1 e2 : Expr} {a b : Nat} (h1 : eval Γ σ e1 = .ok (a : Int))
    (h2 : eval Γ σ e2 = .ok (b : Int)) (h : b ≤ a) (ha : a < 18446744073709551616) :
    eval Γ σ (.bin .sub .u64 e1 e2) = .ok ((a - b : Nat) : Int) := by
  rw [eval_bin, h1, R.bind_ok, h2, R.bind_ok, evalBin_sub_u64]
  congr 1
  omega

theorem eval_load_at {ap : Nat} {ie : Expr} {i : Nat} {v : Int} (hi : eval Γ σ ie = .ok (i : Int))
    (hl : loadCell σ.mem (Γ.getD ap none) (i : Int) = .ok v) : eval Γ σ (.load ap ie) = .ok v := by
  rw [eval_load, hi, R.bind_ok, hl]

/-- `e`, or its negation at the element type -/
def sgnE (ty : Ty) (c : Bool) (e : Expr) : Expr :=
  match c with
  | true => .un .neg ty e
  | false => e

def sgnV (o : Ops Int) (c : Bool) (v : Int) : Int :=
  match c with
  | true => o.neg v
  | false => v

theorem eval_sgn {ty : Ty} {o : Ops Int} (h : ElemOps ty o) (c : Bool) {e : Expr} {v : Int}
    (he : eval Γ σ e = .ok v) : eval Γ σ (sgnE ty c e) = .ok (sgnV o c v) := by
  cases c
  · exact he
  · exact eval_neg_elem h he
end evalLemmas

/-- The two consecutive fill loops of the rotation-shaped kernels, for any element type, environment, slots and
    sequence of memories: cells `[0, mid)` take `in[j + s]`, cells `[mid, n)` take `in[j - mid]`, one of the halves
    negated (`c`: the first).  `V js e` is what is stored for the loaded (and possibly negated) value `e` when the
    counter is slot `js`: `e` itself (rotation) or `e - in[j]` (multiplication by `X^p - 1`); `gV k v` its value.
    `A` are the source cells, which no memory of the sequence has changed (`hS`): whole buffers with `res ≠ in` and
    disjoint windows of an arena are instances. -/
theorem rot_loops {Γ : List Ptr} {ty : Ty} {o : Ops Int} (ho : ElemOps ty o) {rp ap j1 j2 sM sS sN : Nat} {e0 : Expr}
    {env : List Int} (M : Nat → Mem) (A : Nat → Int) (n mid s : Nat) (c : Bool) (V : Nat → Expr → Expr)
    (gV : Nat → Int → Int)
    (hV : ∀ (js : Nat) (σ : State) (e : Expr) (v : Int) (k : Nat), lget σ.env js = (k : Int) →
      loadCell σ.mem (Γ.getD ap none) (k : Int) = .ok (A k) → eval Γ σ e = .ok v →
      eval Γ σ (V js e) = .ok (gV k v))
    (hms : mid + s = n) (h64 : n < 18446744073709551616)
    (hF : Fills M (Γ.getD rp none) (fun k =>
      if k < mid then gV k (sgnV o c (A (k + s))) else gV k (sgnV o (!c) (A (k - mid)))) n)
    (hS : ∀ k i, i < n → loadCell (M k) (Γ.getD ap none) (i : Int) = .ok (A i))
    (hj1 : j1 < env.length) (hj2 : j2 < env.length) (he0 : eval Γ ⟨env, M 0⟩ e0 = .ok 0)
    (h1M : ∀ d, lget (lset env j1 d) sM = (mid : Int)) (h1S : ∀ d, lget (lset env j1 d) sS = (s : Int))
    (h2M : ∀ d, lget (lset (lset env j1 (mid : Int)) j2 d) sM = (mid : Int))
    (h2N : ∀ d, lget (lset (lset env j1 (mid : Int)) j2 d) sN = (n : Int)) :
    ∀ f, n ≤ f →
      memOf (seqK
        (exec Γ (.for (.assign j1 e0) (.bin .lt .u64 (.var j1) (.var sM))
          (.assign j1 (.bin .add .u64 (.var j1) (.lit 1)))
          (.store rp (.var j1) (V j1 (sgnE ty c (.load ap (.bin .add .u64 (.var j1) (.var sS))))))) f ⟨env, M 0⟩)
        (exec Γ (.for (.assign j2 (.var sM)) (.bin .lt .u64 (.var j2) (.var sN))
          (.assign j2 (.bin .add .u64 (.var j2) (.lit 1)))
          (.store rp (.var j2) (V j2 (sgnE ty (!c) (.load ap (.bin .sub .u64 (.var j2) (.var sM))))))) f))
      = .ok (M n) := by
  intro f hf
  have hl2 : j2 < (lset env j1 (mid : Int)).length := by rw [length_lset]; exact hj2
  rw [fill_for_mem Γ rp j1 e0 (.var sM) _ env M _ 0 mid (fun k hk => hF k (by omega)) (Nat.zero_le _) (by omega) hj1
      he0 (fun k _ _ => eval_var_eq (h1M _)) (fun k _ hk => ?e1) f (by omega), seqK_norm,
    fill_for_mem Γ rp j2 (.var sM) (.var sN) _ _ M _ mid n hF (by omega) h64 hl2 (eval_var_eq (h1M _))
      (fun k _ _ => eval_var_eq (h2N _)) (fun k hk1 hk2 => ?e2) f (by omega), memOf_ok]
  case e1 =>
    rw [if_pos hk]
    exact hV j1 _ _ _ k (lget_lset_self env j1 _ hj1) (hS k k (by omega)) (eval_sgn ho c (eval_load_at
      (eval_add_u64 (eval_var_eq (lget_lset_self env j1 _ hj1)) (eval_var_eq (h1S _)) (by omega))
      (hS k (k + s) (by omega))))
  case e2 =>
    rw [if_neg (by omega)]
    exact hV j2 _ _ _ k (lget_lset_self _ j2 _ hl2) (hS k k hk2) (eval_sgn ho (!c) (eval_load_at
      (eval_sub_u64 (eval_var_eq (lget_lset_self _ j2 _ hl2)) (eval_var_eq (h2M _)) hk1 (by omega))
      (hS k (k - mid) (by omega))))

/-- `rot_loops` with the result on the cells of a family `M` in which the source cells `A` are never written -/
theorem rot_cells {Γ : List Ptr} {ty : Ty} {o : Ops Int} (ho : ElemOps ty o) {rp ap j1 j2 sM sS sN : Nat} {e0 : Expr}
    {env : List Int} {M : Array Int → Mem} (n mid s : Nat) (hC : Cells M (Γ.getD rp none) n) (A : Nat → Int)
    (hA : ∀ Y i, Y.size = n → i < n → loadCell (M Y) (Γ.getD ap none) (i : Int) = .ok (A i)) (X : Array Int)
    (hX : X.size = n) (c : Bool) (V : Nat → Expr → Expr) (gV : Nat → Int → Int)
    (hV : ∀ (js : Nat) (σ : State) (e : Expr) (v : Int) (k : Nat), lget σ.env js = (k : Int) →
      loadCell σ.mem (Γ.getD ap none) (k : Int) = .ok (A k) → eval Γ σ e = .ok v →
      eval Γ σ (V js e) = .ok (gV k v))
    (hms : mid + s = n) (h64 : n < 18446744073709551616)
    (hj1 : j1 < env.length) (hj2 : j2 < env.length) (he0 : eval Γ ⟨env, M X⟩ e0 = .ok 0)
    (h1M : ∀ d, lget (lset env j1 d) sM = (mid : Int)) (h1S : ∀ d, lget (lset env j1 d) sS = (s : Int))
    (h2M : ∀ d, lget (lset (lset env j1 (mid : Int)) j2 d) sM = (mid : Int))
    (h2N : ∀ d, lget (lset (lset env j1 (mid : Int)) j2 d) sN = (n : Int)) :
    ∀ f, n ≤ f →
      memOf (seqK
        (exec Γ (.for (.assign j1 e0) (.bin .lt .u64 (.var j1) (.var sM))
          (.assign j1 (.bin .add .u64 (.var j1) (.lit 1)))
          (.store rp (.var j1) (V j1 (sgnE ty c (.load ap (.bin .add .u64 (.var j1) (.var sS))))))) f ⟨env, M X⟩)
        (exec Γ (.for (.assign j2 (.var sM)) (.bin .lt .u64 (.var j2) (.var sN))
          (.assign j2 (.bin .add .u64 (.var j2) (.lit 1)))
          (.store rp (.var j2) (V j2 (sgnE ty (!c) (.load ap (.bin .sub .u64 (.var j2) (.var sM))))))) f))
      = .ok (M (Array.ofFn (n := n) fun i =>
          if i.val < mid then gV i.val (sgnV o c (A (i.val + s))) else gV i.val (sgnV o (!c) (A (i.val - mid))))) := by
  intro f hf
  have h := rot_loops ho (rp := rp) (ap := ap) (j1 := j1) (j2 := j2) (sM := sM) (sS := sS) (sN := sN) (e0 := e0)
    (env := env) _ A n mid s c V gV hV hms h64 (hC.fills X hX _)
    (fun k i hi => hA _ i (by rw [size_fillTo]; exact hX) hi) hj1 hj2 (by rw [fillTo_zero]; exact he0) h1M h1S h2M h2N
    f hf
  rw [fillTo_zero] at h
  rw [h, fillTo_all _ _ _ hX]

/-! ### a kernel proved on the cells of every family, read on whole buffers: the result buffer `r` (`cells_whole`),
    and a source buffer `a ≠ r`, which no store into `r` changes -/

theorem whole_of_cells {fn : Fn} {args : List Int} {nn F : Nat} {K : Array Int → Array Int} (hn : 1 ≤ nn) (mem : Mem)
    (r : Nat) (hr : (buf mem r).size = nn)
    (H : ∀ {M : Array Int → Mem} {pr : Ptr}, Cells M pr nn → ∀ X, X.size = nn → ∀ fuel, F ≤ fuel →
      run fuel fn args [pr] (M X) = .ok (M (K X))) :
    ∀ fuel, F ≤ fuel → run fuel fn args [some (r, 0)] mem = .ok (mem.setIfInBounds r (K (buf mem r))) := by
  intro fuel hf
  have h := H (cells_whole mem r (lt_size_of_buf_size_pos mem r (by omega)) nn) (buf mem r) hr fuel hf
  rwa [set_buf_self] at h

theorem whole_of_cells2 {fn : Fn} {args : List Int} {nn F : Nat} {K : Array Int → Array Int → Array Int} (hn : 1 ≤ nn)
    (mem : Mem) (r a : Nat) (hra : a ≠ r) (hr : (buf mem r).size = nn) (ha : (buf mem a).size = nn)
    (H : ∀ {M : Array Int → Mem} {pr pa : Ptr}, Cells M pr nn → ∀ inp : Array Int,
      (∀ Y k, Y.size = nn → k < nn → loadCell (M Y) pa (k : Int) = .ok (inp.getD k 0)) → ∀ X, X.size = nn →
      ∀ fuel, F ≤ fuel → run fuel fn args [pr, pa] (M X) = .ok (M (K inp X))) :
    ∀ fuel, F ≤ fuel →
      run fuel fn args [some (r, 0), some (a, 0)] mem = .ok (mem.setIfInBounds r (K (buf mem a) (buf mem r))) := by
  intro fuel hf
  have h := H (cells_whole mem r (lt_size_of_buf_size_pos mem r (by omega)) nn) (buf mem a)
    (fun Y k _ hk => load_other mem r a Y k hra (by omega)) (buf mem r) hr fuel hf
  rwa [set_buf_self] at h

/-! ### the two cases of the models (`a = (-p) mod 2nn` below `nn` or not) -/
section model
variable (o : Ops Int) (nn : Nat) (p : Int) (inp : Array Int)

theorem rotate_of_lt (h : negMask p (2 * nn) < nn) :
    Coeffs.rotate o nn p inp = Array.ofFn (n := nn) fun j =>
      if j.val < nn - negMask p (2 * nn) then inp.getD (j.val + negMask p (2 * nn)) o.zero
      else o.neg (inp.getD (j.val - (nn - negMask p (2 * nn))) o.zero) := by
  unfold Coeffs.rotate
  simp only [if_pos h]

theorem rotate_of_ge (h : ¬ negMask p (2 * nn) < nn) :
    Coeffs.rotate o nn p inp = Array.ofFn (n := nn) fun j =>
      if j.val < nn - (negMask p (2 * nn) - nn) then o.neg (inp.getD (j.val + (negMask p (2 * nn) - nn)) o.zero)
      else inp.getD (j.val - (nn - (negMask p (2 * nn) - nn))) o.zero := by
  unfold Coeffs.rotate
  simp only [if_neg h]

theorem mulXpMinusOne_of_lt (h : negMask p (2 * nn) < nn) :
    Coeffs.mulXpMinusOne o nn p inp = Array.ofFn (n := nn) fun j =>
      if j.val < nn - negMask p (2 * nn) then
        o.sub (inp.getD (j.val + negMask p (2 * nn)) o.zero) (inp.getD j.val o.zero)
      else o.sub (o.neg (inp.getD (j.val - (nn - negMask p (2 * nn))) o.zero)) (inp.getD j.val o.zero) := by
  unfold Coeffs.mulXpMinusOne
  simp only [if_pos h]

theorem mulXpMinusOne_of_ge (h : ¬ negMask p (2 * nn) < nn) :
    Coeffs.mulXpMinusOne o nn p inp = Array.ofFn (n := nn) fun j =>
      if j.val < nn - (negMask p (2 * nn) - nn) then
        o.sub (o.neg (inp.getD (j.val + (negMask p (2 * nn) - nn)) o.zero)) (inp.getD j.val o.zero)
      else o.sub (inp.getD (j.val - (nn - (negMask p (2 * nn) - nn))) o.zero) (inp.getD j.val o.zero) := by
  unfold Coeffs.mulXpMinusOne
  simp only [if_neg h]
end model

/-! ### the two kernels, for a function whose body is the generated `int64_t` one moved to the element type `ty`
    (`Stmt.unAt`; both generated kernels are such functions, by `rfl`), with the result on the cells of any family in which
    the source cells `inp` are never written: `A = (-p) mod 2nn` is computed, and each of the two cases is `rot_cells` -/
section kernels
variable {ty : Ty} {o : Ops Int} (ho : ElemOps ty o) (fn : Fn) (t : Nat) (ht : t ≤ 63) (nn : Nat) (hnn : nn = 2 ^ t)
  (p : Int) {M : Array Int → Mem} {pr pa : Ptr} (hC : Cells M pr nn) (inp : Array Int)
  (hA : ∀ Y k, Y.size = nn → k < nn → loadCell (M Y) pa (k : Int) = .ok (inp.getD k 0)) (X : Array Int)
  (hX : X.size = nn)
include ho ht hnn hC hA hX

theorem rotate_cells (hfb : fn.body = Gen.CSrc.znx_rotate_i64.body.unAt ty) (hfs : fn.nslots = 9) :
    ∀ fuel, nn ≤ fuel → run fuel fn [(nn : Int), p] [pr, pa] (M X) = .ok (M (Coeffs.rotate o nn p inp)) := by
  obtain ⟨name, sc, ps, ns, body, ret⟩ := fn
  subst hfb hfs
  intro fuel hf
  have hn1 : 1 ≤ nn := hnn ▸ one_le_pow2 t
  have hn2 : nn ≤ 9223372036854775808 := hnn ▸ pow_le_p63 t ht
  have hA2 : negMask p (2 * nn) < 2 * nn := negMask_lt p (2 * nn) (by omega)
  dsimp only [run, Gen.CSrc.znx_rotate_i64, Stmt.unAt, Expr.unAt, Ty.elemAt, List.length_cons, List.length_nil,
    List.replicate, List.cons_append, List.nil_append, Nat.reduceSub, Nat.reduceAdd]
  cir_simp
  rw [negmask_src' t ht nn hnn p]
  by_cases hlt : negMask p (2 * nn) < nn
  · rw [rotate_of_lt _ _ _ _ hlt, ho.zero]
    generalize negMask p (2 * nn) = A at hA2 hlt ⊢
    simp only [Int.ofNat_lt, hlt, decide_true, if_true, sub_u64_nat nn A (by omega) (by omega)]
    exact rot_cells ho (Γ := [pr, pa]) (rp := 0) (ap := 1) nn (nn - A) A hC (fun i => inp.getD i 0) hA X hX false
      (fun _ e => e) (fun _ v => v) (fun _ _ _ _ _ _ _ h => h) (by omega) (by omega) (by simp) (by simp) rfl
      (fun _ => rfl) (fun _ => rfl) (fun _ => rfl) (fun _ => rfl) fuel hf
  · rw [rotate_of_ge _ _ _ _ hlt, ho.zero]
    generalize negMask p (2 * nn) = A at hA2 hlt ⊢
    simp only [Int.ofNat_lt, hlt, decide_false, Bool.false_eq_true, if_false, sub_u64_nat A nn (by omega) (by omega),
      sub_u64_nat nn (A - nn) (by omega) (by omega)]
    exact rot_cells ho (Γ := [pr, pa]) (rp := 0) (ap := 1) nn (nn - (A - nn)) (A - nn) hC (fun i => inp.getD i 0)
      hA X hX true (fun _ e => e) (fun _ v => v) (fun _ _ _ _ _ _ _ h => h) (by omega) (by omega) (by simp) (by simp)
      rfl (fun _ => rfl) (fun _ => rfl) (fun _ => rfl) (fun _ => rfl) fuel hf

theorem mul_xp_minus_one_cells (hfb : fn.body = Gen.CSrc.znx_mul_xp_minus_one.body.unAt ty) (hfs : fn.nslots = 9) :
    ∀ fuel, nn ≤ fuel → run fuel fn [(nn : Int), p] [pr, pa] (M X) = .ok (M (Coeffs.mulXpMinusOne o nn p inp)) := by
  obtain ⟨name, sc, ps, ns, body, ret⟩ := fn
  subst hfb hfs
  intro fuel hf
  have hn1 : 1 ≤ nn := hnn ▸ one_le_pow2 t
  have hn2 : nn ≤ 9223372036854775808 := hnn ▸ pow_le_p63 t ht
  have hA2 : negMask p (2 * nn) < 2 * nn := negMask_lt p (2 * nn) (by omega)
  dsimp only [run, Gen.CSrc.znx_mul_xp_minus_one, Stmt.unAt, Expr.unAt, Ty.elemAt, List.length_cons, List.length_nil,
    List.replicate, List.cons_append, List.nil_append, Nat.reduceSub, Nat.reduceAdd]
  cir_simp
  rw [negmask_src' t ht nn hnn p]
  by_cases hlt : negMask p (2 * nn) < nn
  · rw [mulXpMinusOne_of_lt _ _ _ _ hlt, ho.zero]
    generalize negMask p (2 * nn) = A at hA2 hlt ⊢
    simp only [Int.ofNat_lt, hlt, decide_true, if_true, sub_u64_nat nn A (by omega) (by omega)]
    exact rot_cells ho (Γ := [pr, pa]) (rp := 0) (ap := 1) nn (nn - A) A hC (fun i => inp.getD i 0) hA X hX false
      (fun js e => .bin .sub ty e (.load 1 (.var js))) (fun k v => o.sub v (inp.getD k 0))
      (fun _ _ _ _ _ hj hl h => eval_sub_elem ho h (eval_load_at (eval_var_eq hj) hl))
      (by omega) (by omega) (by simp) (by simp) rfl (fun _ => rfl) (fun _ => rfl) (fun _ => rfl) (fun _ => rfl) fuel hf
  · rw [mulXpMinusOne_of_ge _ _ _ _ hlt, ho.zero]
    generalize negMask p (2 * nn) = A at hA2 hlt ⊢
    simp only [Int.ofNat_lt, hlt, decide_false, Bool.false_eq_true, if_false, sub_u64_nat A nn (by omega) (by omega),
      sub_u64_nat nn (A - nn) (by omega) (by omega)]
    exact rot_cells ho (Γ := [pr, pa]) (rp := 0) (ap := 1) nn (nn - (A - nn)) (A - nn) hC (fun i => inp.getD i 0)
      hA X hX true (fun js e => .bin .sub ty e (.load 1 (.var js))) (fun k v => o.sub v (inp.getD k 0))
      (fun _ _ _ _ _ hj hl h => eval_sub_elem ho h (eval_load_at (eval_var_eq hj) hl))
      (by omega) (by omega) (by simp) (by simp) rfl (fun _ => rfl) (fun _ => rfl) (fun _ => rfl) (fun _ => rfl) fuel hf
end kernels

/-- `znx_rotate_i64` on such cells -/
theorem znx_rotate_cells (t : Nat) (ht : t ≤ 63) (nn : Nat) (hnn : nn = 2 ^ t) (p : Int) {M : Array Int → Mem}
    {pr pa : Ptr} (hC : Cells M pr nn) (inp : Array Int)
    (hA : ∀ Y k, Y.size = nn → k < nn → loadCell (M Y) pa (k : Int) = .ok (inp.getD k 0)) (X : Array Int)
    (hX : X.size = nn) :
    ∀ fuel, nn ≤ fuel →
      run fuel Gen.CSrc.znx_rotate_i64 [(nn : Int), p] [pr, pa] (M X) = .ok (M (Coeffs.rotate i64Ops nn p inp)) :=
  rotate_cells elem_i64 _ t ht nn hnn p hC inp hA X hX rfl rfl

end Spq.CIR
