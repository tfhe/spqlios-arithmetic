/-
  C02 / C01: zero columns and zero rows in BINARY64.  The inverse reim transform of a vector whose cells are all
  (finite, value 0) — `+0` or `−0` — has only such cells (the twiddles may be anything: `0·w` is `±0`, `±0 ± ±0` is
  `±0`), and the final conversion maps them to the integer 0.  Proved by running the structural inverse network on the
  two-point abstraction `true = "finite, value 0"`, `false = "anything"`.
-/
import SpqProofs.Lemmas.VmpErrPipe3
import SpqProofs.Lemmas.VmpErrOvf4
namespace Spq.VmpErr
open Finset Spq Spq.Module Spq.Fft Spq.Fft.Alg Spq.Fft.RelN Spq.Fft.SimP Spq.Fft.LevelN Spq.Fft.SchedN Spq.Fft.Sim
  Spq.FftErr Spq.F64 Spq.Reim4 Spq.ProdErr Spq.Conv

/-- a finite double of value 0 (`+0` or `−0`) -/
def Z0 (b : ℕ) : Prop := Fin64 b ∧ val b = 0

theorem rounds_zero {r : ℕ} (h : RoundsTo r 0) : Z0 r := by
  refine ⟨h.1, ?_⟩
  have := h.2.1 (Or.inl rfl)
  rw [abs_zero, mul_zero, sub_zero] at this
  exact abs_eq_zero.1 (le_antisymm this (abs_nonneg _))

theorem noOvf_zero : NoOvf 0 := NormalRange.noOvf (Or.inl rfl)

/-- the abstraction: `true` = "finite, value 0", `false` = no information -/
def zA : Arith Bool :=
  ⟨fun a b => a && b, fun a b => a && b, fun a b => a || b, fun a => a, fun a b c => (a || b) && c, fun a b c => (a || b) && c⟩

def RlZ (b : ℕ) (z : Bool) : Prop := z = true → Z0 b

theorem mul_zero_of {a b : ℕ} (h : val a = 0 ∨ val b = 0) : val a * val b = 0 := by
  rcases h with h | h <;> rw [h] <;> simp

theorem zsim : ASim RlZ f64 zA where
  add := by
    intro a a' b b' h1 h2 hz
    have hz' : a' = true ∧ b' = true := by simpa [zA] using hz
    obtain ⟨_, va⟩ := h1 hz'.1
    obtain ⟨_, vb⟩ := h2 hz'.2
    have h := add_std a b (by rw [va, vb, add_zero]; exact noOvf_zero)
    rw [va, vb, add_zero, abs_zero, mul_zero, sub_zero] at h
    exact ⟨h.1, abs_eq_zero.1 (le_antisymm h.2 (abs_nonneg _))⟩
  sub := by
    intro a a' b b' h1 h2 hz
    have hz' : a' = true ∧ b' = true := by simpa [zA] using hz
    obtain ⟨_, va⟩ := h1 hz'.1
    obtain ⟨fb, vb⟩ := h2 hz'.2
    have h := sub_std a b fb.1 (by rw [va, vb, sub_zero]; exact noOvf_zero)
    rw [va, vb, sub_zero, abs_zero, mul_zero, sub_zero] at h
    exact ⟨h.1, abs_eq_zero.1 (le_antisymm h.2 (abs_nonneg _))⟩
  mul := by
    intro a a' b b' h1 h2 hz
    have hz' : a' = true ∨ b' = true := by simpa [zA] using hz
    have e : val a * val b = 0 := mul_zero_of (hz'.imp (fun q => (h1 q).2) (fun q => (h2 q).2))
    have h := mul_std a b (by rw [e]; exact noOvf_zero)
    rw [e] at h
    exact rounds_zero h
  neg := by
    intro a a' h1 hz
    obtain ⟨fa, va⟩ := h1 hz
    exact ⟨fin64_neg fa, by show val (F64.neg a) = 0; rw [val_neg fa.1, va, neg_zero]⟩
  fma := by
    intro a a' b b' c c' h1 h2 h3 hz
    have hz' : (a' = true ∨ b' = true) ∧ c' = true := by simpa [zA] using hz
    have e : val a * val b = 0 := mul_zero_of (hz'.1.imp (fun q => (h1 q).2) (fun q => (h2 q).2))
    obtain ⟨_, vc⟩ := h3 hz'.2
    have h := fma_std a b c (by rw [e, vc, add_zero]; exact noOvf_zero)
    rw [e, vc, add_zero] at h
    exact rounds_zero h
  fms := by
    intro a a' b b' c c' h1 h2 h3 hz
    have hz' : (a' = true ∨ b' = true) ∧ c' = true := by simpa [zA] using hz
    have e : val a * val b = 0 := mul_zero_of (hz'.1.imp (fun q => (h1 q).2) (fun q => (h2 q).2))
    obtain ⟨fc, vc⟩ := h3 hz'.2
    have h := fms_std a b c fc.1 (by rw [e, vc, sub_zero]; exact noOvf_zero)
    rw [e, vc, sub_zero] at h
    exact rounds_zero h

/-- on the abstraction every inverse butterfly maps zero pairs to zero pairs, whatever the twiddle -/
theorem zgNet (fma : Bool) (k ℓ d b : ℕ) :
    gNet (ifamOf fma zA) (fun _ => false) (fun _ => false) k ℓ d b (true, true) (true, true) = ((true, true), (true, true)) := by
  unfold gNet ctK citK
  cases fma <;> simp only [ifamOf] <;> split <;> (try split) <;> (try split) <;> rfl

theorem zVNI (fma : Bool) (k : ℕ) : ∀ n p, n ≤ k → p < 2 ^ k →
    VNI k (gNet (ifamOf fma zA) (fun _ => false) (fun _ => false) k) (fun _ => (true, true)) n p = (true, true) := by
  have := VNI_rel_on (γ := Bool × Bool) (δ := Unit) (fun u _ => u = (true, true))
    (gNet (ifamOf fma zA) (fun _ => false) (fun _ => false) k) (fun _ _ _ _ _ => ((), ()))
    (by
      intro ℓ d b u u' v v' hu hv
      subst hu hv
      rw [zgNet]
      exact ⟨rfl, rfl⟩)
    k (fun _ => (true, true)) (fun _ => ()) (fun _ _ => rfl)
  exact this

theorem ifamOf_sim {α β : Type} {Rl : α → β → Prop} {A : Arith α} {B : Arith β} (fma : Bool) (h : ASim Rl A B) :
    FlavSim Rl (ifamOf fma A) (ifamOf fma B) := by
  cases fma
  · exact invRef_sim h
  · exact invFma_sim h

theorem ifft_zero (fma : Bool) (k : ℕ) (cNi sNi : ℕ → ℕ) (d : Array ℕ) (hd : d.size = 2 * 2 ^ k)
    (hz : ∀ p, p < 2 * 2 ^ k → Z0 d[p]!) :
    ∀ p, p < 2 * 2 ^ k → Z0 (reimIfft (if fma then "fma" else "ref") (2 ^ k) (tabI k cNi sNi) d)[p]! := by
  obtain ⟨in1, c1⟩ := (xformI k).cells (ifamOf fma f64) cNi sNi d hd
  have r := fun j (hj : j < 2 ^ k) => VNI_rel_on (R2 RlZ) _ _
    (fun ℓ dd b u u' v v' hu hv => gNet_sim (ifamOf_sim fma zsim) cNi sNi (fun _ => false) (fun _ => false)
      (fun _ h => by cases h) (fun _ h => by cases h) k ℓ dd b hu hv) k (prs (splitRI (2 ^ k) d)) (fun _ => (true, true))
    (fun p hp => by rw [in1 p hp]; exact ⟨fun _ => hz p (by omega), fun _ => hz (2 ^ k + p) (by omega)⟩) k j (le_refl k) hj
  rw [reimIfft_eq]
  unfold reimIfftA tabI
  refine halves (fun j hj => ?_) (fun j hj => ?_)
  · have := r j hj
    rw [zVNI fma k k j (le_refl k) hj] at this
    rw [(c1 j hj).1]
    exact this.1 rfl
  · have := r j hj
    rw [zVNI fma k k j (le_refl k) hj] at this
    rw [(c1 j hj).2]
    exact this.2 rfl

theorem toZnx_zero (c : Cfg) (k : ℕ) (hk : k ≤ 961) (hnn : c.nn = 2 * 2 ^ k) (hv : c.toVariant ≠ .ref → 1 ≤ k)
    (d : Array ℕ) (hz : ∀ p, p < 2 * 2 ^ k → Z0 d[p]!) :
    (Cfg.parts c).toZnx d = Array.replicate (2 * 2 ^ k) 0 := by
  apply array_eq_of_cells (2 * 2 ^ k)
  · exact toZnx_size c k hnn hv d
  · simp
  · intro i hi
    obtain ⟨f, v0⟩ := hz i hi
    obtain ⟨r, hr1, hr2⟩ := conv_tail (K := ℚ) c k hk hnn hv d i hi f 0 0 (by rw [v0]; simp)
      (by have := Bv_ge c.toVariant; simp only [abs_zero, add_zero, Rat.cast_id]; linarith)
    refine ⟨r, hr1, ?_⟩
    rw [int_eq_of_lt_one (K := ℚ) r 0 (by rw [Int.cast_zero]; linarith)]
    exact (getD_replicate (0 : ℤ) _ i).symm

theorem zero_col_out (c : Cfg) (k : ℕ) (hk : k ≤ 961) (cN sN cNi sNi : ℕ → ℕ) (h : CfgOk c k cN sN cNi sNi)
    (d : Array ℕ) (hd : d.size = 2 * 2 ^ k) (hz : ∀ p, p < 2 * 2 ^ k → d.getD p 0 = 0) :
    (Cfg.parts c).toZnx ((Cfg.parts c).ifft d) = Array.replicate (2 * 2 ^ k) 0 := by
  rw [parts_ifft c k cN sN cNi sNi h]
  apply toZnx_zero c k hk h.nn h.toVar
  apply ifft_zero c.ifftFma k cNi sNi d hd
  intro p hp
  rw [getElem!_nat, hz p hp]
  exact ⟨fin64_zero, val_zero⟩

end Spq.VmpErr
