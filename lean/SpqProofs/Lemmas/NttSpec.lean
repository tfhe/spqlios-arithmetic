/-
  The exact transform pair of the q120 NTT over `ZMod q`: level sizes, the multipliers of a level, `exNtt` and `exIntt`
  as lists of exact passes, their linearity and locality, and the round trip `exIntt (exNtt g) = g`.  Nothing here
  mentions the machine model: the evaluation theorems (`NttEval`) and the ring bridge build on this, the refinement
  (`NttRefine`) meets it at `exAll_fwdLSteps`, `exAll_invLSteps`.
-/
import SpqProofs.Lemmas.NttExact
import Mathlib.Data.ZMod.Basic
import Mathlib.Tactic.Positivity

namespace Spq.Q120Ntt

theorem pow_succ_half (k : Nat) : 2 ^ (k + 1) / 2 = 2 ^ k := by
  rw [pow_succ]; exact Nat.mul_div_cancel _ (by norm_num)

/-- exact multiplier of word `t` of a level of size `nn` for a root `w` (`n2 = 2n`) -/
def τLevel {q : Nat} (w : ZMod q) (n2 nn : Nat) : Nat → ZMod q := fun t => w ^ ((t + 1) * (n2 / nn))

/-- level sizes of the forward transform: `2^k, …, 4, 2` -/
def fwdSizes : Nat → List Nat
  | 0 => []
  | k+1 => 2 ^ (k+1) :: fwdSizes k

/-- level sizes of the inverse transform: `2^(l+1), …, 2^(l+c)` -/
def invSizes : (c l : Nat) → List Nat
  | 0, _ => []
  | c+1, l => 2 ^ (l+1) :: invSizes c (l+1)

/-- the levels `(nn, multipliers)` of a size-`2^k` transform with root `w`, in forward order -/
def exLevels {q : Nat} (w : ZMod q) (k : Nat) : List (Nat × (Nat → ZMod q)) :=
  (fwdSizes k).map fun nn => (nn, τLevel w (2 * 2 ^ k) nn)

/-- exact forward transform: twist by `w^i`, then DIF levels `nn = 2^k … 2` with twiddles `w^(j*2n/nn)`
    (output in bit-reversed order) -/
def exNtt {q : Nat} (w : ZMod q) (k : Nat) (g : Nat → ZMod q) : Nat → ZMod q :=
  exFwdAll (exLevels w k) (exTwist (fun i => w ^ i) g)

/-- exact inverse transform: DIT levels `nn = 2 … 2^k` with twiddles `v^(j*2n/nn)`, then twist by `v^i * ninv` -/
def exIntt {q : Nat} (v ninv : ZMod q) (k : Nat) (g : Nat → ZMod q) : Nat → ZMod q :=
  exTwist (fun i => v ^ i * ninv) (exInvAll (exLevels v k) g)

theorem fwdSizes_eq (k : Nat) : fwdSizes k = (List.range k).map fun t => 2 ^ (k - t) := by
  induction k with
  | zero => rfl
  | succ k ih =>
    rw [fwdSizes, ih, List.range_succ_eq_map, List.map_cons, List.map_map]
    exact congrArg₂ _ rfl (List.map_congr_left fun t _ => by simp)

theorem invSizes_eq (c l : Nat) : invSizes c l = (List.range c).map fun t => 2 ^ (l + t + 1) := by
  induction c generalizing l with
  | zero => rfl
  | succ c ih =>
    rw [invSizes, ih, List.range_succ_eq_map, List.map_cons, List.map_map]
    exact congrArg₂ _ rfl (List.map_congr_left fun t _ => by simp [Nat.add_assoc, Nat.add_comm 1 t])

theorem invSizes_reverse (k : Nat) : (invSizes k 0).reverse = fwdSizes k := by
  induction k with
  | zero => rfl
  | succ k ih =>
    rw [invSizes_eq, List.range_succ, List.map_append, List.reverse_append, ← invSizes_eq, ih]
    simp [fwdSizes]

theorem mem_fwdSizes (k nn : Nat) (h : nn ∈ fwdSizes k) : ∃ a, 1 ≤ a ∧ a ≤ k ∧ nn = 2 ^ a := by
  rw [fwdSizes_eq, List.mem_map] at h
  obtain ⟨t, ht, rfl⟩ := h
  have := List.mem_range.1 ht
  exact ⟨k - t, by omega, by omega, rfl⟩

theorem length_fwdSizes (k : Nat) : (fwdSizes k).length = k := by
  rw [fwdSizes_eq, List.length_map, List.length_range]

/-- every inverse level undoes the forward level of the same size up to the factor 2 -/
theorem exIntt_exNtt {q : Nat} (w v ninv : ZMod q) (k : Nat) (hwv : w * v = 1) (hn : (2 : ZMod q) ^ k * ninv = 1)
    (g : Nat → ZMod q) : exIntt v ninv k (exNtt w k g) = g := by
  unfold exIntt exNtt exLevels
  rw [exInvAll_exFwdAll_map (fwdSizes k) (fun nn => τLevel w (2 * 2 ^ k) nn) (fun nn => τLevel v (2 * 2 ^ k) nn)]
  · funext i
    simp only [exTwist, length_fwdSizes]
    have : w ^ i * v ^ i = 1 := by rw [← mul_pow, hwv, one_pow]
    linear_combination (g i * (2:ZMod q) ^ k * ninv) * this + g i * hn
  · intro nn hnn
    obtain ⟨a, ha1, _, rfl⟩ := mem_fwdSizes k nn hnn
    obtain ⟨b, rfl⟩ : ∃ b, a = b + 1 := ⟨a - 1, by omega⟩
    refine ⟨by simp only [pow_succ_half]; ring, by positivity, fun t => ?_⟩
    simp only [τLevel]; rw [← mul_pow, hwv, one_pow]

def nttPasses {q : Nat} (w : ZMod q) (k : Nat) : List (XStep (ZMod q)) :=
  (.twist false, 2 ^ k, fun i => w ^ i) :: (exLevels w k).map fun s => (.fwd, s.1, s.2)

def inttPasses {q : Nat} (v ninv : ZMod q) (k : Nat) : List (XStep (ZMod q)) :=
  ((exLevels v k).reverse.map fun s => (.inv, s.1, s.2)) ++ [(.twist false, 2 ^ k, fun i => v ^ i * ninv)]

theorem exNtt_eq {q : Nat} (w : ZMod q) (k : Nat) (g : Nat → ZMod q) : exNtt w k g = exRun (nttPasses w k) g :=
  exFwdAll_eq _ _

theorem exIntt_eq {q : Nat} (v ninv : ZMod q) (k : Nat) (g : Nat → ZMod q) :
    exIntt v ninv k g = exRun (inttPasses v ninv k) g := by
  rw [inttPasses, exRun_append, ← exInvAll_eq]; rfl

theorem dvd_nttPasses {q : Nat} (w : ZMod q) (k : Nat) : ∀ s ∈ nttPasses w k, s.2.1 ∣ 2 ^ k := by
  intro s hs
  rcases List.mem_cons.1 hs with rfl | hs
  · exact dvd_refl _
  · simp only [exLevels, List.map_map, List.mem_map] at hs
    obtain ⟨nn, hnn, rfl⟩ := hs
    obtain ⟨a, _, ha, rfl⟩ := mem_fwdSizes k nn hnn
    exact pow_dvd_pow 2 ha

theorem dvd_inttPasses {q : Nat} (v ninv : ZMod q) (k : Nat) : ∀ s ∈ inttPasses v ninv k, s.2.1 ∣ 2 ^ k := by
  intro s hs
  rcases List.mem_append.1 hs with hs | hs
  · simp only [exLevels, List.mem_map, List.mem_reverse] at hs
    obtain ⟨_, ⟨nn, hnn, rfl⟩, rfl⟩ := hs
    obtain ⟨a, _, ha, rfl⟩ := mem_fwdSizes k nn hnn
    exact pow_dvd_pow 2 ha
  · rw [List.mem_singleton] at hs; subst hs; exact dvd_refl _

theorem exNtt_add {q : Nat} (w : ZMod q) (k : Nat) (g g' : Nat → ZMod q) (i : Nat) :
    exNtt w k (fun j => g j + g' j) i = exNtt w k g i + exNtt w k g' i := by
  rw [exNtt_eq, exNtt_eq, exNtt_eq, exRun_add]

theorem exNtt_smul {q : Nat} (w : ZMod q) (k : Nat) (c : ZMod q) (g : Nat → ZMod q) (i : Nat) :
    exNtt w k (fun j => c * g j) i = c * exNtt w k g i := by
  rw [exNtt_eq, exNtt_eq, exRun_smul]

theorem exNtt_congr {q : Nat} (w : ZMod q) (k : Nat) (g g' : Nat → ZMod q) (h : ∀ i < 2 ^ k, g i = g' i) :
    ∀ i < 2 ^ k, exNtt w k g i = exNtt w k g' i := by
  simp only [exNtt_eq]; exact exRun_congr _ _ (dvd_nttPasses w k) g g' h

theorem exIntt_congr {q : Nat} (v ninv : ZMod q) (k : Nat) (g g' : Nat → ZMod q) (h : ∀ i < 2 ^ k, g i = g' i) :
    ∀ i < 2 ^ k, exIntt v ninv k g i = exIntt v ninv k g' i := by
  simp only [exIntt_eq]; exact exRun_congr _ _ (dvd_inttPasses v ninv k) g g' h

end Spq.Q120Ntt
