/-
  The body of one level of `Coeffs.autLevels` as a function of its own (`levelPass`), so that the model-side
  proof (what a level does to the invariant) and the source-side proof (the C of a level computes it) meet in
  `autLevels_succ` and neither unfolds `autLevels` again; the size of the in-place automorphism comes the same
  way.  Core Lean only: the source tie imports this.
-/
import Spq.Coeffs
import SpqProofs.Lemmas.ArrayBasic
namespace Spq.Coeffs
variable {α : Type}

theorem size_autWalkCycle (o : Ops α) (nn p jstart : Nat)
    (fuel j : Nat) (t1 t2 : α) (res : Array α) (nb : Nat) :
    (autWalkCycle o nn p jstart fuel j t1 t2 res nb).1.size = res.size := by
  induction fuel generalizing j t1 t2 res nb with
  | zero => rfl
  | succ fuel ih =>
    unfold autWalkCycle
    simp only
    split
    · split <;> simp
    · rw [ih]; split <;> simp

theorem size_autWalkAll (o : Ops α) (nn p orbSize : Nat)
    (fuel jstart nb : Nat) (res : Array α) :
    (autWalkAll o nn p orbSize fuel jstart nb res).size = res.size := by
  induction fuel generalizing jstart nb res with
  | zero => rfl
  | succ fuel ih =>
    unfold autWalkAll
    split
    · simp only
      rw [ih, size_autWalkCycle]
    · rfl

end Spq.Coeffs

namespace Spq.Rq
open Spq
variable {α : Type}

/-- `pm·B ≡ -B (mod 2N)`: every multiple `y` of `B` goes to `N - y`, negated -/
def negMirrorPass (o : Ops α) (nn B : Nat) (res : Array α) : Array α :=
  let res := (Coeffs.stepRange B (nn / 2) B).foldl (fun r j =>
    let tmp := r.getD j o.zero
    let r := r.setIfInBounds j (o.neg (r.getD (nn - j) o.zero))
    r.setIfInBounds (nn - j) (o.neg tmp)) res
  res.setIfInBounds (nn / 2) (o.neg (res.getD (nn / 2) o.zero))

/-- `pm·B ≡ B + N (mod 2N)`: the odd multiples of `B` are negated in place -/
def negatePass (o : Ops α) (nn B : Nat) (res : Array α) : Array α :=
  (Coeffs.stepRange B nn (2 * B)).foldl (fun r j => r.setIfInBounds j (o.neg (r.getD j o.zero))) res

/-- `pm·B ≡ N - B (mod 2N)`: every odd multiple `y` of `B` goes to `N - y` -/
def mirrorPass (o : Ops α) (nn B : Nat) (res : Array α) : Array α :=
  (Coeffs.stepRange B (nn / 2) (2 * B)).foldl (fun r j =>
    let tmp := r.getD j o.zero
    let r := r.setIfInBounds j (r.getD (nn - j) o.zero)
    r.setIfInBounds (nn - j) tmp) res

/-- the new array, and whether the level loop goes on -/
def levelPass (o : Ops α) (nn pm B vp orb : Nat) (res : Array α) : Array α × Bool :=
  if vp = B then (res, false)
  else if (vp + B) % (2 * nn) = 0 then (negMirrorPass o nn B res, false)
  else if (vp + 2 * nn - B) % nn = 0 then (negatePass o nn B res, false)
  else if (vp + B) % nn = 0 then (mirrorPass o nn B res, true)
  else (Coeffs.autWalkAll o nn pm orb nn B 0 res, true)

theorem autLevels_succ (o : Ops α) (nn pm m B vp orb : Nat) (res : Array α) (hlt : B < nn) :
    Coeffs.autLevels o nn pm (m + 1) B vp orb res =
      if (levelPass o nn pm B vp orb res).2 then
        Coeffs.autLevels o nn pm m (2 * B) ((2 * vp) % (2 * nn)) (orb / 2) (levelPass o nn pm B vp orb res).1
      else (levelPass o nn pm B vp orb res).1 := by
  conv => lhs; unfold Coeffs.autLevels
  simp only [if_pos hlt, levelPass]
  by_cases c1 : vp = B
  · simp only [if_pos c1]; rfl
  simp only [if_neg c1]
  by_cases c2 : (vp + B) % (2 * nn) = 0
  · simp only [if_pos c2]; rfl
  simp only [if_neg c2]
  by_cases c3 : (vp + 2 * nn - B) % nn = 0
  · simp only [if_pos c3]; rfl
  simp only [if_neg c3]
  by_cases c4 : (vp + B) % nn = 0
  · simp only [if_pos c4]; rfl
  · simp only [if_neg c4]; rfl

@[simp] theorem size_negMirrorPass (o : Ops α) (nn B : Nat) (res : Array α) :
    (negMirrorPass o nn B res).size = res.size := by
  unfold negMirrorPass
  rw [Array.size_setIfInBounds, size_foldl_of_step]
  intro r j; simp

@[simp] theorem size_negatePass (o : Ops α) (nn B : Nat) (res : Array α) :
    (negatePass o nn B res).size = res.size := by
  unfold negatePass
  rw [size_foldl_of_step]
  intro r j; simp

@[simp] theorem size_mirrorPass (o : Ops α) (nn B : Nat) (res : Array α) :
    (mirrorPass o nn B res).size = res.size := by
  unfold mirrorPass
  rw [size_foldl_of_step]
  intro r j; simp

theorem size_levelPass (o : Ops α) (nn pm B vp orb : Nat) (res : Array α) :
    (levelPass o nn pm B vp orb res).1.size = res.size := by
  unfold levelPass
  repeat' split
  all_goals simp [Coeffs.size_autWalkAll]

end Spq.Rq

namespace Spq.Coeffs
variable {α : Type}

theorem size_autLevels (o : Ops α) (nn p : Nat) (fuel binval vp orbSize : Nat) (res : Array α) :
    (autLevels o nn p fuel binval vp orbSize res).size = res.size := by
  induction fuel generalizing binval vp orbSize res with
  | zero => rfl
  | succ fuel ih =>
    by_cases hlt : binval < nn
    · rw [Rq.autLevels_succ _ _ _ _ _ _ _ _ hlt]
      split
      · rw [ih, Rq.size_levelPass]
      · exact Rq.size_levelPass ..
    · unfold autLevels
      rw [if_neg hlt]

@[simp] theorem size_automorphismInplace (o : Ops α) (nn : Nat) (p : Int) (x : Array α) :
    (automorphismInplace o nn p x).size = x.size := size_autLevels ..

end Spq.Coeffs
