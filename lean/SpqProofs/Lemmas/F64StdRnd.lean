/-
  The rounding function `rnd : ℚ → ℚ` on rationals (round to nearest, ties to even, to binary64 — exact on the multiples of 2^-2148, which contain every sum,
  product and fused multiply-add of two or three doubles), `val (F64.op a b) = rnd (val a ∘ val b)`, and `rnd` is exact on `v·2^e` with `|v| < 2^53` and
  `-1074 ≤ e ≤ 971` (`rnd_exact`; in particular `rnd (val b) = val b`, and multiplying by a power of two is exact off underflow and overflow).
-/
import SpqProofs.Lemmas.F64StdOps

namespace Spq.F64

/-- round to nearest (ties to even) binary64 of a multiple of `2^-2148` (for other rationals: of their numerator
    scaled, a junk value that is never used).  Overflow yields the value decoded from the `inf` pattern. -/
def rnd (q : ℚ) : ℚ := val (packSigned (q * 2 ^ 2148).num (-2148) false)

theorem rnd_scaled (v : Int) (e : Int) (he : -2148 ≤ e) (z : Bool) :
    rnd ((v : ℚ) * 2 ^ e) = val (packSigned v e z) := by
  obtain ⟨t, ht⟩ : ∃ t : Nat, e + 2148 = (t : Int) := ⟨(e + 2148).toNat, by omega⟩
  have h1 : (v : ℚ) * 2 ^ e * 2 ^ 2148 = ((v * 2 ^ t : Int) : ℚ) := by
    have : (2 : ℚ) ^ 2148 = 2 ^ ((2148 : ℕ) : ℤ) := (zpow_natCast _ _).symm
    rw [mul_assoc, this, ← two_zpow_add]
    have e2 : e + ((2148 : ℕ) : ℤ) = (t : ℤ) := by omega
    rw [e2, zpow_natCast]; push_cast; ring
  unfold rnd
  rw [h1, Rat.num_intCast]
  have e3 : (-2148 : Int) = e - t := by omega
  rw [e3]
  unfold val
  rw [toScaled_packSigned_scale v e t false z]

theorem rnd_zero : rnd 0 = 0 := by
  have := rnd_scaled 0 0 (by norm_num) false
  simp only [Int.cast_zero, zero_mul] at this
  rw [this, packSigned_zero, val_sgn]

def Dyadic (q : ℚ) : Prop := ∃ v : ℤ, q = (v : ℚ) * 2 ^ (-2148 : ℤ)

theorem dyadic_of_scaled (v : Int) (e : Int) (he : -2148 ≤ e) : Dyadic ((v : ℚ) * 2 ^ e) := by
  obtain ⟨t, ht⟩ : ∃ t : Nat, e + 2148 = (t : Int) := ⟨(e + 2148).toNat, by omega⟩
  refine ⟨v * 2 ^ t, ?_⟩
  have e2 : e = (t : ℤ) + (-2148) := by omega
  rw [e2, two_zpow_add, zpow_natCast]
  generalize (2 : ℚ) ^ (-2148 : ℤ) = X
  push_cast; ring

theorem Rounds.val {r : Nat} {q : ℚ} (h : Rounds r q) : val r = rnd q := by
  obtain ⟨v, e, z, he, rfl, rfl⟩ := h
  exact (rnd_scaled v e he z).symm

theorem Rounds.dyadic {r : Nat} {q : ℚ} (h : Rounds r q) : Dyadic q := by
  obtain ⟨v, e, z, he, rfl, rfl⟩ := h
  exact dyadic_of_scaled v e he

theorem val_add (a b : Nat) : val (add a b) = rnd (val a + val b) := (add_rounds a b).val

theorem val_sub (a b : Nat) (hb : b < 18446744073709551616) : val (sub a b) = rnd (val a - val b) :=
  (sub_rounds a b hb).val

theorem val_fma (a b c : Nat) : val (fma a b c) = rnd (val a * val b + val c) := (fma_rounds a b c).val

theorem val_fms (a b c : Nat) (hc : c < 18446744073709551616) : val (fms a b c) = rnd (val a * val b - val c) :=
  (fms_rounds a b c hc).val

theorem val_mul (a b : Nat) : val (mul a b) = rnd (val a * val b) := (mul_rounds a b).val

theorem rnd_std (q : ℚ) (hd : Dyadic q) (hov : NoOvf q) :
    (NormalRange q → |rnd q - q| ≤ u64 * |q|) ∧ (|q| ≤ minNormal → |rnd q - q| ≤ halfMinSub) := by
  obtain ⟨v, rfl⟩ := hd
  rw [rnd_scaled v (-2148) (le_refl _) false]
  obtain ⟨⟨_, h2, h3⟩, _⟩ := packSigned_std v (-2148) false hov
  exact ⟨h2, h3⟩

theorem rnd_exact (v e : Int) (hv : v.natAbs < 9007199254740992) (he0 : -1074 ≤ e) (he1 : e ≤ 971) :
    rnd ((v : ℚ) * 2 ^ e) = (v : ℚ) * 2 ^ e := by
  rw [rnd_scaled v e (by omega) false, val_of_scaled (s := decide (v < 0)) (q := v.natAbs) he0
    (by rw [toScaled_packSigned_exact v e false hv he0 he1, sI_decide_natAbs]), sv, sI_decide_natAbs]

theorem rnd_val (b : Nat) (hb : Fin64 b) : rnd (val b) = val b := by
  rw [val_decode b]
  exact rnd_exact _ _ (by rw [sI_natAbs]; exact decode_m_lt b) (decode_e_ge b) (decode_e_le_finite b hb.2)

theorem val_mul_pow2_exact (x p : Nat) (t : Int) (hp : val p = 2 ^ t) (h0 : -1074 ≤ (decode x).e + t)
    (h1 : (decode x).e + t ≤ 971) : val (mul x p) = val x * 2 ^ t := by
  rw [val_mul, hp, val_decode x]
  unfold sv
  rw [mul_assoc, ← two_zpow_add]
  exact rnd_exact _ _ (by rw [sI_natAbs]; exact decode_m_lt x) h0 h1

end Spq.F64
