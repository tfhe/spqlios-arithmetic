/-
  Helper lemmas for C15 / C12: the cache state machine of the `*_simple` functions.
-/
import Spq.Caches
namespace Spq.Caches

/-- `m` is a power of two (otherwise `log2m` aborts in the real code) -/
def Pow2M (c : Call) : Prop := ∃ a : Nat, c.get "m" = ((2 ^ a : Nat) : Int)

def Inv (s : Spec) (st : State) : Prop := ∀ k e, st k = some e → slotOf s e = k ∧ Pow2M e

theorem inv_empty (s : Spec) : Inv s empty := by
  intro k e h; simp [empty] at h

theorem sameKey_get (s : Spec) (e c : Call) (h : sameKey s e c = true) (p : String) (hp : p ∈ s.guard) :
    e.get p = c.get p := by
  unfold sameKey at h
  rw [List.all_eq_true] at h
  have := h p hp
  simpa using this

theorem ilog2_pow (a : Nat) : ilog2 ((2 ^ a : Nat) : Int) = a := by
  unfold ilog2
  have : ((2 ^ a : Nat) : Int).toNat = 2 ^ a := Int.toNat_natCast _
  rw [this, Nat.log2_two_pow]

theorem step_warm (s : Spec) (st : State) (c e : Call) (he : st (slotOf s c) = some e) (hk : sameKey s e c = true) :
    step s st c = (st, e, false) := by
  simp only [step, he, hk, if_true]

theorem step_cases (s : Spec) (st : State) (c : Call) :
    (∃ e, st (slotOf s c) = some e ∧ sameKey s e c = true ∧ step s st c = (st, e, false)) ∨
    ((∀ e, st (slotOf s c) = some e → sameKey s e c ≠ true) ∧
      step s st c = (fun j => if j = slotOf s c then some c else st j, c, true)) := by
  cases hst : st (slotOf s c) with
  | none => exact Or.inr ⟨fun _ h => (by cases h), by simp only [step, hst]⟩
  | some e =>
    by_cases hk : sameKey s e c = true
    · exact Or.inl ⟨e, rfl, hk, step_warm s st c e hst hk⟩
    · exact Or.inr ⟨fun e' h => (by cases h; exact hk), by simp only [step, hst, hk]; rfl⟩

theorem step_inv (s : Spec) (st : State) (c : Call) (hinv : Inv s st) (hc : Pow2M c) :
    Inv s (step s st c).1 := by
  rcases step_cases s st c with ⟨_, _, _, hs⟩ | ⟨_, hs⟩
  · rw [hs]; exact hinv
  · rw [hs]
    intro k e' h
    by_cases hk : k = slotOf s c
    · simp [hk] at h; subst h; exact ⟨hk.symm, hc⟩
    · simp [hk] at h; exact hinv k e' h

theorem run_inv (s : Spec) (hist : List Call) (hp : ∀ c ∈ hist, Pow2M c) : ∀ st, Inv s st → Inv s (run s st hist) := by
  induction hist with
  | nil => intro st h; exact h
  | cons c cs ih =>
    intro st h
    simp only [run, List.foldl_cons]
    exact ih (fun c' hc' => hp c' (by simp [hc'])) _ (step_inv s st c h (hp c (by simp)))

theorem pow2_slot_inj (s : Spec) (hs : s.slotByM = true) (e c : Call) (he : Pow2M e) (hc : Pow2M c)
    (h : slotOf s e = slotOf s c) : e.get "m" = c.get "m" := by
  obtain ⟨a, ha⟩ := he
  obtain ⟨b, hb⟩ := hc
  have : ilog2 (e.get "m") = ilog2 (c.get "m") := by simpa [slotOf, hs] using h
  rw [ha, hb, ilog2_pow, ilog2_pow] at this
  rw [ha, hb, this]

/-- the table used by a call was built with the same value of every key parameter -/
theorem step_used (s : Spec) (rel : String → Bool)
    (hkey : ∀ p, p ∈ s.initArgs → rel p = true → p ∈ s.guard ∨ (p = "m" ∧ s.slotByM = true))
    (st : State) (hinv : Inv s st) (c : Call) (hc : Pow2M c) :
    ∀ p, p ∈ s.initArgs → rel p = true → (step s st c).2.1.get p = c.get p := by
  intro p hp hr
  rcases step_cases s st c with ⟨e, hst, hk, hs⟩ | ⟨_, hs⟩
  · rw [hs]
    rcases hkey p hp hr with hg | ⟨rfl, hm⟩
    · exact sameKey_get s e c hk p hg
    · obtain ⟨hslot, hpe⟩ := hinv _ e hst
      exact pow2_slot_inj s hm e c hpe hc hslot
  · rw [hs]

theorem step_then_warm (s : Spec) (st : State) (c : Call) :
    ∃ e, (step s st c).1 (slotOf s c) = some e ∧ sameKey s e c = true := by
  rcases step_cases s st c with ⟨e, he, hk, hs⟩ | ⟨_, hs⟩
  · rw [hs]; exact ⟨e, he, hk⟩
  · rw [hs]; exact ⟨c, by simp, by simp [sameKey]⟩

theorem step_same_key (s : Spec) (st : State) (c c' : Call) (hslot : slotOf s c' = slotOf s c)
    (hkey : ∀ p ∈ s.guard, c'.get p = c.get p) :
    ∃ e, step s (step s st c).1 c' = ((step s st c).1, e, false) := by
  obtain ⟨e, he, hk⟩ := step_then_warm s st c
  refine ⟨e, step_warm s _ c' e (hslot ▸ he) ?_⟩
  unfold sameKey
  rw [List.all_eq_true]
  intro p hp
  simp [sameKey_get s e c hk p hp, hkey p hp]

end Spq.Caches
