/-
  In-place automorphism (`znx_automorphism_inplace_i64` / `rnx_automorphism_inplace_f64`): the paired orbit walk
  (inner do-while, outer while) — abstract states, relation to the model (`Coeffs.autWalkCycle`,
  `Coeffs.autWalkAll`) and the number theory: for odd `p` and `nn = 2^t`, `j ↦ j·p mod nn` never reaches 0 from a
  nonzero start and returns to its start within `nn` steps.
-/
import Spq.Coeffs
import SpqProofs.Lemmas.SrcSim
import SpqProofs.Lemmas.SrcMask
import Mathlib.Tactic.Ring
namespace Spq.CIR
open Spq

/-- what the inner do-while carries from one turn to the next: the arguments of `Coeffs.autWalkCycle` -/
structure PA where
  j : Nat
  t1 : Int
  t2 : Int
  res : Array Int
  nb : Nat

def pStp (o : Ops Int) (nn pm : Nat) (a : PA) : PA :=
  let newj := (a.j * pm) % (2 * nn)
  let newjn := newj % nn
  let t1a := a.res.getD newjn o.zero
  let t2a := a.res.getD (nn - newjn) o.zero
  let res' :=
    if newj < nn then (a.res.setIfInBounds newjn a.t1).setIfInBounds (nn - newjn) a.t2
    else (a.res.setIfInBounds newjn (o.neg a.t1)).setIfInBounds (nn - newjn) (o.neg a.t2)
  { j := newjn, t1 := t1a, t2 := t2a, res := res', nb := a.nb + 2 }

def pEx (jstart : Nat) (a : PA) : Bool := a.j == jstart

theorem autWalkCycle_eq (o : Ops Int) (nn pm jstart : Nat) :
    ∀ (m : Nat) (a : PA),
      Coeffs.autWalkCycle o nn pm jstart m a.j a.t1 a.t2 a.res a.nb
        = ((walkA (pStp o nn pm) (pEx jstart) m a).res, (walkA (pStp o nn pm) (pEx jstart) m a).nb) := by
  intro m
  induction m with
  | zero => intro a; rfl
  | succ m ih =>
    intro a
    unfold Coeffs.autWalkCycle
    simp only [walkA]
    by_cases h : a.j * pm % (2 * nn) % nn = jstart
    · have hex : pEx jstart (pStp o nn pm a) = true := by
        simp only [pEx, pStp]; exact beq_iff_eq.mpr h
      simp only [h, if_true, hex]
      simp only [pStp, h]
    · have hex : pEx jstart (pStp o nn pm a) = false := by
        simp only [pEx, pStp]; exact beq_false_of_ne h
      simp only [h, if_false, hex, Bool.false_eq_true]
      exact ih (pStp o nn pm a)

theorem pwalk_size (o : Ops Int) (nn pm jstart : Nat) :
    ∀ (m : Nat) (a : PA), (walkA (pStp o nn pm) (pEx jstart) m a).res.size = a.res.size := by
  intro m
  induction m with
  | zero => intro a; rfl
  | succ m ih =>
    intro a
    simp only [walkA]
    have hs : (pStp o nn pm a).res.size = a.res.size := by
      simp only [pStp]; split <;> simp
    split
    · exact hs
    · rw [ih]; exact hs

theorem pwalk_nb (o : Ops Int) (nn pm jstart : Nat) :
    ∀ (m : Nat) (a : PA), a.nb + 2 ≤ (walkA (pStp o nn pm) (pEx jstart) (m + 1) a).nb ∧
      (walkA (pStp o nn pm) (pEx jstart) (m + 1) a).nb ≤ a.nb + 2 * (m + 1) := by
  intro m
  induction m with
  | zero =>
    intro a
    simp only [walkA]
    have e : (pStp o nn pm a).nb = a.nb + 2 := rfl
    split <;> omega
  | succ m ih =>
    intro a
    rw [walkA]
    have e : (pStp o nn pm a).nb = a.nb + 2 := rfl
    split
    · omega
    · have := ih (pStp o nn pm a)
      omega

/-! ### number theory -/
theorem coprime_pow2_of_odd (t pm : Nat) (h : pm % 2 = 1) : Nat.Coprime (2 ^ t) pm := by
  apply Nat.Coprime.pow_left
  unfold Nat.Coprime
  rw [Nat.gcd_rec, h]
  exact Nat.gcd_one_left 2

/-- multiplication by an odd number keeps residues mod `2^t` nonzero -/
theorem mul_odd_mod_ne_zero (t pm j : Nat) (h : pm % 2 = 1) (hj : j % 2 ^ t ≠ 0) : (j * pm) % 2 ^ t ≠ 0 := by
  intro h0
  apply hj
  have hd : 2 ^ t ∣ j * pm := Nat.dvd_of_mod_eq_zero h0
  exact Nat.mod_eq_zero_of_dvd ((coprime_pow2_of_odd t pm h).dvd_of_dvd_mul_right hd)

/-- `p^(2^t) ≡ 1 (mod 2^(t+1))` for odd `p` -/
theorem odd_pow_two_pow (pm : Nat) (h : pm % 2 = 1) : ∀ t : Nat, pm ^ (2 ^ t) % 2 ^ (t + 1) = 1 := by
  intro t
  induction t with
  | zero => simpa using h
  | succ t ih =>
    -- pm^(2^t) = 1 + c * 2^(t+1)  ⇒  its square is 1 mod 2^(t+2)
    obtain ⟨c, hc⟩ : ∃ c, pm ^ (2 ^ t) = 1 + c * 2 ^ (t + 1) := by
      refine ⟨pm ^ (2 ^ t) / 2 ^ (t + 1), ?_⟩
      have := Nat.div_add_mod (pm ^ (2 ^ t)) (2 ^ (t + 1))
      rw [ih] at this
      rw [Nat.mul_comm] at this
      omega
    have e : pm ^ (2 ^ (t + 1)) = (pm ^ (2 ^ t)) ^ 2 := by
      rw [← Nat.pow_mul, Nat.pow_succ]
    rw [e, hc]
    have e2 : (1 + c * 2 ^ (t + 1)) ^ 2 = 1 + (c + c * c * 2 ^ t) * 2 ^ (t + 1 + 1) := by
      rw [Nat.pow_succ 2 (t + 1), Nat.pow_succ 2 t]; ring
    rw [e2, Nat.add_mul_mod_self_right]
    exact Nat.mod_eq_of_lt (Nat.one_lt_two_pow (by omega))

theorem odd_pow_nn (t pm : Nat) (h : pm % 2 = 1) (ht : 1 ≤ t) : pm ^ (2 ^ t) % 2 ^ t = 1 := by
  have h1 := odd_pow_two_pow pm h t
  have hd : 2 ^ t ∣ 2 ^ (t + 1) := Nat.pow_dvd_pow 2 (by omega)
  rw [← Nat.mod_mod_of_dvd _ hd, h1]
  exact Nat.mod_eq_of_lt (Nat.one_lt_two_pow (by omega))

/-! ### termination of the paired walk -/
def PCloses (nn pm jstart m j : Nat) : Prop := ∃ s : Nat, 1 ≤ s ∧ s ≤ m ∧ (j * pm ^ s) % nn = jstart

theorem pcloses_self (t pm jstart : Nat) (h : pm % 2 = 1) (ht : 1 ≤ t) (hj : jstart < 2 ^ t) :
    PCloses (2 ^ t) pm jstart (2 ^ t) jstart := by
  refine ⟨2 ^ t, Nat.one_le_two_pow, Nat.le_refl _, ?_⟩
  rw [Nat.mul_mod, odd_pow_nn t pm h ht, Nat.mul_one, Nat.mod_mod, Nat.mod_eq_of_lt hj]

theorem pStp_j (o : Ops Int) (nn pm : Nat) (a : PA) : (pStp o nn pm a).j = (a.j * pm) % nn := by
  show (a.j * pm) % (2 * nn) % nn = _
  exact Nat.mod_mul_left_mod _ _ _

theorem termA_of_pcloses (o : Ops Int) (nn pm jstart : Nat) :
    ∀ (m : Nat) (a : PA), PCloses nn pm jstart m a.j → TermA (pStp o nn pm) (pEx jstart) m a := by
  intro m
  induction m with
  | zero => intro a ⟨s, h1, h2, _⟩; omega
  | succ m ih =>
    intro a ⟨s, h1, h2, h3⟩
    by_cases hex : pEx jstart (pStp o nn pm a) = true
    · exact Or.inl hex
    · right
      apply ih
      have hs : s ≠ 1 := by
        intro hs1
        subst hs1
        apply hex
        simp only [pEx, beq_iff_eq]
        rw [pStp_j, ← h3, Nat.pow_one]
      refine ⟨s - 1, by omega, by omega, ?_⟩
      rw [pStp_j, Nat.mod_mul_mod, ← h3]
      congr 1
      have e : s = (s - 1) + 1 := by omega
      rw [Nat.mul_assoc]
      congr 1
      conv => rhs; rw [e, Nat.pow_succ, Nat.mul_comm]

/-! ### the outer `while (nb_modif < orb_size)` loop -/
structure PB where
  jstart : Nat
  a : PA

def pbTst (orb : Nat) (b : PB) : Bool := decide (b.a.nb < orb)

def pbEnter (o : Ops Int) (nn : Nat) (b : PB) : PA :=
  { b.a with j := b.jstart, t1 := b.a.res.getD b.jstart o.zero, t2 := b.a.res.getD (nn - b.jstart) o.zero }

def pbStp (o : Ops Int) (nn pm : Nat) (b : PB) : PB :=
  { jstart := (5 * b.jstart) % nn, a := walkA (pStp o nn pm) (pEx b.jstart) nn (pbEnter o nn b) }

theorem autWalkAll_eq (o : Ops Int) (nn pm orb : Nat) :
    ∀ (m : Nat) (b : PB),
      Coeffs.autWalkAll o nn pm orb m b.jstart b.a.nb b.a.res
        = (whileA (pbTst orb) (pbStp o nn pm) m b).a.res := by
  intro m
  induction m with
  | zero => intro b; rfl
  | succ m ih =>
    intro b
    unfold Coeffs.autWalkAll
    simp only [whileA, pbTst]
    by_cases h : b.a.nb < orb
    · simp only [h, if_true, decide_true]
      have hc := autWalkCycle_eq o nn pm b.jstart nn (pbEnter o nn b)
      simp only [pbEnter] at hc
      rw [hc]
      exact ih (pbStp o nn pm b)
    · simp only [h, if_false, decide_false, Bool.false_eq_true]

/-- invariant of the inner walk (`m` steps of budget) -/
def PAG (nn : Nat) (m : Nat) (a : PA) : Prop :=
  a.res.size = nn ∧ a.j % nn ≠ 0 ∧ a.nb + 2 * m < 18446744073709551616

/-- invariant of the outer loop (`m` leaders of budget) -/
def PBG (nn orb : Nat) (m : Nat) (b : PB) : Prop :=
  b.a.res.size = nn ∧ b.jstart % nn ≠ 0 ∧ b.jstart < nn ∧ orb ≤ b.a.nb + 2 * m ∧ b.a.nb ≤ orb + 2 * nn

theorem PAG_step (o : Ops Int) (t pm : Nat) (hp : pm % 2 = 1) (m : Nat) (a : PA) (h : PAG (2 ^ t) (m + 1) a) :
    PAG (2 ^ t) m (pStp o (2 ^ t) pm a) := by
  obtain ⟨h1, h2, h3⟩ := h
  refine ⟨?_, ?_, ?_⟩
  · simp only [pStp]; split <;> simp [h1]
  · rw [pStp_j, Nat.mod_mod]; exact mul_odd_mod_ne_zero t pm a.j hp h2
  · have e : (pStp o (2 ^ t) pm a).nb = a.nb + 2 := rfl
    omega

theorem PBG_step (o : Ops Int) (t pm orb : Nat) (m : Nat) (b : PB)
    (h : PBG (2 ^ t) orb (m + 1) b) (htst : pbTst orb b = true) : PBG (2 ^ t) orb m (pbStp o (2 ^ t) pm b) := by
  obtain ⟨h1, h2, h3, h4, h5⟩ := h
  have hlt : b.a.nb < orb := by simpa [pbTst] using htst
  have hpos : 0 < 2 ^ t := Nat.two_pow_pos t
  obtain ⟨n', hn'⟩ : ∃ n', 2 ^ t = n' + 1 := ⟨2 ^ t - 1, by omega⟩
  have hnb := pwalk_nb o (2 ^ t) pm b.jstart n' (pbEnter o (2 ^ t) b)
  rw [← hn'] at hnb
  have hsz := pwalk_size o (2 ^ t) pm b.jstart (2 ^ t) (pbEnter o (2 ^ t) b)
  have e1 : (pbEnter o (2 ^ t) b).nb = b.a.nb := rfl
  have e2 : (pbEnter o (2 ^ t) b).res.size = b.a.res.size := rfl
  refine ⟨?_, ?_, ?_, ?_, ?_⟩
  · show (walkA _ _ (2 ^ t) (pbEnter o (2 ^ t) b)).res.size = 2 ^ t
    rw [hsz, e2, h1]
  · show (5 * b.jstart) % 2 ^ t % 2 ^ t ≠ 0
    rw [Nat.mod_mod, Nat.mul_comm]
    exact mul_odd_mod_ne_zero t 5 b.jstart (by decide) h2
  · exact Nat.mod_lt _ hpos
  · show orb ≤ (walkA _ _ (2 ^ t) (pbEnter o (2 ^ t) b)).nb + 2 * m
    omega
  · show (walkA _ _ (2 ^ t) (pbEnter o (2 ^ t) b)).nb ≤ orb + 2 * 2 ^ t
    omega

end Spq.CIR
