/-
  A-priori discharge of the flags of `arithOk`.  `Bx G E x`: the flag of `x` holds, its pattern is finite, its value
  lies on the grid `2^-G·ℤ` and has magnitude `≤ 2^E`.  Each flagged operation maps boxes to a box (`bx_res` is the one
  contact with the arithmetic), so the invariant goes through the scalar recurrences that the cells of the two
  one-column kernels are (`mat1colRef_cells`, `mat1colAvx2_cells`); the exponent reached depends on the depth of the
  recurrence, hence one induction per shape.  A cell beyond an input array reads `+0`, which lies in every box.
-/
import SpqProofs.Lemmas.F64StdGrid
import SpqProofs.Lemmas.F64StdDot
import SpqProofs.Lemmas.VmpErrCells

namespace Spq.F64
open Spq.Reim4 Spq.VmpErr

def Bx (G : ℕ) (E : ℤ) (x : Nat × Prop) : Prop := x.2 ∧ Fin64 x.1 ∧ GridQ G (val x.1) ∧ |val x.1| ≤ 2 ^ E

theorem Bx.mono {G G' : ℕ} {E E' : ℤ} {x : Nat × Prop} (h : Bx G E x) (hG : G ≤ G') (hE : E ≤ E') : Bx G' E' x :=
  ⟨h.1, h.2.1, h.2.2.1.mono hG, le_trans h.2.2.2 (two_zpow_le hE)⟩

theorem Bx.ok {G : ℕ} {E : ℤ} {x : Nat × Prop} (h : Bx G E x) : Ok x := ⟨h.1⟩

theorem bx_zero (G : ℕ) (E : ℤ) : Bx G E arithOk.zero :=
  ⟨fin64_zero, fin64_zero, by rw [arithOk_zero, lift_fst, val_zero]; exact gridQ_zero G, by
    rw [arithOk_zero, lift_fst, val_zero, abs_zero]; exact le_of_lt (two_zpow_pos E)⟩

/-- `Eex + 1` since `|rnd q| ≤ 2·|q|`; the flag `fl` holds since `q` is in the normal range (`round_ok`) -/
theorem bx_res {G : ℕ} {Eex : ℤ} {q : ℚ} {r : Nat} {fl : Prop} (hgrid : GridQ G q) (hb : |q| ≤ 2 ^ Eex)
    (hG : G ≤ 1022) (hE : Eex ≤ 1023) (hfl : NormalRange q → fl) (h : Rounds r q) : Bx G (Eex + 1) (r, fl) := by
  obtain ⟨hgood, hg, hbnd⟩ := round_ok hgrid hG hE hb
  exact ⟨hfl hgood.2, h.fin hgood.2.noOvf, by rw [h.val]; exact hg, by rw [h.val]; exact hbnd⟩

theorem two_zpow_double (E : ℤ) : (2 : ℚ) ^ E + 2 ^ E = 2 ^ (E + 1) := by rw [two_zpow_add, zpow_one]; ring

theorem abs_mul_le_zpow {a b : ℚ} {E1 E2 : ℤ} (ha : |a| ≤ 2 ^ E1) (hb : |b| ≤ 2 ^ E2) : |a * b| ≤ 2 ^ (E1 + E2) := by
  rw [abs_mul, two_zpow_add]
  exact mul_le_mul ha hb (abs_nonneg _) (le_of_lt (two_zpow_pos _))

theorem Bx.add {G : ℕ} {E : ℤ} {x y : Nat × Prop} (hx : Bx G E x) (hy : Bx G E y) (hG : G ≤ 1022) (hE : E + 1 ≤ 1023) :
    Bx G (E + 2) (arithOk.add x y) :=
  Bx.mono (G := G) (E := E + 1 + 1) (hG := le_rfl) (hE := by omega) <| bx_res (hx.2.2.1.add hy.2.2.1)
    (le_trans (abs_add_le _ _) (le_trans (add_le_add hx.2.2.2 hy.2.2.2) (le_of_eq (two_zpow_double E)))) hG hE
    (fun hn => ⟨hx.1, hy.1, hn⟩) (add_rounds _ _)

theorem Bx.sub {G : ℕ} {E : ℤ} {x y : Nat × Prop} (hx : Bx G E x) (hy : Bx G E y) (hG : G ≤ 1022) (hE : E + 1 ≤ 1023) :
    Bx G (E + 2) (arithOk.sub x y) :=
  Bx.mono (G := G) (E := E + 1 + 1) (hG := le_rfl) (hE := by omega) <| bx_res (hx.2.2.1.sub hy.2.2.1)
    (le_trans (abs_sub _ _) (le_trans (add_le_add hx.2.2.2 hy.2.2.2) (le_of_eq (two_zpow_double E)))) hG hE
    (fun hn => ⟨hx.1, hy.1, hn⟩) (sub_rounds _ _ hy.2.1.1)

theorem Bx.mul {G1 G2 : ℕ} {E1 E2 : ℤ} {x y : Nat × Prop} (hx : Bx G1 E1 x) (hy : Bx G2 E2 y) (hG : G1 + G2 ≤ 1022)
    (hE : E1 + E2 ≤ 1023) : Bx (G1 + G2) (E1 + E2 + 1) (arithOk.mul x y) :=
  bx_res (hx.2.2.1.mul hy.2.2.1) (abs_mul_le_zpow hx.2.2.2 hy.2.2.2) hG hE (fun hn => ⟨hx.1, hy.1, hn⟩) (mul_rounds _ _)

theorem Bx.fma {G1 G2 G : ℕ} {E1 E2 E : ℤ} {x y z : Nat × Prop} (hx : Bx G1 E1 x) (hy : Bx G2 E2 y) (hz : Bx G E z)
    (hG12 : G1 + G2 ≤ G) (hE12 : E1 + E2 ≤ E) (hG : G ≤ 1022) (hE : E + 1 ≤ 1023) : Bx G (E + 2) (arithOk.fma x y z) :=
  Bx.mono (G := G) (E := E + 1 + 1) (hG := le_rfl) (hE := by omega) <|
    bx_res (((hx.2.2.1.mul hy.2.2.1).mono hG12).add hz.2.2.1)
      (le_trans (abs_add_le _ _) (le_trans
        (add_le_add (le_trans (abs_mul_le_zpow hx.2.2.2 hy.2.2.2) (two_zpow_le hE12)) hz.2.2.2) (le_of_eq (two_zpow_double E))))
      hG hE (fun hn => ⟨hx.1, hy.1, hz.1, hn⟩) (fma_rounds _ _ _)

theorem InBox.bx {g : ℕ} {E0 : ℤ} {u : Array Nat} (h : InBox g E0 u) (i : Nat) :
    Bx g E0 ((u.map lift).getD i arithOk.zero) := by
  rcases Nat.lt_or_ge i u.size with hi | hi
  · rw [arithOk_zero, getD_map]
    obtain ⟨h1, h2, h3⟩ := h i hi
    exact ⟨h1, h1, h2, h3⟩
  · rw [getD_of_size_le _ i _ (by rw [Array.size_map]; exact hi)]; exact bx_zero g E0

section recurrences
variable {g : ℕ} {E0 : ℤ} {a b c d : ℕ → Nat × Prop}

/-- each FMA doubles the magnitude bound: `n` steps from the box `(g, E0)` end in `(2g, 2E0 + 2n)` -/
theorem bx_fmaChain (ha : ∀ i, Bx g E0 (a i)) (hc : ∀ i, Bx g E0 (c i)) (hg : 2 * g ≤ 1022) (n : ℕ)
    (hE : 2 * E0 + 2 * n ≤ 1024) : Bx (2 * g) (2 * E0 + 2 * n) (fmaChain arithOk a c n) := by
  induction n with
  | zero => exact bx_zero _ _
  | succ n ih =>
    have := (ha n).fma (hc n) (ih (by omega)) (by omega) (by omega) hg (by omega)
    rw [fmaChain]; exact this.mono le_rfl (by push_cast; omega)

theorem bx_reRef (ha : ∀ i, Bx g E0 (a i)) (hb : ∀ i, Bx g E0 (b i)) (hc : ∀ i, Bx g E0 (c i)) (hd : ∀ i, Bx g E0 (d i))
    (hg : 2 * g ≤ 1022) (hE : 2 * E0 + 2 ≤ 1023) (i : ℕ) :
    Bx (2 * g) (2 * E0 + 3) (reRef arithOk (a i) (b i) (c i) (d i)) ∧
    Bx (2 * g) (2 * E0 + 3) (imRef arithOk (a i) (b i) (c i) (d i)) := by
  have m : ∀ {x y}, Bx g E0 x → Bx g E0 y → Bx (2 * g) (2 * E0 + 1) (arithOk.mul x y) := fun hx hy =>
    (hx.mul hy (by omega) (by omega)).mono (by omega) (by omega)
  exact ⟨((m (ha i) (hc i)).sub (m (hb i) (hd i)) hg (by omega)).mono le_rfl (by omega),
    ((m (ha i) (hd i)).add (m (hb i) (hc i)) hg (by omega)).mono le_rfl (by omega)⟩

theorem bx_ref (ha : ∀ i, Bx g E0 (a i)) (hb : ∀ i, Bx g E0 (b i)) (hc : ∀ i, Bx g E0 (c i)) (hd : ∀ i, Bx g E0 (d i))
    (hg : 2 * g ≤ 1022) (n : ℕ) (hE : 2 * E0 + 2 * n + 2 ≤ 1023) :
    Bx (2 * g) (2 * E0 + 3 + 2 * n) (refRe arithOk a b c d n) ∧ Bx (2 * g) (2 * E0 + 3 + 2 * n) (refIm arithOk a b c d n) := by
  induction n with
  | zero => exact ⟨bx_zero _ _, bx_zero _ _⟩
  | succ n ih =>
    obtain ⟨i1, i2⟩ := ih (by omega)
    obtain ⟨t1, t2⟩ := bx_reRef ha hb hc hd hg (by omega) n
    rw [refRe, refIm]
    exact ⟨(i1.add (t1.mono le_rfl (by omega)) hg (by omega)).mono le_rfl (by push_cast; omega),
      (i2.add (t2.mono le_rfl (by omega)) hg (by omega)).mono le_rfl (by push_cast; omega)⟩

end recurrences

theorem ref_ok_of_inBox (n : Nat) (dst u v : Array Nat) (g : ℕ) (E0 : ℤ) (hb : 8 ≤ dst.size) (hu : InBox g E0 u)
    (hv : InBox g E0 v) (hg : 2 * g ≤ 1022) (hE : 2 * E0 + 2 * n + 2 ≤ 1023) (k : Nat) (hk : k < 4) :
    Ok ((vecMat1colProductRef arithOk n (dst.map lift) (u.map lift) (v.map lift)).getD k (lift 0)) ∧
    Ok ((vecMat1colProductRef arithOk n (dst.map lift) (u.map lift) (v.map lift)).getD (k + 4) (lift 0)) := by
  obtain ⟨_, c1, c2⟩ := mat1colRef_cells arithOk n (dst.map lift) (u.map lift) (v.map lift)
    (by rw [Array.size_map]; exact hb) k hk
  obtain ⟨r1, r2⟩ := bx_ref (a := uRe arithOk.zero (u.map lift) k) (b := uIm arithOk.zero (u.map lift) k)
    (c := vRe arithOk.zero (v.map lift) 8 0 k) (d := vIm arithOk.zero (v.map lift) 8 0 k)
    (fun _ => hu.bx _) (fun _ => hu.bx _) (fun _ => hv.bx _) (fun _ => hv.bx _) hg n hE
  change Ok (Array.getD _ k arithOk.zero) ∧ Ok (Array.getD _ (k + 4) arithOk.zero)
  rw [c1, c2]
  exact ⟨r1.ok, r2.ok⟩

theorem avx2_ok_of_inBox (n : Nat) (dst u v : Array Nat) (g : ℕ) (E0 : ℤ) (hb : 8 ≤ dst.size) (hu : InBox g E0 u)
    (hv : InBox g E0 v) (hg : 2 * g ≤ 1022) (hE : 2 * E0 + 2 * n + 1 ≤ 1023) (k : Nat) (hk : k < 4) :
    Ok ((vecMat1colProductAvx2 arithOk n (dst.map lift) (u.map lift) (v.map lift)).getD k (lift 0)) ∧
    Ok ((vecMat1colProductAvx2 arithOk n (dst.map lift) (u.map lift) (v.map lift)).getD (k + 4) (lift 0)) := by
  obtain ⟨c1, c2⟩ := mat1colAvx2_cells arithOk n (dst.map lift) (u.map lift) (v.map lift)
    (by rw [Array.size_map]; exact hb) k hk
  have ch : ∀ f f' : ℕ → ℕ, Bx (2 * g) (2 * E0 + 2 * n)
      (fmaChain arithOk (fun i => (u.map lift).getD (f i) arithOk.zero) (fun i => (v.map lift).getD (f' i) arithOk.zero) n) :=
    fun f f' => bx_fmaChain (fun _ => hu.bx _) (fun _ => hv.bx _) hg n (by omega)
  change Ok (Array.getD _ k arithOk.zero) ∧ Ok (Array.getD _ (k + 4) arithOk.zero)
  rw [c1, c2]
  exact ⟨((ch _ _).sub (ch _ _) hg (by omega)).ok, ((ch _ _).add (ch _ _) hg (by omega)).ok⟩

end Spq.F64
