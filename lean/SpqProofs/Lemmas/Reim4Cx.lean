/-
  Exact-arithmetic instance of the kernels' arithmetic and the complex numbers `Cx R` over a
  commutative ring `R` the C17 arithmetic theorems are stated with:
    (a + ib)(c + id) = (ac − bd) + i(ad + bc).
-/
import SpqProofs.Lemmas.Reim4Kernels
import Mathlib.Algebra.BigOperators.Intervals
import Mathlib.Tactic.Ring
namespace Spq
open Finset

def RArith.ofRing (R : Type) [CommRing R] : RArith R :=
  { zero := 0, add := (· + ·), sub := (· - ·), mul := (· * ·), fma := fun a b c => a * b + c, fms := fun a b c => a * b - c }

@[ext] structure Cx (R : Type) where
  re : R
  im : R

namespace Cx
variable {R : Type} [CommRing R]

instance : Zero (Cx R) := ⟨⟨0, 0⟩⟩
instance : Add (Cx R) := ⟨fun x y => ⟨x.re + y.re, x.im + y.im⟩⟩
instance : Mul (Cx R) := ⟨fun x y => ⟨x.re * y.re - x.im * y.im, x.re * y.im + x.im * y.re⟩⟩

@[simp] theorem zero_re : (0 : Cx R).re = 0 := rfl
@[simp] theorem zero_im : (0 : Cx R).im = 0 := rfl
@[simp] theorem add_re (x y : Cx R) : (x + y).re = x.re + y.re := rfl
@[simp] theorem add_im (x y : Cx R) : (x + y).im = x.im + y.im := rfl
@[simp] theorem mul_re (x y : Cx R) : (x * y).re = x.re * y.re - x.im * y.im := rfl
@[simp] theorem mul_im (x y : Cx R) : (x * y).im = x.re * y.im + x.im * y.re := rfl

instance : AddCommMonoid (Cx R) where
  add_assoc := by intro a b c; ext <;> simp [add_assoc]
  zero_add := by intro a; ext <;> simp
  add_zero := by intro a; ext <;> simp
  add_comm := by intro a b; ext <;> simp [add_comm]
  nsmul := nsmulRec

theorem mul_comm' (x y : Cx R) : x * y = y * x := by ext <;> simp <;> ring

def reHom : Cx R →+ R := { toFun := Cx.re, map_zero' := rfl, map_add' := fun _ _ => rfl }
def imHom : Cx R →+ R := { toFun := Cx.im, map_zero' := rfl, map_add' := fun _ _ => rfl }

theorem sum_re {ι : Type} (s : Finset ι) (f : ι → Cx R) : (∑ i ∈ s, f i).re = ∑ i ∈ s, (f i).re :=
  map_sum reHom f s
theorem sum_im {ι : Type} (s : Finset ι) (f : ι → Cx R) : (∑ i ∈ s, f i).im = ∑ i ∈ s, (f i).im :=
  map_sum imHom f s

end Cx

def cx {R : Type} [CommRing R] (a : Array R) (i j : Nat) : Cx R := ⟨a.getD i 0, a.getD j 0⟩

@[simp] theorem cx_re {R : Type} [CommRing R] (a : Array R) (i j : Nat) : (cx a i j).re = a.getD i 0 := rfl
@[simp] theorem cx_im {R : Type} [CommRing R] (a : Array R) (i j : Nat) : (cx a i j).im = a.getD j 0 := rfl

section
variable {R : Type} [CommRing R]
@[simp] theorem ofRing_zero : (RArith.ofRing R).zero = 0 := rfl
@[simp] theorem ofRing_add (a b : R) : (RArith.ofRing R).add a b = a + b := rfl
@[simp] theorem ofRing_sub (a b : R) : (RArith.ofRing R).sub a b = a - b := rfl
@[simp] theorem ofRing_mul (a b : R) : (RArith.ofRing R).mul a b = a * b := rfl
@[simp] theorem ofRing_fma (a b c : R) : (RArith.ofRing R).fma a b c = a * b + c := rfl
@[simp] theorem ofRing_fms (a b c : R) : (RArith.ofRing R).fms a b c = a * b - c := rfl
@[simp] theorem reRef_ofRing (a b c d : R) : Reim4.reRef (RArith.ofRing R) a b c d = a * c - b * d := rfl
@[simp] theorem imRef_ofRing (a b c d : R) : Reim4.imRef (RArith.ofRing R) a b c d = a * d + b * c := rfl
end

end Spq
