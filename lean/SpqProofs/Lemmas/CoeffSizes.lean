/-
  Size lemmas for the single-polynomial kernels of `Spq/Coeffs.lean`: the out-of-place kernels
  return `nn` coefficients; the in-place kernels (loops of `setIfInBounds`) preserve the size of
  their buffer, whatever the fuel and the control flow.  (The in-place automorphism's is in `CoeffsAutPass`,
  from its level function.)
-/
import SpqProofs.Lemmas.CoeffsAutPass
namespace Spq.Coeffs
variable {α : Type}

@[simp] theorem size_rotate (o : Ops α) (nn : Nat) (p : Int) (x : Array α) :
    (rotate o nn p x).size = nn := by simp [rotate]

@[simp] theorem size_mulXpMinusOne (o : Ops α) (nn : Nat) (p : Int) (x : Array α) :
    (mulXpMinusOne o nn p x).size = nn := by simp [mulXpMinusOne]

theorem size_automStep (o : Ops α) (nn : Nat) (p : Int) (inp : Array α) (st : Nat × Array α) (k : Nat) :
    (automStep o nn p inp st k).2.size = st.2.size := by
  unfold automStep
  simp only
  split <;> simp

theorem size_foldl_automStep (o : Ops α) (nn : Nat) (p : Int) (inp : Array α) (l : List Nat)
    (st : Nat × Array α) : (l.foldl (automStep o nn p inp) st).2.size = st.2.size := by
  induction l generalizing st with
  | nil => rfl
  | cons k ks ih => rw [List.foldl_cons, ih, size_automStep]

@[simp] theorem size_automorphism (o : Ops α) (nn : Nat) (p : Int) (inp res0 : Array α) :
    (automorphism o nn p inp res0).size = res0.size := by
  unfold automorphism
  rw [size_foldl_automStep]
  simp

theorem size_walkCycle (o : Ops α) (nn : Nat) (p : Int) (sub : Bool) (jstart : Nat)
    (fuel j : Nat) (t : α) (res : Array α) (nb : Nat) :
    (walkCycle o nn p sub jstart fuel j t res nb).1.size = res.size := by
  induction fuel generalizing j t res nb with
  | zero => rfl
  | succ fuel ih =>
    unfold walkCycle
    simp only
    split
    · simp
    · rw [ih]; simp

theorem size_walkAll (o : Ops α) (nn : Nat) (p : Int) (sub : Bool)
    (fuel jstart nb : Nat) (res : Array α) :
    (walkAll o nn p sub fuel jstart nb res).size = res.size := by
  induction fuel generalizing jstart nb res with
  | zero => rfl
  | succ fuel ih =>
    unfold walkAll
    split
    · simp only
      rw [ih, size_walkCycle]
    · rfl

@[simp] theorem size_rotateInplace (o : Ops α) (nn : Nat) (p : Int) (x : Array α) :
    (rotateInplace o nn p x).size = x.size := size_walkAll ..

@[simp] theorem size_mulXpMinusOneInplace (o : Ops α) (nn : Nat) (p : Int) (x : Array α) :
    (mulXpMinusOneInplace o nn p x).size = x.size := size_walkAll ..

end Spq.Coeffs
