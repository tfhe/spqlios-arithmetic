/-
  The cycle walk carrying two values (cells `σ j` and `τ (σ j)` are written together):
  the do-while of `znx_automorphism_inplace_i64`.
-/
import SpqProofs.Lemmas.CoeffsWalk
namespace Spq.Rq
open Spq
variable {α : Type}

def stepP (σ τ : Nat → Nat) (g : Nat → α → α) (z : α) (j : Nat) (t : α × α) (res : Array α) :
    (α × α) × Array α :=
  ((res.getD (σ j) z, res.getD (τ (σ j)) z),
    (res.setIfInBounds (σ j) (g j t.1)).setIfInBounds (τ (σ j)) (g j t.2))

def PairInv (σ τ : Nat → Nat) (g : Nat → α → α) (z : α) (j0 : Nat) (f0 : Array α) (s : Nat)
    (f : Array α) : Prop :=
  f.size = f0.size ∧
  (∀ i, i < s → f.getD (σ^[i+1] j0) z = g (σ^[i] j0) (f0.getD (σ^[i] j0) z) ∧
               f.getD (τ (σ^[i+1] j0)) z = g (σ^[i] j0) (f0.getD (τ (σ^[i] j0)) z)) ∧
  (∀ x, (∀ i, i < s → x ≠ σ^[i+1] j0 ∧ x ≠ τ (σ^[i+1] j0)) → f.getD x z = f0.getD x z)

theorem walkP_moved (σ τ : Nat → Nat) (g : Nat → α → α) (z : α) (j0 L : Nat) (f0 : Array α)
    (hb : ∀ i, σ^[i] j0 < f0.size) (hbt : ∀ i, τ (σ^[i] j0) < f0.size)
    (hL : 0 < L) (hret : σ^[L] j0 = j0)
    (hdist : ∀ i j, i < L → j < L → σ^[i] j0 = σ^[j] j0 → i = j)
    (hdt : ∀ i j, i < L → j < L → τ (σ^[i] j0) = τ (σ^[j] j0) → i = j)
    (hcross : ∀ i j, i < L → j < L → τ (σ^[i] j0) ≠ σ^[j] j0)
    (hcomm : ∀ i, σ (τ (σ^[i] j0)) = τ (σ^[i+1] j0)) (hg : ∀ i t, g (τ (σ^[i] j0)) t = g (σ^[i] j0) t)
    (fuel nb : Nat) (hfuel : L ≤ fuel) (C : Nat → Prop)
    (horb : ∀ y, y < f0.size → (C y ↔ ∃ i, i < L ∧ (y = σ^[i] j0 ∨ y = τ (σ^[i] j0)))) :
    (walkS σ (stepP σ τ g z) 2 j0 fuel j0 (f0.getD j0 z, f0.getD (τ j0) z) f0 nb).2 = nb + 2 * L ∧
    Moved σ (fun y t _ => g y t) z f0.size C f0
      (walkS σ (stepP σ τ g z) 2 j0 fuel j0 (f0.getD j0 z, f0.getD (τ j0) z) f0 nb).1 := by
  have wrap := cycle_wrap σ j0 L hL hret
  have ne1 : ∀ i s, i < s → s < L → σ^[i+1] j0 ≠ σ^[s+1] j0 :=
    fun i s his hs => iter_ne σ j0 L hL hret hdist i s his hs
  have ne2 : ∀ i s, i < s → s < L → τ (σ^[i+1] j0) ≠ τ (σ^[s+1] j0) := by
    intro i s his hs e
    obtain ⟨a, ha, ea⟩ := wrap i (by omega)
    obtain ⟨b, hb', eb⟩ := wrap s hs
    rw [ea, eb] at e
    obtain rfl := hdt a b ha hb' e
    exact ne1 i s his hs (ea.trans eb.symm)
  have ne3 : ∀ i s, i < L → s < L → τ (σ^[i+1] j0) ≠ σ^[s+1] j0 := by
    intro i s hi hs e
    obtain ⟨a, ha, ea⟩ := wrap i hi
    obtain ⟨b, hb', eb⟩ := wrap s hs
    rw [ea, eb] at e
    exact hcross a b ha hb' e
  obtain ⟨h1, -, -, h2, h3, h4⟩ := walkS_spec σ j0 L hL hret hdist (stepP σ τ g z) 2
    (fun s t f => t = (f0.getD (σ^[s] j0) z, f0.getD (τ (σ^[s] j0)) z) ∧ PairInv σ τ g z j0 f0 s f)
    (fun s t f hsL ⟨ht, hsz, hi1, hi2⟩ => by
      simp only [stepP, ← Function.iterate_succ_apply' σ, ht,
        hi2 _ (fun i hi => ⟨(ne1 i s hi hsL).symm, (ne3 i s (by omega) hsL).symm⟩),
        hi2 _ (fun i hi => ⟨ne3 s i hsL (by omega), (ne2 i s hi hsL).symm⟩)]
      have hinb1 : σ^[s+1] j0 < f.size := by rw [hsz]; exact hb _
      have hinb2 : τ (σ^[s+1] j0) < f.size := by rw [hsz]; exact hbt _
      refine ⟨trivial, by simp [hsz], fun i hi => ?_, fun x hx => ?_⟩
      · by_cases his : i = s
        · subst his
          constructor
          · rw [getD_setIfInBounds_ne _ _ _ (ne3 i i hsL hsL), getD_setIfInBounds, if_pos ⟨rfl, hinb1⟩]
          · rw [getD_setIfInBounds, if_pos ⟨rfl, by simpa using hinb2⟩]
        · have his' : i < s := by omega
          obtain ⟨v1, v2⟩ := hi1 i his'
          constructor
          · rw [getD_setIfInBounds_ne _ _ _ (ne3 s i hsL (by omega)),
              getD_setIfInBounds_ne _ _ _ (Ne.symm (ne1 i s his' hsL))]
            exact v1
          · rw [getD_setIfInBounds_ne _ _ _ (Ne.symm (ne2 i s his' hsL)),
              getD_setIfInBounds_ne _ _ _ (Ne.symm (ne3 i s (by omega) hsL))]
            exact v2
      · rw [getD_setIfInBounds_ne _ _ _ (Ne.symm (hx s (by omega)).2),
          getD_setIfInBounds_ne _ _ _ (Ne.symm (hx s (by omega)).1)]
        exact hi2 x (fun i hi => hx i (by omega)))
    L 0 fuel (f0.getD j0 z, f0.getD (τ j0) z) f0 nb (by omega) hL hfuel
    ⟨rfl, rfl, fun i hi => by omega, fun x _ => rfl⟩
  refine ⟨h1, h2, fun y hy c => ?_, fun y hy c => h4 y fun i hi => ?_⟩
  · obtain ⟨i, hi, rfl | rfl⟩ := (horb y hy).1 c
    · rw [← Function.iterate_succ_apply' σ]; exact (h3 i hi).1
    · rw [hcomm]; beta_reduce; rw [hg]; exact (h3 i hi).2
  · obtain ⟨i', hi', e⟩ := wrap i hi
    exact ⟨fun h => c ((horb y hy).2 ⟨i', hi', Or.inl (h.trans e)⟩),
      fun h => c ((horb y hy).2 ⟨i', hi', Or.inr (h.trans (congrArg τ e))⟩)⟩

end Spq.Rq
