/-
  The invariant of the in-place kernels.  `Moved σ G z N D x res`: `res` is `x` after every cell `y ∈ D` has been
  sent along `σ` through `G`; cells outside `D` are as in `x`.  `G y t u` is what cell `σ y` receives when `t`
  comes from cell `y` and `u` is its own old content (the product by `X^p - 1` subtracts `u`; `D` is closed under
  `σ`, so `u` is read from `x`).  A cycle walk establishes it for one orbit, a leader loop (`leaderLoop_spec`) for
  a union of orbits, the level loop of the automorphism for everything; `Moved.trans` composes them.
-/
import SpqProofs.Lemmas.CoeffsBasic
import Mathlib.Logic.Function.Iterate
namespace Spq.Rq
variable {α : Type}

def Moved (σ : Nat → Nat) (G : Nat → α → α → α) (z : α) (N : Nat) (D : Nat → Prop) (x res : Array α) :
    Prop :=
  res.size = N ∧
  (∀ y, y < N → D y → res.getD (σ y) z = G y (x.getD y z) (x.getD (σ y) z)) ∧
  (∀ y, y < N → ¬ D y → res.getD y z = x.getD y z)

variable {σ : Nat → Nat} {G : Nat → α → α → α} {z : α} {N : Nat}

theorem Moved.size {D : Nat → Prop} {x res : Array α} (h : Moved σ G z N D x res) : res.size = N := h.1

theorem Moved.moved {D : Nat → Prop} {x res : Array α} (h : Moved σ G z N D x res) {y : Nat} (hy : y < N)
    (d : D y) : res.getD (σ y) z = G y (x.getD y z) (x.getD (σ y) z) := h.2.1 y hy d

theorem Moved.refl (x : Array α) (hx : x.size = N) : Moved σ G z N (fun _ => False) x x :=
  ⟨hx, fun _ _ h => h.elim, fun _ _ _ => rfl⟩

theorem Moved.congr {D D' : Nat → Prop} {x res : Array α} (h : Moved σ G z N D x res)
    (hD : ∀ y, y < N → (D y ↔ D' y)) : Moved σ G z N D' x res :=
  ⟨h.1, fun y hy d => h.2.1 y hy ((hD y hy).2 d), fun y hy d => h.2.2 y hy (fun c => d ((hD y hy).1 c))⟩

theorem Moved.congr_map {σ' : Nat → Nat} {G' : Nat → α → α → α} {D : Nat → Prop} {x res : Array α}
    (h : Moved σ G z N D x res)
    (hm : ∀ y, y < N → D y → σ' y = σ y ∧ ∀ t u u', G' y t u = G y t u') : Moved σ' G' z N D x res :=
  ⟨h.1, fun y hy d => by rw [(hm y hy d).1, (hm y hy d).2, h.2.1 y hy d], h.2.2⟩

theorem Moved.of_fixed {D : Nat → Prop} (x : Array α) (hx : x.size = N)
    (h : ∀ y, y < N → D y → σ y = y ∧ ∀ t, G y t t = t) : Moved σ G z N D x x :=
  ⟨hx, fun y hy d => by rw [(h y hy d).1, (h y hy d).2], fun _ _ _ => rfl⟩

theorem Moved.trans {D C : Nat → Prop} {x r r' : Array α} (hσ : ∀ y, y < N → D y ∨ C y → σ y < N)
    (hD : ∀ y, y < N → D y → D (σ y)) (hC : ∀ y, y < N → C y → C (σ y)) (hdisj : ∀ y, C y → ¬ D y)
    (h : Moved σ G z N D x r) (h' : Moved σ G z N C r r') : Moved σ G z N (fun y => D y ∨ C y) x r' := by
  obtain ⟨-, d1, d2⟩ := h
  obtain ⟨s, c1, c2⟩ := h'
  refine ⟨s, fun y hy dc => ?_, fun y hy dc => ?_⟩
  · rcases dc with d | c
    · rw [c2 _ (hσ y hy (Or.inl d)) (fun c => hdisj _ c (hD y hy d))]
      exact d1 y hy d
    · rw [c1 y hy c, d2 y hy (hdisj y c), d2 _ (hσ y hy (Or.inr c)) (hdisj _ (hC y hy c))]
  · rw [c2 y hy (fun c => dc (Or.inr c))]
    exact d2 y hy (fun d => dc (Or.inl d))

theorem Moved.foldl {ι : Type} (f : Array α → ι → Array α) (S : ι → Nat → Prop) (l : List ι)
    (hσ : ∀ j ∈ l, ∀ y, y < N → S j y → σ y < N ∧ S j (σ y))
    (hdisj : l.Pairwise (fun i j => ∀ y, S i y → ¬ S j y))
    (hstep : ∀ j ∈ l, ∀ r : Array α, r.size = N → Moved σ G z N (S j) r (f r j))
    (x : Array α) (hx : x.size = N) :
    Moved σ G z N (fun y => ∃ j ∈ l, S j y) x (l.foldl f x) := by
  induction l generalizing x with
  | nil => exact (Moved.refl x hx).congr fun y _ => by simp
  | cons a l ih =>
    rw [List.pairwise_cons] at hdisj
    have h1 := hstep a List.mem_cons_self x hx
    have h2 := ih (fun j hj => hσ j (List.mem_cons_of_mem _ hj)) hdisj.2
      (fun j hj => hstep j (List.mem_cons_of_mem _ hj)) (f x a) h1.size
    rw [List.foldl_cons]
    refine (Moved.trans (fun y hy dc => ?_) (fun y hy d => (hσ a List.mem_cons_self y hy d).2)
      (fun y hy ⟨j, hj, c⟩ => ⟨j, hj, (hσ j (List.mem_cons_of_mem _ hj) y hy c).2⟩)
      (fun y ⟨j, hj, c⟩ d => hdisj.1 j hj y d c) h1 h2).congr fun y _ => by simp
    rcases dc with d | ⟨j, hj, c⟩
    · exact (hσ a List.mem_cons_self y hy d).1
    · exact (hσ j (List.mem_cons_of_mem _ hj) y hy c).1

theorem Moved.unique {x r r' : Array α} (hsurj : ∀ k, k < N → ∃ y, y < N ∧ σ y = k)
    (h : Moved σ G z N (fun _ => True) x r) (h' : Moved σ G z N (fun _ => True) x r') : r = r' :=
  ext_getD z (h.1.trans h'.1.symm) fun k hk => by
    obtain ⟨y, hy, rfl⟩ := hsurj k (h.1 ▸ hk)
    rw [h.2.1 y hy trivial, h'.2.1 y hy trivial]

/-- the outer loop of the in-place kernels: walk from a leader, count the cells moved, go to the next leader -/
def leaderLoop (walk : Nat → Array α → Nat → Array α × Nat) (next : Nat → Nat) (total : Nat) :
    Nat → Nat → Nat → Array α → Array α
  | 0, _, _, res => res
  | fuel + 1, j, nb, res =>
    if nb < total then leaderLoop walk next total fuel (next j) (walk j res nb).2 (walk j res nb).1 else res

/-- `d` leaders, the walk from the `s`-th moves the `σ`-closed set `C s` (`w` cells); the sets are disjoint -/
theorem leaderLoop_spec (walk : Nat → Array α → Nat → Array α × Nat) (next : Nat → Nat) (j0 d w : Nat)
    (C : Nat → Nat → Prop) (hσ : ∀ y, y < N → σ y < N) (hw : 0 < w)
    (hC : ∀ s y, y < N → C s y → C s (σ y)) (hdisj : ∀ s s' y, s' < s → C s y → ¬ C s' y)
    (hwalk : ∀ s, s < d → ∀ (f : Array α) (nb : Nat), f.size = N →
      (walk (next^[s] j0) f nb).2 = nb + w ∧ Moved σ G z N (C s) f (walk (next^[s] j0) f nb).1)
    (x : Array α) :
    ∀ (r s fuel : Nat) (res : Array α), s + r = d → r ≤ fuel →
      Moved σ G z N (fun y => ∃ s', s' < s ∧ C s' y) x res →
      Moved σ G z N (fun y => ∃ s', s' < d ∧ C s' y) x
        (leaderLoop walk next (d * w) fuel (next^[s] j0) (s * w) res) := by
  intro r
  induction r with
  | zero =>
    intro s fuel res hs _ hinv
    obtain rfl : s = d := by omega
    cases fuel with
    | zero => exact hinv
    | succ f => rw [leaderLoop, if_neg (Nat.lt_irrefl _)]; exact hinv
  | succ r ih =>
    intro s fuel res hs hfuel hinv
    obtain ⟨fuel', rfl⟩ : ∃ k, fuel = k + 1 := ⟨fuel - 1, by omega⟩
    have hsd : s < d := by omega
    obtain ⟨w1, w2⟩ := hwalk s hsd res (s * w) hinv.1
    rw [leaderLoop, if_pos (Nat.mul_lt_mul_of_pos_right hsd hw), w1, ← Nat.succ_mul,
      ← Function.iterate_succ_apply' next]
    refine ih (s + 1) fuel' _ (by omega) (by omega) ((Moved.trans (fun y hy _ => hσ y hy)
      (fun y hy ⟨s', hs', c'⟩ => ⟨s', hs', hC s' y hy c'⟩) (hC s)
      (fun y c ⟨s', hs', c'⟩ => hdisj s s' y hs' c c') hinv w2).congr fun y _ => ?_)
    constructor
    · rintro (⟨s', h1, h2⟩ | c)
      · exact ⟨s', by omega, h2⟩
      · exact ⟨s, by omega, c⟩
    · rintro ⟨s', h1, h2⟩
      rcases Nat.lt_or_ge s' s with h | h
      · exact Or.inl ⟨s', h, h2⟩
      · obtain rfl : s' = s := by omega
        exact Or.inr h2

end Spq.Rq
