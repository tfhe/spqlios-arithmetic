/-
  No-overflow from a magnitude box: the vector-matrix product pipeline.  `VmpOkU` (underflow-only flags
  of the four stages of column `j`) + coefficient boxes + twiddles bounded by 1 ⇒ `VmpOk`, for `k ≤ 64`, `n ≤ 2^25 − 1`.
  Magnitudes: `2^50` → forward `2^(50+3k)` → accumulation `32·U²·(n+1) ≤ 2^(130+6k)` (`mag_col`, the `Mag` rule of the
  accumulation stage) → inverse `2^(130+9k) < 2^1023`.
  A concrete instance of `VmpOkU` (the instance of `VmpErrExample.lean`).
-/
import SpqProofs.Lemmas.VmpErrOvf10
import SpqProofs.Lemmas.VmpErrPipe
import SpqProofs.Lemmas.VmpErrOvf8
import SpqProofs.Lemmas.VmpErrExample
namespace Spq.VmpErr
open Spq Spq.Module Spq.Fft Spq.Fft.Alg Spq.Fft.RelN Spq.Fft.SimP Spq.Fft.LevelN Spq.Fft.SchedN Spq.Fft.Sim Spq.FftErr Spq.F64
  Spq.Reim4 Spq.ProdErr

/-- **the underflow-only flags of the pipeline for output column `j`** (`VmpOk` with `NoUnd` in place of `NormalRange`) -/
structure VmpOkU (c : Cfg) (k : ℕ) (cN sN cNi sNi : ℕ → ℕ) (mat : Array Int) (nrows ncols : ℕ) (a : Array Int)
    (asz asl rsz j : ℕ) : Prop where
  okA : ∀ i, i < min nrows asz → FwdOkU c k cN sN (limbOf a i asl (2 * 2 ^ k))
  okB : ∀ i, i < min nrows asz → FwdOkU c k cN sN (matEntry mat ncols (2 * 2 ^ k) i j)
  okD : ∀ p, p < 2 * 2 ^ k → vmpFlagU c mat nrows ncols a asz asl rsz (j * (2 * 2 ^ k) + p)
  okI : ∀ p, p < 2 * 2 ^ k →
    ((reimIfftA (ifamOf c.ifftFma aU) (2 ^ k) ((((reimIfftEnts (2 ^ k)).map (valP cNi sNi)).toArray).map lift)
      ((dlimb (vmpRes c mat nrows ncols a asz asl rsz) j (2 * 2 ^ k)).map lift))[p]!).2

theorem kap_pow_le (n : ℕ) (hn : 2 * n + 2 ≤ 67108864) : kap ^ (2 * n) ≤ 4 := by
  unfold kap
  have hu : (0 : ℚ) ≤ u64 := le_of_lt u64_pos
  have hu' : u64 = 1 / 9007199254740992 := by unfold u64; norm_num
  have hp : ((2 * n : ℕ) : ℚ) ≤ 67108864 := by exact_mod_cast (by omega : 2 * n ≤ 67108864)
  have hp0 : (0 : ℚ) ≤ ((2 * n : ℕ) : ℚ) := Nat.cast_nonneg _
  have h1 : ((2 * n : ℕ) : ℚ) * u64 ≤ 1 := by rw [hu']; linarith
  have h := pow_le_quad u64 hu (2 * n) h1
  have h2 : (((2 * n : ℕ) : ℚ) * u64) ^ 2 ≤ 1 := by
    exact pow_le_one₀ (mul_nonneg hp0 hu) h1
  linarith

theorem mag_col (c : Cfg) (k : ℕ) (cN sN cNi sNi : ℕ → ℕ) (h : VCfgOk c k cN sN cNi sNi)
    (mat : Array Int) (nrows ncols : ℕ) (a : Array Int) (asz asl rsz : ℕ) (hn : 2 * min nrows asz + 2 ≤ 67108864)
    (hA : ∀ i, i < min nrows asz → Box k (limbOf a i asl (2 * 2 ^ k)))
    (hM : ∀ i j, i < nrows → j < ncols → Box k (matEntry mat ncols (2 * 2 ^ k) i j))
    (ea eb : ℕ) (mA : ∀ i, i < min nrows asz → Mag k ea (stF c k cN sN (limbOf a i asl (2 * 2 ^ k))))
    (j : ℕ) (hj : j < min ncols rsz) (hpos : k < 2 → 0 < min nrows asz)
    (mB : ∀ i, i < min nrows asz → Mag k eb (stF c k cN sN (matEntry mat ncols (2 * 2 ^ k) i j)))
    (he : ea + eb + 30 < 1023)
    (hokU : ∀ p, p < 2 * 2 ^ k → vmpFlagU c mat nrows ncols a asz asl rsz (j * (2 * 2 ^ k) + p)) :
    (∀ p, p < 2 * 2 ^ k → vmpFlag c mat nrows ncols a asz asl rsz (j * (2 * 2 ^ k) + p)) ∧
    Mag k (ea + eb + 30) (dlimb (vmpRes c mat nrows ncols a asz asl rsz) j (2 * 2 ^ k)) := by
  have hn1 : (((min nrows asz : ℕ) : ℚ) + 1) ≤ 2 ^ 25 := by
    have : min nrows asz + 1 ≤ 2 ^ 25 := by norm_num; omega
    exact_mod_cast this
  have hB : 32 * ((2 : ℚ) ^ ea * 2 ^ eb) * (((min nrows asz : ℕ) : ℚ) + 1) ≤ 2 ^ (ea + eb + 30) := by
    have e : (2 : ℚ) ^ (ea + eb + 30) = 32 * (2 ^ ea * 2 ^ eb) * 2 ^ 25 := by
      rw [show (32 : ℚ) = 2 ^ 5 by norm_num, ← pow_add, ← pow_add, ← pow_add]; congr 1; omega
    rw [e]
    exact mul_le_mul_of_nonneg_left hn1 (by positivity)
  have cells := fun t (ht : t < 2 ^ k) => cell_no_ovf c k cN sN cNi sNi h mat nrows ncols a asz asl rsz hA hM (2 ^ ea) (2 ^ eb)
    (by positivity) (by positivity) (fun i hi x hx => by rw [← getElem!_nat]; exact (mA i hi).2 x hx)
    (kap_pow_le _ hn) (lt_of_le_of_lt hB (pow2_lt_Tov _ he)) j t hj ht hpos
    (fun i hi x hx => by rw [← getElem!_nat]; exact (mB i hi).2 x hx)
  have cellp : ∀ p, p < 2 * 2 ^ k → vmpFlag c mat nrows ncols a asz asl rsz (j * (2 * 2 ^ k) + p) ∧
      |val ((vmpRes c mat nrows ncols a asz asl rsz).getD (j * (2 * 2 ^ k) + p) 0)| ≤ 2 ^ (ea + eb + 30) := by
    refine halves (fun t ht => ?_) (fun t ht => ?_)
    · obtain ⟨x1, x2⟩ := (cells t ht).1 (hokU t (by omega))
      exact ⟨x1, le_trans x2 hB⟩
    · rw [Nat.add_comm (2 ^ k) t, ← Nat.add_assoc]
      obtain ⟨x1, x2⟩ := (cells t ht).2 (by rw [Nat.add_assoc]; exact hokU _ (by omega))
      exact ⟨x1, le_trans x2 hB⟩
  exact ⟨fun p hp => (cellp p hp).1,
    dlimb_size _ j _ rsz (vmpRes_size c k cN sN cNi sNi h mat nrows ncols a asz asl rsz hM) (lt_of_lt_of_le hj (Nat.min_le_right _ _)),
    fun p hp => by rw [getElem!_nat, dlimb_get 0 _ j (2 * 2 ^ k) p hp]; exact (cellp p hp).2⟩

theorem vmp_no_ovf (c : Cfg) (k : ℕ) (hk : k ≤ 64) (cN sN cNi sNi : ℕ → ℕ) (h : VCfgOk c k cN sN cNi sNi)
    (htab : TabOk cN sN) (htabi : TabOk cNi sNi)
    (mat : Array Int) (nrows ncols : ℕ) (a : Array Int) (asz asl rsz : ℕ) (hn : 2 * min nrows asz + 2 ≤ 67108864)
    (hA : ∀ i, i < min nrows asz → Box k (limbOf a i asl (2 * 2 ^ k)))
    (hM : ∀ i j, i < nrows → j < ncols → Box k (matEntry mat ncols (2 * 2 ^ k) i j))
    (j : ℕ) (hj : j < min ncols rsz) (hpos : k < 2 → 0 < min nrows asz)
    (hok : VmpOkU c k cN sN cNi sNi mat nrows ncols a asz asl rsz j) :
    VmpOk c k cN sN cNi sNi mat nrows ncols a asz asl rsz j := by
  have fa := fun i (hi : i < min nrows asz) => mag_fwd c k (by omega) cN sN cNi sNi h.cfg htab _ (hA i hi) (hok.okA i hi)
  have fb := fun i (hi : i < min nrows asz) => mag_fwd c k (by omega) cN sN cNi sNi h.cfg htab _
    (hM i j (lt_of_lt_of_le hi (Nat.min_le_left _ _)) (lt_of_lt_of_le hj (Nat.min_le_left _ _))) (hok.okB i hi)
  obtain ⟨fd, md⟩ := mag_col c k cN sN cNi sNi h mat nrows ncols a asz asl rsz hn hA hM _ _ (fun i hi => (fa i hi).2)
    j hj hpos (fun i hi => (fb i hi).2) (by omega) hok.okD
  exact ⟨fun i hi => (fa i hi).1, fun i hi => (fb i hi).1, fd, (mag_ifft c k cNi sNi htabi _ _ md (by omega) hok.okI).1⟩

theorem exVmpOkU : VmpOkU exC 0 z0 z0 z0 z0 #[3, 4] 1 1 #[1, 2] 1 2 1 0 where
  okA := by
    intro i hi
    have : i = 0 := by omega
    subst this
    rw [exLimb]; exact exU_okA
  okB := by
    intro i hi
    have : i = 0 := by omega
    subst this
    rw [exEntry]; exact exU_okB
  okD := ex_okD_of arithU (pU exC) _ rfl (by rw [exVD, ← exFA]; exact exU_okM)
  okI := by
    rw [exCol]
    exact exU_okI

end Spq.VmpErr
