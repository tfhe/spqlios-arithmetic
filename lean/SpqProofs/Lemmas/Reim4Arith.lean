/-
  Exact-arithmetic lemmas for the accumulating kernels of C17 (dot products, convolution).
-/
import SpqProofs.Lemmas.Reim4Cx
import SpqProofs.Lemmas.Reim4Layout
import SpqProofs.Lemmas.VmpErrDot
namespace Spq.Reim4
open Finset
variable {R : Type} [CommRing R]

theorem addMulAt_exact (dst : Array R) (d : Nat) (u : Array R) (uo : Nat) (v : Array R) (vo : Nat)
    (hb : d + 8 ≤ dst.size) :
    (addMulAt (RArith.ofRing R) dst d u uo v vo).size = dst.size ∧
    (∀ k, k < 4 → cx (addMulAt (RArith.ofRing R) dst d u uo v vo) (d + k) (d + k + 4) =
        cx dst (d + k) (d + k + 4) + cx u (uo + k) (uo + k + 4) * cx v (vo + k) (vo + k + 4)) ∧
    (∀ x, x < d ∨ d + 8 ≤ x → (addMulAt (RArith.ofRing R) dst d u uo v vo).getD x 0 = dst.getD x 0) := by
  obtain ⟨s1, s2, s3⟩ := addMulAt_spec (RArith.ofRing R) dst d u uo v vo hb
  simp only [ofRing_zero, ofRing_add, reRef_ofRing, imRef_ofRing] at s2 s3
  refine ⟨s1, ?_, s3⟩
  intro k hk
  obtain ⟨a, b⟩ := s2 k hk
  ext
  · simp only [cx_re, Cx.add_re, Cx.mul_re, cx_im]; rw [a]
  · simp only [cx_re, Cx.add_im, Cx.mul_im, cx_im]; rw [b]

theorem cx_zeroAt (dest : Array R) (d l : Nat) (hb : d + 8 ≤ dest.size) (hl : l < 4) :
    cx (zeroAt (RArith.ofRing R) dest d) (d + l) (d + l + 4) = 0 := by
  obtain ⟨_, z2, _⟩ := zeroAt_spec (RArith.ofRing R) dest d hb
  simp only [ofRing_zero] at z2
  have e : d + l + 4 = d + (l + 4) := by omega
  ext
  · simp only [cx_re, Cx.zero_re]; exact z2 l (by omega)
  · simp only [cx_im, Cx.zero_im]; rw [e]; exact z2 (l + 4) (by omega)

theorem dotAt_exact (n d : Nat) (uo vo : Nat → Nat) (dst u v : Array R) (hb : d + 8 ≤ dst.size) :
    (Nat.fold n (fun t _ dst => addMulAt (RArith.ofRing R) dst d u (uo t) v (vo t)) (zeroAt (RArith.ofRing R) dst d)).size =
      dst.size ∧
    (∀ k, k < 4 →
      cx (Nat.fold n (fun t _ dst => addMulAt (RArith.ofRing R) dst d u (uo t) v (vo t)) (zeroAt (RArith.ofRing R) dst d))
          (d + k) (d + k + 4) =
        ∑ t ∈ range n, cx u (uo t + k) (uo t + k + 4) * cx v (vo t + k) (vo t + k + 4)) ∧
    (∀ x, x < d ∨ d + 8 ≤ x →
      (Nat.fold n (fun t _ dst => addMulAt (RArith.ofRing R) dst d u (uo t) v (vo t)) (zeroAt (RArith.ofRing R) dst d)).getD x 0 =
        dst.getD x 0) := by
  obtain ⟨c1, c2, c3⟩ := VmpErr.dotAt_cells (RArith.ofRing R) n d uo vo dst u v hb
  refine ⟨c1, fun k hk => ?_, c3⟩
  obtain ⟨e1, e2⟩ := VmpErr.dot_ofRing .ref (VmpErr.laneA 0 u uo k) (VmpErr.laneA 0 u uo (k + 4)) (VmpErr.laneA 0 v vo k)
    (VmpErr.laneA 0 v vo (k + 4)) n (fun h => by cases h)
  ext
  · rw [Cx.sum_re]; exact (c2 k hk).1.trans e1
  · rw [Cx.sum_im]; exact (c2 k hk).2.trans e2

theorem conv_window (k sizea sizeb : Nat) (h : k < sizea + sizeb) :
    Ico (convJmin k sizea) (convJmax k sizeb) = (range sizeb).filter (fun j => j ≤ k ∧ k - j < sizea) := by
  ext j
  simp only [mem_Ico, mem_filter, mem_range, convJmin, convJmax]
  split <;> split <;> omega

theorem conv_window_empty (k sizea sizeb : Nat) (h : sizea + sizeb ≤ k) :
    (range sizeb).filter (fun j => j ≤ k ∧ k - j < sizea) = ∅ := by
  ext j
  simp only [mem_filter, mem_range, notMem_empty, iff_false]
  omega

/-- term `a[k-j]·b[j]` (lane `l`) of a convolution coefficient -/
def convTerm (a b : Array R) (k l j : Nat) : Cx R :=
  cx a (8 * (k - j) + l) (8 * (k - j) + l + 4) * cx b (8 * j + l) (8 * j + l + 4)

/-- coefficient `k` (lane `l`) of the product of `a` (`sizea` reim4 blocks) and `b` (`sizeb` blocks), by definition:
    the sum of `a[i]·b[j]` over all `i < sizea`, `j < sizeb` with `i + j = k` -/
def convCoeff (a : Array R) (sizea : Nat) (b : Array R) (sizeb : Nat) (k l : Nat) : Cx R :=
  ∑ j ∈ (range sizeb).filter (fun j => j ≤ k ∧ k - j < sizea), convTerm a b k l j

theorem conv1At_exact (k : Nat) (dest : Array R) (d : Nat) (a : Array R) (sizea : Nat) (b : Array R) (sizeb : Nat)
    (hb : d + 8 ≤ dest.size) :
    (convolution1coeffAt (RArith.ofRing R) k dest d a sizea b sizeb).size = dest.size ∧
    (∀ l, l < 4 → cx (convolution1coeffAt (RArith.ofRing R) k dest d a sizea b sizeb) (d + l) (d + l + 4) =
      convCoeff a sizea b sizeb k l) ∧
    (∀ x, x < d ∨ d + 8 ≤ x →
      (convolution1coeffAt (RArith.ofRing R) k dest d a sizea b sizeb).getD x 0 = dest.getD x 0) := by
  unfold convolution1coeffAt
  by_cases hk : k ≥ sizea + sizeb
  · simp only [hk, if_true]
    obtain ⟨z1, _, z3⟩ := zeroAt_spec (RArith.ofRing R) dest d hb
    refine ⟨z1, ?_, z3⟩
    intro l hl
    rw [cx_zeroAt dest d l hb hl, convCoeff, conv_window_empty k sizea sizeb hk, sum_empty]
  · simp only [hk, if_false]
    obtain ⟨s1, s2, s3⟩ := dotAt_exact (R := R) (convJmax k sizeb - convJmin k sizea) d
      (fun t => 8 * (k - (convJmin k sizea + t))) (fun t => 8 * (convJmin k sizea + t)) dest a b hb
    refine ⟨s1, ?_, s3⟩
    intro l hl
    rw [s2 l hl, convCoeff, ← conv_window k sizea sizeb (by omega), sum_Ico_eq_sum_range]
    rfl

omit [CommRing R] in
theorem conv1At_local (ar : RArith R) (k d : Nat) (a : Array R) (sizea : Nat) (b : Array R) (sizeb : Nat) :
    LocalOp ar.zero (fun r => convolution1coeffAt ar k r d a sizea b sizeb) (fun x => d ≤ x ∧ x < d + 8) := by
  unfold convolution1coeffAt
  by_cases hk : k ≥ sizea + sizeb
  · simp only [hk, if_true]
    exact zeroAt_local ar d
  · simp only [hk, if_false]
    exact (LocalOp.comp (f := fun r => zeroAt ar r d)
      (g := fun r => Nat.fold (convJmax k sizeb - convJmin k sizea)
        (fun t _ dest => addMulAt ar dest d a (8 * (k - (convJmin k sizea + t))) b (8 * (convJmin k sizea + t))) r)
      (F := fun x => d ≤ x ∧ x < d + 8) (G := fun x => d ≤ x ∧ x < d + 8) (zeroAt_local ar d)
      (LocalOp.fold _ (fun t r => addMulAt ar r d a (8 * (k - (convJmin k sizea + t))) b (8 * (convJmin k sizea + t))) _
        (fun t _ => addMulAt_local ar d a _ b _))).mono (fun x hx => hx.elim id id)

end Spq.Reim4
