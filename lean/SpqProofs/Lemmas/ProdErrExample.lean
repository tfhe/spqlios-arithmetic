/-
  C01 rounding budget: a concrete non-trivial instance of every hypothesis of the end-to-end theorems.
  `N = 2` (`k = 0`, `m = 1`), `K = ℚ`, `ζ = i`, `ζi = −i`, all-reference configuration, `a = 1 + 2X`, `b = 3 + 4X`
  (`a·b = −5 + 10X mod X² + 1`).  For `m ≥ 2` the roots `ζ^e` are irrational: `K = ℝ` (`ζ = exp(iπ/2m)`) is needed,
  and the twiddle-accuracy hypotheses are then statements about the stored table (stream `ff_tables`).
-/
import SpqProofs.Lemmas.ProdErrBudget
import SpqProofs.Lemmas.F64StdInt
namespace Spq.ProdErr
open Finset Spq Spq.Module Spq.Fft Spq.Fft.Alg Spq.Fft.SimP Spq.Fft.LevelN Spq.Fft.SchedN Spq.Fft.RelN Spq.FftErr Spq.F64
  Spq.Reim4 Spq.Conv

/-- the all-reference module of dimension `N = 2` (tables are empty for `m = 1`) -/
def exC : Cfg where
  nn := 2
  fftFma := false
  ifftFma := false
  fromBnd50 := false
  toVariant := ToZnx64Variant.ref
  mulFma := false
  addmulFma := false
  vmpAvx := false
  fftT := #[]
  ifftT := #[]
def z0 : ℕ → ℕ := fun _ => 0

theorem exCfgOk : CfgOk exC 0 z0 z0 z0 z0 := ⟨rfl, rfl, rfl, by decide, by decide, by decide⟩

theorem exA : (Cfg.parts exC).fromZnx #[1, 2] = #[4607182418800017408, 4611686018427387904] := by decide +kernel
theorem exB : (Cfg.parts exC).fromZnx #[3, 4] = #[4613937818241073152, 4616189618054758400] := by decide +kernel
theorem exFA : stF exC 0 z0 z0 #[1, 2] = #[4607182418800017408, 4611686018427387904] := by decide +kernel
theorem exFB : stF exC 0 z0 z0 #[3, 4] = #[4613937818241073152, 4616189618054758400] := by decide +kernel
theorem exM : stM exC 0 z0 z0 #[1, 2] #[3, 4] = #[13840687554816376832, 4621819117588971520] := by decide +kernel

theorem ex_okA : ∀ p, p < 2 * 2 ^ 0 →
    ((reimFftA (famOf exC.fftFma aOk) (2 ^ 0) ((((reimFftEnts (2 ^ 0)).map (valP z0 z0)).toArray).map lift)
      (((Cfg.parts exC).fromZnx #[1, 2]).map lift))[p]!).2 := by
  intro p hp
  rw [exA]
  have : p = 0 ∨ p = 1 := by omega
  rcases this with rfl | rfl <;> simp [reimFftA, fftRI, joinRI, splitRI, lift] <;> decide

theorem ex_okB : ∀ p, p < 2 * 2 ^ 0 →
    ((reimFftA (famOf exC.fftFma aOk) (2 ^ 0) ((((reimFftEnts (2 ^ 0)).map (valP z0 z0)).toArray).map lift)
      (((Cfg.parts exC).fromZnx #[3, 4]).map lift))[p]!).2 := by
  intro p hp
  rw [exB]
  have : p = 0 ∨ p = 1 := by omega
  rcases this with rfl | rfl <;> simp [reimFftA, fftRI, joinRI, splitRI, lift] <;> decide

theorem ex_okI : ∀ p, p < 2 * 2 ^ 0 →
    ((reimIfftA (ifamOf exC.ifftFma aOk) (2 ^ 0) ((((reimIfftEnts (2 ^ 0)).map (valP z0 z0)).toArray).map lift)
      ((stM exC 0 z0 z0 #[1, 2] #[3, 4]).map lift))[p]!).2 := by
  intro p hp
  rw [exM]
  have : p = 0 ∨ p = 1 := by omega
  rcases this with rfl | rfl <;> simp [reimIfftA, ifftRI, joinRI, splitRI, lift] <;> decide

theorem ex_okM : ∀ p, p < 2 * 2 ^ 0 →
    ((mulA arithOk exC.mulFma (2 ^ 0) ((stF exC 0 z0 z0 #[1, 2]).map lift) ((stF exC 0 z0 z0 #[3, 4]).map lift)).getD p
      arithOk.zero).2 := by
  intro p hp
  rw [exFA, exFB]
  obtain ⟨c1, c2⟩ := (mulA_cells arithOk false 1 (by simp)
    ((#[4607182418800017408, 4611686018427387904] : Array ℕ).map lift)
    ((#[4613937818241073152, 4616189618054758400] : Array ℕ).map lift)).2 0 (by omega)
  have g0 : ((#[4607182418800017408, 4611686018427387904] : Array ℕ).map lift).getD 0 arithOk.zero = lift (ofInt 1) :=
    getD_map lift _ 0 0
  have g1 : ((#[4607182418800017408, 4611686018427387904] : Array ℕ).map lift).getD (0 + 1) arithOk.zero = lift (ofInt 2) :=
    getD_map lift _ 1 0
  have g2 : ((#[4613937818241073152, 4616189618054758400] : Array ℕ).map lift).getD 0 arithOk.zero = lift (ofInt 3) :=
    getD_map lift _ 0 0
  have g3 : ((#[4613937818241073152, 4616189618054758400] : Array ℕ).map lift).getD (0 + 1) arithOk.zero = lift (ofInt 4) :=
    getD_map lift _ 1 0
  rw [g0, g1, g2, g3] at c1 c2
  have m1 : F64.mul (ofInt 1) (ofInt 3) = ofInt 3 := by decide +kernel
  have m2 : F64.mul (ofInt 2) (ofInt 4) = ofInt 8 := by decide +kernel
  have m3 : F64.mul (ofInt 1) (ofInt 4) = ofInt 4 := by decide +kernel
  have m4 : F64.mul (ofInt 2) (ofInt 3) = ofInt 6 := by decide +kernel
  have v1 : val (ofInt 1) = ((1 : ℤ) : ℚ) := val_ofInt (by decide)
  have v2 : val (ofInt 2) = ((2 : ℤ) : ℚ) := val_ofInt (by decide)
  have v3 : val (ofInt 3) = ((3 : ℤ) : ℚ) := val_ofInt (by decide)
  have v4 : val (ofInt 4) = ((4 : ℤ) : ℚ) := val_ofInt (by decide)
  have v6 : val (ofInt 6) = ((6 : ℤ) : ℚ) := val_ofInt (by decide)
  have v8 : val (ofInt 8) = ((8 : ℤ) : ℚ) := val_ofInt (by decide)
  have hexp : exC.mulFma = false := rfl
  have h20 : 2 ^ 0 = 1 := rfl
  rw [hexp, h20]
  have : p = 0 ∨ p = 0 + 1 := by omega
  rcases this with rfl | rfl
  · rw [c1]
    simp only [cellRe, Bool.false_eq_true, if_false, reRef, arithOk_sub_snd, arithOk_mul_snd, arithOk_mul_fst, lift_fst,
      lift_snd]
    rw [m1, m2, v1, v2, v3, v4, v8]
    refine ⟨⟨by decide, by decide, ?_⟩, ⟨by decide, by decide, ?_⟩, ?_⟩
    · rw [← Int.cast_mul]; exact normalRange_int _ (by decide)
    · rw [← Int.cast_mul]; exact normalRange_int _ (by decide)
    · rw [← Int.cast_sub]; exact normalRange_int _ (by decide)
  · rw [c2]
    simp only [cellIm, Bool.false_eq_true, if_false, imRef, arithOk_add_snd, arithOk_mul_snd, arithOk_mul_fst, lift_fst,
      lift_snd]
    rw [m3, m4, v1, v2, v3, v4, v6]
    refine ⟨⟨by decide, by decide, ?_⟩, ⟨by decide, by decide, ?_⟩, ?_⟩
    · rw [← Int.cast_mul]; exact normalRange_int _ (by decide)
    · rw [← Int.cast_mul]; exact normalRange_int _ (by decide)
    · rw [← Int.cast_add]; exact normalRange_int _ (by decide)

theorem exPipeOk : PipeOk exC 0 z0 z0 z0 z0 #[1, 2] #[3, 4] := ⟨ex_okA, ex_okB, ex_okM, ex_okI⟩

end Spq.ProdErr
