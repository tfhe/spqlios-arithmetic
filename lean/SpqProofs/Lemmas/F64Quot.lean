/-
  `(int64_t) rint(x * p)` for a power of two `p = 2^-jj`: the result is within 1/2 of `x / 2^jj`
  (including products that underflow, which round to 0).
-/
import SpqProofs.Lemmas.F64Rint

namespace Spq.F64

/-- `p = 2^-jj` and `b = jj + 1074` (values in units of `2^-1074`); `hdom` is `|x·p| < 2^63`. -/
theorem quot_round_core {x p : Nat} {ep : Int} (hp : decode p = ⟨false, 4503599627370496, ep⟩)
    (b : Nat) (hb : (b : Int) = -(ep + 52) + 1074) (hdom : |toScaled x| < 9223372036854775808 * 2 ^ b) :
    2 * |toIntTrunc (rint (mul x p)) * 2 ^ b - toScaled x| ≤ 2 ^ b := by
  obtain ⟨sx, mx, ex, hx, hm, he0, -⟩ := exists_decode x
  obtain ⟨a, ha⟩ : ∃ a : Nat, (a : Int) = ex + 1074 := ⟨(ex + 1074).toNat, by omega⟩
  rw [toScaled_of_decode' hx, show (ex + 1074).toNat = a by omega] at hdom ⊢
  rw [abs_sI_mul _ _ _ (by positivity)] at hdom
  have hdomN : mx * 2 ^ a < 2 ^ 63 * 2 ^ b := by norm_num; exact_mod_cast hdom
  have hmul : mul x p = pack sx (mx * 2 ^ 52) (ex + ep) := by
    rw [mul_of_decode hx hp, show (sx != false) = sx by cases sx <;> rfl, show (4503599627370496 : Nat) = 2 ^ 52 by norm_num]
  have hPb : (0 : Int) < 2 ^ b := by positivity
  rcases Nat.lt_or_ge (a + 1074) b with hlt | hge
  · -- the product underflows: `rint` gives 0, and `|x·p| < 1/2`
    have hr : toIntTrunc (rint (mul x p)) = 0 := by
      by_cases hm0 : mx = 0
      · rw [hmul, hm0, Nat.zero_mul, pack_zero]; exact toIntTrunc_rint_tiny (decode_sgn sx) (by norm_num)
      · obtain ⟨q, hq, hd⟩ := decode_pack_tiny sx (mx * 2 ^ 52) (ex + ep) 105 (by positivity)
          (by rw [show 105 = 53 + 52 by rfl, pow_add]; exact Nat.mul_lt_mul_of_pos_right (by norm_num; exact hm) (by positivity))
          (by push_cast; omega)
        rw [hmul]; exact toIntTrunc_rint_tiny hd hq
    rw [hr, zero_mul, zero_sub, abs_neg, abs_sI_mul _ _ _ (by positivity)]
    have h1 : mx * 2 ^ (a + 1) < 2 ^ 53 * 2 ^ (a + 1) := Nat.mul_lt_mul_of_pos_right (by norm_num; exact hm) (by positivity)
    have h2 : 2 ^ 53 * 2 ^ (a + 1) ≤ 2 ^ b := by rw [← pow_add]; exact Nat.pow_le_pow_right (by norm_num) (by omega)
    have h3 : ((mx * 2 ^ (a + 1) : Nat) : Int) < ((2 ^ b : Nat) : Int) := by exact_mod_cast lt_of_lt_of_le h1 h2
    push_cast at h3; rw [pow_succ] at h3; linarith
  · -- the product is exact: `y·2^b = x·2^1074`
    obtain ⟨c, hc⟩ : ∃ c : Nat, c + b = a + 1074 := ⟨a + 1074 - b, by omega⟩
    have hfin : a ≤ b + 971 := by
      rcases Int.lt_or_le (-1074) ex with hex | hex
      · have hmn : 4503599627370496 ≤ mx := by have := decode_m_ge_of_e x (by rw [hx]; exact hex); rwa [hx] at this
        have h2 : 2 ^ 52 * 2 ^ a ≤ mx * 2 ^ a := Nat.mul_le_mul_right _ (by norm_num; exact hmn)
        have h1 := lt_of_le_of_lt h2 hdomN
        rw [← pow_add, ← pow_add] at h1
        have := pow2_lt_imp h1
        omega
      · omega
    have hy : toScaled (mul x p) = sI sx mx * 2 ^ c := by
      rw [hmul, toScaled_pack_scaled sx mx 52 _ hm (by push_cast; omega) (by push_cast; omega)]
      have : (ex + ep + ((52 : Nat) : Int) + 1074).toNat = c := by push_cast; omega
      rw [this]
    have key : ∀ n, c + b = a + n → (2 : Int) ^ c * 2 ^ b = 2 ^ a * 2 ^ n := fun n h => by rw [← pow_add, ← pow_add, h]
    have hcb := key 1074 hc
    have hP : (0 : Int) < 2 ^ 1074 := by positivity
    have hydom : |toScaled (mul x p)| < 9223372036854775808 * 2 ^ 1074 := by
      rw [hy, abs_sI_mul _ _ _ (by positivity)]
      have h1 : (mx : Int) * 2 ^ c * 2 ^ b < 9223372036854775808 * 2 ^ 1074 * 2 ^ b := by
        calc (mx : Int) * 2 ^ c * 2 ^ b = (mx : Int) * 2 ^ a * 2 ^ 1074 := by rw [mul_assoc, hcb, mul_assoc]
          _ < 9223372036854775808 * 2 ^ b * 2 ^ 1074 := mul_lt_mul_of_pos_right hdom hP
          _ = _ := mul_right_comm _ _ _
      exact lt_of_mul_lt_mul_right h1 hPb.le
    have hnear := toIntRne_nearest (mul x p) hydom
    rw [hy] at hnear
    have hfac : (toIntTrunc (rint (mul x p)) * 2 ^ b - sI sx mx * 2 ^ a) * 2 ^ 1074
        = (toIntTrunc (rint (mul x p)) * 2 ^ 1074 - sI sx mx * 2 ^ c) * 2 ^ b := by
      rw [sub_mul, sub_mul, mul_assoc (sI sx mx), mul_assoc (sI sx mx), hcb, mul_right_comm]
    have habs : |toIntTrunc (rint (mul x p)) * 2 ^ b - sI sx mx * 2 ^ a| * 2 ^ 1074
        = |toIntTrunc (rint (mul x p)) * 2 ^ 1074 - sI sx mx * 2 ^ c| * 2 ^ b := by
      rw [← abs_of_pos hP, ← abs_mul, hfac, abs_mul, abs_of_pos hPb, abs_of_pos hP]
    refine le_of_mul_le_mul_right ?_ hP
    rw [mul_assoc, habs, ← mul_assoc, mul_comm ((2 : Int) ^ b)]
    exact mul_le_mul_of_nonneg_right hnear hPb.le

end Spq.F64
