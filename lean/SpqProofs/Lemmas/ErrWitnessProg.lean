/-
  Non-vacuity witness (C16Err): the binary64 module of `N = 8` as an `F64Mod ℝ` — configuration, stored tables,
  exact root `exp(iπ/8)`, twiddle accuracy — and the numeric budgets `RtBudget` (pure round trip of `exA8`) and
  `ProdBudget` (product `exA8 ⊛ exB8`) of the program-level theorems, all hypotheses discharged.
-/
import SpqProofs.Lemmas.ErrWitnessInst
import SpqProofs.Lemmas.ProgErrMod
namespace Spq.ErrWitness
open Finset Spq Spq.Module Spq.Fft Spq.Fft.Alg Spq.Fft.SchedN Spq.FftErr Spq.F64 Spq.ProdErr Spq.Conv Spq.VmpErr Spq.ProgErr

/-- the binary64 module the library runs for `N = 8`, with its root data over `ℝ` -/
noncomputable def libMod8 : F64Mod ℝ where
  c := libC8
  k := 2
  hk := by omega
  cN := cN
  sN := sN
  cNi := cNi
  sNi := sNi
  ok := libVCfgOk
  ζ := zeta
  ζi := zetai
  hζ := nsq_zeta
  hI := zeta_pow_m
  hinv := zeta_mul_zetai
  hcs := hcs4
  hcsi := hcsi4

/- elaboration only: keeps the elaborator's `whnf` from evaluating the closed flagged run (the kernel does, in `decide`) -/
attribute [local irreducible] reimIfftA in
theorem lib_rt_okI : InvOk libC8 2 cNi sNi (stF libC8 2 cN sN exA8) := by
  rw [exFA_val]
  exact ifft_flags_of_all (ifamOf libC8.ifftFma) (ifamOf_ok _) 2 cNi sNi _ rfl (by decide +kernel)

/-- `17·3·2^-53·14 < 1/2` -/
theorem libRtBudget : RtBudget libMod8 exA8 := by
  refine ⟨exA8_box, ⟨lib_okA, lib_rt_okI⟩, 14, by norm_num, exA8_n2, ?_⟩
  show ((17 * ((2 : ℕ) + 1 : ℚ) * u64 : ℚ) : ℝ) * 14 < 1 / 2
  unfold u64; push_cast; norm_num

theorem libProdBudget : ProdBudget libMod8 exA8 exB8 :=
  ⟨exA8_box, exB8_box, libPipeOk, 14, 16, by norm_num, by norm_num, exA8_n2, exB8_n2, exB8_nl, ex_budget⟩

/-- the domain of the final conversion (`Bv ref = 2^63`) -/
theorem ex_outdom : ∀ i, i < 2 * 2 ^ 2 →
    |(((nmul (2 * 2 ^ 2) exA8 exB8).getD i 0 : Int) : ℝ)| +
      ((12 * ((2 : ℕ) + 1 : ℚ) * u64 : ℚ) : ℝ) *
        ((∑ t ∈ range (2 * 2 ^ 2), |((exA8.getD t 0 : Int) : ℝ)|) * 16 + 14 * ∑ t ∈ range (2 * 2 ^ 2), |((exB8.getD t 0 : Int) : ℝ)|)
      < ((Bv libC8.toVariant : ℚ) : ℝ) :=
  Size.outDom (C := libMod8.ctx) (na := 14) (nb := 16) ⟨by norm_num, exA8_n2⟩ ⟨by norm_num, exB8_n2⟩ _ (le_refl _) ex_budget

end Spq.ErrWitness
