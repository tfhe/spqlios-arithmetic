/-
  C04 (products part) / C10: the q120 vector-matrix product kernels never wrap and are exact modulo each prime, for
  the reference (64×64→64 multiply) and the AVX2 (`_mm256_mul_epu32`) variants: per lane every accumulator holds the
  exact sum, every AVX2 `mul_epu32` operand is `< 2^32`, the recombination does not wrap, ref = avx2 bit for bit.
  Proved for SYMBOLIC parameters (split point `h`, reduced powers, prime `q`, maximal length `N`) under decidable
  predicates `…OK : Bool` (the numeric facts the proof needs), discharged on the extracted constants in `C04ProductsGen`.
-/
import SpqProofs.Lemmas.Q120Basic
namespace Spq.Q120

/-- bound of the high part of a product of two 32-bit values split at `2^h` -/
def baaC2 (h : Nat) : Nat := (4294967295 * 4294967295) / 2 ^ h

/-- numeric facts the reference kernel needs for lane constants `(h, hpow)`, prime `q`, length ≤ `N` -/
def baaLaneOK (N h hpow q : Nat) : Bool :=
  decide (h < 64) && decide (hpow % q = 2 ^ h % q)
  && decide (N * baaC2 h < 18446744073709551616)
  && decide (N * (2 ^ h - 1) + N * baaC2 h * hpow < 18446744073709551616)

/-- additional facts for the AVX2 kernel: both operands of the final `mul_epu32` fit 32 bits -/
def baaLaneAvxOK (N h hpow q : Nat) : Bool :=
  baaLaneOK N h hpow q && decide (N * baaC2 h < 4294967296) && decide (hpow < 4294967296)

def baaOK (N : Nat) (pc : BaaPrecomp) (q : Nat → Nat) : Bool :=
  (List.range 4).all fun j => baaLaneOK N pc.h (pc.hpow j) (q j)
def baaAvxOK (N : Nat) (pc : BaaPrecomp) (q : Nat → Nat) : Bool :=
  (List.range 4).all fun j => baaLaneAvxOK N pc.h (pc.hpow j) (q j)

/-- low / high part of a term's product -/
def baaF1 (h : Nat) (t : Nat × Nat) : Nat := (t.1 * t.2) % 2 ^ h
def baaF2 (h : Nat) (t : Nat × Nat) : Nat := (t.1 * t.2) / 2 ^ h

/-- operands of layout a -/
def InA (l : List (Nat × Nat)) : Prop := ∀ t ∈ l, t.1 < 4294967296 ∧ t.2 < 4294967296

theorem baaF_bounds (h : Nat) (t : Nat × Nat) (ht : t.1 < 4294967296 ∧ t.2 < 4294967296) :
    baaF1 h t ≤ 2 ^ h - 1 ∧ baaF2 h t ≤ baaC2 h := by
  have hp : 0 < 2 ^ h := Nat.two_pow_pos h
  constructor
  · have := Nat.mod_lt (t.1 * t.2) hp
    unfold baaF1; omega
  · exact Nat.div_le_div_right (mul_le_max32_sq _ _ ht.1 ht.2)

theorem baa_split (h : Nat) (l : List (Nat × Nat)) :
    dot l = wsum (baaF1 h) l + 2 ^ h * wsum (baaF2 h) l := by
  rw [← wsum_mul, ← wsum_add]
  apply wsum_congr
  intro t _
  exact (Nat.mod_add_div _ _).symm

/-- on operands `< 2^32` the 64-bit multiplication and `mul_epu32` both give the exact product -/
theorem baaStep_eq (m : Nat) (s t : Nat × Nat) (ht : t.1 < 4294967296 ∧ t.2 < 4294967296) :
    baaRefStep m s t = (add64 s.1 (t.1 * t.2 % m), add64 s.2 (t.1 * t.2 / m))
    ∧ baaAvxStep m s t = (add64 s.1 (t.1 * t.2 % m), add64 s.2 (t.1 * t.2 / m)) := by
  have := mul_le_max32_sq _ _ ht.1 ht.2
  simp only [baaRefStep, baaAvxStep, mulEpu32_eq _ _ ht.1 ht.2, mul64_eq t.1 t.2 (by omega), and_self]

theorem baaRef_acc (N h : Nat) (l : List (Nat × Nat)) (hl : l.length ≤ N) (hr : InA l)
    (h1 : N * (2 ^ h - 1) < 18446744073709551616) (h2 : N * baaC2 h < 18446744073709551616) :
    l.foldl (baaRefStep (2 ^ h)) (0, 0) = (wsum (baaF1 h) l, wsum (baaF2 h) l)
    ∧ wsum (baaF1 h) l ≤ N * (2 ^ h - 1) ∧ wsum (baaF2 h) l ≤ N * baaC2 h :=
  acc2_exact _ (baaF1 h) (baaF2 h) _ _ N l (fun t ht s => (baaStep_eq _ s t (hr t ht)).1)
    (fun t ht => baaF_bounds h t (hr t ht)) hl h1 h2

/-- **baa, reference, one lane**: no accumulator wraps, the recombination does not wrap, and the
  result is congruent to the exact dot product. -/
theorem baaRefLane_exact (N h hpow q : Nat) (ok : baaLaneOK N h hpow q = true)
    (l : List (Nat × Nat)) (hl : l.length ≤ N) (hr : InA l) :
    baaRefLane h hpow l = wsum (baaF1 h) l + wsum (baaF2 h) l * hpow
    ∧ wsum (baaF1 h) l + wsum (baaF2 h) l * hpow < 18446744073709551616
    ∧ baaRefLane h hpow l % q = dot l % q := by
  simp only [baaLaneOK, Bool.and_eq_true, decide_eq_true_eq] at ok
  obtain ⟨⟨⟨_, hq⟩, o2⟩, o3⟩ := ok
  have hp : 0 < 2 ^ h := Nat.two_pow_pos h
  obtain ⟨acc, b1, b2⟩ := baaRef_acc N h l hl hr (by omega) o2
  have m2 : wsum (baaF2 h) l * hpow ≤ N * baaC2 h * hpow := Nat.mul_le_mul_right _ b2
  have r : baaRefLane h hpow l = wsum (baaF1 h) l + wsum (baaF2 h) l * hpow := by
    unfold baaRefLane
    simp only [acc]
    rw [mul64_eq _ _ (by omega), add64_eq _ _ (by omega)]
  refine ⟨r, by omega, ?_⟩
  rw [r, baa_split h l, add_mul_mod_congr q _ _ _ _ hq, Nat.mul_comm]

/-- **baa, AVX2, one lane**: in addition the operands of every `mul_epu32` are `< 2^32` (so the
  instruction computes the exact products); the result is the same 64-bit word as the reference. -/
theorem baaAvxLane_exact (N h hpow q : Nat) (ok : baaLaneAvxOK N h hpow q = true)
    (l : List (Nat × Nat)) (hl : l.length ≤ N) (hr : InA l) :
    baaAvxLane h hpow l = wsum (baaF1 h) l + wsum (baaF2 h) l * hpow
    ∧ wsum (baaF2 h) l < 4294967296 ∧ hpow < 4294967296
    ∧ baaAvxLane h hpow l = baaRefLane h hpow l
    ∧ baaAvxLane h hpow l % q = dot l % q := by
  simp only [baaLaneAvxOK, Bool.and_eq_true, decide_eq_true_eq] at ok
  obtain ⟨⟨ok, a1⟩, a2⟩ := ok
  obtain ⟨r1, r2, r3⟩ := baaRefLane_exact N h hpow q ok l hl hr
  simp only [baaLaneOK, Bool.and_eq_true, decide_eq_true_eq] at ok
  obtain ⟨⟨⟨_, hq⟩, o2⟩, o3⟩ := ok
  obtain ⟨acc, b1, b2⟩ := baaRef_acc N h l hl hr (by omega) o2
  have r : baaAvxLane h hpow l = wsum (baaF1 h) l + wsum (baaF2 h) l * hpow := by
    unfold baaAvxLane
    rw [foldl_congr_mem _ (baaRefStep (2 ^ h)) l _ fun t ht s =>
      (baaStep_eq _ s t (hr t ht)).2.trans (baaStep_eq _ s t (hr t ht)).1.symm]
    simp only [acc]
    rw [mulEpu32_eq _ _ (by omega) a2, add64_eq _ _ r2]
  exact ⟨r, by omega, a2, by rw [r, r1], by rw [r, ← r1]; exact r3⟩

/-- `xl·y0` and `xh·y1` -/
def bbcA (t : Nat × Nat) : Nat := (t.1 % 4294967296) * (t.2 % 4294967296)
def bbcB (t : Nat × Nat) : Nat := (t.1 / 4294967296) * (t.2 / 4294967296)
def bbcF1 (t : Nat × Nat) : Nat := bbcA t % 4294967296 + bbcB t % 4294967296
def bbcF2 (t : Nat × Nat) : Nat := bbcA t / 4294967296 + bbcB t / 4294967296
/-- the value a b·c product computes: `Σ xl·y0 + xh·y1` (≡ `Σ x·y0` for a valid layout-c operand) -/
def bbcVal (l : List (Nat × Nat)) : Nat := wsum (fun t => bbcA t + bbcB t) l

/-- operands are 64-bit lanes (any value) -/
def InB (l : List (Nat × Nat)) : Prop := ∀ t ∈ l, t.1 < 18446744073709551616 ∧ t.2 < 18446744073709551616

def bbcLaneOK (N h p2l p2h q : Nat) : Bool :=
  decide (h < 64) && decide (p2l % q = 4294967296 % q) && decide (p2h % q = (4294967296 * 2 ^ h) % q)
  && decide (N * 8589934590 < 18446744073709551616)
  && decide (N * 8589934590 + (2 ^ h - 1) * p2l + (N * 8589934590 / 2 ^ h) * p2h < 18446744073709551616)

def bbcLaneAvxOK (N h p2l p2h q : Nat) : Bool :=
  bbcLaneOK N h p2l p2h q && decide (2 ^ h ≤ 4294967296) && decide (p2l < 4294967296)
  && decide (p2h < 4294967296) && decide (N * 8589934590 / 2 ^ h < 4294967296)

def bbcOK (N : Nat) (pc : BbcPrecomp) (q : Nat → Nat) : Bool :=
  (List.range 4).all fun j => bbcLaneOK N pc.h (pc.s2l j) (pc.s2h j) (q j)
def bbcAvxOK (N : Nat) (pc : BbcPrecomp) (q : Nat → Nat) : Bool :=
  (List.range 4).all fun j => bbcLaneAvxOK N pc.h (pc.s2l j) (pc.s2h j) (q j)

theorem bbcAB_bounds (t : Nat × Nat) (ht : t.1 < 18446744073709551616 ∧ t.2 < 18446744073709551616) :
    bbcA t ≤ 4294967295 * 4294967295 ∧ bbcB t ≤ 4294967295 * 4294967295 := by
  constructor
  · exact mul_le_max32_sq _ _ (Nat.mod_lt _ (by omega)) (Nat.mod_lt _ (by omega))
  · exact mul_le_max32_sq _ _ (div_pow_lt _ ht.1) (div_pow_lt _ ht.2)

theorem bbcF_bounds (t : Nat × Nat) (ht : t.1 < 18446744073709551616 ∧ t.2 < 18446744073709551616) :
    bbcF1 t ≤ 8589934590 ∧ bbcF2 t ≤ 8589934590 := by
  obtain ⟨a, b⟩ := bbcAB_bounds t ht
  unfold bbcF1 bbcF2
  omega

theorem bbc_split (l : List (Nat × Nat)) :
    bbcVal l = wsum bbcF1 l + 4294967296 * wsum bbcF2 l := by
  unfold bbcVal
  rw [← wsum_mul, ← wsum_add]
  apply wsum_congr
  intro t _
  have a := Nat.mod_add_div (bbcA t) 4294967296
  have b := Nat.mod_add_div (bbcB t) 4294967296
  simp only [bbcF1, bbcF2]
  omega

/-- the four products of a term are exact in both variants (the reference adds the sum of the two partial
    products, the AVX2 code one after the other) -/
theorem bbcStep_eq (s t : Nat × Nat) (ht : t.1 < 18446744073709551616 ∧ t.2 < 18446744073709551616) :
    bbcRefStep s t = (add64 s.1 (bbcF1 t), add64 s.2 (bbcF2 t))
    ∧ bbcAvxStep s t = (add64 s.1 (bbcF1 t), add64 s.2 (bbcF2 t)) := by
  obtain ⟨a, b⟩ := bbcAB_bounds t ht
  have ea : mul64 (t.1 % 4294967296) (t.2 % 4294967296) = bbcA t := mul64_eq _ _ (by unfold bbcA at a; omega)
  have eb : mul64 (t.1 / 4294967296) (t.2 / 4294967296) = bbcB t := mul64_eq _ _ (by unfold bbcB at b; omega)
  have ea' : mulEpu32 (t.1 % 4294967296) (t.2 % 4294967296) = bbcA t :=
    mulEpu32_eq _ _ (Nat.mod_lt _ (by omega)) (Nat.mod_lt _ (by omega))
  have eb' : mulEpu32 (t.1 / 4294967296) (t.2 / 4294967296) = bbcB t :=
    mulEpu32_eq _ _ (div_pow_lt _ ht.1) (div_pow_lt _ ht.2)
  simp only [bbcRefStep, bbcAvxStep, ea, eb, ea', eb', bbcF1, bbcF2, add64, Nat.add_mod_mod, Nat.mod_add_mod,
    Nat.add_assoc, and_self]

theorem bbcRef_acc (N : Nat) (l : List (Nat × Nat)) (hl : l.length ≤ N) (hr : InB l)
    (h1 : N * 8589934590 < 18446744073709551616) :
    l.foldl bbcRefStep (0, 0) = (wsum bbcF1 l, wsum bbcF2 l)
    ∧ wsum bbcF1 l ≤ N * 8589934590 ∧ wsum bbcF2 l ≤ N * 8589934590 :=
  acc2_exact _ bbcF1 bbcF2 _ _ N l (fun t ht s => (bbcStep_eq s t (hr t ht)).1)
    (fun t ht => bbcF_bounds t (hr t ht)) hl h1 h1

/-- the q120x2 AVX2 kernels do not mask the low halves before `mul_epu32`: same function -/
theorem bbcAvxX2Step_eq : bbcAvxX2Step = bbcAvxStep := by
  funext s t
  simp only [bbcAvxX2Step, bbcAvxStep, mulEpu32, Nat.mod_mod]

/-- exact (unwrapped) recombination of the b·c kernels -/
def bbcRes (h p2l p2h S1 S2 : Nat) : Nat := S1 + (S2 % 2 ^ h) * p2l + (S2 / 2 ^ h) * p2h

theorem bbcRes_congr (h p2l p2h q S1 S2 : Nat) (hq1 : p2l % q = 4294967296 % q)
    (hq2 : p2h % q = (4294967296 * 2 ^ h) % q) :
    bbcRes h p2l p2h S1 S2 % q = (S1 + 4294967296 * S2) % q := by
  have : Nat.ModEq q _ _ := (Nat.ModEq.refl S1).add (splitRed_modEq q h p2l p2h _ S2 hq1 hq2)
  rw [bbcRes, Nat.add_assoc]
  exact this

theorem bbcRefFinal_mod (pc : BbcPrecomp) (j : Nat) (s : Nat × Nat) :
    bbcRefFinal pc j s = bbcRes pc.h (pc.s2l j) (pc.s2h j) s.1 s.2 % 18446744073709551616 := by
  simp only [bbcRefFinal, bbcRes, add64, mul64, Nat.add_mod_mod, Nat.mod_add_mod]

theorem bbcAvxFinal_mod (pc : BbcPrecomp) (j : Nat) (s : Nat × Nat)
    (m1 : s.2 % 2 ^ pc.h < 4294967296) (m2 : s.2 / 2 ^ pc.h < 4294967296)
    (a1 : pc.s2l j < 4294967296) (a2 : pc.s2h j < 4294967296) :
    bbcAvxFinal pc j s = bbcRes pc.h (pc.s2l j) (pc.s2h j) s.1 s.2 % 18446744073709551616 := by
  simp only [bbcAvxFinal, bbcRes, mulEpu32_eq _ _ m1 a1, mulEpu32_eq _ _ m2 a2, add64, Nat.mod_add_mod]

theorem bbcRefLane_exact (N : Nat) (pc : BbcPrecomp) (j q : Nat)
    (ok : bbcLaneOK N pc.h (pc.s2l j) (pc.s2h j) q = true)
    (l : List (Nat × Nat)) (hl : l.length ≤ N) (hr : InB l) :
    bbcRefLane pc j l = bbcRes pc.h (pc.s2l j) (pc.s2h j) (wsum bbcF1 l) (wsum bbcF2 l)
    ∧ bbcRes pc.h (pc.s2l j) (pc.s2h j) (wsum bbcF1 l) (wsum bbcF2 l) < 18446744073709551616
    ∧ bbcRefLane pc j l % q = bbcVal l % q := by
  simp only [bbcLaneOK, Bool.and_eq_true, decide_eq_true_eq] at ok
  obtain ⟨⟨⟨⟨_, hq1⟩, hq2⟩, o1⟩, o2⟩ := ok
  obtain ⟨acc, b1, b2⟩ := bbcRef_acc N l hl hr o1
  have c := splitRed_le pc.h (pc.s2l j) (pc.s2h j) _ _ b2
  have lt : bbcRes pc.h (pc.s2l j) (pc.s2h j) (wsum bbcF1 l) (wsum bbcF2 l) < 18446744073709551616 := by
    unfold splitRed at c; unfold bbcRes; omega
  have r : bbcRefLane pc j l = bbcRes pc.h (pc.s2l j) (pc.s2h j) (wsum bbcF1 l) (wsum bbcF2 l) := by
    rw [bbcRefLane, acc, bbcRefFinal_mod, Nat.mod_eq_of_lt lt]
  refine ⟨r, lt, ?_⟩
  rw [r, bbcRes_congr _ _ _ _ _ _ hq1 hq2, bbc_split]

/-- **b·c, AVX2, one lane**: all four `mul_epu32` of the loop body and the two of the recombination
  see operands `< 2^32`; same 64-bit result as the reference -/
theorem bbcAvxLane_exact (N : Nat) (pc : BbcPrecomp) (j q : Nat)
    (ok : bbcLaneAvxOK N pc.h (pc.s2l j) (pc.s2h j) q = true)
    (l : List (Nat × Nat)) (hl : l.length ≤ N) (hr : InB l) :
    bbcAvxLane pc j l = bbcRes pc.h (pc.s2l j) (pc.s2h j) (wsum bbcF1 l) (wsum bbcF2 l)
    ∧ wsum bbcF2 l % 2 ^ pc.h < 4294967296 ∧ wsum bbcF2 l / 2 ^ pc.h < 4294967296
    ∧ pc.s2l j < 4294967296 ∧ pc.s2h j < 4294967296
    ∧ bbcAvxLane pc j l = bbcRefLane pc j l
    ∧ bbcAvxLane pc j l % q = bbcVal l % q := by
  simp only [bbcLaneAvxOK, Bool.and_eq_true, decide_eq_true_eq] at ok
  obtain ⟨⟨⟨⟨ok, a0⟩, a1⟩, a2⟩, a3⟩ := ok
  obtain ⟨r1, lt, r3⟩ := bbcRefLane_exact N pc j q ok l hl hr
  simp only [bbcLaneOK, Bool.and_eq_true, decide_eq_true_eq] at ok
  obtain ⟨acc, _, b2⟩ := bbcRef_acc N l hl hr ok.1.2
  have m1 : wsum bbcF2 l % 2 ^ pc.h < 4294967296 := Nat.lt_of_lt_of_le (Nat.mod_lt _ (Nat.two_pow_pos _)) a0
  have m2 : wsum bbcF2 l / 2 ^ pc.h < 4294967296 :=
    Nat.lt_of_le_of_lt (Nat.div_le_div_right b2) a3
  have r : bbcAvxLane pc j l = bbcRes pc.h (pc.s2l j) (pc.s2h j) (wsum bbcF1 l) (wsum bbcF2 l) := by
    rw [bbcAvxLane, foldl_congr_mem _ bbcRefStep l _ fun t ht s =>
      (bbcStep_eq s t (hr t ht)).2.trans (bbcStep_eq s t (hr t ht)).1.symm, acc,
      bbcAvxFinal_mod pc j _ m1 m2 a1 a2, Nat.mod_eq_of_lt lt]
  exact ⟨r, m1, m2, a1, a2, by rw [r, r1], by rw [r, ← r1]; exact r3⟩

theorem bbcAvxX2Lane_eq (pc : BbcPrecomp) (j : Nat) (l : List (Nat × Nat)) :
    bbcAvxX2Lane pc j l = bbcAvxLane pc j l := by
  unfold bbcAvxX2Lane bbcAvxLane
  rw [bbcAvxX2Step_eq]

theorem wsum_mod_congr {α : Type} (q : Nat) (f g : α → Nat) (l : List α)
    (h : ∀ t ∈ l, f t % q = g t % q) : wsum f l % q = wsum g l % q := by
  induction l with
  | nil => rfl
  | cons t l ih =>
    simp only [wsum_cons]
    rw [Nat.add_mod, h t (by simp), ih (fun u hu => h u (by simp [hu])), ← Nat.add_mod]

/-- for a VALID layout-c operand (`y1 ≡ y0·2^32 mod q`; `y0`, `y1` any 32-bit representatives) the
  value of a b·c product is `Σ x_i · y0_i` -/
theorem bbcVal_valid (q : Nat) (l : List (Nat × Nat))
    (hc : ∀ t ∈ l, (t.2 / 4294967296) % q = ((t.2 % 4294967296) * 4294967296) % q) :
    bbcVal l % q = wsum (fun t => t.1 * (t.2 % 4294967296)) l % q := by
  unfold bbcVal
  apply wsum_mod_congr
  intro t ht
  unfold bbcA bbcB
  rw [add_mul_mod_congr q _ _ _ _ (hc t ht)]
  congr 1
  have hx := Nat.mod_add_div t.1 4294967296
  conv_rhs => rw [← hx]
  ring

def bbbA (t : Nat × Nat) : Nat := (t.1 % 4294967296) * (t.2 % 4294967296)
def bbbB (t : Nat × Nat) : Nat := (t.1 % 4294967296) * (t.2 / 4294967296)
def bbbC (t : Nat × Nat) : Nat := (t.1 / 4294967296) * (t.2 % 4294967296)
def bbbD (t : Nat × Nat) : Nat := (t.1 / 4294967296) * (t.2 / 4294967296)
def bbbF1 (t : Nat × Nat) : Nat := bbbA t % 4294967296
def bbbF2 (t : Nat × Nat) : Nat := bbbA t / 4294967296 + bbbB t % 4294967296 + bbbC t % 4294967296
def bbbF3 (t : Nat × Nat) : Nat := bbbB t / 4294967296 + bbbC t / 4294967296 + bbbD t % 4294967296
def bbbF4 (t : Nat × Nat) : Nat := bbbD t / 4294967296

/-- `N·(2^32−1)/2^h` and `N·3·(2^32−1)/2^h`: bounds of the high parts of the four sums -/
def bbbK1 (N h : Nat) : Nat := N * 4294967295 / 2 ^ h
def bbbK3 (N h : Nat) : Nat := N * 12884901885 / 2 ^ h

/-- numeric facts for one lane of the b·b kernels (reference) -/
def bbbLaneOK (N h p1h p2l p2h p3l p3h p4l p4h q : Nat) : Bool :=
  decide (h < 64)
  && decide (p1h % q = 2 ^ h % q)
  && decide (p2l % q = 4294967296 % q) && decide (p2h % q = (4294967296 * 2 ^ h) % q)
  && decide (p3l % q = 18446744073709551616 % q) && decide (p3h % q = (18446744073709551616 * 2 ^ h) % q)
  && decide (p4l % q = 79228162514264337593543950336 % q)
  && decide (p4h % q = (79228162514264337593543950336 * 2 ^ h) % q)
  && decide (N * 12884901885 < 18446744073709551616)
  && decide ((2 ^ h - 1) + bbbK1 N h * p1h + (2 ^ h - 1) * p2l + bbbK3 N h * p2h + (2 ^ h - 1) * p3l
             + bbbK3 N h * p3h + (2 ^ h - 1) * p4l + bbbK1 N h * p4h < 18446744073709551616)

def bbbLaneAvxOK (N h p1h p2l p2h p3l p3h p4l p4h q : Nat) : Bool :=
  bbbLaneOK N h p1h p2l p2h p3l p3h p4l p4h q
  && decide (2 ^ h ≤ 4294967296) && decide (bbbK3 N h < 4294967296)
  && decide (p1h < 4294967296) && decide (p2l < 4294967296) && decide (p2h < 4294967296)
  && decide (p3l < 4294967296) && decide (p3h < 4294967296) && decide (p4l < 4294967296)
  && decide (p4h < 4294967296)

def bbbOK (N : Nat) (pc : BbbPrecomp) (q : Nat → Nat) : Bool :=
  (List.range 4).all fun j =>
    bbbLaneOK N pc.h (pc.s1h j) (pc.s2l j) (pc.s2h j) (pc.s3l j) (pc.s3h j) (pc.s4l j) (pc.s4h j) (q j)
def bbbAvxOK (N : Nat) (pc : BbbPrecomp) (q : Nat → Nat) : Bool :=
  (List.range 4).all fun j =>
    bbbLaneAvxOK N pc.h (pc.s1h j) (pc.s2l j) (pc.s2h j) (pc.s3l j) (pc.s3h j) (pc.s4l j) (pc.s4h j) (q j)

theorem bbbABCD_bounds (t : Nat × Nat) (ht : t.1 < 18446744073709551616 ∧ t.2 < 18446744073709551616) :
    bbbA t ≤ 4294967295 * 4294967295 ∧ bbbB t ≤ 4294967295 * 4294967295
    ∧ bbbC t ≤ 4294967295 * 4294967295 ∧ bbbD t ≤ 4294967295 * 4294967295 := by
  have l1 := Nat.mod_lt t.1 (show 0 < 4294967296 by omega)
  have l2 := Nat.mod_lt t.2 (show 0 < 4294967296 by omega)
  have h1 := div_pow_lt _ ht.1
  have h2 := div_pow_lt _ ht.2
  exact ⟨mul_le_max32_sq _ _ l1 l2, mul_le_max32_sq _ _ l1 h2, mul_le_max32_sq _ _ h1 l2, mul_le_max32_sq _ _ h1 h2⟩

theorem bbbF_bounds (t : Nat × Nat) (ht : t.1 < 18446744073709551616 ∧ t.2 < 18446744073709551616) :
    bbbF1 t ≤ 4294967295 ∧ bbbF2 t ≤ 12884901885 ∧ bbbF3 t ≤ 12884901885 ∧ bbbF4 t ≤ 4294967295 := by
  obtain ⟨a, b, c, d⟩ := bbbABCD_bounds t ht
  unfold bbbF1 bbbF2 bbbF3 bbbF4
  omega

/-- `x·y = F1 + 2^32·F2 + 2^64·F3 + 2^96·F4` -/
theorem bbb_term (t : Nat × Nat) :
    t.1 * t.2 = bbbF1 t + 4294967296 * bbbF2 t + 18446744073709551616 * bbbF3 t
                + 79228162514264337593543950336 * bbbF4 t := by
  have hx := Nat.mod_add_div t.1 4294967296
  have hy := Nat.mod_add_div t.2 4294967296
  have hA := Nat.mod_add_div (bbbA t) 4294967296
  have hB := Nat.mod_add_div (bbbB t) 4294967296
  have hC := Nat.mod_add_div (bbbC t) 4294967296
  have hD := Nat.mod_add_div (bbbD t) 4294967296
  calc t.1 * t.2
      = (t.1 % 4294967296 + 4294967296 * (t.1 / 4294967296))
        * (t.2 % 4294967296 + 4294967296 * (t.2 / 4294967296)) := by rw [hx, hy]
    _ = bbbA t + 4294967296 * bbbB t + 4294967296 * bbbC t + 18446744073709551616 * bbbD t := by
        unfold bbbA bbbB bbbC bbbD; ring
    _ = (bbbA t % 4294967296 + 4294967296 * (bbbA t / 4294967296))
        + 4294967296 * (bbbB t % 4294967296 + 4294967296 * (bbbB t / 4294967296))
        + 4294967296 * (bbbC t % 4294967296 + 4294967296 * (bbbC t / 4294967296))
        + 18446744073709551616 * (bbbD t % 4294967296 + 4294967296 * (bbbD t / 4294967296)) := by
        rw [hA, hB, hC, hD]
    _ = _ := by unfold bbbF1 bbbF2 bbbF3 bbbF4; ring

theorem bbb_split (l : List (Nat × Nat)) :
    dot l = wsum bbbF1 l + 4294967296 * wsum bbbF2 l + 18446744073709551616 * wsum bbbF3 l
            + 79228162514264337593543950336 * wsum bbbF4 l := by
  unfold dot
  rw [← wsum_mul, ← wsum_mul, ← wsum_mul, ← wsum_add, ← wsum_add, ← wsum_add]
  exact wsum_congr _ _ l (fun t _ => bbb_term t)

/-- what the S4 state holds after the loop -/
def bbbSums (l : List (Nat × Nat)) : S4 := ⟨wsum bbbF1 l, wsum bbbF2 l, wsum bbbF3 l, wsum bbbF4 l⟩

theorem S4.ext' (a b : S4) (h1 : a.s1 = b.s1) (h2 : a.s2 = b.s2) (h3 : a.s3 = b.s3) (h4 : a.s4 = b.s4) :
    a = b := by
  cases a; cases b; simp_all

theorem bbb_sums_bounds (N : Nat) (l : List (Nat × Nat)) (hl : l.length ≤ N) (hr : InB l) :
    wsum bbbF1 l ≤ N * 4294967295 ∧ wsum bbbF2 l ≤ N * 12884901885
    ∧ wsum bbbF3 l ≤ N * 12884901885 ∧ wsum bbbF4 l ≤ N * 4294967295 := by
  have k : ∀ (f : Nat × Nat → Nat) (B : Nat), (∀ t ∈ l, f t ≤ B) → wsum f l ≤ N * B := fun f B hB =>
    Nat.le_trans (wsum_le f B l hB) (Nat.mul_le_mul_right _ hl)
  exact ⟨k _ _ (fun t ht => (bbbF_bounds t (hr t ht)).1), k _ _ (fun t ht => (bbbF_bounds t (hr t ht)).2.1),
         k _ _ (fun t ht => (bbbF_bounds t (hr t ht)).2.2.1), k _ _ (fun t ht => (bbbF_bounds t (hr t ht)).2.2.2)⟩

/-- the loop body with the exact per-term values (what both variants compute on in-range operands) -/
def bbbExactStep (s : S4) (t : Nat × Nat) : S4 :=
  ⟨(s.s1 + bbbF1 t) % 18446744073709551616, (s.s2 + bbbF2 t) % 18446744073709551616,
   (s.s3 + bbbF3 t) % 18446744073709551616, (s.s4 + bbbF4 t) % 18446744073709551616⟩

theorem bbbRefStep_eq (s : S4) (t : Nat × Nat)
    (ht : t.1 < 18446744073709551616 ∧ t.2 < 18446744073709551616) :
    bbbRefStep s t = bbbExactStep s t := by
  obtain ⟨a, b, c, d⟩ := bbbABCD_bounds t ht
  have ea : mul64 (t.1 % 4294967296) (t.2 % 4294967296) = bbbA t := mul64_eq _ _ (by unfold bbbA at a; omega)
  have eb : mul64 (t.1 % 4294967296) (t.2 / 4294967296) = bbbB t := mul64_eq _ _ (by unfold bbbB at b; omega)
  have ec : mul64 (t.1 / 4294967296) (t.2 % 4294967296) = bbbC t := mul64_eq _ _ (by unfold bbbC at c; omega)
  have ed : mul64 (t.1 / 4294967296) (t.2 / 4294967296) = bbbD t := mul64_eq _ _ (by unfold bbbD at d; omega)
  simp only [bbbRefStep, ea, eb, ec, ed, bbbExactStep, bbbF1, bbbF2, bbbF3, bbbF4, add64, Nat.add_mod_mod, Nat.mod_add_mod]

theorem bbbAvxStep_eq (s : S4) (t : Nat × Nat)
    (ht : t.1 < 18446744073709551616 ∧ t.2 < 18446744073709551616) :
    bbbAvxStep s t = bbbExactStep s t := by
  have l1 := Nat.mod_lt t.1 (show 0 < 4294967296 by omega)
  have l2 := Nat.mod_lt t.2 (show 0 < 4294967296 by omega)
  have h1 := div_pow_lt _ ht.1
  have h2 := div_pow_lt _ ht.2
  have ea : mulEpu32 (t.1 % 4294967296) (t.2 % 4294967296) = bbbA t := mulEpu32_eq _ _ l1 l2
  have eb : mulEpu32 (t.1 % 4294967296) (t.2 / 4294967296) = bbbB t := mulEpu32_eq _ _ l1 h2
  have ec : mulEpu32 (t.1 / 4294967296) (t.2 % 4294967296) = bbbC t := mulEpu32_eq _ _ h1 l2
  have ed : mulEpu32 (t.1 / 4294967296) (t.2 / 4294967296) = bbbD t := mulEpu32_eq _ _ h1 h2
  simp only [bbbAvxStep, ea, eb, ec, ed, bbbExactStep, bbbF1, bbbF2, bbbF3, bbbF4, add64, Nat.mod_add_mod, Nat.add_assoc]

theorem bbbExact_acc (N : Nat) (l : List (Nat × Nat)) (hl : l.length ≤ N) (hr : InB l)
    (h1 : N * 12884901885 < 18446744073709551616) :
    l.foldl bbbExactStep ⟨0, 0, 0, 0⟩ = bbbSums l := by
  have h0 : N * 4294967295 < 18446744073709551616 :=
    Nat.lt_of_le_of_lt (Nat.mul_le_mul_left N (by omega)) h1
  have a1 := acc_exact bbbExactStep S4.s1 bbbF1 4294967295 N l (fun _ _ _ => rfl) ⟨0, 0, 0, 0⟩ rfl
    (fun t ht => (bbbF_bounds t (hr t ht)).1) hl h0
  have a2 := acc_exact bbbExactStep S4.s2 bbbF2 12884901885 N l (fun _ _ _ => rfl) ⟨0, 0, 0, 0⟩ rfl
    (fun t ht => (bbbF_bounds t (hr t ht)).2.1) hl h1
  have a3 := acc_exact bbbExactStep S4.s3 bbbF3 12884901885 N l (fun _ _ _ => rfl) ⟨0, 0, 0, 0⟩ rfl
    (fun t ht => (bbbF_bounds t (hr t ht)).2.2.1) hl h1
  have a4 := acc_exact bbbExactStep S4.s4 bbbF4 4294967295 N l (fun _ _ _ => rfl) ⟨0, 0, 0, 0⟩ rfl
    (fun t ht => (bbbF_bounds t (hr t ht)).2.2.2) hl h0
  exact S4.ext' _ _ a1.1 a2.1 a3.1 a4.1

/-- exact (unwrapped) recombination of the b·b kernels -/
def bbbRes (pc : BbbPrecomp) (j : Nat) (s : S4) : Nat :=
  s.s1 % 2 ^ pc.h + (s.s1 / 2 ^ pc.h) * pc.s1h j
  + (s.s2 % 2 ^ pc.h) * pc.s2l j + (s.s2 / 2 ^ pc.h) * pc.s2h j
  + (s.s3 % 2 ^ pc.h) * pc.s3l j + (s.s3 / 2 ^ pc.h) * pc.s3h j
  + (s.s4 % 2 ^ pc.h) * pc.s4l j + (s.s4 / 2 ^ pc.h) * pc.s4h j

theorem bbbRes_eq (pc : BbbPrecomp) (j : Nat) (s : S4) :
    bbbRes pc j s = splitRed pc.h 1 (pc.s1h j) s.s1 + splitRed pc.h (pc.s2l j) (pc.s2h j) s.s2
      + splitRed pc.h (pc.s3l j) (pc.s3h j) s.s3 + splitRed pc.h (pc.s4l j) (pc.s4h j) s.s4 := by
  simp only [bbbRes, splitRed, Nat.mul_one]; omega

theorem bbbRes_congr (pc : BbbPrecomp) (j q : Nat) (s : S4)
    (h1 : pc.s1h j % q = 2 ^ pc.h % q)
    (h2 : pc.s2l j % q = 4294967296 % q) (h3 : pc.s2h j % q = (4294967296 * 2 ^ pc.h) % q)
    (h4 : pc.s3l j % q = 18446744073709551616 % q) (h5 : pc.s3h j % q = (18446744073709551616 * 2 ^ pc.h) % q)
    (h6 : pc.s4l j % q = 79228162514264337593543950336 % q)
    (h7 : pc.s4h j % q = (79228162514264337593543950336 * 2 ^ pc.h) % q) :
    bbbRes pc j s % q = (s.s1 + 4294967296 * s.s2 + 18446744073709551616 * s.s3
                         + 79228162514264337593543950336 * s.s4) % q := by
  rw [bbbRes_eq]
  have := (((splitRed_modEq q pc.h 1 _ 1 s.s1 rfl (by rw [h1, Nat.one_mul])).add
    (splitRed_modEq q pc.h _ _ _ s.s2 h2 h3)).add (splitRed_modEq q pc.h _ _ _ s.s3 h4 h5)).add
    (splitRed_modEq q pc.h _ _ _ s.s4 h6 h7)
  rwa [Nat.one_mul] at this

theorem bbbRes_bound (N : Nat) (pc : BbbPrecomp) (j : Nat) (s : S4)
    (b1 : s.s1 ≤ N * 4294967295) (b2 : s.s2 ≤ N * 12884901885)
    (b3 : s.s3 ≤ N * 12884901885) (b4 : s.s4 ≤ N * 4294967295) :
    bbbRes pc j s ≤ (2 ^ pc.h - 1) + bbbK1 N pc.h * pc.s1h j + (2 ^ pc.h - 1) * pc.s2l j
      + bbbK3 N pc.h * pc.s2h j + (2 ^ pc.h - 1) * pc.s3l j + bbbK3 N pc.h * pc.s3h j
      + (2 ^ pc.h - 1) * pc.s4l j + bbbK1 N pc.h * pc.s4h j := by
  rw [bbbRes_eq]
  have t1 := splitRed_le pc.h 1 (pc.s1h j) _ _ b1
  have t2 := splitRed_le pc.h (pc.s2l j) (pc.s2h j) _ _ b2
  have t3 := splitRed_le pc.h (pc.s3l j) (pc.s3h j) _ _ b3
  have t4 := splitRed_le pc.h (pc.s4l j) (pc.s4h j) _ _ b4
  simp only [bbbK1, bbbK3]
  omega

theorem bbbRefFinal_mod (pc : BbbPrecomp) (j : Nat) (s : S4) :
    bbbRefFinal pc j s = bbbRes pc j s % 18446744073709551616 := by
  simp only [bbbRefFinal, bbbRes, add64, mul64, Nat.add_mod_mod, Nat.mod_add_mod]

theorem bbbAvxFinal_mod (pc : BbbPrecomp) (j : Nat) (s : S4)
    (hm : 2 ^ pc.h ≤ 4294967296)
    (k1 : s.s1 / 2 ^ pc.h < 4294967296) (k2 : s.s2 / 2 ^ pc.h < 4294967296)
    (k3 : s.s3 / 2 ^ pc.h < 4294967296) (k4 : s.s4 / 2 ^ pc.h < 4294967296)
    (p1 : pc.s1h j < 4294967296) (p2 : pc.s2l j < 4294967296) (p3 : pc.s2h j < 4294967296)
    (p4 : pc.s3l j < 4294967296) (p5 : pc.s3h j < 4294967296) (p6 : pc.s4l j < 4294967296)
    (p7 : pc.s4h j < 4294967296) :
    bbbAvxFinal pc j s = bbbRes pc j s % 18446744073709551616 := by
  have hp : 0 < 2 ^ pc.h := Nat.two_pow_pos _
  have m2 : s.s2 % 2 ^ pc.h < 4294967296 := by have := Nat.mod_lt s.s2 hp; omega
  have m3 : s.s3 % 2 ^ pc.h < 4294967296 := by have := Nat.mod_lt s.s3 hp; omega
  have m4 : s.s4 % 2 ^ pc.h < 4294967296 := by have := Nat.mod_lt s.s4 hp; omega
  simp only [bbbAvxFinal, mulEpu32_eq _ _ k1 p1, mulEpu32_eq _ _ m2 p2, mulEpu32_eq _ _ k2 p3,
    mulEpu32_eq _ _ m3 p4, mulEpu32_eq _ _ k3 p5, mulEpu32_eq _ _ m4 p6, mulEpu32_eq _ _ k4 p7, bbbRes, add64,
    Nat.mod_add_mod]

theorem bbbRefLane_exact (N : Nat) (pc : BbbPrecomp) (j q : Nat)
    (ok : bbbLaneOK N pc.h (pc.s1h j) (pc.s2l j) (pc.s2h j) (pc.s3l j) (pc.s3h j) (pc.s4l j) (pc.s4h j) q = true)
    (l : List (Nat × Nat)) (hl : l.length ≤ N) (hr : InB l) :
    bbbRefLane pc j l = bbbRes pc j (bbbSums l)
    ∧ bbbRes pc j (bbbSums l) < 18446744073709551616
    ∧ bbbRefLane pc j l % q = dot l % q := by
  simp only [bbbLaneOK, Bool.and_eq_true, decide_eq_true_eq] at ok
  obtain ⟨⟨⟨⟨⟨⟨⟨⟨⟨_, h1⟩, h2⟩, h3⟩, h4⟩, h5⟩, h6⟩, h7⟩, o1⟩, o2⟩ := ok
  obtain ⟨b1, b2, b3, b4⟩ := bbb_sums_bounds N l hl hr
  have bd := bbbRes_bound N pc j (bbbSums l) b1 b2 b3 b4
  have lt : bbbRes pc j (bbbSums l) < 18446744073709551616 := Nat.lt_of_le_of_lt bd o2
  have r : bbbRefLane pc j l = bbbRes pc j (bbbSums l) := by
    unfold bbbRefLane
    rw [foldl_congr_mem bbbRefStep bbbExactStep l _ fun t ht s => bbbRefStep_eq s t (hr t ht),
      bbbExact_acc N l hl hr o1, bbbRefFinal_mod, Nat.mod_eq_of_lt lt]
  refine ⟨r, lt, ?_⟩
  rw [r, bbbRes_congr pc j q _ h1 h2 h3 h4 h5 h6 h7, bbb_split]
  rfl

/-- b·b, AVX2: every operand of the seven `mul_epu32` of the recombination fits 32 bits (the four of
  the loop body see the 32-bit halves `x % 2^32`, `x / 2^32` of 64-bit lanes) -/
theorem bbbAvx_operands (N : Nat) (pc : BbbPrecomp) (j q : Nat)
    (ok : bbbLaneAvxOK N pc.h (pc.s1h j) (pc.s2l j) (pc.s2h j) (pc.s3l j) (pc.s3h j) (pc.s4l j) (pc.s4h j) q = true)
    (l : List (Nat × Nat)) (hl : l.length ≤ N) (hr : InB l) :
    2 ^ pc.h ≤ 4294967296
    ∧ (bbbSums l).s1 / 2 ^ pc.h < 4294967296 ∧ (bbbSums l).s2 / 2 ^ pc.h < 4294967296
    ∧ (bbbSums l).s3 / 2 ^ pc.h < 4294967296 ∧ (bbbSums l).s4 / 2 ^ pc.h < 4294967296
    ∧ pc.s1h j < 4294967296 ∧ pc.s2l j < 4294967296 ∧ pc.s2h j < 4294967296 ∧ pc.s3l j < 4294967296
    ∧ pc.s3h j < 4294967296 ∧ pc.s4l j < 4294967296 ∧ pc.s4h j < 4294967296 := by
  simp only [bbbLaneAvxOK, Bool.and_eq_true, decide_eq_true_eq] at ok
  obtain ⟨⟨⟨⟨⟨⟨⟨⟨⟨_, hm⟩, k3⟩, p1⟩, p2⟩, p3⟩, p4⟩, p5⟩, p6⟩, p7⟩ := ok
  obtain ⟨b1, b2, b3, b4⟩ := bbb_sums_bounds N l hl hr
  have d1 : (bbbSums l).s1 / 2 ^ pc.h ≤ bbbK3 N pc.h :=
    Nat.div_le_div_right (Nat.le_trans b1 (Nat.mul_le_mul_left N (by omega)))
  have d2 : (bbbSums l).s2 / 2 ^ pc.h ≤ bbbK3 N pc.h := Nat.div_le_div_right b2
  have d3 : (bbbSums l).s3 / 2 ^ pc.h ≤ bbbK3 N pc.h := Nat.div_le_div_right b3
  have d4 : (bbbSums l).s4 / 2 ^ pc.h ≤ bbbK3 N pc.h :=
    Nat.div_le_div_right (Nat.le_trans b4 (Nat.mul_le_mul_left N (by omega)))
  exact ⟨hm, by omega, by omega, by omega, by omega, p1, p2, p3, p4, p5, p6, p7⟩

/-- **b·b, AVX2, one lane**: the 4 `mul_epu32` of the loop body see 32-bit halves, the 7 of the
  recombination see operands `< 2^32`; same 64-bit result as the reference -/
theorem bbbAvxLane_exact (N : Nat) (pc : BbbPrecomp) (j q : Nat)
    (ok : bbbLaneAvxOK N pc.h (pc.s1h j) (pc.s2l j) (pc.s2h j) (pc.s3l j) (pc.s3h j) (pc.s4l j) (pc.s4h j) q = true)
    (l : List (Nat × Nat)) (hl : l.length ≤ N) (hr : InB l) :
    bbbAvxLane pc j l = bbbRes pc j (bbbSums l)
    ∧ bbbAvxLane pc j l = bbbRefLane pc j l
    ∧ bbbAvxLane pc j l % q = dot l % q := by
  obtain ⟨hm, k1, k2, k3, k4, p1, p2, p3, p4, p5, p6, p7⟩ := bbbAvx_operands N pc j q ok l hl hr
  simp only [bbbLaneAvxOK, Bool.and_eq_true, decide_eq_true_eq] at ok
  obtain ⟨⟨⟨⟨⟨⟨⟨⟨⟨ok, -⟩, -⟩, -⟩, -⟩, -⟩, -⟩, -⟩, -⟩, -⟩ := ok
  obtain ⟨r1, lt, r3⟩ := bbbRefLane_exact N pc j q ok l hl hr
  simp only [bbbLaneOK, Bool.and_eq_true, decide_eq_true_eq] at ok
  obtain ⟨⟨_, o1⟩, _⟩ := ok
  have r : bbbAvxLane pc j l = bbbRes pc j (bbbSums l) := by
    unfold bbbAvxLane
    rw [foldl_congr_mem bbbAvxStep bbbExactStep l _ fun t ht s => bbbAvxStep_eq s t (hr t ht),
      bbbExact_acc N l hl hr o1, bbbAvxFinal_mod pc j _ hm k1 k2 k3 k4 p1 p2 p3 p4 p5 p6 p7,
      Nat.mod_eq_of_lt lt]
  exact ⟨r, by rw [r, r1], by rw [r, ← r1]; exact r3⟩

/-- the exact dot product of a lane, written with explicit indices -/
theorem dot_laneTerms (ell : Nat) (x y : Array Nat) (sx ox sy oy : Nat) :
    dot (laneTerms ell x y sx ox sy oy)
    = ((List.range ell).map fun i => x.getD (sx * i + ox) 0 * y.getD (sy * i + oy) 0).sum := by
  simp [dot, wsum, laneTerms, List.map_map, Function.comp_def]

/-- layout a operand arrays: every lane `< 2^32` -/
def ArrA (x : Array Nat) : Prop := ∀ i, x.getD i 0 < 4294967296
/-- layout b (or c seen as 64-bit lanes) operand arrays: every lane `< 2^64`, any value -/
def ArrB (x : Array Nat) : Prop := ∀ i, x.getD i 0 < 18446744073709551616

theorem laneTerms_InA (ell : Nat) (x y : Array Nat) (sx ox sy oy : Nat) (hx : ArrA x) (hy : ArrA y) :
    InA (laneTerms ell x y sx ox sy oy) :=
  laneTerms_forall (fun t => t.1 < 4294967296 ∧ t.2 < 4294967296) ell x y sx ox sy oy (fun i k => ⟨hx i, hy k⟩)
theorem laneTerms_InB (ell : Nat) (x y : Array Nat) (sx ox sy oy : Nat) (hx : ArrB x) (hy : ArrB y) :
    InB (laneTerms ell x y sx ox sy oy) :=
  laneTerms_forall (fun t => t.1 < 18446744073709551616 ∧ t.2 < 18446744073709551616) ell x y sx ox sy oy
    (fun i k => ⟨hx i, hy k⟩)

/-- lane `r` of two vectors built by `Array.ofFn`, from what an AVX2 lane theorem gives: the AVX2 lane is the
    reference lane and is congruent to `v` -/
theorem ofFn_lanes_exact {n : Nat} (fr fa : Fin n → Nat) (r : Nat) (hr : r < n) (q v : Nat)
    (h : fa ⟨r, hr⟩ = fr ⟨r, hr⟩ ∧ fa ⟨r, hr⟩ % q = v % q) :
    (Array.ofFn fr).getD r 0 % q = v % q ∧ (Array.ofFn fa).getD r 0 % q = v % q
    ∧ (Array.ofFn fa).getD r 0 = (Array.ofFn fr).getD r 0 := by
  rw [getD_ofFn _ 0 r hr, getD_ofFn _ 0 r hr]
  exact ⟨h.1 ▸ h.2, h.2, h.1⟩

theorem baa_vec_exact (N : Nat) (pc : BaaPrecomp) (q : Nat → Nat) (ok : baaAvxOK N pc q = true)
    (ell : Nat) (hell : ell ≤ N) (x y : Array Nat) (hx : ArrA x) (hy : ArrA y) (j : Nat) (hj : j < 4) :
    (baaRef pc ell x y).getD j 0 % q j = dot (laneTerms ell x y 4 j 4 j) % q j
    ∧ (baaAvx pc ell x y).getD j 0 % q j = dot (laneTerms ell x y 4 j 4 j) % q j
    ∧ (baaAvx pc ell x y).getD j 0 = (baaRef pc ell x y).getD j 0 :=
  ofFn_lanes_exact _ _ j hj _ _ (baaAvxLane_exact N pc.h (pc.hpow j) (q j) (all_range ok j hj) _
    (by rw [laneTerms_length]; exact hell) (laneTerms_InA ell x y 4 j 4 j hx hy)).2.2.2

theorem bbb_vec_exact (N : Nat) (pc : BbbPrecomp) (q : Nat → Nat) (ok : bbbAvxOK N pc q = true)
    (ell : Nat) (hell : ell ≤ N) (x y : Array Nat) (hx : ArrB x) (hy : ArrB y) (j : Nat) (hj : j < 4) :
    (bbbRef pc ell x y).getD j 0 % q j = dot (laneTerms ell x y 4 j 4 j) % q j
    ∧ (bbbAvx pc ell x y).getD j 0 % q j = dot (laneTerms ell x y 4 j 4 j) % q j
    ∧ (bbbAvx pc ell x y).getD j 0 = (bbbRef pc ell x y).getD j 0 :=
  ofFn_lanes_exact _ _ j hj _ _ (bbbAvxLane_exact N pc j (q j) (all_range ok j hj) _
    (by rw [laneTerms_length]; exact hell) (laneTerms_InB ell x y 4 j 4 j hx hy)).2

/-- what the vector level uses of `bbcAvxLane_exact`, for the 1-column and for the q120x2 lane kernel -/
theorem bbcLane_pair (N : Nat) (pc : BbcPrecomp) (j q : Nat)
    (ok : bbcLaneAvxOK N pc.h (pc.s2l j) (pc.s2h j) q = true)
    (l : List (Nat × Nat)) (hl : l.length ≤ N) (hr : InB l) :
    (bbcAvxLane pc j l = bbcRefLane pc j l ∧ bbcAvxLane pc j l % q = bbcVal l % q)
    ∧ (bbcAvxX2Lane pc j l = bbcRefLane pc j l ∧ bbcAvxX2Lane pc j l % q = bbcVal l % q) := by
  rw [bbcAvxX2Lane_eq]
  exact ⟨(bbcAvxLane_exact N pc j q ok l hl hr).2.2.2.2.2, (bbcAvxLane_exact N pc j q ok l hl hr).2.2.2.2.2⟩

/-- **b·c → b**: the value is `Σ xl·y0 + xh·y1` (`bbcVal`), which is `Σ x·y0` for valid layout-c operands
  (`bbcVal_valid`) -/
theorem bbc_vec_exact (N : Nat) (pc : BbcPrecomp) (q : Nat → Nat) (ok : bbcAvxOK N pc q = true)
    (ell : Nat) (hell : ell ≤ N) (x y : Array Nat) (hx : ArrB x) (hy : ArrB y) (j : Nat) (hj : j < 4) :
    (bbcRef pc ell x y).getD j 0 % q j = bbcVal (laneTerms ell x y 4 j 4 j) % q j
    ∧ (bbcAvx pc ell x y).getD j 0 % q j = bbcVal (laneTerms ell x y 4 j 4 j) % q j
    ∧ (bbcAvx pc ell x y).getD j 0 = (bbcRef pc ell x y).getD j 0 :=
  ofFn_lanes_exact _ _ j hj _ _ (bbcLane_pair N pc j (q j) (all_range ok j hj) _
    (by rw [laneTerms_length]; exact hell) (laneTerms_InB ell x y 4 j 4 j hx hy)).1

theorem x2_col1_vec_exact (N : Nat) (pc : BbcPrecomp) (q : Nat → Nat) (ok : bbcAvxOK N pc q = true)
    (ell : Nat) (hell : ell ≤ N) (x y : Array Nat) (hx : ArrB x) (hy : ArrB y) (r : Nat) (hr : r < 8) :
    (x2Col1Ref pc ell x y).getD r 0 % q (r % 4) = bbcVal (x2Col1Terms ell x y r) % q (r % 4)
    ∧ (x2Col1Avx pc ell x y).getD r 0 % q (r % 4) = bbcVal (x2Col1Terms ell x y r) % q (r % 4)
    ∧ (x2Col1Avx pc ell x y).getD r 0 = (x2Col1Ref pc ell x y).getD r 0 :=
  ofFn_lanes_exact _ _ r hr _ _ (bbcLane_pair N pc (r % 4) (q (r % 4))
    (all_range ok (r % 4) (Nat.mod_lt _ (by omega))) (x2Col1Terms ell x y r)
    (by simp only [x2Col1Terms, laneTerms_length]; exact hell) (laneTerms_InB _ _ _ _ _ _ _ hx hy)).2

theorem x2_col2_vec_exact (N : Nat) (pc : BbcPrecomp) (q : Nat → Nat) (ok : bbcAvxOK N pc q = true)
    (ell : Nat) (hell : ell ≤ N) (x y : Array Nat) (hx : ArrB x) (hy : ArrB y) (r : Nat) (hr : r < 16) :
    (x2Col2Ref pc ell x y).getD r 0 % q (r % 4) = bbcVal (x2Col2Terms ell x y r) % q (r % 4)
    ∧ (x2Col2Avx pc ell x y).getD r 0 % q (r % 4) = bbcVal (x2Col2Terms ell x y r) % q (r % 4)
    ∧ (x2Col2Avx pc ell x y).getD r 0 = (x2Col2Ref pc ell x y).getD r 0 :=
  ofFn_lanes_exact _ _ r hr _ _ (bbcLane_pair N pc (r % 4) (q (r % 4))
    (all_range ok (r % 4) (Nat.mod_lt _ (by omega))) (x2Col2Terms ell x y r)
    (by simp only [x2Col2Terms, laneTerms_length]; exact hell) (laneTerms_InB _ _ _ _ _ _ _ hx hy)).2

theorem products_ell0 (pa : BaaPrecomp) (pb : BbbPrecomp) (pc : BbcPrecomp) (x y : Array Nat) :
    baaRef pa 0 x y = #[0, 0, 0, 0] ∧ baaAvx pa 0 x y = #[0, 0, 0, 0]
    ∧ bbbRef pb 0 x y = #[0, 0, 0, 0] ∧ bbbAvx pb 0 x y = #[0, 0, 0, 0]
    ∧ bbcRef pc 0 x y = #[0, 0, 0, 0] ∧ bbcAvx pc 0 x y = #[0, 0, 0, 0] := by
  have z : ∀ m : Nat, 0 % 2 ^ m = 0 ∧ 0 / 2 ^ m = 0 := fun m => ⟨Nat.zero_mod _, Nat.zero_div _⟩
  refine ⟨?_, ?_, ?_, ?_, ?_, ?_⟩ <;>
    simp [baaRef, baaAvx, bbbRef, bbbAvx, bbcRef, bbcAvx, laneTerms, baaRefLane, baaAvxLane, bbbRefLane,
      bbbAvxLane, bbcRefLane, bbcAvxLane, bbbRefFinal, bbbAvxFinal, bbcRefFinal, bbcAvxFinal, add64, mul64,
      mulEpu32, Array.ofFn_succ]

/-- every 64-bit lane of `y` holds a valid layout-c pair for its prime (lane index mod 4):
  `y1 ≡ y0·2^32 (mod q)`; `y0`, `y1` may be any (also non-canonical) 32-bit representatives -/
def ValidC (q : Nat → Nat) (y : Array Nat) : Prop :=
  ∀ i, (y.getD i 0 / 4294967296) % q (i % 4) = ((y.getD i 0 % 4294967296) * 4294967296) % q (i % 4)

/-- `Σ t.1 · (t.2 mod 2^32)` over the operand pairs `t` (the second component is a layout-c word, `y0` its low half) -/
def dotC (l : List (Nat × Nat)) : Nat := wsum (fun t => t.1 * (t.2 % 4294967296)) l

theorem bbcVal_validC (q : Nat → Nat) (ell : Nat) (x y : Array Nat) (sx ox sy oy k : Nat) (hy : ValidC q y)
    (hk : ∀ i, (sy * i + oy) % 4 = k) :
    bbcVal (laneTerms ell x y sx ox sy oy) % q k = dotC (laneTerms ell x y sx ox sy oy) % q k := by
  apply bbcVal_valid
  intro t ht
  simp only [laneTerms, List.mem_map] at ht
  obtain ⟨i, _, rfl⟩ := ht
  have := hy (sy * i + oy)
  rw [hk i] at this
  exact this

end Spq.Q120
