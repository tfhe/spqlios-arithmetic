/-
  The in-place inverse DFT (`res == a_dft`) of the NTT120 module: one buffer of 64-bit cells.
  Step `i` reads cells `[4N·i, 4N·(i+1))` and writes cells `[2N·i, 2N·(i+1))`; since `2N·(i+1) ≤ 4N·(i+1)` every step
  reads cells no earlier step has written, so the loop computes what the disjoint call computes (`runG_inv`).
-/
import SpqProofs.Lemmas.NttModLimb
import Mathlib.Tactic.Ring

namespace Spq.ModuleNtt
open Spq Spq.Q120 Spq.Q120Ntt

theorem readBig_of_cells (buf : Array Nat) (c : Nat) (z : Int)
    (h0 : buf.getD (2 * c) 0 = lo128 z) (h1 : buf.getD (2 * c + 1) 0 = hi128 z)
    (hz1 : -170141183460469231731687303715884105728 ≤ z) (hz2 : z < 170141183460469231731687303715884105728) :
    readBig buf c = z := by
  unfold readBig
  rw [h0, h1]
  unfold lo128 hi128 wrapS128
  omega

@[simp] theorem size_writeBig (buf : Array Nat) (off : Nat) (r : Array Int) : (writeBig buf off r).size = buf.size := by
  simp [writeBig]

theorem getD_writeBig_in (buf : Array Nat) (off : Nat) (r : Array Int) (c : Nat) (hc : c < 2 * r.size)
    (hsz : off + c < buf.size) :
    (writeBig buf off r).getD (off + c) 0 = if c % 2 = 0 then lo128 (r.getD (c / 2) 0) else hi128 (r.getD (c / 2) 0) := by
  unfold writeBig
  rw [getD_ofFn _ _ _ hsz]
  simp only [Nat.add_sub_cancel_left]
  rw [if_pos ⟨Nat.le_add_right _ _, by omega⟩]

theorem getD_writeBig_out (buf : Array Nat) (off : Nat) (r : Array Int) (c : Nat)
    (hc : c < off ∨ off + 2 * r.size ≤ c) : (writeBig buf off r).getD c 0 = buf.getD c 0 := by
  by_cases hsz : c < buf.size
  · unfold writeBig
    rw [getD_ofFn _ _ _ hsz]
    simp only []
    rw [if_neg (by omega)]
  · rw [getD_of_size_le _ _ _ (by rw [size_writeBig]; omega), getD_of_size_le _ _ _ (by omega)]

@[simp] theorem size_zeroCells (buf : Array Nat) (off len : Nat) : (zeroCells buf off len).size = buf.size := by
  simp [zeroCells]

theorem getD_zeroCells (buf : Array Nat) (off len c : Nat) :
    (zeroCells buf off len).getD c 0 = if off ≤ c ∧ c < off + len then 0 else buf.getD c 0 := by
  by_cases hsz : c < buf.size
  · unfold zeroCells
    rw [getD_ofFn _ _ _ hsz]
  · rw [getD_of_size_le _ _ _ (by rw [size_zeroCells]; omega), getD_of_size_le _ _ _ (by omega)]
    split <;> rfl

theorem getD_cellsOfBig (r : Array Int) (c : Nat) (hc : c < 2 * r.size) :
    (cellsOfBig r).getD c 0 = if c % 2 = 0 then lo128 (r.getD (c / 2) 0) else hi128 (r.getD (c / 2) 0) := by
  unfold cellsOfBig
  rw [getD_ofFn _ _ _ hc]

/-- loop body: read cells `[4N·i, 4N·i + 4N)`, write cells `[2N·i, 2N·i + 2N)` -/
def stepG (N : Nat) (f : Array Nat → Array Int) (buf : Array Nat) (i : Nat) : Array Nat :=
  writeBig buf (2 * N * i) (f (cellsAt buf (2 * N * i + 2 * N * i) (2 * N + 2 * N)))

def runG (N : Nat) (f : Array Nat → Array Int) (buf : Array Nat) (i : Nat) : Array Nat :=
  (List.range i).foldl (stepG N f) buf

theorem runG_succ (N : Nat) (f : Array Nat → Array Int) (buf : Array Nat) (i : Nat) :
    runG N f buf (i + 1) = stepG N f (runG N f buf i) i := by
  simp [runG, List.range_succ]

/-- after `i` steps: cells `≥ 2N·i` are untouched (in particular all unread DFT limbs), and the `i` results are in
    place -/
theorem runG_inv (N : Nat) (f : Array Nat → Array Int) (hf : ∀ c, (f c).size = N) (buf : Array Nat) (i : Nat)
    (hi : 2 * N * i ≤ buf.size) :
    (runG N f buf i).size = buf.size ∧
    (∀ c, 2 * N * i ≤ c → (runG N f buf i).getD c 0 = buf.getD c 0) ∧
    (∀ i' < i, ∀ c < 2 * N, (runG N f buf i).getD (2 * N * i' + c) 0
        = (cellsOfBig (f (cellsAt buf (2 * N * i' + 2 * N * i') (2 * N + 2 * N)))).getD c 0) := by
  induction i with
  | zero => exact ⟨rfl, fun _ _ => rfl, fun _ h => absurd h (Nat.not_lt_zero _)⟩
  | succ i ih =>
    have hs : 2 * N * (i + 1) = 2 * N * i + 2 * N := Nat.mul_succ _ _
    obtain ⟨h1, h2, h3⟩ := ih (by omega)
    have hR : cellsAt (runG N f buf i) (2 * N * i + 2 * N * i) (2 * N + 2 * N)
        = cellsAt buf (2 * N * i + 2 * N * i) (2 * N + 2 * N) :=
      cellsAt_congr _ _ _ _ (fun t _ => h2 _ (by omega))
    rw [runG_succ]
    unfold stepG
    rw [hR]
    refine ⟨by rw [size_writeBig, h1], ?_, ?_⟩
    · intro c hc
      rw [getD_writeBig_out _ _ _ _ (Or.inr (by rw [hf]; omega))]
      exact h2 c (by omega)
    · intro i' hi' c hc
      rcases Nat.lt_succ_iff_lt_or_eq.1 hi' with hlt | rfl
      · have : 2 * N * i' + c < 2 * N * i := mul_add_lt hlt hc
        rw [getD_writeBig_out _ _ _ _ (Or.inl this)]
        exact h3 i' hlt c hc
      · rw [getD_writeBig_in _ _ _ _ (by rw [hf]; exact hc) (by rw [h1]; omega),
          getD_cellsOfBig _ _ (by rw [hf]; exact hc)]

theorem idftInplaceStep_eq (M : ModPre) : idftInplaceStep M = stepG M.nn (idftLimb M) := by
  funext buf i
  unfold idftInplaceStep stepG
  have e1 : 4 * M.nn * i = 2 * M.nn * i + 2 * M.nn * i := by ring
  have e2 : 4 * M.nn = 2 * M.nn + 2 * M.nn := by ring
  rw [e1, e2]

/-- an inverse-transformed coefficient fits an `__int128_t` -/
theorem idftLimb_i128 (M : ModPre) (ok : crtOK M.P = true) (c : Array Nat) (t : Nat) (ht : t < 2 ^ M.k) :
    -170141183460469231731687303715884105728 ≤ (idftLimb M c).getD t 0
    ∧ (idftLimb M c).getD t 0 < 170141183460469231731687303715884105728 := by
  obtain ⟨h1, h2⟩ := idftLimb_centered M ok c t ht
  obtain ⟨_, hQ⟩ := crtOK_Q M.P ok
  generalize bigQN M.P = Q at *
  omega

/-- **in place = out of place**: after `vec_znx_idft(module, buf, res_size, buf, a_size, tmp)` on a buffer holding at
    least the `res_size` result limbs, the buffer read as 128-bit integers holds exactly what the disjoint call returns
    for the original content of the buffer -/
theorem readBig_vecIdftInplace (M : ModPre) (ok : crtOK M.P = true) (r s : Nat) (buf : Array Nat)
    (hsz : 2 * 2 ^ M.k * r ≤ buf.size) (i t : Nat) (hi : i < r) (ht : t < 2 ^ M.k) :
    readBig (vecIdftInplace M r s buf) (2 ^ M.k * i + t) = (vecIdft M r buf s).getD (2 ^ M.k * i + t) 0 := by
  have hN : M.nn = 2 ^ M.k := rfl
  rw [getD_vecIdft M r buf s i t hi ht]
  unfold vecIdftInplace
  simp only []
  rw [idftInplaceStep_eq, show (List.range (min r s)).foldl (stepG M.nn (idftLimb M)) buf
    = runG M.nn (idftLimb M) buf (min r s) from rfl, hN]
  have hle : 2 * 2 ^ M.k * min r s ≤ 2 * 2 ^ M.k * r := Nat.mul_le_mul_left _ (Nat.min_le_left _ _)
  obtain ⟨h1, h2, h3⟩ := runG_inv (2 ^ M.k) (idftLimb M) (fun c => size_idftLimb M c) buf (min r s) (by omega)
  have e0 : 2 * (2 ^ M.k * i + t) = 2 * 2 ^ M.k * i + 2 * t := by ring
  have e1 : 2 * (2 ^ M.k * i + t) + 1 = 2 * 2 ^ M.k * i + (2 * t + 1) := by ring
  have hidx : 2 * 2 ^ M.k * i + (2 * t + 1) < 2 * 2 ^ M.k * r := mul_add_lt hi (by omega)
  by_cases him : i < min r s
  · rw [if_pos him]
    have hlt : 2 * 2 ^ M.k * i + (2 * t + 1) < 2 * 2 ^ M.k * min r s := mul_add_lt him (by omega)
    have e4 : 4 * 2 ^ M.k * i = 2 * 2 ^ M.k * i + 2 * 2 ^ M.k * i := by ring
    have e5 : 4 * 2 ^ M.k = 2 * 2 ^ M.k + 2 * 2 ^ M.k := by ring
    rw [e4, e5]
    obtain ⟨z1, z2⟩ := idftLimb_i128 M ok (cellsAt buf (2 * 2 ^ M.k * i + 2 * 2 ^ M.k * i) (2 * 2 ^ M.k + 2 * 2 ^ M.k)) t ht
    apply readBig_of_cells _ _ _ _ _ z1 z2
    · rw [e0, getD_zeroCells, if_neg (by omega), h3 i him (2 * t) (by omega),
        getD_cellsOfBig _ _ (by rw [size_idftLimb]; omega)]
      have : 2 * t % 2 = 0 := by omega
      have d : 2 * t / 2 = t := by omega
      rw [if_pos this, d]
    · rw [e1, getD_zeroCells, if_neg (by omega), h3 i him (2 * t + 1) (by omega),
        getD_cellsOfBig _ _ (by rw [size_idftLimb]; omega)]
      have : ¬ (2 * t + 1) % 2 = 0 := by omega
      have d : (2 * t + 1) / 2 = t := by omega
      rw [if_neg this, d]
  · rw [if_neg him]
    have hge : 2 * 2 ^ M.k * min r s ≤ 2 * 2 ^ M.k * i := Nat.mul_le_mul_left _ (by omega)
    have hsum : 2 * 2 ^ M.k * min r s + 2 * 2 ^ M.k * (r - min r s) = 2 * 2 ^ M.k * r := by
      rw [← Nat.mul_add]; congr 1; have := Nat.min_le_left r s; omega
    apply readBig_of_cells _ _ 0
    · rw [e0, getD_zeroCells, if_pos ⟨by omega, by omega⟩]; rfl
    · rw [e1, getD_zeroCells, if_pos ⟨by omega, by omega⟩]; rfl
    · decide
    · decide

/-- frame: the in-place call does not touch the cells behind the `res_size` result limbs (leftover DFT limbs) -/
theorem vecIdftInplace_frame (M : ModPre) (r s : Nat) (buf : Array Nat) (hsz : 2 * 2 ^ M.k * r ≤ buf.size)
    (c : Nat) (hc : 2 * 2 ^ M.k * r ≤ c) :
    (vecIdftInplace M r s buf).size = buf.size ∧ (vecIdftInplace M r s buf).getD c 0 = buf.getD c 0 := by
  have hN : M.nn = 2 ^ M.k := rfl
  unfold vecIdftInplace
  simp only []
  rw [idftInplaceStep_eq, show (List.range (min r s)).foldl (stepG M.nn (idftLimb M)) buf
    = runG M.nn (idftLimb M) buf (min r s) from rfl, hN]
  have hle : 2 * 2 ^ M.k * min r s ≤ 2 * 2 ^ M.k * r := Nat.mul_le_mul_left _ (Nat.min_le_left _ _)
  obtain ⟨h1, h2, _⟩ := runG_inv (2 ^ M.k) (idftLimb M) (fun c => size_idftLimb M c) buf (min r s) (by omega)
  have hsum : 2 * 2 ^ M.k * min r s + 2 * 2 ^ M.k * (r - min r s) = 2 * 2 ^ M.k * r := by
    rw [← Nat.mul_add]; congr 1; have := Nat.min_le_left r s; omega
  refine ⟨by rw [size_zeroCells, h1], ?_⟩
  rw [getD_zeroCells, if_neg (by omega)]
  exact h2 c (by omega)

end Spq.ModuleNtt
