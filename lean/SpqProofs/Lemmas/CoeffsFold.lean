/-
  Loops of independent cell updates (`for (j = lo; j < hi; j += step) …`) used by the special cases of
  the in-place automorphism.
-/
import SpqProofs.Lemmas.CoeffsMoved
import Mathlib.Data.List.Nodup
namespace Spq.Rq
open Spq
variable {α : Type}

theorem mem_stepRange (lo hi step j : Nat) (hs : 0 < step) :
    j ∈ Coeffs.stepRange lo hi step ↔ ∃ t, j = lo + t * step ∧ j < hi := by
  unfold Coeffs.stepRange
  rw [if_neg (by omega)]
  simp only [List.mem_map, List.mem_range]
  have key : ∀ t, t < (hi - lo + step - 1) / step ↔ lo + t * step < hi := by
    intro t
    rw [show t < (hi - lo + step - 1) / step ↔ t + 1 ≤ (hi - lo + step - 1) / step from Iff.rfl,
      Nat.le_div_iff_mul_le hs, Nat.succ_mul]
    omega
  constructor
  · rintro ⟨t, ht, rfl⟩
    exact ⟨t, rfl, (key t).1 ht⟩
  · rintro ⟨t, rfl, h⟩
    exact ⟨t, (key t).2 h, rfl⟩

theorem mem_stepRange_odd (B hi j : Nat) (hB : 0 < B) :
    j ∈ Coeffs.stepRange B hi (2 * B) ↔ j < hi ∧ j % (2 * B) = B := by
  rw [mem_stepRange _ _ _ _ (by omega)]
  constructor
  · rintro ⟨k, rfl, hlt⟩
    exact ⟨hlt, by rw [Nat.add_mul_mod_self_right]; exact Nat.mod_eq_of_lt (by omega)⟩
  · rintro ⟨hlt, hm⟩
    refine ⟨j / (2 * B), ?_, hlt⟩
    have := Nat.div_add_mod j (2 * B)
    rw [hm] at this
    rw [Nat.mul_comm]; omega

theorem mem_stepRange_mul (B hi j : Nat) (hB : 0 < B) :
    j ∈ Coeffs.stepRange B hi B ↔ 0 < j ∧ j < hi ∧ j % B = 0 := by
  rw [mem_stepRange _ _ _ _ hB]
  constructor
  · rintro ⟨k, rfl, hlt⟩
    exact ⟨by omega, hlt, by rw [show B + k * B = (k + 1) * B by ring, Nat.mul_mod_left]⟩
  · rintro ⟨h0, hlt, hmd⟩
    obtain ⟨k, rfl⟩ := Nat.dvd_of_mod_eq_zero hmd
    obtain ⟨k', rfl⟩ : ∃ k', k = k' + 1 := ⟨k - 1, by rcases k with _ | k <;> simp at h0 ⊢⟩
    exact ⟨k', by ring, hlt⟩

theorem nodup_stepRange (lo hi step : Nat) (hs : 0 < step) : (Coeffs.stepRange lo hi step).Nodup := by
  unfold Coeffs.stepRange
  rw [if_neg (by omega)]
  refine List.Nodup.map ?_ List.nodup_range
  intro a b h
  have h' : a * step = b * step := by simpa using h
  exact Nat.eq_of_mul_eq_mul_right hs h'

theorem write_moved (N : Nat) (F : α → α) (z : α) (j : Nat) (hj : j < N) (r : Array α) (hs : r.size = N) :
    Moved (fun y => y) (fun _ t _ => F t) z N (fun y => y = j) r (r.setIfInBounds j (F (r.getD j z))) :=
  ⟨by simp [hs], fun y _ d => by subst d; rw [getD_setIfInBounds, if_pos ⟨rfl, hs ▸ hj⟩],
    fun y _ d => getD_setIfInBounds_ne _ _ _ (Ne.symm d)⟩

theorem fold_single (N : Nat) (F : α → α) (z : α) (l : List Nat) (hnd : l.Nodup)
    (hl : ∀ j ∈ l, j < N) (r0 : Array α) (hs : r0.size = N) :
    Moved (fun y => y) (fun _ t _ => F t) z N (fun y => y ∈ l) r0
      (l.foldl (fun r j => r.setIfInBounds j (F (r.getD j z))) r0) :=
  (Moved.foldl _ (fun j y => y = j) l (fun j hj y hy d => ⟨hy, d⟩)
    (hnd.imp fun {i j} ne y d c => ne (d.symm.trans c)) (fun j hj r => write_moved N F z j (hl j hj) r) r0 hs).congr
    fun y _ => by simp

theorem swap_moved (N : Nat) (F : α → α) (z : α) (j : Nat) (hj : 0 < j ∧ 2 * j < N) (r : Array α)
    (hs : r.size = N) :
    Moved (fun y => N - y) (fun _ t _ => F t) z N (fun y => y = j ∨ y = N - j) r
      ((r.setIfInBounds j (F (r.getD (N - j) z))).setIfInBounds (N - j) (F (r.getD j z))) := by
  refine ⟨by simp [hs], fun y hy d => ?_, fun y hy d => ?_⟩
  · rcases d with rfl | rfl <;> beta_reduce
    · rw [getD_setIfInBounds, if_pos ⟨rfl, by simp [hs]; omega⟩]
    · rw [getD_setIfInBounds_ne _ _ _ (by omega), getD_setIfInBounds, if_pos ⟨by omega, by rw [hs]; omega⟩]
  · rw [getD_setIfInBounds_ne _ _ _ (fun h => d (Or.inr h.symm)), getD_setIfInBounds_ne _ _ _ (fun h => d (Or.inl h.symm))]

theorem fold_mirror (N : Nat) (F : α → α) (z : α) (l : List Nat) (hnd : l.Nodup)
    (hl : ∀ j ∈ l, 0 < j ∧ 2 * j < N) (r0 : Array α) (hs : r0.size = N) :
    Moved (fun y => N - y) (fun _ t _ => F t) z N (fun y => y ∈ l ∨ N - y ∈ l) r0
      (l.foldl (fun r j =>
        (r.setIfInBounds j (F (r.getD (N - j) z))).setIfInBounds (N - j) (F (r.getD j z))) r0) := by
  refine (Moved.foldl _ (fun j y => y = j ∨ y = N - j) l (fun j hj y hy d => ?_)
    (hnd.imp_of_mem fun {i j} hi hj ne y d c => ?_) (fun j hj r => swap_moved N F z j (hl j hj) r) r0 hs).congr
    fun y hy => ⟨?_, ?_⟩
  · have := hl j hj; omega
  · have := hl i hi; have := hl j hj; omega
  · rintro ⟨j, hj, rfl | rfl⟩
    · exact Or.inl hj
    · exact Or.inr (by have := hl j hj; rwa [show N - (N - j) = j by omega])
  · rintro (h | h)
    · exact ⟨y, h, Or.inl rfl⟩
    · exact ⟨N - y, h, Or.inr (by omega)⟩

end Spq.Rq
