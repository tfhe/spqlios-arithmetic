/-
  Simulation rules for loops whose iteration count has no closed form (cycle walks, the level loop of the in-place
  automorphism): the IR loop is related to a fuel-bounded functional loop over an abstract state `α` through a
  relation `R : α → State → Prop`, "`σ` is an IR state that stands for `a`".  The abstract state holds what the
  model's own loop carries; slots of the C function that are dead at the loop head are quantified inside `R`.

  * `walkA stp ex m a`  — "do a ← stp a while ¬ ex a", at most `m` steps      (model: `Coeffs.walkCycle`)
  * `whileA tst stp m b` — "while tst b do b ← stp b", at most `m` steps      (model: `Coeffs.walkAll`)

  Each rule is `loopN_rule` with the model's remaining budget as the rank and, in the invariant, the equation that
  says the model run from here gives what the model run from the start gives.
-/
import SpqProofs.Lemmas.SrcEval
namespace Spq.CIR

variable {α : Type}

def walkA (stp : α → α) (ex : α → Bool) : Nat → α → α
  | 0, a => a
  | m + 1, a => if ex (stp a) then stp a else walkA stp ex m (stp a)

/-- the do-while exits within `m` steps -/
def TermA (stp : α → α) (ex : α → Bool) : Nat → α → Prop
  | 0, _ => False
  | m + 1, a => ex (stp a) = true ∨ TermA stp ex m (stp a)

def whileA (tst : α → Bool) (stp : α → α) : Nat → α → α
  | 0, b => b
  | m + 1, b => if tst b then whileA tst stp m (stp b) else b

/-- do-while against `walkA`.  `G m a`: invariant with `m` steps of budget left. -/
theorem doWhile_rel (Γ : List Ptr) (body : Stmt) (c : Expr) (R : α → State → Prop) (stp : α → α) (ex : α → Bool)
    (G : Nat → α → Prop)
    (hG : ∀ m a, G (m + 1) a → ex (stp a) = false → G m (stp a))
    (hbody : ∀ m a σ f, G (m + 1) a → R a σ → Post (exec Γ body f σ) (R (stp a)))
    (hcond : ∀ a σ, R a σ → evalB Γ c σ = .ok (!ex a)) :
    ∀ m a σ f, G m a → R a σ → TermA stp ex m a → m ≤ f + 1 →
      Post (exec Γ (.doWhile body c) f σ) (R (walkA stp ex m a)) := by
  intro m a0 σ f hG0 hR0 hT0 hf
  cases m with
  | zero => exact hT0.elim
  | succ m =>
    obtain ⟨σ1, hb, hR1⟩ := hbody m a0 σ f hG0 hR0
    rw [exec_doWhile, hb, thenStep_norm]
    -- a loop-head state σ stands for `stp a`: the test `ex` and `walkA` look at `a` after its step
    refine Ends.post (loopN_rule _ _
      (fun r σ => ∃ a, G (r + 1) a ∧ R (stp a) σ ∧ TermA stp ex (r + 1) a ∧
        walkA stp ex (r + 1) a = walkA stp ex (m + 1) a0)
      _ 0 ?_ m σ1 f ⟨a0, hG0, hR1, hT0, rfl⟩ (by omega))
    rintro r σ ⟨a, hGa, hR, hT, hw⟩
    cases hex : ex (stp a) with
    | true =>
      refine .inl ⟨by rw [hcond _ _ hR, hex]; rfl, rfl, ?_⟩
      rw [← hw, walkA, if_pos hex]
      exact hR
    | false =>
      have hT' : TermA stp ex r (stp a) := hT.resolve_left (by rw [hex]; exact Bool.false_ne_true)
      cases r with
      | zero => exact hT'.elim
      | succ r =>
        have hG' := hG (r + 1) a hGa hex
        refine .inr ⟨by rw [hcond _ _ hR, hex]; rfl, r, Nat.lt_succ_self r, fun f _ =>
          (hbody r (stp a) σ f hG' hR).ends fun σ2 hR2 => ?_⟩
        exact ⟨stp a, hG', hR2, hT', by rw [← hw]; simp only [walkA, hex, Bool.false_eq_true, if_false]⟩

/-- while against `whileA`.  `fb`: fuel needed by one execution of the body. -/
theorem while_rel (Γ : List Ptr) (c : Expr) (body : Stmt) (R : α → State → Prop) (tst : α → Bool) (stp : α → α)
    (G : Nat → α → Prop) (fb : Nat)
    (hG : ∀ m b, G (m + 1) b → tst b = true → G m (stp b))
    (hzero : ∀ b, G 0 b → tst b = false)
    (hcond : ∀ m b σ, G m b → R b σ → evalB Γ c σ = .ok (tst b))
    (hbody : ∀ m b σ f, G (m + 1) b → R b σ → tst b = true → fb ≤ f → Post (exec Γ body f σ) (R (stp b))) :
    ∀ m b σ f, G m b → R b σ → m + fb ≤ f →
      Post (exec Γ (.while c body) f σ) (R (whileA tst stp m b)) := by
  intro m b0 σ f hG0 hR0 hf
  rw [exec_while]
  refine Ends.post (loopN_rule _ _ (fun r σ => ∃ b, G r b ∧ R b σ ∧ whileA tst stp r b = whileA tst stp m b0)
    _ fb ?_ m σ f ⟨b0, hG0, hR0, rfl⟩ hf)
  rintro r σ ⟨b, hGb, hR, hw⟩
  cases ht : tst b with
  | false =>
    refine .inl ⟨by rw [hcond r b σ hGb hR, ht], rfl, ?_⟩
    rw [← hw]
    cases r <;> simp only [whileA, ht, Bool.false_eq_true, if_false] <;> exact hR
  | true =>
    cases r with
    | zero => rw [hzero b hGb] at ht; cases ht
    | succ r =>
      refine .inr ⟨by rw [hcond _ b σ hGb hR, ht], r, Nat.lt_succ_self r, fun f hf =>
        (hbody r b σ f hGb hR ht hf).ends fun σ1 hR1 => ?_⟩
      exact ⟨stp b, hG r b hGb ht, hR1, by rw [← hw]; simp only [whileA, ht, if_true]⟩

/-- go on below a statement that ends normally in a state satisfying `Q`, wherever it stands: `P` is the goal as a
    function of that statement's outcome -/
theorem post_in (P : Out → Prop) {x : Out} {Q : State → Prop} (h : Post x Q)
    (hk : ∀ σ', Q σ' → P (.ok (.norm, σ'))) : P x := by
  obtain ⟨σ', rfl, hq⟩ := h
  exact hk σ' hq

/-- A loop whose body either finishes the whole function (`return`: `Done`) or hands over to the next iteration
    (`Next`), against a fuel-indexed model `modelL`.  `rank` bounds the number of remaining iterations, `Inv` is
    an invariant of the loop-head states. -/
theorem loopN_levels_rel {γ : Type} (c : State → R Bool) (step : Nat → State → Out) (Rel : γ → State → Prop)
    (Inv : γ → Prop) (cont : γ → Bool) (Done : γ → Mem → Prop) (Next : γ → γ → Prop) (modelL : Nat → γ → Mem)
    (rank : γ → Nat) (fb : Nat)
    (hcond : ∀ g σ, Rel g σ → c σ = .ok (cont g))
    (hrank : ∀ g, Inv g → cont g = true → 1 ≤ rank g)
    (hstop : ∀ m g σ, Rel g σ → cont g = false → modelL m g = σ.mem)
    (hdone : ∀ m g M, cont g = true → Done g M → modelL (m + 1) g = M)
    (hnext : ∀ m g g', cont g = true → Next g g' → modelL (m + 1) g = modelL m g' ∧ rank g' + 1 ≤ rank g)
    (hstep : ∀ g σ, Inv g → Rel g σ → cont g = true → ∀ f, fb ≤ f →
      (∃ σ', step f σ = .ok (.ret, σ') ∧ Done g σ'.mem) ∨
      (∃ g' σ', step f σ = .ok (.norm, σ') ∧ Rel g' σ' ∧ Next g g' ∧ Inv g')) :
    ∀ m g σ f, Inv g → Rel g σ → rank g ≤ m → rank g + fb ≤ f →
      memOf (loopN c step f σ) = .ok (modelL m g) := by
  intro m g0 σ f hI0 hR0 hr0 hf
  -- `rank g ≤ r`, and the model's fuel is ahead of `r` by the slack `m - rank g0` it had at the start
  refine Ends.memOf (loopN_rule c step
    (fun r σ => ∃ g, Inv g ∧ Rel g σ ∧ rank g ≤ r ∧ modelL (r + (m - rank g0)) g = modelL m g0)
    _ fb ?_ (rank g0) σ f ⟨g0, hI0, hR0, Nat.le_refl _, by rw [Nat.add_sub_cancel' hr0]⟩ hf)
  rintro r σ ⟨g, hI, hR, hr, hm⟩
  cases hc : cont g with
  | false => exact .inl ⟨by rw [hcond g σ hR, hc], by rw [← hm, hstop _ g σ hR hc]⟩
  | true =>
    have h1 := hrank g hI hc
    obtain ⟨r, rfl⟩ : ∃ r', r = r' + 1 := ⟨r - 1, by omega⟩
    refine .inr ⟨by rw [hcond g σ hR, hc], r, Nat.lt_succ_self r, fun f hf => ?_⟩
    rw [Nat.add_right_comm] at hm
    rcases hstep g σ hI hR hc f hf with ⟨σ', hs, hd⟩ | ⟨g', σ', hs, hR', hn, hI'⟩
    · exact ⟨.ret, σ', hs, (hdone _ g _ hc hd).symm.trans hm⟩
    · obtain ⟨hm', hrk⟩ := hnext (r + (m - rank g0)) g g' hc hn
      exact ⟨.norm, σ', hs, g', hI', hR', by omega, by rw [← hm', hm]⟩
end Spq.CIR
