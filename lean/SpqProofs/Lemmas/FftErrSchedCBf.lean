/-
  C06.4, cplx butterflies: the `addsub(0, ω)` butterflies of `cplx_fft_avx2_fma.c` with the exact negation made
  explicit (`ctFmaZ`, `ictFmaZ`), the `h = 1` butterfly with table `(ω, −ω)`, and their error lemmas.
-/
import SpqProofs.Lemmas.FftErrBfly
import Spq.Fft.Cplx
namespace Spq.FftErr
open Spq.Fft
variable {K : Type} [Field K] [LinearOrder K] [IsStrictOrderedRing K]

section defs
variable {α : Type} (A : Arith α)
/-- `ctFmaC` with `0 − ωi`, `0 + ωi` replaced by `−ωi`, `ωi` (they are computed exactly) -/
def ctFmaZ : Bf α := fun ra ia rb ib wr wi =>
  let nr := A.fma ib (A.neg wi) (A.mul rb wr)
  let ni := A.fma rb wi (A.mul ib wr)
  (A.add ra nr, A.add ia ni, A.sub ra nr, A.sub ia ni)
/-- `ictFmaC` likewise -/
def ictFmaZ : Bf α := fun ra ia rb ib wr wi =>
  let rd := A.sub ra rb
  let id := A.sub ia ib
  (A.add ra rb, A.add ia ib, A.fma id (A.neg wi) (A.mul rd wr), A.fma rd wi (A.mul id wr))
end defs

/-- the product `ŵ·b` as computed by `ctFmaZ` / `ictFmaZ` -/
theorem FStd.cmul_fmaZ {A : Arith K} {u : K} (sm : FStd A u) (b wh : Cplx K) :
    nsq ((⟨A.fma b.im (-wh.im) (A.mul b.re wh.re), A.fma b.re wh.im (A.mul b.im wh.re)⟩ : Cplx K) - wh * b)
      ≤ gam u ^ 2 * (2 * (nsq wh * nsq b)) :=
  cmul_err _ _ (wh * b) _ _ _ _ _ _ _ (sm.fma_mul b.im (-wh.im) b.re wh.re) (sm.fma_mul b.re wh.im b.im wh.re)
    (by simp only [QuadraticAlgebra.re_mul]; ring) (by simp only [QuadraticAlgebra.im_mul]; ring)
    (by simp only [nsq]; ring)

theorem butterfly_err_fmaZ (A : Arith K) (u τ : K) (sm : FStd A u) (hτ : 0 ≤ τ) (wh w : Cplx K)
    (hw : nsq w = 1) (hτw : nsq (wh - w) ≤ τ ^ 2) :
    BfErrAt (fun a b => bfC (ctFmaZ A) a b wh) w (eta u τ) := by
  intro a b
  simp only [bfC, ctFmaZ, sm.neg]
  exact bfly_add_sub sm hτ a b wh w ⟨A.fma b.im (-wh.im) (A.mul b.re wh.re), A.fma b.re wh.im (A.mul b.im wh.re)⟩
    hw hτw (sm.cmul_fmaZ b wh)

theorem ibutterfly_err_fmaZ (A : Arith K) (u τ : K) (sm : FStd A u) (hτ : 0 ≤ τ) (wh w : Cplx K)
    (hw : nsq w = 1) (hτw : nsq (wh - w) ≤ τ ^ 2) :
    IBfErrAt (fun a b => bfC (ictFmaZ A) a b wh) w (eta u τ) := by
  intro a b
  simp only [bfC, ictFmaZ, sm.neg]
  exact ibfly_of_cmul sm hτ a b wh w _ hw hτw (sm.cmul_fmaZ ⟨A.sub a.re b.re, A.sub a.im b.im⟩ wh)

/-- the `h = 1` butterfly with its two table entries, on complex numbers -/
def lastC (f4 : Bf4 K) (a b w nw : Cplx K) : Cplx K × Cplx K :=
  bfC (fun ra ia rb ib w1 w2 => f4 ra ia rb ib w1 w2 nw.re nw.im) a b w

/-- the `h = 1` butterfly of `cplx_fft_avx2_fma_bfs_2` (table `(ω̂, ω̂')`, `ω̂' ≈ −ω`): two separately computed
    products, each ADDED to `a` -/
theorem butterfly_err_last_fma (A : Arith K) (u τ : K) (sm : FStd A u) (hτ : 0 ≤ τ) (wh nwh w : Cplx K)
    (hw : nsq w = 1) (hτw : nsq (wh - w) ≤ τ ^ 2) (hτn : nsq (nwh - -w) ≤ τ ^ 2) :
    BfErrAt (fun a b => lastC (lastFma A) a b wh nwh) w (eta u τ) := by
  intro a b
  have hu := sm.u_nonneg
  have h1 := prod_err u τ hu hτ b wh w hw hτw _ (sm.cmul_fma b wh)
  have h2 := prod_err u τ hu hτ b nwh (-w) (by rw [nsq_neg]; exact hw) hτn _ (sm.cmul_fma b nwh)
  rw [neg_mul, sub_neg_eq_add] at h2
  exact bfly_core u τ hu hτ a b w hw _ _ _ _ h1 h2
    (sm.cadd a ⟨A.fms b.re wh.re (A.mul b.im wh.im), A.fma b.im wh.re (A.mul b.re wh.im)⟩)
    (sm.cadd a ⟨A.fms b.re nwh.re (A.mul b.im nwh.im), A.fma b.im nwh.re (A.mul b.re nwh.im)⟩)

/-- the reference `h = 1` butterfly ignores the second table entry -/
theorem butterfly_err_last_ref (A : Arith K) (u τ : K) (sm : FStd A u) (hτ : 0 ≤ τ) (wh nwh w : Cplx K)
    (hw : nsq w = 1) (hτw : nsq (wh - w) ≤ τ ^ 2) :
    BfErrAt (fun a b => lastC (ofBf (ctRef A)) a b wh nwh) w (eta u τ) :=
  butterfly_err_ref A u τ sm hτ wh w hw hτw

theorem ibutterfly_err_last_ref (A : Arith K) (u τ : K) (sm : FStd A u) (hτ : 0 ≤ τ) (wh nwh w : Cplx K)
    (hw : nsq w = 1) (hτw : nsq (wh - w) ≤ τ ^ 2) :
    IBfErrAt (fun a b => lastC (ofBf (ictRef A)) a b wh nwh) w (eta u τ) :=
  ibutterfly_err_ref A u τ sm hτ wh w hw hτw

theorem ibutterfly_err_last_fma (A : Arith K) (u τ : K) (sm : FStd A u) (hτ : 0 ≤ τ) (wh nwh w : Cplx K)
    (hw : nsq w = 1) (hτw : nsq (wh - w) ≤ τ ^ 2) :
    IBfErrAt (fun a b => lastC (ofBf (ictFma A)) a b wh nwh) w (eta u τ) :=
  ibutterfly_err_fma A u τ sm hτ wh w hw hτw

end Spq.FftErr
