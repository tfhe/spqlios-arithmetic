/-
  `vmpApplyDftToDft` against `vmpPrepare`, the part that does not look at the arithmetic: block extraction (the
  equations of `C17.extract_spec`, `C17.extract_rows_spec` without their hypotheses on the source size), and where the
  prepared matrix holds cell `k` of block (row, col, blk).
-/
import SpqProofs.Lemmas.Reim4Layout
import SpqProofs.Lemmas.ModuleVmpPrep
namespace Spq.Module
open Spq Reim4
variable {α : Type}

theorem extract1blk_get (z : α) (m blk : Nat) (dst src : Array α) (hdst : 8 ≤ dst.size) (k : Nat) (hk : k < 4) :
    (extract1blkFromReimRef z m blk dst src).getD k z = src.getD (4 * blk + k) z ∧
    (extract1blkFromReimRef z m blk dst src).getD (4 + k) z = src.getD (m + 4 * blk + k) z := by
  have e : extract1blkFromReimRef z m blk dst src =
      V4.store (V4.store dst 0 (V4.load z src (4 * blk))) 4 (V4.load z src (4 * blk + m)) := rfl
  constructor
  · have h0 := V4.getD_store_in dst 0 (V4.load z src (4 * blk)) k z hk (by omega)
    rw [Nat.zero_add] at h0
    rw [e, V4.getD_store_out _ _ _ _ _ (by omega), h0, V4.lane_load _ _ _ _ hk]
  · have h1 : 4 * blk + m + k = m + 4 * blk + k := by omega
    rw [e, V4.getD_store_in _ _ _ _ _ hk (by rw [V4.size_store]; omega), V4.lane_load _ _ _ _ hk, h1]

theorem extractRows_get (z : α) (m nrows blk : Nat) (dst src : Array α) (hdst : 8 * nrows ≤ dst.size)
    (i k : Nat) (hi : i < nrows) (hk : k < 4) :
    (extract1blkFromContiguousReimRef z m nrows blk dst src).getD (8 * i + k) z = src.getD (i * (2 * m) + 4 * blk + k) z ∧
    (extract1blkFromContiguousReimRef z m nrows blk dst src).getD (8 * i + 4 + k) z = src.getD (i * (2 * m) + m + 4 * blk + k) z := by
  rw [extractC_eq_mapV4]
  obtain ⟨_, s2, _⟩ := mapV4_spec z (2 * nrows) (fun i => 4 * i) (fun i _ => V4.load z src (4 * blk + i * m)) dst
    (by intro j j' _ _ _; omega) (by intro j hj; omega)
  constructor
  · have := s2 (2 * i) (by omega) k hk
    have e : 8 * i + k = 4 * (2 * i) + k := by omega
    have e2 : 4 * blk + 2 * i * m + k = i * (2 * m) + 4 * blk + k := by ring
    rw [e, this, V4.lane_load _ _ _ _ hk, e2]
  · have := s2 (2 * i + 1) (by omega) k hk
    have e : 8 * i + 4 + k = 4 * (2 * i + 1) + k := by omega
    have e2 : 4 * blk + (2 * i + 1) * m + k = i * (2 * m) + m + 4 * blk + k := by ring
    rw [e, this, V4.lane_load _ _ _ _ hk, e2]

theorem prepared_cell (c : Parts α) (mat : Array Int) (nrows ncols : Nat) (h8 : 8 ≤ c.nn) (hnn : c.nn = 2 * c.m)
    (hm4 : c.m % 4 = 0) (row col blk k : Nat) (hr : row < nrows) (hc : col < ncols) (hb : blk < c.m / 4) (hk : k < 4) :
    (vmpPrepare c mat nrows ncols).getD (8 * (blk * (nrows * ncols) + qslot nrows ncols row col) + k) c.ar.zero
      = (matDft c mat ncols row col).getD (4 * blk + k) c.ar.zero ∧
    (vmpPrepare c mat nrows ncols).getD (8 * (blk * (nrows * ncols) + qslot nrows ncols row col) + 4 + k) c.ar.zero
      = (matDft c mat ncols row col).getD (c.m + 4 * blk + k) c.ar.zero := by
  have h := vmpPrepare_cells c mat nrows ncols h8 hnn hm4
  have g := fun k hk => h.tiles_get (pTiles nrows ncols (c.m / 4))
    (fun i hi x q => Or.inr (by
      unfold ModuleHeap.prepS ModuleHeap.prepCell; simp only [h8, if_true, pmatStart_blk]
      exact ⟨i.1.1, hi.1.1, i.1.2, hi.1.2, i.2, hi.2, q⟩)) ((row, col), blk) ⟨⟨hr, hc⟩, hb⟩ k hk
  obtain ⟨e1, e2⟩ := extract1blk_get c.ar.zero c.m blk (Array.replicate 8 c.ar.zero) (matDft c mat ncols row col)
    (by simp) k hk
  simp only [pSlot, pVal] at g
  exact ⟨by rw [g k (by omega), e1], by rw [Nat.add_assoc, g (4 + k) (by omega), e2]⟩

end Spq.Module
