/-
  One level of the in-place automorphism.  `LevelInv b` is `Moved` on the cells of valuation `< b`; a pass that
  moves the class of valuation `b` advances it (`LevelInv.step`), one that moves every multiple of `2^b` completes
  it (`LevelInv.finish`): both are `Moved.trans`.

  With `B = 2^b` and `vp = B·pm mod 2N`, the four special branches are `vp ∈ {B, 2N - B, B + N, N - B}`, that is
  `vp ≡ s·B + c·N (mod 2N)` with `s = ±1`, `c ∈ {0, 1}`: the multiplier has order 1 or 2 on the class.  The
  exponent of `y = B·k` is then `s·y + k·c·N`, and `k·N ≡ N` or `0` as `k` is odd or even.  For `s = 1` every
  remaining cell stays in place (branches 1 and 3; in 3 the odd `k` get the sign `-`).  For `s = -1`, `c = 0` every
  remaining cell goes to `N - y` negated (branch 2).  For `s = -1`, `c = 1` only the odd `k` go to `N - y`, sign
  `+`, and the next level decides again (branch 4).  Otherwise the orbits are walked (branch 5).  The loops of
  branches 2 to 4 are a mirror or the identity on an array of any even size (`negMirrorPass_mirror`,
  `mirrorPass_mirror`, `fold_single`); that this is the automorphism on those cells is one computation of `autE`.
-/
import SpqProofs.Lemmas.CoeffsAutLevel
import SpqProofs.Lemmas.CoeffsFold
import SpqProofs.Lemmas.CoeffsAutPass
namespace Spq.Rq
open Spq
variable {α : Type}

/-- on multiples of `2^b` the exponent is `k·vp`, with `vp = 2^b·pm mod 2N` the loop variable -/
theorem autE_mul (N b pm k v : Nat) (hN : 0 < N) (hv : v < 2 * N)
    (h : (k : ZMod (2 * N)) * ((2 ^ b * pm % (2 * N) : Nat) : ZMod (2 * N)) = v) :
    autE N pm (2 ^ b * k) = v := by
  apply autE_eq N pm _ v hN hv
  rw [← h, ZMod.natCast_mod]; push_cast; ring

theorem odd_mul_N (N c : Nat) (hc : c % 2 = 1) : (c : ZMod (2 * N)) * (N : ZMod (2 * N)) = N := by
  obtain ⟨k, hk⟩ : ∃ k, c = 2 * k + 1 := ⟨c / 2, by omega⟩
  have h0 : ((2 * N : Nat) : ZMod (2 * N)) = 0 := ZMod.natCast_self _
  rw [hk]; push_cast at h0 ⊢
  linear_combination (k : ZMod (2 * N)) * h0

theorem mod_pow_succ_mod (b z : Nat) : z % 2 ^ (b + 1) % 2 ^ b = z % 2 ^ b :=
  Nat.mod_mod_of_dvd _ ⟨2, by ring⟩

theorem mod_succ_cases (b y : Nat) (h : y % 2 ^ b = 0) :
    y % 2 ^ (b + 1) = 0 ∨ y % 2 ^ (b + 1) = 2 ^ b := by
  obtain ⟨k, rfl⟩ := Nat.dvd_of_mod_eq_zero h
  rw [pow_succ, Nat.mul_mod_mul_left]
  rcases Nat.mod_two_eq_zero_or_one k with hk | hk <;> simp [hk]

theorem cls_odd (b y : Nat) (h : y % 2 ^ (b + 1) = 2 ^ b) : ∃ k, k % 2 = 1 ∧ y = 2 ^ b * k := by
  have e := Nat.div_add_mod y (2 ^ (b + 1))
  rw [h] at e
  exact ⟨2 * (y / 2 ^ (b + 1)) + 1, by omega, e.symm.trans (by ring)⟩

theorem cls_pos (b y : Nat) (h : y % 2 ^ (b + 1) = 2 ^ b) : 0 < y := by
  have hB : 0 < 2 ^ b := Nat.pow_pos (by norm_num)
  rcases Nat.eq_zero_or_pos y with rfl | h0
  · rw [Nat.zero_mod] at h; omega
  · exact h0

theorem mod_zero_lt_two (x m : Nat) (h : x % m = 0) (hx : x < 2 * m) : x = 0 ∨ x = m := by
  rcases Nat.lt_or_ge x m with c | c
  · left; rwa [Nat.mod_eq_of_lt c] at h
  · right
    rw [mod_eq_sub_of_le c hx] at h
    omega

theorem mirror_mod_sum (N y m : Nat) (hd : m ∣ N) (hy : y ≤ N) (hm : 0 < m) :
    (N - y) % m + y % m = 0 ∨ (N - y) % m + y % m = m := by
  apply mod_zero_lt_two
  · rw [← Nat.add_mod, Nat.sub_add_cancel hy]; exact Nat.mod_eq_zero_of_dvd hd
  · have := Nat.mod_lt (N - y) hm
    have := Nat.mod_lt y hm
    omega

abbrev AutMoved (o : Ops α) (N pm : Nat) (D : Nat → Prop) (x res : Array α) : Prop :=
  Moved (autSigma N pm) (fun y t _ => autG o N pm y t) o.zero N D x res

abbrev LevelInv (o : Ops α) (N pm b : Nat) (x res : Array α) : Prop :=
  AutMoved o N pm (fun y => y % 2 ^ b ≠ 0) x res

abbrev AutFin (o : Ops α) (N pm : Nat) (x res : Array α) : Prop :=
  AutMoved o N pm (fun _ => True) x res

theorem sigma_mod_zero (t b pm y : Nat) (hb : b ≤ t) (hy : y % 2 ^ b = 0) :
    autSigma (2 ^ t) pm y % 2 ^ b = 0 := by
  obtain ⟨k, rfl⟩ := Nat.dvd_of_mod_eq_zero hy
  unfold autSigma autE
  have d1 : 2 ^ b ∣ 2 ^ t := Nat.pow_dvd_pow 2 hb
  rw [Nat.mod_mod_of_dvd _ d1, Nat.mod_mod_of_dvd _ (Dvd.dvd.trans d1 ⟨2, by ring⟩), Nat.mul_assoc,
    Nat.mul_mod_right]

theorem sigma_mod_ne (t b pm y : Nat) (hb : b ≤ t) (hpm : pm % 2 = 1) (hy : y % 2 ^ b ≠ 0) :
    autSigma (2 ^ t) pm y % 2 ^ b ≠ 0 := by
  unfold autSigma autE
  have d1 : 2 ^ b ∣ 2 ^ t := Nat.pow_dvd_pow 2 hb
  have d2 : 2 ^ t ∣ 2 * 2 ^ t := ⟨2, by ring⟩
  rw [Nat.mod_mod_of_dvd _ d1, Nat.mod_mod_of_dvd _ (Dvd.dvd.trans d1 d2)]
  intro h
  apply hy
  have hd : 2 ^ b ∣ y * pm := Nat.dvd_of_mod_eq_zero h
  have hc : Nat.Coprime (2 ^ b) pm := by
    apply Nat.Coprime.pow_left
    rw [Nat.coprime_two_left]; exact Nat.odd_iff.2 hpm
  exact Nat.mod_eq_zero_of_dvd (hc.dvd_of_dvd_mul_right hd)

theorem autSigma_cls (t b pm y : Nat) (hb : b < t) (hpm : pm % 2 = 1) (hy : y % 2 ^ (b + 1) = 2 ^ b) :
    autSigma (2 ^ t) pm y % 2 ^ (b + 1) = 2 ^ b := by
  have h0 := sigma_mod_zero t b pm y (Nat.le_of_lt hb) (by rw [← mod_pow_succ_mod, hy, Nat.mod_self])
  rcases mod_succ_cases b _ h0 with h | h
  · exact absurd h (sigma_mod_ne t (b + 1) pm y hb hpm (by rw [hy]; exact Nat.ne_of_gt (Nat.pow_pos (by norm_num))))
  · exact h

theorem LevelInv.step (o : Ops α) (t b pm : Nat) (hb : b < t) (hpm : pm % 2 = 1) (x res res' : Array α)
    (h : LevelInv o (2 ^ t) pm b x res)
    (h' : AutMoved o (2 ^ t) pm (fun y => y % 2 ^ (b + 1) = 2 ^ b) res res') :
    LevelInv o (2 ^ t) pm (b + 1) x res' :=
  (Moved.trans (fun y _ _ => autSigma_lt _ _ _ (Nat.pow_pos (by norm_num)))
    (fun y _ => sigma_mod_ne t b pm y (Nat.le_of_lt hb) hpm) (fun y _ => autSigma_cls t b pm y hb hpm)
    (fun y c d => d (by rw [← mod_pow_succ_mod, c, Nat.mod_self])) h h').congr fun y _ => by
      constructor
      · rintro (d | c)
        · exact fun e => d (by rw [← mod_pow_succ_mod, e, Nat.zero_mod])
        · rw [c]; exact Nat.ne_of_gt (Nat.pow_pos (by norm_num))
      · intro c
        by_cases d : y % 2 ^ b = 0
        · exact Or.inr ((mod_succ_cases b y d).resolve_left c)
        · exact Or.inl d

theorem LevelInv.finish (o : Ops α) (t b pm : Nat) (hb : b ≤ t) (hpm : pm % 2 = 1) (x res res' : Array α)
    (h : LevelInv o (2 ^ t) pm b x res) (h' : AutMoved o (2 ^ t) pm (fun y => y % 2 ^ b = 0) res res') :
    AutFin o (2 ^ t) pm x res' :=
  (Moved.trans (fun y _ _ => autSigma_lt _ _ _ (Nat.pow_pos (by norm_num)))
    (fun y _ => sigma_mod_ne t b pm y hb hpm) (fun y _ => sigma_mod_zero t b pm y hb)
    (fun y c d => d c) h h').congr fun y _ => ⟨fun _ => trivial, fun _ => (Decidable.em _).symm⟩

/-- at `b = t` only the cell `0` is left, and it stays -/
theorem LevelInv.fin_of_top (o : Ops α) (t pm : Nat) (hpm : pm % 2 = 1) (x res : Array α)
    (h : LevelInv o (2 ^ t) pm t x res) : AutFin o (2 ^ t) pm x res := by
  have hN : 0 < 2 ^ t := Nat.pow_pos (by norm_num)
  refine LevelInv.finish o t t pm (Nat.le_refl t) hpm x res res h (Moved.of_fixed res h.1 fun y hy c => ?_)
  obtain rfl : y = 0 := by rwa [Nat.mod_eq_of_lt hy] at c
  exact ⟨by simp [autSigma, autE], fun v => by simp [autG, autE, hN]⟩

theorem case1 (o : Ops α) (t b pm : Nat) (hb : b ≤ t) (hpm : pm % 2 = 1)
    (hc : (2 ^ b * pm) % (2 * 2 ^ t) = 2 ^ b)
    (x res : Array α) (h : LevelInv o (2 ^ t) pm b x res) : AutFin o (2 ^ t) pm x res := by
  have hN : 0 < 2 ^ t := Nat.pow_pos (by norm_num)
  refine LevelInv.finish o t b pm hb hpm x res res h (Moved.of_fixed res h.1 fun y hy c => ?_)
  obtain ⟨k, rfl⟩ := Nat.dvd_of_mod_eq_zero c
  have hE : autE (2 ^ t) pm (2 ^ b * k) = 2 ^ b * k :=
    autE_mul _ b pm k _ hN (by omega) (by rw [hc]; push_cast; ring)
  refine ⟨by rw [autSigma, hE, Nat.mod_eq_of_lt hy], fun v => ?_⟩
  show autG o _ pm _ v = v
  rw [autG, hE, if_pos hy]

theorem negatePass_moved (o : Ops α) (t b pm : Nat) (hc : (2 ^ b * pm) % (2 * 2 ^ t) = 2 ^ b + 2 ^ t)
    (res : Array α) (hs : res.size = 2 ^ t) :
    AutMoved o (2 ^ t) pm (fun y => y % 2 ^ (b + 1) = 2 ^ b) res (negatePass o (2 ^ t) (2 ^ b) res) := by
  have hN : 0 < 2 ^ t := Nat.pow_pos (by norm_num)
  have hB : 0 < 2 ^ b := Nat.pow_pos (by norm_num)
  have hmem : ∀ j, j ∈ Coeffs.stepRange (2 ^ b) (2 ^ t) (2 * 2 ^ b) ↔ j < 2 ^ t ∧ j % 2 ^ (b + 1) = 2 ^ b :=
    fun j => by rw [pow_succ, Nat.mul_comm _ 2]; exact mem_stepRange_odd (2 ^ b) (2 ^ t) j hB
  refine ((fold_single (2 ^ t) (fun v => o.neg v) o.zero _ (nodup_stepRange (2 ^ b) (2 ^ t) (2 * 2 ^ b) (by omega))
    (fun j hj => ((hmem j).1 hj).1) res hs).congr fun y hy => by rw [hmem]; exact and_iff_right hy).congr_map
    fun y hy c => ?_
  obtain ⟨k, hk, rfl⟩ := cls_odd b y c
  have hE : autE (2 ^ t) pm (2 ^ b * k) = 2 ^ b * k + 2 ^ t := by
    apply autE_mul _ b pm k _ hN (by omega)
    have := odd_mul_N (2 ^ t) k hk
    rw [hc]; push_cast at this ⊢
    linear_combination this
  exact ⟨by rw [autSigma, hE, Nat.add_mod_right, Nat.mod_eq_of_lt hy],
    fun v _ _ => by rw [autG, hE, if_neg (by omega)]⟩

theorem case3 (o : Ops α) (t b pm : Nat) (hb : b < t) (hc : (2 ^ b * pm) % (2 * 2 ^ t) = 2 ^ b + 2 ^ t)
    (hpm : pm % 2 = 1) (x res : Array α) (h : LevelInv o (2 ^ t) pm b x res) :
    AutFin o (2 ^ t) pm x (negatePass o (2 ^ t) (2 ^ b) res) := by
  have hB : 0 < 2 ^ b := Nat.pow_pos (by norm_num)
  have hle : 2 ^ (b + 1) ≤ 2 ^ t := Nat.pow_le_pow_right (by norm_num) hb
  have hc1 : (2 ^ (b + 1) * pm) % (2 * 2 ^ t) = 2 ^ (b + 1) := by
    rw [pow_succ, Nat.mul_comm _ 2, Nat.mul_assoc, ← Nat.mul_mod_mod, hc, Nat.mul_add,
      Nat.add_mod_right, Nat.mod_eq_of_lt (by rw [pow_succ] at hle; omega)]
  exact case1 o t (b + 1) pm hb hpm hc1 x _
    (LevelInv.step o t b pm hb hpm x res _ h (negatePass_moved o t b pm hc res h.1))

theorem mirror_mod_zero (N y m : Nat) (hd : m ∣ N) (hy : y ≤ N) : (N - y) % m = 0 ↔ y % m = 0 := by
  rw [← Nat.dvd_iff_mod_eq_zero, ← Nat.dvd_iff_mod_eq_zero, Nat.dvd_sub_iff_right hy hd]

theorem negMirrorPass_mirror (o : Ops α) (M B : Nat) (hB : 0 < B) (hM : 0 < M) (hd : B ∣ M) (res : Array α)
    (hs : res.size = 2 * M) :
    Moved (fun y => 2 * M - y) (fun _ v _ => o.neg v) o.zero (2 * M) (fun y => 0 < y ∧ y % B = 0) res
      (negMirrorPass o (2 * M) B res) := by
  have hm : 2 * M / 2 = M := by omega
  have hl := fun j => mem_stepRange_mul B M j hB
  unfold negMirrorPass
  rw [hm]
  have h1 := fold_mirror (2 * M) (fun v => o.neg v) o.zero _ (nodup_stepRange B M B hB)
    (fun j hj => by have := (hl j).1 hj; omega) res hs
  have h2 := (write_moved (2 * M) (fun v => o.neg v) o.zero M (by omega) _ h1.size).congr_map
    (σ' := fun y => 2 * M - y) (G' := fun _ v _ => o.neg v) (fun y _ d => ⟨by subst d; omega, fun _ _ _ => rfl⟩)
  refine (Moved.trans (fun y hy dc => by simp only [hl] at dc; omega)
    (fun y hy d => by rw [show 2 * M - (2 * M - y) = y by omega]; exact d.symm)
    (fun y hy d => by subst d; omega) (fun y c d => by subst c; simp only [hl] at d; omega) h1 h2).congr
    fun y hy => ?_
  simp only [hl, mirror_mod_zero _ y _ (Dvd.dvd.mul_left hd 2) (Nat.le_of_lt hy)]
  constructor
  · rintro ((h | h) | rfl)
    · exact ⟨h.1, h.2.2⟩
    · exact ⟨by omega, h.2.2⟩
    · exact ⟨hM, Nat.mod_eq_zero_of_dvd hd⟩
  · rintro ⟨h0, hmd⟩
    rcases Nat.lt_trichotomy y M with h | h | h
    · exact Or.inl (Or.inl ⟨h0, h, hmd⟩)
    · exact Or.inr h
    · exact Or.inl (Or.inr ⟨by omega, by omega, hmd⟩)

theorem negMirror_key (o : Ops α) (t b pm : Nat) (hc : (2 ^ b * pm) % (2 * 2 ^ t) + 2 ^ b = 2 * 2 ^ t)
    (y : Nat) (ypos : 0 < y) (hy : y < 2 ^ t) (c : y % 2 ^ b = 0) :
    autSigma (2 ^ t) pm y = 2 ^ t - y ∧ ∀ v, autG o (2 ^ t) pm y v = o.neg v := by
  have hN : 0 < 2 ^ t := Nat.pow_pos (by norm_num)
  obtain ⟨k, rfl⟩ := Nat.dvd_of_mod_eq_zero c
  have hE : autE (2 ^ t) pm (2 ^ b * k) = 2 * 2 ^ t - 2 ^ b * k := by
    apply autE_mul _ b pm k _ hN (by omega)
    have hc' := congrArg (fun (v : Nat) => (v : ZMod (2 * 2 ^ t))) hc
    simp only [Nat.cast_add, ZMod.natCast_self] at hc'
    rw [Nat.cast_sub (by omega), ZMod.natCast_self]
    push_cast at hc' ⊢
    linear_combination (k : ZMod (2 * 2 ^ t)) * hc'
  refine ⟨?_, fun v => ?_⟩
  · rw [autSigma, hE, show 2 * 2 ^ t - 2 ^ b * k = (2 ^ t - 2 ^ b * k) + 2 ^ t by omega,
      Nat.add_mod_right, Nat.mod_eq_of_lt (by omega)]
  · rw [autG, hE, if_neg (by omega)]

theorem negMirrorPass_moved (o : Ops α) (t b pm : Nat) (hb : b < t)
    (hc : (2 ^ b * pm) % (2 * 2 ^ t) + 2 ^ b = 2 * 2 ^ t) (res : Array α) (hs : res.size = 2 ^ t) :
    AutMoved o (2 ^ t) pm (fun y => y % 2 ^ b = 0) res (negMirrorPass o (2 ^ t) (2 ^ b) res) := by
  have hN : 0 < 2 ^ t := Nat.pow_pos (by norm_num)
  obtain ⟨t', rfl⟩ : ∃ t', t = t' + 1 := ⟨t - 1, by omega⟩
  have hN2 : 2 ^ (t' + 1) = 2 * 2 ^ t' := by ring
  have hBN : 2 ^ b ∣ 2 ^ (t' + 1) := Nat.pow_dvd_pow 2 (by omega)
  have h := negMirrorPass_mirror o (2 ^ t') (2 ^ b) (Nat.pow_pos (by norm_num)) (Nat.pow_pos (by norm_num))
    (Nat.pow_dvd_pow 2 (by omega)) res (hs.trans hN2)
  rw [← hN2] at h
  refine (Moved.trans (fun y _ _ => autSigma_lt _ _ _ hN) (fun y hy d => ?_) (fun y hy c => ?_)
    (fun y c d => by omega) (Moved.of_fixed (D := fun y => y = 0) res hs fun y hy d => ?_)
    (h.congr_map fun y hy c => ?_)).congr fun y hy => ⟨?_, fun c => ?_⟩
  · subst d; simp [autSigma, autE]
  · rw [(negMirror_key o _ b pm hc y c.1 hy c.2).1]
    exact ⟨by omega, (mirror_mod_zero _ y _ hBN (by omega)).2 c.2⟩
  · subst d
    exact ⟨by simp [autSigma, autE], fun v => by simp [autG, autE, hN]⟩
  · obtain ⟨hsig, hg⟩ := negMirror_key o _ b pm hc y c.1 hy c.2
    exact ⟨hsig, fun v _ _ => hg v⟩
  · rintro (rfl | h)
    · exact Nat.zero_mod _
    · exact h.2
  · exact (Nat.eq_zero_or_pos y).imp_right fun h => ⟨h, c⟩

theorem mirror_mod_cls (N y B : Nat) (hd : 2 * B ∣ N) (hy : y ≤ N) (hB : 0 < B) :
    (N - y) % (2 * B) = B ↔ y % (2 * B) = B := by
  have := mirror_mod_sum N y (2 * B) hd hy (by omega)
  omega

theorem mirrorPass_mirror (o : Ops α) (M B : Nat) (hB : 0 < B) (hd : 2 * B ∣ M) (res : Array α)
    (hs : res.size = 2 * M) :
    Moved (fun y => 2 * M - y) (fun _ v _ => v) o.zero (2 * M) (fun y => y % (2 * B) = B) res
      (mirrorPass o (2 * M) B res) := by
  have hm : 2 * M / 2 = M := by omega
  have hl := fun j => mem_stepRange_odd B M j hB
  have hM0 : M % (2 * B) = 0 := Nat.mod_eq_zero_of_dvd hd
  have hpos : ∀ j, j % (2 * B) = B → 0 < j := fun j h => by
    rcases Nat.eq_zero_or_pos j with rfl | h0
    · rw [Nat.zero_mod] at h; omega
    · exact h0
  unfold mirrorPass
  rw [hm]
  refine (fold_mirror (2 * M) (fun v => v) o.zero _ (nodup_stepRange B M (2 * B) (by omega))
    (fun j hj => by have h' := (hl j).1 hj; have := hpos j h'.2; omega) res hs).congr fun y hy => ?_
  rw [hl, hl, mirror_mod_cls _ y B (Dvd.dvd.mul_left hd 2) (Nat.le_of_lt hy) hB]
  constructor
  · rintro (h | h) <;> exact h.2
  · intro c
    have : y ≠ M := fun e => by rw [e, hM0] at c; omega
    rcases Nat.lt_or_ge y M with h | h
    · exact Or.inl ⟨h, c⟩
    · exact Or.inr ⟨by omega, c⟩

theorem mirrorPass_moved (o : Ops α) (t b pm : Nat) (hb : b + 1 < t)
    (hc : (2 ^ b * pm) % (2 * 2 ^ t) + 2 ^ b = 2 ^ t) (res : Array α) (hs : res.size = 2 ^ t) :
    AutMoved o (2 ^ t) pm (fun y => y % 2 ^ (b + 1) = 2 ^ b) res (mirrorPass o (2 ^ t) (2 ^ b) res) := by
  have hN : 0 < 2 ^ t := Nat.pow_pos (by norm_num)
  obtain ⟨t', rfl⟩ : ∃ t', t = t' + 1 := ⟨t - 1, by omega⟩
  have hN2 : 2 ^ (t' + 1) = 2 * 2 ^ t' := by ring
  have hB2 : 2 ^ (b + 1) = 2 * 2 ^ b := by ring
  have h := mirrorPass_mirror o (2 ^ t') (2 ^ b) (Nat.pow_pos (by norm_num))
    (hB2 ▸ Nat.pow_dvd_pow 2 (by omega)) res (hs.trans hN2)
  rw [← hN2, ← hB2] at h
  refine h.congr_map fun y hy c => ?_
  have ypos := cls_pos b y c
  obtain ⟨k, hk, rfl⟩ := cls_odd b y c
  have hE : autE (2 ^ (t' + 1)) pm (2 ^ b * k) = 2 ^ (t' + 1) - 2 ^ b * k := by
    apply autE_mul _ b pm k _ hN (by omega)
    have hc' := congrArg (fun (v : Nat) => (v : ZMod (2 * 2 ^ (t' + 1)))) hc
    have ho := odd_mul_N (2 ^ (t' + 1)) k hk
    rw [Nat.cast_sub (by omega)]
    push_cast at hc' ho ⊢
    linear_combination (k : ZMod (2 * 2 ^ (t' + 1))) * hc' + ho
  exact ⟨by rw [autSigma, hE, Nat.mod_eq_of_lt (by omega)], fun t u u' => by rw [autG, hE, if_pos (by omega)]⟩

end Spq.Rq
