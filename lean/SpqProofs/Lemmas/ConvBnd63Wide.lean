/-
  The repaired bnd63 kernel on its extended range 2^52 ≤ |x/d| < 2^63: `x/d` is then an integer, the addition
  `x + sign(x)·pred(d/2)` returns `x` (pred(d/2) is below half an ulp of `x`: `rnS_absorb`), and the extraction
  returns `±⌊|x|/d⌋`, which is exactly `x/d`.  (With the old offset `d/2` odd integers in [2^52, 2^53) are rounded to even.)
-/
import SpqProofs.Lemmas.ConvBnd63Fix

namespace Spq.Conv
open Spq.F64

theorem toZnx64Bnd63Lane_wide (j : Int) (hj1 : -1020 ≤ j) (hj2 : j ≤ 961) (x : Nat)
    (hx64 : x < 18446744073709551616)
    (hlo : 4503599627370496 * toScaled (pow2 j) ≤ |toScaled x|)
    (hhi : |toScaled x| < 9223372036854775808 * toScaled (pow2 j)) :
    toZnx64Bnd63Lane (bnd63Offset (pow2 j)) (bnd63DiviBits (pow2 j)) x * toScaled (pow2 j) = toScaled x := by
  obtain ⟨m, a, hx, hm, ha, hnorm⟩ := toScaled_form x
  obtain ⟨b, hb⟩ : ∃ b : Nat, (b : Int) = j + 1074 := ⟨(j + 1074).toNat, by omega⟩
  have hd : toScaled (pow2 j) = ((2 ^ b : Nat) : Int) := by
    rw [toScaled_pow2 j (by omega) (by omega)]; push_cast; congr 1; omega
  have hxa : |toScaled x| = ((m * 2 ^ a : Nat) : Int) := by rw [hx, abs_sI]
  rw [hxa, hd] at hlo hhi
  have hloN : 4503599627370496 * 2 ^ b ≤ m * 2 ^ a := by exact_mod_cast hlo
  have hhiN : m * 2 ^ a < 9223372036854775808 * 2 ^ b := by exact_mod_cast hhi
  -- `2^52·d ≤ |x| < 2^53·ulp x`: the grid of `x` is at least `d`, so `x` is normal and `d ∣ x`
  have hab : b ≤ a := by
    have h1 : m * 2 ^ a < 2 ^ 53 * 2 ^ a := Nat.mul_lt_mul_of_pos_right (by norm_num; exact hm) (by positivity)
    have := exp_lt_of_mul_lt (lt_of_le_of_lt hloN h1)
    omega
  have hmn : 4503599627370496 ≤ m := by rcases hnorm with h | h <;> omega
  have ha' : a ≤ 2045 := by
    have h1 : 4503599627370496 * 2 ^ a ≤ m * 2 ^ a := Nat.mul_le_mul_right _ hmn
    have h2 : (9223372036854775808 : Nat) * 2 ^ b = 2 ^ 63 * 2 ^ b := by norm_num
    rw [h2] at hhiN
    have := exp_lt_of_mul_lt (lt_of_le_of_lt h1 hhiN)
    omega
  -- the offset `(2^53 − 1)·2^(b − 54)` is below half a unit of `x`: the sum rounds back to `x`
  obtain ⟨hc63, hc⟩ := decode_bnd63Offset j hj1 (by omega)
  have hoff : (toScaled (bnd63Offset (pow2 j))).natAbs = 9007199254740991 * 2 ^ (b - 54) := by
    rw [toScaled_of_decode' hc, sI_mul_pow, sI_natAbs]; congr 2; omega
  obtain ⟨hasign, hsum⟩ := bnd63_sum_val (c := bnd63Offset (pow2 j)) hx64 hc63
  have hax : toScaled (add x (sgn (signBit x) ||| bnd63Offset (pow2 j))) = toScaled x := by
    rw [hsum, hoff, hx, sI_natAbs]
    refine rnS_absorb _ m a _ hmn hm ha' ?_
    have : 2 * (9007199254740992 * 2 ^ (b - 54)) = 2 ^ b := by
      rw [show (9007199254740992 : Nat) = 2 ^ 53 by norm_num, ← pow_add, ← pow_succ']; congr 1; omega
    have : 2 ^ b ≤ 2 ^ a := Nat.pow_le_pow_right (by norm_num) hab
    have : 0 < 2 ^ (b - 54) := by positivity
    omega
  obtain ⟨R, hlane, hR1, hR2⟩ := bnd63Lane_val j (by omega) (by omega) hasign
    (by rw [hax, hxa]; exact_mod_cast le_trans (Nat.le_mul_of_pos_right _ (by positivity)) hloN)
    (by rw [hax, hxa, hd]; exact hhi)
  rw [hax, hxa, hd] at hR1 hR2
  obtain ⟨t, rfl⟩ : ∃ t, a = b + t := ⟨a - b, by omega⟩
  have e1 : m * 2 ^ (b + t) = m * 2 ^ t * 2 ^ b := by rw [pow_add]; ring
  have hR : R = m * 2 ^ t := by
    have h1 : R * 2 ^ b ≤ m * 2 ^ t * 2 ^ b := by rw [← e1]; exact_mod_cast hR1
    have h2 : m * 2 ^ t * 2 ^ b < (R + 1) * 2 ^ b := by rw [← e1]; exact_mod_cast hR2
    have := Nat.le_of_mul_le_mul_right h1 (by positivity)
    have := Nat.lt_of_mul_lt_mul_right h2
    omega
  rw [hlane, hR, hx, hd, e1]; exact sI_mul_nat _ _ _

end Spq.Conv
