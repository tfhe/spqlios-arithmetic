/- devices that make a table of names cheap for the kernel to check -/
namespace Spq.Table

/-- `String` equality behind a comparison of lengths.  The kernel compares two literals byte by byte in their UTF-8
    encoding, and the names in a dispatch table share long prefixes; the length costs one `Nat` comparison. -/
@[instance_reducible] def lenBEq : BEq String := ⟨fun a b => a.utf8ByteSize == b.utf8ByteSize && a == b⟩

theorem lenBEq_eq : lenBEq = instBEqOfDecidableEq := by
  unfold lenBEq instBEqOfDecidableEq
  congr
  funext a b
  by_cases h : a = b <;> simp [h]

variable {α κ γ : Type} [BEq κ]

/-- `l.all fun r => f (g (key r)) r` for a list that comes in runs of equal keys: `g` is computed where the key changes. -/
def allByRuns (key : α → κ) (g : κ → γ) (f : γ → α → Bool) (k : κ) (c : γ) : List α → Bool
  | [] => true
  | r :: rs =>
    if key r == k then f c r && allByRuns key g f k c rs
    else f (g (key r)) r && allByRuns key g f (key r) (g (key r)) rs

theorem allByRuns_eq [LawfulBEq κ] (key : α → κ) (g : κ → γ) (f : γ → α → Bool) (k : κ) (l : List α) :
    allByRuns key g f k (g k) l = l.all fun r => f (g (key r)) r := by
  induction l generalizing k with
  | nil => rfl
  | cons r rs ih =>
    rw [allByRuns, List.all_cons]
    split
    · next h => rw [ih, eq_of_beq h]
    · rw [ih]

/-! A dispatch row `(site, mask, kernel, log2s)` is checked against a table of the kernels allowed per site and a table of the
    least log2 per (site, kernel).  Both are keyed by the site first, so what they say about a site can be looked up once for
    the run of rows of that site (`allByRuns` with `g := siteInfo classes minLg`, `f := rowOKAt`). -/

/-- what the check of a row reads of the two tables for site `s` -/
def siteInfo [BEq String] (classes : List (String × List String)) (minLg : List (String × String × Nat)) (s : String) :
    Option (List String) × List (String × String × Nat) :=
  (classes.lookup s, minLg.filter fun e => e.1 == s)

def rowOKAt [BEq String] (c : Option (List String) × List (String × String × Nat))
    (r : String × Nat × String × List Nat) : Bool :=
  match c.1 with
  | some ks => ks.contains r.2.2.1 && r.2.2.2.all fun lg =>
      decide ((match c.2.find? (fun e => e.2.1 == r.2.2.1) with | some e => e.2.2 | none => 0) ≤ lg)
  | none => false

theorem rowOKAt_siteInfo (classes : List (String × List String)) (minLg : List (String × String × Nat))
    (r : String × Nat × String × List Nat) :
    rowOKAt (siteInfo classes minLg r.1) r =
      match classes.lookup r.1 with
      | some ks => ks.contains r.2.2.1 && r.2.2.2.all fun lg =>
          decide ((match minLg.find? (fun e => e.1 == r.1 && e.2.1 == r.2.2.1) with | some e => e.2.2 | none => 0) ≤ lg)
      | none => false := by
  simp only [rowOKAt, siteInfo, List.find?_filter, Bool.decide_and, Bool.decide_eq_true]

end Spq.Table
