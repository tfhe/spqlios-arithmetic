/-
  Number theory behind the in-place automorphism: modulo `2^(n+2)`, every odd residue is `± 5^e` for a
  unique `e` modulo `2^n` (i.e. (Z/2^(n+2))^× = ⟨-1⟩ × ⟨5⟩), from Mathlib's `ZMod.orderOf_five`.
  Stated as divisibility facts over `Int` so that later files need no group theory.
-/
import Mathlib.RingTheory.ZMod.UnitsCyclic
namespace Spq.Rq

theorem coprime_five_two_pow (k : Nat) : Nat.Coprime 5 (2 ^ k) :=
  Nat.Coprime.pow_right k (by decide)

noncomputable def u5 (n : Nat) : (ZMod (2 ^ (n + 2)))ˣ := ZMod.unitOfCoprime 5 (coprime_five_two_pow (n + 2))

theorem u5_val (n : Nat) : ((u5 n : (ZMod (2 ^ (n + 2)))ˣ) : ZMod (2 ^ (n + 2))) = 5 := by
  simp [u5, ZMod.coe_unitOfCoprime]

theorem orderOf_u5 (n : Nat) : orderOf (u5 n) = 2 ^ n := by
  rw [← orderOf_units, u5_val]; exact ZMod.orderOf_five n

theorem int_dvd_iff_zmod (n : Nat) (x : Int) :
    (2 : Int) ^ (n + 2) ∣ x ↔ ((x : Int) : ZMod (2 ^ (n + 2))) = 0 := by
  rw [ZMod.intCast_zmod_eq_zero_iff_dvd]; push_cast; rfl

theorem five_pow_sub_dvd_iff (n e e' : Nat) :
    (2 : Int) ^ (n + 2) ∣ (5 : Int) ^ e - 5 ^ e' ↔ e ≡ e' [MOD 2 ^ n] := by
  rw [int_dvd_iff_zmod, ← orderOf_u5 n, ← pow_eq_pow_iff_modEq, Units.ext_iff]
  push_cast
  rw [u5_val, sub_eq_zero]

theorem five_pow_mod_four (e : Nat) : (5 : Int) ^ e % 4 = 1 := by
  induction e with
  | zero => rfl
  | succ e ih => rw [pow_succ, Int.mul_emod, ih]; rfl

theorem five_pow_add_not_dvd (n e e' : Nat) : ¬ (2 : Int) ^ (n + 2) ∣ (5 : Int) ^ e + 5 ^ e' := by
  intro h
  have h4 : (4 : Int) ∣ (5 : Int) ^ e + 5 ^ e' := Dvd.dvd.trans ⟨2 ^ n, by ring⟩ h
  have a := five_pow_mod_four e
  have b := five_pow_mod_four e'
  omega

theorem card_units_two_pow (n : Nat) : Fintype.card (ZMod (2 ^ (n + 2)))ˣ = 2 * 2 ^ n := by
  rw [ZMod.card_units_eq_totient, Nat.totient_prime_pow Nat.prime_two (by omega)]
  simp [pow_succ]; ring

theorem mem_zpowers_u5 (n : Nat) (x : (ZMod (2 ^ (n + 2)))ˣ) (hx : x ∈ Subgroup.zpowers (u5 n)) :
    ∃ e, e < 2 ^ n ∧ (x : ZMod (2 ^ (n + 2))) = 5 ^ e := by
  rw [← mem_powers_iff_mem_zpowers] at hx
  obtain ⟨k, rfl⟩ := (Submonoid.mem_powers_iff _ _).1 hx
  refine ⟨k % 2 ^ n, Nat.mod_lt _ (by positivity), ?_⟩
  rw [← orderOf_u5 n, ← u5_val n, ← Units.val_pow_eq_pow_val, pow_mod_orderOf]

theorem index_zpowers_u5 (n : Nat) : (Subgroup.zpowers (u5 n)).index = 2 := by
  have := Subgroup.card_mul_index (Subgroup.zpowers (u5 n))
  rw [Nat.card_zpowers, orderOf_u5, Nat.card_eq_fintype_card, card_units_two_pow, Nat.mul_comm 2] at this
  exact Nat.eq_of_mul_eq_mul_left (by positivity) this

theorem neg_one_not_mem_zpowers_u5 (n : Nat) : (-1 : (ZMod (2 ^ (n + 2)))ˣ) ∉ Subgroup.zpowers (u5 n) := by
  intro h
  obtain ⟨e, -, he⟩ := mem_zpowers_u5 n _ h
  apply five_pow_add_not_dvd n 0 e
  rw [int_dvd_iff_zmod]; push_cast; rw [← he]; simp

/-- `⟨5⟩` has index 2 and misses `-1`, so `u` or `-u` is in it -/
theorem odd_dlog (n : Nat) (u : Nat) (hu : u % 2 = 1) :
    ∃ e, e < 2 ^ n ∧ ((2 : Int) ^ (n + 2) ∣ (u : Int) - 5 ^ e ∨ (2 : Int) ^ (n + 2) ∣ (u : Int) + 5 ^ e) := by
  have hcop : Nat.Coprime u (2 ^ (n + 2)) := by
    apply Nat.Coprime.pow_right
    rw [Nat.coprime_two_right]; exact Nat.odd_iff.2 hu
  have hx : ((ZMod.unitOfCoprime u hcop : (ZMod (2 ^ (n + 2)))ˣ) : ZMod (2 ^ (n + 2))) = u :=
    ZMod.coe_unitOfCoprime u hcop
  have hm := Subgroup.mul_mem_iff_of_index_two (index_zpowers_u5 n) (a := -1) (b := ZMod.unitOfCoprime u hcop)
  by_cases c : ZMod.unitOfCoprime u hcop ∈ Subgroup.zpowers (u5 n)
  · obtain ⟨e, he, hv⟩ := mem_zpowers_u5 n _ c
    refine ⟨e, he, Or.inl ?_⟩
    rw [int_dvd_iff_zmod]; push_cast; rw [← hv, hx, sub_self]
  · obtain ⟨e, he, hv⟩ := mem_zpowers_u5 n _
      (hm.2 ⟨fun h => absurd h (neg_one_not_mem_zpowers_u5 n), fun h => absurd h c⟩)
    refine ⟨e, he, Or.inr ?_⟩
    rw [int_dvd_iff_zmod]; push_cast; rw [← hv]
    simp

end Spq.Rq
