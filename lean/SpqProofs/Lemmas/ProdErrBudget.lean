/-
  C01 rounding budget in the property's form `12·(k+1)·2^-53·S` (it bounds the budget of `pipe_out`), the domain of the
  final conversion from it, and the limbs of `vec_znx_idft` and `svp_apply_dft` in the binary64 module.
-/
import SpqProofs.Lemmas.ProdErrPipe3
import SpqProofs.Lemmas.ModuleVec
namespace Spq.ProdErr
open Finset Spq Spq.Module Spq.F64 Spq.FftErr Spq.Conv
variable {K : Type} [Field K] [LinearOrder K] [IsStrictOrderedRing K]

theorem budget_le16 (k : ℕ) (hk : k ≤ 16) (a b : Array Int) (na nb : K) (hna : 0 ≤ na) (hnb : 0 ≤ nb) :
    budget K k a b na nb ≤
      ((12 * (k + 1 : ℚ) * u64 : ℚ) : K) * (n1 K a (2 * 2 ^ k) * nb + na * n1 K b (2 * 2 ^ k)) := by
  unfold budget
  have h2 : (0 : K) ≤ n1 K a (2 * 2 ^ k) := n1_nonneg a _
  have h3 : (0 : K) ≤ n1 K b (2 * 2 ^ k) := n1_nonneg b _
  exact mul_le_mul_of_nonneg_right (budget16K k hk) (add_nonneg (mul_nonneg h2 hnb) (mul_nonneg hna h3))

theorem toZnx_size (c : Cfg) (k : ℕ) (hnn : c.nn = 2 * 2 ^ k) (hv : c.toVariant ≠ .ref → 1 ≤ k) (d : Array ℕ) :
    ((Cfg.parts c).toZnx d).size = 2 * 2 ^ k := by
  have hm : c.nn / 2 = 2 ^ k := by rw [hnn]; exact two_mul_pow_half k
  have hpos : 0 < 2 ^ k := Nat.two_pow_pos k
  show (toZnx64 c.toVariant (c.nn / 2) (F64.ofNat (c.nn / 2)) d).size = _
  rw [hm]
  cases hvar : c.toVariant with
  | ref => exact scalarLoop_size _ _
  | bnd50 => exact chunks4_size _ _ hpos (two_mul_pow_mod_four k (hv (by rw [hvar]; simp)))
  | bnd63 => exact chunks4_size _ _ hpos (two_mul_pow_mod_four k (hv (by rw [hvar]; simp)))

theorem idft_limb (c : Cfg) (k : ℕ) (hnn : c.nn = 2 * 2 ^ k) (hv : c.toVariant ≠ .ref → 1 ≤ k) (rsz2 : ℕ) (d : Array ℕ)
    (dsz i : ℕ) (hi : i < rsz2) :
    dlimb (vecIdft (Cfg.parts c) rsz2 d dsz) i (2 * 2 ^ k) =
      if i < dsz then (Cfg.parts c).toZnx ((Cfg.parts c).ifft (dlimb d i (2 * 2 ^ k)))
      else Array.replicate (2 * 2 ^ k) 0 := by
  have hn : (Cfg.parts c).nn = 2 * 2 ^ k := hnn
  obtain ⟨_, b2⟩ := vecIdft_spec (Cfg.parts c) rsz2 d dsz _ (fun i _ => rfl)
    (by
      intro i _
      split
      · rw [hn]; exact toZnx_size c k hnn hv _
      · simp)
  have b := b2 i hi
  rw [hn] at b
  exact b

theorem svp_limb (c : Cfg) (k : ℕ) (cN sN cNi sNi : ℕ → ℕ) (h : CfgOk c k cN sN cNi sNi) (rsz : ℕ) (ppol : Array ℕ)
    (vec : Array Int) (asz asl i : ℕ) (hi : i < rsz) :
    dlimb (svpApply (Cfg.parts c) rsz ppol vec asz asl) i (2 * 2 ^ k) =
      if i < asz then
        Module.mul (Cfg.parts c) ((Cfg.parts c).fft ((Cfg.parts c).fromZnx (limbOf vec i asl (2 * 2 ^ k)))) ppol
      else Array.replicate (2 * 2 ^ k) 0 := by
  have hn : (Cfg.parts c).nn = 2 * 2 ^ k := h.nn
  obtain ⟨_, a2⟩ := svpApply_spec (Cfg.parts c) rsz ppol vec asz asl _ (fun i _ => rfl)
    (by
      intro j _
      split
      · rw [hn]; exact mul_size c k cN sN cNi sNi h _ _
      · simp)
  have a := a2 i hi
  rw [hn] at a
  exact a

theorem int_eq_of_lt_one (r n : ℤ) (h : |(r : K) - (n : K)| < 1) : r = n := by
  have h1 : ((|r - n| : ℤ) : K) < ((1 : ℤ) : K) := by push_cast; exact h
  have h2 : |r - n| < 1 := Int.cast_lt.1 h1
  have := Int.abs_lt_one_iff.1 h2
  omega

theorem array_eq_of_cells (N : ℕ) (x y : Array Int) (hx : x.size = N) (hy : y.size = N)
    (h : ∀ i, i < N → ∃ r, x[i]? = some r ∧ r = y.getD i 0) : x = y := by
  apply ext_getD 0 (by rw [hx, hy])
  intro i hi
  obtain ⟨r, h1, h2⟩ := h i (by omega)
  rw [getD_of_getElem? h1, h2]

theorem Size.outDom {C : Ctx K} {a b : Array Int} {na nb : K} (sa : Size C a na) (sb : Size C b nb) (B : K)
    (hB : B ≤ ((12 * (C.k + 1 : ℚ) * u64 : ℚ) : K) * (n1 K a C.N * nb + na * n1 K b C.N))
    (hE : ((12 * (C.k + 1 : ℚ) * u64 : ℚ) : K) * (n1 K a C.N * nb + na * n1 K b C.N) < 1 / 2) :
    ∀ i, i < C.N → |(((Spq.nmul C.N a b).getD i 0 : Int) : K)| + B < ((Bv C.c.toVariant : ℚ) : K) := fun i hi =>
  dom_of_small _ (12 * (C.k + 1 : ℚ) * u64) (by have := coef12_le C.k 0 (le_refl 0); linarith) _ _ _
    (add_nonneg (mul_nonneg (n1_nonneg _ _) sb.1) (mul_nonneg sa.1 (n1_nonneg _ _))) ((sa.nmul sb).coord i hi) hB hE

end Spq.ProdErr
