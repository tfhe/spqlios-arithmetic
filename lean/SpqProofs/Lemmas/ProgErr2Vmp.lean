/-
  C16, binary64 side, products of products: `vmpDD_metric` — binary64 `vmp_apply_dft_to_dft` on an operand
  satisfying the metric invariant, against the prepared matrix of an integer matrix, satisfies the metric invariant for
  the exact vector-matrix product with the propagated budgets `δ'`; `vmp_metric` — the same for `vmp_apply_dft` of an
  integer vector (`= vmp_apply_dft_to_dft ∘ vec_znx_dft`, budgets `ε·na_i` in).
-/
import SpqProofs.Lemmas.ProgErr2Rep
import SpqProofs.Lemmas.ProgErrOps
namespace Spq.ProgErr2
open Finset Spq Spq.Module Spq.Fft Spq.Fft.Alg Spq.FftErr Spq.F64 Spq.Reim4 Spq.ProdErr Spq.VmpErr Spq.ProgErr Spq.Closed
  Spq.Prog
variable {K : Type} [Field K] [LinearOrder K] [IsStrictOrderedRing K]

/-- **budget of one `vmp_apply_dft_to_dft`** (matrix `mat`, `nrows × ncols`, flat with stride `N`; exact limbs `P i` of
    the operand with incoming budgets `δ`; concrete operand `d`; `rsz` result limbs with target budgets `δ'`):
    the matrix entries are in the box, and for every column `j < min ncols rsz` that is not trivially zero:
    forward flags of the entries of column `j`, flags of the accumulation of column `j` ON THE CONCRETE OPERAND `d`
    (`vmpFlagD`), and `colDelta ≤ δ'_j` for some `na_i ≥ ‖P_i‖₂`, `nb_i ≥ ‖M_ij‖₂`, where
      `colDelta = Σ_{i<n} rowF μ_n δ_i (ε·nb_i) na_i nb_i ‖P_i‖₁ ‖M_ij‖₁ m`,  `n = min nrows asz`, `μ_n = 3/2·γ(n)`. -/
def VmpDDBudget (M : F64Mod K) (mat : Array Int) (nrows ncols : ℕ) (P : ℕ → Array Int) (d : Array ℕ) (asz rsz : ℕ)
    (δ δ' : ℕ → K) : Prop :=
  (∀ i j, i < nrows → j < ncols → Box M.k (matEntry mat ncols M.N i j)) ∧
  ∀ j, j < min ncols rsz → (M.k < 2 → 0 < min nrows asz) →
    (∀ i, i < min nrows asz → FwdOk M.c M.k M.cN M.sN (matEntry mat ncols M.N i j)) ∧
    (∀ p, p < M.N → vmpFlagD M.c mat nrows ncols d asz rsz (j * M.N + p)) ∧
    ∃ na nb : ℕ → K, (∀ i, i < min nrows asz → 0 ≤ na i) ∧ (∀ i, i < min nrows asz → 0 ≤ nb i) ∧
      (∀ i, i < min nrows asz → n2sq K (P i) M.N ≤ na i ^ 2) ∧
      (∀ i, i < min nrows asz → n2sq K (matEntry mat ncols M.N i j) M.N ≤ nb i ^ 2) ∧
      colDelta M mat ncols (min nrows asz) P j δ na nb ≤ δ' j

theorem VmpDDBudget.congr {M : F64Mod K} {mat : Array Int} {nrows ncols : ℕ} {P P' : ℕ → Array Int} {d : Array ℕ}
    {asz rsz : ℕ} {δ δ' : ℕ → K} (h : VmpDDBudget M mat nrows ncols P d asz rsz δ δ')
    (hP : ∀ i, i < min nrows asz → P' i = P i) : VmpDDBudget M mat nrows ncols P' d asz rsz δ δ' := by
  obtain ⟨h1, h2⟩ := h
  refine ⟨h1, fun j hj hpos => ?_⟩
  obtain ⟨b1, b2, na, nb, c1, c2, c3, c4, c5⟩ := h2 j hj hpos
  refine ⟨b1, b2, na, nb, c1, c2, fun i hi => by rw [hP i hi]; exact c3 i hi, c4, le_of_eq_of_le ?_ c5⟩
  exact sum_congr rfl fun i hi => by rw [hP i (mem_range.1 hi)]

/-- **`vmpDD_metric`** over rows `g` (as `dft_metric`, `svp_metric` are): only the rows `i < min nrows asz` that are
    read need to satisfy the invariant -/
theorem vmpDD_metric_rows (M : F64Mod K) (g : ℕ → ℕ → ℤ) (asz rsz : ℕ) (d : Array ℕ) (δ : ℕ → K) (Mv : Val) (nrows ncols : ℕ)
    (hrep : ∀ i, i < min nrows asz → LimbMetric M (dlimb d i M.N) (polyArr M.N (g i)) (δ i))
    (δ' : ℕ → K) (hδ0 : ∀ j, j < rsz → 0 ≤ δ' j)
    (hb : VmpDDBudget M (matOf M Mv nrows ncols) nrows ncols (fun i => polyArr M.N (g i)) d asz rsz δ δ') :
    MetricRep M (Val.mk M.N rsz (Prog.vmpVal M.N asz (zext asz g) Mv nrows ncols)) rsz
      (vmpApplyDftToDft M.parts rsz d asz (vmpPrepare M.parts (matOf M Mv nrows ncols) nrows ncols) nrows ncols) δ' := by
  obtain ⟨hM, hcol⟩ := hb
  have hnn := p_nn M.c M.k M.cN M.sN M.cNi M.sNi M.ok
  have hT : ∀ row col, row < nrows → col < ncols →
      (matDft (Cfg.parts M.c) (matOf M Mv nrows ncols) ncols row col).size = (Cfg.parts M.c).nn := by
    intro row col hr hc
    rw [matDft_stF M.c M.k M.cN M.sN M.cNi M.sNi M.ok, hnn]
    exact stF_size M.c M.k M.cN M.sN M.cNi M.sNi M.ok.cfg _ (hM row col hr hc)
  obtain ⟨_, _, z1, z2⟩ := vmp_layout_g (Cfg.parts M.c) (p_hnn M.c M.k M.cN M.sN M.cNi M.sNi M.ok)
    (p_hblk M.c M.k M.cN M.sN M.cNi M.sNi M.ok) (p_hsm M.c M.k M.cN M.sN M.cNi M.sNi M.ok) (matOf M Mv nrows ncols)
    nrows ncols rsz asz d (fun _ => hT)
  refine ⟨vmpResD_size M (matOf M Mv nrows ncols) nrows ncols d asz rsz hM,
    limbwise M.N rsz (fun j dl y => LimbMetric M dl y (δ' j)) _
      (fun j => j < min ncols rsz ∧ ¬ (M.k < 2 ∧ min nrows asz = 0)) _ (fun j hj h => ?_)
      (fun j hj h => ⟨limbMetric_zero M _ _ (hδ0 j hj) fun p hp => ?_, fun t _ => vmpVal_dead _ _ _ _ _ _ _ _ (by omega)⟩)⟩
  · have hpos : M.k < 2 → 0 < min nrows asz := fun h2 => by have := h.2; omega
    obtain ⟨hokB, hokD, na, nb, hna0, hnb0, hna, hnb, hle⟩ := hcol j h.1 hpos
    refine ((vmpDD_col_stage M (matOf M Mv nrows ncols) nrows ncols d asz rsz (fun i => polyArr M.N (g i)) δ
      hrep hM j h.1 hpos hokB hokD na nb hna0 hnb0 hna hnb).mono hle).congr fun t ht => ?_
    rw [colSpecP_getD M _ g Mv asz nrows ncols j t (fun i _ u hu => getD_polyArr _ _ _ hu) (by omega) ht,
      getD_polyArr _ _ _ ht]
  · rw [dlimb_get 0 _ j M.N p hp]
    by_cases hjc : j < min ncols rsz
    · -- `nn < 8`, no usable row: everything is `+0`
      have hz : M.k < 2 ∧ min nrows asz = 0 := not_not.1 fun hn => h ⟨hjc, hn⟩
      have h8 : (Cfg.parts M.c).nn < 8 := by
        rw [hnn]
        have : M.k = 0 ∨ M.k = 1 := by omega
        rcases this with h | h <;> rw [h] <;> norm_num
      exact z2 h8 hz.2 _
    · have := z1 j p (by omega)
      rwa [hnn] at this

theorem vmpDD_metric (M : F64Mod K) (P : Val) (asz rsz : ℕ) (d : Array ℕ) (δ : ℕ → K) (Mv : Val) (nrows ncols : ℕ)
    (hrep : MetricRep M P asz d δ) (δ' : ℕ → K) (hδ0 : ∀ j, j < rsz → 0 ≤ δ' j)
    (hb : VmpDDBudget M (matOf M Mv nrows ncols) nrows ncols (fun i => polyArr M.N (P.coef i)) d asz rsz δ δ') :
    MetricRep M (Val.mk M.N rsz (Prog.vmpVal M.N asz (zext asz fun i t => P.coef i t) Mv nrows ncols)) rsz
      (vmpApplyDftToDft M.parts rsz d asz (vmpPrepare M.parts (matOf M Mv nrows ncols) nrows ncols) nrows ncols) δ' :=
  vmpDD_metric_rows M (fun i t => P.coef i t) asz rsz d δ Mv nrows ncols (fun i hi => hrep.2 i (by omega)) δ' hδ0 hb

/-- **budget of one `vmp_apply_dft`** of the integer vector `a` (`asz` limbs, stride `N`): the rows used satisfy the
    budget of `vec_znx_dft` with some `δ0`, and `VmpDDBudget` holds for the computed transform with `δ0` in -/
def VmpBudgetM (M : F64Mod K) (mat : Array Int) (nrows ncols : ℕ) (a : Array Int) (asz rsz : ℕ) (δ' : ℕ → K) : Prop :=
  ∃ δ0 : ℕ → K, (∀ i, i < min nrows asz → DftLimbBudget M (limbOf a i M.N M.N) (δ0 i)) ∧
    VmpDDBudget M mat nrows ncols (fun i => limbOf a i M.N M.N) (vecDft M.parts (min nrows asz) a asz M.N) asz rsz δ0 δ'

theorem vmp_metric (M : F64Mod K) (asz rsz : ℕ) (f : ℕ → ℕ → ℤ) (Mv : Val) (nrows ncols : ℕ) (δ' : ℕ → K)
    (hδ0 : ∀ j, j < rsz → 0 ≤ δ' j)
    (hb : VmpBudgetM M (matOf M Mv nrows ncols) nrows ncols (flatOf M.N asz f) asz rsz δ') :
    MetricRep M (Val.mk M.N rsz (Prog.vmpVal M.N asz (zext asz f) Mv nrows ncols)) rsz
      (vmpApplyDft M.parts rsz (flatOf M.N asz f) asz M.N (vmpPrepare M.parts (matOf M Mv nrows ncols) nrows ncols)
        nrows ncols) δ' := by
  obtain ⟨δ0, hd, hv⟩ := hb
  have eL : ∀ i, i < min nrows asz → limbOf (flatOf M.N asz f) i M.N M.N = polyArr M.N (f i) :=
    fun i hi => limbOf_flatOf _ _ _ i (by omega)
  have hδ00 : ∀ i, i < min nrows asz → 0 ≤ δ0 i := fun i hi => by
    obtain ⟨_, _, na, hna0, _, hle⟩ := hd i hi
    exact le_trans (mul_nonneg (eps_nonneg M.k) hna0) hle
  have r0 := dft_metric M (flatOf M.N asz f) asz M.N (min nrows asz) f (agree_flatOf _ _ _) δ0 hδ00
    (fun i _ hi => by rw [← eL i hi]; exact hd i hi)
  refine vmpDD_metric_rows M f asz rsz _ δ0 Mv nrows ncols (fun i hi => ?_) δ' hδ0 (hv.congr fun i hi => (eL i hi).symm)
  have := r0.2 i hi
  rwa [polyArr_coef_mk _ _ _ i hi, zext_pos f (by omega)] at this

end Spq.ProgErr2
