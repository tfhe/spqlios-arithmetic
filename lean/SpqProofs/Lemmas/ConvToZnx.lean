/-
  double → int64 conversions with a power-of-two divisor (C14): `reim_to_znx64_avx2_bnd50_fma`,
  `reim_to_znx64_ref`, `reim_to_znx64_avx2_bnd63_fma` at lane level.
-/
import SpqProofs.Lemmas.F64Magic
import SpqProofs.Lemmas.F64Quot
import SpqProofs.Lemmas.ConvFrom

namespace Spq.Conv
open Spq.F64

theorem decode_pow2 (j : Int) (h1 : -1022 ≤ j) (h2 : j ≤ 1023) :
    decode (pow2 j) = ⟨false, 4503599627370496, j - 52⟩ := by
  unfold pow2
  have := decode_pos_pattern (j + 1023).toNat 0 (by omega) (by omega) (by norm_num)
  rw [Nat.add_zero, Nat.zero_add] at this
  rw [this]; congr 1; omega

theorem toScaled_pow2 (j : Int) (h1 : -1022 ≤ j) (h2 : j ≤ 1023) :
    toScaled (pow2 j) = 2 ^ ((j + 1074).toNat) := by
  rw [toScaled_of_decode' (decode_pow2 j h1 h2)]
  have : (j - 52 + 1074).toNat + 52 = (j + 1074).toNat := by omega
  rw [← this, pow_add]
  simp only [sI, Bool.false_eq_true, if_false]
  norm_num; ring

theorem pow2_lt (j : Int) (h2 : j ≤ 1023) : pow2 j < 18446744073709551616 := by
  unfold pow2; omega

theorem decode_mul_pow2 {c mc : Nat} {ec : Int} (hc : decode c = ⟨false, mc, ec⟩) (hm1 : 4503599627370496 ≤ mc)
    (hm2 : mc < 9007199254740992) (j : Int) (hj1 : -1022 ≤ j) (hj2 : j ≤ 1023) (h0 : -1074 ≤ ec + j)
    (h1 : ec + j ≤ 971) :
    decode (mul c (pow2 j)) = ⟨false, mc, ec + j⟩ ∧ decode (mul (pow2 j) c) = ⟨false, mc, ec + j⟩ := by
  have h := decode_pack_exact (false != false) mc 52 (ec + (j - 52)) 0 (by rwa [pow_zero, Nat.mul_one])
    (by rwa [pow_zero, Nat.mul_one]) (by push_cast; omega) (by push_cast; omega)
  rw [pow_zero, Nat.mul_one, show ec + (j - 52) + ((52 : Nat) : Int) - ((0 : Nat) : Int) = ec + j by push_cast; omega,
    show (2 : Nat) ^ 52 = 4503599627370496 by norm_num] at h
  constructor
  · rw [mul_of_decode hc (decode_pow2 j hj1 hj2)]; exact h
  · rw [mul_of_decode (decode_pow2 j hj1 hj2) hc, Nat.mul_comm, add_comm (j - 52)]; exact h

/-- `add_cst = divisor * 3·2^51` is exact -/
theorem decode_bnd50AddCst (j : Int) (h1 : -1022 ≤ j) (h2 : j ≤ 971) :
    decode (bnd50AddCst (pow2 j)) = ⟨false, 6755399441055744, j⟩ := by
  unfold bnd50AddCst
  rw [D_3P51_eq, (decode_mul_pow2 decode_D_3P51 (by norm_num) (by norm_num) j h1 (by omega) (by omega) (by omega)).2,
    zero_add]

theorem and_mant_mask (a : Nat) : a &&& MANT_MASK = a % 4503599627370496 := by
  have := Nat.and_two_pow_sub_one_eq_mod a 52
  norm_num at this
  exact this

/-- `reim_to_znx64_avx2_bnd50_fma`, one lane: for `|x/d| < 2^50` the result is within 1/2 of `x/d`
    (`2·|r·d − x| ≤ d`, values in units of 2^-1074) -/
theorem toZnx64Bnd50Lane_spec (j : Int) (hj1 : -1022 ≤ j) (hj2 : j ≤ 971) (x : Nat)
    (hdom : |toScaled x| < 1125899906842624 * toScaled (pow2 j)) :
    2 * |toZnx64Bnd50Lane (bnd50AddCst (pow2 j)) x * toScaled (pow2 j) - toScaled x| ≤ toScaled (pow2 j) := by
  rw [toScaled_pow2 j hj1 (by omega)] at hdom ⊢
  obtain ⟨q, hq1, hq, hpat, herr⟩ := add_magic_val (x := x) (decode_bnd50AddCst j hj1 hj2) 1125899906842624
    (by norm_num) (by norm_num) hj2 (by exact_mod_cast le_of_lt hdom)
  have hr : toZnx64Bnd50Lane (bnd50AddCst (pow2 j)) x = (q : Int) - (6755399441055744 : Nat) := by
    unfold toZnx64Bnd50Lane
    simp only [hpat, and_mant_mask]
    have : ((j + 1075).toNat * 4503599627370496 + (q - 4503599627370496)) % 4503599627370496
        = q - 4503599627370496 := by omega
    rw [this]
    unfold sub64 toS wrapS
    omega
  rw [hr]; exact herr

theorem decode_D_ONE : decode D_ONE = ⟨false, 4503599627370496, -52⟩ := by
  have := decode_pos_pattern 1023 0 (by norm_num) (by norm_num) (by norm_num)
  simpa using this

theorem decode_invdiv (j : Int) (h1 : -1022 ≤ j) (h2 : j ≤ 1022) :
    decode (F64.div D_ONE (pow2 j)) = ⟨false, 4503599627370496, -52 - j⟩ := by
  rw [div_pow2_of_decode decode_D_ONE (decode_pow2 j h1 (by omega)) (by norm_num)]
  have := decode_pack_exact false 4503599627370496 59 (-52 - (j - 52) - 111) 0 (by norm_num) (by norm_num)
    (by push_cast; omega) (by push_cast; omega)
  rw [this]; congr 1
  push_cast; omega

/-- `reim_to_znx64_ref`, one lane: for `|x/d| < 2^63` the result is within 1/2 of `x/d` -/
theorem toZnx64RefLane_spec (j : Int) (hj1 : -1022 ≤ j) (hj2 : j ≤ 1022) (x : Nat)
    (hdom : |toScaled x| < 9223372036854775808 * toScaled (pow2 j)) :
    2 * |toZnx64RefLane (F64.div D_ONE (pow2 j)) x * toScaled (pow2 j) - toScaled x| ≤ toScaled (pow2 j) := by
  obtain ⟨b, hb⟩ : ∃ b : Nat, (b : Int) = j + 1074 := ⟨(j + 1074).toNat, by omega⟩
  rw [toScaled_pow2 j hj1 (by omega), show (j + 1074).toNat = b by omega] at hdom ⊢
  unfold toZnx64RefLane
  exact quot_round_core (decode_invdiv j hj1 hj2) b (by rw [hb]; ring) hdom

end Spq.Conv
