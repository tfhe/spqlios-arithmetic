/-
  Discrete-log coordinates on one valuation class of `[0, 2^(b+n+2))`:
  `Rel b n y e` says `y ≡ ± 2^b · 5^e (mod 2^(b+n+2))`; the index map `autSigma` of the in-place automorphism
  in these coordinates (`Rel.step`, `autSigma_iter_rel`).
-/
import SpqProofs.Lemmas.CoeffsPow5
import SpqProofs.Lemmas.CoeffsBasic
namespace Spq.Rq

/-- `y ≡ ± 2^b·5^e` modulo `2^(b+n+2)` -/
def Rel (b n y e : Nat) : Prop :=
  ((y : ZMod (2 ^ (b + n + 2))) = 2 ^ b * 5 ^ e) ∨ ((y : ZMod (2 ^ (b + n + 2))) = -(2 ^ b * 5 ^ e))

theorem zmod_bridge (b n : Nat) (X : Int) :
    ((2 : ZMod (2 ^ (b + n + 2))) ^ b * ((X : Int) : ZMod (2 ^ (b + n + 2))) = 0) ↔ (2 : Int) ^ (n + 2) ∣ X := by
  have : ((2 : ZMod (2 ^ (b + n + 2))) ^ b * ((X : Int) : ZMod (2 ^ (b + n + 2)))) =
      (((2 : Int) ^ b * X : Int) : ZMod (2 ^ (b + n + 2))) := by push_cast; rfl
  rw [this, ZMod.intCast_zmod_eq_zero_iff_dvd]
  have e : ((2 ^ (b + n + 2) : Nat) : Int) = (2 : Int) ^ b * (2 : Int) ^ (n + 2) := by
    push_cast; ring
  rw [e]
  exact mul_dvd_mul_iff_left (by positivity)

theorem cell_eq_iff (b n e e' : Nat) :
    ((2 : ZMod (2 ^ (b + n + 2))) ^ b * 5 ^ e = 2 ^ b * 5 ^ e') ↔ e ≡ e' [MOD 2 ^ n] := by
  rw [← five_pow_sub_dvd_iff, ← zmod_bridge b n]
  push_cast
  constructor
  · intro h; rw [mul_sub, h, sub_self]
  · intro h; rw [mul_sub] at h; exact sub_eq_zero.1 h

theorem cell_ne_neg (b n e e' : Nat) :
    ((2 : ZMod (2 ^ (b + n + 2))) ^ b * 5 ^ e) ≠ -(2 ^ b * 5 ^ e') := by
  intro h
  apply five_pow_add_not_dvd n e e'
  rw [← zmod_bridge b n]
  push_cast
  rw [mul_add, h]; ring

theorem Rel.unique {b n y e e' : Nat} (h : Rel b n y e) (h' : Rel b n y e') : e ≡ e' [MOD 2 ^ n] := by
  rcases h with h | h <;> rcases h' with h' | h'
  · exact (cell_eq_iff b n e e').1 (h.symm.trans h')
  · exact absurd (h.symm.trans h') (cell_ne_neg b n e e')
  · exact absurd (h'.symm.trans h) (cell_ne_neg b n e' e)
  · exact (cell_eq_iff b n e e').1 (neg_injective (h.symm.trans h'))

theorem Rel.congr {b n y e e' : Nat} (h : Rel b n y e) (he : e ≡ e' [MOD 2 ^ n]) : Rel b n y e' := by
  have := (cell_eq_iff b n e e').2 he
  rcases h with h | h
  · left; rw [h, this]
  · right; rw [h, this]

theorem natCast_inj_of_lt {N y z : Nat} (hy : y < N) (hz : z < N) (h : (y : ZMod N) = z) : y = z := by
  rw [ZMod.natCast_eq_natCast_iff] at h
  exact Nat.ModEq.eq_of_lt_of_lt h hy hz

theorem natCast_mirror {N y : Nat} (hy : y ≤ N) : ((N - y : Nat) : ZMod N) = -(y : ZMod N) := by
  rw [Nat.cast_sub hy, ZMod.natCast_self]; ring

theorem Rel.mirror {b n y e : Nat} (h : Rel b n y e) (hy : y ≤ 2 ^ (b + n + 2)) :
    Rel b n (2 ^ (b + n + 2) - y) e := by
  unfold Rel
  rw [natCast_mirror hy]
  rcases h with h | h
  · right; rw [h]
  · left; rw [h]; ring

theorem Rel.eq_or_mirror {b n y z e : Nat} (hy : y < 2 ^ (b + n + 2)) (hz : z < 2 ^ (b + n + 2))
    (hz0 : 0 < z) (h : Rel b n y e) (h' : Rel b n z e) : y = z ∨ y = 2 ^ (b + n + 2) - z := by
  have hm : ((2 ^ (b + n + 2) - z : Nat) : ZMod (2 ^ (b + n + 2))) = -(z : ZMod _) :=
    natCast_mirror (by omega)
  rcases h with h | h <;> rcases h' with h' | h'
  · left; exact natCast_inj_of_lt hy hz (h.trans h'.symm)
  · right; apply natCast_inj_of_lt hy (by omega); rw [hm, h', h]; ring
  · right; apply natCast_inj_of_lt hy (by omega); rw [hm, h', h]
  · left; exact natCast_inj_of_lt hy hz (h.trans h'.symm)

theorem two_pow_succ_dvd_N (b n : Nat) : ((2 : Int) ^ (b + 1)) ∣ ((2 ^ (b + n + 2) : Nat) : Int) := by
  refine ⟨2 ^ (n + 1), ?_⟩
  push_cast; ring

theorem Rel.cls {b n y e : Nat} (h : Rel b n y e) : y % 2 ^ (b + 1) = 2 ^ b := by
  obtain ⟨k, hk⟩ : ∃ k : Int, (5 : Int) ^ e = 2 * k + 1 :=
    ⟨(5 : Int) ^ e / 2, by have := five_pow_mod_four e; omega⟩
  have hpos : (0 : Int) < 2 ^ b := by positivity
  have key : ((y : Int)) % (2 : Int) ^ (b + 1) = 2 ^ b := by
    apply emod_eq_of_dvd_sub (by positivity) (by rw [pow_succ]; omega)
    rcases h with h | h
    · have h1 : ((y : Int) : ZMod (2 ^ (b + n + 2))) = (((2 : Int) ^ b * 5 ^ e : Int) : ZMod _) := by
        push_cast; exact h
      rw [ZMod.intCast_eq_intCast_iff_dvd_sub] at h1
      have h2 := Dvd.dvd.trans (two_pow_succ_dvd_N b n) h1
      obtain ⟨c, hc⟩ := h2
      refine ⟨k - c, ?_⟩
      rw [hk] at hc
      have : (2 : Int) ^ (b + 1) = 2 * 2 ^ b := by ring
      rw [this] at hc ⊢
      linear_combination (-1 : Int) * hc
    · have h1 : ((y : Int) : ZMod (2 ^ (b + n + 2))) = ((-((2 : Int) ^ b * 5 ^ e) : Int) : ZMod _) := by
        push_cast; exact h
      rw [ZMod.intCast_eq_intCast_iff_dvd_sub] at h1
      have h2 := Dvd.dvd.trans (two_pow_succ_dvd_N b n) h1
      obtain ⟨c, hc⟩ := h2
      refine ⟨-k - 1 - c, ?_⟩
      rw [hk] at hc
      have : (2 : Int) ^ (b + 1) = 2 * 2 ^ b := by ring
      rw [this] at hc ⊢
      linear_combination (-1 : Int) * hc
  have : ((y % 2 ^ (b + 1) : Nat) : Int) = ((2 ^ b : Nat) : Int) := by
    push_cast; exact key
  exact_mod_cast this

theorem Rel.exists {b n y : Nat} (hy : y % 2 ^ (b + 1) = 2 ^ b) : ∃ e, e < 2 ^ n ∧ Rel b n y e := by
  have hB : 0 < 2 ^ b := Nat.pow_pos (by norm_num)
  have e1 := Nat.div_add_mod y (2 ^ (b + 1))
  rw [hy] at e1
  have hyu : y = 2 ^ b * (2 * (y / 2 ^ (b + 1)) + 1) := by
    generalize y / 2 ^ (b + 1) = q at e1
    rw [pow_succ] at e1; rw [← e1]; ring
  set u := 2 * (y / 2 ^ (b + 1)) + 1 with hu
  obtain ⟨e, he, hd⟩ := odd_dlog n u (by omega)
  refine ⟨e, he, ?_⟩
  have hy' : (y : ZMod (2 ^ (b + n + 2))) = 2 ^ b * (u : ZMod _) := by
    rw [hyu]; push_cast; ring
  rcases hd with hd | hd
  · left
    have := (zmod_bridge b n _).2 hd
    push_cast at this
    rw [hy']; linear_combination this
  · right
    have := (zmod_bridge b n _).2 hd
    push_cast at this
    rw [hy']; linear_combination this

/-- exponent of `X^y ↦ X^(y·pm)` modulo `2N`: position (`autSigma`) and sign (`autG`) are read off it -/
def autE (N pm y : Nat) : Nat := (y * pm) % (2 * N)

theorem autE_cast (N pm y : Nat) : ((autE N pm y : Nat) : ZMod (2 * N)) = (y : ZMod (2 * N)) * pm := by
  unfold autE; rw [ZMod.natCast_mod, Nat.cast_mul]

theorem autE_lt (N pm y : Nat) (hN : 0 < N) : autE N pm y < 2 * N := Nat.mod_lt _ (by omega)

theorem autE_eq (N pm y v : Nat) (hN : 0 < N) (hv : v < 2 * N)
    (h : (y : ZMod (2 * N)) * pm = (v : ZMod (2 * N))) : autE N pm y = v :=
  natCast_inj_of_lt (autE_lt N pm y hN) hv (by rw [autE_cast, h])

/-- position map of the automorphism: `j ↦ (j·pm mod 2N) mod N` -/
def autSigma (N pm j : Nat) : Nat := autE N pm j % N

theorem autSigma_cast (N pm j : Nat) : ((autSigma N pm j : Nat) : ZMod N) = (j : ZMod N) * pm := by
  unfold autSigma autE
  rw [Nat.mod_mod_of_dvd _ ⟨2, by ring⟩, ZMod.natCast_mod, Nat.cast_mul]

theorem autSigma_lt (N pm j : Nat) (hN : 0 < N) : autSigma N pm j < N := Nat.mod_lt _ hN

/-- the multiplier is `± 5^a` on the class: `Rel.exists` at the cell `2^b·pm` -/
theorem pm_dlog (b n pm : Nat) (hpm : pm % 2 = 1) :
    ∃ a, a < 2 ^ n ∧ ∃ ε : ZMod (2 ^ (b + n + 2)), (ε = 1 ∨ ε = -1) ∧
      (2 : ZMod (2 ^ (b + n + 2))) ^ b * pm = ε * (2 ^ b * 5 ^ a) := by
  have hy : (2 ^ b * pm) % 2 ^ (b + 1) = 2 ^ b := by
    rw [pow_succ, Nat.mul_mod_mul_left, hpm, Nat.mul_one]
  obtain ⟨a, ha, h | h⟩ := Rel.exists (n := n) hy
  · exact ⟨a, ha, 1, Or.inl rfl, by rw [one_mul, ← h]; push_cast; rfl⟩
  · exact ⟨a, ha, -1, Or.inr rfl, by rw [neg_one_mul, ← h]; push_cast; rfl⟩

theorem Rel.step {b n pm a y e : Nat} (ε : ZMod (2 ^ (b + n + 2))) (hε : ε = 1 ∨ ε = -1)
    (hpm : (2 : ZMod (2 ^ (b + n + 2))) ^ b * pm = ε * (2 ^ b * 5 ^ a)) (hre : Rel b n y e) :
    Rel b n (autSigma (2 ^ (b + n + 2)) pm y) (e + a) := by
  have h1 := autSigma_cast (2 ^ (b + n + 2)) pm y
  rcases hre with h | h
  · rcases hε with he | he
    · left; rw [h1, h]; rw [he] at hpm
      linear_combination (5 ^ e : ZMod (2 ^ (b + n + 2))) * hpm
    · right; rw [h1, h]; rw [he] at hpm; linear_combination (5 ^ e : ZMod (2 ^ (b + n + 2))) * hpm
  · rcases hε with he | he
    · right; rw [h1, h]; rw [he] at hpm; linear_combination (-(5 ^ e) : ZMod (2 ^ (b + n + 2))) * hpm
    · left; rw [h1, h]; rw [he] at hpm; linear_combination (-(5 ^ e) : ZMod (2 ^ (b + n + 2))) * hpm

theorem sign_pow {R : Type} [Ring R] (ε : R) (h : ε = 1 ∨ ε = -1) (i : Nat) : ε ^ i = 1 ∨ ε ^ i = -1 := by
  rcases h with h | h
  · left; rw [h, one_pow]
  · rw [h]; exact neg_one_pow_eq_or R i

theorem autSigma_iter_cast (b n pm a : Nat) (ε : ZMod (2 ^ (b + n + 2)))
    (hpm : (2 : ZMod (2 ^ (b + n + 2))) ^ b * pm = ε * (2 ^ b * 5 ^ a)) (j0 l : Nat)
    (hj0 : (j0 : ZMod (2 ^ (b + n + 2))) = 2 ^ b * 5 ^ l) (i : Nat) :
    (((autSigma (2 ^ (b + n + 2)) pm)^[i] j0 : Nat) : ZMod (2 ^ (b + n + 2))) =
      ε ^ i * (2 ^ b * 5 ^ (l + i * a)) := by
  induction i with
  | zero => simp [hj0]
  | succ i ih =>
    rw [Function.iterate_succ_apply', autSigma_cast, ih]
    have : (5 : ZMod (2 ^ (b + n + 2))) ^ (l + (i + 1) * a) = 5 ^ (l + i * a) * 5 ^ a := by
      rw [← pow_add]; congr 1; ring
    rw [this]
    linear_combination (ε ^ i * 5 ^ (l + i * a)) * hpm

theorem autSigma_iter_rel (b n pm a : Nat) (ε : ZMod (2 ^ (b + n + 2))) (hε : ε = 1 ∨ ε = -1)
    (hpm : (2 : ZMod (2 ^ (b + n + 2))) ^ b * pm = ε * (2 ^ b * 5 ^ a)) (j0 l : Nat)
    (hj0 : (j0 : ZMod (2 ^ (b + n + 2))) = 2 ^ b * 5 ^ l) (i : Nat) :
    Rel b n ((autSigma (2 ^ (b + n + 2)) pm)^[i] j0) (l + i * a) := by
  have h := autSigma_iter_cast b n pm a ε hpm j0 l hj0 i
  rcases sign_pow ε hε i with s | s
  · left; rw [h, s, one_mul]
  · right; rw [h, s]; ring

end Spq.Rq
