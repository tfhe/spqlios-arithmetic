/-
  binary64 with a validity flag (`arithOk`): the flag of a result says that every operation it depends on had finite
  operands and an exact result in the normal range (or exactly 0).  Under the flag, the bit-level result is finite and
  its value is the result of the guarded rational arithmetic `arG`, which satisfies the unconditional `StdModel`.
-/
import SpqProofs.Lemmas.F64StdModel
import SpqProofs.Lemmas.VmpErrDot

namespace Spq.F64

/-- a pattern with its finiteness as flag -/
def lift (b : Nat) : Nat × Prop := (b, Fin64 b)

/-- bit-exact binary64 that also records "all exact partial results were in the normal range" -/
def arithOk : RArith (Nat × Prop) where
  zero := lift 0
  add := fun x y => (add x.1 y.1, x.2 ∧ y.2 ∧ NormalRange (val x.1 + val y.1))
  sub := fun x y => (sub x.1 y.1, x.2 ∧ y.2 ∧ NormalRange (val x.1 - val y.1))
  mul := fun x y => (mul x.1 y.1, x.2 ∧ y.2 ∧ NormalRange (val x.1 * val y.1))
  fma := fun x y z => (fma x.1 y.1 z.1, x.2 ∧ y.2 ∧ z.2 ∧ NormalRange (val x.1 * val y.1 + val z.1))
  fms := fun x y z => (fms x.1 y.1 z.1, x.2 ∧ y.2 ∧ z.2 ∧ NormalRange (val x.1 * val y.1 - val z.1))

/-! projections of the flagged operations (all `rfl`; for rewriting without evaluating anything).  The pattern halves are
  `Eq.refl` of the right side: from `rfl` the unifier starts at the other end and unfolds the bit-level operation. -/
theorem lift_fst (b : Nat) : (lift b).1 = b := rfl
theorem lift_snd (b : Nat) : (lift b).2 = Fin64 b := rfl
theorem arithOk_zero : arithOk.zero = lift 0 := rfl
theorem arithOk_add_fst (x y : Nat × Prop) : (arithOk.add x y).1 = add x.1 y.1 := Eq.refl (add x.1 y.1)
theorem arithOk_add_snd (x y : Nat × Prop) : (arithOk.add x y).2 = (x.2 ∧ y.2 ∧ NormalRange (val x.1 + val y.1)) := rfl
theorem arithOk_sub_fst (x y : Nat × Prop) : (arithOk.sub x y).1 = sub x.1 y.1 := Eq.refl (sub x.1 y.1)
theorem arithOk_sub_snd (x y : Nat × Prop) : (arithOk.sub x y).2 = (x.2 ∧ y.2 ∧ NormalRange (val x.1 - val y.1)) := rfl
theorem arithOk_mul_fst (x y : Nat × Prop) : (arithOk.mul x y).1 = mul x.1 y.1 := Eq.refl (mul x.1 y.1)
theorem arithOk_mul_snd (x y : Nat × Prop) : (arithOk.mul x y).2 = (x.2 ∧ y.2 ∧ NormalRange (val x.1 * val y.1)) := rfl
theorem arithOk_fma_fst (x y z : Nat × Prop) : (arithOk.fma x y z).1 = fma x.1 y.1 z.1 := Eq.refl (fma x.1 y.1 z.1)
theorem arithOk_fma_snd (x y z : Nat × Prop) :
    (arithOk.fma x y z).2 = (x.2 ∧ y.2 ∧ z.2 ∧ NormalRange (val x.1 * val y.1 + val z.1)) := rfl
theorem arithOk_fms_fst (x y z : Nat × Prop) : (arithOk.fms x y z).1 = fms x.1 y.1 z.1 := Eq.refl (fms x.1 y.1 z.1)
theorem arithOk_fms_snd (x y z : Nat × Prop) :
    (arithOk.fms x y z).2 = (x.2 ∧ y.2 ∧ z.2 ∧ NormalRange (val x.1 * val y.1 - val z.1)) := rfl

theorem fin64_zero : Fin64 0 := fin64_sgn false

theorem val_zero : val 0 = 0 := val_sgn false

theorem arithOk_sim_arith : RArith.Sim (fun (x : Nat × Prop) (b : Nat) => x.1 = b) arithOk F64.arith where
  zero := rfl
  add := by intro a a' b b' h1 h2; simp only [arithOk, arith]; rw [h1, h2]
  sub := by intro a a' b b' h1 h2; simp only [arithOk, arith]; rw [h1, h2]
  mul := by intro a a' b b' h1 h2; simp only [arithOk, arith]; rw [h1, h2]
  fma := by intro a a' b b' c c' h1 h2 h3; simp only [arithOk, arith]; rw [h1, h2, h3]
  fms := by intro a a' b b' c c' h1 h2 h3; simp only [arithOk, arith]; rw [h1, h2, h3]

def RelQ (x : Nat × Prop) (q : ℚ) : Prop := x.2 → Fin64 x.1 ∧ val x.1 = q

theorem relQ_res {q : ℚ} {r : Nat} (h : Rounds r q) (hn : NormalRange q) : Fin64 r ∧ val r = gd (GoodQ q) (rnd q) q :=
  ⟨h.fin hn.noOvf, by rw [gd_pos ⟨h.dyadic, hn⟩, h.val]⟩

theorem arithOk_sim_arG : RArith.Sim RelQ arithOk arG where
  zero := fun _ => ⟨fin64_zero, val_zero⟩
  add := by
    intro a a' b b' h1 h2 ⟨fa, fb, hn⟩
    obtain ⟨_, rfl⟩ := h1 fa
    obtain ⟨_, rfl⟩ := h2 fb
    exact relQ_res (add_rounds _ _) hn
  sub := by
    intro a a' b b' h1 h2 ⟨fa, fb, hn⟩
    obtain ⟨_, rfl⟩ := h1 fa
    obtain ⟨hb, rfl⟩ := h2 fb
    exact relQ_res (sub_rounds _ _ hb.1) hn
  mul := by
    intro a a' b b' h1 h2 ⟨fa, fb, hn⟩
    obtain ⟨_, rfl⟩ := h1 fa
    obtain ⟨_, rfl⟩ := h2 fb
    exact relQ_res (mul_rounds _ _) hn
  fma := by
    intro a a' b b' c c' h1 h2 h3 ⟨fa, fb, fc, hn⟩
    obtain ⟨_, rfl⟩ := h1 fa
    obtain ⟨_, rfl⟩ := h2 fb
    obtain ⟨_, rfl⟩ := h3 fc
    exact relQ_res (fma_rounds _ _ _) hn
  fms := by
    intro a a' b b' c c' h1 h2 h3 ⟨fa, fb, fc, hn⟩
    obtain ⟨_, rfl⟩ := h1 fa
    obtain ⟨_, rfl⟩ := h2 fb
    obtain ⟨hc, rfl⟩ := h3 fc
    exact relQ_res (fms_rounds _ _ _ hc.1) hn

theorem lift_rel_arith (a : Array Nat) (i : Nat) : ((a.map lift).getD i arithOk.zero).1 = a.getD i F64.arith.zero := by
  show ((a.map lift).getD i (lift 0)).1 = a.getD i 0
  rw [getD_map]; rfl

theorem lift_rel_arG (a : Array Nat) (i : Nat) : RelQ ((a.map lift).getD i arithOk.zero) ((a.map val).getD i arG.zero) := by
  show RelQ ((a.map lift).getD i (lift 0)) ((a.map val).getD i 0)
  rw [getD_map, ← val_zero, getD_map]
  intro h; exact ⟨h, rfl⟩

/-- the flag of a flagged pattern holds (a structure, so that elaboration never evaluates the flagged kernel) -/
structure Ok (x : Nat × Prop) : Prop where
  ok : x.2

end Spq.F64
