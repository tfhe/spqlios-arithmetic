/-
  C06.4 `fft_err`: rounding error of the radix-2 level networks computed with butterflies of 2-norm relative error `η`
  (`BfErrAt` / `IBfErrAt`, e.g. `butterfly_err_*`): for a chain of levels (`LevelN.Chain`) `Ê` computed against `E` exact,
      Σ_p ‖Ê i p − E i p‖² ≤ ((1+η)^i − 1)² · Σ_p ‖E i p‖²        (`Chain.err`).
  The exact chains: forward `V` of `FftAlg.lean` (`V_chain`), inverse `WI w y n p` (cell `p` after `n` exact inverse
  levels `(x_p, x_{p+h}) ← (x_p + x_{p+h}, w_b·(x_p − x_{p+h}))`, `h = 2^n`; `WI_chain`).
-/
import SpqProofs.Lemmas.FftErrBfly
import SpqProofs.Lemmas.FftAlg
import SpqProofs.Lemmas.FftSchedLevel
set_option linter.unusedSectionVars false

namespace Spq.FftErr
open Finset Spq.Fft.Alg Spq.Fft.LevelN
variable {K : Type} [Field K] [LinearOrder K] [IsStrictOrderedRing K]

/-- one exact level on blocks of size `2h`: `(x_p, x_{p+h}) ← (x_p + w_b·x_{p+h}, x_p − w_b·x_{p+h})` -/
def Lvl (w : ℕ → Cplx K) (h : ℕ) (x : ℕ → Cplx K) (p : ℕ) : Cplx K :=
  if p % (2 * h) < h then x p + w (p / (2 * h)) * x (p + h) else x (p - h) - w (p / (2 * h)) * x p

/-- one computed level: block `b` uses the computed butterfly `g b` -/
def LvlH (g : ℕ → Cplx K → Cplx K → Cplx K × Cplx K) (h : ℕ) (x : ℕ → Cplx K) (p : ℕ) : Cplx K :=
  if p % (2 * h) < h then (g (p / (2 * h)) (x p) (x (p + h))).1 else (g (p / (2 * h)) (x (p - h)) (x p)).2

/-- the computed level network: as `V`, with the computed butterfly `g ℓ d b` in block `b` of level `(ℓ, d)` -/
def VH (g : ℕ → ℕ → ℕ → Cplx K → Cplx K → Cplx K × Cplx K) (a : ℕ → Cplx K) : ℕ → ℕ → ℕ → Cplx K
  | 0, _, p => a p
  | ℓ + 1, d, p => LvlH (g ℓ d) (2 ^ d) (VH g a ℓ (d + 1)) p

theorem V_succ (ζ : Cplx K) (a : ℕ → Cplx K) (ℓ d p : ℕ) :
    V ζ a (ℓ + 1) d p = Lvl (fun b => ζ ^ twE ℓ d b) (2 ^ d) (V ζ a ℓ (d + 1)) p := by
  rw [V]; rfl

theorem LvlH_lo (g : ℕ → Cplx K → Cplx K → Cplx K × Cplx K) (h : ℕ) (x : ℕ → Cplx K) (b r : ℕ) (hr : r < h) :
    LvlH g h x (2 * h * b + r) = (g b (x (2 * h * b + r)) (x (2 * h * b + r + h))).1 := by
  obtain ⟨e1, e2⟩ := pos h b r (by omega)
  unfold LvlH; rw [e1, e2, if_pos hr]

theorem LvlH_hi (g : ℕ → Cplx K → Cplx K → Cplx K × Cplx K) (h : ℕ) (x : ℕ → Cplx K) (b r : ℕ) (hr : r < h) :
    LvlH g h x (2 * h * b + r + h) = (g b (x (2 * h * b + r)) (x (2 * h * b + r + h))).2 := by
  obtain ⟨e1, e2⟩ := pos h b (r + h) (by omega)
  unfold LvlH; rw [Nat.add_assoc, e1, e2, if_neg (by omega), ← Nat.add_assoc, Nat.add_sub_cancel]

theorem sum_pairs (h nb : ℕ) (G : ℕ → K) :
    ∑ p ∈ range (nb * (2 * h)), G p =
      ∑ b ∈ range nb, ∑ r ∈ range h, (G (2 * h * b + r) + G (2 * h * b + r + h)) := by
  induction nb with
  | zero => simp
  | succ nb ih =>
    rw [Nat.succ_mul, sum_range_add, ih, sum_range_succ, two_mul h, sum_range_add, sum_add_distrib]
    congr 1
    congr 1
    · apply sum_congr rfl; intro r _; congr 1; ring
    · apply sum_congr rfl; intro r _; congr 1; ring

/-! An exact level is `LvlH e` for a family `e` of exact butterflies that are additive and double the squared norm (the
forward butterflies `(a + ω·c, a − ω·c)` and the inverse ones `(a + c, ω·(a − c))`, `|ω| = 1`). -/

section level
variable (e g : ℕ → Cplx K → Cplx K → Cplx K × Cplx K) (h nb : ℕ)

theorem lvlH_norm (hnorm : ∀ b a c, nsq (e b a c).1 + nsq (e b a c).2 = 2 * nsq a + 2 * nsq c) (x : ℕ → Cplx K) :
    ∑ p ∈ range (nb * (2 * h)), nsq (LvlH e h x p) = 2 * ∑ p ∈ range (nb * (2 * h)), nsq (x p) := by
  rw [sum_pairs h nb (fun p => nsq (LvlH e h x p)), sum_pairs h nb (fun p => nsq (x p)), mul_sum]
  apply sum_congr rfl; intro b _
  rw [mul_sum]
  apply sum_congr rfl; intro r hr
  have hr' : r < h := mem_range.1 hr
  rw [LvlH_lo e h x b r hr', LvlH_hi e h x b r hr', hnorm, mul_add]

theorem lvlH_sub (hadd : ∀ b a c a' c', (e b a c).1 - (e b a' c').1 = (e b (a - a') (c - c')).1 ∧
      (e b a c).2 - (e b a' c').2 = (e b (a - a') (c - c')).2) (x y : ℕ → Cplx K) (p : ℕ) :
    LvlH e h x p - LvlH e h y p = LvlH e h (fun q => x q - y q) p := by
  unfold LvlH
  split
  · exact (hadd _ _ _ _ _).1
  · exact (hadd _ _ _ _ _).2

theorem lvlH_err (η : K) (hg : ∀ b, b < nb → ∀ a c, nsq ((g b a c).1 - (e b a c).1) + nsq ((g b a c).2 - (e b a c).2) ≤
      η ^ 2 * (nsq (e b a c).1 + nsq (e b a c).2)) (x : ℕ → Cplx K) :
    ∑ p ∈ range (nb * (2 * h)), nsq (LvlH g h x p - LvlH e h x p) ≤
      η ^ 2 * ∑ p ∈ range (nb * (2 * h)), nsq (LvlH e h x p) := by
  rw [sum_pairs h nb (fun p => nsq (LvlH g h x p - LvlH e h x p)), sum_pairs h nb (fun p => nsq (LvlH e h x p)), mul_sum]
  apply sum_le_sum; intro b hb
  rw [mul_sum]
  apply sum_le_sum; intro r hr
  have hr' : r < h := mem_range.1 hr
  rw [LvlH_lo e h x b r hr', LvlH_hi e h x b r hr', LvlH_lo g h x b r hr', LvlH_hi g h x b r hr']
  exact hg b (mem_range.1 hb) _ _

/-- one level of the induction: a computed input within `(1+η)^n − 1` of the exact one and butterflies within `η`
    of the exact ones give a computed output within `(1+η)^(n+1) − 1` (`sum_round`: the exact level of the computed input
    is the perturbed value, the computed level its rounding) -/
theorem level_step (η : K) (hη : 0 ≤ η) (n N : ℕ) (hN : N = nb * (2 * h))
    (hnorm : ∀ b a c, nsq (e b a c).1 + nsq (e b a c).2 = 2 * nsq a + 2 * nsq c)
    (hadd : ∀ b a c a' c', (e b a c).1 - (e b a' c').1 = (e b (a - a') (c - c')).1 ∧
      (e b a c).2 - (e b a' c').2 = (e b (a - a') (c - c')).2)
    (hg : ∀ b, b < nb → ∀ a c, nsq ((g b a c).1 - (e b a c).1) + nsq ((g b a c).2 - (e b a c).2) ≤
      η ^ 2 * (nsq (e b a c).1 + nsq (e b a c).2))
    (x xh : ℕ → Cplx K) (ih : ∑ p ∈ range N, nsq (xh p - x p) ≤ ((1 + η) ^ n - 1) ^ 2 * ∑ p ∈ range N, nsq (x p)) :
    ∑ p ∈ range N, nsq (LvlH g h xh p - LvlH e h x p) ≤
      ((1 + η) ^ (n + 1) - 1) ^ 2 * ∑ p ∈ range N, nsq (LvlH e h x p) := by
  subst hN
  rw [show (1 + η) ^ (n + 1) - 1 = η * (1 + ((1 + η) ^ n - 1)) + ((1 + η) ^ n - 1) by rw [pow_succ]; ring]
  refine sum_round _ (LvlH e h x) (LvlH e h xh) (LvlH g h xh) _ η _
    (sub_nonneg.2 (one_le_pow₀ (le_add_of_nonneg_right hη))) hη le_rfl ?_ (lvlH_err e g h nb η hg xh)
  simp only [lvlH_sub e h hadd]
  rw [lvlH_norm e h nb hnorm, lvlH_norm e h nb hnorm]
  linarith

end level

def fwdE (w : ℕ → Cplx K) (b : ℕ) (a c : Cplx K) : Cplx K × Cplx K := (a + w b * c, a - w b * c)

theorem fwdE_add (w : ℕ → Cplx K) (b : ℕ) (a c a' c' : Cplx K) :
    (fwdE w b a c).1 - (fwdE w b a' c').1 = (fwdE w b (a - a') (c - c')).1 ∧
      (fwdE w b a c).2 - (fwdE w b a' c').2 = (fwdE w b (a - a') (c - c')).2 := by
  constructor <;> simp only [fwdE] <;> ring

theorem lvl_norm (w : ℕ → Cplx K) (hw : ∀ b, nsq (w b) = 1) (h nb : ℕ) (x : ℕ → Cplx K) :
    ∑ p ∈ range (nb * (2 * h)), nsq (Lvl w h x p) = 2 * ∑ p ∈ range (nb * (2 * h)), nsq (x p) :=
  lvlH_norm (fwdE w) h nb (fun b a c => bfly_norm a c (w b) (hw b)) x

/-- **`fft_err`**, the rounding error of a chain of levels, forward or inverse.  `e`: exact butterflies, additive and
    doubling the squared norm; `g`: computed butterflies within `η` of them on the blocks `b < 2^ℓ` of the levels
    `ℓ + d + 1 = k`.  After `i` levels the relative 2-norm error is `(1+η)^i − 1`. -/
theorem _root_.Spq.Fft.LevelN.Chain.err {k : ℕ} {lv : ℕ → ℕ × ℕ} (hlv : ∀ i, i < k → (lv i).1 + (lv i).2 + 1 = k)
    (e g : ℕ → ℕ → ℕ → Cplx K → Cplx K → Cplx K × Cplx K) (η : K) (hη : 0 ≤ η)
    (hnorm : ∀ ℓ d b a c, nsq (e ℓ d b a c).1 + nsq (e ℓ d b a c).2 = 2 * nsq a + 2 * nsq c)
    (hadd : ∀ ℓ d b a c a' c', (e ℓ d b a c).1 - (e ℓ d b a' c').1 = (e ℓ d b (a - a') (c - c')).1 ∧
      (e ℓ d b a c).2 - (e ℓ d b a' c').2 = (e ℓ d b (a - a') (c - c')).2)
    (hg : ∀ ℓ d b, ℓ + d + 1 = k → b < 2 ^ ℓ → ∀ a c,
      nsq ((g ℓ d b a c).1 - (e ℓ d b a c).1) + nsq ((g ℓ d b a c).2 - (e ℓ d b a c).2) ≤
        η ^ 2 * (nsq (e ℓ d b a c).1 + nsq (e ℓ d b a c).2))
    {E Z : ℕ → ℕ → Cplx K} (hE : Chain k lv e E) (hZ : Chain k lv g Z) (h0 : ∀ p, Z 0 p = E 0 p) :
    ∀ i, i ≤ k → ∑ p ∈ range (2 ^ k), nsq (Z i p - E i p) ≤ ((1 + η) ^ i - 1) ^ 2 * ∑ p ∈ range (2 ^ k), nsq (E i p) := by
  intro i
  induction i with
  | zero => intro _; simp [h0]
  | succ i ih =>
    intro hi
    have hk := hlv i hi
    have hz : Z (i + 1) = LvlH (g (lv i).1 (lv i).2) (2 ^ (lv i).2) (Z i) := funext (hZ i hi)
    have he : E (i + 1) = LvlH (e (lv i).1 (lv i).2) (2 ^ (lv i).2) (E i) := funext (hE i hi)
    rw [hz, he]
    exact level_step _ _ (2 ^ (lv i).2) (2 ^ (lv i).1) η hη i (2 ^ k) (by rw [← hk, pow_add, pow_succ]; ring)
      (hnorm _ _) (hadd _ _) (fun b hb => hg _ _ b hk hb) (E i) (Z i) (ih (by omega))

theorem V_chain (k : ℕ) (ζ : Cplx K) (a : ℕ → Cplx K) :
    Chain k (lvF k) (fun ℓ d => fwdE (fun b => ζ ^ twE ℓ d b)) (fun i => V ζ a i (k - i)) :=
  Chain.fwd k (fun ℓ d p => by rw [V]; rfl)

theorem VH_chain (k : ℕ) (g : ℕ → ℕ → ℕ → Cplx K → Cplx K → Cplx K × Cplx K) (a : ℕ → Cplx K) :
    Chain k (lvF k) g (fun i => VH g a i (k - i)) := Chain.fwd k (fun ℓ d p => by rw [VH]; rfl)

theorem V_err (ζ : Cplx K) (hζ : nsq ζ = 1) (η : K) (hη : 0 ≤ η) (k : ℕ)
    (g : ℕ → ℕ → ℕ → Cplx K → Cplx K → Cplx K × Cplx K)
    (hg : ∀ ℓ d b, ℓ + d + 1 = k → b < 2 ^ ℓ → BfErrAt (g ℓ d b) (ζ ^ twE ℓ d b) η)
    {Z : ℕ → ℕ → Cplx K} (hZ : Chain k (lvF k) g Z) (a : ℕ → Cplx K) (h0 : ∀ p, Z 0 p = a p) :
    ∑ p ∈ range (2 ^ k), nsq (Z k p - V ζ a k 0 p) ≤
      ((1 + η) ^ k - 1) ^ 2 * ∑ p ∈ range (2 ^ k), nsq (V ζ a k 0 p) := by
  have := Chain.err (lvF_sum k) (fun ℓ d => fwdE (fun b => ζ ^ twE ℓ d b)) g η hη
    (fun ℓ d b a c => bfly_norm a c _ (by rw [nsq_pow, hζ, one_pow])) (fun ℓ d => fwdE_add _) hg (V_chain k ζ a) hZ h0
    k le_rfl
  simp only [Nat.sub_self] at this
  exact this

/-- one exact inverse level on blocks of size `2h` -/
def ILvl (w : ℕ → Cplx K) (h : ℕ) (x : ℕ → Cplx K) (p : ℕ) : Cplx K :=
  if p % (2 * h) < h then x p + x (p + h) else w (p / (2 * h)) * (x (p - h) - x p)

/-- the exact inverse network; `w n b`: twiddle of block `b` at step `n` -/
def WI (w : ℕ → ℕ → Cplx K) (y : ℕ → Cplx K) : ℕ → ℕ → Cplx K
  | 0, p => y p
  | n + 1, p => ILvl (w n) (2 ^ n) (WI w y n) p

def invE (w : ℕ → Cplx K) (b : ℕ) (a c : Cplx K) : Cplx K × Cplx K := (a + c, w b * (a - c))

theorem ILvl_lo (w : ℕ → Cplx K) (h : ℕ) (x : ℕ → Cplx K) (b r : ℕ) (hr : r < h) :
    ILvl w h x (2 * h * b + r) = x (2 * h * b + r) + x (2 * h * b + r + h) :=
  LvlH_lo (invE w) h x b r hr

theorem ILvl_hi (w : ℕ → Cplx K) (h : ℕ) (x : ℕ → Cplx K) (b r : ℕ) (hr : r < h) :
    ILvl w h x (2 * h * b + r + h) = w b * (x (2 * h * b + r) - x (2 * h * b + r + h)) :=
  LvlH_hi (invE w) h x b r hr

theorem ibfly_norm (a b w : Cplx K) (hw : nsq w = 1) : nsq (a + b) + nsq (w * (a - b)) = 2 * nsq a + 2 * nsq b := by
  rw [nsq_mul, hw, one_mul]
  simp only [nsq, QuadraticAlgebra.re_add, QuadraticAlgebra.im_add, QuadraticAlgebra.re_sub, QuadraticAlgebra.im_sub]
  ring

theorem invE_add (w : ℕ → Cplx K) (b : ℕ) (a c a' c' : Cplx K) :
    (invE w b a c).1 - (invE w b a' c').1 = (invE w b (a - a') (c - c')).1 ∧
      (invE w b a c).2 - (invE w b a' c').2 = (invE w b (a - a') (c - c')).2 := by
  constructor <;> simp only [invE] <;> ring

theorem ilvl_norm (w : ℕ → Cplx K) (hw : ∀ b, nsq (w b) = 1) (h nb : ℕ) (x : ℕ → Cplx K) :
    ∑ p ∈ range (nb * (2 * h)), nsq (ILvl w h x p) = 2 * ∑ p ∈ range (nb * (2 * h)), nsq (x p) :=
  lvlH_norm (invE w) h nb (fun b a c => ibfly_norm a c (w b) (hw b)) x

theorem ilvl_sub (w : ℕ → Cplx K) (h : ℕ) (x y : ℕ → Cplx K) (p : ℕ) :
    ILvl w h x p - ILvl w h y p = ILvl w h (fun q => x q - y q) p :=
  lvlH_sub (invE w) h (invE_add w) x y p

theorem WI_chain (k : ℕ) (w : ℕ → ℕ → ℕ → Cplx K) (y : ℕ → Cplx K) :
    Chain k (lvI k) (fun ℓ d => invE (w ℓ d)) (WI (fun n => w (k - 1 - n) n) y) := fun _ _ _ => rfl

end Spq.FftErr
