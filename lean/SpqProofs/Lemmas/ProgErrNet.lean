/-
  C16, binary64 side: the binary64 budget `PreF` of a program implies the (shape-only) preconditions of the
  exact-network instance `ClosedProps.dftOpsSound_network`, so the binary64 run and the exact-arithmetic run of the SAME
  model code can be compared (`Properties/C16Err.lean`, `f64_agrees_with_exact_network_partial`).
-/
import SpqProofs.Lemmas.ProgErrRun
import SpqProofs.Properties.Closed
namespace Spq.ProgErr
open Spq Spq.Module Spq.Prog Spq.Closed Spq.ClosedProps
variable {K : Type} [Field K] [LinearOrder K] [IsStrictOrderedRing K] {vars : List Var}
variable {R : Type} [CommRing R]

theorem preD_network_of_f64 (M : F64Mod K) (rt : RootData R M.k) (fl : Flags) (hfl : fl.ok M.k) (op : OpD) (a : AState)
    (h : PreF M vars op a) : PreD (dftOpsSound_network rt fl hfl) vars op a := by
  cases op with
  | coeff op => exact h
  | dft d x => exact ⟨h.1, trivial⟩
  | svpPrepare k x => exact ⟨h.1, h.2.1, trivial⟩
  | svp d k x =>
    obtain ⟨hx, sp, hk, _⟩ := h
    exact ⟨hx, sp, hk, trivial⟩
  | vmpPrepare m x => exact ⟨h.1, h.2.1, h.2.2.1, trivial⟩
  | vmp d x m =>
    obtain ⟨hx, Mv, hm, _⟩ := h
    exact ⟨hx, Mv, hm, trivial⟩
  | vmpDD d x m =>
    obtain ⟨hne, P, Mv, hP, hm, _⟩ := h
    exact ⟨hne, P, Mv, hP, hm, trivial⟩
  | idft d x =>
    obtain ⟨hd, P, hP, _⟩ := h
    exact ⟨hd, P, hP, trivial⟩
  | smallProduct d x y =>
    obtain ⟨hd, hx, hy, h1, h2, h3, _⟩ := h
    exact ⟨hd, hx, hy, h1, h2, h3, trivial⟩

theorem guarded_network_of_f64 (M : F64Mod K) (rt : RootData R M.k) (fl : Flags) (hfl : fl.ok M.k) :
    ∀ (ops : List OpD) (a : AState), Guarded (PreF M vars) (astepD M.N) ops a →
      Guarded (PreD (dftOpsSound_network rt fl hfl) vars) (astepD M.N) ops a
  | [], _, _ => trivial
  | op :: ops, a, h => ⟨preD_network_of_f64 M rt fl hfl op a h.1, guarded_network_of_f64 M rt fl hfl ops _ h.2⟩

end Spq.ProgErr
