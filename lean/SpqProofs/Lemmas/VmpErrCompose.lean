/-
  C02 rounding budget: composition over the rows, in DFT space (abstract sequences).
  Rows `i < n`: exact transforms `Ā_i, B̄_i`, computed operands `Â_i, B̂_i` (absolute 2-norm errors `da_i·√M`, `db_i·√M`),
  computed column `Ĉ(t) = Σ_i (Â_i(t)·B̂_i(t) + δ_i(t))` with `|δ_i(t)| ≤ μ·|Â_i(t)|·|B̂_i(t)|` (the backward-error form of
  the accumulation, `cplx_of_psum`).  Then (Minkowski over the rows, `sum_tri_range`)
      ‖Ĉ − Σ_i Ā_i∘B̄_i‖₂² ≤ (Σ_i rowF_i)²·M   (`vmp_dft_abs`; `rowF` of `ProdErrCompose`).
-/
import SpqProofs.Lemmas.ProdErrCompose
import SpqProofs.Lemmas.VmpErrPSum
import Mathlib.Tactic.Choose
set_option linter.unusedSectionVars false
namespace Spq.VmpErr
open Finset Spq.FftErr Spq.ProdErr Spq.ProgErr2
variable {K : Type} [Field K] [LinearOrder K] [IsStrictOrderedRing K]

theorem cre_sum (n : ℕ) (f : ℕ → Cplx K) : (∑ i ∈ range n, f i).re = ∑ i ∈ range n, (f i).re := by
  induction n with
  | zero => simp
  | succ n ih => rw [sum_range_succ, sum_range_succ, QuadraticAlgebra.re_add, ih]

theorem cim_sum (n : ℕ) (f : ℕ → Cplx K) : (∑ i ∈ range n, f i).im = ∑ i ∈ range n, (f i).im := by
  induction n with
  | zero => simp
  | succ n ih => rw [sum_range_succ, sum_range_succ, QuadraticAlgebra.im_add, ih]

theorem sum_tri_range {ι : Type} (s : Finset ι) (n : ℕ) (f : ℕ → ι → Cplx K) (α : ℕ → K) (Y : K)
    (hα : ∀ i, i < n → 0 ≤ α i) (hf : ∀ i, i < n → ∑ t ∈ s, nsq (f i t) ≤ α i ^ 2 * Y) :
    ∑ t ∈ s, nsq (∑ i ∈ range n, f i t) ≤ (∑ i ∈ range n, α i) ^ 2 * Y := by
  induction n with
  | zero => simp
  | succ n ih =>
    have h1 := ih (fun i hi => hα i (by omega)) (fun i hi => hf i (by omega))
    have h0 : 0 ≤ ∑ i ∈ range n, α i := sum_nonneg (fun i hi => hα i (by have := mem_range.1 hi; omega))
    have := sum_tri s (fun t => ∑ i ∈ range n, f i t) (fun t => f n t) _ _ Y h0 (hα n (by omega)) h1 (hf n (by omega))
    simp only [sum_range_succ]
    exact this

theorem vmp_dft_abs (s : Finset ℕ) (n : ℕ) (Ab Bb Ah Bh : ℕ → ℕ → Cplx K) (Ch : ℕ → Cplx K)
    (μ M t : K) (da db na nb la lb : ℕ → K)
    (hμ : 0 ≤ μ) (hM : 0 ≤ M) (ht : 0 ≤ t) (hMt : M ≤ t ^ 2)
    (hda : ∀ i, i < n → 0 ≤ da i) (hdb : ∀ i, i < n → 0 ≤ db i)
    (hna : ∀ i, i < n → 0 ≤ na i) (hnb : ∀ i, i < n → 0 ≤ nb i) (hla : ∀ i, i < n → 0 ≤ la i)
    (hlb : ∀ i, i < n → 0 ≤ lb i)
    (hA : ∀ i, i < n → ∑ j ∈ s, nsq (Ah i j - Ab i j) ≤ da i ^ 2 * M)
    (hAn : ∀ i, i < n → ∑ j ∈ s, nsq (Ab i j) ≤ na i ^ 2 * M) (hAs : ∀ i, i < n → ∀ j ∈ s, nsq (Ab i j) ≤ la i ^ 2)
    (hB : ∀ i, i < n → ∑ j ∈ s, nsq (Bh i j - Bb i j) ≤ db i ^ 2 * M)
    (hBn : ∀ i, i < n → ∑ j ∈ s, nsq (Bb i j) ≤ nb i ^ 2 * M) (hBs : ∀ i, i < n → ∀ j ∈ s, nsq (Bb i j) ≤ lb i ^ 2)
    (hC : ∀ j ∈ s, ∃ δ : ℕ → Cplx K, (∀ i, i < n → nsq (δ i) ≤ μ ^ 2 * (nsq (Ah i j) * nsq (Bh i j))) ∧
      Ch j = ∑ i ∈ range n, (Ah i j * Bh i j + δ i)) :
    ∑ j ∈ s, nsq (Ch j - ∑ i ∈ range n, Ab i j * Bb i j) ≤
      (∑ i ∈ range n, rowF μ (da i) (db i) (na i) (nb i) (la i) (lb i) t) ^ 2 * M := by
  classical
  choose! δ hδ hCh using hC
  have row := fun i (hi : i < n) => dft_prod_abs s (Ab i) (Bb i) (Ah i) (Bh i) (fun j => Ah i j * Bh i j + δ j i)
    μ (da i) (db i) (na i) (nb i) (la i) (lb i) M t hμ (hda i hi) (hdb i hi) (hna i hi) (hnb i hi) (hla i hi)
    (hlb i hi) hM ht hMt (hA i hi) (hAn i hi) (hAs i hi) (hB i hi) (hBn i hi) (hBs i hi)
    (fun j hj => by rw [add_sub_cancel_left]; exact hδ j hj i hi)
  have := sum_tri_range s n (fun i j => (Ah i j * Bh i j + δ j i) - Ab i j * Bb i j)
    (fun i => rowF μ (da i) (db i) (na i) (nb i) (la i) (lb i) t) M
    (fun i hi => rowF_nonneg hμ (hda i hi) (hdb i hi) (hna i hi) (hnb i hi) (hla i hi) (hlb i hi) ht)
    row
  refine le_trans (le_of_eq ?_) this
  apply sum_congr rfl
  intro j hj
  rw [hCh j hj, sum_sub_distrib]

theorem cplx_of_psum (n : ℕ) (a b c d : ℕ → ℚ) (g sr si : ℚ) (_hg : 0 ≤ g)
    (hr : PSum n (fun i => a i * c i - b i * d i) (fun i => |a i * c i| + |b i * d i|) (1 + g) sr)
    (hi : PSum n (fun i => a i * d i + b i * c i) (fun i => |a i * d i| + |b i * c i|) (1 + g) si) :
    ∃ δ : ℕ → Cplx K,
      (∀ i, i < n → nsq (δ i) ≤ (((3 / 2 * g : ℚ)) : K) ^ 2 *
        (nsq (⟨(a i : K), (b i : K)⟩ : Cplx K) * nsq (⟨(c i : K), (d i : K)⟩ : Cplx K))) ∧
      (⟨(sr : K), (si : K)⟩ : Cplx K) =
        ∑ i ∈ range n, ((⟨(a i : K), (b i : K)⟩ : Cplx K) * ⟨(c i : K), (d i : K)⟩ + δ i) := by
  obtain ⟨er, h1, h2⟩ := hr
  obtain ⟨ei, k1, k2⟩ := hi
  refine ⟨fun i => ⟨(er i : K), (ei i : K)⟩, ?_, ?_⟩
  · intro i hin
    have a1 := h1 i hin
    have a2 := k1 i hin
    rw [add_sub_cancel_left] at a1 a2
    have hq := FftErr.cprod_bound g (er i) (ei i) (a i) (b i) (c i) (d i) a1 a2
    have hq2 : er i ^ 2 + ei i ^ 2 ≤ (3 / 2 * g) ^ 2 * ((a i ^ 2 + b i ^ 2) * (c i ^ 2 + d i ^ 2)) := by
      refine le_trans hq ?_
      have h0 : 0 ≤ g ^ 2 * ((a i ^ 2 + b i ^ 2) * (c i ^ 2 + d i ^ 2)) := by positivity
      linarith
    have hK := (Rat.cast_le (K := K)).2 hq2
    simp only [nsq]
    push_cast at hK ⊢
    exact hK
  · apply QuadraticAlgebra.ext
    · rw [cre_sum]
      simp only [QuadraticAlgebra.re_add, QuadraticAlgebra.re_mul]
      rw [h2]
      push_cast
      apply sum_congr rfl
      intro i _
      ring
    · rw [cim_sum]
      simp only [QuadraticAlgebra.im_add, QuadraticAlgebra.im_mul]
      rw [k2]
      push_cast
      apply sum_congr rfl
      intro i _
      ring

end Spq.VmpErr
