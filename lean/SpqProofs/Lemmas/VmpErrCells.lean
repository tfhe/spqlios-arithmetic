/-
  C02 rounding budget: the cells of the four reim4 dot-product kernels, for ANY arithmetic record, are the
  scalar recurrences of `VmpErrDot.lean` applied to the lane data.
-/
import SpqProofs.Lemmas.F64StdSim
namespace Spq.VmpErr
open Spq Spq.Reim4
variable {α : Type}

/-- lane `k` of row `i` of the vector block (`8` cells per row): real / imaginary part -/
def uRe (z : α) (u : Array α) (k : ℕ) : ℕ → α := fun i => u.getD (8 * i + k) z
def uIm (z : α) (u : Array α) (k : ℕ) : ℕ → α := fun i => u.getD (8 * i + k + 4) z
/-- lane `k` of row `i` of a matrix block with `w` cells per row (`w = 8`: one column, `w = 16`: a column pair),
    column offset `o` (`0` or `8`) -/
def vRe (z : α) (v : Array α) (w o k : ℕ) : ℕ → α := fun i => v.getD (w * i + o + k) z
def vIm (z : α) (v : Array α) (w o k : ℕ) : ℕ → α := fun i => v.getD (w * i + o + k + 4) z

theorem mat1colRef_cells (ar : RArith α) (n : ℕ) (dst u v : Array α) (hb : 8 ≤ dst.size) (k : ℕ) (hk : k < 4) :
    (vecMat1colProductRef ar n dst u v).size = dst.size ∧
    (vecMat1colProductRef ar n dst u v).getD k ar.zero =
      refRe ar (uRe ar.zero u k) (uIm ar.zero u k) (vRe ar.zero v 8 0 k) (vIm ar.zero v 8 0 k) n ∧
    (vecMat1colProductRef ar n dst u v).getD (k + 4) ar.zero =
      refIm ar (uRe ar.zero u k) (uIm ar.zero u k) (vRe ar.zero v 8 0 k) (vIm ar.zero v 8 0 k) n := by
  obtain ⟨c1, c2, _⟩ := dotAt_cells ar n 0 (fun i => 8 * i) (fun i => 8 * i) dst u v (by omega)
  have := c2 k hk
  simp only [Nat.zero_add] at this
  exact ⟨c1, this.1, this.2⟩

theorem mat1colAvx2_cells' (ar : RArith α) (n : ℕ) (dst u v : Array α) (hb : 8 ≤ dst.size) (k : ℕ) (hk : k < 4) :
    (vecMat1colProductAvx2 ar n dst u v).size = dst.size ∧
    (vecMat1colProductAvx2 ar n dst u v).getD k ar.zero =
      av1Re ar (uRe ar.zero u k) (uIm ar.zero u k) (vRe ar.zero v 8 0 k) (vIm ar.zero v 8 0 k) n ∧
    (vecMat1colProductAvx2 ar n dst u v).getD (k + 4) ar.zero =
      av1Im ar (uRe ar.zero u k) (uIm ar.zero u k) (vRe ar.zero v 8 0 k) (vIm ar.zero v 8 0 k) n := by
  obtain ⟨c1, c2⟩ := mat1colAvx2_cells ar n dst u v hb k hk
  have q : ∀ i, 8 * i + 4 + k = 8 * i + k + 4 := by intro i; omega
  refine ⟨by unfold vecMat1colProductAvx2; simp, ?_, ?_⟩
  · rw [c1]; simp only [q]; rfl
  · rw [c2]; simp only [q]; rfl

theorem mat2colsRef_cells (ar : RArith α) (n : ℕ) (dst u v : Array α) (hb : 16 ≤ dst.size) (k : ℕ) (hk : k < 4) :
    (vecMat2colsProductRef ar n dst u v).size = dst.size ∧
    (vecMat2colsProductRef ar n dst u v).getD k ar.zero =
      refRe ar (uRe ar.zero u k) (uIm ar.zero u k) (vRe ar.zero v 16 0 k) (vIm ar.zero v 16 0 k) n ∧
    (vecMat2colsProductRef ar n dst u v).getD (k + 4) ar.zero =
      refIm ar (uRe ar.zero u k) (uIm ar.zero u k) (vRe ar.zero v 16 0 k) (vIm ar.zero v 16 0 k) n ∧
    (vecMat2colsProductRef ar n dst u v).getD (8 + k) ar.zero =
      refRe ar (uRe ar.zero u k) (uIm ar.zero u k) (vRe ar.zero v 16 8 k) (vIm ar.zero v 16 8 k) n ∧
    (vecMat2colsProductRef ar n dst u v).getD (8 + k + 4) ar.zero =
      refIm ar (uRe ar.zero u k) (uIm ar.zero u k) (vRe ar.zero v 16 8 k) (vIm ar.zero v 16 8 k) n := by
  unfold vecMat2colsProductRef
  simp only []
  induction n with
  | zero =>
    obtain ⟨z1, z2, _⟩ := zeroAt_spec ar dst 0 (by omega)
    obtain ⟨y1, y2, y3⟩ := zeroAt_spec ar (zeroAt ar dst 0) 8 (by rw [z1]; omega)
    have a := z2 k (by omega)
    have b := z2 (k + 4) (by omega)
    rw [Nat.zero_add] at a b
    simp only [Nat.fold_zero]
    refine ⟨by rw [y1, z1], ?_, ?_, ?_, ?_⟩
    · rw [y3 k (by omega), a]; rfl
    · rw [y3 (k + 4) (by omega), b]; rfl
    · rw [y2 k (by omega)]; rfl
    · rw [Nat.add_assoc, y2 (k + 4) (by omega)]; rfl
  | succ n ih =>
    simp only [Nat.fold_succ]
    generalize Nat.fold n (fun i _ dst => vecMat2colsRefStep ar u v i dst) (zeroAt ar (zeroAt ar dst 0) 8) = rn at ih
    obtain ⟨s1, i1, i2, i3, i4⟩ := ih
    unfold vecMat2colsRefStep
    simp only []
    obtain ⟨t1, t2, t3⟩ := addMulAt_spec ar rn 0 u (8 * n) v (2 * (8 * n)) (by omega)
    obtain ⟨w1, w2, w3⟩ := addMulAt_spec ar (addMulAt ar rn 0 u (8 * n) v (2 * (8 * n))) 8 u (8 * n) v (2 * (8 * n) + 8)
      (by rw [t1]; omega)
    obtain ⟨a, b⟩ := t2 k hk
    obtain ⟨c, d⟩ := w2 k hk
    rw [Nat.zero_add] at a b
    have e16 : 2 * (8 * n) = 16 * n := by omega
    refine ⟨by rw [w1, t1, s1], ?_, ?_, ?_, ?_⟩
    · rw [w3 k (by omega), a, i1, refRe]
      simp only [uRe, uIm, vRe, vIm, Nat.add_zero, e16]
    · rw [w3 (k + 4) (by omega), b, i2, refIm]
      simp only [uRe, uIm, vRe, vIm, Nat.add_zero, e16]
    · rw [c, t3 (8 + k) (by omega), i3, refRe]
      simp only [uRe, uIm, vRe, vIm, e16]
    · rw [d, t3 (8 + k + 4) (by omega), i4, refIm]
      simp only [uRe, uIm, vRe, vIm, e16]

theorem mat2colsRef_frame (ar : RArith α) (n : ℕ) (dst u v : Array α) (hb : 16 ≤ dst.size) (x : ℕ) (hx : 16 ≤ x) :
    (vecMat2colsProductRef ar n dst u v).getD x ar.zero = dst.getD x ar.zero := by
  unfold vecMat2colsProductRef
  simp only []
  obtain ⟨z1, _, z3⟩ := zeroAt_spec ar dst 0 (by omega)
  obtain ⟨y1, _, y3⟩ := zeroAt_spec ar (zeroAt ar dst 0) 8 (by rw [z1]; omega)
  suffices H : (Nat.fold n (fun i _ dst => vecMat2colsRefStep ar u v i dst) (zeroAt ar (zeroAt ar dst 0) 8)).size = dst.size ∧
      (Nat.fold n (fun i _ dst => vecMat2colsRefStep ar u v i dst) (zeroAt ar (zeroAt ar dst 0) 8)).getD x ar.zero =
        dst.getD x ar.zero from H.2
  induction n with
  | zero => exact ⟨by rw [Nat.fold_zero, y1, z1], by rw [Nat.fold_zero, y3 x (by omega), z3 x (by omega)]⟩
  | succ n ih =>
    simp only [Nat.fold_succ]
    generalize Nat.fold n (fun i _ dst => vecMat2colsRefStep ar u v i dst) (zeroAt ar (zeroAt ar dst 0) 8) = rn at ih
    unfold vecMat2colsRefStep
    simp only []
    obtain ⟨t1, _, t3⟩ := addMulAt_spec ar rn 0 u (8 * n) v (2 * (8 * n)) (by omega)
    obtain ⟨w1, _, w3⟩ := addMulAt_spec ar (addMulAt ar rn 0 u (8 * n) v (2 * (8 * n))) 8 u (8 * n) v (2 * (8 * n) + 8)
      (by rw [t1]; omega)
    exact ⟨by rw [w1, t1, ih.1], by rw [w3 x (by omega), t3 x (by omega), ih.2]⟩

theorem mat2colsAvx2_chain (ar : RArith α) (n : ℕ) (u v : Array α) (l : ℕ) (hl : l < 4) :
    let acc := Nat.fold n (fun i _ s => vecMat2colsAvx2Step ar u v i s)
      (V4.splat ar.zero, V4.splat ar.zero, V4.splat ar.zero, V4.splat ar.zero)
    acc.1.lane l = av2Re ar (uRe ar.zero u l) (uIm ar.zero u l) (vRe ar.zero v 16 0 l) (vIm ar.zero v 16 0 l) n ∧
    acc.2.1.lane l = av2Im ar (uRe ar.zero u l) (uIm ar.zero u l) (vRe ar.zero v 16 0 l) (vIm ar.zero v 16 0 l) n ∧
    acc.2.2.1.lane l = av2Re ar (uRe ar.zero u l) (uIm ar.zero u l) (vRe ar.zero v 16 8 l) (vIm ar.zero v 16 8 l) n ∧
    acc.2.2.2.lane l = av2Im ar (uRe ar.zero u l) (uIm ar.zero u l) (vRe ar.zero v 16 8 l) (vIm ar.zero v 16 8 l) n := by
  induction n with
  | zero => simp [Nat.fold_zero, V4.lane_splat, av2Re, av2Im]
  | succ n ih =>
    simp only [Nat.fold_succ]
    generalize Nat.fold n (fun i _ s => vecMat2colsAvx2Step ar u v i s)
      (V4.splat ar.zero, V4.splat ar.zero, V4.splat ar.zero, V4.splat ar.zero) = s at ih
    obtain ⟨re1, im1, re2, im2⟩ := s
    obtain ⟨h1, h2, h3, h4⟩ := ih
    simp only at h1 h2 h3 h4
    have q1 : 16 * n + 4 + l = 16 * n + 0 + l + 4 := by omega
    have q2 : 16 * n + 8 + l = 16 * n + 8 + l := rfl
    have q3 : 16 * n + 12 + l = 16 * n + 8 + l + 4 := by omega
    have q4 : 8 * n + 4 + l = 8 * n + l + 4 := by omega
    have q5 : 16 * n + l = 16 * n + 0 + l := by omega
    simp only [vecMat2colsAvx2Step, V4.fmadd, V4.fmsub, V4.lane_map3, V4.lane_load _ _ _ _ hl, av2Re, av2Im, h1, h2, h3, h4,
      uRe, uIm, vRe, vIm, q1, q3, q4, q5, and_self]

theorem mat2colsAvx2_cells (ar : RArith α) (n : ℕ) (dst u v : Array α) (hb : 16 ≤ dst.size) (k : ℕ) (hk : k < 4) :
    (vecMat2colsProductAvx2 ar n dst u v).size = dst.size ∧
    (vecMat2colsProductAvx2 ar n dst u v).getD k ar.zero =
      av2Re ar (uRe ar.zero u k) (uIm ar.zero u k) (vRe ar.zero v 16 0 k) (vIm ar.zero v 16 0 k) n ∧
    (vecMat2colsProductAvx2 ar n dst u v).getD (k + 4) ar.zero =
      av2Im ar (uRe ar.zero u k) (uIm ar.zero u k) (vRe ar.zero v 16 0 k) (vIm ar.zero v 16 0 k) n ∧
    (vecMat2colsProductAvx2 ar n dst u v).getD (8 + k) ar.zero =
      av2Re ar (uRe ar.zero u k) (uIm ar.zero u k) (vRe ar.zero v 16 8 k) (vIm ar.zero v 16 8 k) n ∧
    (vecMat2colsProductAvx2 ar n dst u v).getD (8 + k + 4) ar.zero =
      av2Im ar (uRe ar.zero u k) (uIm ar.zero u k) (vRe ar.zero v 16 8 k) (vIm ar.zero v 16 8 k) n := by
  generalize hacc : Nat.fold n (fun i _ s => vecMat2colsAvx2Step ar u v i s)
    (V4.splat ar.zero, V4.splat ar.zero, V4.splat ar.zero, V4.splat ar.zero) = acc
  have e : vecMat2colsProductAvx2 ar n dst u v =
      V4.store (V4.store (V4.store (V4.store dst 0 acc.1) 4 acc.2.1) 8 acc.2.2.1) 12 acc.2.2.2 := by
    rw [← hacc]; rfl
  obtain ⟨c1, c2, c3, c4⟩ := mat2colsAvx2_chain ar n u v k hk
  rw [hacc] at c1 c2 c3 c4
  have g0 := V4.getD_store_in dst 0 acc.1 k ar.zero hk (by omega)
  rw [Nat.zero_add] at g0
  have e4 : k + 4 = 4 + k := by omega
  have e12 : 8 + k + 4 = 12 + k := by omega
  refine ⟨by rw [e]; simp, ?_, ?_, ?_, ?_⟩
  · rw [e, V4.getD_store_out _ _ _ _ _ (by omega), V4.getD_store_out _ _ _ _ _ (by omega),
      V4.getD_store_out _ _ _ _ _ (by omega), g0, c1]
  · rw [e, e4, V4.getD_store_out _ _ _ _ _ (by omega), V4.getD_store_out _ _ _ _ _ (by omega),
      V4.getD_store_in _ _ _ _ _ hk (by rw [V4.size_store]; omega), c2]
  · rw [e, V4.getD_store_out _ _ _ _ _ (by omega),
      V4.getD_store_in _ _ _ _ _ hk (by rw [V4.size_store, V4.size_store]; omega), c3]
  · rw [e, e12, V4.getD_store_in _ _ _ _ _ hk (by rw [V4.size_store, V4.size_store, V4.size_store]; omega), c4]

end Spq.VmpErr
