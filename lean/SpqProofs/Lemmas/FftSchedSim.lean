/-
  Structural simulation: the in-place kernels of `Spq.Fft` over an ARBITRARY value type `R` (no ring laws: binary64
  patterns, flagged patterns, rationals with rounding, a ring, …) are simulated by the view-level functions of
  `FftView` on `prs s = fun p => (re[p], im[p])`.
  Law-free: both the exact transform theorems (`FftExact`, property C06) and the rounding bound (`C06Err`) rest on it.
-/
import SpqProofs.Lemmas.FftSim
namespace Spq.Fft.SimP
open Spq.Fft Spq.Fft.View Spq.Fft.Sim

variable {R : Type} [Inhabited R]

def prs (s : RI R) : ℕ → R × R := fun p => (s.re[p]!, s.im[p]!)

def bfV (f : Bf R) (wr wi : R) (u v : R × R) : (R × R) × (R × R) :=
  (((f u.1 u.2 v.1 v.2 wr wi).1, (f u.1 u.2 v.1 v.2 wr wi).2.1),
   ((f u.1 u.2 v.1 v.2 wr wi).2.2.1, (f u.1 u.2 v.1 v.2 wr wi).2.2.2))

def RealisesP (f : Bf R) (wr wi : R) (φ ψ : R × R → R × R → R × R) : Prop :=
  ∀ ra ia rb ib,
    ((f ra ia rb ib wr wi).1, (f ra ia rb ib wr wi).2.1) = φ (ra, ia) (rb, ib) ∧
    ((f ra ia rb ib wr wi).2.2.1, (f ra ia rb ib wr wi).2.2.2) = ψ (ra, ia) (rb, ib)

theorem realP (f : Bf R) (wr wi : R) :
    RealisesP f wr wi (fun u v => (bfV f wr wi u v).1) (fun u v => (bfV f wr wi u v).2) :=
  fun _ _ _ _ => ⟨rfl, rfl⟩

theorem bf_sim (N : ℕ) (f : Bf R) (wr wi : R) (φ ψ : R × R → R × R → R × R) (hf : RealisesP f wr wi φ ψ)
    (s : RI R) (a b : ℕ) (hs : Valid N s) (ha : a < N) (hb : b < N) (hab : a ≠ b) :
    prs (bf f s a b wr wi) = G φ ψ a b (prs s) ∧ Valid N (bf f s a b wr wi) := by
  obtain ⟨hre, him⟩ := hs
  constructor
  · funext p
    have h1 := hf s.re[a]! s.im[a]! s.re[b]! s.im[b]!
    simp only [prs, bf, G]
    rw [getElem!_set! _ _ _ _ (by simp [hre, hb]), getElem!_set! _ _ _ _ (by simp [hre, ha]),
      getElem!_set! _ _ _ _ (by simp [him, hb]), getElem!_set! _ _ _ _ (by simp [him, ha])]
    by_cases hpb : p = b
    · subst hpb
      rw [if_pos rfl, if_pos rfl, if_neg (Ne.symm hab), if_pos rfl]
      exact h1.2
    · rw [if_neg hpb, if_neg hpb]
      by_cases hpa : p = a
      · subst hpa
        rw [if_pos rfl, if_pos rfl, if_pos rfl]
        exact h1.1
      · rw [if_neg hpa, if_neg hpa, if_neg hpa, if_neg hpb]
  · simp [Valid, bf, hre, him]

theorem loop_sim (N : ℕ) (f : ℕ → RI R → RI R) (g : ℕ → (ℕ → R × R) → (ℕ → R × R)) (c : ℕ)
    (h : ∀ j s, j < c → Valid N s → prs (f j s) = g j (prs s) ∧ Valid N (f j s)) (s : RI R) (hs : Valid N s) :
    prs (iterFrom f c 0 s) = iterFrom g c 0 (prs s) ∧ Valid N (iterFrom f c 0 s) :=
  iterFrom_sim (prs) (Valid N) f g c 0 (fun j s _ hj hs => h j s (by omega) hs) s hs

theorem twPass_sim (N : ℕ) (f : Bf R) (wr wi : R) (φ ψ : R × R → R × R → R × R) (hf : RealisesP f wr wi φ ψ)
    (h off : ℕ) (s : RI R) (hs : Valid N s) (hN : off + 2 * h ≤ N) :
    prs (twPass f h off wr wi s) = twG φ ψ h off (prs s) ∧ Valid N (twPass f h off wr wi s) := by
  unfold twPass
  have := loop_sim N (fun i s => bf f s (off + i) (off + h + i) wr wi)
    (fun i x => G φ ψ (off + i) (off + h + i) x) h
    (fun j s hj hs => bf_sim N f wr wi φ ψ hf s _ _ hs (by omega) (by omega) (by omega)) s hs
  rw [loop1] at this
  exact this

theorem bf2_sim (N : ℕ) (f f' : Bf R) (wr wi wr' wi' : R) (φ ψ φ' ψ' : R × R → R × R → R × R)
    (hf : RealisesP f wr wi φ ψ) (hf' : RealisesP f' wr' wi' φ' ψ')
    (s : RI R) (a b a' b' : ℕ) (hs : Valid N s) (ha : a < N) (hb : b < N) (hab : a ≠ b)
    (ha' : a' < N) (hb' : b' < N) (hab' : a' ≠ b') :
    prs (bf f' (bf f s a b wr wi) a' b' wr' wi') = G φ' ψ' a' b' (G φ ψ a b (prs s)) ∧
      Valid N (bf f' (bf f s a b wr wi) a' b' wr' wi') := by
  have h1 := bf_sim N f wr wi φ ψ hf s a b hs ha hb hab
  have h2 := bf_sim N f' wr' wi' φ' ψ' hf' _ a' b' h1.2 ha' hb' hab'
  rw [h2.1, h1.1]; exact ⟨rfl, h2.2⟩

end Spq.Fft.SimP
