/-
  Instances for `fft_err`: the level network with the reference / FMA butterflies of `Spq/Fft/Core.lean` and a table
  of stored twiddles; the standard model of `Fft.Arith` from `StdModel`; the numeric value of the
  butterfly constant for binary64 with a measured twiddle error.
-/
import SpqProofs.Lemmas.FftErrNet
import Mathlib.Tactic.NormNum

set_option linter.unusedSectionVars false

namespace Spq.FftErr
open Finset Spq.Fft Spq.Fft.Alg
variable {K : Type} [Field K] [LinearOrder K] [IsStrictOrderedRing K]

/-- The two arithmetic records of the model differ in `zero` / `neg` only: the FFT record of an `RArith` and a
    negation.  `aOk`, `aG`, `f64` and the arithmetics of the overflow and witness proofs all have this form. -/
def _root_.Spq.Fft.Arith.ofR {α : Type} (ar : RArith α) (neg : α → α) : Arith α :=
  ⟨ar.add, ar.sub, ar.mul, neg, ar.fma, ar.fms⟩

def ofRArith (ar : RArith K) : Arith K := Arith.ofR ar (fun a => -a)

theorem fstd_of_stdModel {ar : RArith K} {u : K} (sm : StdModel ar u) : FStd (ofRArith ar) u :=
  ⟨sm.u_nonneg, sm.add, sm.sub, sm.mul, sm.fma, sm.fms, fun _ => rfl⟩

def exactA : Arith K := ⟨(· + ·), (· - ·), (· * ·), (- ·), fun a b c => a * b + c, fun a b c => a * b - c⟩

theorem fstd_exact : FStd (exactA : Arith K) 0 := fstd_of_stdModel stdModel_ofRing

/-- the network of butterflies `f` (e.g. `ctRef A`, `ctFma A`) with the stored twiddles `wh ℓ d b` -/
def netOf (f : Bf K) (wh : ℕ → ℕ → ℕ → Cplx K) : ℕ → ℕ → ℕ → Cplx K → Cplx K → Cplx K × Cplx K :=
  fun ℓ d b x y => bfC f x y (wh ℓ d b)

/-- for binary64 (`u = 2^-53`) and a twiddle error `τ ≤ 3.5·u`: `η ≤ 8·2^-53` -/
theorem eta_f64_le : eta ((2 : ℚ) ^ (-53 : ℤ)) (7 / 2 * 2 ^ (-53 : ℤ)) ≤ 8 * 2 ^ (-53 : ℤ) := by
  have h : (2 : ℚ) ^ (-53 : ℤ) = 1 / 9007199254740992 := by norm_num
  rw [h]
  unfold eta rho gam
  norm_num

end Spq.FftErr
