/-
  The exact forward transform is the evaluation map at the odd powers of the root, in bit-reversed order:
     exNtt w k g j = Σ_{i < 2^k} g_i * w^(i * (2 * brev_k j + 1))        (given w^(2^k) = -1)
  and therefore turns the negacyclic convolution into the pointwise product.
-/
import SpqProofs.Lemmas.NttSpec
import Mathlib.Algebra.BigOperators.Intervals
import Mathlib.Algebra.BigOperators.Ring.Finset

namespace Spq.Q120Ntt
open Finset

/-- bit reversal of the `t` low bits of `c` -/
def brev : Nat → Nat → Nat
  | 0, _ => 0
  | t+1, c => 2 ^ t * (c % 2) + brev t (c / 2)

theorem brev_lt (t c : Nat) : brev t c < 2 ^ t := by
  induction t generalizing c with
  | zero => simp [brev]
  | succ t ih =>
    have := ih (c / 2)
    have h2 : c % 2 < 2 := Nat.mod_lt _ (by norm_num)
    have : 2 ^ t * (c % 2) ≤ 2 ^ t * 1 := Nat.mul_le_mul_left _ (by omega)
    simp only [brev, pow_succ]; omega

variable {K : Type} [CommRing K]

theorem sum_range_double (F : Nat → K) (T : Nat) :
    ∑ s ∈ range (2 * T), F s = ∑ s ∈ range T, (F (2 * s) + F (2 * s + 1)) := by
  induction T with
  | zero => simp
  | succ T ih =>
    rw [show 2 * (T + 1) = 2 * T + 1 + 1 by ring, sum_range_succ, sum_range_succ, ih, sum_range_succ]
    ring

/-- one DIF level at one cell: from the partial evaluations over `T` residues on a block of `B = 2H` cells to
    the partial evaluations over `2T` residues on a block of `H` cells -/
theorem dif_step_point (w : K) (g' : Nat → K) (B H T N : Nat) (hB : B = 2 * H) (hN : B * T = N) (hw : w ^ N = -1)
    (τ : Nat → K) (hτ : ∀ u, τ u = w ^ ((u + 1) * (2 * T)))
    (y : Nat → K) (c r φ e : Nat) (hr : r < H) (he : e < 2)
    (h1 : y (c * B + r) = ∑ s ∈ range T, g' (r + s * B) * w ^ (2 * (r + s * B) * φ))
    (h2 : y (c * B + (r + H)) = ∑ s ∈ range T, g' (r + H + s * B) * w ^ (2 * (r + H + s * B) * φ)) :
    exFwd B τ y ((2 * c + e) * H + r)
      = ∑ s' ∈ range (2 * T), g' (r + s' * H) * w ^ (2 * (r + s' * H) * (T * e + φ)) := by
  subst hB
  have hw2N : ∀ s, w ^ (2 * N * s) = 1 := by
    intro s; rw [show 2 * N * s = N * (2 * s) by ring, pow_mul, hw, pow_mul]; simp
  rw [sum_range_double]
  rw [← Nat.add_assoc] at h2
  have he' : e = 0 ∨ e = 1 := by omega
  rcases he' with rfl | rfl
  · -- upper half of the block: a + b
    rw [show (2 * c + 0) * H + r = c * (2 * H) + r by ring, exFwd_lo _ _ _ _ hr, h1, h2, ← sum_add_distrib]
    apply sum_congr rfl
    intro s _
    rw [show r + 2 * s * H = r + s * (2 * H) by ring,
      show r + (2 * s + 1) * H = r + H + s * (2 * H) by ring, Nat.mul_zero, Nat.zero_add]
  · -- lower half of the block: (a - b) * w^(r * 2T)
    have hmul : (if r = 0 then (1 : K) else τ (r - 1)) = w ^ (r * (2 * T)) := by
      by_cases h0 : r = 0
      · subst h0; simp
      · rw [if_neg h0, hτ]; congr 2; omega
    rw [show (2 * c + 1) * H + r = c * (2 * H) + r + H by ring, exFwd_hi _ _ _ _ hr, hmul, h1, h2,
      ← sum_sub_distrib, sum_mul]
    apply sum_congr rfl
    intro s _
    rw [show r + 2 * s * H = r + s * (2 * H) by ring,
      show r + (2 * s + 1) * H = r + H + s * (2 * H) by ring, Nat.mul_one]
    have e1 : 2 * (r + s * (2 * H)) * (T + φ) = 2 * (r + s * (2 * H)) * φ + r * (2 * T) + 2 * N * s := by
      rw [← hN]; ring
    have e2 : 2 * (r + H + s * (2 * H)) * (T + φ) = 2 * (r + H + s * (2 * H)) * φ + r * (2 * T) + N + 2 * N * s := by
      rw [← hN]; ring
    rw [e1, e2, pow_add, pow_add, pow_add, pow_add, pow_add, hw2N, hw]
    ring

/-- what the data is after `t` DIF levels: cell `r` of block `c` (blocks of `2^m` cells) holds the partial
    evaluation of the residue class `r mod 2^m` at the root number `brev_t c` -/
def DifInv (w : K) (g' : Nat → K) (m t : Nat) (y : Nat → K) : Prop :=
  ∀ c < 2 ^ t, ∀ r < 2 ^ m,
    y (c * 2 ^ m + r) = ∑ s ∈ range (2 ^ t), g' (r + s * 2 ^ m) * w ^ (2 * (r + s * 2 ^ m) * brev t c)

theorem difInv_step {q : Nat} (w : ZMod q) (g' : Nat → ZMod q) (m t : Nat) (hw : w ^ (2 ^ (m + 1 + t)) = -1)
    (y : Nat → ZMod q)
    (h : DifInv w g' (m + 1) t y) :
    DifInv w g' m (t + 1) (exFwd (2 ^ (m + 1)) (τLevel w (2 * 2 ^ (m + 1 + t)) (2 ^ (m + 1))) y) := by
  intro c' hc' r hr
  have hc : c' / 2 < 2 ^ t := by rw [pow_succ] at hc'; omega
  have hsplit : c' = 2 * (c' / 2) + c' % 2 := by omega
  have he : c' % 2 < 2 := Nat.mod_lt _ (by norm_num)
  have hτ : ∀ u, τLevel w (2 * 2 ^ (m + 1 + t)) (2 ^ (m + 1)) u = w ^ ((u + 1) * (2 * 2 ^ t)) := by
    intro u
    simp only [τLevel]
    congr 2
    rw [show 2 * 2 ^ (m + 1 + t) = 2 ^ (m + 1) * (2 * 2 ^ t) by ring, Nat.mul_div_cancel_left _ (by positivity)]
  have h1 := h (c' / 2) hc r (by rw [pow_succ]; omega)
  have h2 := h (c' / 2) hc (r + 2 ^ m) (by rw [pow_succ]; omega)
  have := dif_step_point w g' (2 ^ (m + 1)) (2 ^ m) (2 ^ t) (2 ^ (m + 1 + t)) (by ring) (by ring) hw _ hτ y
    (c' / 2) r (brev t (c' / 2)) (c' % 2) hr he h1 h2
  rw [← hsplit] at this
  rw [this, show 2 ^ (t + 1) = 2 * 2 ^ t by ring]
  rfl

theorem difInv_all {q : Nat} (w : ZMod q) (g' : Nat → ZMod q) (k m t : Nat) (hk : m + t = k) (hw : w ^ (2 ^ k) = -1)
    (y : Nat → ZMod q)
    (h : DifInv w g' m t y) :
    DifInv w g' 0 k (exFwdAll ((fwdSizes m).map fun nn => (nn, τLevel w (2 * 2 ^ k) nn)) y) := by
  induction m generalizing t y with
  | zero =>
    have : t = k := by omega
    subst this
    simpa [fwdSizes, exFwdAll] using h
  | succ m ih =>
    simp only [fwdSizes, List.map_cons, exFwdAll]
    apply ih (t + 1) (by omega)
    have hk' : m + 1 + t = k := by omega
    have := difInv_step w g' m t (by rw [hk']; exact hw) y h
    rwa [hk'] at this

theorem exNtt_eval {q : Nat} (w : ZMod q) (k : Nat) (hw : w ^ (2 ^ k) = -1) (g : Nat → ZMod q)
    (j : Nat) (hj : j < 2 ^ k) :
    exNtt w k g j = ∑ i ∈ range (2 ^ k), g i * w ^ (i * (2 * brev k j + 1)) := by
  have hbase : DifInv w (exTwist (fun i => w ^ i) g) k 0 (exTwist (fun i => w ^ i) g) := by
    intro c hc r _
    have : c = 0 := by simpa using hc
    subst this
    simp [brev]
  have := difInv_all w _ k k 0 (by omega) hw _ hbase j hj 0 (by norm_num)
  simp only [pow_zero, Nat.mul_one, Nat.add_zero, Nat.zero_add] at this
  unfold exNtt exLevels
  rw [this]
  apply sum_congr rfl
  intro s _
  simp only [exTwist]
  rw [mul_assoc, ← pow_add]
  congr 2; ring

/-- coefficient `i` of `g * h mod X^n + 1` -/
def nmul (n : Nat) (g h : Nat → K) (i : Nat) : K :=
  ∑ a ∈ range n, ∑ b ∈ range n,
    (if a + b = i then g a * h b else if a + b = i + n then -(g a * h b) else 0)

theorem eval_nmul (n : Nat) (x : K) (hx : x ^ n = -1) (g h : Nat → K) :
    ∑ i ∈ range n, nmul n g h i * x ^ i = (∑ a ∈ range n, g a * x ^ a) * (∑ b ∈ range n, h b * x ^ b) := by
  have hL : ∀ i, nmul n g h i * x ^ i = ∑ a ∈ range n, ∑ b ∈ range n,
      (if a + b = i then g a * h b else if a + b = i + n then -(g a * h b) else 0) * x ^ i := by
    intro i; simp only [nmul, sum_mul]
  rw [sum_mul_sum]
  simp only [hL]
  rw [sum_comm]
  apply sum_congr rfl
  intro a ha
  rw [sum_comm]
  apply sum_congr rfl
  intro b hb
  have ha' : a < n := mem_range.1 ha
  have hb' : b < n := mem_range.1 hb
  by_cases hab : a + b < n
  · rw [sum_eq_single (a + b)]
    · rw [if_pos rfl, pow_add]; ring
    · intro i _ hne
      rw [if_neg (fun h => hne h.symm), if_neg (by omega), zero_mul]
    · intro hn; exact absurd (mem_range.2 hab) hn
  · rw [sum_eq_single (a + b - n)]
    · rw [if_neg (by omega), if_pos (by omega)]
      have : x ^ (a + b) = x ^ (a + b - n) * x ^ n := by rw [← pow_add]; congr 1; omega
      rw [show g a * x ^ a * (h b * x ^ b) = g a * h b * x ^ (a + b) by rw [pow_add]; ring, this, hx]
      ring
    · intro i hi hne
      have hi' : i < n := mem_range.1 hi
      rw [if_neg (by omega), if_neg (by omega), zero_mul]
    · intro hn; exact absurd (mem_range.2 (by omega)) hn

theorem exNtt_nmul {q : Nat} (w : ZMod q) (k : Nat) (hw : w ^ (2 ^ k) = -1) (g h : Nat → ZMod q)
    (j : Nat) (hj : j < 2 ^ k) :
    exNtt w k (nmul (2 ^ k) g h) j = exNtt w k g j * exNtt w k h j := by
  rw [exNtt_eval w k hw _ j hj, exNtt_eval w k hw g j hj, exNtt_eval w k hw h j hj]
  have hx : (w ^ (2 * brev k j + 1)) ^ (2 ^ k) = -1 := by
    rw [← pow_mul, Nat.mul_comm, pow_mul, hw]
    exact Odd.neg_one_pow ⟨brev k j, rfl⟩
  have := eval_nmul (2 ^ k) (w ^ (2 * brev k j + 1)) hx g h
  simp only [← pow_mul] at this
  simpa [Nat.mul_comm] using this

end Spq.Q120Ntt
