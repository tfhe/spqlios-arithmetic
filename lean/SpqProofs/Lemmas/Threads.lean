/-
  Sequentially-consistent interleavings of read-only threads, and the call-graph closure in a form the
  kernel evaluates quickly (helper lemmas for C12).
-/
import Spq.Globals
import SpqProofs.Lemmas.Interleave
namespace Spq.Globals

def ReadOnly (progs : Nat → Prog) : Prop := ∀ t h l v, progs t h ≠ Act.write l v

theorem stepThread_shared (progs : Nat → Prog) (hro : ReadOnly progs) (c : Conf) (t : Nat) :
    (stepThread progs c t).shared = c.shared := by
  unfold stepThread
  split
  · rfl
  · rename_i l v h; exact absurd h (hro t _ l v)
  · rfl

theorem stepThread_hist_other (progs : Nat → Prog) (c : Conf) (t u : Nat) (h : u ≠ t) :
    (stepThread progs c t).hist u = c.hist u := by
  unfold stepThread
  split <;> simp [h]

theorem stepThread_congr (progs : Nat → Prog) (c c' : Conf) (t : Nat)
    (h : (c.shared, c.hist t) = (c'.shared, c'.hist t)) :
    ((stepThread progs c t).shared, (stepThread progs c t).hist t) =
      ((stepThread progs c' t).shared, (stepThread progs c' t).hist t) := by
  obtain ⟨hs, hh⟩ := Prod.mk.inj h
  unfold stepThread
  rw [hh]
  split <;> simp [hs, hh]

/-! ### the call-graph closure, evaluated with a bit mask for the visited set and the primitive comparison -/

def succsN (f : Nat) : List (Nat × List Nat) → List Nat
  | [] => []
  | (k, v) :: xs => match Nat.beq f k with
    | true => v
    | false => succsN f xs

theorem beq_eq (a b : Nat) : Nat.beq a b = (a == b) := by
  cases h : Nat.beq a b
  · exact (beq_eq_false_iff_ne.2 (Nat.ne_of_beq_eq_false h)).symm
  · exact (beq_iff_eq.2 (Nat.eq_of_beq_eq_true h)).symm

theorem succsN_eq (g : Graph) (f : Nat) : succsN f g.calls = succs g f := by
  unfold succs
  induction g.calls with
  | nil => rfl
  | cons p xs ih =>
    rw [succsN, beq_eq, List.lookup_cons]
    cases f == p.1
    · exact ih
    · rfl

/-- `reach` carrying the visited set as a bit mask as well -/
def reachM (g : Graph) : Nat → List Nat → List Nat → Nat → Option (List Nat × Nat)
  | _, [], visited, mask => some (visited, mask)
  | 0, _ :: _, _, _ => none
  | fuel + 1, f :: work, visited, mask =>
    match mask.testBit f with
    | true => reachM g fuel work visited mask
    | false => reachM g fuel (succsN f g.calls ++ work) (f :: visited) (mask ||| 2 ^ f)

def MaskOf (visited : List Nat) (mask : Nat) : Prop := ∀ f, mask.testBit f = visited.contains f

theorem reachM_spec (g : Graph) : ∀ fuel work visited mask, MaskOf visited mask →
    (reachM g fuel work visited mask).map (·.1) = reach g fuel work visited ∧
    ∀ r, reachM g fuel work visited mask = some r → MaskOf r.1 r.2
  | 0, [], _, _, hm => ⟨rfl, fun r hr => by cases hr; exact hm⟩
  | _ + 1, [], _, _, hm => ⟨rfl, fun r hr => by cases hr; exact hm⟩
  | 0, _ :: _, _, _, _ => ⟨rfl, fun r hr => by cases hr⟩
  | fuel + 1, f :: work, visited, mask, hm => by
    rw [reachM, reach, hm f, succsN_eq]
    cases hv : visited.contains f
    · refine reachM_spec g fuel _ _ _ (fun x => ?_)
      rw [Nat.testBit_or, Nat.testBit_two_pow, hm x, List.contains_cons, Bool.or_comm]
      congr 1
      exact decide_eq_decide.2 eq_comm
    · exact reachM_spec g fuel _ _ _ hm

def closureM (g : Graph) (fuel : Nat) (roots : List Nat) : Option (List Nat) :=
  match reachM g fuel roots [] 0 with
  | none => none
  | some (v, m) =>
    if v.any (fun f => g.indirect.contains f) then (reachM g fuel g.addrTaken v m).map (·.1) else some v

theorem closureM_eq (g : Graph) (fuel : Nat) (roots : List Nat) : closureM g fuel roots = closure g fuel roots := by
  obtain ⟨h1, h2⟩ := reachM_spec g fuel roots [] 0 (fun f => by simp)
  unfold closureM closure
  rw [← h1]
  cases hr : reachM g fuel roots [] 0 with
  | none => rfl
  | some r =>
    simp only [Option.map_some]
    split
    · exact (reachM_spec g fuel g.addrTaken r.1 r.2 (h2 r hr)).1
    · rfl

theorem touchedFrom_eq (g : Graph) (fuel : Nat) (roots : List Nat) (keep : Nat → Bool) :
    touchedFrom g fuel roots keep = (closureM g fuel roots).map fun fs => (touched g fs).filter keep := by
  rw [closureM_eq]; rfl

end Spq.Globals
