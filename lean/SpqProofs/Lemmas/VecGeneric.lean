/-
  Limb-vector operations in normal form: one pass over the output limbs, limb `i` being
  `G i m = K i (limb i of a) (limb i of b) (limb i of res)` computed from the heap `m` before the call.
  A kernel only has to return `nn` coefficients on inputs of `nn` coefficients (in-place kernels preserve the size of
  their buffer); it is given the prior content of the output limb because the out-of-place automorphism scatters into it.
-/
import SpqProofs.Lemmas.Heap
namespace Spq.Heap
variable {α : Type}

theorem size_foldl_writeArr (r : Nat → Nat) (G : Nat → Array α → Array α) (l : List Nat) (m : Array α) :
    (l.foldl (fun m i => writeArr m (r i) (G i m)) m).size = m.size :=
  size_foldl_of_step _ (fun m i => size_writeArr m (r i) (G i m)) l m

structure StepNF (f : Heap α → Heap α) (r : Nat) (G : Array α → Array α) (B : Nat → Bool) : Prop where
  mem : ∀ h, (f h).mem = writeArr h.mem r (G h.mem)
  ok : ∀ h, (f h).ok = (h.ok && B h.mem.size)

theorem forLimbs_nf (lo hi : Nat) (f : Nat → Heap α → Heap α) (r : Nat → Nat)
    (G : Nat → Array α → Array α) (B : Nat → Nat → Bool)
    (hf : ∀ i, lo ≤ i → i < hi → StepNF (f i) (r i) (G i) (B i)) (h : Heap α) :
    (forLimbs lo hi f h).mem = (List.range' lo (hi - lo)).foldl (fun m i => writeArr m (r i) (G i m)) h.mem ∧
    (forLimbs lo hi f h).ok = (h.ok && (List.range' lo (hi - lo)).all (fun i => B i h.mem.size)) := by
  unfold forLimbs
  generalize hn : hi - lo = n
  have hle : lo + n ≤ hi ∨ n = 0 := by omega
  clear hn
  induction n with
  | zero => simp
  | succ n ih =>
    have hi' : lo + n < hi := by omega
    have ih' := ih (by omega)
    simp only [List.range'_concat, List.foldl_append, List.foldl_cons, List.foldl_nil, Nat.one_mul,
      List.all_append, List.all_cons, List.all_nil, Bool.and_true]
    obtain ⟨e1, e2⟩ := ih'
    have hs := hf (lo + n) (by omega) hi'
    constructor
    · rw [hs.mem, e1]
    · rw [hs.ok, e2, e1]
      rw [size_foldl_writeArr, Bool.and_assoc]

theorem stepNF_limb0 (k : Array α) (r : Nat) :
    StepNF (limb0 k r) r (fun _ => k) (fun sz => decide (r + k.size ≤ sz)) :=
  ⟨fun _ => rfl, fun _ => rfl⟩

theorem stepNF_limb1_dep (d : α) (nn : Nat) (k : Array α → Array α → Array α)
    (hk : ∀ x z, x.size = nn → z.size = nn → (k x z).size = nn) (r a : Nat) :
    StepNF (fun h => limb1 d nn (fun inp => k inp (h.readLimb d r nn)) r a h) r
      (fun m => k (readLimb ⟨m, true⟩ d a nn) (readLimb ⟨m, true⟩ d r nn))
      (fun sz => decide (a + nn ≤ sz) && decide (r + nn ≤ sz)) :=
  ⟨fun _ => rfl, fun h => by
    simp only [limb1, writeLimb, touch, hk _ _ (size_readLimb ..) (size_readLimb ..), Bool.and_assoc]⟩

theorem stepNF_limb1 (d : α) (nn : Nat) (k : Array α → Array α)
    (hk : ∀ x, x.size = nn → (k x).size = nn) (r a : Nat) :
    StepNF (limb1 d nn k r a) r (fun m => k (readLimb ⟨m, true⟩ d a nn))
      (fun sz => decide (a + nn ≤ sz) && decide (r + nn ≤ sz)) :=
  stepNF_limb1_dep d nn (fun x _ => k x) (fun x _ hx _ => hk x hx) r a

theorem stepNF_limb2 (d : α) (nn : Nat) (k : Array α → Array α → Array α) (hk : ∀ x y, (k x y).size = nn)
    (r a b : Nat) :
    StepNF (limb2 d nn k r a b) r (fun m => k (readLimb ⟨m, true⟩ d a nn) (readLimb ⟨m, true⟩ d b nn))
      (fun sz => decide (a + nn ≤ sz) && decide (b + nn ≤ sz) && decide (r + nn ≤ sz)) :=
  ⟨fun _ => rfl, fun h => by
    simp only [limb2, writeLimb, touch, hk, Bool.and_assoc]
    first | rfl | (congr 3 <;> simp)⟩

theorem forLimbs_self (s : Nat) (f : Nat → Heap α → Heap α) (h : Heap α) : forLimbs s s f h = h := by
  simp [forLimbs]

theorem forLimbs_shift (lo hi : Nat) (f : Nat → Heap α → Heap α) (h : Heap α) :
    forLimbs lo hi f h = forLimbs 0 (hi - lo) (fun i => f (lo + i)) h := by
  unfold forLimbs
  rw [Nat.sub_zero, show List.range' lo (hi - lo) = (List.range' 0 (hi - lo)).map (lo + ·) by
    rw [List.map_add_range']; simp, List.foldl_map]

theorem three_phase (f1 f2 f3 : Nat → Heap α → Heap α) (s c n : Nat) (hsc : s ≤ c) (hcn : c ≤ n)
    (r : Nat → Nat) (G : Nat → Array α → Array α) (B : Nat → Nat → Bool)
    (h1 : ∀ i, i < s → StepNF (f1 i) (r i) (G i) (B i))
    (h2 : ∀ i, s ≤ i → i < c → StepNF (f2 i) (r i) (G i) (B i))
    (h3 : ∀ i, c ≤ i → i < n → StepNF (f3 i) (r i) (G i) (B i)) (h : Heap α) :
    (forLimbs c n f3 (forLimbs s c f2 (forLimbs 0 s f1 h))).mem =
      (List.range' 0 n).foldl (fun m i => writeArr m (r i) (G i m)) h.mem ∧
    (forLimbs c n f3 (forLimbs s c f2 (forLimbs 0 s f1 h))).ok =
      (h.ok && (List.range' 0 n).all (fun i => B i h.mem.size)) := by
  obtain ⟨a1, b1⟩ := forLimbs_nf 0 s f1 r G B (fun i _ hi => h1 i hi) h
  obtain ⟨a2, b2⟩ := forLimbs_nf s c f2 r G B (fun i hi hi' => h2 i hi hi') (forLimbs 0 s f1 h)
  obtain ⟨a3, b3⟩ := forLimbs_nf c n f3 r G B (fun i hi hi' => h3 i hi hi') (forLimbs s c f2 (forLimbs 0 s f1 h))
  have e1 : List.range' 0 n = List.range' 0 (s - 0) ++ List.range' s (c - s) ++ List.range' c (n - c) := by
    have := @List.range'_append 0 s (c - s) 1
    have h2 := @List.range'_append 0 c (n - c) 1
    simp only [Nat.one_mul, Nat.zero_add, Nat.sub_zero] at *
    rw [this, show s + (c - s) = c by omega, h2, show c + (n - c) = n by omega]
  constructor
  · rw [a3, a2, a1, e1, List.foldl_append, List.foldl_append]
  · rw [b3, b2, b1, a2, a1, e1]
    simp only [size_foldl_writeArr, List.all_append, Bool.and_assoc]

theorem two_phase (f1 f3 : Nat → Heap α → Heap α) (s n : Nat) (hsn : s ≤ n)
    (r : Nat → Nat) (G : Nat → Array α → Array α) (B : Nat → Nat → Bool)
    (h1 : ∀ i, i < s → StepNF (f1 i) (r i) (G i) (B i))
    (h3 : ∀ i, s ≤ i → i < n → StepNF (f3 i) (r i) (G i) (B i)) (h : Heap α) :
    (forLimbs s n f3 (forLimbs 0 s f1 h)).mem =
      (List.range' 0 n).foldl (fun m i => writeArr m (r i) (G i m)) h.mem ∧
    (forLimbs s n f3 (forLimbs 0 s f1 h)).ok =
      (h.ok && (List.range' 0 n).all (fun i => B i h.mem.size)) := by
  have := three_phase f1 f1 f3 s s n (Nat.le_refl _) hsn r G B h1 (fun i a b => by omega) h3 h
  rwa [forLimbs_self] at this

theorem foldl_writeArr_frame (nn : Nat) (r : Nat → Nat) (G : Nat → Array α → Array α)
    (hsz : ∀ i m, (G i m).size = nn) (l : List Nat) (m0 : Array α) (x : Nat)
    (hx : ∀ i, i ∈ l → x < r i ∨ r i + nn ≤ x) :
    (l.foldl (fun m i => writeArr m (r i) (G i m)) m0)[x]? = m0[x]? := by
  induction l generalizing m0 with
  | nil => rfl
  | cons k ks ih =>
    simp only [List.foldl_cons]
    rw [ih _ (fun i hi => hx i (by simp [hi]))]
    apply getElem?_writeArr_of_out
    rw [hsz]
    exact hx k (by simp)

theorem stride_mono (res rsl nn : Nat) (hsl : nn ≤ rsl) (i j : Nat) (hji : j < i) :
    res + j * rsl + nn ≤ res + i * rsl := by
  have := mul_step j i rsl hji
  omega

/-- a source vector is usable: it is the output itself (same offset, same stride), or each of its
    limbs is disjoint from every output limb -/
def SrcOK (nn res rsz rsl a asz asl : Nat) : Prop :=
  (a = res ∧ asl = rsl) ∨
  ∀ i j, i < asz → j < rsz → a + i * asl + nn ≤ res + j * rsl ∨ res + j * rsl + nn ≤ a + i * asl

theorem vec_generic' (nn res rsz rsl a asz asl b bsz bsl : Nat) (d : α)
    (K : Nat → Array α → Array α → Array α → Array α)
    (hK : ∀ i x y z, x.size = nn → y.size = nn → z.size = nn → (K i x y z).size = nn)
    (hKa : ∀ i, asz ≤ i → ∀ x x' y z, K i x y z = K i x' y z)
    (hKb : ∀ i, bsz ≤ i → ∀ x y y' z, K i x y z = K i x y' z)
    (m0 : Array α)
    (hsl : nn ≤ rsl)
    (hres : ∀ i, i < rsz → res + i * rsl + nn ≤ m0.size)
    (ha : SrcOK nn res rsz rsl a asz asl) (hb : SrcOK nn res rsz rsl b bsz bsl) :
    let G := fun i (m : Array α) => K i (readLimb ⟨m, true⟩ d (a + i * asl) nn) (readLimb ⟨m, true⟩ d (b + i * bsl) nn)
                (readLimb ⟨m, true⟩ d (res + i * rsl) nn)
    let m' := (List.range' 0 rsz).foldl (fun m i => writeArr m (res + i * rsl) (G i m)) m0
    m'.size = m0.size ∧
    (∀ i c, i < rsz → c < nn → m'[res + i * rsl + c]? = (G i m0)[c]?) ∧
    (∀ x, (∀ i, i < rsz → x < res + i * rsl ∨ res + i * rsl + nn ≤ x) → m'[x]? = m0[x]?) := by
  intro G m'
  have hmono := stride_mono res rsl nn hsl
  have key := limbLoop_spec nn (fun i => res + i * rsl) G
    (fun i x => (i < asz ∧ a + i * asl ≤ x ∧ x < a + i * asl + nn) ∨
                (i < bsz ∧ b + i * bsl ≤ x ∧ x < b + i * bsl + nn) ∨
                (res + i * rsl ≤ x ∧ x < res + i * rsl + nn)) 0 rsz m0
    (fun i m => hK _ _ _ _ (size_readLimb ..) (size_readLimb ..) (size_readLimb ..))
    (by
      intro i _ hi m m1 hsz hagree
      show K i _ _ _ = K i _ _ _
      have e3 : readLimb ⟨m, true⟩ d (res + i * rsl) nn = readLimb ⟨m1, true⟩ d (res + i * rsl) nn :=
        readLimb_congr _ _ _ _ _ (fun x h1 h2 => hagree x (Or.inr (Or.inr ⟨h1, h2⟩)))
      rw [e3]
      have ea : K i (readLimb ⟨m, true⟩ d (a + i * asl) nn) (readLimb ⟨m, true⟩ d (b + i * bsl) nn) (readLimb ⟨m1, true⟩ d (res + i * rsl) nn)
              = K i (readLimb ⟨m1, true⟩ d (a + i * asl) nn) (readLimb ⟨m, true⟩ d (b + i * bsl) nn) (readLimb ⟨m1, true⟩ d (res + i * rsl) nn) := by
        by_cases hia : i < asz
        · rw [readLimb_congr ⟨m, true⟩ ⟨m1, true⟩ _ _ _ (fun x h1 h2 => hagree x (Or.inl ⟨hia, h1, h2⟩))]
        · exact hKa i (by omega) _ _ _ _
      rw [ea]
      by_cases hib : i < bsz
      · rw [readLimb_congr ⟨m, true⟩ ⟨m1, true⟩ _ _ _ (fun x h1 h2 => hagree x (Or.inr (Or.inl ⟨hib, h1, h2⟩)))]
      · exact hKb i (by omega) _ _ _ _)
    (by
      intro i j _ hji hi x hx
      have hm := hmono i j hji
      rcases hx with ⟨hia, h1, h2⟩ | ⟨hib, h1, h2⟩ | ⟨h1, h2⟩
      · rcases ha with ⟨rfl, rfl⟩ | hdisj
        · omega
        · have := hdisj i j hia (by omega); omega
      · rcases hb with ⟨rfl, rfl⟩ | hdisj
        · omega
        · have := hdisj i j hib (by omega); omega
      · omega)
    (by intro i j _ hji _; have := hmono i j hji; omega)
    (by intro i _ hi; exact hres i (by omega))
  obtain ⟨k1, k2, k3⟩ := key
  refine ⟨k1, ?_, ?_⟩
  · intro i c hi hc; exact k2 i c (Nat.zero_le _) (by omega) hc
  · intro x hx; exact k3 x (fun i _ hi => hx i (by omega))

theorem vec_generic (nn res rsz rsl a asz asl b bsz bsl : Nat) (d : α)
    (K : Nat → Array α → Array α → Array α → Array α)
    (hK : ∀ i x y z, (K i x y z).size = nn)
    (hKa : ∀ i, asz ≤ i → ∀ x x' y z, K i x y z = K i x' y z)
    (hKb : ∀ i, bsz ≤ i → ∀ x y y' z, K i x y z = K i x y' z)
    (m0 : Array α)
    (hsl : nn ≤ rsl)
    (hres : ∀ i, i < rsz → res + i * rsl + nn ≤ m0.size)
    (ha : SrcOK nn res rsz rsl a asz asl) (hb : SrcOK nn res rsz rsl b bsz bsl) :
    let G := fun i (m : Array α) => K i (readLimb ⟨m, true⟩ d (a + i * asl) nn) (readLimb ⟨m, true⟩ d (b + i * bsl) nn)
                (readLimb ⟨m, true⟩ d (res + i * rsl) nn)
    let m' := (List.range' 0 rsz).foldl (fun m i => writeArr m (res + i * rsl) (G i m)) m0
    m'.size = m0.size ∧
    (∀ i c, i < rsz → c < nn → m'[res + i * rsl + c]? = (G i m0)[c]?) ∧
    (∀ x, (∀ i, i < rsz → x < res + i * rsl ∨ res + i * rsl + nn ≤ x) → m'[x]? = m0[x]?) := by
  exact vec_generic' nn res rsz rsl a asz asl b bsz bsl d K (fun i x y z _ _ _ => hK i x y z) hKa hKb m0 hsl hres ha hb

end Spq.Heap
