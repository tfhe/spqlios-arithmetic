/-
  Specification of every kernel call of the heap-level module model: under "sources and destination inside
  the arena, aliasing as the kernel tolerates it" the call keeps `ok`, changes only its destination window
  and leaves there the functional kernel's value (encoded).
-/
import SpqProofs.Lemmas.ModHeapBase
import SpqProofs.Lemmas.Reim4Base
namespace Spq.ModuleHeap
open Spq Heap Module Reim4
variable {γ α : Type}

/-- the parts of a module map `nn`-cell limbs to `nn`-cell limbs -/
structure Sized (c : Parts α) : Prop where
  fromZnx : ∀ x, x.size = c.nn → (c.fromZnx x).size = c.nn
  fft : ∀ x, x.size = c.nn → (c.fft x).size = c.nn
  ifft : ∀ x, x.size = c.nn → (c.ifft x).size = c.nn
  toZnx : ∀ x, x.size = c.nn → (c.toZnx x).size = c.nn

theorem size_fold_of_step {β : Type} (n : Nat) (f : (i : Nat) → i < n → Array β → Array β) (a : Array β)
    (hf : ∀ i hi r, (f i hi r).size = r.size) : (Nat.fold n f a).size = a.size := by
  induction n with
  | zero => rfl
  | succ n ih =>
    rw [Nat.fold_succ, hf]
    exact ih (fun i hi => f i (by omega)) (fun i hi r => hf i (by omega) r)

theorem size_mapV4x2 (z : α) (n : Nat) (p q : Nat → Nat) (F : Nat → V4 α → V4 α → V4 α × V4 α) (r : Array α) :
    (mapV4x2 z n p q F r).size = r.size := by
  unfold mapV4x2
  exact size_fold_of_step n _ r (fun i _ r => by simp)

theorem size_mul (c : Parts α) (a b : Array α) : (Module.mul c a b).size = c.nn := by
  unfold Module.mul
  simp only
  split
  · unfold reimFftvecMulFma
    split
    · simp
    · simp [size_mapV4x2]
  · unfold reimFftvecMulRef; rw [lanes_size]; simp

theorem size_addmul (c : Parts α) (r a b : Array α) : (Module.addmul c r a b).size = r.size := by
  unfold Module.addmul
  split
  · unfold reimFftvecAddmulFma
    split
    · simp
    · simp [size_mapV4x2]
  · unfold reimFftvecAddmulRef; rw [lanes_size]

theorem size_copy4 (z : α) (dst : Array α) (d : Nat) (src : Array α) (s : Nat) : (copy4 z dst d src s).size = dst.size := by
  simp [copy4]

theorem size_extract1 (z : α) (m blk : Nat) (dst src : Array α) : (extract1blkFromReimRef z m blk dst src).size = dst.size := by
  simp [extract1blkFromReimRef, size_copy4]

theorem size_extractRows (z : α) (m rows blk : Nat) (dst src : Array α) :
    (extract1blkFromContiguousReimRef z m rows blk dst src).size = dst.size := by
  unfold extract1blkFromContiguousReimRef
  exact size_fold_of_step _ _ dst (fun i _ r => size_copy4 z r _ src _)

theorem size_zeroAt (ar : RArith α) (dst : Array α) (d : Nat) : (zeroAt ar dst d).size = dst.size := by
  unfold zeroAt
  exact size_fold_of_step _ _ dst (fun i _ r => by simp)

theorem size_addMulAt (ar : RArith α) (dst : Array α) (d : Nat) (u : Array α) (uo : Nat) (v : Array α) (vo : Nat) :
    (addMulAt ar dst d u uo v vo).size = dst.size := by
  unfold addMulAt; rw [lanes_size]

theorem size_prod2 (c : Parts α) (rows : Nat) (u v : Array α) : (prod2 c rows u v).size = 16 := by
  unfold prod2
  simp only
  split
  · simp [vecMat2colsProductAvx2]
  · unfold vecMat2colsProductRef
    simp only
    rw [size_fold_of_step _ _ _ (fun i _ r => by simp [vecMat2colsRefStep, size_addMulAt])]
    simp [size_zeroAt]

theorem size_prod1 (c : Parts α) (rows : Nat) (u v : Array α) : (prod1 c rows u v).size = 8 := by
  unfold prod1
  simp only
  split
  · simp [vecMat1colProductAvx2]
  · unfold vecMat1colProductRef
    simp only
    rw [size_fold_of_step _ _ _ (fun i _ r => by simp [size_addMulAt])]
    simp [size_zeroAt]

section kernels
variable (c : Parts α) (cd : Cells γ α) (h : Heap γ)

theorem kFromZnx_spec (hs : Sized c) (dst src : Nat) (hsrc : src + c.nn ≤ h.mem.size) (hdst : dst + c.nn ≤ h.mem.size)
    (hal : sameOrDisj dst src c.nn = true) :
    Fr (In dst c.nn) h (kFromZnx c cd dst src h) ∧
    (kFromZnx c cd dst src h).readLimb cd.dflt dst c.nn = (c.fromZnx (rdI cd h src c.nn)).map cd.enc := by
  unfold kFromZnx wrD
  exact wr_spec h _ cd.dflt dst c.nn _ (by simp) (by rw [guard_ok _ _ hal, tch_ok _ _ _ hsrc])
    (by simp [hs.fromZnx]) hdst

theorem kFft_spec (hs : Sized c) (p : Nat) (hp : p + c.nn ≤ h.mem.size) :
    Fr (In p c.nn) h (kFft c cd p h) ∧
    (kFft c cd p h).readLimb cd.dflt p c.nn = (c.fft (rdD cd h p c.nn)).map cd.enc := by
  unfold kFft wrD
  exact wr_spec h _ cd.dflt p c.nn _ (by simp) (by rw [tch_ok _ _ _ hp]) (by simp [hs.fft]) hp

theorem kIfft_spec (hs : Sized c) (p : Nat) (hp : p + c.nn ≤ h.mem.size) :
    Fr (In p c.nn) h (kIfft c cd p h) ∧
    (kIfft c cd p h).readLimb cd.dflt p c.nn = (c.ifft (rdD cd h p c.nn)).map cd.enc := by
  unfold kIfft wrD
  exact wr_spec h _ cd.dflt p c.nn _ (by simp) (by rw [tch_ok _ _ _ hp]) (by simp [hs.ifft]) hp

theorem kToZnx_spec (hs : Sized c) (dst src : Nat) (hsrc : src + c.nn ≤ h.mem.size) (hdst : dst + c.nn ≤ h.mem.size)
    (hal : sameOrDisj dst src c.nn = true) :
    Fr (In dst c.nn) h (kToZnx c cd dst src h) ∧
    (kToZnx c cd dst src h).readLimb cd.dflt dst c.nn = (c.toZnx (rdD cd h src c.nn)).map cd.encI := by
  unfold kToZnx wrI
  exact wr_spec h _ cd.dflt dst c.nn _ (by simp) (by rw [guard_ok _ _ hal, tch_ok _ _ _ hsrc])
    (by simp [hs.toZnx]) hdst

theorem kMul_spec (r a b : Nat) (ha : a + c.nn ≤ h.mem.size) (hb : b + c.nn ≤ h.mem.size) (hr : r + c.nn ≤ h.mem.size)
    (hal : sameOrDisj r a c.nn = true) (hbl : sameOrDisj r b c.nn = true) :
    Fr (In r c.nn) h (kMul c cd r a b h) ∧
    (kMul c cd r a b h).readLimb cd.dflt r c.nn = (Module.mul c (rdD cd h a c.nn) (rdD cd h b c.nn)).map cd.enc := by
  unfold kMul wrD
  exact wr_spec h _ cd.dflt r c.nn _ (by simp)
    (by rw [guard_ok _ _ (by simp [hal, hbl]), tch_ok _ _ _ (by simpa using hb), tch_ok _ _ _ ha])
    (by simp [size_mul]) hr

theorem kAddmul_spec (r a b : Nat) (ha : a + c.nn ≤ h.mem.size) (hb : b + c.nn ≤ h.mem.size) (hr : r + c.nn ≤ h.mem.size)
    (hal : sameOrDisj r a c.nn = true) (hbl : sameOrDisj r b c.nn = true) :
    Fr (In r c.nn) h (kAddmul c cd r a b h) ∧
    (kAddmul c cd r a b h).readLimb cd.dflt r c.nn =
      (Module.addmul c (rdD cd h r c.nn) (rdD cd h a c.nn) (rdD cd h b c.nn)).map cd.enc := by
  unfold kAddmul wrD
  exact wr_spec h _ cd.dflt r c.nn _ (by simp)
    (by rw [guard_ok _ _ (by simp [hal, hbl]), tch_ok _ _ _ (by simpa using hb), tch_ok _ _ _ (by simpa using ha),
          tch_ok _ _ _ hr])
    (by simp [size_addmul]) hr

theorem kZeroD_spec (p n : Nat) (hp : p + n ≤ h.mem.size) :
    Fr (In p n) h (kZeroD c cd p n h) ∧
    (kZeroD c cd p n h).readLimb cd.dflt p n = (Array.replicate n c.ar.zero).map cd.enc := by
  unfold kZeroD wrD
  exact wr_spec h h cd.dflt p n _ rfl rfl (by simp) hp

theorem kZeroI_spec (p n : Nat) (hp : p + n ≤ h.mem.size) :
    Fr (In p n) h (kZeroI cd p n h) ∧
    (kZeroI cd p n h).readLimb cd.dflt p n = (Array.replicate n (0 : Int)).map cd.encI := by
  unfold kZeroI wrI
  exact wr_spec h h cd.dflt p n _ rfl rfl (by simp) hp

theorem kCopy_spec (dst src n : Nat) (hsrc : src + n ≤ h.mem.size) (hdst : dst + n ≤ h.mem.size)
    (hal : disj dst n src n = true) :
    Fr (In dst n) h (kCopy cd dst src n h) ∧
    (kCopy cd dst src n h).readLimb cd.dflt dst n = h.readLimb cd.dflt src n := by
  unfold kCopy
  exact wr_spec h _ cd.dflt dst n _ (by simp) (by rw [guard_ok _ _ hal, tch_ok _ _ _ hsrc]) (by simp) hdst

end kernels
end Spq.ModuleHeap
