/-
  One valuation class of the in-place automorphism, walked by paired cycles with leaders
  `B, 5B, 25B, …` (the general branch of `znx_automorphism_inplace_i64`).
-/
import SpqProofs.Lemmas.CoeffsAutRel
import SpqProofs.Lemmas.CoeffsPairWalk
import SpqProofs.Lemmas.CoeffsOrbit
namespace Spq.Rq
open Spq
variable {α : Type}

/-- sign applied to the value leaving cell `j` -/
def autG (o : Ops α) (N pm : Nat) (j : Nat) (t : α) : α :=
  if autE N pm j < N then t else o.neg t

theorem autWalkCycle_eq (o : Ops α) (nn pm jstart : Nat) :
    ∀ (fuel j : Nat) (t1 t2 : α) (res : Array α) (nb : Nat),
      Coeffs.autWalkCycle o nn pm jstart fuel j t1 t2 res nb =
        walkS (autSigma nn pm) (stepP (autSigma nn pm) (fun j => nn - j) (autG o nn pm) o.zero) 2 jstart
          fuel j (t1, t2) res nb := by
  intro fuel
  induction fuel with
  | zero => intro j t1 t2 res nb; rfl
  | succ f ih =>
    intro j t1 t2 res nb
    simp only [Coeffs.autWalkCycle, walkS, stepP, ih, autSigma, autG, autE]
    by_cases c : j * pm % (2 * nn) < nn
    · simp only [c, if_true]
    · simp only [c, if_false]

/-- mirror symmetry: `(N - z)·pm ≡ N - z·pm (mod 2N)` for odd `pm` -/
theorem mirror_exp (N pm z : Nat) (hN : 0 < N) (hpm : pm % 2 = 1) (hz : z ≤ N)
    (hE : (z * pm) % (2 * N) % N ≠ 0) :
    ((N - z) * pm) % (2 * N) =
      if (z * pm) % (2 * N) < N then N - (z * pm) % (2 * N) else 3 * N - (z * pm) % (2 * N) := by
  have hElt : autE N pm z < 2 * N := autE_lt N pm z hN
  have hEc := autE_cast N pm z
  have h2N : ((2 : ZMod (2 * N)) * N) = 0 := by exact_mod_cast ZMod.natCast_self (2 * N)
  have hNpm : ((N : ZMod (2 * N)) * pm) = N := by
    obtain ⟨c, rfl⟩ : ∃ c, pm = 2 * c + 1 := ⟨pm / 2, by omega⟩
    push_cast; linear_combination (c : ZMod (2 * N)) * h2N
  have key : ∀ v : Nat, v < 2 * N → (v : ZMod (2 * N)) = N - (autE N pm z : Nat) → autE N pm (N - z) = v :=
    fun v hv h => autE_eq N pm (N - z) v hN hv (by rw [Nat.cast_sub hz, h, hEc]; linear_combination hNpm)
  show autE N pm (N - z) = if autE N pm z < N then N - autE N pm z else 3 * N - autE N pm z
  change autE N pm z % N ≠ 0 at hE
  generalize autE N pm z = E at *
  have hEN : E ≠ N := by rintro rfl; simp at hE
  split
  · exact key _ (by omega) (by rw [Nat.cast_sub (by omega)])
  · exact key _ (by omega) (by rw [Nat.cast_sub (by omega)]; push_cast; linear_combination h2N)

theorem mirror_sigma (N pm z : Nat) (hN : 0 < N) (hpm : pm % 2 = 1) (hz : z ≤ N) (hE : autSigma N pm z ≠ 0) :
    autSigma N pm (N - z) = N - autSigma N pm z := by
  have h := mirror_exp N pm z hN hpm hz hE
  unfold autSigma autE at hE ⊢
  have hElt := Nat.mod_lt (z * pm) (show 0 < 2 * N by omega)
  rw [h]
  generalize (z * pm) % (2 * N) = E at *
  by_cases c1 : E < N
  · rw [if_pos c1, Nat.mod_eq_of_lt c1]
    rw [Nat.mod_eq_of_lt c1] at hE
    exact Nat.mod_eq_of_lt (by omega)
  · rw [if_neg c1]
    have e1 : E % N = E - N := mod_eq_sub_of_le (by omega) (by omega)
    rw [e1] at hE ⊢
    have : 3 * N - E = (2 * N - E) + N := by omega
    rw [this, Nat.add_mod_right, Nat.mod_eq_of_lt (by omega)]
    omega

theorem mirror_autG (o : Ops α) (N pm z : Nat) (hN : 0 < N) (hpm : pm % 2 = 1) (hz : z ≤ N)
    (hE : autSigma N pm z ≠ 0) (t : α) : autG o N pm (N - z) t = autG o N pm z t := by
  have h := mirror_exp N pm z hN hpm hz hE
  unfold autG autE
  rw [h]
  unfold autSigma autE at hE
  have hElt := Nat.mod_lt (z * pm) (show 0 < 2 * N by omega)
  generalize (z * pm) % (2 * N) = E at *
  by_cases c1 : E < N
  · have : E ≠ 0 := by intro h; rw [h] at hE; simp at hE
    have c2 : N - E < N := by omega
    simp only [c1, c2, if_true]
  · have e1 : E % N = E - N := mod_eq_sub_of_le (by omega) (by omega)
    rw [e1] at hE
    have c2 : ¬ 3 * N - E < N := by omega
    simp only [c1, c2, if_false]

theorem orbLen_even (n a : Nat) (ha : a < 2 ^ n) (ha0 : 0 < a) : 2 ∣ 2 ^ n / Nat.gcd a (2 ^ n) := by
  obtain ⟨k, hk, hd⟩ := (Nat.dvd_prime_pow Nat.prime_two).1 (Nat.gcd_dvd_right a (2 ^ n))
  have hle : Nat.gcd a (2 ^ n) ≤ a := Nat.le_of_dvd ha0 (Nat.gcd_dvd_left _ _)
  have hkn : k < n := by
    by_contra h
    have : n = k := by omega
    subst this
    omega
  rw [hd, Nat.pow_div hk (by norm_num)]
  exact dvd_pow_self 2 (by omega)

theorem exp_mod (n a e s k : Nat) (h : e ≡ s + k * a [MOD 2 ^ n]) :
    e % Nat.gcd a (2 ^ n) = s % Nat.gcd a (2 ^ n) := by
  have h1 : e % Nat.gcd a (2 ^ n) = (s + k * a) % Nat.gcd a (2 ^ n) :=
    Nat.ModEq.of_dvd (Nat.gcd_dvd_right a (2 ^ n)) h
  rw [h1]
  exact add_mul_mod_gcd s k a (2 ^ n)

section cycle
variable (b n pm a : Nat) (ε : ZMod (2 ^ (b + n + 2)))
  (hpm2 : pm % 2 = 1) (ha : a < 2 ^ n) (ha0 : 0 < a) (hε : ε = 1 ∨ ε = -1)
  (hpm : (2 : ZMod (2 ^ (b + n + 2))) ^ b * pm = ε * (2 ^ b * 5 ^ a))
  (j0 l : Nat) (hl : l < 2 ^ n) (hj0 : j0 < 2 ^ (b + n + 2))
  (hj0c : (j0 : ZMod (2 ^ (b + n + 2))) = 2 ^ b * 5 ^ l)

include hj0 in
theorem cyc_lt (i : Nat) : (autSigma (2 ^ (b + n + 2)) pm)^[i] j0 < 2 ^ (b + n + 2) := by
  cases i with
  | zero => exact hj0
  | succ i => rw [Function.iterate_succ_apply']; exact autSigma_lt _ _ _ (Nat.pow_pos (by norm_num))

include hε hpm hj0c in
theorem cyc_rel (i : Nat) : Rel b n ((autSigma (2 ^ (b + n + 2)) pm)^[i] j0) (l + i * a) :=
  autSigma_iter_rel b n pm a ε hε hpm j0 l hj0c i

include hε hpm hj0c in
theorem cyc_pos (i : Nat) : 0 < (autSigma (2 ^ (b + n + 2)) pm)^[i] j0 := by
  have := (cyc_rel b n pm a ε hε hpm j0 l hj0c i).cls
  have hB : 0 < 2 ^ b := Nat.pow_pos (by norm_num)
  rcases Nat.eq_zero_or_pos ((autSigma (2 ^ (b + n + 2)) pm)^[i] j0) with h | h
  · rw [h] at this; simp at this; omega
  · exact h

include ha ha0 hε hpm hj0 hj0c in
theorem cyc_ret : (autSigma (2 ^ (b + n + 2)) pm)^[2 ^ n / Nat.gcd a (2 ^ n)] j0 = j0 := by
  apply natCast_inj_of_lt (cyc_lt b n pm j0 hj0 _) hj0
  rw [autSigma_iter_cast b n pm a ε hpm j0 l hj0c, hj0c]
  have hev : Even (2 ^ n / Nat.gcd a (2 ^ n)) := (even_iff_two_dvd).2 (orbLen_even n a ha ha0)
  have h1 : ε ^ (2 ^ n / Nat.gcd a (2 ^ n)) = 1 := by
    rcases hε with h | h
    · rw [h, one_pow]
    · rw [h, hev.neg_one_pow]
  rw [h1, one_mul]
  apply (cell_eq_iff b n _ _).2
  rw [orbLen_mul_pn (2 ^ n) a]
  unfold Nat.ModEq
  rw [Nat.add_mul_mod_self_right]

include hl hε hpm hj0c in
theorem cyc_dist (i j : Nat) (hi : i < 2 ^ n / Nat.gcd a (2 ^ n)) (hj : j < 2 ^ n / Nat.gcd a (2 ^ n))
    (e : (autSigma (2 ^ (b + n + 2)) pm)^[i] j0 = (autSigma (2 ^ (b + n + 2)) pm)^[j] j0) : i = j := by
  have r1 := cyc_rel b n pm a ε hε hpm j0 l hj0c i
  have r2 := cyc_rel b n pm a ε hε hpm j0 l hj0c j
  rw [e] at r1
  have h := r1.unique r2
  have hQ : 0 < 2 ^ n := Nat.pow_pos (by norm_num)
  apply addMod_dist (2 ^ n) a hQ l hl i j hi hj
  rw [addMod_iter _ _ _ _ hl, addMod_iter _ _ _ _ hl]
  exact h

include hε hpm hj0c in
theorem cyc_not_self_mirror (i : Nat) :
    2 ^ (b + n + 2) - (autSigma (2 ^ (b + n + 2)) pm)^[i] j0 ≠ (autSigma (2 ^ (b + n + 2)) pm)^[i] j0 := by
  intro h
  have c := (cyc_rel b n pm a ε hε hpm j0 l hj0c i).cls
  generalize (autSigma (2 ^ (b + n + 2)) pm)^[i] j0 = y at *
  have e1 : (2 : Nat) ^ (b + n + 2) = 2 ^ (b + 1) * (2 * 2 ^ n) := by ring
  have hy : y = 2 ^ (b + 1) * 2 ^ n := by
    have : 2 ^ (b + n + 2) = 2 * y := by omega
    rw [e1] at this
    have h2 : 2 * (2 ^ (b + 1) * 2 ^ n) = 2 * y := by rw [← this]; ring
    omega
  rw [hy, Nat.mul_mod_right] at c
  have hB : 0 < 2 ^ b := Nat.pow_pos (by norm_num)
  omega

include hl hε hpm hj0 hj0c in
theorem cyc_cross (i j : Nat) (hi : i < 2 ^ n / Nat.gcd a (2 ^ n)) (hj : j < 2 ^ n / Nat.gcd a (2 ^ n)) :
    2 ^ (b + n + 2) - (autSigma (2 ^ (b + n + 2)) pm)^[i] j0 ≠ (autSigma (2 ^ (b + n + 2)) pm)^[j] j0 := by
  intro e
  have r1 := (cyc_rel b n pm a ε hε hpm j0 l hj0c i).mirror (Nat.le_of_lt (cyc_lt b n pm j0 hj0 i))
  have r2 := cyc_rel b n pm a ε hε hpm j0 l hj0c j
  rw [e] at r1
  have h := r1.unique r2
  have hQ : 0 < 2 ^ n := Nat.pow_pos (by norm_num)
  have hij : i = j := by
    apply addMod_dist (2 ^ n) a hQ l hl i j hi hj
    rw [addMod_iter _ _ _ _ hl, addMod_iter _ _ _ _ hl]
    exact h
  subst hij
  exact cyc_not_self_mirror b n pm a ε hε hpm j0 l hj0c i e

include hpm2 ha ha0 hε hpm hj0 hj0c in
/-- the pair walk from the leader `j0 ≡ 2^b·5^l` moves the cells whose exponent is `≡ l` modulo `gcd a 2^n`
    (`pm ≡ ±5^a` on the class) -/
theorem autWalkCycle_moved (o : Ops α) (hs : l < Nat.gcd a (2 ^ n)) (f : Array α) (nb : Nat)
    (hf : f.size = 2 ^ (b + n + 2)) :
    (Coeffs.autWalkCycle o (2 ^ (b + n + 2)) pm j0 (2 ^ (b + n + 2)) j0 (f.getD j0 o.zero)
        (f.getD (2 ^ (b + n + 2) - j0) o.zero) f nb).2 = nb + 2 * (2 ^ n / Nat.gcd a (2 ^ n)) ∧
    Moved (autSigma (2 ^ (b + n + 2)) pm) (fun y t _ => autG o (2 ^ (b + n + 2)) pm y t) o.zero
      (2 ^ (b + n + 2)) (fun y => ∃ e, Rel b n y e ∧ e % Nat.gcd a (2 ^ n) = l) f
      (Coeffs.autWalkCycle o (2 ^ (b + n + 2)) pm j0 (2 ^ (b + n + 2)) j0 (f.getD j0 o.zero)
        (f.getD (2 ^ (b + n + 2) - j0) o.zero) f nb).1 := by
  have hQ : 0 < 2 ^ n := Nat.pow_pos (by norm_num)
  have hN : 0 < 2 ^ (b + n + 2) := Nat.pow_pos (by norm_num)
  have hdQ : Nat.gcd a (2 ^ n) ≤ 2 ^ n := Nat.le_of_dvd hQ (Nat.gcd_dvd_right _ _)
  have hQN : 2 ^ n ≤ 2 ^ (b + n + 2) := Nat.pow_le_pow_right (by norm_num) (by omega)
  have hsQ : l < 2 ^ n := by omega
  have clt := cyc_lt b n pm j0 hj0
  have crel := cyc_rel b n pm a ε hε hpm j0 l hj0c
  have cpos := cyc_pos b n pm a ε hε hpm j0 l hj0c
  have hdist := fun i j hi hj e => cyc_dist b n pm a ε hε hpm j0 l hsQ hj0c i j hi hj e
  have hσ0 : ∀ i, autSigma (2 ^ (b + n + 2)) pm ((autSigma (2 ^ (b + n + 2)) pm)^[i] j0) ≠ 0 := fun i => by
    have := cpos (i + 1); rw [Function.iterate_succ_apply'] at this; omega
  rw [autWalkCycle_eq]
  have := walkP_moved (autSigma (2 ^ (b + n + 2)) pm) (fun j => 2 ^ (b + n + 2) - j)
    (autG o (2 ^ (b + n + 2)) pm) o.zero j0 (2 ^ n / Nat.gcd a (2 ^ n)) f
    (fun i => by rw [hf]; exact clt i) (fun i => by rw [hf]; have := cpos i; omega)
    (orbLen_pos (2 ^ n) a hQ) (cyc_ret b n pm a ε ha ha0 hε hpm j0 l hj0 hj0c) hdist
    (fun i j hi hj e => hdist i j hi hj (by
      have := clt i; have := clt j; have e' : 2 ^ (b + n + 2) - _ = 2 ^ (b + n + 2) - _ := e; omega))
    (fun i j hi hj => cyc_cross b n pm a ε hε hpm j0 l hsQ hj0 hj0c i j hi hj)
    (fun i => by
      rw [Function.iterate_succ_apply']
      exact mirror_sigma (2 ^ (b + n + 2)) pm _ hN hpm2 (Nat.le_of_lt (clt i)) (hσ0 i))
    (fun i t => mirror_autG o (2 ^ (b + n + 2)) pm _ hN hpm2 (Nat.le_of_lt (clt i)) (hσ0 i) t)
    (2 ^ (b + n + 2)) nb (Nat.le_trans (Nat.div_le_self _ _) hQN)
    (fun y => ∃ e, Rel b n y e ∧ e % Nat.gcd a (2 ^ n) = l) (fun y hy => by
      constructor
      · rintro ⟨e, hre, hes⟩
        have hmm : (e % 2 ^ n) % Nat.gcd a (2 ^ n) = l := by
          rw [Nat.mod_mod_of_dvd _ (Nat.gcd_dvd_right _ _)]; exact hes
        obtain ⟨i, hi, hei⟩ := addMod_surj (2 ^ n) a hQ l (e % 2 ^ n) (Nat.mod_lt _ hQ) hs hmm
        rw [addMod_iter _ _ _ _ hsQ] at hei
        exact ⟨i, hi, (hre.congr hei).eq_or_mirror (hf ▸ hy) (clt i) (cpos i) (crel i)⟩
      · rintro ⟨i, hi, rfl | rfl⟩
        · exact ⟨_, crel i, by rw [add_mul_mod_gcd, Nat.mod_eq_of_lt hs]⟩
        · exact ⟨_, (crel i).mirror (Nat.le_of_lt (clt i)), by rw [add_mul_mod_gcd, Nat.mod_eq_of_lt hs]⟩)
  rwa [hf] at this

end cycle

theorem autWalkAll_eq_leaderLoop (o : Ops α) (nn p orbSize : Nat) :
    ∀ (fuel jstart nb : Nat) (res : Array α),
      Coeffs.autWalkAll o nn p orbSize fuel jstart nb res =
        leaderLoop (fun j f nb => Coeffs.autWalkCycle o nn p j nn j (f.getD j o.zero) (f.getD (nn - j) o.zero) f nb)
          (fun j => (5 * j) % nn) orbSize fuel jstart nb res := by
  intro fuel
  induction fuel with
  | zero => intro j nb res; rfl
  | succ f ih => intro j nb res; simp only [Coeffs.autWalkAll, leaderLoop, ih]

theorem leader_cast (b n s : Nat) :
    (fun j => (5 * j) % 2 ^ (b + n + 2))^[s] (2 ^ b) < 2 ^ (b + n + 2) ∧
    ((((fun j => (5 * j) % 2 ^ (b + n + 2))^[s] (2 ^ b) : Nat)) : ZMod (2 ^ (b + n + 2))) = 2 ^ b * 5 ^ s := by
  induction s with
  | zero => exact ⟨Nat.pow_lt_pow_right (by norm_num) (by omega), by simp⟩
  | succ s ih =>
    rw [Function.iterate_succ_apply']
    refine ⟨Nat.mod_lt _ (Nat.pow_pos (by norm_num)), ?_⟩
    rw [ZMod.natCast_mod, Nat.cast_mul, ih.2, pow_succ]; push_cast; ring

theorem autWalkAll_moved (o : Ops α) (b n pm : Nat) (hpm2 : pm % 2 = 1)
    (hne1 : (2 : ZMod (2 ^ (b + n + 2))) ^ b * pm ≠ 2 ^ b)
    (hne2 : (2 : ZMod (2 ^ (b + n + 2))) ^ b * pm ≠ -(2 ^ b))
    (orig : Array α) (hsz : orig.size = 2 ^ (b + n + 2)) :
    Moved (autSigma (2 ^ (b + n + 2)) pm) (fun y t _ => autG o (2 ^ (b + n + 2)) pm y t) o.zero (2 ^ (b + n + 2))
      (fun y => y % 2 ^ (b + 1) = 2 ^ b) orig
      (Coeffs.autWalkAll o (2 ^ (b + n + 2)) pm (2 * 2 ^ n) (2 ^ (b + n + 2)) (2 ^ b) 0 orig) := by
  obtain ⟨a, ha, ε, hε, hpm⟩ := pm_dlog b n pm hpm2
  have ha0 : 0 < a := by
    rcases Nat.eq_zero_or_pos a with rfl | h
    · rcases hε with he | he
      · exact absurd (by rw [hpm, he]; ring) hne1
      · exact absurd (by rw [hpm, he]; ring) hne2
    · exact h
  have hQ : 0 < 2 ^ n := Nat.pow_pos (by norm_num)
  have hN : 0 < 2 ^ (b + n + 2) := Nat.pow_pos (by norm_num)
  have hd := gcd_pos' (2 ^ n) a hQ
  have hdQ : Nat.gcd a (2 ^ n) ≤ 2 ^ n := Nat.le_of_dvd hQ (Nat.gcd_dvd_right _ _)
  have hQN : 2 ^ n ≤ 2 ^ (b + n + 2) := Nat.pow_le_pow_right (by norm_num) (by omega)
  have h := leaderLoop_spec (σ := autSigma (2 ^ (b + n + 2)) pm)
    (G := fun y t _ => autG o (2 ^ (b + n + 2)) pm y t) (z := o.zero) (N := 2 ^ (b + n + 2))
    (fun j f nb => Coeffs.autWalkCycle o (2 ^ (b + n + 2)) pm j (2 ^ (b + n + 2)) j (f.getD j o.zero)
      (f.getD (2 ^ (b + n + 2) - j) o.zero) f nb)
    (fun j => (5 * j) % 2 ^ (b + n + 2)) (2 ^ b) (Nat.gcd a (2 ^ n)) (2 * (2 ^ n / Nat.gcd a (2 ^ n)))
    (fun s y => ∃ e, Rel b n y e ∧ e % Nat.gcd a (2 ^ n) = s)
    (fun y _ => autSigma_lt _ _ _ hN) (by have := orbLen_pos (2 ^ n) a hQ; omega)
    (fun s y _ ⟨e, hre, hes⟩ => ⟨e + a, hre.step ε hε hpm, by
      rw [← hes]; exact exp_mod n a (e + a) e 1 (by rw [Nat.one_mul])⟩)
    (fun s s' y hs ⟨e, hre, hes⟩ ⟨e', hre', hes'⟩ => by
      have := exp_mod n a e e' 0 (by simpa using hre.unique hre'); omega)
    (fun s hs f nb hf => autWalkCycle_moved b n pm a ε hpm2 ha ha0 hε hpm _ s (leader_cast b n s).1
      (leader_cast b n s).2 o hs f nb hf)
    orig (Nat.gcd a (2 ^ n)) 0 (2 ^ (b + n + 2)) orig (by omega) (by omega)
    ((Moved.refl orig hsz).congr fun y _ => ⟨fun h => h.elim, fun ⟨_, h, _⟩ => by omega⟩)
  have e : Nat.gcd a (2 ^ n) * (2 * (2 ^ n / Nat.gcd a (2 ^ n))) = 2 * 2 ^ n := by
    rw [Nat.mul_left_comm, Nat.mul_comm (Nat.gcd a (2 ^ n)), orbLen_mul (2 ^ n) a]
  rw [e, Nat.zero_mul] at h
  rw [autWalkAll_eq_leaderLoop]
  exact h.congr fun y _ => ⟨fun ⟨_, _, e, hre, _⟩ => hre.cls, fun c => by
    obtain ⟨e, -, hre⟩ := Rel.exists (n := n) c
    exact ⟨_, Nat.mod_lt _ hd, e, hre, rfl⟩⟩

end Spq.Rq
