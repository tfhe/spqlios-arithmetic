/-
  No-overflow from a magnitude box: assembly for `fft64_znx_small_single_product`.  `PipeOkU`: the underflow-only flags
  of the four stages; `pipe_no_ovf`: with the coefficient box `|a_i|, |b_i| < 2^50` and stored twiddles bounded by 1,
  `PipeOkU` implies `ProdErr.PipeOk` (the full flag hypothesis of `C01Err`) for every `k ≤ 100`.  Magnitudes (`Mag k e`,
  one rule per stage): `2^50` → forward `2^(50+3k)` → product `2^(102+6k)` → inverse `2^(102+9k) < 2^1023`.
  Conversely the full flags imply the underflow-only flags (`simOU`), which turns the full-flag example of
  `ProdErrExample.lean` into a concrete instance of `PipeOkU`.
-/
import SpqProofs.Lemmas.VmpErrOvf6
import SpqProofs.Lemmas.VmpErrStage
import SpqProofs.Lemmas.ProdErrExample
namespace Spq.VmpErr
open Spq Spq.Module Spq.Fft Spq.Fft.Alg Spq.Fft.RelN Spq.Fft.SimP Spq.Fft.LevelN Spq.Fft.SchedN Spq.Fft.Sim Spq.FftErr Spq.F64
  Spq.Reim4 Spq.ProdErr

theorem pow8 (k : ℕ) : (8 : ℚ) ^ k = 2 ^ (3 * k) := by rw [pow_mul]; norm_num

theorem pow2_lt_Tov (e : ℕ) (h : e < 1023) : (2 : ℚ) ^ e < Tov := by
  unfold Tov; exact pow_lt_pow_right₀ (by norm_num) h

/-- forward transform with the flavour selector of the module -/
theorem fft_no_ovf' (fma : Bool) (k : ℕ) (cN sN : ℕ → ℕ) (htab : TabOk cN sN) (data : Array ℕ)
    (hdata : data.size = 2 * 2 ^ k) (U0 : ℚ) (hU0 : 0 ≤ U0) (hd : ∀ p, p < 2 * 2 ^ k → |val data[p]!| ≤ U0)
    (hT : 8 ^ k * U0 < Tov)
    (hokU : ∀ p, p < 2 * 2 ^ k →
      ((reimFftA (famOf fma aU) (2 ^ k) ((((reimFftEnts (2 ^ k)).map (valP cN sN)).toArray).map lift) (data.map lift))[p]!).2) :
    ∀ p, p < 2 * 2 ^ k →
      ((reimFftA (famOf fma aOk) (2 ^ k) ((((reimFftEnts (2 ^ k)).map (valP cN sN)).toArray).map lift) (data.map lift))[p]!).2 ∧
      Fin64 ((reimFft (if fma then "fma" else "ref") (2 ^ k) (tabF k cN sN) data)[p]!) ∧
      |val ((reimFft (if fma then "fma" else "ref") (2 ^ k) (tabF k cN sN) data)[p]!)| ≤ 8 ^ k * U0 := by
  rw [reimFft_eq]
  unfold tabF
  cases fma
  · exact fft_no_ovf (fun {α} A => fwdRef (α := α) A) famRef fwdRef_bd k cN sN htab data hdata U0 hU0 hd hT hokU
  · exact fft_no_ovf (fun {α} A => fwdFma (α := α) A) famFma fwdFma_bd k cN sN htab data hdata U0 hU0 hd hT hokU

theorem ifft_no_ovf' (fma : Bool) (k : ℕ) (cN sN : ℕ → ℕ) (htab : TabOk cN sN) (data : Array ℕ)
    (hdata : data.size = 2 * 2 ^ k) (U0 : ℚ) (hU0 : 0 ≤ U0) (hd : ∀ p, p < 2 * 2 ^ k → |val data[p]!| ≤ U0)
    (hT : 8 ^ k * U0 < Tov)
    (hokU : ∀ p, p < 2 * 2 ^ k →
      ((reimIfftA (ifamOf fma aU) (2 ^ k) ((((reimIfftEnts (2 ^ k)).map (valP cN sN)).toArray).map lift) (data.map lift))[p]!).2) :
    ∀ p, p < 2 * 2 ^ k →
      ((reimIfftA (ifamOf fma aOk) (2 ^ k) ((((reimIfftEnts (2 ^ k)).map (valP cN sN)).toArray).map lift) (data.map lift))[p]!).2 ∧
      Fin64 ((reimIfft (if fma then "fma" else "ref") (2 ^ k) (tabI k cN sN) data)[p]!) ∧
      |val ((reimIfft (if fma then "fma" else "ref") (2 ^ k) (tabI k cN sN) data)[p]!)| ≤ 8 ^ k * U0 := by
  rw [reimIfft_eq]
  unfold tabI
  cases fma
  · exact ifft_no_ovf (fun {α} A => invRef (α := α) A) famIRef invRef_bd k cN sN htab data hdata U0 hU0 hd hT hokU
  · exact ifft_no_ovf (fun {α} A => invFma (α := α) A) famIFma invFma_bd k cN sN htab data hdata U0 hU0 hd hT hokU

/-- underflow-only flags of one forward transform of the integer polynomial `x` -/
def FwdOkU (c : Cfg) (k : ℕ) (cN sN : ℕ → ℕ) (x : Array Int) : Prop :=
  ∀ p, p < 2 * 2 ^ k →
    ((reimFftA (famOf c.fftFma aU) (2 ^ k) ((((reimFftEnts (2 ^ k)).map (valP cN sN)).toArray).map lift)
      (((Cfg.parts c).fromZnx x).map lift))[p]!).2

/-- The invariant between the stages: the DFT-space limb `d` has `2·2^k` cells of magnitude at most `2^e`.  The exponent is a
    natural number, so that the side conditions of the stage rules below (`mag_conv`, `mag_fft`, `mag_ifft`, `mag_mul`,
    `mag_col`) are linear arithmetic; each rule has the shape "`Mag` in, underflow-only flags ⇒ full flags, `Mag` out". -/
def Mag (k e : ℕ) (d : Array ℕ) : Prop := d.size = 2 * 2 ^ k ∧ ∀ p, p < 2 * 2 ^ k → |val d[p]!| ≤ (2 : ℚ) ^ e

/-- underflow-only flags of one inverse transform of the DFT-space vector `d` (the `okI` fields of `PipeOkU`, `VmpOkU` unfold
    to it) -/
def InvOkU (c : Cfg) (k : ℕ) (cNi sNi : ℕ → ℕ) (d : Array ℕ) : Prop :=
  ∀ p, p < 2 * 2 ^ k →
    ((reimIfftA (ifamOf c.ifftFma aU) (2 ^ k) ((((reimIfftEnts (2 ^ k)).map (valP cNi sNi)).toArray).map lift)
      (d.map lift))[p]!).2

theorem mag_conv (c : Cfg) (k : ℕ) (cN sN cNi sNi : ℕ → ℕ) (h : CfgOk c k cN sN cNi sNi) (x : Array Int) (hx : Box k x) :
    Mag k 50 ((Cfg.parts c).fromZnx x) := by
  obtain ⟨hsz, hv⟩ := fromZnx_spec c k h.nn h.fromBnd50 x hx
  refine ⟨hsz, fun p hp => ?_⟩
  rw [getElem!_nat, hv p hp]
  obtain ⟨b1, b2⟩ := hx p hp
  have h1 : |(x.getD p 0 : ℚ)| = ((|x.getD p 0| : ℤ) : ℚ) := by push_cast; rfl
  rw [h1]
  have : |x.getD p 0| ≤ 1125899906842624 := by rw [abs_le]; omega
  exact le_trans ((Int.cast_le (R := ℚ)).2 this) (by norm_num)

theorem pow8_pow (k e : ℕ) : (8 : ℚ) ^ k * 2 ^ e = 2 ^ (e + 3 * k) := by rw [pow8, ← pow_add, Nat.add_comm]

theorem mag_fft (fma : Bool) (k : ℕ) (cN sN : ℕ → ℕ) (htab : TabOk cN sN) (d : Array ℕ) (e : ℕ) (hd : Mag k e d)
    (he : e + 3 * k < 1023)
    (hokU : ∀ p, p < 2 * 2 ^ k →
      ((reimFftA (famOf fma aU) (2 ^ k) ((((reimFftEnts (2 ^ k)).map (valP cN sN)).toArray).map lift) (d.map lift))[p]!).2) :
    (∀ p, p < 2 * 2 ^ k →
      ((reimFftA (famOf fma aOk) (2 ^ k) ((((reimFftEnts (2 ^ k)).map (valP cN sN)).toArray).map lift) (d.map lift))[p]!).2) ∧
    Mag k (e + 3 * k) (reimFft (if fma then "fma" else "ref") (2 ^ k) (tabF k cN sN) d) := by
  have r := fft_no_ovf' fma k cN sN htab d hd.1 (2 ^ e) (by positivity) hd.2 (by rw [pow8_pow]; exact pow2_lt_Tov _ he) hokU
  rw [pow8_pow] at r
  exact ⟨fun p hp => (r p hp).1, reimFft_size fma k cN sN d hd.1, fun p hp => (r p hp).2.2⟩

theorem mag_ifft (c : Cfg) (k : ℕ) (cNi sNi : ℕ → ℕ) (htab : TabOk cNi sNi) (d : Array ℕ) (e : ℕ) (hd : Mag k e d)
    (he : e + 3 * k < 1023) (hokU : InvOkU c k cNi sNi d) :
    InvOk c k cNi sNi d ∧ Mag k (e + 3 * k) (reimIfft (if c.ifftFma then "fma" else "ref") (2 ^ k) (tabI k cNi sNi) d) := by
  have r := ifft_no_ovf' c.ifftFma k cNi sNi htab d hd.1 (2 ^ e) (by positivity) hd.2
    (by rw [pow8_pow]; exact pow2_lt_Tov _ he) hokU
  rw [pow8_pow] at r
  exact ⟨fun p hp => (r p hp).1, reimIfft_size c.ifftFma k cNi sNi d hd.1, fun p hp => (r p hp).2.2⟩

theorem mag_mul (fma : Bool) (k : ℕ) (hm : fma = true → 2 ^ k % 4 = 0) (A B : Array ℕ) (ea eb : ℕ) (hA : Mag k ea A)
    (hB : Mag k eb B) (he : ea + eb + 2 < 1023)
    (hokU : ∀ p, p < 2 * 2 ^ k → ((mulA arithU fma (2 ^ k) (A.map lift) (B.map lift)).getD p arithU.zero).2) :
    (∀ p, p < 2 * 2 ^ k → ((mulA arithOk fma (2 ^ k) (A.map lift) (B.map lift)).getD p arithOk.zero).2) ∧
    Mag k (ea + eb + 2) (mulA F64.arith fma (2 ^ k) A B) := by
  have eP : (4 : ℚ) * (2 ^ ea * 2 ^ eb) = 2 ^ (ea + eb + 2) := by
    rw [show (4 : ℚ) = 2 ^ 2 by norm_num, ← pow_add, ← pow_add]; congr 1; omega
  have rm := mul_no_ovf fma (2 ^ k) hm A B (2 ^ ea) (2 ^ eb) (by positivity) (by positivity)
    (fun p hp => by rw [← getElem!_nat]; exact hA.2 p hp) (fun p hp => by rw [← getElem!_nat]; exact hB.2 p hp)
    (by rw [eP]; exact pow2_lt_Tov _ he) hokU
  rw [eP] at rm
  exact ⟨fun p hp => (rm p hp).1, (mulA_cells F64.arith fma (2 ^ k) hm _ _).1,
    fun p hp => by rw [getElem!_nat]; exact (rm p hp).2.2⟩

theorem mag_fwd (c : Cfg) (k : ℕ) (hk : 50 + 3 * k < 1023) (cN sN cNi sNi : ℕ → ℕ) (h : CfgOk c k cN sN cNi sNi)
    (htab : TabOk cN sN) (x : Array Int) (hx : Box k x) (hokU : FwdOkU c k cN sN x) :
    FwdOk c k cN sN x ∧ Mag k (50 + 3 * k) (stF c k cN sN x) :=
  mag_fft c.fftFma k cN sN htab _ 50 (mag_conv c k cN sN cNi sNi h x hx) hk hokU

/-- the underflow-only flags of the pipeline (`ProdErr.PipeOk` with `NoUnd` in place of `NormalRange`) -/
structure PipeOkU (c : Cfg) (k : ℕ) (cN sN cNi sNi : ℕ → ℕ) (a b : Array Int) : Prop where
  okA : FwdOkU c k cN sN a
  okB : FwdOkU c k cN sN b
  okM : ∀ p, p < 2 * 2 ^ k →
    ((mulA arithU c.mulFma (2 ^ k) ((stF c k cN sN a).map lift) ((stF c k cN sN b).map lift)).getD p arithU.zero).2
  okI : ∀ p, p < 2 * 2 ^ k →
    ((reimIfftA (ifamOf c.ifftFma aU) (2 ^ k) ((((reimIfftEnts (2 ^ k)).map (valP cNi sNi)).toArray).map lift)
      ((stM c k cN sN a b).map lift))[p]!).2

theorem pipe_no_ovf (c : Cfg) (k : ℕ) (hk : k ≤ 100) (cN sN cNi sNi : ℕ → ℕ) (h : CfgOk c k cN sN cNi sNi)
    (htab : TabOk cN sN) (htabi : TabOk cNi sNi) (a b : Array Int) (ha : Box k a) (hb : Box k b)
    (hok : PipeOkU c k cN sN cNi sNi a b) : PipeOk c k cN sN cNi sNi a b := by
  obtain ⟨fa, ma⟩ := mag_fwd c k (by omega) cN sN cNi sNi h htab a ha hok.okA
  obtain ⟨fb, mb⟩ := mag_fwd c k (by omega) cN sN cNi sNi h htab b hb hok.okB
  obtain ⟨fm, mm⟩ := mag_mul c.mulFma k (fun hf => pow_mod_four k (h.mulFma hf)) _ _ _ _ ma mb (by omega) hok.okM
  exact ⟨fa, fb, fm, (mag_ifft c k cNi sNi htabi _ _ mm (by omega) hok.okI).1⟩

theorem noUnd_of_normal {q : ℚ} (h : NormalRange q) : NoUnd q := by
  rcases h with h | ⟨h, _⟩
  · exact Or.inl h
  · exact Or.inr h

def RlOU (X Y : ℕ × Prop) : Prop := X.1 = Y.1 ∧ (X.2 → Y.2)

theorem simOU : RArith.Sim RlOU arithOk arithU where
  zero := ⟨rfl, fun h => h⟩
  add := fun {a a' b b'} h1 h2 =>
    ⟨by show F64.add a.1 b.1 = F64.add a'.1 b'.1; rw [h1.1, h2.1],
      fun ⟨x, y, z⟩ => ⟨h1.2 x, h2.2 y, by rw [← h1.1, ← h2.1]; exact noUnd_of_normal z⟩⟩
  sub := fun {a a' b b'} h1 h2 =>
    ⟨by show F64.sub a.1 b.1 = F64.sub a'.1 b'.1; rw [h1.1, h2.1],
      fun ⟨x, y, z⟩ => ⟨h1.2 x, h2.2 y, by rw [← h1.1, ← h2.1]; exact noUnd_of_normal z⟩⟩
  mul := fun {a a' b b'} h1 h2 =>
    ⟨by show F64.mul a.1 b.1 = F64.mul a'.1 b'.1; rw [h1.1, h2.1],
      fun ⟨x, y, z⟩ => ⟨h1.2 x, h2.2 y, by rw [← h1.1, ← h2.1]; exact noUnd_of_normal z⟩⟩
  fma := fun {a a' b b' c c'} h1 h2 h3 =>
    ⟨by show F64.fma a.1 b.1 c.1 = F64.fma a'.1 b'.1 c'.1; rw [h1.1, h2.1, h3.1],
      fun ⟨x, y, w, z⟩ => ⟨h1.2 x, h2.2 y, h3.2 w, by rw [← h1.1, ← h2.1, ← h3.1]; exact noUnd_of_normal z⟩⟩
  fms := fun {a a' b b' c c'} h1 h2 h3 =>
    ⟨by show F64.fms a.1 b.1 c.1 = F64.fms a'.1 b'.1 c'.1; rw [h1.1, h2.1, h3.1],
      fun ⟨x, y, w, z⟩ => ⟨h1.2 x, h2.2 y, h3.2 w, by rw [← h1.1, ← h2.1, ← h3.1]; exact noUnd_of_normal z⟩⟩

theorem asimOU : ASim RlOU aOk aU :=
  ASim.ofR simOU (fun x => (F64.neg x.1, x.2)) aU.neg (fun h => ⟨by show F64.neg _ = F64.neg _; rw [h.1], h.2⟩)

theorem fwdOkU_of_fwdOk (c : Cfg) (k : ℕ) (cN sN : ℕ → ℕ) (x : Array Int)
    (hsz : ((Cfg.parts c).fromZnx x).size = 2 * 2 ^ k) (h : FwdOk c k cN sN x) : FwdOkU c k cN sN x := fun p hp =>
  (xform_rel (xformF k) (famOf c.fftFma) (by cases c.fftFma <;> [exact famRef; exact famFma]) asimOU lift lift lift lift cN sN
    (fun _ => ⟨⟨rfl, id⟩, ⟨rfl, id⟩⟩) _ hsz (fun _ _ => ⟨rfl, id⟩) p hp).2 (h p hp)

theorem invOkU_of_invOk (c : Cfg) (k : ℕ) (cNi sNi : ℕ → ℕ) (d : Array ℕ) (hsz : d.size = 2 * 2 ^ k)
    (h : InvOk c k cNi sNi d) : InvOkU c k cNi sNi d := fun p hp =>
  (xform_rel (xformI k) (ifamOf c.ifftFma) (by cases c.ifftFma <;> [exact famIRef; exact famIFma]) asimOU lift lift lift lift
    cNi sNi (fun _ => ⟨⟨rfl, id⟩, ⟨rfl, id⟩⟩) _ hsz (fun _ _ => ⟨rfl, id⟩) p hp).2 (h p hp)

theorem exU_okA : FwdOkU exC 0 z0 z0 #[1, 2] := fwdOkU_of_fwdOk exC 0 z0 z0 _ (by rw [exA]; rfl) ex_okA

theorem exU_okB : FwdOkU exC 0 z0 z0 #[3, 4] := fwdOkU_of_fwdOk exC 0 z0 z0 _ (by rw [exB]; rfl) ex_okB

theorem exU_okI : ∀ p, p < 2 * 2 ^ 0 →
    ((reimIfftA (ifamOf exC.ifftFma aU) (2 ^ 0) ((((reimIfftEnts (2 ^ 0)).map (valP z0 z0)).toArray).map lift)
      ((stM exC 0 z0 z0 #[1, 2] #[3, 4]).map lift))[p]!).2 :=
  invOkU_of_invOk exC 0 z0 z0 _ (by rw [exM]; rfl) ex_okI

theorem exU_okM : ∀ p, p < 2 * 2 ^ 0 →
    ((mulA arithU exC.mulFma (2 ^ 0) ((stF exC 0 z0 z0 #[1, 2]).map lift) ((stF exC 0 z0 z0 #[3, 4]).map lift)).getD p
      arithU.zero).2 := by
  have e0 : exC.mulFma = false := rfl
  have e1 : 2 ^ 0 = 1 := rfl
  obtain ⟨c1, c2⟩ := (mulA_cells arithOk false 1 (by simp) ((stF exC 0 z0 z0 #[1, 2]).map lift)
    ((stF exC 0 z0 z0 #[3, 4]).map lift)).2 0 (by omega)
  obtain ⟨d1, d2⟩ := (mulA_cells arithU false 1 (by simp) ((stF exC 0 z0 z0 #[1, 2]).map lift)
    ((stF exC 0 z0 z0 #[3, 4]).map lift)).2 0 (by omega)
  have f1 := ex_okM 0 (by norm_num)
  have f2 := ex_okM 1 (by norm_num)
  rw [e0, e1] at f1 f2 ⊢
  rw [c1] at f1
  rw [show (1 : ℕ) = 0 + 1 from rfl, c2] at f2
  have r : ∀ (x : Array ℕ) i, RlOU ((x.map lift).getD i arithOk.zero) ((x.map lift).getD i arithU.zero) :=
    fun _ _ => ⟨rfl, fun h => h⟩
  intro p hp
  have hp' : p = 0 ∨ p = 0 + 1 := by omega
  rcases hp' with rfl | rfl
  · rw [d1]
    exact (cellRe_sim simOU false (r _ _) (r _ _) (r _ _) (r _ _)).2 f1
  · rw [d2]
    exact (cellIm_sim simOU false (r _ _) (r _ _) (r _ _) (r _ _)).2 f2

theorem exPipeOkU : PipeOkU exC 0 z0 z0 z0 z0 #[1, 2] #[3, 4] := ⟨exU_okA, exU_okB, exU_okM, exU_okI⟩

theorem exTabOk : TabOk z0 z0 := fun _ => by
  have : Fin64 0 ∧ |val 0| ≤ 1 := ⟨fin64_zero, by rw [val_zero, abs_zero]; norm_num⟩
  exact ⟨this, this⟩

end Spq.VmpErr
