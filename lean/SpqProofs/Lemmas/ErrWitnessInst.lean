/-
  Non-vacuity witness: the concrete instance `N = 8` (`k = 2`, `m = 4`), `K = ℝ`.

  * `libC8`: the configuration that `new_module_info(8, FFT64)` installs on an AVX2/FMA machine (read from the running
    library): `reim_fft_avx2_fma`, `reim_ifft_avx2_fma`, plain conversions (`ref`), FMA `mul`/`addmul`, AVX vmp; tables =
    the stored patterns of `ErrWitnessTable`.  `libCfgOk`: it satisfies `CfgOk` (and `VCfgOk`) with `cN sN cNi sNi`.
  * `exA8 = 3 − X + 4X² + X³ − 5X⁴ + 9X⁵ + 2X⁶ − 6X⁷`, `exB8 = 2 + 7X − X² + 8X³ + 2X⁴ − 8X⁵ + X⁶ + 8X⁷`;
    the library returns `exA8 ⊛ exB8 = [0, −94, 111, 114, −131, −22, 147, −54]` (`fft64_znx_small_single_product`).
  * `libPipeOk`: all flags of the four flagged stage runs, by `decide +kernel` on the Boolean-flag run.
-/
import SpqProofs.Lemmas.ErrWitnessXfer
import SpqProofs.Lemmas.ErrWitnessTable
import SpqProofs.Lemmas.VmpErrCol
namespace Spq.ErrWitness
open Finset Spq Spq.Module Spq.Fft Spq.Fft.Alg Spq.Fft.SchedN Spq.FftErr Spq.F64 Spq.ProdErr Spq.Conv Spq.VmpErr

/-- what the library installs for `N = 8` -/
def libC8 : Cfg where
  nn := 8
  fftFma := true
  ifftFma := true
  fromBnd50 := false
  toVariant := ToZnx64Variant.ref
  mulFma := true
  addmulFma := true
  vmpAvx := true
  fftT := #[4604544271217802189, 4604544271217802188, 4606496786581982534, 4600565431771507043]
  ifftT := #[4606496786581982534, 13823937468626282851, 4604544271217802189, 13827916308072577996]

theorem libCfgOk : CfgOk libC8 2 cN sN cNi sNi :=
  ⟨rfl, by unfold tabF; exact tabF_lib.symm, by unfold tabI; exact tabI_lib.symm, fun _ => le_refl 2, by decide, by decide⟩

theorem libVCfgOk : VCfgOk libC8 2 cN sN cNi sNi := ⟨libCfgOk, fun _ => le_refl 2⟩

def exA8 : Array Int := #[3, -1, 4, 1, -5, 9, 2, -6]
def exB8 : Array Int := #[2, 7, -1, 8, 2, -8, 1, 8]

/-- the doubles `3, −1, 4, 1, −5, 9, 2, −6` (reim layout: `3 − 5i, −1 + 9i, 4 + 2i, 1 − 6i`) -/
def exD8 : Array ℕ := #[4613937818241073152, 13830554455654793216, 4616189618054758400, 4607182418800017408,
  13840687554816376832, 4621256167635550208, 4611686018427387904, 13841813454723219456]

theorem exD8_size : exD8.size = 2 * 2 ^ 2 := rfl

theorem exD8_eq : (Cfg.parts libC8).fromZnx exA8 = exD8 := by decide +kernel

/-- the two forward transforms, evaluated once (library: `reim_fft_avx2_fma` on the converted inputs); every later
    evaluation that involves them starts from these literals -/
theorem exFA_val : stF libC8 2 cN sN exA8 = #[4618410054537187982, 4613614197135054515, 13843748501720723752,
    4622320278076434848, 4618219223757501269, 13843296682171914659, 13849564327500461205, 4607413680280691344] := by
  decide +kernel

theorem exFB_val : stF libC8 2 cN sN exB8 = #[4618199171296954568, 13840252134360622766, 4625922732693648645,
    13846176622200757016, 4620400766853824204, 13838976753252924824, 4625116987058513009, 13846237224099603569] := by
  decide +kernel

theorem fwd_ok (fma : Bool) : ∀ p, p < 2 * 2 ^ 2 →
    ((reimFftA (famOf fma aOk) (2 ^ 2) ((((reimFftEnts (2 ^ 2)).map (valP cN sN)).toArray).map lift)
      (exD8.map lift))[p]!).2 := by
  cases fma
  · exact fft_flags_of_all (famOf false) (famOf_ok false) 2 cN sN exD8 rfl (by decide +kernel)
  · exact fft_flags_of_all (famOf true) (famOf_ok true) 2 cN sN exD8 rfl (by decide +kernel)

/-- input of the inverse-transform witness: the DFT-space product of the pipeline -/
def exI8 : Array ℕ := stM libC8 2 cN sN exA8 exB8

/-- the DFT-space product, evaluated once (library: `reim_fftvec_mul_fma` on the two forward transforms) -/
theorem exI8_val : exI8 = #[13845397238386677708, 13854275141426580816, 4640059075995002033, 13861199981087373246,
    4635315372556800038, 4627187909523694509, 13870618453242833711, 13862554378290830888] := by
  unfold exI8 ProdErr.stM; rw [exFA_val, exFB_val]; decide +kernel

theorem exI8_size : exI8.size = 2 * 2 ^ 2 := by rw [exI8_val]; rfl

theorem inv_ok (fma : Bool) : ∀ p, p < 2 * 2 ^ 2 →
    ((reimIfftA (ifamOf fma aOk) (2 ^ 2) ((((reimIfftEnts (2 ^ 2)).map (valP cNi sNi)).toArray).map lift)
      (exI8.map lift))[p]!).2 := by
  cases fma
  · exact ifft_flags_of_all (ifamOf false) (ifamOf_ok false) 2 cNi sNi exI8 exI8_size (by rw [exI8_val]; decide +kernel)
  · exact ifft_flags_of_all (ifamOf true) (ifamOf_ok true) 2 cNi sNi exI8 exI8_size (by rw [exI8_val]; decide +kernel)

theorem lib_okA : ∀ p, p < 2 * 2 ^ 2 →
    ((reimFftA (famOf libC8.fftFma aOk) (2 ^ 2) ((((reimFftEnts (2 ^ 2)).map (valP cN sN)).toArray).map lift)
      (((Cfg.parts libC8).fromZnx exA8).map lift))[p]!).2 := by
  rw [exD8_eq]; exact fwd_ok true

theorem lib_okB : ∀ p, p < 2 * 2 ^ 2 →
    ((reimFftA (famOf libC8.fftFma aOk) (2 ^ 2) ((((reimFftEnts (2 ^ 2)).map (valP cN sN)).toArray).map lift)
      (((Cfg.parts libC8).fromZnx exB8).map lift))[p]!).2 :=
  fft_flags_of_all (famOf libC8.fftFma) (famOf_ok _) 2 cN sN ((Cfg.parts libC8).fromZnx exB8) (by decide +kernel)
    (by decide +kernel)

theorem lib_okM : ∀ p, p < 2 * 2 ^ 2 →
    ((mulA arithOk libC8.mulFma (2 ^ 2) ((stF libC8 2 cN sN exA8).map lift) ((stF libC8 2 cN sN exB8).map lift)).getD p
      arithOk.zero).2 := by
  rw [exFA_val, exFB_val]
  exact mul_flags_of_all libC8.mulFma (2 ^ 2) (fun _ => rfl) _ _ (by decide +kernel)

theorem lib_okI : ∀ p, p < 2 * 2 ^ 2 →
    ((reimIfftA (ifamOf libC8.ifftFma aOk) (2 ^ 2) ((((reimIfftEnts (2 ^ 2)).map (valP cNi sNi)).toArray).map lift)
      ((stM libC8 2 cN sN exA8 exB8).map lift))[p]!).2 := inv_ok true

theorem libPipeOk : PipeOk libC8 2 cN sN cNi sNi exA8 exB8 := ⟨lib_okA, lib_okB, lib_okM, lib_okI⟩

/-! ### the box and the norms: `‖a‖₁ = 31`, `‖a‖₂² = 173 ≤ 14²`, `‖b‖₁ = 37`, `‖b‖₂² = 251 ≤ 16²`, `16 ≤ 37` -/

theorem exA8_box : ∀ i, i < 2 * 2 ^ 2 → -1125899906842624 < exA8.getD i 0 ∧ exA8.getD i 0 < 1125899906842624 := by
  intro i hi
  have hi' : i < 8 := hi
  interval_cases i <;> decide

theorem exB8_box : ∀ i, i < 2 * 2 ^ 2 → -1125899906842624 < exB8.getD i 0 ∧ exB8.getD i 0 < 1125899906842624 := by
  intro i hi
  have hi' : i < 8 := hi
  interval_cases i <;> decide

/-- the norms of a concrete integer vector are evaluated in `ℤ` -/
theorem n2sq_intCast (a : Array Int) (N : ℕ) :
    ∑ t ∈ range N, ((a.getD t 0 : Int) : ℝ) ^ 2 = ((∑ t ∈ range N, a.getD t 0 ^ 2 : ℤ) : ℝ) := by
  push_cast; rfl

theorem n1_intCast (a : Array Int) (N : ℕ) :
    ∑ t ∈ range N, |((a.getD t 0 : Int) : ℝ)| = ((∑ t ∈ range N, |a.getD t 0| : ℤ) : ℝ) := by
  push_cast; rfl

theorem exA8_n2 : ∑ t ∈ range (2 * 2 ^ 2), ((exA8.getD t 0 : Int) : ℝ) ^ 2 ≤ 14 ^ 2 := by
  rw [n2sq_intCast, show (∑ t ∈ range (2 * 2 ^ 2), exA8.getD t 0 ^ 2 : ℤ) = 173 by decide +kernel]
  norm_num

theorem exB8_n2 : ∑ t ∈ range (2 * 2 ^ 2), ((exB8.getD t 0 : Int) : ℝ) ^ 2 ≤ 16 ^ 2 := by
  rw [n2sq_intCast, show (∑ t ∈ range (2 * 2 ^ 2), exB8.getD t 0 ^ 2 : ℤ) = 251 by decide +kernel]
  norm_num

theorem exA8_n1 : ∑ t ∈ range (2 * 2 ^ 2), |((exA8.getD t 0 : Int) : ℝ)| = 31 := by
  rw [n1_intCast, show (∑ t ∈ range (2 * 2 ^ 2), |exA8.getD t 0| : ℤ) = 31 by decide +kernel]
  norm_num

theorem exB8_n1 : ∑ t ∈ range (2 * 2 ^ 2), |((exB8.getD t 0 : Int) : ℝ)| = 37 := by
  rw [n1_intCast, show (∑ t ∈ range (2 * 2 ^ 2), |exB8.getD t 0| : ℤ) = 37 by decide +kernel]
  norm_num

theorem exB8_nl : (16 : ℝ) ≤ ∑ t ∈ range (2 * 2 ^ 2), |((exB8.getD t 0 : Int) : ℝ)| := by rw [exB8_n1]; norm_num

/-- the budget: `12·3·2^-53·(31·16 + 14·37) = 36504·2^-53 < 1/2` -/
theorem ex_budget : ((12 * ((2 : ℕ) + 1 : ℚ) * u64 : ℚ) : ℝ) *
    ((∑ t ∈ range (2 * 2 ^ 2), |((exA8.getD t 0 : Int) : ℝ)|) * 16 + 14 * ∑ t ∈ range (2 * 2 ^ 2), |((exB8.getD t 0 : Int) : ℝ)|)
      < 1 / 2 := by
  rw [exA8_n1, exB8_n1]
  unfold u64; push_cast; norm_num

theorem ex_nmul : nmul (2 * 2 ^ 2) exA8 exB8 = #[0, -94, 111, 114, -131, -22, 147, -54] := by decide +kernel

end Spq.ErrWitness
