/-
  The "fill" loop: `for (j = e0; j < hiE; j++) res[j] = e;` writes cell `j` of the result buffer at iteration
  `j`.  Proved once for an arbitrary environment, bound expressions, right-hand side and sequence of memories
  (`fill_for_mem`); the kernels add / sub / negate / rotate / mul_xp_minus_one (int64 and double) are instances.
  `Cells M p n` is the other shape of memory hypothesis the kernels are proved over: memories indexed by the content
  of the cells at `p`, for loops that read back what they wrote.
-/
import SpqProofs.Lemmas.SrcEval
namespace Spq.CIR

/-- The counting loop of the C sources, `for (js = e0; js < hiE; js++) body`, by an invariant on the loop-head states:
    `Inv k σ` = "σ can be the state at the loop head when the counter is `k`" (it says what the counter slot holds).
    The header is evaluated here, once: the test holds below `hi` and fails at `hi`, the increment does not wrap.
    Exact state families (`σ = S k`), abstract environments (`σ.mem = M k ∧ Keep σ.env ∧ …`) and abstract memory
    sequences are all instances. -/
theorem for_count (K : ExtSem) (Γ : List Ptr) (js : Nat) (e0 hiE : Expr) (body : Stmt) (σ0 : State)
    (Inv : Nat → State → Prop) (lo hi fb : Nat) (hlh : lo ≤ hi) (h64 : hi < 18446744073709551616)
    (he0 : eval Γ σ0 e0 = .ok (lo : Int))
    (h0 : Inv lo ⟨lset σ0.env js (lo : Int), σ0.mem⟩)
    (hjs : ∀ k σ, Inv k σ → lget σ.env js = (k : Int))
    (hhi : ∀ k σ, lo ≤ k → k ≤ hi → Inv k σ → eval Γ σ hiE = .ok (hi : Int))
    (hbody : ∀ k σ, lo ≤ k → k < hi → Inv k σ → ∀ f, fb ≤ f →
      Post (execK K Γ body f σ) fun σ' => lget σ'.env js = (k : Int) ∧
        Inv (k + 1) ⟨lset σ'.env js ((k + 1 : Nat) : Int), σ'.mem⟩) :
    ∀ f, (hi - lo) + fb ≤ f → Post (execK K Γ (.for (.assign js e0) (.bin .lt .u64 (.var js) hiE)
        (.assign js (.bin .add .u64 (.var js) (.lit 1))) body) f σ0) (Inv hi) := by
  refine execK_for_inv K Γ _ _ _ _ σ0 Inv lo hi fb hlh
    (fun f => ⟨⟨lset σ0.env js (lo : Int), σ0.mem⟩, by rw [execK_assign, he0]; rfl, h0⟩) ?_ ?_
  · intro k σ hk1 hk2 hI
    constructor
    · rw [evalB_def, eval_bin, eval_var, hhi k σ hk1 (by omega) hI, hjs k σ hI]
      simp only [R.bind_ok, evalBin_lt_u64, decide_b2i_ne_zero]
      exact ok_decide_true (by omega)
    · intro f hf
      obtain ⟨σ', hb, hj', hI'⟩ := hbody k σ hk1 hk2 hI f hf
      have e : ((k : Int) + 1) % 18446744073709551616 = ((k + 1 : Nat) : Int) := by omega
      refine ⟨_, ?_, hI'⟩
      rw [hb, thenStep_norm, execK_assign, eval_bin, eval_var, hj', eval_lit]
      simp only [R.bind_ok, evalBin_add_u64, e]
  · intro σ hI
    rw [evalB_def, eval_bin, eval_var, hhi hi σ hlh (Nat.le_refl _) hI, hjs hi σ hI]
    simp only [R.bind_ok, evalBin_lt_u64, decide_b2i_ne_zero]
    exact ok_decide_false (by omega)

/-- memory while the loop is at index `k`: cells `[0,k)` of buffer `r` hold `g` -/
abbrev fillMem (m : Mem) (r : Nat) (g : Nat → Int) (k : Nat) : Mem :=
  m.setIfInBounds r (fillTo (buf m r) g k)

theorem fillMem_all (m : Mem) (r : Nat) (g : Nat → Int) (n : Nat) (h : (buf m r).size = n) :
    fillMem m r g n = m.setIfInBounds r (Array.ofFn (n := n) fun i => g i.val) := by
  unfold fillMem
  rw [fillTo_all _ _ _ h]

/-! ### loops that write their result in index order, over an abstract sequence of memories
    `M k` = "cells `[0, k)` of the result are written".  Only two facts about it are used: a store of `g k` at cell
    `k` leads from `M k` to `M (k + 1)` (through an intermediate `M' k` when two results are written in lock
    step), and a source cell at or after `k` still has its original value in `M k`.
    The memories `wmem` (`Lemmas/SrcWmem.lean`: a window of a buffer written up to `k`, in any memory) are the instance
    the kernels use; `fillMem` is the whole-buffer case the q120 proofs are written on. -/

/-- storing `g k` at cell `k` leads from `M k` to `M' k` -/
def StoresTo (M M' : Nat → Mem) (pr : Ptr) (g : Nat → Int) (n : Nat) : Prop :=
  ∀ k, k < n → storeCell (M k) pr (k : Int) (g k) = .ok (M' k)

def Fills (M : Nat → Mem) (pr : Ptr) (g : Nat → Int) (n : Nat) : Prop :=
  StoresTo M (fun k => M (k + 1)) pr g n

def Ahead (M : Nat → Mem) (pa : Ptr) (A : Nat → Int) (n : Nat) : Prop :=
  ∀ k i, k ≤ i → i < n → loadCell (M k) pa (i : Int) = .ok (A i)

/-- `M Y` is a memory whose `n` cells at `p` hold `Y`: a load at `p` reads `Y`, a store at `p` leads to the memory of the
    updated `Y`.  The kernels that read back what they have written (in-place walks, scatter loops) are proved over such a
    family; a whole buffer (`cells_whole`) and a window of an arena (`cells_window`, Lemmas/SrcArena) are instances. -/
structure Cells (M : Array Int → Mem) (p : Ptr) (n : Nat) : Prop where
  load : ∀ Y i, Y.size = n → i < n → loadCell (M Y) p (i : Int) = .ok (Y.getD i 0)
  store : ∀ Y i v, Y.size = n → i < n → storeCell (M Y) p (i : Int) v = .ok (M (Y.setIfInBounds i v))

theorem cells_whole (m : Mem) (r : Nat) (hr : r < m.size) (n : Nat) : Cells (m.setIfInBounds r) (some (r, 0)) n where
  load Y i hY hi := by
    rw [load0 _ _ _ (by rw [buf_set_self m r Y hr, hY]; exact hi), buf_set_self m r Y hr]
  store Y i v hY hi := by
    rw [store0 _ _ _ _ (by rw [buf_set_self m r Y hr, hY]; exact hi), buf_set_self m r Y hr, set_set]

/-- filling the cells in index order -/
theorem Cells.fills {M : Array Int → Mem} {p : Ptr} {n : Nat} (hC : Cells M p n) (X : Array Int) (hX : X.size = n)
    (g : Nat → Int) : Fills (fun k => M (fillTo X g k)) p g n := fun k hk => by
  rw [hC.store _ k _ (by rw [size_fillTo]; exact hX) hk, fillTo_step _ _ _ _ rfl]

theorem StoresTo.store {M M' : Nat → Mem} {pr : Ptr} {g : Nat → Int} {n k : Nat} (h : StoresTo M M' pr g n) (hk : k < n)
    {v : Int} (hv : v = g k) : storeCell (M k) pr (k : Int) v = .ok (M' k) :=
  hv ▸ h k hk

theorem Fills.store {M : Nat → Mem} {pr : Ptr} {g : Nat → Int} {n k : Nat} (h : Fills M pr g n) (hk : k < n) {v : Int}
    (hv : v = g k) : storeCell (M k) pr (k : Int) v = .ok (M (k + 1)) :=
  StoresTo.store h hk hv

/-- the fill loop over an abstract sequence of memories: all it needs of `M` is that the store of `g k` at cell `k`
    leads from `M k` to `M (k + 1)`; what the right-hand side reads in `M k` is the business of `he` -/
theorem fill_for_mem (Γ : List Ptr) (rp js : Nat) (e0 hiE e : Expr) (env : List Int) (M : Nat → Mem) (g : Nat → Int)
    (lo hi : Nat) (hF : Fills M (Γ.getD rp none) g hi) (hlh : lo ≤ hi) (h64 : hi < 18446744073709551616)
    (hjs : js < env.length)
    (he0 : eval Γ ⟨env, M lo⟩ e0 = .ok (lo : Int))
    (hhiE : ∀ k, lo ≤ k → k ≤ hi → eval Γ ⟨lset env js (k : Int), M k⟩ hiE = .ok (hi : Int))
    (he : ∀ k, lo ≤ k → k < hi → eval Γ ⟨lset env js (k : Int), M k⟩ e = .ok (g k)) :
    ∀ f, hi - lo ≤ f →
      exec Γ (.for (.assign js e0) (.bin .lt .u64 (.var js) hiE)
          (.assign js (.bin .add .u64 (.var js) (.lit 1))) (.store rp (.var js) e)) f ⟨env, M lo⟩
        = .ok (.norm, ⟨lset env js (hi : Int), M hi⟩) := by
  intro f hf
  obtain ⟨σ', h, rfl⟩ := for_count ExtSem.none Γ js e0 hiE (.store rp (.var js) e) ⟨env, M lo⟩
    (fun k σ => σ = ⟨lset env js (k : Int), M k⟩) lo hi 0 hlh h64 he0 (by rfl)
    (fun k σ h => by rw [h]; exact lget_lset_self env js _ hjs)
    (fun k σ h1 h2 h => by rw [h]; exact hhiE k h1 h2)
    (fun k σ h1 h2 h f _ => by
      subst h
      refine ⟨⟨lset env js (k : Int), M (k + 1)⟩, ?_, lget_lset_self env js _ hjs, by rw [lset_lset]⟩
      rw [execK_store, eval_var, he k h1 h2]
      simp only [R.bind_ok]
      rw [lget_lset_self env js _ hjs, hF.store h2 rfl]
      rfl) f (by omega)
  exact h

end Spq.CIR
