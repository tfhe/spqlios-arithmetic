/-
  The geometry of a driver step.  `Blk k ℓ D b m off pw`: the arguments `(m, off, pw)` a driver and its table filler
  are called with denote block `b` of level `ℓ` (log-size `D = k − ℓ`) of the transform of size `2^k`; the filler's
  entry power `pw` is `twE ℓ D b`.  `left`, `right`, `sub` say that what the drivers pass to their recursive calls and
  loop bodies denotes the child blocks, in the drivers' own spelling, so a proof about a driver passes `hB.left` where
  it would prove the four equations again.  The equations sit inside the structure on purpose: `omega` then does not
  see the `2 ^ ·` facts in the remaining side goals.
-/
import SpqProofs.Lemmas.FftRuns
import SpqProofs.Lemmas.FftTw
namespace Spq.Fft.SchedN
open Spq.Fft Spq.Fft.Alg Spq.Fft.View Spq.Fft.Sim Spq.Fft.SimP Spq.Fft.LevelN Spq.Fft.Tw

structure Blk (k ℓ D b m off pw : ℕ) : Prop where
  lvl : k = ℓ + D
  size : m = 2 ^ D
  pos : off = m * b
  pwr : pw = twE ℓ D b

namespace Blk
variable {k ℓ D b m off pw : ℕ}

theorem top {k m : ℕ} (hm : m = 2 ^ k) : Blk k 0 k 0 m 0 m :=
  ⟨(Nat.zero_add k).symm, hm, (Nat.mul_zero m).symm, by rw [twE, brev_zero_right, hm]; ring⟩

theorem half (h : Blk k ℓ (D + 1) b m off pw) : m / 2 = 2 ^ D := by
  rw [h.size, pow_succ]; exact Nat.mul_div_cancel _ Nat.two_pos

theorem two_half (h : Blk k ℓ (D + 1) b m off pw) : m = m / 2 + m / 2 := by rw [h.half, h.size, pow_succ]; ring

/-- the power a twiddle pass over the whole block reads -/
theorem pw_half (h : Blk k ℓ (D + 1) b m off pw) : pw / 2 = twE ℓ D b := by
  rw [h.pwr, twE_dsucc]; exact Nat.mul_div_cancel _ Nat.two_pos

theorem left (h : Blk k ℓ (D + 1) b m off pw) : Blk k (ℓ + 1) D (2 * b) (m / 2) off (pw / 2) :=
  ⟨by rw [h.lvl]; ring, h.half, by rw [h.half, h.pos, h.size, pow_succ]; ring, by rw [h.pw_half, twE_even]⟩

theorem right (h : Blk k ℓ (D + 1) b m off pw) :
    Blk k (ℓ + 1) D (2 * b + 1) (m / 2) (off + m / 2) (pw / 2 + 4 * 2 ^ k / 2) :=
  ⟨by rw [h.lvl]; ring, h.half, by rw [h.half, h.pos, h.size, pow_succ]; ring, by
    have : 4 * 2 ^ k / 2 = 2 ^ D * (4 * 2 ^ ℓ) := by
      rw [h.lvl, show 4 * 2 ^ (ℓ + (D + 1)) = 2 ^ D * (4 * 2 ^ ℓ) * 2 by rw [pow_add, pow_succ]; ring]
      exact Nat.mul_div_cancel _ Nat.two_pos
    rw [h.pw_half, this, twE, twE, brev_odd]; ring⟩

/-- the offset in the spelling of a twiddle pass over the whole block -/
theorem pass (h : Blk k ℓ (D + 1) b m off pw) : off = 2 * 2 ^ D * b := by rw [h.pos, h.size, pow_succ]; ring

/-- the level of that pass, as `VNI_step` names it -/
theorem lvl_pass (h : Blk k ℓ (D + 1) b m off pw) : ℓ = k - 1 - D := by rw [h.lvl]; omega

theorem two_pow (h : Blk k ℓ (D + 1) b m off pw) : m = 2 * 2 ^ D := by rw [h.size, pow_succ]; ring

theorem size_pos (h : Blk k ℓ D b m off pw) : 0 < m := h.size ▸ Nat.two_pow_pos D
theorem log2 (h : Blk k ℓ D b m off pw) : m.log2 = D := h.size ▸ Nat.log2_two_pow
theorem lt_size (h : Blk k ℓ D b m off pw) : D < m := h.size ▸ Nat.lt_two_pow_self

theorem lvl_sub (h : Blk k ℓ D b m off pw) {j e : ℕ} (hD : D = j + e) : k = ℓ + j + e := by
  rw [h.lvl, hD, Nat.add_assoc]

/-- the guard `m ≤ c` of a driver that switches schedule at size `c = 2^C` -/
theorem below {C c : ℕ} (h : Blk k ℓ D b m off pw) (hc : c = 2 ^ C) (hle : m ≤ c) : D ≤ C :=
  (Nat.pow_le_pow_iff_right Nat.one_lt_two).1 (hc ▸ h.size ▸ hle)

theorem size_ge {C c : ℕ} (h : Blk k ℓ D b m off pw) (hc : c = 2 ^ C) (hD : C ≤ D) : c ≤ m :=
  hc ▸ h.size ▸ Nat.pow_le_pow_right Nat.two_pos hD

theorem above {C c : ℕ} (h : Blk k ℓ D b m off pw) (hc : c = 2 ^ C) (hle : ¬ m ≤ c) : ∃ D1, D = D1 + 1 ∧ C ≤ D1 := by
  have : C < D := (Nat.pow_lt_pow_iff_right Nat.one_lt_two).1 (hc ▸ h.size ▸ Nat.lt_of_not_le hle)
  exact ⟨D - 1, by omega, by omega⟩

/-- the guard `h < m` of a loop over the sizes `h = 2^e` -/
theorem lt_iff (h : Blk k ℓ D b m off pw) (e : ℕ) : 2 ^ e < m ↔ e < D := by
  rw [h.size]; exact Nat.pow_lt_pow_iff_right Nat.one_lt_two

/-- the guard `h < m / 2` -/
theorem lt_half_iff (h : Blk k ℓ D b m off pw) (e : ℕ) : 2 ^ e < m / 2 ↔ e + 2 ≤ D := by
  cases D with
  | zero => rw [h.size]; simp
  | succ D => rw [h.half, Nat.pow_lt_pow_iff_right Nat.one_lt_two]; omega

/-- the guard `h ≤ m / 2` -/
theorem le_half_iff (h : Blk k ℓ D b m off pw) (e : ℕ) : 2 ^ e ≤ m / 2 ↔ e + 1 ≤ D := by
  cases D with
  | zero => rw [h.size]; simp
  | succ D => rw [h.half, Nat.pow_le_pow_iff_right Nat.one_lt_two]; omega

/-- the block seen as `2^j` blocks of size `mm = 2^e`, the cursor `ss` being the entry power at that size: block `i`
is called with `(mm, off + i * mm, ss + frbN U i)` -/
theorem sub (h : Blk k ℓ D b m off pw) {j e mm ss : ℕ} (hD : D = j + e) (hmm : mm = 2 ^ e) (hss : ss = twE ℓ e b)
    {i : ℕ} (hi : i < 2 ^ j) : Blk k (ℓ + j) e (b * 2 ^ j + i) mm (off + i * mm) (ss + frbN (4 * 2 ^ k) i) :=
  ⟨by rw [h.lvl, hD]; ring, hmm, by rw [h.pos, h.size, hD, hmm, pow_add]; ring, by
    have := sub_tw ℓ j e 0 b i k hi (h.lvl_sub hD)
    rwa [pow_zero, Nat.div_one, ← hss] at this⟩

/-- what the twiddle pass over sub-block `i` of size `2^(d+1)` reads, `ss` being the cursor at the size `2^d` -/
theorem sub_pass (h : Blk k ℓ D b m off pw) {j d ss i : ℕ} (hD : D = j + (d + 1)) (hss : ss = twE ℓ d b)
    (hi : i < 2 ^ j) : ss + frbN (4 * 2 ^ k) i / 2 = twE (ℓ + j) d (b * 2 ^ j + i) := by
  have := sub_tw ℓ j d 1 b i k hi (h.lvl_sub hD)
  rwa [pow_one, ← hss] at this

theorem count (h : Blk k ℓ D b m off pw) {j e mm : ℕ} (hD : D = j + e) (hmm : mm = 2 ^ e) :
    m / mm = 2 ^ j ∧ m = 2 ^ j * mm := by
  rw [h.size, hD, hmm, pow_add]; exact ⟨Nat.mul_div_cancel _ (Nat.two_pow_pos e), rfl⟩

/-- the cursor of a loop over sub-blocks of size `2^e`, as the table fillers compute it from the entry power -/
theorem cursor (h : Blk k ℓ D b m off pw) {e : ℕ} (he : e ≤ D) : pw * 2 ^ e / m = twE ℓ e b := by
  obtain ⟨j, rfl⟩ : ∃ j, D = j + e := ⟨D - e, by omega⟩
  rw [h.pwr, h.size, twE, twE, show 2 ^ (j + e) * (1 + 4 * brev ℓ b) * 2 ^ e = 2 ^ (j + e) * (2 ^ e * (1 + 4 * brev ℓ b)) by ring]
  exact Nat.mul_div_cancel_left _ (Nat.two_pow_pos _)

end Blk

variable {R : Type} [Inhabited R] (k : ℕ)

theorem Runs.halves {v : Ent → R} {E1 E2 : List Ent} {f1 f2 : Array R → RI R × ℕ → RI R × ℕ} {A B : ℕ → R × R}
    {ℓ D b m off pw : ℕ} (hB : Blk k ℓ (D + 1) b m off pw) (h1 : Runs v E1 f1 A B off (m / 2))
    (h2 : Runs v E2 f2 A B (off + m / 2) (m / 2)) : Runs v (E1 ++ E2) (fun T st => f2 T (f1 T st)) A B off m :=
  (h1.par h2).of_eq rfl (fun _ _ => rfl) rfl hB.two_half

/-- a loop over the `2^j` sub-blocks of size `mm = 2^e` of a block: step `i` is handed the geometry of its block -/
theorem Runs.blocks {v : Ent → R} {A B : ℕ → R × R} {ℓ D b m off pw j e mm ss : ℕ} (hB : Blk k ℓ D b m off pw)
    (hD : D = j + e) (hmm : mm = 2 ^ e) (hss : ss = twE ℓ e b) (Eb : ℕ → List Ent)
    (fb : ℕ → Array R → RI R × ℕ → RI R × ℕ)
    (h : ∀ i, i < 2 ^ j → Blk k (ℓ + j) e (b * 2 ^ j + i) mm (off + i * mm) (ss + frbN (4 * 2 ^ k) i) →
      Runs v (Eb i) (fb i) A B (off + i * mm) mm) :
    Runs v ((List.range (m / mm)).flatMap Eb) (fun T st => iterFrom (fun i st => fb i T st) (m / mm) 0 st) A B off m := by
  obtain ⟨hn, hm⟩ := hB.count hD hmm
  exact (Runs.sweep (sz := mm) Eb fb (m / mm) fun i hi => h i (hn ▸ hi) (hB.sub hD hmm hss (hn ▸ hi))).of_eq rfl
    (fun _ _ => rfl) rfl (by rw [hn, ← hm])

/-- A driver that recurses on the two halves of a block above the size `c = 2^C`, with a pass over the whole block
before and a pass after them (one of the two is the identity in each of the four drivers), and runs `hbase` below.
`In ℓ D`, `Out ℓ D`: the network states before and after block `(ℓ, D)` is done. -/
theorem Runs.recB {v : Ent → R} (C c : ℕ) (hc : c = 2 ^ C)
    {Tab : ℕ → ℕ → ℕ → List Ent} {rec : Array R → ℕ → ℕ → ℕ → RI R × ℕ → RI R × ℕ}
    {Epre Epost : ℕ → List Ent} {pre post : Array R → ℕ → ℕ → RI R × ℕ → RI R × ℕ}
    {In Out : ℕ → ℕ → ℕ → R × R}
    (hTab : ∀ f m pw, ¬ m ≤ c → Tab (f + 1) m pw =
      Epre (pw / 2) ++ (Tab f (m / 2) (pw / 2) ++ Tab f (m / 2) (pw / 2 + 4 * 2 ^ k / 2)) ++ Epost (pw / 2))
    (hrec : ∀ T f m off st, ¬ m ≤ c → rec T (f + 1) m off st =
      post T (m / 2) off (rec T f (m / 2) (off + m / 2) (rec T f (m / 2) off (pre T (m / 2) off st))))
    (hbase : ∀ f {D ℓ b m off pw}, Blk k ℓ D b m off pw → C ≤ D → m ≤ c →
      Runs v (Tab (f + 1) m pw) (fun T st => rec T (f + 1) m off st) (In ℓ D) (Out ℓ D) off m)
    (hpre : ∀ {D ℓ b m off pw}, Blk k ℓ (D + 1) b m off pw → C ≤ D →
      Runs v (Epre (pw / 2)) (fun T st => pre T (m / 2) off st) (In ℓ (D + 1)) (In (ℓ + 1) D) off m)
    (hpost : ∀ {D ℓ b m off pw}, Blk k ℓ (D + 1) b m off pw → C ≤ D →
      Runs v (Epost (pw / 2)) (fun T st => post T (m / 2) off st) (Out (ℓ + 1) D) (Out ℓ (D + 1)) off m) :
    ∀ fuel {D ℓ b m off pw}, Blk k ℓ D b m off pw → C ≤ D → m ≤ fuel →
      Runs v (Tab fuel m pw) (fun T st => rec T fuel m off st) (In ℓ D) (Out ℓ D) off m := by
  intro fuel
  induction fuel with
  | zero => intro D ℓ b m off pw hB _ hf; have := hB.size_pos; omega
  | succ f ih =>
    intro D ℓ b m off pw hB hD hf
    by_cases hle : m ≤ c
    · exact hbase f hB hD hle
    · obtain ⟨D1, rfl, hD1⟩ := hB.above hc hle
      have hf' : m / 2 ≤ f := by omega
      exact (((hpre hB hD1).seq (Runs.halves k hB (ih hB.left hD1 hf') (ih hB.right hD1 hf'))).seq (hpost hB hD1)).of_eq
        (hTab _ _ _ hle) (fun T st => hrec T _ _ _ st hle) rfl rfl

end Spq.Fft.SchedN
