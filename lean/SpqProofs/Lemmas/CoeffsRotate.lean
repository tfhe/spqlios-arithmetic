/-
  Out-of-place rotation and (X^p-1) product: the models equal the closed coefficient formulas.
-/
import SpqProofs.Lemmas.CoeffsBasic
import SpqProofs.Lemmas.CoeffSizes
namespace Spq.Rq
open Spq
variable {α : Type}

/-- signed exponent `(k - p) mod 2N` from which coefficient `k` of `X^p·a` is read -/
def rotSrc (nn : Nat) (p : Int) (k : Nat) : Nat := (((k : Int) - p) % (2 * nn : Nat)).toNat

theorem rotSrc_lt (nn : Nat) (hn : 0 < nn) (p : Int) (k : Nat) : rotSrc nn p k < 2 * nn :=
  posMask_lt _ _ (by omega)

/-- the signed read through the position `e mod nn`, as `rotCoeff` and `autVal` write it -/
theorem sget_mod (o : Ops α) (nn : Nat) (a : Array α) (e : Nat) (he : e < 2 * nn) :
    sget o nn a e = if e < nn then a.getD (e % nn) o.zero else o.neg (a.getD (e % nn) o.zero) := by
  unfold sget
  split
  · rw [Nat.mod_eq_of_lt ‹_›]
  · rw [mod_eq_sub_of_le (by omega) he]

theorem rotCoeff_eq_sget (o : Ops α) (nn : Nat) (hn : 0 < nn) (p : Int) (a : Array α) (k : Nat) :
    rotCoeff o nn p a k = sget o nn a (rotSrc nn p k) := by
  rw [sget_mod o nn a _ (rotSrc_lt nn hn p k)]
  show _ = if posMask ((k : Int) - p) (2 * nn) < nn then a.getD (posMask ((k : Int) - p) (2 * nn) % nn) o.zero
    else o.neg (a.getD (posMask ((k : Int) - p) (2 * nn) % nn) o.zero)
  rw [posMask_mod_half _ nn hn]
  rfl

theorem rotSrc_eq (nn : Nat) (hn : 0 < nn) (p : Int) (k : Nat) :
    rotSrc nn p k = (k + negMask p (2 * nn)) % (2 * nn) := by
  unfold rotSrc negMask
  have hm : 0 < 2 * nn := by omega
  generalize 2 * nn = m at *
  have hpos : (0 : Int) < (m : Int) := by omega
  have a0 := Int.emod_nonneg (-p) (show (m : Int) ≠ 0 by omega)
  have e : ((k : Int) - p) % (m : Int) = ((k : Int) + (-p) % (m : Int)) % (m : Int) := by
    rw [Int.add_emod_emod]; congr 1
  rw [e]
  have : ((k : Int) + (-p) % (m : Int)) = (((k + ((-p) % (m : Int)).toNat : Nat)) : Int) := by
    rw [Int.natCast_add, Int.toNat_of_nonneg a0]
  rw [this, ← Int.natCast_mod, Int.toNat_natCast]

theorem rotSrc_shift (nn : Nat) (hn : 0 < nn) (p : Int) (e : Nat) (he : nn ≤ e) :
    rotSrc nn p e = (rotSrc nn p (e - nn) + nn) % (2 * nn) := by
  rw [rotSrc_eq nn hn, rotSrc_eq nn hn, Nat.mod_add_mod]
  congr 1; omega

theorem rotSrc_comp (nn : Nat) (hn : 0 < nn) (p q : Int) (k : Nat) :
    rotSrc nn q (rotSrc nn p k) = rotSrc nn (p + q) k := by
  unfold rotSrc
  rw [Int.toNat_of_nonneg (Int.emod_nonneg _ (by omega)), Int.emod_sub_emod]
  congr 2; ring

theorem rotSrc_zero (nn : Nat) (k : Nat) (hk : k < 2 * nn) : rotSrc nn 0 k = k := by
  unfold rotSrc
  rw [sub_zero, ← Int.natCast_mod, Int.toNat_natCast, Nat.mod_eq_of_lt hk]

theorem mod_two_mul_cases (x nn : Nat) (h : x < 3 * nn) :
    x % (2 * nn) = if x < 2 * nn then x else x - 2 * nn := by
  split
  · exact Nat.mod_eq_of_lt (by assumption)
  · exact mod_eq_sub_of_le (by omega) (by omega)

theorem rotate_getElem (o : Ops α) (nn : Nat) (p : Int) (inp : Array α) (k : Nat) (hk : k < nn) :
    (Coeffs.rotate o nn p inp)[k]'(by rw [Coeffs.size_rotate]; exact hk) = sget o nn inp (rotSrc nn p k) := by
  have hn : 0 < nn := by omega
  rw [rotSrc_eq nn hn]
  simp only [Coeffs.rotate, Array.getElem_ofFn, sget]
  have ha := negMask_lt p (2 * nn) (by omega)
  generalize negMask p (2 * nn) = a at ha
  rw [mod_two_mul_cases _ _ (by omega)]
  by_cases c1 : a < nn
  · by_cases c2 : k < nn - a
    · have c3 : k + a < 2 * nn := by omega
      have c4 : k + a < nn := by omega
      simp only [c1, c2, c3, c4, if_true]
    · have c3 : k + a < 2 * nn := by omega
      have c4 : ¬ k + a < nn := by omega
      simp only [c1, c2, c3, c4, if_true, if_false]
      congr 2; omega
  · by_cases c2 : k < nn - (a - nn)
    · have c3 : k + a < 2 * nn := by omega
      have c4 : ¬ k + a < nn := by omega
      simp only [c1, c2, c3, c4, if_true, if_false]
      congr 2; omega
    · have c3 : ¬ k + a < 2 * nn := by omega
      have c4 : k + a - 2 * nn < nn := by omega
      simp only [c1, c2, c3, c4, if_true, if_false]
      congr 1; omega

theorem mulXp_getElem (o : Ops α) (nn : Nat) (p : Int) (inp : Array α) (k : Nat) (hk : k < nn) :
    (Coeffs.mulXpMinusOne o nn p inp)[k]'(by rw [Coeffs.size_mulXpMinusOne]; exact hk) =
      o.sub (sget o nn inp (rotSrc nn p k)) (inp.getD k o.zero) := by
  rw [← rotate_getElem o nn p inp k hk]
  simp only [Coeffs.mulXpMinusOne, Coeffs.rotate, Array.getElem_ofFn]
  split_ifs <;> rfl

theorem rotate_getD (o : Ops α) (nn : Nat) (p : Int) (inp : Array α) (k : Nat) (hk : k < nn) (z : α) :
    (Coeffs.rotate o nn p inp).getD k z = sget o nn inp (rotSrc nn p k) := by
  have h : k < (Coeffs.rotate o nn p inp).size := by rw [Coeffs.size_rotate]; exact hk
  rw [Array.getD_eq_getD_getElem?, Array.getElem?_eq_getElem h, Option.getD_some, rotate_getElem o nn p inp k hk]

theorem mulXp_getD (o : Ops α) (nn : Nat) (p : Int) (inp : Array α) (k : Nat) (hk : k < nn) (z : α) :
    (Coeffs.mulXpMinusOne o nn p inp).getD k z =
      o.sub (sget o nn inp (rotSrc nn p k)) (inp.getD k o.zero) := by
  have h : k < (Coeffs.mulXpMinusOne o nn p inp).size := by rw [Coeffs.size_mulXpMinusOne]; exact hk
  rw [Array.getD_eq_getD_getElem?, Array.getElem?_eq_getElem h, Option.getD_some, mulXp_getElem o nn p inp k hk]

end Spq.Rq
