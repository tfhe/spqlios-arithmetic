/-
  Cell-by-cell characterisation of the building blocks of the arithmetic kernels, for an arbitrary
  arithmetic `ar` (no algebra yet): `reim4_zero`, `reim4_add_mul`, the block-wise scalar loop.
-/
import SpqProofs.Lemmas.Reim4Base
namespace Spq.Reim4
variable {α : Type}

theorem zeroAt_eq (ar : RArith α) (dst : Array α) (d : Nat) :
    zeroAt ar dst d = V4.store (V4.store dst d (V4.splat ar.zero)) (d + 4) (V4.splat ar.zero) := by
  -- the eight steps of the loop are unrolled by rewriting: `rfl` alone has the elaborator's unifier do it, slowly
  simp only [zeroAt, Nat.fold_succ, Nat.fold_zero]
  rfl

theorem zeroAt_spec (ar : RArith α) (dst : Array α) (d : Nat) (hb : d + 8 ≤ dst.size) :
    (zeroAt ar dst d).size = dst.size ∧
    (∀ k, k < 8 → (zeroAt ar dst d).getD (d + k) ar.zero = ar.zero) ∧
    (∀ x, x < d ∨ d + 8 ≤ x → (zeroAt ar dst d).getD x ar.zero = dst.getD x ar.zero) := by
  rw [zeroAt_eq]
  refine ⟨by simp, ?_, ?_⟩
  · intro k hk
    by_cases h4 : k < 4
    · rw [V4.getD_store_out _ _ _ _ _ (by omega), V4.getD_store_in _ _ _ _ _ h4 (by omega), V4.lane_splat]
    · have e : d + k = d + 4 + (k - 4) := by omega
      rw [e, V4.getD_store_in _ _ _ _ _ (by omega) (by rw [V4.size_store]; omega), V4.lane_splat]
  · intro x hx
    rw [V4.getD_store_out _ _ _ _ _ (by omega), V4.getD_store_out _ _ _ _ _ (by omega)]

theorem lanes_block_spec (z : α) (d : Nat) (P Q : Nat → α → α) (dst : Array α) (hb : d + 8 ≤ dst.size) :
    (lanes z 4 (fun k => d + k) (fun k => d + k + 4) P Q dst).size = dst.size ∧
    (∀ k, k < 4 →
      (lanes z 4 (fun k => d + k) (fun k => d + k + 4) P Q dst).getD (d + k) z = P k (dst.getD (d + k) z) ∧
      (lanes z 4 (fun k => d + k) (fun k => d + k + 4) P Q dst).getD (d + k + 4) z = Q k (dst.getD (d + k + 4) z)) ∧
    (∀ x, x < d ∨ d + 8 ≤ x → (lanes z 4 (fun k => d + k) (fun k => d + k + 4) P Q dst).getD x z = dst.getD x z) := by
  obtain ⟨s1, s2, s3⟩ := lanes_spec z 4 (fun k => d + k) (fun k => d + k + 4) P Q dst
    (by intro k k' _ _ _; omega) (by intro k k' _ _ _; omega) (by intro k k' _ _; omega) (by intro k hk; omega)
  exact ⟨s1, s2, fun x hx => s3 x (fun k hk => by omega)⟩

theorem addMulAt_spec (ar : RArith α) (dst : Array α) (d : Nat) (u : Array α) (uo : Nat) (v : Array α) (vo : Nat)
    (hb : d + 8 ≤ dst.size) :
    (addMulAt ar dst d u uo v vo).size = dst.size ∧
    (∀ k, k < 4 →
      (addMulAt ar dst d u uo v vo).getD (d + k) ar.zero =
        ar.add (dst.getD (d + k) ar.zero)
          (reRef ar (u.getD (uo + k) ar.zero) (u.getD (uo + k + 4) ar.zero) (v.getD (vo + k) ar.zero) (v.getD (vo + k + 4) ar.zero)) ∧
      (addMulAt ar dst d u uo v vo).getD (d + k + 4) ar.zero =
        ar.add (dst.getD (d + k + 4) ar.zero)
          (imRef ar (u.getD (uo + k) ar.zero) (u.getD (uo + k + 4) ar.zero) (v.getD (vo + k) ar.zero) (v.getD (vo + k + 4) ar.zero))) ∧
    (∀ x, x < d ∨ d + 8 ≤ x → (addMulAt ar dst d u uo v vo).getD x ar.zero = dst.getD x ar.zero) := by
  unfold addMulAt
  exact lanes_block_spec ar.zero d _ _ dst hb

theorem lanes_block_local (z : α) (d : Nat) (P Q : Nat → α → α) :
    LocalOp z (fun r => lanes z 4 (fun i => d + i) (fun i => d + i + 4) P Q r) (fun x => d ≤ x ∧ x < d + 8) :=
  LocalOp.fold 4
    (fun k r => (r.setIfInBounds (d + k) (P k (r.getD (d + k) z))).setIfInBounds (d + k + 4)
      (Q k ((r.setIfInBounds (d + k) (P k (r.getD (d + k) z))).getD (d + k + 4) z))) _
    (fun k hk => (LocalOp.comp (f := fun r => r.setIfInBounds (d + k) (P k (r.getD (d + k) z)))
      (g := fun r => r.setIfInBounds (d + k + 4) (Q k (r.getD (d + k + 4) z)))
      (F := fun x => x = d + k) (G := fun x => x = d + k + 4)
      (LocalOp.set z (d + k) (P k)) (LocalOp.set z (d + k + 4) (Q k))).mono (by intro x hx; omega))

theorem addMulAt_local (ar : RArith α) (d : Nat) (u : Array α) (uo : Nat) (v : Array α) (vo : Nat) :
    LocalOp ar.zero (fun r => addMulAt ar r d u uo v vo) (fun x => d ≤ x ∧ x < d + 8) :=
  lanes_block_local ar.zero d
    (fun k old => ar.add old (reRef ar (u.getD (uo + k) ar.zero) (u.getD (uo + k + 4) ar.zero) (v.getD (vo + k) ar.zero) (v.getD (vo + k + 4) ar.zero)))
    (fun k old => ar.add old (imRef ar (u.getD (uo + k) ar.zero) (u.getD (uo + k + 4) ar.zero) (v.getD (vo + k) ar.zero) (v.getD (vo + k + 4) ar.zero)))

theorem zeroAt_local (ar : RArith α) (d : Nat) :
    LocalOp ar.zero (fun r => zeroAt ar r d) (fun x => d ≤ x ∧ x < d + 8) := by
  rw [show (fun r => zeroAt ar r d) = _ from funext fun r => zeroAt_eq ar r d]
  exact (LocalOp.comp (f := fun r => V4.store r d (V4.splat ar.zero)) (g := fun r => V4.store r (d + 4) (V4.splat ar.zero))
    (F := fun x => d ≤ x ∧ x < d + 4) (G := fun x => d + 4 ≤ x ∧ x < d + 4 + 4)
    (LocalOp.store ar.zero d _) (LocalOp.store ar.zero (d + 4) _)).mono (by intro x hx; omega)

theorem blocks_lanes_spec (z : α) (n : Nat) (P Q : Nat → Nat → α → α) (r : Array α) (hb : 8 * n ≤ r.size) :
    (Nat.fold n (fun j _ r => lanes z 4 (fun i => 8 * j + i) (fun i => 8 * j + i + 4) (P j) (Q j) r) r).size = r.size ∧
    (∀ j i, j < n → i < 4 →
      (Nat.fold n (fun j _ r => lanes z 4 (fun i => 8 * j + i) (fun i => 8 * j + i + 4) (P j) (Q j) r) r).getD (8 * j + i) z
        = P j i (r.getD (8 * j + i) z) ∧
      (Nat.fold n (fun j _ r => lanes z 4 (fun i => 8 * j + i) (fun i => 8 * j + i + 4) (P j) (Q j) r) r).getD (8 * j + i + 4) z
        = Q j i (r.getD (8 * j + i + 4) z)) ∧
    (∀ x, 8 * n ≤ x →
      (Nat.fold n (fun j _ r => lanes z 4 (fun i => 8 * j + i) (fun i => 8 * j + i + 4) (P j) (Q j) r) r).getD x z = r.getD x z) := by
  obtain ⟨ms, mv, mf⟩ := fold_local z n _ _ (fun j => lanes_block_local z (8 * j) (P j) (Q j)) r
    (by intro j j' x _ _ _ hx hx'; omega)
  refine ⟨ms, ?_, fun x hx => mf x (fun j hj hc => by omega)⟩
  intro j i hj hi
  obtain ⟨_, s2, _⟩ := lanes_block_spec z (8 * j) (P j) (Q j) r (by omega)
  exact ⟨(mv j hj (8 * j + i) (by omega)).trans (s2 i hi).1, (mv j hj (8 * j + i + 4) (by omega)).trans (s2 i hi).2⟩

end Spq.Reim4
