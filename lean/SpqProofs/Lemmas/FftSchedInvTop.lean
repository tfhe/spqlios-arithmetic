/-
  Structural schedule theorem (inverse reim), top level: `ifftRI F (2^k) T s` = `VNI k (gNet F c s k)`, every `k`
  (`ifftRI_struct`); the sizes `m ≤ 16` pass by pass.
-/
import SpqProofs.Lemmas.FftSchedInv
namespace Spq.Fft.SchedN
open Spq.Fft Spq.Fft.Alg Spq.Fft.View Spq.Fft.Sim Spq.Fft.SimP Spq.Fft.LevelN Spq.Fft.KernN Spq.Fft.Tw

variable {R : Type} [Inhabited R] (F : Flav R) (c s : ℕ → R) (k : ℕ) (y : ℕ → R × R)

section table
variable {v : Ent → R} (hv : InvTab v c s)
include hv

theorem ifftRI_bigN (hk : 5 ≤ k) (s0 : RI R) (hs : Valid (2 ^ k) s0) :
    AdvI k (gNet F c s k) y (prs s0)
        (prs (ifftRI F (2 ^ k) (((reimIfftEnts (2 ^ k)).map v).toArray) s0)) 0 k 0 (2 ^ k) ∧
      Valid (2 ^ k) (ifftRI F (2 ^ k) (((reimIfftEnts (2 ^ k)).map v).toArray) s0) := by
  have h32 : 32 ≤ 2 ^ k := by
    have : 2 ^ 5 ≤ 2 ^ k := Nat.pow_le_pow_right (by omega) hk
    simpa using this
  have hB : Blk k 0 k 0 (2 ^ k) 0 (2 ^ k) := Blk.top rfl
  have hE : reimIfftEnts (2 ^ k) = if 2 ^ k ≤ 2048 then riBfs (4 * 2 ^ k) (2 ^ k) (2 ^ k)
      else riRec (4 * 2 ^ k) (2 ^ k) (2 ^ k) (2 ^ k) := by
    unfold reimIfftEnts
    rw [if_neg (by omega)]
    rw [show ((2 ^ k == 2) = false) by simp; omega, show ((2 ^ k == 4) = false) by simp; omega,
      show ((2 ^ k == 8) = false) by simp; omega, show ((2 ^ k == 16) = false) by simp; omega]
    simp only [Bool.false_eq_true, ↓reduceIte]
  unfold ifftRI
  rw [if_neg (by omega)]
  rw [show ((2 ^ k == 2) = false) by simp; omega, show ((2 ^ k == 4) = false) by simp; omega,
    show ((2 ^ k == 8) = false) by simp; omega, show ((2 ^ k == 16) = false) by simp; omega]
  simp only [Bool.false_eq_true, ↓reduceIte]
  rw [hE]
  by_cases hle : 2 ^ k ≤ 2048
  · rw [if_pos hle, if_pos hle]
    exact (ibfs16_runs F c s k y hv hB hk (hB.below (C := 11) (by norm_num) hle) (Or.inr rfl)).run s0 hs
  · rw [if_neg hle, if_neg hle]
    obtain ⟨D1, hD1, h11⟩ := hB.above (C := 11) (by norm_num) hle
    exact (irec16_runs F c s k y hv (2 ^ k) hB (by omega) (Nat.le_refl _)).run s0 hs

omit hv in
theorem ifftRI_k0N (hk : k = 0) (T : Array R) (s0 : RI R) (hs : Valid (2 ^ k) s0) :
    AdvI k (gNet F c s k) y (prs s0) (prs (ifftRI F (2 ^ k) T s0)) 0 k 0 (2 ^ k) ∧ Valid (2 ^ k) (ifftRI F (2 ^ k) T s0) := by
  subst hk
  simp only [ifftRI, pow_zero, Nat.le_refl, ↓reduceIte]
  exact ⟨AdvG.id _ _ _ _, hs⟩

theorem ifftRI_k1N (hk : k = 1) (s0 : RI R) (hs : Valid (2 ^ k) s0) :
    AdvI k (gNet F c s k) y (prs s0)
        (prs (ifftRI F (2 ^ k) (((reimIfftEnts (2 ^ k)).map v).toArray) s0)) 0 k 0 (2 ^ k) ∧
      Valid (2 ^ k) (ifftRI F (2 ^ k) (((reimIfftEnts (2 ^ k)).map v).toArray) s0) := by
  subst hk
  have hT : ((reimIfftEnts (2 ^ 1)).map v).toArray = #[c 1, s 1] := by
    simp [reimIfftEnts, riFill2, eM, hv.cos, hv.sin]
  rw [hT]
  simp only [ifftRI, ifft2, Nat.reducePow, Nat.reduceLeDiff, ↓reduceIte, BEq.rfl, Nat.zero_add]
  have := pair1_adv (N := 2) (VNI_step 1 (gNet F c s 1) y 0 0 rfl) F.ct2 (c 1) (s 1) 0 0 1 rfl rfl (by omega)
    (by rw [gNet_ct F c s 1 0 0 0 (Or.inr rfl)]; rfl) s0 hs
  exact ⟨by simpa using this.1, this.2⟩

theorem ifftRI_k2N (hk : k = 2) (s0 : RI R) (hs : Valid (2 ^ k) s0) :
    AdvI k (gNet F c s k) y (prs s0)
        (prs (ifftRI F (2 ^ k) (((reimIfftEnts (2 ^ k)).map v).toArray) s0)) 0 k 0 (2 ^ k) ∧
      Valid (2 ^ k) (ifftRI F (2 ^ k) (((reimIfftEnts (2 ^ k)).map v).toArray) s0) := by
  subst hk
  have hT : ((reimIfftEnts (2 ^ 2)).map v).toArray = #[c 1, s 1, c 2, s 2] := by
    simp [reimIfftEnts, riFill4, eM, hv.cos, hv.sin]
  rw [hT]
  simp only [ifftRI, ifft4, Nat.reducePow, Nat.reduceLeDiff, ↓reduceIte, Nat.zero_add, Nat.reduceBEq,
    Bool.false_eq_true, BEq.rfl]
  have l0 := VNI_step 2 (gNet F c s 2) y 1 0 rfl
  have s1 := pair1_adv (N := 4) l0 F.ctS (c 1) (s 1) 0 0 1 rfl rfl (by omega)
    (by rw [gNet_small_ct F c s 2 (by omega) (by omega) 1 0 0 (Or.inr rfl)]; rfl)
  have s2 := pair1_adv (N := 4) l0 F.citS (c 1) (s 1) 1 2 3 rfl rfl (by omega)
    (by rw [show (1 : ℕ) = 2 * 0 + 1 by rfl, gNet_small_cit F c s 2 (by omega) 1 0 0 rfl]; rfl)
  have s3 := pair2_adv (N := 4) (VNI_step 2 (gNet F c s 2) y 0 1 rfl) F.ctS (c 2) (s 2) 0 0 1 2 3 rfl rfl rfl rfl (by omega)
    (by rw [gNet_small_ct F c s 2 (by omega) (by omega) 0 1 0 (Or.inr rfl)]; rfl)
  have := ((s1.par s2).seq s3) s0 hs
  exact ⟨by simpa using this.1, this.2⟩

theorem ifftRI_k3N (hk : k = 3) (s0 : RI R) (hs : Valid (2 ^ k) s0) :
    AdvI k (gNet F c s k) y (prs s0)
        (prs (ifftRI F (2 ^ k) (((reimIfftEnts (2 ^ k)).map v).toArray) s0)) 0 k 0 (2 ^ k) ∧
      Valid (2 ^ k) (ifftRI F (2 ^ k) (((reimIfftEnts (2 ^ k)).map v).toArray) s0) := by
  subst hk
  have hT : ((reimIfftEnts (2 ^ 3)).map v).toArray = #[c 1, c 5, s 1, s 5, c 2, s 2, c 4, s 4] := by
    simp [reimIfftEnts, riFill8, eM, hv.cos, hv.sin]
  rw [hT]
  obtain ⟨T, hTd⟩ : ∃ T : Array R, T = #[c 1, c 5, s 1, s 5, c 2, s 2, c 4, s 4] := ⟨_, rfl⟩
  have t0 : T[0]! = c 1 := by rw [hTd]; rfl
  have t1 : T[0 + 1]! = c 5 := by rw [hTd]; rfl
  have t2 : T[0 + 2]! = s 1 := by rw [hTd]; rfl
  have t3 : T[0 + 3]! = s 5 := by rw [hTd]; rfl
  have t4 : T[0 + 4]! = c 2 := by rw [hTd]; rfl
  have t5 : T[0 + 5]! = s 2 := by rw [hTd]; rfl
  have t6 : T[0 + 6]! = c 4 := by rw [hTd]; rfl
  have t7 : T[0 + 7]! = s 4 := by rw [hTd]; rfl
  rw [← hTd]
  simp only [ifftRI, Nat.reducePow, Nat.reduceLeDiff, ↓reduceIte, Nat.reduceBEq, Bool.false_eq_true, BEq.rfl]
  unfold ifft8
  have hs8 : Valid 8 s0 := hs
  have l0 := VNI_step 3 (gNet F c s 3) y 2 0 rfl
  have s1 := pair1_adv (N := 8) l0 F.ctS T[0]! T[0 + 2]! 0 0 (0 + 1) rfl rfl (by omega)
    (by rw [gNet_small_ct F c s 3 (by omega) (by omega) 2 0 0 (Or.inr rfl), t0, t2]; rfl)
  have s2 := pair1_adv (N := 8) l0 F.citS T[0]! T[0 + 2]! 1 (0 + 2) (0 + 3) rfl rfl (by omega)
    (by rw [show (1 : ℕ) = 2 * 0 + 1 by rfl, gNet_small_cit F c s 3 (by omega) 2 0 0 rfl, t0, t2]; rfl)
  have s3 := pair1_adv (N := 8) l0 F.ctS T[0 + 1]! T[0 + 3]! 2 (0 + 4) (0 + 5) rfl rfl (by omega)
    (by rw [gNet_small_ct F c s 3 (by omega) (by omega) 2 0 2 (Or.inr rfl), t1, t3]; rfl)
  have s4 := pair1_adv (N := 8) l0 F.citS T[0 + 1]! T[0 + 3]! 3 (0 + 6) (0 + 7) rfl rfl (by omega)
    (by rw [show (3 : ℕ) = 2 * 1 + 1 by rfl, gNet_small_cit F c s 3 (by omega) 2 0 1 rfl, t1, t3]; rfl)
  have l1 := VNI_step 3 (gNet F c s 3) y 1 1 rfl
  have s5 := pair2_adv (N := 8) l1 F.ctS T[0 + 4]! T[0 + 5]! 0 0 (0 + 1) (0 + 2) (0 + 3) rfl rfl rfl rfl (by omega)
    (by rw [gNet_small_ct F c s 3 (by omega) (by omega) 1 1 0 (Or.inr rfl), t4, t5]; rfl)
  have s6 := pair2_adv (N := 8) l1 F.citS T[0 + 4]! T[0 + 5]! 1 (0 + 4) (0 + 5) (0 + 6) (0 + 7) rfl rfl rfl rfl (by omega)
    (by rw [show (1 : ℕ) = 2 * 0 + 1 by rfl, gNet_small_cit F c s 3 (by omega) 1 1 0 rfl, t4, t5]; rfl)
  have s7 := twPass_adv (N := 8) (VNI_step 3 (gNet F c s 3) y 0 2 rfl) F.ctS 0 0 T[0 + 6]! T[0 + 7]! rfl (by omega)
    (by rw [gNet_small_ct F c s 3 (by omega) (by omega) 0 2 0 (Or.inr rfl), t6, t7]; rfl)
  exact (((((s1.par s2).par s3).par s4).seq (s5.par s6)).seq s7) s0 hs8

theorem ifftRI_k4N (hk : k = 4) (s0 : RI R) (hs : Valid (2 ^ k) s0) :
    AdvI k (gNet F c s k) y (prs s0)
        (prs (ifftRI F (2 ^ k) (((reimIfftEnts (2 ^ k)).map v).toArray) s0)) 0 k 0 (2 ^ k) ∧
      Valid (2 ^ k) (ifftRI F (2 ^ k) (((reimIfftEnts (2 ^ k)).map v).toArray) s0) := by
  have hE : reimIfftEnts (2 ^ k) = riFill16 (4 * 2 ^ k) 16 := by rw [hk]; rfl
  rw [hE]
  have hseg := SegP.of_toArray ((riFill16 (4 * 2 ^ k) 16).map v)
  obtain ⟨T, hT⟩ : ∃ T, T = ((riFill16 (4 * 2 ^ k) 16).map v).toArray := ⟨_, rfl⟩
  rw [← hT] at hseg ⊢
  have h16 : 2 ^ k = 16 := by rw [hk]; rfl
  rw [h16] at hs ⊢
  simp only [ifftRI, Nat.reduceLeDiff, ↓reduceIte, Nat.reduceBEq, Bool.false_eq_true, BEq.rfl]
  subst hk
  exact (ReimFrom.refl F c s 4).ileaf_step y (reimIW16 T 0) 16 (Blk.top h16.symm) s0 hs (Nat.le_refl _) (Nat.zero_le _)
    (hv.ileaf_read T 0 _ _ hseg)

theorem ifftRI_structV (s0 : RI R) (hs : Valid (2 ^ k) s0) :
    (∀ p, p < 2 ^ k → prs (ifftRI F (2 ^ k) (((reimIfftEnts (2 ^ k)).map v).toArray) s0) p
      = VNI k (gNet F c s k) (prs s0) k p) ∧
    Valid (2 ^ k) (ifftRI F (2 ^ k) (((reimIfftEnts (2 ^ k)).map v).toArray) s0) := by
  have key : AdvI k (gNet F c s k) (prs s0) (prs s0)
        (prs (ifftRI F (2 ^ k) (((reimIfftEnts (2 ^ k)).map v).toArray) s0)) 0 k 0 (2 ^ k) ∧
      Valid (2 ^ k) (ifftRI F (2 ^ k) (((reimIfftEnts (2 ^ k)).map v).toArray) s0) := by
    by_cases h5 : 5 ≤ k
    · exact ifftRI_bigN F c s k _ hv h5 s0 hs
    have : k = 0 ∨ k = 1 ∨ k = 2 ∨ k = 3 ∨ k = 4 := by omega
    rcases this with h | h | h | h | h
    · exact ifftRI_k0N F c s k _ h _ s0 hs
    · exact ifftRI_k1N F c s k _ hv h s0 hs
    · exact ifftRI_k2N F c s k _ hv h s0 hs
    · exact ifftRI_k3N F c s k _ hv h s0 hs
    · exact ifftRI_k4N F c s k _ hv h s0 hs
  refine ⟨fun p hp => ?_, key.2⟩
  exact key.1.1 (fun q _ _ => rfl) p (Nat.zero_le _) (by omega)

end table

theorem ifftRI_struct (s0 : RI R) (hs : Valid (2 ^ k) s0) :
    (∀ p, p < 2 ^ k → prs (ifftRI F (2 ^ k) (((reimIfftEnts (2 ^ k)).map (valP c s)).toArray) s0) p
      = VNI k (gNet F c s k) (prs s0) k p) ∧
    Valid (2 ^ k) (ifftRI F (2 ^ k) (((reimIfftEnts (2 ^ k)).map (valP c s)).toArray) s0) :=
  ifftRI_structV F c s k (InvTab.valP c s) s0 hs

end Spq.Fft.SchedN
