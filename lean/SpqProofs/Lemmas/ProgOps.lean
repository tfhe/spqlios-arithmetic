/-
  C16 helpers: the abstract polynomial maps of `Spq.Prog` (core definitions) coincide with the
  specification formulas used by C09 (`rotCoeff`, `autExp/autVal`) and C05 (`balancedDigits`), and
  wrapping int64 arithmetic is exact when the exact result fits an int64.
-/
import Spq.Prog
import SpqProofs.Lemmas.RqSpec
import SpqProofs.Lemmas.CoeffsAutom
import SpqProofs.Lemmas.NormChain
import SpqProofs.Lemmas.FftAlg
namespace Spq.Prog
open Spq Rq

theorem wrapS_of_I64 (x : Int) (h : I64 x) : wrapS x = x := wrapS_id x h.1 h.2

theorem addS_exact (x y : Int) (h : I64 (x + y)) : i64Ops.add x y = x + y := wrapS_of_I64 _ h
theorem subS_exact (x y : Int) (h : I64 (x - y)) : i64Ops.sub x y = x - y := wrapS_of_I64 _ h
theorem negS_exact (x : Int) (h : I64 (-x)) : i64Ops.neg x = -x := wrapS_of_I64 _ h

theorem rotCoeff_eq_polyRot (nn : Nat) (hn : 0 < nn) (p : Int) (inp : Array Int) (a : Nat → Int)
    (hinp : ∀ j, j < nn → inp.getD j 0 = a j) (k : Nat) (hfit : I64 (polyRot nn p a k)) :
    rotCoeff i64Ops nn p inp k = polyRot nn p a k := by
  have hs : ((((k : Int) - p) % (nn : Int)).toNat) < nn := by
    have := Int.emod_lt_of_pos ((k : Int) - p) (show (0 : Int) < (nn : Int) by omega)
    have := Int.emod_nonneg ((k : Int) - p) (show (nn : Int) ≠ 0 by omega)
    omega
  unfold rotCoeff polyRot at *
  simp only [show i64Ops.zero = (0 : Int) from rfl, hinp _ hs] at *
  split
  · rename_i c; simp only [c, if_true] at hfit ⊢
  · rename_i c; simp only [c, if_false] at hfit ⊢
    exact negS_exact _ hfit

theorem sumTo_eq_alg : sumTo = Fft.Alg.sumTo (R := ℤ) := by
  funext n f
  induction n with
  | zero => rfl
  | succ n ih => rw [sumTo, Fft.Alg.sumTo, ih]

theorem sumTo_zero (n : Nat) (f : Nat → Int) (h : ∀ j, j < n → f j = 0) : sumTo n f = 0 := by
  rw [sumTo_eq_alg]; exact Fft.Alg.sumTo_zero h

theorem sumTo_single (n : Nat) (f : Nat → Int) (i : Nat) (hi : i < n)
    (h : ∀ j, j < n → j ≠ i → f j = 0) : sumTo n f = f i := by
  induction n with
  | zero => omega
  | succ n ih =>
    rw [sumTo]
    by_cases e : i = n
    · subst e
      rw [sumTo_zero i f (fun j hj => h j (by omega) (by omega))]; omega
    · rw [ih (by omega) (fun j hj hji => h j (by omega) hji), h n (by omega) (by omega)]; omega

theorem autTerm_exp (nn : Nat) (p : Int) (a : Nat → Int) (k j : Nat) :
    autTerm nn p a k j =
      if autExp nn p j = k then a j else if autExp nn p j = k + nn then - a j else 0 := rfl

/-- for `nn = 2^t` and odd `p` the monomials `X^(i·p)` hit every position exactly once: coefficient
    `autExp i mod nn` of `a(X^p)` is `± a_i` -/
theorem polyAut_at (t : Nat) (p : Int) (hp : p % 2 = 1) (a : Nat → Int) (i : Nat) (hi : i < 2 ^ t) :
    polyAut (2 ^ t) p a (autExp (2 ^ t) p i % 2 ^ t) =
      if autExp (2 ^ t) p i < 2 ^ t then a i else - a i := by
  have hn : 0 < 2 ^ t := Nat.pow_pos (by omega)
  have hlt := autExp_lt (2 ^ t) hn p i
  unfold polyAut
  rw [sumTo_single _ _ i hi]
  · rw [autTerm_exp]
    by_cases c : autExp (2 ^ t) p i < 2 ^ t
    · rw [Nat.mod_eq_of_lt c]; simp [c]
    · rw [mod_eq_sub_of_le (Nat.le_of_not_lt c) hlt]
      have c1 : ¬ autExp (2 ^ t) p i = autExp (2 ^ t) p i - 2 ^ t := by omega
      have c2 : autExp (2 ^ t) p i = autExp (2 ^ t) p i - 2 ^ t + 2 ^ t := by omega
      rw [if_neg c1, if_pos c2, if_neg c]
  · intro j hj hji
    rw [autTerm_exp]
    have hjl := autExp_lt (2 ^ t) hn p j
    have key : autExp (2 ^ t) p j % 2 ^ t ≠ autExp (2 ^ t) p i % 2 ^ t :=
      fun e => hji (autPos_inj t p hp j i hj hi e)
    have hm := Nat.mod_lt (autExp (2 ^ t) p i) hn
    have c1 : ¬ autExp (2 ^ t) p j = autExp (2 ^ t) p i % 2 ^ t := by
      intro e; apply key; rw [e, Nat.mod_mod]
    have c2 : ¬ autExp (2 ^ t) p j = autExp (2 ^ t) p i % 2 ^ t + 2 ^ t := by
      intro e; apply key; rw [e, Nat.add_mod_right, Nat.mod_mod]
    rw [if_neg c1, if_neg c2]

theorem autVal_eq (nn : Nat) (p : Int) (inp : Array Int) (a : Nat → Int) (i : Nat)
    (hinp : inp.getD i 0 = a i) (hfit : I64 (if autExp nn p i < nn then a i else - a i)) :
    autVal i64Ops nn p inp i = if autExp nn p i < nn then a i else - a i := by
  unfold autVal
  simp only [show i64Ops.zero = (0 : Int) from rfl, hinp]
  split
  · rfl
  · rename_i c; simp only [c, if_false] at hfit
    exact negS_exact _ hfit

theorem balDigit_eq (k : Nat) (x : Int) : balDigit k x = Norm.balDigit k x := rfl
theorem balCarry_eq (k : Nat) (x : Int) : balCarry k x = Norm.balCarry k x := rfl

theorem balancedDigits_eq (k : Nat) (as : List Int) : balancedDigits k as = Norm.balancedDigits k as := by
  induction as with
  | nil => rfl
  | cons a as ih =>
    simp only [balancedDigits, Norm.balancedDigits, ih, balDigit_eq, balCarry_eq]

theorem B62_iff (x : Int) : B62 x ↔ Norm.Bnd62 x := Iff.rfl

end Spq.Prog
