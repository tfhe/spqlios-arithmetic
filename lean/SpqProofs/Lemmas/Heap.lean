/-
  The flat heap: `writeArr` through its first `n` stores, `readLimb`, and the limb-loop theorem `limbLoop_spec`
  (values + frame) that `vec_generic'` instantiates.
-/
import Spq.Heap
import SpqProofs.Lemmas.ArrayBasic
import SpqProofs.Lemmas.NatBasic
namespace Spq.Heap
variable {α : Type}

/-- the first `n` stores of `writeArr` -/
def writeArrN (mem : Array α) (off : Nat) (l : Array α) : (n : Nat) → n ≤ l.size → Array α
  | 0, _ => mem
  | n + 1, h => (writeArrN mem off l n (Nat.le_of_succ_le h)).setIfInBounds (off + n) (l[n]'(h))

theorem writeArrN_eq_fold (mem : Array α) (off : Nat) (l : Array α) (n : Nat) (hn : n ≤ l.size) :
    writeArrN mem off l n hn = Nat.fold n (fun i h m => m.setIfInBounds (off + i) (l[i]'(Nat.lt_of_lt_of_le h hn))) mem := by
  induction n with
  | zero => rfl
  | succ n ih => rw [Nat.fold_succ, writeArrN, ih]

theorem writeArr_eq (mem : Array α) (off : Nat) (l : Array α) :
    writeArr mem off l = writeArrN mem off l l.size (Nat.le_refl _) := by
  rw [writeArrN_eq_fold]; rfl

theorem size_writeArrN (mem : Array α) (off : Nat) (l : Array α) (n : Nat) (hn : n ≤ l.size) :
    (writeArrN mem off l n hn).size = mem.size := by
  induction n with
  | zero => rfl
  | succ n ih => simp [writeArrN, ih]

theorem getElem?_writeArrN (mem : Array α) (off : Nat) (l : Array α) (n : Nat) (hn : n ≤ l.size) (x : Nat) :
    (writeArrN mem off l n hn)[x]? =
      if off ≤ x ∧ x < off + n ∧ x < mem.size then l[x - off]? else mem[x]? := by
  induction n with
  | zero =>
    simp only [writeArrN]
    have : ¬ (off ≤ x ∧ x < off + 0 ∧ x < mem.size) := by omega
    rw [if_neg this]
  | succ n ih =>
    simp only [writeArrN, Array.getElem?_setIfInBounds, size_writeArrN]
    rw [ih (Nat.le_of_succ_le hn)]
    by_cases hx : off + n = x
    · subst hx
      simp only [if_true]
      by_cases hs : off + n < mem.size
      · have h1 : off ≤ off + n ∧ off + n < off + (n + 1) ∧ off + n < mem.size := by omega
        have hlt : n < l.size := hn
        simp [hs, h1, hlt]
      · have h1 : ¬ (off ≤ off + n ∧ off + n < off + (n + 1) ∧ off + n < mem.size) := by omega
        have h2 : mem[off + n]? = none := by
          apply Array.getElem?_eq_none; omega
        rw [if_neg hs, if_neg h1, h2]
    · simp only [hx, if_false]
      by_cases h1 : off ≤ x ∧ x < off + n ∧ x < mem.size
      · have h2 : off ≤ x ∧ x < off + (n + 1) ∧ x < mem.size := by omega
        simp [h1, h2]
      · have h2 : ¬ (off ≤ x ∧ x < off + (n + 1) ∧ x < mem.size) := by omega
        simp [h1, h2]

@[simp] theorem size_writeArr (mem : Array α) (off : Nat) (l : Array α) :
    (writeArr mem off l).size = mem.size := by
  rw [writeArr_eq, size_writeArrN]

theorem getElem?_writeArr (mem : Array α) (off : Nat) (l : Array α) (x : Nat) :
    (writeArr mem off l)[x]? =
      if off ≤ x ∧ x < off + l.size ∧ x < mem.size then l[x - off]? else mem[x]? := by
  rw [writeArr_eq, getElem?_writeArrN]

theorem getElem?_writeArr_of_out (mem : Array α) (off : Nat) (l : Array α) (x : Nat)
    (h : x < off ∨ off + l.size ≤ x) : (writeArr mem off l)[x]? = mem[x]? := by
  rw [getElem?_writeArr]
  have : ¬ (off ≤ x ∧ x < off + l.size ∧ x < mem.size) := by omega
  simp [this]

theorem getElem?_writeArr_of_in (mem : Array α) (off : Nat) (l : Array α) (c : Nat)
    (hc : c < l.size) (hb : off + l.size ≤ mem.size) : (writeArr mem off l)[off + c]? = l[c]? := by
  rw [getElem?_writeArr]
  have : off ≤ off + c ∧ off + c < off + l.size ∧ off + c < mem.size := by omega
  simp [this]

@[simp] theorem size_readLimb (h : Heap α) (d : α) (off nn : Nat) : (h.readLimb d off nn).size = nn := by
  simp [readLimb]

theorem getElem?_readLimb (h : Heap α) (d : α) (off nn c : Nat) (hc : c < nn) :
    (h.readLimb d off nn)[c]? = some (h.mem.getD (off + c) d) := by
  simp [readLimb, hc]

theorem readLimb_eq_of_getD (h h2 : Heap α) (d : α) (a a' nn : Nat)
    (hh : ∀ c, c < nn → h.mem.getD (a + c) d = h2.mem.getD (a' + c) d) :
    h.readLimb d a nn = h2.readLimb d a' nn := by
  apply Array.ext
  · simp
  · intro c h1 _
    simp only [size_readLimb] at h1
    simp only [readLimb, Array.getElem_ofFn]
    exact hh c h1

theorem readLimb_congr (h h' : Heap α) (d : α) (off nn : Nat)
    (hm : ∀ x, off ≤ x → x < off + nn → h.mem[x]? = h'.mem[x]?) :
    h.readLimb d off nn = h'.readLimb d off nn :=
  readLimb_eq_of_getD h h' d off off nn fun c hc => by
    rw [Array.getD_eq_getD_getElem?, Array.getD_eq_getD_getElem?, hm (off + c) (by omega) (by omega)]

theorem limbLoop_spec (nn : Nat) (r : Nat → Nat) (G : Nat → Array α → Array α)
    (inS : Nat → Nat → Prop) (lo n : Nat) (m0 : Array α)
    (hsz : ∀ i m, (G i m).size = nn)
    (hloc : ∀ i, lo ≤ i → i < lo + n → ∀ m m' : Array α, m.size = m'.size →
        (∀ x, inS i x → m[x]? = m'[x]?) → G i m = G i m')
    (hdis : ∀ i j, lo ≤ j → j < i → i < lo + n → ∀ x, inS i x → x < r j ∨ r j + nn ≤ x)
    (hrr : ∀ i j, lo ≤ j → j < i → i < lo + n → r j + nn ≤ r i ∨ r i + nn ≤ r j)
    (hb : ∀ i, lo ≤ i → i < lo + n → r i + nn ≤ m0.size) :
    let m' := (List.range' lo n).foldl (fun m i => writeArr m (r i) (G i m)) m0
    m'.size = m0.size ∧
    (∀ i c, lo ≤ i → i < lo + n → c < nn → m'[r i + c]? = (G i m0)[c]?) ∧
    (∀ x, (∀ i, lo ≤ i → i < lo + n → x < r i ∨ r i + nn ≤ x) → m'[x]? = m0[x]?) := by
  induction n with
  | zero =>
    refine ⟨rfl, ?_, ?_⟩
    · intro i c h1 h2; omega
    · intro x _; rfl
  | succ n ih =>
    have ih' := ih
      (fun i h1 h2 => hloc i h1 (by omega))
      (fun i j h1 h2 h3 => hdis i j h1 h2 (by omega))
      (fun i j h1 h2 h3 => hrr i j h1 h2 (by omega))
      (fun i h1 h2 => hb i h1 (by omega))
    simp only [List.range'_concat, List.foldl_append, List.foldl_cons, List.foldl_nil, Nat.one_mul]
    generalize hm : (List.range' lo n).foldl (fun m i => writeArr m (r i) (G i m)) m0 = mn at ih'
    obtain ⟨ihs, ihv, ihf⟩ := ih'
    -- the limb computed at step lo+n only sees cells not yet written
    have hG : G (lo + n) mn = G (lo + n) m0 := by
      apply hloc (lo + n) (by omega) (by omega) mn m0 ihs
      intro x hx
      apply ihf
      intro i h1 h2
      exact hdis (lo + n) i h1 (by omega) (by omega) x hx
    refine ⟨by simp [ihs], ?_, ?_⟩
    · intro i c h1 h2 hc
      by_cases hi : i = lo + n
      · subst hi
        rw [getElem?_writeArr_of_in _ _ _ _ (by rw [hsz]; exact hc) (by rw [hsz, ihs]; exact hb _ h1 h2), hG]
      · have hlt : i < lo + n := by omega
        have := hrr (lo + n) i h1 hlt (by omega)
        rw [getElem?_writeArr_of_out _ _ _ _ (by rw [hsz]; omega)]
        exact ihv i c h1 hlt hc
    · intro x hx
      have h1 := hx (lo + n) (by omega) (by omega)
      rw [getElem?_writeArr_of_out _ _ _ _ (by rw [hsz]; omega)]
      apply ihf
      intro i h2 h3
      exact hx i h2 (by omega)

end Spq.Heap
