/-
  The prepared-matrix layouts of `vmpPrepare` (C02): slot arithmetic (the 8-cell block of
  (row, col, blk) lives at slot `blk·nrows·ncols + q(row, col)`; `q` with its inverse is a `Tiles` layout, and so
  are both layouts of the matrix), the cells `vmp_prepare` writes, and what every cell holds afterwards (`CellInv`
  over `tileV`) for both layouts.
-/
import Mathlib.Tactic.Ring
import SpqProofs.Lemmas.ModuleArr
namespace Spq.Module
open Spq Reim4 ModuleHeap
variable {α : Type}

/-- slot (in units of 8 cells, inside a block) of (row, col): column pairs interleaved row-major, lone last
    column when `ncols` is odd -/
def qslot (nrows ncols row col : Nat) : Nat :=
  if col == ncols - 1 && ncols % 2 == 1 then col * nrows + row
  else (col / 2) * (2 * nrows) + row * 2 + col % 2

theorem pmatStart_eq (nrows ncols row col : Nat) : pmatStart nrows ncols row col = 8 * qslot nrows ncols row col := by
  unfold pmatStart qslot
  split <;> omega

theorem lone_iff (ncols col : Nat) : ((col == ncols - 1 && ncols % 2 == 1) = true) ↔ (col + 1 = ncols ∧ ncols % 2 = 1) := by
  simp only [Bool.and_eq_true, beq_iff_eq]
  omega

theorem qslot_lone (nrows ncols row col : Nat) (h : col + 1 = ncols ∧ ncols % 2 = 1) :
    qslot nrows ncols row col = 2 * (col / 2 * nrows) + row := by
  unfold qslot
  rw [if_pos ((lone_iff ncols col).2 h)]
  have e : col = 2 * (col / 2) := by omega
  have : col * nrows = 2 * (col / 2 * nrows) := by
    calc col * nrows = (2 * (col / 2)) * nrows := by rw [← e]
      _ = 2 * (col / 2 * nrows) := by ring
  omega

theorem qslot_pair (nrows ncols row col : Nat) (h : ¬ (col + 1 = ncols ∧ ncols % 2 = 1)) :
    qslot nrows ncols row col = 2 * (col / 2 * nrows) + 2 * row + col % 2 := by
  unfold qslot
  rw [if_neg (fun q => h ((lone_iff ncols col).1 q))]
  have : col / 2 * (2 * nrows) = 2 * (col / 2 * nrows) := by ring
  omega

/-- slot ↦ (row, col) -/
def qinv (nrows ncols s : Nat) : Nat × Nat :=
  if s < ncols / 2 * (2 * nrows) then (s % (2 * nrows) / 2, 2 * (s / (2 * nrows)) + s % (2 * nrows) % 2)
  else (s - ncols / 2 * (2 * nrows), ncols - 1)

theorem total_split (nrows ncols : Nat) : nrows * ncols = ncols / 2 * (2 * nrows) + ncols % 2 * nrows := by
  have e : ncols = 2 * (ncols / 2) + ncols % 2 := by omega
  calc nrows * ncols = nrows * (2 * (ncols / 2) + ncols % 2) := by rw [← e]
    _ = ncols / 2 * (2 * nrows) + ncols % 2 * nrows := by ring

/-- quotient and remainder by 2 of `2a + b % 2`, the digit pair (row, parity of the column) of a slot -/
theorem half_digits (a b : Nat) : (2 * a + b % 2) / 2 = a ∧ (2 * a + b % 2) % 2 = b % 2 ∧ 2 * (b / 2) + b % 2 = b := by
  omega

/-- `qslot nrows ncols` is a bijection `[0,nrows) × [0,ncols) → [0, nrows·ncols)` with inverse `qinv`: the column pairs are
    two digits (`radix_iff`), the lone last column comes after them -/
theorem qslot_iff (nrows ncols row col s : Nat) :
    (row < nrows ∧ col < ncols ∧ qslot nrows ncols row col = s) ↔ (s < nrows * ncols ∧ qinv nrows ncols s = (row, col)) := by
  have ht := total_split nrows ncols
  unfold qinv
  constructor
  · rintro ⟨hr, hc, rfl⟩
    by_cases l : col + 1 = ncols ∧ ncols % 2 = 1
    · rw [qslot_lone _ _ _ _ l, show col / 2 = ncols / 2 by omega,
        show 2 * (ncols / 2 * nrows) = ncols / 2 * (2 * nrows) by ring]
      rw [l.2, Nat.one_mul] at ht
      rw [if_neg (Nat.not_lt.2 (Nat.le_add_right _ _)), Nat.add_sub_cancel_left]
      exact ⟨ht ▸ Nat.add_lt_add_left hr _, by rw [← l.1, Nat.add_sub_cancel]⟩
    · rw [qslot_pair _ _ _ _ l,
        show 2 * (col / 2 * nrows) + 2 * row + col % 2 = col / 2 * (2 * nrows) + (2 * row + col % 2) by ring]
      obtain ⟨h1, h2, h3⟩ := (radix_iff (ncols / 2) (2 * nrows) (col / 2) (2 * row + col % 2) _).1
        ⟨by omega, by omega, rfl⟩
      obtain ⟨d1, d2, d3⟩ := half_digits row col
      rw [if_pos h1, h2, h3, d1, d2, d3]
      exact ⟨Nat.lt_of_lt_of_le h1 (ht ▸ Nat.le_add_right _ _), rfl⟩
  · rintro ⟨hs, e⟩
    by_cases hp : s < ncols / 2 * (2 * nrows)
    · rw [if_pos hp, Prod.mk.injEq] at e
      obtain ⟨h1, h2, h3⟩ := (radix_iff (ncols / 2) (2 * nrows) _ _ s).2 ⟨hp, rfl, rfl⟩
      obtain ⟨rfl, rfl⟩ := e
      generalize s / (2 * nrows) = A at *
      generalize s % (2 * nrows) = B at *
      obtain ⟨d1, d2, d3⟩ := half_digits A B
      refine ⟨by omega, by omega, ?_⟩
      rw [qslot_pair _ _ _ _ (by omega), d1, d2,
        show 2 * (A * nrows) + 2 * (B / 2) + B % 2 = A * (2 * nrows) + (2 * (B / 2) + B % 2) by ring, d3]
      exact h3
    · rw [if_neg hp, Prod.mk.injEq] at e
      obtain ⟨rfl, rfl⟩ := e
      have hodd : ncols % 2 = 1 := by
        rcases Nat.mod_two_eq_zero_or_one ncols with q | q
        · rw [q, Nat.zero_mul] at ht; omega
        · exact q
      rw [hodd, Nat.one_mul] at ht
      refine ⟨by omega, by omega, ?_⟩
      rw [qslot_lone _ _ _ _ (by omega)]
      have e1 : (ncols - 1) / 2 = ncols / 2 := by omega
      have e3 : 2 * (ncols / 2 * nrows) = ncols / 2 * (2 * nrows) := by ring
      rw [e1, e3]; omega

theorem qTiles (nrows ncols : Nat) :
    Tiles (fun i : Nat × Nat => i.1 < nrows ∧ i.2 < ncols) (fun i => qslot nrows ncols i.1 i.2) (nrows * ncols)
      (qinv nrows ncols) := by
  rintro ⟨r, c⟩ s
  rw [← qslot_iff]
  exact and_assoc

/-- entry (row, col) of the integer matrix in DFT space: what `vmpPrepare` stores -/
def matDft (c : Parts α) (mat : Array Int) (ncols row col : Nat) : Array α :=
  c.fft (c.fromZnx (mat.extract ((row * ncols + col) * c.nn) ((row * ncols + col) * c.nn + c.nn)))

/-- slot of the 8-cell block ((row, col), blk) -/
def pSlot (nrows ncols : Nat) (i : (Nat × Nat) × Nat) : Nat := i.2 * (nrows * ncols) + qslot nrows ncols i.1.1 i.1.2
def pVal (z : α) (m : Nat) (T : Nat → Nat → Array α) (i : (Nat × Nat) × Nat) : Array α :=
  extract1blkFromReimRef z m i.2 (Array.replicate 8 z) (T i.1.1 i.1.2)
def pDom (nrows ncols nb : Nat) (i : (Nat × Nat) × Nat) : Prop := (i.1.1 < nrows ∧ i.1.2 < ncols) ∧ i.2 < nb
/-- slot ↦ ((row, col), blk) -/
def pinv (nrows ncols s : Nat) : (Nat × Nat) × Nat := (qinv nrows ncols (s % (nrows * ncols)), s / (nrows * ncols))

theorem pTiles (nrows ncols nb : Nat) :
    Tiles (pDom nrows ncols nb) (pSlot nrows ncols) (nb * (nrows * ncols)) (pinv nrows ncols) :=
  (qTiles nrows ncols).digit nb

/-- the address of iteration (row, col, blk) of `vmp_prepare` -/
theorem pmatStart_blk (nrows ncols row col blk : Nat) :
    pmatStart nrows ncols row col + blk * (nrows * ncols * 8) = 8 * pSlot nrows ncols ((row, col), blk) := by
  rw [pmatStart_eq]; simp only [pSlot]
  rw [Nat.mul_add, Nat.add_comm]; congr 1; ring

theorem size_extract1blk (z : α) (m blk : Nat) (dst src : Array α) : (extract1blkFromReimRef z m blk dst src).size = dst.size := by
  have e : extract1blkFromReimRef z m blk dst src =
      V4.store (V4.store dst 0 (V4.load z src (4 * blk))) 4 (V4.load z src (4 * blk + m)) := rfl
  rw [e]; simp

def sSlot (nrows : Nat) (i : Nat × Nat) : Nat := i.2 * nrows + i.1
def sDom (nrows ncols : Nat) (i : Nat × Nat) : Prop := i.1 < nrows ∧ i.2 < ncols

theorem sTiles (nrows ncols : Nat) :
    Tiles (sDom nrows ncols) (sSlot nrows) (ncols * nrows) (fun s => (s % nrows, s / nrows)) := by
  rintro ⟨r, c⟩ s
  have := radix_iff ncols nrows c r s
  simp only [sDom, sSlot, Prod.mk.injEq]
  constructor
  · rintro ⟨⟨hr, hc⟩, e⟩
    obtain ⟨h1, h2, h3⟩ := this.1 ⟨hc, hr, e⟩
    exact ⟨h1, h3, h2⟩
  · rintro ⟨hs, e1, e2⟩
    obtain ⟨h1, h2, h3⟩ := this.2 ⟨hs, e2, e1⟩
    exact ⟨⟨h2, h1⟩, h3⟩

end Spq.Module

namespace Spq.ModuleHeap
open Spq Module
variable {α : Type}

/-- the cells written for the entry (row, col) -/
def prepCell (c : Module.Parts α) (nrows ncols row col x : Nat) : Prop :=
  if 8 ≤ c.nn then ∃ blk, blk < c.m / 4 ∧ In (Module.pmatStart nrows ncols row col + blk * (nrows * ncols * 8)) 8 x
  else In ((col * nrows + row) * c.nn) c.nn x

def prepS (c : Module.Parts α) (nrows ncols x : Nat) : Prop :=
  ∃ row, row < nrows ∧ ∃ col, col < ncols ∧ prepCell c nrows ncols row col x

theorem prep_total (c : Module.Parts α) (nrows ncols : Nat) (hnn : c.nn = 2 * c.m) (hm4 : c.m % 4 = 0) :
    c.nn * nrows * ncols = 8 * (c.m / 4 * (nrows * ncols)) := by
  have : c.nn = 8 * (c.m / 4) := by omega
  rw [this]; ring

theorem prepS_iff (c : Module.Parts α) (nrows ncols : Nat) (hnn : c.nn = 2 * c.m) (hm4 : 8 ≤ c.nn → c.m % 4 = 0) (x : Nat) :
    prepS c nrows ncols x ↔ x < c.nn * nrows * ncols := by
  unfold prepS prepCell
  by_cases h8 : 8 ≤ c.nn
  · simp only [h8, if_true, pmatStart_blk]
    rw [prep_total c nrows ncols hnn (hm4 h8), ← (pTiles nrows ncols (c.m / 4)).cover 8 (by omega) x]
    exact ⟨fun ⟨r, hr, cc, hc, b, hb, q⟩ => ⟨((r, cc), b), ⟨⟨hr, hc⟩, hb⟩, q⟩,
      fun ⟨⟨⟨r, cc⟩, b⟩, ⟨⟨hr, hc⟩, hb⟩, q⟩ => ⟨r, hr, cc, hc, b, hb, q⟩⟩
  · simp only [h8, if_false]
    rcases Nat.eq_zero_or_pos c.nn with e0 | hp
    · rw [e0]; unfold In; simp
    have e : c.nn * nrows * ncols = c.nn * (ncols * nrows) := by ring
    rw [e, ← (sTiles nrows ncols).cover c.nn hp x]
    simp only [Nat.mul_comm _ c.nn]
    exact ⟨fun ⟨r, hr, cc, hc, q⟩ => ⟨(r, cc), ⟨hr, hc⟩, q⟩, fun ⟨⟨r, cc⟩, ⟨hr, hc⟩, q⟩ => ⟨r, hr, cc, hc, q⟩⟩

end Spq.ModuleHeap

namespace Spq.Module
open Spq Reim4 ModuleHeap
variable {α : Type}

/-- `vmp_prepare`, `nn ≥ 8`: cell `x` holds lane `x % 8` of the block `pinv (x / 8)`; the written set is the one the
    heap refinement `ModuleHeap.vmpPrepare_heap` uses -/
theorem vmpPrepare_cells (c : Parts α) (mat : Array Int) (nrows ncols : Nat) (h8 : 8 ≤ c.nn) (hnn : c.nn = 2 * c.m)
    (hm4 : c.m % 4 = 0) :
    CellInv c.ar.zero (tileV c.ar.zero 8 (pinv nrows ncols) (pVal c.ar.zero c.m (matDft c mat ncols)))
      (8 * (c.m / 4 * (nrows * ncols))) (fun x => False ∨ prepS c nrows ncols x) (vmpPrepare c mat nrows ncols) := by
  have t := pTiles nrows ncols (c.m / 4)
  unfold Module.vmpPrepare prepS prepCell
  simp only [ge_iff_le, h8, if_true, prep_total c nrows ncols hnn hm4, pmatStart_blk]
  refine CellInv.fold nrows _ _ _ _ (CellInv.init _ _ _) (fun row r T hrow h => ?_)
  refine CellInv.fold ncols _ _ _ _ h (fun col r T hcol h => ?_)
  refine CellInv.fold (c.m / 4) _ _ _ _ h (fun blk r T hblk h => ?_)
  exact h.tile t ((row, col), blk) ⟨⟨hrow, hcol⟩, hblk⟩ (by simp [pVal, size_extract1blk])

/-- `vmp_prepare`, `nn < 8`: entry (row, col) is the `nn`-cell vector at `(col·nrows + row)·nn` -/
theorem vmpPrepare_cells_small (c : Parts α) (mat : Array Int) (nrows ncols : Nat) (h8 : c.nn < 8)
    (hT : ∀ row col, row < nrows → col < ncols → (matDft c mat ncols row col).size = c.nn) :
    CellInv c.ar.zero (tileV c.ar.zero c.nn (fun s => (s % nrows, s / nrows)) (fun i => matDft c mat ncols i.1 i.2))
      (c.nn * (ncols * nrows)) (fun x => False ∨ prepS c nrows ncols x) (vmpPrepare c mat nrows ncols) := by
  have h8' : ¬ 8 ≤ c.nn := by omega
  have htot : c.nn * nrows * ncols = c.nn * (ncols * nrows) := by ring
  unfold Module.vmpPrepare prepS prepCell
  simp only [ge_iff_le, h8', if_false, htot]
  refine CellInv.fold nrows _ _ _ _ (CellInv.init _ _ _) (fun row r T hrow h => ?_)
  refine CellInv.fold ncols _ _ _ _ h (fun col r T hcol h => ?_)
  have := h.tile (sTiles nrows ncols) (row, col) ⟨hrow, hcol⟩ (hT row col hrow hcol)
  rwa [show c.nn * sSlot nrows (row, col) = (col * nrows + row) * c.nn from Nat.mul_comm _ _] at this

end Spq.Module
