/-
  Heap-level refinement of `vec_znx_idft_tmp_a` (which `vec_znx_idft` runs after its optional copy).
-/
import SpqProofs.Lemmas.ModHeapVec
namespace Spq.ModuleHeap
open Spq Heap Reim4
variable {γ α : Type}

theorem extract_rdD (cd : Cells γ α) (h : Heap γ) (p n i k : Nat) (hk : i + k ≤ n) :
    (rdD cd h p n).extract i (i + k) = rdD cd h (p + i) k := by
  unfold rdD
  rw [← Array.map_extract, readLimb_extract _ _ _ _ _ _ hk]

theorem dlimb_rdD (cd : Cells γ α) (h : Heap γ) (p n i nn : Nat) (hb : i * nn + nn ≤ n) :
    Module.dlimb (rdD cd h p n) i nn = rdD cd h (p + i * nn) nn :=
  extract_rdD cd h p n (i * nn) nn hb

section
variable (c : Module.Parts α) (cd : Cells γ α) (hs : Sized c) (hr : RoundTrip cd)
include hs hr

/-- `fft64_vec_znx_idft_tmp_a`: the source limbs are transformed in place (the documented exception to
    "sources are read-only"); tolerated: `res == a_dft`, or `res` disjoint from the limbs of `a_dft` that are used -/
theorem vecIdftTmpA_heap (h : Heap γ) (res rsz adft asz : Nat) (hres : res + rsz * c.nn ≤ h.mem.size)
    (hsrc : adft + min rsz asz * c.nn ≤ h.mem.size)
    (hal : res = adft ∨ adft + min rsz asz * c.nn ≤ res ∨ res + rsz * c.nn ≤ adft) :
    Fr (fun x => In res (rsz * c.nn) x ∨ In adft (min rsz asz * c.nn) x) h (vecIdftTmpA c cd h res rsz adft asz) ∧
    (vecIdftTmpA c cd h res rsz adft asz).readLimb cd.dflt res (rsz * c.nn) =
      (Module.vecIdft c rsz (rdD cd h adft (min rsz asz * c.nn)) asz).map cd.encI := by
  have hsm : min rsz asz ≤ rsz := Nat.min_le_left _ _
  obtain ⟨f, v⟩ := vec_refine c.nn res rsz (min rsz asz) hsm
    (fun i h => h |> kIfft c cd (adft + i * c.nn) |> kToZnx c cd (res + i * c.nn) (adft + i * c.nn))
    (kZeroI cd (res + min rsz asz * c.nn) ((rsz - min rsz asz) * c.nn)) h cd.dflt cd.encI 0
    (fun i => if i < asz then c.toZnx (c.ifft (Module.dlimb (rdD cd h adft (min rsz asz * c.nn)) i c.nn))
      else Array.replicate c.nn 0)
    (fun i x => In (adft + i * c.nn) c.nn x)
    (by
      intro i j x hji hi hx
      rcases hal with e | e
      · subst e; exact (Dj.limbs res c.nn j i hji).symm.not_mem x hx
      · exact (Dj.mono e (Sub.limb _ _ _ i hi)
          (Sub.limb _ _ _ j (Nat.lt_of_lt_of_le (Nat.lt_trans hji hi) hsm))).not_mem x hx)
    (by
      intro i g hi f
      have hir : i < rsz := Nat.lt_of_lt_of_le hi hsm
      have SA : Sub (adft + i * c.nn) c.nn adft (min rsz asz * c.nn) := Sub.limb _ _ _ i hi
      have SR : Sub (res + i * c.nn) c.nn res (rsz * c.nn) := Sub.limb _ _ _ i hir
      rw [if_pos (Nat.lt_of_lt_of_le hi (Nat.min_le_right _ _)), dlimb_rdD cd h adft _ i c.nn (mul_step i _ c.nn hi)]
      obtain ⟨f1, v1⟩ := kIfft_spec c cd g hs (adft + i * c.nn) (f.size ▸ SA.le hsrc)
      have F1 := f.trans f1
      obtain ⟨f2, v2⟩ := kToZnx_spec c cd (kIfft c cd (adft + i * c.nn) g) hs (res + i * c.nn) (adft + i * c.nn)
        (F1.size ▸ SA.le hsrc) (F1.size ▸ SR.le hres)
        (by
          rcases hal with e | e
          · subst e; exact sameOrDisj_same _ _
          · exact sameOrDisj_of _ _ _ (Dj.mono e SA SR).symm)
      refine ⟨(f1.trans f2).mono (fun x q => q.symm), ?_⟩
      rw [v2, rdD_of_cells cd hr _ _ _ _ v1, rdD_of_fr f cd _ _ ?_]
      -- limb `i` of `a_dft` is off the result limbs before `i` and off the earlier limbs of `a_dft`
      intro x hx hw
      rcases hw with hw | ⟨j, hj, hw⟩
      · rcases hal with e | e
        · subst e; exact Dj.not_mem (Or.inl (Nat.le_refl _)) x hw hx
        · exact (Dj.mono e SA (Sub.pre res c.nn rsz i (Nat.le_of_lt hir))).not_mem x hx hw
      · exact (Dj.limbs adft c.nn j i hj).not_mem x hw hx)
    (fun g hg => kZeroI_spec cd g _ _ (hg ▸ (Sub.tail res c.nn rsz _ hsm).le hres))
    (fun i h1 h2 => if_neg (by omega))
  exact ⟨f.mono (fun x q => q.elim Or.inl (fun ⟨j, hj, q⟩ => Or.inr ((Sub.limb adft c.nn _ j hj).mem x q))), v⟩

end

end Spq.ModuleHeap
