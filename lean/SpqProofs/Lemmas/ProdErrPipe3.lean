/-
  C01 rounding budget: the single product `smallProduct` through the rules of `ProdErrNear`.
  `pipe_out`: two forward rules, the product rule (its `rowF` bounded by `fB·S` for `S = ‖a‖₁·nb + na·‖b‖₁`:
  `rowF_rel_le`), the inverse stage and the final conversion, with `γ = a ⊛ b` and `B = budget`.
-/
import SpqProofs.Lemmas.ErrBudget
namespace Spq.ProdErr
open Finset Spq Spq.Module Spq.Fft Spq.Fft.Alg Spq.Fft.SimP Spq.Fft.LevelN Spq.Fft.SchedN Spq.Fft.RelN Spq.FftErr Spq.F64
  Spq.Reim4 Spq.C06Err
variable {K : Type} [Field K] [LinearOrder K] [IsStrictOrderedRing K]

theorem mul_size (c : Cfg) (k : ℕ) (cN sN cNi sNi : ℕ → ℕ) (h : CfgOk c k cN sN cNi sNi) (x y : Array ℕ) :
    (Module.mul (Cfg.parts c) x y).size = 2 * 2 ^ k := by
  rw [mul_eq_mulA c k h.nn]
  exact (mulA_cells F64.arith c.mulFma (2 ^ k) (fun hf => pow_mod_four k (h.mulFma hf)) x y).1

/-- the budget of the whole pipeline, relative to `m` -/
def budget (K : Type) [Field K] [LinearOrder K] (k : ℕ) (a b : Array Int) (na nb : K) : K :=
  eB (eps K k) ((mu64 : ℚ) : K) (eps K k * 2 ^ k) * (n1 K a (2 * 2 ^ k) * nb + na * n1 K b (2 * 2 ^ k))

/-- the domain side condition of the final conversion, on the inputs only: `|(a ⊛ b)_i| + budget < B_v` -/
def OutDom (K : Type) [Field K] [LinearOrder K] (c : Cfg) (k : ℕ) (a b : Array Int) (na nb : K) : Prop :=
  ∀ i, i < 2 * 2 ^ k →
    |(((nmul (2 * 2 ^ k) a b).getD i 0 : Int) : K)| + budget K k a b na nb < ((Bv c.toVariant : ℚ) : K)

open Spq.VmpErr in
theorem pipe_out (C : Ctx K) (hk : C.k ≤ 961) (a b : Array Int) (ha : Box C.k a) (hb : Box C.k b)
    (hok : PipeOk C.c C.k C.cN C.sN C.cNi C.sNi a b) (na nb : K) (sa : Size C a na) (sb : Size C b nb)
    (hnl : nb ≤ n1 K b C.N) :
    (∀ i, i < C.N → |(((nmul C.N a b).getD i 0 : Int) : K)| ≤ (n1 K a C.N * nb + na * n1 K b C.N) / 2) ∧
    (OutDom K C.c C.k a b na nb →
      ∀ i, i < C.N → ∃ r : ℤ, (smallProduct (Cfg.parts C.c) a b)[i]? = some r ∧
        |(r : K) - (((nmul C.N a b).getD i 0 : Int) : K)| ≤ budget K C.k a b na nb + 1 / 2) := by
  have hm := (near_mul C _ _ a b _ _ na nb (near_fwd C a ha hok.okA na sa) (near_fwd C b hb hok.okB nb sb) sa sb
    hok.okM).mono
    (rowF_rel_le _ _ na nb _ _ _ (eps_nonneg C.k) mu_nonneg sa.1 sb.1 (n1_nonneg _ _) (by positivity) hnl)
  obtain ⟨hcb, hout⟩ := near_out C hk _
    (mulA_cells F64.arith C.c.mulFma (2 ^ C.k) (fun hf => pow_mod_four C.k (C.ok.mulFma hf)) _ _).1 hok.okI _ _ _
    (budget K C.k a b na nb) hm (sa.nmul sb) (by unfold budget eB; ring)
  refine ⟨hcb, fun hdom i hi => ?_⟩
  rw [smallProduct_stages C.c C.k C.cN C.sN C.cNi C.sNi C.ok]
  exact hout i hi (hdom i hi)

end Spq.ProdErr
