/-
  C16, binary64 side, the concrete instance continued: the budget of the `1 × 1` vector-matrix product, the exact
  states along `exProg`, and the budget `PreF` of every call (`exGuarded`).
-/
import SpqProofs.Lemmas.ProgErrExample
import SpqProofs.Lemmas.ProgErrRun
import SpqProofs.Lemmas.ProgCheck
namespace Spq.ProgErr
open Finset Spq Spq.Module Spq.Fft Spq.Fft.Alg Spq.FftErr Spq.F64 Spq.Reim4 Spq.Conv Spq.ProdErr Spq.VmpErr Spq.Prog
  Spq.Closed

theorem exVmpBudget : VmpBudget exMod #[3, 4] 1 1 #[1, 2] 1 1 := by
  refine ⟨by decide, ?_, ?_, ?_⟩
  · intro i hi
    obtain rfl : i = 0 := by omega
    show Box 0 (limbOf #[1, 2] 0 2 (2 * 2 ^ 0))
    rw [exLimb]; exact box12
  · intro i j hi hj
    have : i = 0 := by omega
    have : j = 0 := by omega
    subst_vars
    show Box 0 (matEntry #[3, 4] 1 (2 * 2 ^ 0) 0 0)
    rw [exEntry]; exact box34
  · intro j hj _
    obtain rfl : j = 0 := by omega
    refine ⟨exVmpOk, fun _ => 3, fun _ => 5, fun _ _ => by norm_num, fun _ _ => by norm_num, ?_, ?_, ?_, ?_⟩
    · intro i hi
      obtain rfl : i = 0 := by omega
      show n2sq ℚ (limbOf #[1, 2] 0 2 (2 * 2 ^ 0)) 2 ≤ _
      rw [exLimb]; exact n2_12
    · intro i hi
      obtain rfl : i = 0 := by omega
      show n2sq ℚ (matEntry #[3, 4] 1 (2 * 2 ^ 0) 0 0) 2 ≤ _
      rw [exEntry]; exact n2_34
    · intro i hi
      obtain rfl : i = 0 := by omega
      show _ ≤ n1 ℚ (matEntry #[3, 4] 1 (2 * 2 ^ 0) 0 0) 2
      rw [exEntry]; exact n1_34
    · show Esum ℚ 0 #[3, 4] 1 1 #[1, 2] 1 (2 * 2 ^ 0) 0 (fun _ => 3) (fun _ => 5) < 1 / 2
      unfold Esum sumS rowS
      have eL : limbOf #[1, 2] 0 (2 * 2 ^ 0) (2 * 2 ^ 0) = #[1, 2] := exLimb
      rw [show min 1 1 = 1 from rfl, sum_range_one, eL, exEntry]
      show _ * (n1 ℚ #[1, 2] 2 * _ + _ * n1 ℚ #[3, 4] 2) < _
      rw [n1_pair, n1_pair]
      unfold u64; norm_num

theorem exWF : WF 2 8 exVars := WFb_sound _ _ _ (by decide)
theorem exR : R 2 8 exVars exEnv exHeap := Rb_sound _ _ _ _ _ (by decide)

def exSt1 : AState := astepD 2 (.svpPrepare 0 exY) exA
def exSt2 : AState := astepD 2 (.svp exD0 0 exX) exSt1
def exSt3 : AState := astepD 2 (.idft exZ exD0) exSt2
def exSt4 : AState := astepD 2 (.vmpPrepare exM0 exY) exSt3
def exSt5 : AState := astepD 2 (.dft exD1 exX) exSt4
def exSt6 : AState := astepD 2 (.vmpDD exD2 exD1 exM0) exSt5
def exSt7 : AState := astepD 2 (.idft exW exD2) exSt6
def exSt8 : AState := astepD 2 (.vmp exD3 exX exM0) exSt7
def exSt9 : AState := astepD 2 (.idft exW exD3) exSt8
def exSt10 : AState := astepD 2 (.idft exW exD1) exSt9

theorem ex_f1 : exSt1.ppol 0 = some #[3, 4] ∧ limbArr 2 exSt1.env exX 0 = #[1, 2] ∧
    polyArr 2 (fun t => (#[3, 4] : Array Int).getD t 0) = #[3, 4] := by decide +kernel
theorem ex_f4 : limbArr 2 exSt4.env exX 0 = #[1, 2] := by decide +kernel
theorem ex_f5 : exSt5.dvec exD1 = some #[#[1, 2]] ∧ exSt5.pmat exM0 = some #[#[3, 4]] := by decide +kernel
theorem ex_f7 : exSt7.pmat exM0 = some #[#[3, 4]] ∧ vecArr 2 exSt7.env exX = #[1, 2] := by decide +kernel
theorem ex_mat : flatOf 2 (1 * 1) (fun i t => Val.coef #[#[3, 4]] i t) = #[3, 4] ∧
    flatOf 2 1 (fun i t => Val.coef #[#[1, 2]] i t) = #[1, 2] := by decide +kernel

theorem exPre1 : PreF exMod exVars (.svpPrepare 0 exY) exA := ⟨by decide, by decide, trivial⟩

theorem exPre2 : PreF exMod exVars (.svp exD0 0 exX) exSt1 := by
  refine ⟨by decide, #[3, 4], ex_f1.1, ?_⟩
  intro i hi _
  obtain rfl : i = 0 := Nat.lt_one_iff.1 hi
  show ProdBudget exMod (limbArr 2 exSt1.env exX 0) (polyArr 2 fun t => (#[3, 4] : Array Int).getD t 0)
  rw [ex_f1.2.1, ex_f1.2.2]; exact exProdBudget

theorem exPre3 : PreF exMod exVars (.idft exZ exD0) exSt2 := ⟨by decide, _, rfl, trivial⟩
theorem exPre4 : PreF exMod exVars (.vmpPrepare exM0 exY) exSt3 := ⟨by decide, rfl, rfl, trivial⟩

theorem exPre5 : PreF exMod exVars (.dft exD1 exX) exSt4 := by
  refine ⟨by decide, ?_⟩
  intro i hi _
  obtain rfl : i = 0 := Nat.lt_one_iff.1 hi
  show RtBudget exMod (limbArr 2 exSt4.env exX 0)
  rw [ex_f4]; exact exRtBudget

theorem exPre6 : PreF exMod exVars (.vmpDD exD2 exD1 exM0) exSt5 := by
  refine ⟨by decide, #[#[1, 2]], #[#[3, 4]], ex_f5.1, ex_f5.2, ?_⟩
  show VmpBudget exMod (flatOf 2 (1 * 1) (fun i t => Val.coef #[#[3, 4]] i t)) 1 1
    (flatOf 2 1 (fun i t => Val.coef #[#[1, 2]] i t)) 1 1
  rw [ex_mat.1, ex_mat.2]; exact exVmpBudget

theorem exPre7 : PreF exMod exVars (.idft exW exD2) exSt6 := ⟨by decide, _, rfl, trivial⟩

theorem exPre8 : PreF exMod exVars (.vmp exD3 exX exM0) exSt7 := by
  refine ⟨by decide, #[#[3, 4]], ex_f7.1, ?_⟩
  show VmpBudget exMod (flatOf 2 (1 * 1) (fun i t => Val.coef #[#[3, 4]] i t)) 1 1 (vecArr 2 exSt7.env exX) 1 1
  rw [ex_mat.1, ex_f7.2]; exact exVmpBudget

theorem exPre9 : PreF exMod exVars (.idft exW exD3) exSt8 := ⟨by decide, _, rfl, trivial⟩
theorem exPre10 : PreF exMod exVars (.idft exW exD1) exSt9 := ⟨by decide, _, rfl, trivial⟩
theorem exPre11 : PreF exMod exVars (.coeff (.add exZ exZ exX)) exSt10 :=
  ⟨OpOKb_sound _ _ _ (by decide), OpBudgetb_sound _ _ _ (by decide +kernel)⟩

theorem exGuarded : Guarded (PreF exMod exVars) (astepD 2) exProg exA :=
  ⟨exPre1, exPre2, exPre3, exPre4, exPre5, exPre6, exPre7, exPre8, exPre9, exPre10, exPre11, trivial⟩

theorem exGuardedD : Guarded (PreD (dftOpsSound_f64 exMod) exVars) (astepD 2) exProg exA :=
  guarded_preD exMod exProg exA exGuarded (by decide)

end Spq.ProgErr
