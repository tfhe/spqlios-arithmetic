/-
  `reim_to_znx64_avx2_bnd63_fma`, for an arbitrary offset constant: the exponent-difference / variable-shift
  extraction returns `±⌊|a| / d⌋` for the sum `a = x + sign(x)·offset`, whatever its rounding (`bnd63Lane_val`, on the
  scaled values); the sum is the rounding of `±(|x| + offset)` (`bnd63_sum_val`); and the contract of the kernel with the offset `d/2` *under the hypothesis that this addition is exact* (without it
  the contract is false, see `C14.to_znx64_bnd63_old_violation`).
-/
import SpqProofs.Lemmas.ConvBits
import SpqProofs.Lemmas.ConvToZnx

namespace Spq.Conv
open Spq.F64

/-- the pattern of a normal number -/
def normPat (s : Bool) (Ea fa : Nat) : Nat := sgn s + Ea * 4503599627370496 + fa

theorem fields_of_decode {a : Nat} {s : Bool} {m : Nat} {e : Int} (ha : decode a = ⟨s, m, e⟩)
    (hm : 4503599627370496 ≤ m) :
    a &&& EXPO_MASK = (e + 1075).toNat * 4503599627370496 ∧ (a &&& MANT_MASK) ||| MANT_MSB = m := by
  have hfr : a % 4503599627370496 < 4503599627370496 := Nat.mod_lt _ (by norm_num)
  have hor := or_high (a % 4503599627370496) 1 hfr
  rw [Nat.one_mul] at hor
  rw [and_expo_mask, and_mant_mask, hor]
  unfold decode expField fracField at ha
  simp only [] at ha
  split at ha <;> simp only [Dec.mk.injEq] at ha <;> omega

/-- `(v ^ m) - m` with `m = 0 - signbit`: sign-magnitude to two's complement -/
theorem signed_of_mag (s : Bool) (v : Nat) (hv : v < 9223372036854775808) :
    toS (sub64 (v ^^^ sub64 0 (sgn s / 9223372036854775808)) (sub64 0 (sgn s / 9223372036854775808))) = sI s v := by
  have hsm : sub64 0 (sgn s / 9223372036854775808) = if s then 18446744073709551615 else 0 := by
    cases s <;> simp [sgn, sub64]
  rw [hsm, cond_negate v (by omega) s]
  unfold sI wrapS
  cases s
  · simp only [Bool.false_eq_true, if_false]; omega
  · simp only [if_true]; omega

/-- the shift count `(Ea·2^52 − Ed·2^52) >> 52` of the kernel: the difference of the exponent fields, wrapped to
    more than 63 when negative -/
theorem sub64_expo (A B : Nat) (hA : A ≤ 2047) (hB : B ≤ 2047) :
    sub64 (A * 4503599627370496) (B * 4503599627370496) / 4503599627370496 = if B ≤ A then A - B else 4096 + A - B := by
  unfold sub64; split <;> omega

/-- The two variable shifts of the kernel, by `Ea − Ed` to the left and by `Ed − Ea` to the right (a count above 63
    gives 0), together compute `⌊M·2^Ea / 2^Ed⌋`. -/
theorem shift_trunc (M Ea Ed : Nat) (hM1 : 0 < M) (hM2 : M < 9007199254740992) (hEa : Ea ≤ 2047) (hEd : Ed ≤ 2047)
    (hfit : M * 2 ^ Ea < 9223372036854775808 * 2 ^ Ed) :
    sllv64 M (sub64 (Ea * 4503599627370496) (Ed * 4503599627370496) / 4503599627370496) |||
      srlv64 M (sub64 (Ed * 4503599627370496) (Ea * 4503599627370496) / 4503599627370496) = M * 2 ^ Ea / 2 ^ Ed := by
  rw [sub64_expo Ea Ed hEa hEd, sub64_expo Ed Ea hEd hEa]
  unfold sllv64 srlv64
  rcases Nat.lt_trichotomy Ea Ed with hlt | rfl | hgt
  · obtain ⟨t, rfl⟩ : ∃ t, Ed = Ea + t := ⟨Ed - Ea, by omega⟩
    rw [if_neg (by omega : ¬ Ea + t ≤ Ea), if_pos (by omega : Ea ≤ Ea + t), if_pos (by omega), Nat.zero_or,
      Nat.add_sub_cancel_left, pow_add, Nat.mul_comm (2 ^ Ea), Nat.mul_div_mul_right _ _ (by positivity)]
    split
    · have : (2 : Nat) ^ 53 ≤ 2 ^ t := Nat.pow_le_pow_right (by norm_num) (by omega)
      norm_num at this
      exact (Nat.div_eq_of_lt (by omega)).symm
    · rfl
  · rw [if_pos le_rfl, Nat.sub_self, if_neg (by omega), if_neg (by omega), pow_zero, Nat.mul_one, Nat.div_one,
      Nat.mod_eq_of_lt (by omega), Nat.or_self, Nat.mul_div_cancel _ (by positivity)]
  · obtain ⟨t, rfl⟩ : ∃ t, Ea = Ed + t := ⟨Ea - Ed, by omega⟩
    rw [pow_add, Nat.mul_comm (2 ^ Ed), ← Nat.mul_assoc] at hfit ⊢
    have hfit' := Nat.lt_of_mul_lt_mul_right hfit
    -- the count is small because the result fits
    have ht : ¬ t > 63 := by
      intro hc
      have : 2 ^ 64 ≤ 2 ^ t := Nat.pow_le_pow_right (by norm_num) (by omega)
      norm_num at this
      have h2 : 1 * 2 ^ t ≤ M * 2 ^ t := Nat.mul_le_mul_right _ hM1
      omega
    rw [if_pos (by omega : Ed ≤ Ed + t), if_neg (by omega : ¬ Ed + t ≤ Ed), Nat.add_sub_cancel_left, if_neg ht,
      if_pos (by omega), Nat.or_zero, Nat.mod_eq_of_lt (by omega), Nat.mul_div_cancel _ (by positivity)]

theorem bnd63Lane_trunc {off x : Nat} {s s' : Bool} {m : Nat} {e : Int} (Ed : Nat)
    (hsign : x &&& SIGN_MASK = sgn s) (ha : decode (add x (sgn s ||| off)) = ⟨s', m, e⟩)
    (hm : 4503599627370496 ≤ m) (hEd : Ed ≤ 2047)
    (hfit : m * 2 ^ (e + 1075).toNat < 9223372036854775808 * 2 ^ Ed) :
    toZnx64Bnd63Lane off (Ed * 4503599627370496) x = sI s (m * 2 ^ (e + 1075).toNat / 2 ^ Ed) := by
  obtain ⟨hexp, hpos⟩ := fields_of_decode ha hm
  have hm2 : m < 9007199254740992 := by have := decode_m_lt (add x (sgn s ||| off)); rwa [ha] at this
  have he2 : e ≤ 972 := by have := decode_e_le (add x (sgn s ||| off)); rwa [ha] at this
  unfold toZnx64Bnd63Lane
  simp only []
  rw [hsign, hexp, hpos, shift_trunc m _ Ed (by omega) hm2 (by omega) hEd hfit]
  exact signed_of_mag s _ ((Nat.div_lt_iff_lt_mul (by positivity)).2 hfit)

theorem pack_exact_pattern (neg : Bool) (a t : Nat) (E : Int) (k : Nat)
    (h1 : 4503599627370496 ≤ a * 2 ^ k) (h2 : a * 2 ^ k < 9007199254740992)
    (hE : -1074 ≤ E + t - k) (hov : E + t - k ≤ 971) :
    pack neg (a * 2 ^ t) E = normPat neg (E + t - k + 1075).toNat (a * 2 ^ k - 4503599627370496) := by
  rw [pack_rescale neg a t E k, pack_normal neg _ _ h1 h2 hE, encode_normal neg _ _ h1 h2 (by omega)]
  rfl

theorem decode_D_TWO : decode D_TWO = ⟨false, 4503599627370496, -51⟩ := by
  have := decode_pos_pattern 1024 0 (by norm_num) (by norm_num) (by norm_num)
  simpa using this

theorem bnd63OffsetOld_pow2 (j : Int) (hj1 : -1021 ≤ j) (hj2 : j ≤ 1023) : bnd63OffsetOld (pow2 j) = pow2 (j - 1) := by
  unfold bnd63OffsetOld
  rw [div_pow2_of_decode (decode_pow2 j (by omega) hj2) decode_D_TWO (by norm_num)]
  have := pack_exact_pattern false 4503599627370496 59 (j - 52 - -51 - 111) 0 (by norm_num) (by norm_num)
    (by push_cast; omega) (by push_cast; omega)
  rw [this]
  unfold normPat pow2 sgn
  simp only [Bool.false_eq_true, if_false, pow_zero, Nat.mul_one, Nat.sub_self, Nat.add_zero, Nat.zero_add]
  congr 1
  push_cast; omega

/-- `divisor_bits = divisor * 2^52` is the pattern of `2^(j+52)` -/
theorem bnd63DiviBits_pow2 (j : Int) (hj1 : -1022 ≤ j) (hj2 : j ≤ 971) :
    bnd63DiviBits (pow2 j) = (j + 1075).toNat * 4503599627370496 := by
  unfold bnd63DiviBits
  rw [D_2P52_eq, mul_of_decode (decode_pow2 j hj1 (by omega)) decode_D_2P52]
  have hpw : 4503599627370496 * 4503599627370496 = 4503599627370496 * 2 ^ 52 := by norm_num
  rw [hpw]
  have := pack_exact_pattern (false != false) 4503599627370496 52 (j - 52 + 0) 0 (by norm_num) (by norm_num)
    (by push_cast; omega) (by push_cast; omega)
  rw [this]
  unfold normPat sgn
  simp only [bne_self_eq_false, Bool.false_eq_true, if_false, pow_zero, Nat.mul_one, Nat.sub_self, Nat.add_zero, Nat.zero_add]
  congr 2
  push_cast; omega

theorem or_sign (s : Bool) (b : Nat) (hb : b < 9223372036854775808) : sgn s ||| b = sgn s + b := by
  cases s
  · simp [sgn]
  · have h := Nat.two_pow_add_eq_or_of_lt (i := 63) (b := b) (by norm_num; exact hb) 1
    norm_num at h
    simp only [sgn, if_true]
    exact h.symm

theorem and_sign_eq_sgn (x : Nat) (hx : x < 18446744073709551616) : x &&& SIGN_MASK = sgn (signBit x) := by
  rw [and_sign_mask x hx]
  unfold signBit sgn
  have : x / 9223372036854775808 = 0 ∨ x / 9223372036854775808 = 1 := by omega
  rcases this with h | h <;> rw [h] <;> simp

theorem decode_sign_or (s : Bool) {c : Nat} (hc63 : c < 9223372036854775808) {mc : Nat} {ec : Int}
    (hc : decode c = ⟨false, mc, ec⟩) : decode (sgn s ||| c) = ⟨s, mc, ec⟩ := by
  rw [or_sign s c hc63]
  cases s
  · rw [show sgn false = 0 from rfl, Nat.zero_add]; exact hc
  · have h := decode_neg (b := c) (by omega) hc
    unfold F64.neg at h
    rw [if_pos hc63, Nat.add_comm] at h
    exact h

theorem toScaled_sign_or (s : Bool) {c : Nat} (hc63 : c < 9223372036854775808) :
    toScaled (sgn s ||| c) = sI s 1 * toScaled c := by
  have hneg : (decode c).neg = false := by
    rw [decode_neg_eq]; unfold signBit
    rw [Nat.div_eq_of_lt hc63]; rfl
  have hc : decode c = ⟨false, (decode c).m, (decode c).e⟩ := by rw [← hneg]
  rw [toScaled_of_decode' (decode_sign_or s hc63 hc), toScaled_of_decode' hc]
  cases s <;> simp [sI]

theorem bnd63_sum_val {x c : Nat} (hx64 : x < 18446744073709551616) (hc63 : c < 9223372036854775808) :
    x &&& SIGN_MASK = sgn (signBit x) ∧
    toScaled (add x (sgn (signBit x) ||| c)) = rnS (sI (signBit x) ((toScaled x).natAbs + (toScaled c).natAbs)) := by
  refine ⟨and_sign_eq_sgn x hx64, ?_⟩
  have hc0 : toScaled c = sI false (toScaled c).natAbs := by
    have := toScaled_eq_sI c
    rwa [show signBit c = false by unfold signBit; rw [Nat.div_eq_of_lt hc63]; rfl] at this
  rw [toScaled_add, toScaled_sign_or _ hc63, ← sI_add]
  congr 2
  · exact toScaled_eq_sI x
  · rw [hc0, sI_natAbs]; cases signBit x <;> simp [sI]

/-- Value form of the lane: for the sum `a = x + sign(x)·off` normal and `|a| < 2^63·d`, `d = 2^j`, the lane is `±R`
    with `R = ⌊|a| / d⌋`. -/
theorem bnd63Lane_val (j : Int) (hj1 : -1022 ≤ j) (hj2 : j ≤ 971) {off x : Nat} {s : Bool}
    (hsign : x &&& SIGN_MASK = sgn s)
    (hnorm : 4503599627370496 ≤ |toScaled (add x (sgn s ||| off))|)
    (hfit : |toScaled (add x (sgn s ||| off))| < 9223372036854775808 * toScaled (pow2 j)) :
    ∃ R : Nat, toZnx64Bnd63Lane off (bnd63DiviBits (pow2 j)) x = sI s R ∧
      R * toScaled (pow2 j) ≤ |toScaled (add x (sgn s ||| off))| ∧
      |toScaled (add x (sgn s ||| off))| < (R + 1) * toScaled (pow2 j) := by
  obtain ⟨s', m, e, ha, -, he0, -⟩ := exists_decode (add x (sgn s ||| off))
  obtain ⟨b, hb⟩ : ∃ b : Nat, (b : Int) = j + 1074 := ⟨(j + 1074).toNat, by omega⟩
  obtain ⟨c, hc⟩ : ∃ c : Nat, (c : Int) = e + 1074 := ⟨(e + 1074).toNat, by omega⟩
  have hd : toScaled (pow2 j) = ((2 ^ b : Nat) : Int) := by
    rw [toScaled_pow2 j hj1 (by omega)]; push_cast; congr 1; omega
  have hav : |toScaled (add x (sgn s ||| off))| = ((m * 2 ^ c : Nat) : Int) := by
    rw [toScaled_of_decode' ha, abs_sI_mul _ _ _ (by positivity)]; push_cast; congr 2; omega
  rw [hav] at hnorm
  rw [hd, hav] at hfit ⊢
  have hnormN : 4503599627370496 ≤ m * 2 ^ c := by exact_mod_cast hnorm
  have hfitN : m * 2 ^ c < 9223372036854775808 * 2 ^ b := by exact_mod_cast hfit
  -- `2^52 ≤ |a|` makes `a` normal: a subnormal has `e = -1074` and no hidden bit
  have hm : 4503599627370496 ≤ m := by
    by_contra hcon
    have he : ¬ -1074 < e := fun h => hcon (by have := decode_m_ge_of_e _ (by rw [ha]; exact h); rwa [ha] at this)
    obtain rfl : c = 0 := by omega
    omega
  have hEa : (e + 1075).toNat = c + 1 := by omega
  have hEd : (j + 1075).toNat = b + 1 := by omega
  have hpos : 0 < 2 ^ b := by positivity
  refine ⟨m * 2 ^ c / 2 ^ b, ?_, by exact_mod_cast Nat.div_mul_le_self _ _,
    by exact_mod_cast (Nat.div_lt_iff_lt_mul hpos).1 (Nat.lt_succ_self _)⟩
  rw [bnd63DiviBits_pow2 j hj1 hj2, hEd,
    bnd63Lane_trunc (b + 1) hsign ha hm (by omega) (by rw [hEa, pow_succ, pow_succ, ← Nat.mul_assoc, ← Nat.mul_assoc]; omega),
    hEa, pow_succ, pow_succ, ← Nat.mul_assoc, Nat.mul_div_mul_right _ _ (by norm_num)]

theorem bnd63_close (sx : Bool) (R X dd : Nat) (hdd : 1 ≤ dd)
    (hup : R * 2 ^ dd ≤ X + 2 ^ (dd - 1)) (hlow : X ≤ R * 2 ^ dd + 2 ^ (dd - 1)) :
    2 * |sI sx R * ((2 ^ dd : Nat) : Int) - sI sx X| ≤ ((2 ^ dd : Nat) : Int) := by
  rw [← mul_one (sI sx X), sI_mul_sub, mul_one]
  have hD : 2 ^ dd = 2 * 2 ^ (dd - 1) := by rw [← pow_succ']; congr 1; omega
  obtain ⟨P, hP⟩ : ∃ P, P = R * 2 ^ dd := ⟨_, rfl⟩
  obtain ⟨h, hh⟩ : ∃ h, h = 2 ^ (dd - 1) := ⟨_, rfl⟩
  rw [← hP, ← hh] at hup hlow
  rw [← hh] at hD
  have h1 : (R : Int) * ((2 ^ dd : Nat) : Int) = (P : Int) := by rw [hP]; push_cast; rfl
  have habs : |(P : Int) - X| ≤ h := by rw [abs_le]; constructor <;> omega
  rw [h1, hD]
  push_cast
  linarith

/-- `reim_to_znx64_avx2_bnd63_fma`, one lane, for `|x/d| < 2^52`, *assuming the addition `x + sign(x)·d/2` is exact*:
    the result is within 1/2 of `x/d`. -/
theorem toZnx64Bnd63Lane_spec_of_exact (j : Int) (hj1 : -1021 ≤ j) (hj2 : j ≤ 970) (x : Nat)
    (hx64 : x < 18446744073709551616)
    (hdom : |toScaled x| < 4503599627370496 * toScaled (pow2 j))
    (hexact : toScaled (add x ((x &&& SIGN_MASK) ||| bnd63OffsetOld (pow2 j))) =
      toScaled x + toScaled ((x &&& SIGN_MASK) ||| bnd63OffsetOld (pow2 j))) :
    2 * |toZnx64Bnd63Lane (bnd63OffsetOld (pow2 j)) (bnd63DiviBits (pow2 j)) x * toScaled (pow2 j) - toScaled x|
      ≤ toScaled (pow2 j) := by
  have hasign := and_sign_eq_sgn x hx64
  have hc63 : pow2 (j - 1) < 9223372036854775808 := by unfold pow2; omega
  -- `x = ±X`, the offset is `±h`, `d = 2·h`
  obtain ⟨X, hX⟩ : ∃ X, X = (toScaled x).natAbs := ⟨_, rfl⟩
  have hxs := toScaled_eq_sI x
  obtain ⟨b, hb⟩ : ∃ b : Nat, (b : Int) = j - 1 + 1074 := ⟨(j - 1 + 1074).toNat, by omega⟩
  have hd : toScaled (pow2 j) = ((2 * 2 ^ b : Nat) : Int) := by
    rw [toScaled_pow2 j (by omega) (by omega), ← pow_succ']; push_cast; congr 1; omega
  have hh : (j - 1 + 1074).toNat = b := by omega
  rw [← hX] at hxs
  rw [bnd63OffsetOld_pow2 j hj1 (by omega)] at hexact ⊢
  rw [hasign] at hexact
  rw [toScaled_sign_or _ hc63, toScaled_pow2 (j - 1) (by omega) (by omega), sI_mul_pow, Nat.one_mul, hh, hxs, sI_add]
    at hexact
  have hb52 : 4503599627370496 ≤ 2 ^ b := by
    have : (2 : Nat) ^ 52 ≤ 2 ^ b := Nat.pow_le_pow_right (by norm_num) (by omega)
    norm_num at this; exact this
  rw [hxs, abs_sI, hd] at hdom
  have hdomN : X < 4503599627370496 * (2 * 2 ^ b) := by exact_mod_cast hdom
  obtain ⟨R, hlane, hR1, hR2⟩ := bnd63Lane_val j (by omega) (by omega) hasign
    (by rw [hexact, abs_sI]; exact_mod_cast (by omega : 4503599627370496 ≤ X + 2 ^ b))
    (by rw [hexact, abs_sI, hd]; exact_mod_cast (by omega : X + 2 ^ b < 9223372036854775808 * (2 * 2 ^ b)))
  rw [hexact, abs_sI, hd] at hR1 hR2
  rw [hlane, hxs, hd, ← mul_one (sI _ X), sI_mul_sub]
  push_cast at hR1 hR2 ⊢
  have : |(R : Int) * (2 * 2 ^ b) - X * 1| ≤ 2 ^ b := abs_le.2 ⟨by linarith only [hR2], by linarith only [hR1]⟩
  linarith only [this]

end Spq.Conv
