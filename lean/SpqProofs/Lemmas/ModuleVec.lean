/-
  The limb-wise functions of the module (`vecDft`, `vecIdft`, `svpApply`): size and limb read-back of an
  append fold, and the exact-arithmetic consequences used by C01 / C02.
-/
import SpqProofs.Lemmas.ModuleProd
import SpqProofs.Lemmas.ModuleArr
import SpqProofs.Lemmas.ModuleVmpLoop
namespace Spq.Module
open Finset Spq Reim4
variable {α : Type}

/-- a limb that lies inside the vector has `nn` coefficients (discharges the `hlimb` hypotheses) -/
theorem size_limbOf (x : Array Int) (i sl nn : Nat) (h : i * sl + nn ≤ x.size) : (limbOf x i sl nn).size = nn := by
  unfold limbOf; exact size_extract_of_le x (i * sl) nn h

theorem getD_append (a b : Array α) (x : Nat) (z : α) :
    (a ++ b).getD x z = if x < a.size then a.getD x z else b.getD (x - a.size) z := by
  simp only [Array.getD_eq_getD_getElem?, Array.getElem?_append]
  split <;> rfl

theorem dlimb_append_lt (a b : Array α) (i w : Nat) (h : i * w + w ≤ a.size) :
    dlimb (a ++ b) i w = dlimb a i w := by
  unfold dlimb
  rw [Array.extract_append, show i * w + w - a.size = 0 by omega]
  simp

theorem dlimb_append_eq (a b : Array α) (r w : Nat) (ha : a.size = r * w) (hb : b.size = w) :
    dlimb (a ++ b) r w = b := by
  unfold dlimb
  rw [Array.extract_append, ha, Array.extract_eq_empty_of_le (by simp [ha])]
  simp [hb]

theorem appendFold_spec (n w : Nat) (g : Nat → Array α) (hg : ∀ i, i < n → (g i).size = w) :
    ((List.range n).foldl (fun acc i => acc ++ g i) #[]).size = n * w ∧
    ∀ i, i < n → dlimb ((List.range n).foldl (fun acc i => acc ++ g i) #[]) i w = g i := by
  refine foldl_range_inv
    (P := fun r (acc : Array α) => acc.size = r * w ∧ ∀ i, i < r → dlimb acc i w = g i)
    (fun acc i => acc ++ g i) n #[] ⟨by simp, fun i hi => by omega⟩ ?_
  intro r acc hr ⟨i1, i2⟩
  refine ⟨by rw [Array.size_append, i1, hg r hr, Nat.add_mul, Nat.one_mul], fun i hi => ?_⟩
  by_cases e : i = r
  · subst e; exact dlimb_append_eq acc _ i w i1 (hg i hr)
  · have hlt : i < r := by omega
    rw [dlimb_append_lt _ _ _ _ (by rw [i1]; exact mul_step i r w hlt), i2 i hlt]

theorem appendFold_spec' (n w : Nat) (g g' : Nat → Array α) (hg : ∀ i, i < n → g i = g' i)
    (hs : ∀ i, i < n → (g' i).size = w) :
    ((List.range n).foldl (fun acc i => acc ++ g i) #[]).size = n * w ∧
    ∀ i, i < n → dlimb ((List.range n).foldl (fun acc i => acc ++ g i) #[]) i w = g' i := by
  obtain ⟨a, b⟩ := appendFold_spec n w g (fun i hi => by rw [hg i hi]; exact hs i hi)
  exact ⟨a, fun i hi => by rw [b i hi, hg i hi]⟩

theorem vecDft_spec (c : Parts α) (rsz : Nat) (a : Array Int) (asz asl : Nat) (g' : Nat → Array α)
    (hg : ∀ i, i < rsz → (if i < asz then c.fft (c.fromZnx (limbOf a i asl c.nn)) else Array.replicate c.nn c.ar.zero) = g' i)
    (hs : ∀ i, i < rsz → (g' i).size = c.nn) :
    (vecDft c rsz a asz asl).size = rsz * c.nn ∧ ∀ i, i < rsz → dlimb (vecDft c rsz a asz asl) i c.nn = g' i := by
  unfold vecDft
  exact appendFold_spec' rsz c.nn _ g' hg hs

theorem svpApply_spec (c : Parts α) (rsz : Nat) (ppol : Array α) (a : Array Int) (asz asl : Nat) (g' : Nat → Array α)
    (hg : ∀ i, i < rsz → (if i < asz then mul c (c.fft (c.fromZnx (limbOf a i asl c.nn))) ppol
      else Array.replicate c.nn c.ar.zero) = g' i)
    (hs : ∀ i, i < rsz → (g' i).size = c.nn) :
    (svpApply c rsz ppol a asz asl).size = rsz * c.nn ∧ ∀ i, i < rsz → dlimb (svpApply c rsz ppol a asz asl) i c.nn = g' i := by
  unfold svpApply
  exact appendFold_spec' rsz c.nn _ g' hg hs

theorem vecIdft_spec (c : Parts α) (rsz : Nat) (d : Array α) (dsz : Nat) (g' : Nat → Array Int)
    (hg : ∀ i, i < rsz → (if i < dsz then c.toZnx (c.ifft (dlimb d i c.nn)) else Array.replicate c.nn 0) = g' i)
    (hs : ∀ i, i < rsz → (g' i).size = c.nn) :
    (vecIdft c rsz d dsz).size = rsz * c.nn ∧ ∀ i, i < rsz → dlimb (vecIdft c rsz d dsz) i c.nn = g' i := by
  unfold vecIdft
  exact appendFold_spec' rsz c.nn _ g' hg hs

section exact
variable {R : Type} [CommRing R]

theorem nmulF_comm {K : Type} [CommRing K] (N : Nat) (a b : Nat → K) (k : Nat) : nmulF N a b k = nmulF N b a k := by
  unfold nmulF
  rw [sum_comm]
  apply sum_congr rfl; intro i _
  apply sum_congr rfl; intro j _
  rw [Nat.add_comm i j, mul_comm (b i) (a j)]

theorem nmul_comm (N : Nat) (a b : Array Int) : nmul N a b = nmul N b a := by
  unfold nmul
  congr 1
  funext k
  exact nmulF_comm N _ _ _

theorem icoef_replicate_zero (n k : Nat) : icoef (Array.replicate n 0) k = 0 := getD_replicate 0 n k

theorem fft_zero (c : Parts R) (z : Nat → Cx R) (ha : ExactArith c) (hd : ExactDft c z) :
    c.fft (c.fromZnx (Array.replicate c.nn 0)) = Array.replicate c.nn 0 := by
  have hn := ha.hnn
  apply eq_of_cx_reim c.m _ _ (by rw [hd.fft_size _ (hd.fromZnx_size _ (by simp))]; exact hn) (by simp; exact hn)
  intro j hj
  rw [fft_embed c z ha hd _ (by simp) j hj]
  unfold evalF
  rw [sum_eq_zero]
  · ext
    · simp only [cx_re, Cx.zero_re]; exact (getD_replicate _ _ _).symm
    · simp only [cx_im, Cx.zero_im]; exact (getD_replicate _ _ _).symm
  · intro k _
    simp only [icoef_replicate_zero, map_zero, zero_mul]

theorem idft_zero (c : Parts R) (z : Nat → Cx R) (ha : ExactArith c) (hd : ExactDft c z) :
    c.toZnx (c.ifft (Array.replicate c.nn 0)) = Array.replicate c.nn 0 := by
  have := roundtrip c z hd (Array.replicate c.nn 0) (by simp)
  rw [fft_zero c z ha hd] at this
  exact this

end exact

end Spq.Module
