/-
  C01 rounding budget: the pointwise complex multiply `reim_fftvec_mul_{ref,fma}` as the module runs it
  (`mulA`), for ANY arithmetic record: cell formulas (`mulA_cells`), simulation between arithmetics, the
  standard-model error of one complex product (`cell_err`:  |ĉ − a·b|² ≤ (3/2·γ₂)²·|a|²·|b|², γ₂ = (1+u)² − 1),
  and the binary64 instance: flagged run (`arithOk`) → the bit-level result is finite and its value is the result of
  the guarded rational arithmetic `arG` (`u = 2^-53`), hence the 2-norm error bound of every complex cell (`mul_cell_err`).
-/
import SpqProofs.Lemmas.FftErrSchedIFin
import SpqProofs.Lemmas.Reim4Base
set_option linter.unusedSectionVars false
namespace Spq.ProdErr
open Finset Spq.Reim4 Spq.F64 Spq.FftErr

section generic
variable {α : Type}

/-- `Module.mul`: `reim_fftvec_mul(precomp, r, a, b)` on `m` complexes, `r` fresh -/
def mulA (ar : RArith α) (fma : Bool) (m : ℕ) (a b : Array α) : Array α :=
  let r := Array.replicate (2 * m) ar.zero
  if fma then (reimFftvecMulFma ar m r a b).getD r else reimFftvecMulRef ar m r a b

/-- real part of `(x + iy)(u + iv)` as the selected kernel computes it -/
def cellRe (ar : RArith α) (fma : Bool) (x y u v : α) : α :=
  if fma then ar.fms x u (ar.mul y v) else reRef ar x y u v
/-- imaginary part -/
def cellIm (ar : RArith α) (fma : Bool) (x y u v : α) : α :=
  if fma then ar.fma y u (ar.mul x v) else imRef ar x y u v

theorem mulFmaV_lane' (ar : RArith α) (a_r a_i b_r b_i : V4 α) (l : Nat) :
    (mulFmaV ar a_r a_i b_r b_i).1.lane l = ar.fms (a_r.lane l) (b_r.lane l) (ar.mul (a_i.lane l) (b_i.lane l)) ∧
    (mulFmaV ar a_r a_i b_r b_i).2.lane l = ar.fma (a_i.lane l) (b_r.lane l) (ar.mul (a_r.lane l) (b_i.lane l)) := by
  simp only [mulFmaV, V4.fmsub, V4.fmadd, V4.mul, V4.lane_map3, V4.lane_map2, and_self]

/-- FMA kernel: `4 ∣ m`, as installed by the library -/
theorem mulA_cells (ar : RArith α) (fma : Bool) (m : ℕ) (hm : fma = true → m % 4 = 0) (a b : Array α) :
    (mulA ar fma m a b).size = 2 * m ∧
    ∀ p, p < m →
      (mulA ar fma m a b).getD p ar.zero =
        cellRe ar fma (a.getD p ar.zero) (a.getD (p + m) ar.zero) (b.getD p ar.zero) (b.getD (p + m) ar.zero) ∧
      (mulA ar fma m a b).getD (p + m) ar.zero =
        cellIm ar fma (a.getD p ar.zero) (a.getD (p + m) ar.zero) (b.getD p ar.zero) (b.getD (p + m) ar.zero) := by
  have hr : (Array.replicate (2 * m) ar.zero).size = 2 * m := Array.size_replicate
  cases fma with
  | false =>
    simp only [mulA, Bool.false_eq_true, if_false, cellRe, cellIm]
    unfold reimFftvecMulRef
    obtain ⟨s1, s2, _⟩ := lanes_spec ar.zero m (fun i => i) (fun i => i + m)
      (fun i _ => reRef ar (a.getD i ar.zero) (a.getD (i + m) ar.zero) (b.getD i ar.zero) (b.getD (i + m) ar.zero))
      (fun i _ => imRef ar (a.getD i ar.zero) (a.getD (i + m) ar.zero) (b.getD i ar.zero) (b.getD (i + m) ar.zero))
      (Array.replicate (2 * m) ar.zero)
      (by intro k k' _ _ h; exact h) (by intro k k' _ _ _; omega) (by intro k k' _ _; omega)
      (by intro k hk; rw [hr]; omega)
    exact ⟨by rw [s1, hr], fun p hp => s2 p hp⟩
  | true =>
    have hm4 : m % 4 = 0 := hm rfl
    simp only [mulA, if_true, cellRe, cellIm]
    unfold reimFftvecMulFma
    simp only [hm4, bne_self_eq_false, Bool.false_eq_true, if_false, Option.getD_some]
    obtain ⟨s1, s2, _⟩ := mapV4x2_spec ar.zero (m / 4) (fun j => 4 * j) (fun j => m + 4 * j)
      (fun j _ _ => mulFmaV ar (V4.load ar.zero a (4 * j)) (V4.load ar.zero a (m + 4 * j)) (V4.load ar.zero b (4 * j))
        (V4.load ar.zero b (m + 4 * j)))
      (Array.replicate (2 * m) ar.zero)
      (by intro j j' _ _ _; omega) (by intro j j' _ _ _; omega) (by intro j j' _ _; omega)
      (by intro j hj; rw [hr]; omega)
    refine ⟨by rw [s1, hr], fun p hp => ?_⟩
    have hl : p % 4 < 4 := by omega
    obtain ⟨e1, e2⟩ := s2 (p / 4) (by omega) (p % 4) hl
    obtain ⟨l1, l2⟩ := mulFmaV_lane' ar (V4.load ar.zero a (4 * (p / 4))) (V4.load ar.zero a (m + 4 * (p / 4)))
      (V4.load ar.zero b (4 * (p / 4))) (V4.load ar.zero b (m + 4 * (p / 4))) (p % 4)
    simp only [V4.lane_load _ _ _ _ hl] at l1 l2
    have q0 : 4 * (p / 4) + p % 4 = p := by omega
    have q1 : m + 4 * (p / 4) + p % 4 = p + m := by omega
    simp only [q0, q1] at l1 l2 e1 e2
    exact ⟨by rw [e1, l1], by rw [e2, l2]⟩

variable {β : Type} {R : α → β → Prop} {ar : RArith α} {br : RArith β}

theorem cellRe_sim (h : RArith.Sim R ar br) (fma : Bool) {x x' y y' u u' v v'} (hx : R x x') (hy : R y y')
    (hu : R u u') (hv : R v v') : R (cellRe ar fma x y u v) (cellRe br fma x' y' u' v') := by
  cases fma
  · exact reRef_sim h hx hy hu hv
  · exact h.fms hx hu (h.mul hy hv)

theorem cellIm_sim (h : RArith.Sim R ar br) (fma : Bool) {x x' y y' u u' v v'} (hx : R x x') (hy : R y y')
    (hu : R u u') (hv : R v v') : R (cellIm ar fma x y u v) (cellIm br fma x' y' u' v') := by
  cases fma
  · exact imRef_sim h hx hy hu hv
  · exact h.fma hy hu (h.mul hx hv)

end generic

section err
variable {K : Type} [Field K] [LinearOrder K] [IsStrictOrderedRing K]

theorem cell_err (ar : RArith K) (ε : K) (sm : StdModel ar ε) (fma : Bool) (x y u v : K) :
    (cellRe ar fma x y u v - (x * u - y * v)) ^ 2 + (cellIm ar fma x y u v - (x * v + y * u)) ^ 2 ≤
      (3 / 2 * gam ε) ^ 2 * ((x ^ 2 + y ^ 2) * (u ^ 2 + v ^ 2)) := by
  have hu := sm.u_nonneg
  have hr : |cellRe ar fma x y u v - (x * u - y * v)| ≤ gam ε * (|x * u| + |y * v|) := by
    cases fma
    · exact (reRef_err ar ε sm x y u v).1
    · have t1 := fused_err ε (x * u) (y * v) (ar.mul y v) (ar.fms x u (ar.mul y v)) (-1) hu (Or.inr rfl) (sm.mul _ _)
        (by have := sm.fms x u (ar.mul y v)
            rw [show x * u + -1 * ar.mul y v = x * u - ar.mul y v by ring]
            exact this)
      rw [show x * u + -1 * (y * v) = x * u - y * v by ring] at t1
      exact t1
  have hi : |cellIm ar fma x y u v - (x * v + y * u)| ≤ gam ε * (|x * v| + |y * u|) := by
    cases fma
    · exact (imRef_err ar ε sm x y u v).1
    · have t2 := fused_err ε (y * u) (x * v) (ar.mul x v) (ar.fma y u (ar.mul x v)) 1 hu (Or.inl rfl) (sm.mul _ _)
        (by have := sm.fma y u (ar.mul x v)
            rw [one_mul]; exact this)
      rw [one_mul, add_comm (y * u), add_comm |y * u|] at t2
      exact t2
  have hc := cprod_bound (gam ε) _ _ x y u v hr hi
  refine le_trans hc ?_
  have h0 : 0 ≤ gam ε ^ 2 * ((x ^ 2 + y ^ 2) * (u ^ 2 + v ^ 2)) := by positivity
  linarith

end err

theorem arG_zero : arG.zero = 0 := rfl

theorem mul_transfer (fma : Bool) (m : ℕ) (hm : fma = true → m % 4 = 0) (a b : Array ℕ) (p : ℕ) (hp : p < m)
    (hf1 : ((mulA arithOk fma m (a.map lift) (b.map lift)).getD p arithOk.zero).2)
    (hf2 : ((mulA arithOk fma m (a.map lift) (b.map lift)).getD (p + m) arithOk.zero).2) :
    (Fin64 ((mulA F64.arith fma m a b).getD p 0) ∧
      val ((mulA F64.arith fma m a b).getD p 0) =
        cellRe arG fma (val (a.getD p 0)) (val (a.getD (p + m) 0)) (val (b.getD p 0)) (val (b.getD (p + m) 0))) ∧
    (Fin64 ((mulA F64.arith fma m a b).getD (p + m) 0) ∧
      val ((mulA F64.arith fma m a b).getD (p + m) 0) =
        cellIm arG fma (val (a.getD p 0)) (val (a.getD (p + m) 0)) (val (b.getD p 0)) (val (b.getD (p + m) 0))) := by
  obtain ⟨c1, c2⟩ := (mulA_cells arithOk fma m hm (a.map lift) (b.map lift)).2 p hp
  obtain ⟨d1, d2⟩ := (mulA_cells F64.arith fma m hm a b).2 p hp
  have rq : ∀ (x : Array ℕ) i, RelQ ((x.map lift).getD i arithOk.zero) (val (x.getD i 0)) := by
    intro x i
    have := lift_rel_arG x i
    rw [arG_zero, ← val_zero, getD_map] at this
    exact this
  have rb : ∀ (x : Array ℕ) i, ((x.map lift).getD i arithOk.zero).1 = x.getD i 0 := fun x i => lift_rel_arith x i
  have z0 : F64.arith.zero = 0 := rfl
  rw [z0] at d1 d2
  constructor
  · have s1 : (cellRe arithOk fma ((a.map lift).getD p arithOk.zero) ((a.map lift).getD (p + m) arithOk.zero)
        ((b.map lift).getD p arithOk.zero) ((b.map lift).getD (p + m) arithOk.zero)).1 =
        cellRe F64.arith fma (a.getD p 0) (a.getD (p + m) 0) (b.getD p 0) (b.getD (p + m) 0) :=
      cellRe_sim arithOk_sim_arith fma (rb a p) (rb a (p + m)) (rb b p) (rb b (p + m))
    have s2 := cellRe_sim arithOk_sim_arG fma (rq a p) (rq a (p + m)) (rq b p) (rq b (p + m))
    rw [c1] at hf1
    rw [d1]
    generalize cellRe arithOk fma ((a.map lift).getD p arithOk.zero) ((a.map lift).getD (p + m) arithOk.zero)
        ((b.map lift).getD p arithOk.zero) ((b.map lift).getD (p + m) arithOk.zero) = X at s1 s2 hf1
    obtain ⟨h1, h2⟩ := s2 hf1
    rw [s1] at h1 h2
    exact ⟨h1, h2⟩
  · have s1 : (cellIm arithOk fma ((a.map lift).getD p arithOk.zero) ((a.map lift).getD (p + m) arithOk.zero)
        ((b.map lift).getD p arithOk.zero) ((b.map lift).getD (p + m) arithOk.zero)).1 =
        cellIm F64.arith fma (a.getD p 0) (a.getD (p + m) 0) (b.getD p 0) (b.getD (p + m) 0) :=
      cellIm_sim arithOk_sim_arith fma (rb a p) (rb a (p + m)) (rb b p) (rb b (p + m))
    have s2 := cellIm_sim arithOk_sim_arG fma (rq a p) (rq a (p + m)) (rq b p) (rq b (p + m))
    rw [c2] at hf2
    rw [d2]
    generalize cellIm arithOk fma ((a.map lift).getD p arithOk.zero) ((a.map lift).getD (p + m) arithOk.zero)
        ((b.map lift).getD p arithOk.zero) ((b.map lift).getD (p + m) arithOk.zero) = X at s1 s2 hf2
    obtain ⟨h1, h2⟩ := s2 hf2
    rw [s1] at h1 h2
    exact ⟨h1, h2⟩

variable {K : Type} [Field K] [LinearOrder K] [IsStrictOrderedRing K]

/-- complex cell `j` of a reim vector of `m` complexes, as a complex number over `K` -/
def cpl (x : Array ℕ) (m j : ℕ) : Cplx K := toC (((val (x.getD j 0) : ℚ) : K), ((val (x.getD (m + j) 0) : ℚ) : K))

theorem outC_eq_cpl (x : Array ℕ) (k j : ℕ) : (outC x k j : Cplx K) = cpl x (2 ^ k) j := by
  unfold outC cpl
  simp only [getElem!_def, Array.getD_eq_getD_getElem?]
  rfl

/-- the constant of the pointwise product: `μ = 3/2·((1+u)² − 1)`, `u = 2^-53` (`≈ 3u`) -/
def mu64 : ℚ := 3 / 2 * gam u64

theorem mu64_nonneg : 0 ≤ mu64 := by
  unfold mu64; have := gam_nonneg (le_of_lt u64_pos); positivity

theorem mul_cell_err (fma : Bool) (m : ℕ) (hm : fma = true → m % 4 = 0) (a b : Array ℕ) (p : ℕ) (hp : p < m)
    (hf1 : ((mulA arithOk fma m (a.map lift) (b.map lift)).getD p arithOk.zero).2)
    (hf2 : ((mulA arithOk fma m (a.map lift) (b.map lift)).getD (p + m) arithOk.zero).2) :
    Fin64 ((mulA F64.arith fma m a b).getD p 0) ∧ Fin64 ((mulA F64.arith fma m a b).getD (p + m) 0) ∧
    nsq (cpl (mulA F64.arith fma m a b) m p - cpl a m p * cpl b m p : Cplx K) ≤
      ((mu64 : ℚ) : K) ^ 2 * (nsq (cpl a m p : Cplx K) * nsq (cpl b m p : Cplx K)) := by
  obtain ⟨⟨f1, v1⟩, ⟨f2, v2⟩⟩ := mul_transfer fma m hm a b p hp hf1 hf2
  refine ⟨f1, f2, ?_⟩
  have hq := cell_err arG u64 arG_stdModel fma (val (a.getD p 0)) (val (a.getD (p + m) 0)) (val (b.getD p 0))
    (val (b.getD (p + m) 0))
  rw [← v1, ← v2] at hq
  have hK := (Rat.cast_le (K := K)).2 hq
  unfold mu64
  simp only [nsq, cpl, toC, QuadraticAlgebra.re_sub, QuadraticAlgebra.im_sub, QuadraticAlgebra.re_mul,
    QuadraticAlgebra.im_mul, Nat.add_comm m p]
  push_cast at hK ⊢
  refine le_trans (le_of_eq ?_) hK
  ring

end Spq.ProdErr
