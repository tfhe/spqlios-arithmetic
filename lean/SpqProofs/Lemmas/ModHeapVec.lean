/-
  The limb-vector entry points whose functional model is an append fold (`vec_znx_dft`, `svp_apply_dft`,
  `vec_znx_idft_tmp_a`): `vec_refine` (limb loop + `memset` tail against the fold), the conversion-and-transform
  step they share (`dftStep`), and `vec_znx_dft` itself.
-/
import SpqProofs.Lemmas.ModHeapLoop
import SpqProofs.Lemmas.ModuleVec
namespace Spq.ModuleHeap
open Spq Heap Reim4
variable {γ α : Type}

/-- the int64 array a C pointer at offset `a` designates: everything from `a` to the end of the arena -/
def viewI (cd : Cells γ α) (mem : Array γ) (a : Nat) : Array Int := (mem.extract a mem.size).map cd.decI

theorem limbOf_viewI (cd : Cells γ α) (h : Heap γ) (a i sl nn : Nat) (hb : a + i * sl + nn ≤ h.mem.size) :
    Module.limbOf (viewI cd h.mem a) i sl nn = rdI cd h (a + i * sl) nn := by
  unfold Module.limbOf viewI rdI
  rw [readLimb_eq_extract _ _ _ _ hb, ← Array.map_extract, Array.extract_extract]
  congr 2
  omega

theorem dlimb_eq (x : Array α) (i nn : Nat) : Module.dlimb x i nn = x.extract (i * nn) (i * nn + nn) := rfl

theorem region_fold {β : Type} (g g' : Heap γ) (d : γ) (enc : β → γ) (res rsz smin nn : Nat) (hsm : smin ≤ rsz)
    (G : Nat → Array β) (z : β)
    (hv : ∀ i, i < smin → g.readLimb d (res + i * nn) nn = (G i).map enc)
    (fz : Fr (In (res + smin * nn) ((rsz - smin) * nn)) g g')
    (vz : g'.readLimb d (res + smin * nn) ((rsz - smin) * nn) = (Array.replicate ((rsz - smin) * nn) z).map enc)
    (hG : ∀ i, smin ≤ i → i < rsz → G i = Array.replicate nn z) :
    g'.readLimb d res (rsz * nn) = ((List.range rsz).foldl (fun acc i => acc ++ G i) #[]).map enc := by
  -- the limb sizes the fold needs are read off the heap windows
  have hs : ∀ i, i < rsz → (G i).size = nn := by
    intro i hi
    by_cases h : i < smin
    · have := congrArg Array.size (hv i h)
      simpa using this.symm
    · rw [hG i (by omega) hi, Array.size_replicate]
  obtain ⟨xs, xl⟩ := Module.appendFold_spec rsz nn G hs
  rw [Array.map_replicate] at vz
  refine region_assemble g g' d res rsz smin nn hsm (fun i => (G i).map enc) (enc z) _ (by rw [Array.size_map, xs]) hv fz vz ?_ ?_
  · intro i hi
    rw [← Array.map_extract, ← dlimb_eq, xl i (by omega)]
  · intro i h1 h2
    rw [← Array.map_extract, ← dlimb_eq, xl i h2, hG i h1 h2, Array.map_replicate]

theorem vec_refine {β : Type} (nn res rsz smin : Nat) (hsm : smin ≤ rsz) (body : Nat → Heap γ → Heap γ)
    (tail : Heap γ → Heap γ) (h : Heap γ) (d : γ) (enc : β → γ) (z : β) (G : Nat → Array β) (J : Nat → Nat → Prop)
    (hJ : ∀ i j x, j < i → i < smin → J i x → ¬ In (res + j * nn) nn x)
    (hstep : ∀ i g, i < smin → Fr (fun x => In res (i * nn) x ∨ ∃ j, j < i ∧ J j x) h g →
      Fr (fun x => In (res + i * nn) nn x ∨ J i x) g (body i g) ∧
        (body i g).readLimb d (res + i * nn) nn = (G i).map enc)
    (htail : ∀ g, g.mem.size = h.mem.size → Fr (In (res + smin * nn) ((rsz - smin) * nn)) g (tail g) ∧
      (tail g).readLimb d (res + smin * nn) ((rsz - smin) * nn) = (Array.replicate ((rsz - smin) * nn) z).map enc)
    (hG : ∀ i, smin ≤ i → i < rsz → G i = Array.replicate nn z) :
    Fr (fun x => In res (rsz * nn) x ∨ ∃ j, j < smin ∧ J j x) h (tail (loop smin body h)) ∧
    (tail (loop smin body h)).readLimb d res (rsz * nn) =
      ((List.range rsz).foldl (fun acc i => acc ++ G i) #[]).map enc := by
  obtain ⟨fl, vl⟩ := limbLoop nn res smin body h d (fun i => (G i).map enc) J hJ hstep
  obtain ⟨fz, vz⟩ := htail _ fl.size
  refine ⟨(fl.trans fz).mono (fun x q => ?_), region_fold _ _ d enc res rsz smin nn hsm G z vl fz vz hG⟩
  exact q.elim (fun q => q.elim (fun q => Or.inl ((Sub.pre res nn rsz smin hsm).mem x q)) Or.inr)
    (fun q => Or.inl ((Sub.tail res nn rsz smin hsm).mem x q))

section
variable (c : Module.Parts α) (cd : Cells γ α) (hs : Sized c) (hr : RoundTrip cd) (h : Heap γ)
include hs hr

/-- one iteration of `fft64_vec_znx_dft`: convert into the result window, transform in place -/
theorem dftStep (g : Heap γ) (W : Nat → Prop) (f : Fr W h g) (r s : Nat) (hrb : r + c.nn ≤ h.mem.size)
    (hsb : s + c.nn ≤ h.mem.size) (hd : s + c.nn ≤ r ∨ r + c.nn ≤ s) (hW : ∀ x, In s c.nn x → ¬ W x) :
    Fr (In r c.nn) g (kFft c cd r (kFromZnx c cd r s g)) ∧
    (kFft c cd r (kFromZnx c cd r s g)).readLimb cd.dflt r c.nn = (c.fft (c.fromZnx (rdI cd h s c.nn))).map cd.enc := by
  obtain ⟨f1, v1⟩ := kFromZnx_spec c cd g hs r s (by rw [f.size]; exact hsb) (by rw [f.size]; exact hrb)
    (sameOrDisj_of _ _ _ hd.symm)
  obtain ⟨f2, v2⟩ := kFft_spec c cd (kFromZnx c cd r s g) hs r (by rw [f1.size, f.size]; exact hrb)
  refine ⟨f1.trans' f2, ?_⟩
  rw [v2, rdD_of_cells cd hr _ _ _ _ v1, rdI_of_fr f cd _ _ hW]

theorem vecDft_heap (res rsz a asz asl : Nat) (hres : res + rsz * c.nn ≤ h.mem.size)
    (hsrc : ∀ i, i < min rsz asz → a + i * asl + c.nn ≤ h.mem.size ∧
      (a + i * asl + c.nn ≤ res ∨ res + rsz * c.nn ≤ a + i * asl)) :
    Fr (In res (rsz * c.nn)) h (vecDft c cd h res rsz a asz asl) ∧
    (vecDft c cd h res rsz a asz asl).readLimb cd.dflt res (rsz * c.nn) =
      (Module.vecDft c rsz (viewI cd h.mem a) asz asl).map cd.enc := by
  have hsm : min rsz asz ≤ rsz := Nat.min_le_left _ _
  obtain ⟨f, v⟩ := vec_refine c.nn res rsz (min rsz asz) hsm
    (fun i h => h |> kFromZnx c cd (res + i * c.nn) (a + i * asl) |> kFft c cd (res + i * c.nn))
    (kZeroD c cd (res + min rsz asz * c.nn) ((rsz - min rsz asz) * c.nn)) h cd.dflt cd.enc c.ar.zero
    (fun i => if i < asz then c.fft (c.fromZnx (Module.limbOf (viewI cd h.mem a) i asl c.nn))
      else Array.replicate c.nn c.ar.zero)
    (fun _ _ => False) (fun _ _ _ _ _ q => q.elim)
    (fun i g hi f => by
      have hi2 := hsrc i hi
      have hir : i < rsz := Nat.lt_of_lt_of_le hi hsm
      have SL : Sub (res + i * c.nn) c.nn res (rsz * c.nn) := Sub.limb _ _ _ i hir
      rw [if_pos (Nat.lt_of_lt_of_le hi (Nat.min_le_right _ _)), limbOf_viewI cd h a i asl c.nn hi2.1]
      obtain ⟨f1, v1⟩ := dftStep c cd hs hr h g _ f (res + i * c.nn) (a + i * asl) (SL.le hres) hi2.1
        (Dj.mono hi2.2 (Sub.refl _ _) SL)
        (fun x hx hw => hw.elim
          (fun hw => Dj.not_mem hi2.2 x hx ((Sub.pre res c.nn rsz i (Nat.le_of_lt hir)).mem x hw)) (fun ⟨_, _, q⟩ => q))
      exact ⟨f1.mono (fun x q => Or.inl q), v1⟩)
    (fun g hg => kZeroD_spec c cd g _ _ (hg ▸ (Sub.tail res c.nn rsz _ hsm).le hres))
    (fun i h1 h2 => if_neg (by omega))
  exact ⟨f.mono (fun x q => q.elim id (fun ⟨_, _, q⟩ => q.elim)), v⟩

end
end Spq.ModuleHeap
