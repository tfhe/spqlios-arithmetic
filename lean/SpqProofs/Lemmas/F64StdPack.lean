/-
  The value of `pack neg M E` for every nonzero `M` and every `E` (normal range, subnormal range, carry):
  finite unless the exact value reaches the overflow threshold, within half a unit in the last place of `M·2^E`.
-/
import SpqProofs.Lemmas.F64StdVal

namespace Spq.F64

theorem two_zpow_pos (e : ℤ) : (0 : ℚ) < 2 ^ e := zpow_pos (by norm_num) e

theorem two_zpow_add (a b : ℤ) : (2 : ℚ) ^ (a + b) = 2 ^ a * 2 ^ b := zpow_add₀ (by norm_num) a b

theorem two_zpow_le {a b : ℤ} (h : a ≤ b) : (2 : ℚ) ^ a ≤ 2 ^ b := zpow_le_zpow_right₀ (by norm_num) h

theorem two_zpow_lt {a b : ℤ} (h : a < b) : (2 : ℚ) ^ a < 2 ^ b := zpow_lt_zpow_right₀ (by norm_num) h

theorem two_zpow_le_iff {a b : ℤ} : (2 : ℚ) ^ a ≤ 2 ^ b ↔ a ≤ b := zpow_le_zpow_iff_right₀ (by norm_num)

theorem two_zpow_lt_iff {a b : ℤ} : (2 : ℚ) ^ a < 2 ^ b ↔ a < b := zpow_lt_zpow_iff_right₀ (by norm_num)

theorem fin64_normal_pattern (neg : Bool) (ex fr : Nat) (h2 : ex ≤ 2046) (hfr : fr < 4503599627370496) :
    Fin64 (sgn neg + ex * 4503599627370496 + fr) := by
  unfold Fin64 isFinite expField
  have hex : (sgn neg + ex * 4503599627370496 + fr) / 4503599627370496 % 2048 = ex := by
    rcases sgn_cases neg with ⟨_, h⟩ | ⟨_, h⟩ <;> rw [h] <;> omega
  rw [hex]
  refine ⟨?_, ?_⟩
  · rcases sgn_cases neg with ⟨_, h⟩ | ⟨_, h⟩ <;> rw [h] <;> omega
  · simp only [bne_iff_ne, ne_eq]; omega

theorem fin64_subnormal_pattern (neg : Bool) (q : Nat) (hq : q < 4503599627370496) : Fin64 (sgn neg + q) := by
  have := fin64_normal_pattern neg 0 q (by omega) hq
  simpa using this

theorem fin64_encode (neg : Bool) (q : Nat) (e1 : Int) (hq : q ≤ 9007199254740992)
    (h1 : 4503599627370496 ≤ q → e1 ≤ 971) (h2 : q = 9007199254740992 → e1 < 971) : Fin64 (encode neg q e1) := by
  rcases Nat.lt_or_ge q 4503599627370496 with hlt | hge
  · rw [encode_subnormal neg q e1 hlt]; exact fin64_subnormal_pattern neg q hlt
  · have := h1 hge
    rcases Nat.lt_or_ge q 9007199254740992 with hlt | hge'
    · rw [encode_normal neg q e1 hge hlt (by omega)]
      exact fin64_normal_pattern neg _ _ (by omega) (by omega)
    · obtain rfl : q = 9007199254740992 := by omega
      have := h2 rfl
      rw [encode_carry neg e1 (by omega)]
      have := fin64_normal_pattern neg (e1 + 1 + 1075).toNat 0 (by omega) (by omega)
      simpa using this

theorem rneI_zpow_of_nonpos (M : Nat) {sh : Int} (h : sh ≤ 0) : (rneI M sh : ℚ) * 2 ^ sh = M := by
  unfold rneI
  rw [if_pos h]
  obtain ⟨n, rfl⟩ : ∃ n : Nat, sh = -(n : Int) := ⟨sh.natAbs, by omega⟩
  simp only [Int.natAbs_neg, Int.natAbs_natCast]
  push_cast
  rw [mul_assoc, ← zpow_natCast, ← two_zpow_add]
  have : ((n : ℤ) + -(n : ℤ)) = 0 := by omega
  rw [this, zpow_zero, mul_one]

theorem rneI_err (M : Nat) (sh : Int) : |(rneI M sh : ℚ) * 2 ^ sh - M| ≤ 2 ^ sh / 2 := by
  rcases le_or_gt sh 0 with h | h
  · rw [rneI_zpow_of_nonpos M h, sub_self, abs_zero]
    exact le_of_lt (div_pos (two_zpow_pos _) (by norm_num))
  · obtain ⟨k, hk⟩ : ∃ k : Nat, sh = (k : Int) := ⟨sh.toNat, by omega⟩
    subst hk
    unfold rneI
    rw [if_neg (by omega), Int.toNat_natCast, zpow_natCast]
    obtain ⟨h1, h2⟩ := rne_err M k
    have h1' : (2 : ℚ) * ((rne M k : ℚ) * 2 ^ k) ≤ 2 * M + 2 ^ k := by exact_mod_cast h1
    have h2' : (2 : ℚ) * M ≤ 2 * ((rne M k : ℚ) * 2 ^ k) + 2 ^ k := by exact_mod_cast h2
    rw [abs_le]; constructor <;> linarith

theorem log2_zpow_le {M : Nat} (hM : M ≠ 0) : (2 : ℚ) ^ (((M.log2 + 1 : Nat) : ℤ) - 1) ≤ M := by
  have h := Nat.log2_self_le hM
  have e : ((M.log2 + 1 : Nat) : ℤ) - 1 = (M.log2 : ℤ) := by push_cast; omega
  rw [e, zpow_natCast]
  exact_mod_cast h

theorem shift_cases (M : Nat) (E : Int) (hM : M ≠ 0) :
    rneI M (shiftOf M E) ≤ 9007199254740992 ∧
    ((4503599627370496 ≤ rneI M (shiftOf M E) ∧ -1074 ≤ E + shiftOf M E ∧ (2 : ℚ) ^ (52 + shiftOf M E) ≤ M) ∨
     (E + shiftOf M E = -1074 ∧ rneI M (shiftOf M E) ≤ 4503599627370496 ∧
       (-1074 ≤ E → (rneI M (shiftOf M E) : ℚ) * 2 ^ shiftOf M E = M))) := by
  obtain ⟨len, hlen⟩ : ∃ len, M.log2 + 1 = len := ⟨_, rfl⟩
  rcases Int.lt_or_le (E + (len : Int) - 53) (-1074) with hsub | hnorm
  · obtain ⟨hsh, hq⟩ := shift_clamped M E len hM (by rw [← hlen]; exact Nat.lt_log2_self) hsub
    rw [hsh]
    exact ⟨by omega, Or.inr ⟨by omega, hq, fun hE => rneI_zpow_of_nonpos M (by omega)⟩⟩
  · obtain ⟨hsh, hq1, hq2⟩ := shift_normal hM hlen hnorm
    have hL := log2_zpow_le hM
    rw [hlen] at hL
    rw [hsh, show (52 : ℤ) + ((len : Int) - 53) = (len : ℤ) - 1 by omega]
    exact ⟨hq2, Or.inl ⟨hq1, by omega, hL⟩⟩

theorem ovfThr_lt : ovfThr < 2 ^ (1024 : ℤ) := by
  unfold ovfThr
  have h1 : (2 : ℚ) ^ (1024 : ℤ) = 2 ^ 54 * 2 ^ (970 : ℤ) := by
    rw [← zpow_natCast, ← two_zpow_add]; norm_num
  have hp := two_zpow_pos 970
  rw [h1]
  clear h1
  generalize (2 : ℚ) ^ (970 : ℤ) = X at *
  have : (2 : ℚ) ^ 54 * X - X = (2 ^ 54 - 1) * X := by ring
  linarith

theorem ovfThr_eq_971 : ovfThr = (2 ^ 53 - 1 / 2) * 2 ^ (971 : ℤ) := by
  unfold ovfThr
  have h1 : (2 : ℚ) ^ (971 : ℤ) = 2 * 2 ^ (970 : ℤ) := by
    have : (971 : ℤ) = 1 + 970 := by norm_num
    rw [this, two_zpow_add, zpow_one]
  rw [h1]
  generalize (2 : ℚ) ^ (970 : ℤ) = X
  ring

theorem sv_sub_abs (s : Bool) (q M : Nat) (e1 E : Int) :
    |sv s q e1 - sv s M E| = |(q : ℚ) * 2 ^ e1 - (M : ℚ) * 2 ^ E| := by
  cases s
  · simp [sv, sI]
  · simp only [sv, sI, if_true]
    push_cast
    rw [← abs_neg]; congr 1; ring

theorem rneI_err_scaled (M : Nat) (E sh : Int) :
    |(rneI M sh : ℚ) * 2 ^ (E + sh) - (M : ℚ) * 2 ^ E| ≤ 2 ^ (E + sh) / 2 := by
  have hE := two_zpow_pos E
  have e : (rneI M sh : ℚ) * 2 ^ (E + sh) - (M : ℚ) * 2 ^ E = 2 ^ E * ((rneI M sh : ℚ) * 2 ^ sh - M) := by
    rw [two_zpow_add]; ring
  rw [e, abs_mul, abs_of_pos hE, two_zpow_add, mul_div_assoc]
  exact mul_le_mul_of_nonneg_left (rneI_err M sh) (le_of_lt hE)

theorem pack_val (neg : Bool) (M : Nat) (E : Int) (hM : M ≠ 0) (hov : (M : ℚ) * 2 ^ E < ovfThr) :
    Fin64 (pack neg M E) ∧ val (pack neg M E) = sv neg (rneI M (shiftOf M E)) (E + shiftOf M E) := by
  obtain ⟨hq53, hc⟩ := shift_cases M E hM
  have herr2 := rneI_err_scaled M E (shiftOf M E)
  have hlo := (shift_range M E hM).2.1
  have hE := two_zpow_pos E
  have hexp : (4503599627370496 ≤ rneI M (shiftOf M E) → E + shiftOf M E ≤ 971) ∧
      (rneI M (shiftOf M E) = 9007199254740992 → E + shiftOf M E < 971) := by
    generalize shiftOf M E = sh at *
    generalize rneI M sh = q at *
    rcases hc with ⟨h52, he1, hML⟩ | ⟨he1, hq52, _⟩
    · have hle : E + sh ≤ 971 := by
        by_contra hcon
        have h1 : (2 : ℚ) ^ (1024 : ℤ) ≤ 2 ^ (52 + sh) * 2 ^ E := by
          rw [← two_zpow_add]; exact two_zpow_le (by omega)
        have h2 : (2 : ℚ) ^ (52 + sh) * 2 ^ E ≤ (M : ℚ) * 2 ^ E := mul_le_mul_of_nonneg_right hML (le_of_lt hE)
        linarith [ovfThr_lt]
      refine ⟨fun _ => hle, fun hq => ?_⟩
      by_contra hcon
      -- a carry at the top exponent would mean `M·2^E` is within half an ulp of `2^1024`
      have he : E + sh = 971 := by omega
      rw [he, hq] at herr2
      rw [ovfThr_eq_971] at hov
      generalize (2 : ℚ) ^ (971 : ℤ) = X at *
      have := (abs_le.1 herr2).2
      push_cast at this
      have e : ((2 : ℚ) ^ 53 - 1 / 2) * X = 9007199254740992 * X - X / 2 := by ring
      linarith
    · exact ⟨fun _ => by omega, fun _ => by omega⟩
  exact ⟨by rw [pack_eq neg M E hM]; exact fin64_encode neg _ _ hq53 hexp.1 hexp.2,
    val_of_scaled hlo (toScaled_pack neg M E hM hexp.1 hexp.2)⟩

/-- `2^e1` is the unit in the last place of the result. -/
theorem pack_core (neg : Bool) (M : Nat) (E : Int) (hM : M ≠ 0) (hov : (M : ℚ) * 2 ^ E < ovfThr) :
    ∃ e1 : ℤ, -1074 ≤ e1 ∧ Fin64 (pack neg M E) ∧ |val (pack neg M E) - sv neg M E| ≤ 2 ^ e1 / 2 ∧
      ((2 : ℚ) ^ (52 + e1) ≤ (M : ℚ) * 2 ^ E ∨ (e1 = -1074 ∧ (-1074 ≤ E → val (pack neg M E) = sv neg M E))) := by
  obtain ⟨hfin, hval⟩ := pack_val neg M E hM hov
  obtain ⟨_, hc⟩ := shift_cases M E hM
  have herr2 := rneI_err_scaled M E (shiftOf M E)
  generalize shiftOf M E = sh at *
  generalize rneI M sh = q at *
  have hE := two_zpow_pos E
  refine ⟨E + sh, ?_, hfin, ?_, ?_⟩
  · rcases hc with ⟨_, he1, _⟩ | ⟨he1, _, _⟩ <;> omega
  · rw [hval, sv_sub_abs]; exact herr2
  · rcases hc with ⟨_, _, hML⟩ | ⟨he1, _, hex⟩
    · left
      have e : (52 : ℤ) + (E + sh) = (52 + sh) + E := by ring
      rw [e, two_zpow_add]
      exact mul_le_mul_of_nonneg_right hML (le_of_lt hE)
    · right
      refine ⟨he1, fun h => ?_⟩
      have hx := hex h
      rw [hval]
      unfold sv
      rw [two_zpow_add]
      cases neg <;> simp only [sI, if_true, Bool.false_eq_true, if_false] <;> push_cast <;> rw [← hx] <;> ring

/-- rounding never leaves the grid `2^E·ℤ` of its argument -/
theorem pack_form (neg : Bool) (M : Nat) (E : Int) (hM : M ≠ 0) (hov : (M : ℚ) * 2 ^ E < ovfThr) :
    ∃ N : ℕ, val (pack neg M E) = sv neg N E := by
  have hr : ∀ sh : ℤ, ∃ N : ℕ, (rneI M sh : ℚ) * 2 ^ sh = N := by
    intro sh
    rcases le_or_gt sh 0 with h | h
    · exact ⟨M, rneI_zpow_of_nonpos M h⟩
    · obtain ⟨k, hk⟩ : ∃ k : Nat, sh = (k : Int) := ⟨sh.toNat, by omega⟩
      subst hk
      refine ⟨rne M k * 2 ^ k, ?_⟩
      unfold rneI
      rw [if_neg (by omega), Int.toNat_natCast, zpow_natCast]; push_cast; ring
  obtain ⟨N, hN⟩ := hr (shiftOf M E)
  refine ⟨N, ?_⟩
  rw [(pack_val neg M E hM hov).2]
  generalize shiftOf M E = sh at *
  generalize rneI M sh = q at *
  unfold sv
  rw [two_zpow_add]
  have e : ((sI neg q : ℤ) : ℚ) * (2 ^ E * 2 ^ sh) = (if neg then -1 else 1) * (((q : ℚ) * 2 ^ sh) * 2 ^ E) := by
    cases neg <;> simp [sI] <;> ring
  have e' : ((sI neg N : ℤ) : ℚ) * 2 ^ E = (if neg then -1 else 1) * ((N : ℚ) * 2 ^ E) := by
    cases neg <;> simp [sI]
  rw [e, e', hN]

theorem half_zpow (e : ℤ) : (2 : ℚ) ^ e / 2 = u64 * 2 ^ (52 + e) := by
  unfold u64
  rw [div_eq_mul_inv, ← zpow_neg_one, ← two_zpow_add, ← two_zpow_add]
  congr 1; ring

theorem halfMinSub_eq : halfMinSub = u64 * minNormal := by
  unfold halfMinSub u64 minNormal
  rw [← two_zpow_add]; norm_num

theorem u64_pos : 0 < u64 := two_zpow_pos _

theorem val_sgn (neg : Bool) : val (sgn neg) = 0 := by
  rw [val_of_decode (decode_sgn neg), sv_zero]

theorem fin64_sgn (neg : Bool) : Fin64 (sgn neg) := by
  have := fin64_subnormal_pattern neg 0 (by norm_num)
  simpa using this

/-- The standard model for `pack`.  The last clause (`E ≥ -1074`: sums of doubles) is the relative bound without a
    lower limit: such a result in the subnormal range is exact. -/
theorem pack_std (neg : Bool) (M : Nat) (E : Int) (hov : (M : ℚ) * 2 ^ E < ovfThr) :
    Fin64 (pack neg M E) ∧
    (minNormal ≤ (M : ℚ) * 2 ^ E → |val (pack neg M E) - sv neg M E| ≤ u64 * ((M : ℚ) * 2 ^ E)) ∧
    ((M : ℚ) * 2 ^ E ≤ minNormal → |val (pack neg M E) - sv neg M E| ≤ halfMinSub) ∧
    (-1074 ≤ E → |val (pack neg M E) - sv neg M E| ≤ u64 * ((M : ℚ) * 2 ^ E)) := by
  have hu := u64_pos
  by_cases hM : M = 0
  · subst hM
    rw [pack_zero, val_sgn, sv_zero, sub_self, abs_zero]
    refine ⟨fin64_sgn neg, fun _ => ?_, fun _ => le_of_lt (two_zpow_pos _), fun _ => ?_⟩ <;> simp
  obtain ⟨e1, he1, hfin, herr, hc⟩ := pack_core neg M E hM hov
  rw [half_zpow] at herr
  have hmono : ∀ {y : ℚ}, (2 : ℚ) ^ (52 + e1) ≤ y → |val (pack neg M E) - sv neg M E| ≤ u64 * y :=
    fun h => le_trans herr (mul_le_mul_of_nonneg_left h (le_of_lt hu))
  refine ⟨hfin, fun hn => ?_, fun hs => ?_, fun hE => ?_⟩
  · rcases hc with h | ⟨h, _⟩
    · exact hmono h
    · apply hmono
      refine le_trans ?_ hn
      rw [h]; unfold minNormal; norm_num
  · have he : e1 = -1074 := by
      rcases hc with h | ⟨h, _⟩
      · have h2 : (2 : ℚ) ^ (52 + e1) ≤ 2 ^ (-1022 : ℤ) := le_trans h hs
        have := two_zpow_le_iff.1 h2
        omega
      · exact h
    rw [halfMinSub_eq]
    apply hmono
    rw [he]; unfold minNormal; norm_num
  · rcases hc with h | ⟨_, h⟩
    · exact hmono h
    · rw [h hE, sub_self, abs_zero]
      exact mul_nonneg (le_of_lt hu) (mul_nonneg (Nat.cast_nonneg _) (le_of_lt (two_zpow_pos _)))

end Spq.F64
