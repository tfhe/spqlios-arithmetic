/-
  C06: arithmetic of the twiddle exponents: `fracrevbits` is a bit reversal, the table cursor of a sub-block
  (`sub_tw`), the exponents of the 16-point leaf pack.
-/
import SpqProofs.Lemmas.FftAlg
import Spq.Fft
namespace Spq.Fft.Tw
open Spq.Fft Spq.Fft.Alg

theorem frbN_zero (n : ℕ) : frbN n 0 = 0 := by rw [frbN]; simp
theorem frbN_one (n : ℕ) : frbN n 1 = n / 2 := by rw [frbN]; simp
theorem frbN_even (n i : ℕ) (hi : 2 ≤ i) (he : i % 2 = 0) : frbN n i = frbN (n / 2) (i / 2) := by
  rw [frbN]; rw [if_neg (by omega), if_neg (by omega), if_pos he]
theorem frbN_odd (n i : ℕ) (hi : 2 ≤ i) (he : i % 2 = 1) : frbN n i = frbN (n / 2) (i / 2) + n / 2 := by
  rw [frbN]; rw [if_neg (by omega), if_neg (by omega), if_neg (by omega)]
  have : (i - 1) / 2 = i / 2 := by omega
  rw [this]

/-- `fracrevbits(b) = brev_j(b) / 2^j` for `b < 2^j` (scaled by `n`, a multiple of `2^j`) -/
theorem frbN_brev (j : ℕ) : ∀ n b, 2 ^ j ∣ n → b < 2 ^ j → frbN n b * 2 ^ j = n * brev j b := by
  induction j with
  | zero =>
    intro n b _ hb
    have : b = 0 := by simpa using hb
    subst this
    simp [frbN_zero, brev]
  | succ j ih =>
    intro n b hn hb
    obtain ⟨c, hc⟩ := hn
    have hc' : n = 2 * (2 ^ j * c) := by rw [hc, pow_succ]; ring
    have hn2 : n / 2 = 2 ^ j * c := by omega
    have hnn : n = 2 * (n / 2) := by omega
    have hdiv : 2 ^ j ∣ n / 2 := ⟨c, hn2⟩
    have hb2 : b / 2 < 2 ^ j := by rw [pow_succ] at hb; omega
    have IH := ih (n / 2) (b / 2) hdiv hb2
    by_cases h0 : b = 0
    · subst h0; simp [frbN_zero, brev_zero_right]
    by_cases h1 : b = 1
    · subst h1
      rw [frbN_one, brev]
      simp only [Nat.reduceDiv, brev_zero_right, Nat.zero_add, Nat.mul_one, Nat.reduceMod]
      rw [pow_succ]
      calc n / 2 * (2 ^ j * 2) = (2 * (n / 2)) * 2 ^ j := by ring
        _ = n * 2 ^ j := by rw [← hnn]
    by_cases he : b % 2 = 0
    · rw [frbN_even n b (by omega) he, brev, he, pow_succ]
      calc frbN (n / 2) (b / 2) * (2 ^ j * 2) = 2 * (frbN (n / 2) (b / 2) * 2 ^ j) := by ring
        _ = 2 * (n / 2 * brev j (b / 2)) := by rw [IH]
        _ = (2 * (n / 2)) * brev j (b / 2) := by ring
        _ = n * (brev j (b / 2) + 2 ^ j * 0) := by rw [← hnn]; ring
    · rw [frbN_odd n b (by omega) (by omega), brev, show b % 2 = 1 by omega, pow_succ]
      calc (frbN (n / 2) (b / 2) + n / 2) * (2 ^ j * 2)
          = 2 * (frbN (n / 2) (b / 2) * 2 ^ j) + (2 * (n / 2)) * 2 ^ j := by ring
        _ = 2 * (n / 2 * brev j (b / 2)) + (2 * (n / 2)) * 2 ^ j := by rw [IH]
        _ = (2 * (n / 2)) * (brev j (b / 2) + 2 ^ j * 1) := by ring
        _ = n * (brev j (b / 2) + 2 ^ j * 1) := by rw [← hnn]

theorem frbN_sub (ℓ0 j e i : ℕ) (hi : i < 2 ^ j) :
    frbN (4 * 2 ^ (ℓ0 + j + e)) i = 2 ^ e * (4 * 2 ^ ℓ0 * brev j i) := by
  have h1 := frbN_brev j (4 * 2 ^ (ℓ0 + j + e)) i ⟨4 * 2 ^ (ℓ0 + e), by rw [pow_add, pow_add, pow_add]; ring⟩ hi
  apply Nat.eq_of_mul_eq_mul_right (Nat.two_pow_pos j)
  rw [h1, pow_add, pow_add]; ring

/-- The table cursor.  Block `b0` of level `ℓ0` is cut into `2^j` blocks; at size `2^e` block `i` of them has the
entry power of `b0` plus `fracrevbits(i)`, divided by `2^r` when the table (`U = 4·2^k`) belongs to the size
`2^(e+r)`.  The fillers compute every exponent in this way (`r = 0`: entry power of a sub-block; `r = 1`: a twiddle
pass; `r = 2`: a radix-4 pack). -/
theorem sub_tw (ℓ0 j e r b0 i k : ℕ) (hi : i < 2 ^ j) (hk : k = ℓ0 + j + (e + r)) :
    twE ℓ0 e b0 + frbN (4 * 2 ^ k) i / 2 ^ r = twE (ℓ0 + j) e (b0 * 2 ^ j + i) := by
  rw [hk, frbN_sub ℓ0 j (e + r) i hi, twE, twE, brev_add ℓ0 j b0 i hi, pow_add,
    show 2 ^ e * 2 ^ r * (4 * 2 ^ ℓ0 * brev j i) = 2 ^ e * (4 * 2 ^ ℓ0 * brev j i) * 2 ^ r by ring,
    Nat.mul_div_cancel _ (Nat.two_pow_pos r)]
  ring

theorem twE_shift (ℓ e r b : ℕ) : twE ℓ (e + r) b / 2 ^ r = twE ℓ e b := by
  rw [twE, twE, pow_add, Nat.mul_right_comm]; exact Nat.mul_div_cancel _ (Nat.two_pow_pos r)

/-- the cplx fillers index the same blocks by `2 i` -/
theorem frbN_two (j n i : ℕ) (hn : 2 ^ (j + 1) ∣ n) (hi : i < 2 ^ j) : frbN n (2 * i) = frbN n i / 2 := by
  have h1 := frbN_brev (j + 1) n (2 * i) hn (by rw [pow_succ]; omega)
  have h2 := frbN_brev j n i (Dvd.dvd.trans ⟨2, by rw [pow_succ]⟩ hn) hi
  rw [brev_even] at h1
  have h : frbN n (2 * i) * 2 = frbN n i := by
    apply Nat.eq_of_mul_eq_mul_right (Nat.two_pow_pos j)
    rw [h2, ← h1, pow_succ]; ring
  rw [← h]; exact (Nat.mul_div_cancel _ Nat.two_pos).symm

/-- In the transform of size `2^k` the twiddle exponent of an odd block is `2^k` more than that of the even block before
    it: its twiddle is `i` times the other (`ζ^(2^k) = i`), which is why the tables store the even blocks only. -/
theorem twE_odd_block {k ℓ d b : ℕ} (hk : ℓ + d + 1 = k) (hb : b < 2 ^ ℓ) (ho : b % 2 = 1) :
    twE ℓ d b = 2 ^ k + twE ℓ d (b - 1) := by
  obtain ⟨c, rfl⟩ : ∃ c, b = 2 * c + 1 := ⟨b / 2, by omega⟩
  cases ℓ with
  | zero => rw [pow_zero] at hb; omega
  | succ ℓ => rw [Nat.add_sub_cancel, twE_odd, twE_even, ← hk, pow_succ' 2 (ℓ + 1 + d), Nat.add_comm]

end Spq.Fft.Tw

namespace Spq.Fft.Kern

/-- exponents of the 8 twiddles of a forward leaf pack with entry power `e` (canonical order) -/
def leafE (e U : ℕ) : ℕ → ℕ
  | 0 => e / 2 | 1 => e / 4 | 2 => e / 8 | 3 => e / 8 + U / 8
  | 4 => e / 16 | 5 => e / 16 + U / 8 | 6 => e / 16 + U / 16 | _ => e / 16 + U / 8 + U / 16

/-- exponents of the 8 twiddles of an inverse leaf pack (canonical order of `cplx_ifft16_precomp`) -/
def ileafE (e U : ℕ) : ℕ → ℕ
  | 0 => e / 16 | 1 => e / 16 + U / 8 | 2 => e / 16 + U / 16 | 3 => e / 16 + U / 8 + U / 16
  | 4 => e / 8 | 5 => e / 8 + U / 8 | 6 => e / 4 | _ => e / 2

end Spq.Fft.Kern

namespace Spq.Fft.Tw
open Spq.Fft Spq.Fft.Alg Spq.Fft.Kern

theorem frbN_leaf (U : ℕ) (hU : 16 ∣ U) :
    frbN U 0 / 4 = 0 ∧ frbN U 1 / 4 = U / 8 ∧ frbN U 2 / 4 = U / 16 ∧ frbN U 3 / 4 = U / 8 + U / 16 := by
  refine ⟨by rw [frbN_zero], by rw [frbN_one, Nat.div_div_eq_div_mul], ?_, ?_⟩
  · rw [frbN_even _ 2 (Nat.le_refl 2) rfl, frbN_one, Nat.div_div_eq_div_mul, Nat.div_div_eq_div_mul]
  · obtain ⟨y, rfl⟩ := hU
    rw [frbN_odd _ 3 (by norm_num) rfl, frbN_one]; omega

/-- The leaf pack in block coordinates: its first twiddle is that of the block `B` of level `ℓ` itself, twiddle
`2^t + j` (`t < 3`, `j < 2^t`) that of the even half of sub-block `j` of level `ℓ + t`: the filler
(`fill_reim_fft16_omegas`, `cplx_fft16_precomp`) computes it as `e / 2^(t+2) + fracrevbits(j) / 4`, the table cursor
`sub_tw` at `r = 2`. -/
theorem leafE_tw (ℓ B e U : ℕ) (he : e = twE ℓ 4 B) (hU : U = 4 * 2 ^ (ℓ + 4)) :
    leafE e U 0 = twE ℓ 3 B ∧
    ∀ t j, t < 3 → j < 2 ^ t → leafE e U (2 ^ t + j) = twE (ℓ + t + 1) (2 - t) (2 * (B * 2 ^ t + j)) := by
  have f := frbN_leaf U ⟨4 * 2 ^ ℓ, by rw [hU, pow_add]; ring⟩
  have sh : ∀ r d, d + r = 4 → e / 2 ^ r = twE ℓ d B := fun r d h => by rw [he, ← h, twE_shift]
  refine ⟨sh 1 3 rfl, fun t j ht hj => ?_⟩
  have key : e / 2 ^ (t + 2) + frbN U j / 4 = twE (ℓ + t + 1) (2 - t) (2 * (B * 2 ^ t + j)) := by
    rw [twE_even, sh (t + 2) (2 - t) (by omega), hU, ← sub_tw ℓ t (2 - t) 2 B j (ℓ + 4) hj (by omega)]; rfl
  rw [← key]
  -- what is left is the filler's expression for each of the seven entries; `f` stays out of sight of `omega`
  clear key sh he hU
  revert f
  obtain rfl | rfl | rfl : t = 0 ∨ t = 1 ∨ t = 2 := by omega
  · obtain rfl : j = 0 := by omega
    exact fun f => by rw [f.1]; rfl
  · obtain rfl | rfl : j = 0 ∨ j = 1 := by omega
    · exact fun f => by rw [f.1]; rfl
    · exact fun f => by rw [f.2.1]; rfl
  · obtain rfl | rfl | rfl | rfl : j = 0 ∨ j = 1 ∨ j = 2 ∨ j = 3 := by omega
    · exact fun f => by rw [f.1]; rfl
    · exact fun f => by rw [f.2.1]; rfl
    · exact fun f => by rw [f.2.2.1]; rfl
    · exact fun f => by rw [f.2.2.2, ← Nat.add_assoc]; rfl

/-- the inverse pack holds the same exponents in the order of the inverse leaf's levels -/
theorem ileafE_tw (e U : ℕ) :
    ileafE e U 7 = leafE e U 0 ∧ ∀ t j, t < 3 → j < 2 ^ t → ileafE e U (j + (8 - 2 * 2 ^ t)) = leafE e U (2 ^ t + j) := by
  refine ⟨rfl, fun t j ht hj => ?_⟩
  obtain rfl | rfl | rfl : t = 0 ∨ t = 1 ∨ t = 2 := by omega
  · obtain rfl : j = 0 := by omega
    rfl
  · obtain rfl | rfl : j = 0 ∨ j = 1 := by omega
    · rfl
    · rfl
  · obtain rfl | rfl | rfl | rfl : j = 0 ∨ j = 1 ∨ j = 2 ∨ j = 3 := by omega
    · rfl
    · rfl
    · rfl
    · rfl

end Spq.Fft.Tw
