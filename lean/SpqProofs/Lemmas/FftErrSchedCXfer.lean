/-
  The bit-level cplx transforms (forward and inverse, interleaved layout) as `NetCells` (`cellsCF`, `cellsCI`), so
  that `NetCells.transfer` / `NetCells.err` apply to them.
  Four implementations of the same `CFlav` shape are related: bits `Fb`, flagged bits `FB`, guarded rationals `FQ`
  (where `0 − ω`, `0 + ω` have been replaced by their exact values) and the lifted arithmetic `FK`.
-/
import SpqProofs.Lemmas.FftErrSchedCINet
import SpqProofs.Lemmas.FftErrSchedIXfer
set_option linter.unusedSectionVars false
namespace Spq.FftErr
open Spq.Fft Spq.Fft.Alg Spq.Fft.RelN Spq.Fft.SimP Spq.Fft.LevelN Spq.Fft.SchedN Spq.Fft.SchedC Spq.Fft.Sim Spq.F64
variable {K : Type} [Field K] [LinearOrder K] [IsStrictOrderedRing K]

section api
variable {R : Type} [Inhabited R]
theorem prs_deinterleave (m : ℕ) (data : Array R) (p : ℕ) (hp : p < m) :
    prs (deinterleave m data) p = (data[2 * p]!, data[2 * p + 1]!) := by
  show ((deinterleave m data).re[p]!, (deinterleave m data).im[p]!) = _
  rw [Api.deinterleave_re _ _ p hp, Api.deinterleave_im _ _ p hp]
end api

theorem valQ_map {α β : Type} (f : α → β) (c s ns nc : ℕ → α) (x : Ent) :
    f (valQ c s ns nc x) = valQ (fun e => f (c e)) (fun e => f (s e)) (fun e => f (ns e)) (fun e => f (nc e)) x := by
  unfold valQ; split <;> [rfl; (split <;> [rfl; (split <;> rfl)])]

theorem tableQ_map {α β : Type} (f : α → β) (c s ns nc : ℕ → α) (L : List Ent) :
    ((L.map (valQ c s ns nc)).toArray).map f =
      (L.map (valQ (fun e => f (c e)) (fun e => f (s e)) (fun e => f (ns e)) (fun e => f (nc e)))).toArray := by
  rw [List.map_toArray, List.map_map]
  congr 1
  apply List.map_congr_left
  intro x _
  exact valQ_map f c s ns nc x

theorem cellsCF (k : ℕ) :
    NetCells k (Φ := CFlav) (Tw := fun R => (ℕ → R) × (ℕ → R) × (ℕ → R) × (ℕ → R))
      (fun F t d => cplxFftA F (2 ^ k) ((cplxFftEnts (2 ^ k)).map (valQ t.1 t.2.1 t.2.2.1 t.2.2.2)).toArray d)
      (fun _ => True) (fun F t => gNetC F t.1 t.2.1 t.2.2.1 t.2.2.2 k) (fun g a p => VN g a k 0 p) (fun j => 2 * j) (fun j => 2 * j + 1) :=
  ⟨netF k, fun p hp => by omega, cov_inter k, fun F t d _ _ j hj => by
    obtain ⟨st, _⟩ := cfftRI_struct F t.1 t.2.1 t.2.2.1 t.2.2.2 k (deinterleave (2 ^ k) d) (Api.deinterleave_valid _ d)
    unfold cplxFftA
    rw [Api.interleave_re _ _ j hj, Api.interleave_im _ _ j hj,
      ← (netF k).rel (fun _ => Eq) _ _ (fun _ _ _ _ _ _ _ _ _ hu hv => by rw [hu, hv]; exact ⟨rfl, rfl⟩) _ _
        (prs_deinterleave _ d) j hj]
    exact st j hj⟩

theorem cellsCI (k : ℕ) :
    NetCells k (Φ := CFlav) (Tw := fun R => (ℕ → R) × (ℕ → R))
      (fun F t d => cplxIfftA F (2 ^ k) ((cplxIfftEnts (2 ^ k)).map (valP t.1 t.2)).toArray d)
      (fun F => F.lanesOdd = false) (fun F t => gNetCI F t.1 t.2 k) (fun g a p => VNI k g a k p) (fun j => 2 * j)
      (fun j => 2 * j + 1) :=
  ⟨netI k, fun p hp => by omega, cov_inter k, fun F t d hl _ j hj => by
    obtain ⟨st, _⟩ := cifftRI_struct F t.1 t.2 k hl (deinterleave (2 ^ k) d) (Api.deinterleave_valid _ d)
    unfold cplxIfftA
    rw [Api.interleave_re _ _ j hj, Api.interleave_im _ _ j hj,
      ← (netI k).rel (fun _ => Eq) _ _ (fun _ _ _ _ _ _ _ _ _ hu hv => by rw [hu, hv]; exact ⟨rfl, rfl⟩) _ _
        (prs_deinterleave _ d) j hj]
    exact st j hj⟩

theorem gNetC_sims (Fb : CFlav ℕ) (FB : CFlav (ℕ × Prop)) (FQ : CFlav ℚ) (FK : CFlav K)
    (h1 : CFlavSim (fun (x : Nat × Prop) (b : Nat) => x.1 = b) FB Fb) (h2 : CFlavSim RelQ FB FQ)
    (h3 : CFlavSim (fun (q : ℚ) (x : K) => x = (q : K)) FQ FK) (k : ℕ) (cN sN nsN ncN : ℕ → ℕ) :
    NetSim (R2 (fun (x : Nat × Prop) (b : Nat) => x.1 = b))
      (gNetC FB (fun e => lift (cN e)) (fun e => lift (sN e)) (fun e => lift (nsN e)) (fun e => lift (ncN e)) k)
      (gNetC Fb cN sN nsN ncN k) ∧
    NetSim (R2 RelQ)
      (gNetC FB (fun e => lift (cN e)) (fun e => lift (sN e)) (fun e => lift (nsN e)) (fun e => lift (ncN e)) k)
      (gNetC FQ (fun e => val (cN e)) (fun e => val (sN e)) (fun e => val (nsN e)) (fun e => val (ncN e)) k) ∧
    NetSim (R2 (fun (q : ℚ) (x : K) => x = (q : K)))
      (gNetC FQ (fun e => val (cN e)) (fun e => val (sN e)) (fun e => val (nsN e)) (fun e => val (ncN e)) k)
      (gNetC FK (fun e => ((val (cN e) : ℚ) : K)) (fun e => ((val (sN e) : ℚ) : K))
        (fun e => ((val (nsN e) : ℚ) : K)) (fun e => ((val (ncN e) : ℚ) : K)) k) :=
  ⟨fun ℓ d b _ _ _ _ hu hv =>
    gNetC_sim h1 _ _ _ _ _ _ _ _ (fun _ => rfl) (fun _ => rfl) (fun _ => rfl) (fun _ => rfl) k ℓ d b hu hv,
   fun ℓ d b _ _ _ _ hu hv => gNetC_sim h2 _ _ _ _ _ _ _ _ (fun _ h => ⟨h, rfl⟩) (fun _ h => ⟨h, rfl⟩)
      (fun _ h => ⟨h, rfl⟩) (fun _ h => ⟨h, rfl⟩) k ℓ d b hu hv,
   fun ℓ d b _ _ _ _ hu hv =>
    gNetC_sim h3 _ _ _ _ _ _ _ _ (fun _ => rfl) (fun _ => rfl) (fun _ => rfl) (fun _ => rfl) k ℓ d b hu hv⟩

theorem gNetCI_sims (Fb : CFlav ℕ) (FB : CFlav (ℕ × Prop)) (FQ : CFlav ℚ) (FK : CFlav K)
    (h1 : CFlavSim (fun (x : Nat × Prop) (b : Nat) => x.1 = b) FB Fb) (h2 : CFlavSim RelQ FB FQ)
    (h3 : CFlavSim (fun (q : ℚ) (x : K) => x = (q : K)) FQ FK) (k : ℕ) (cN sN : ℕ → ℕ) :
    NetSim (R2 (fun (x : Nat × Prop) (b : Nat) => x.1 = b))
      (gNetCI FB (fun e => lift (cN e)) (fun e => lift (sN e)) k) (gNetCI Fb cN sN k) ∧
    NetSim (R2 RelQ) (gNetCI FB (fun e => lift (cN e)) (fun e => lift (sN e)) k)
      (gNetCI FQ (fun e => val (cN e)) (fun e => val (sN e)) k) ∧
    NetSim (R2 (fun (q : ℚ) (x : K) => x = (q : K))) (gNetCI FQ (fun e => val (cN e)) (fun e => val (sN e)) k)
      (gNetCI FK (fun e => ((val (cN e) : ℚ) : K)) (fun e => ((val (sN e) : ℚ) : K)) k) :=
  ⟨fun ℓ d b _ _ _ _ hu hv => gNetCI_sim h1 _ _ _ _ (fun _ => rfl) (fun _ => rfl) k ℓ d b hu hv,
   fun ℓ d b _ _ _ _ hu hv => gNetCI_sim h2 _ _ _ _ (fun _ h => ⟨h, rfl⟩) (fun _ h => ⟨h, rfl⟩) k ℓ d b hu hv,
   fun ℓ d b _ _ _ _ hu hv => gNetCI_sim h3 _ _ _ _ (fun _ => rfl) (fun _ => rfl) k ℓ d b hu hv⟩

end Spq.FftErr
