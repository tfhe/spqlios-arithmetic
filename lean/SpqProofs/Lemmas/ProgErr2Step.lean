/-
  C16, binary64 side, products of products: the program-level theorem WITHOUT the class `SingleProductDepth`
  (`vmp_apply_dft_to_dft` may read the output of `svp_apply_dft`, `vmp_apply_dft` or another `vmp_apply_dft_to_dft`).
  Ghost state: the budget map `Bud K`.  One call (`C16Err2.step_refines_f64_metric_partial`) is `Prog.stepG_refines`
  (Lemmas/ProgStep.lean) at the instance `metricSound`: `RM M` is `RG (metricSound M)` and `bstep` is `gstep`, by
  definition; its fields are the per-function theorems `dft_metric`, `svp_metric`, `vmp_metric`, `vmpDD_metric`, `idftM_read`.
-/
import SpqProofs.Lemmas.ProgErr2Vmp
import SpqProofs.Lemmas.ProgErrRun
namespace Spq.ProgErr2
open Finset Spq Spq.Module Spq.FftErr Spq.F64 Spq.ProdErr Spq.VmpErr Spq.ProgErr Spq.Closed Spq.Prog
variable {K : Type} [Field K] [LinearOrder K] [IsStrictOrderedRing K]

/-- the budget map: `β v i` = DFT-space error budget of limb `i` of the `VEC_ZNX_DFT` variable `v` -/
abbrev Bud (K : Type) := DVar → ℕ → K

/-- a call that writes the DFT variable `d` installs the budgets `δn` of its result -/
def bstep (o : OpD) (β : Bud K) (δn : ℕ → K) : Bud K :=
  match o with
  | .dft d _ => upd β d δn
  | .svp d _ _ => upd β d δn
  | .vmp d _ _ => upd β d δn
  | .vmpDD d _ _ => upd β d δn
  | _ => β

/-- **`PreM M vars o a β s δn`**: well-formedness and budget of one call `o` on the exact state `a`, the budget map `β`
    and the binary64 state `s`, with `δn` the budgets claimed for the `VEC_ZNX_DFT` result (if any):
    coefficient-space calls, `svp_prepare`, `vmp_prepare`, `smallProduct`: as `ProgErr.PreF`;
    `dft d x`    : `DftLimbBudget` (box, forward flags, `ε·na ≤ δn_i`) for every transformed limb;
    `svp d k x`  : `SvpLimbBudget` (boxes, flags of two forward transforms + product, `fB ε μ θ·S_i ≤ δn_i`) per limb;
    `vmp d x m`  : `VmpBudgetM` (budget of the forward transforms of the rows + `VmpDDBudget`);
    `vmpDD d x m`: `d ≠ x` (`vmp_apply_dft_to_dft` is not in-place safe; as `Prog.PreD`), and `VmpDDBudget` with the
                   CURRENT budgets `β x` of the operand in, `δn` out, flags on `s.dvec x`;
    `idft d x`   : `IdftLimbBudget` for every limb `i < min x.size d.size` that is inverse-transformed: flags of the
                   inverse transform of the concrete limb and `ε·(S2 + β x i) + β x i < 1/2`.
    The NUMERIC part (boxes, norms, the propagated `δ`) is on the exact state; the FLAGS of the accumulation of
    `vmp_apply_dft_to_dft` and of the inverse transform in `vec_znx_idft` are about the CONCRETE binary64 operand `s.dvec x`
    (for a product of products the operand is not a function of one integer limb). -/
def PreM (M : F64Mod K) (vars : List Var) : OpD → AState → Bud K → CState ℕ → (ℕ → K) → Prop
  | .dft d x, a, _, _, δn => x ∈ vars ∧ (∀ i, i < d.size → 0 ≤ δn i) ∧
      ∀ i, i < x.size → i < d.size → DftLimbBudget M (limbArr M.N a.env x i) (δn i)
  | .svp d k x, a, _, _, δn => x ∈ vars ∧ (∀ i, i < d.size → 0 ≤ δn i) ∧ ∃ sp, a.ppol k = some sp ∧
      ∀ i, i < x.size → i < d.size → SvpLimbBudget M (limbArr M.N a.env x i) (spOf M sp) (δn i)
  | .vmp d x m, a, _, _, δn => x ∈ vars ∧ (∀ i, i < d.size → 0 ≤ δn i) ∧ ∃ Mv, a.pmat m = some Mv ∧
      VmpBudgetM M (matOf M Mv m.nrows m.ncols) m.nrows m.ncols (vecArr M.N a.env x) x.size d.size δn
  | .vmpDD d x m, a, β, s, δn => d ≠ x ∧ (∀ i, i < d.size → 0 ≤ δn i) ∧ ∃ P Mv, a.dvec x = some P ∧ a.pmat m = some Mv ∧
      VmpDDBudget M (matOf M Mv m.nrows m.ncols) m.nrows m.ncols (fun i => polyArr M.N (P.coef i)) (s.dvec x) x.size
        d.size (β x) δn
  | .idft d x, a, β, s, _ => d ∈ vars ∧ ∃ P, a.dvec x = some P ∧
      ∀ i, i < x.size → i < d.size → IdftLimbBudget M (dlimb (s.dvec x) i M.N) (polyArr M.N (P.coef i)) (β x i)
  | op, a, _, _, _ => PreD (dftOpsSound_f64 M) vars op a

/-- **`GuardedM`**: along the joint run (exact interpreter, budget map, binary64 interpreter) every call satisfies
    `PreM` for some choice of the budgets `δn` of its result -/
def GuardedM (M : F64Mod K) (vars : List Var) : List OpD → AState → Bud K → CState ℕ → Prop
  | [], _, _, _ => True
  | o :: ops, a, β, s => ∃ δn : ℕ → K, PreM M vars o a β s δn ∧
      GuardedM M vars ops (astepD M.N o a) (bstep o β δn) (cstepD M.parts M.N o s)

/-- **`RM M hsz vars a β s`**: the binary64 state `s` represents the exact state `a` with the budget map `β`:
    heap = exact integers (`Prog.R`); every `VEC_ZNX_DFT` object satisfies `MetricRep` with its budgets `β v`;
    `SVP_PPOL` / `VMP_PMAT` objects are bit for bit `svp_prepare` / `vmp_prepare_contiguous` of the exact operand. -/
def RM (M : F64Mod K) (hsz : ℕ) (vars : List Var) (a : AState) (β : Bud K) (s : CState ℕ) : Prop :=
  R M.N hsz vars a.env s.heap ∧
  (∀ v P, a.dvec v = some P → MetricRep M P v.size (s.dvec v) (β v)) ∧
  (∀ k sp, a.ppol k = some sp → s.ppol k = svpPrepare M.parts (spOf M sp)) ∧
  (∀ m Mv, a.pmat m = some Mv → s.pmat m = vmpPrepare M.parts (matOf M Mv m.nrows m.ncols) m.nrows m.ncols)

open Heap Spq.C08
variable {hsz : ℕ} {vars : List Var}

/-- the metric invariant as an instance of the one-call interface: the annotation of an object is its budgets `δ`,
    the budgets are the branches of `PreM` -/
def metricSound (M : F64Mod K) : OpsSoundG M.parts M.N (ℕ → K) where
  RepV δ P sz d := MetricRep M P sz d δ
  RepS sp s := s = svpPrepare M.parts (spOf M sp)
  RepM Mv nrows ncols pm := pm = vmpPrepare M.parts (matOf M Mv nrows ncols) nrows ncols
  dft_budget δ rsz asz f := (∀ i, i < rsz → 0 ≤ δ i) ∧ ∀ i, i < asz → i < rsz → DftLimbBudget M (polyArr M.N (f i)) (δ i)
  svp_prepare_budget _ := True
  svp_budget δ rsz asz f sp := (∀ i, i < rsz → 0 ≤ δ i) ∧
    ∀ i, i < asz → i < rsz → SvpLimbBudget M (polyArr M.N (f i)) (spOf M sp) (δ i)
  vmp_prepare_budget _ _ _ := True
  vmp_budget δ rsz asz f Mv nrows ncols := (∀ i, i < rsz → 0 ≤ δ i) ∧
    VmpBudgetM M (matOf M Mv nrows ncols) nrows ncols (flatOf M.N asz f) asz rsz δ
  vmp_dd_budget δ d δ' rsz _ P asz Mv nrows ncols := (∀ i, i < rsz → 0 ≤ δ' i) ∧
    VmpDDBudget M (matOf M Mv nrows ncols) nrows ncols (fun i => polyArr M.N (P.coef i)) d asz rsz δ δ'
  idft_budget δ d P sz rsz :=
    ∀ i, i < sz → i < rsz → IdftLimbBudget M (dlimb d i M.N) (polyArr M.N (P.coef i)) (δ i)
  small_product_budget fa fb := ProdBudget M (polyArr M.N fa) (polyArr M.N fb)
  dft_exact δ x asz asl rsz f _ hag hb := dft_metric M x asz asl rsz f hag δ hb.1 hb.2
  svp_prepare_exact := (dftOpsSound_f64 M).svp_prepare_exact
  svp_exact δ x asz asl rsz f sp s _ hag hs hb := by
    rw [show s = svpPrepare M.parts (spOf M sp) from hs]
    refine MetricRep.congr (svp_metric M x asz asl rsz f hag (spOf M sp) δ hb.1 hb.2) ?_
    intro i t hi ht
    rw [coef_mk _ _ _ _ _ hi ht, coef_mk _ _ _ _ _ hi ht]
    exact polyMul_congr _ _ _ _ _ (fun _ _ => rfl) (fun u hu => getD_polyArr _ _ _ hu) t ht
  vmp_prepare_exact := (dftOpsSound_f64 M).vmp_prepare_exact
  vmp_exact δ x asz asl rsz f Mv pm nrows ncols _ hag hM hb := by
    rw [show pm = vmpPrepare M.parts (matOf M Mv nrows ncols) nrows ncols from hM]
    have hc := vmpApplyDft_canon M.parts rsz (vmpPrepare M.parts (matOf M Mv nrows ncols) nrows ncols)
      nrows ncols (agree_nn M hag)
    rw [M.nn] at hc
    rw [hc]
    exact vmp_metric M asz rsz f Mv nrows ncols δ hb.1 hb.2
  vmp_dd_exact δ δ' P asz rsz d Mv pm nrows ncols _ hP hM hb := by
    rw [show pm = vmpPrepare M.parts (matOf M Mv nrows ncols) nrows ncols from hM]
    exact vmpDD_metric M P asz rsz d δ Mv nrows ncols hP δ' hb.1 hb.2
  dft_idft_exact δ P sz rsz d hP hb := idftM_read M P sz rsz d δ hP hb
  small_product_exact := (dftOpsSound_f64 M).small_product_exact

theorem preG_of_preM (M : F64Mod K) (o : OpD) (a : AState) (β : Bud K) (s : CState ℕ) (δn : ℕ → K)
    (h : PreM M vars o a β s δn) : PreG (metricSound M) vars o a β s δn := by
  cases o with
  | svp d k x =>
    obtain ⟨hx, hδ0, sp, hk, hb⟩ := h
    exact ⟨hx, sp, hk, hδ0, hb⟩
  | vmp d x m =>
    obtain ⟨hx, hδ0, Mv, hm, hb⟩ := h
    exact ⟨hx, Mv, hm, hδ0, hb⟩
  | vmpDD d x m =>
    obtain ⟨-, hδ0, P, Mv, hP, hm, hb⟩ := h
    exact ⟨P, Mv, hP, hm, hδ0, hb⟩
  | _ => exact h

end Spq.ProgErr2
