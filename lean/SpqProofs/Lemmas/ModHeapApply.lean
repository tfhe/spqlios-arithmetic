/-
  Heap-level refinement of `fft64_vmp_apply_dft_to_dft_{ref,avx}`: one iteration of the column loop of the `nn < 8`
  layout as a `Rep` step, the assembly for both layouts by `fill_refine` (block loop / column loop, then the zero
  fill of the limbs `≥ col_max`).
-/
import SpqProofs.Lemmas.ModHeapApplyBig
import SpqProofs.Lemmas.ModHeapPrep
namespace Spq.ModuleHeap
open Spq Heap Reim4
variable {γ α : Type}

/-- row `row` of column `col` of the prepared matrix (plain layout): what one `mul` / `addmul` of a column's chain
    (`VmpErr.smallChain`) reads -/
def pcolOf (nn nrows col : Nat) (pmat : Array α) (row : Nat) : Array α :=
  pmat.extract ((col * nrows + row) * nn) ((col * nrows + row) * nn + nn)

structure SmallCtx (c : Module.Parts α) (h : Heap γ) (res rsz adft pmat nrows ncols rowMax colMax : Nat) : Prop where
  hcol : colMax ≤ ncols
  hcolr : colMax ≤ rsz
  hrow : rowMax ≤ nrows
  hres : res + rsz * c.nn ≤ h.mem.size
  hadft : adft + rowMax * c.nn ≤ h.mem.size
  hpm : pmat + c.nn * nrows * ncols ≤ h.mem.size
  dra : adft + rowMax * c.nn ≤ res ∨ res + rsz * c.nn ≤ adft
  drp : pmat + c.nn * nrows * ncols ≤ res ∨ res + rsz * c.nn ≤ pmat

section
variable (c : Module.Parts α) (cd : Cells γ α) (hr : RoundTrip cd) (h : Heap γ)
  (res rsz adft pmat nrows ncols rowMax colMax : Nat)
  (K : SmallCtx c h res rsz adft pmat nrows ncols rowMax colMax)
include hr K

omit hr in
/-- The operands of row `k` of column `col`, read from any heap that differs from `h` inside the result region only:
    in bounds, off the result limb, and holding what `h` held. -/
theorem small_operands (col : Nat) (hcol : col < colMax) (g : Heap γ) (F : Fr (In res (rsz * c.nn)) h g)
    (k : Nat) (hk : k < rowMax) :
    (adft + k * c.nn + c.nn ≤ g.mem.size ∧ pmat + col * nrows * c.nn + k * c.nn + c.nn ≤ g.mem.size ∧
      res + col * c.nn + c.nn ≤ g.mem.size) ∧
    (sameOrDisj (res + col * c.nn) (adft + k * c.nn) c.nn = true ∧
      sameOrDisj (res + col * c.nn) (pmat + col * nrows * c.nn + k * c.nn) c.nn = true) ∧
    rdD cd g (adft + k * c.nn) c.nn = Module.dlimb (rdD cd h adft (rowMax * c.nn)) k c.nn ∧
    rdD cd g (pmat + col * nrows * c.nn + k * c.nn) c.nn =
      pcolOf c.nn nrows col (rdD cd h pmat (c.nn * nrows * ncols)) k := by
  have hb := pm_small_bound c.nn nrows ncols k col (Nat.lt_of_lt_of_le hk K.hrow) (Nat.lt_of_lt_of_le hcol K.hcol)
  have SR : Sub (res + col * c.nn) c.nn res (rsz * c.nn) := Sub.limb res c.nn rsz col (Nat.lt_of_lt_of_le hcol K.hcolr)
  have SA : Sub (adft + k * c.nn) c.nn adft (rowMax * c.nn) := Sub.limb _ _ _ k hk
  have ep : pmat + col * nrows * c.nn + k * c.nn = pmat + (col * nrows + k) * c.nn := by
    rw [Nat.add_mul, Nat.add_assoc]
  have SP : Sub (pmat + col * nrows * c.nn + k * c.nn) c.nn pmat (c.nn * nrows * ncols) :=
    ep ▸ Sub.at pmat _ _ c.nn hb
  refine ⟨⟨F.size ▸ SA.le K.hadft, F.size ▸ SP.le K.hpm, F.size ▸ SR.le K.hres⟩,
    ⟨sameOrDisj_of _ _ _ (Dj.mono (Dj.symm K.dra) SR SA), sameOrDisj_of _ _ _ (Dj.mono (Dj.symm K.drp) SR SP)⟩, ?_, ?_⟩
  · rw [dlimb_rdD cd h adft _ k c.nn (mul_step k rowMax c.nn hk)]
    exact rdD_of_fr F cd _ _ (Dj.mono K.dra SA (Sub.refl _ _)).not_mem
  · unfold pcolOf
    rw [extract_rdD cd h pmat _ _ c.nn hb, ← ep]
    exact rdD_of_fr F cd _ _ (Dj.mono K.drp SP (Sub.refl _ _)).not_mem

/-- one iteration of the column loop.  Without a usable row the C code stores zeros where the model leaves its zero
    array alone: the window is fresh, because the earlier iterations wrote the limbs below `col` only. -/
theorem smallStep (col : Nat) (hcol : col < colMax) (g : Heap γ) (T : Nat → Prop) (R : Array α)
    (hT : ∀ x, T x → ∃ j, j < col ∧ In (j * c.nn) c.nn x)
    (P : Rep cd c.ar.zero h (In res (rsz * c.nn)) res (rsz * c.nn) T g R) :
    Rep cd c.ar.zero h (In res (rsz * c.nn)) res (rsz * c.nn) (fun x => T x ∨ In (col * c.nn) c.nn x)
      (smallBody c cd res adft pmat nrows rowMax col g)
      (if rowMax == 0 then R else Module.writeAt R (col * c.nn)
        (VmpErr.smallChain c rowMax (fun i => Module.dlimb (rdD cd h adft (rowMax * c.nn)) i c.nn)
          (pcolOf c.nn nrows col (rdD cd h pmat (c.nn * nrows * ncols))))) := by
  have f := P.1
  have hcr : col < rsz := Nat.lt_of_lt_of_le hcol K.hcolr
  have SR : Sub (res + col * c.nn) c.nn res (rsz * c.nn) := Sub.limb res c.nn rsz col hcr
  have rd := small_operands c cd h res rsz adft pmat nrows ncols rowMax colMax K col hcol
  unfold smallBody
  by_cases h0 : (rowMax == 0) = true
  · simp only [h0, if_true]
    obtain ⟨fz, vz⟩ := kZeroD_spec c cd g (res + col * c.nn) c.nn (f.size ▸ SR.le K.hres)
    refine P.zero (col * c.nn) c.nn fz vz SR.mem (fun x hx ht => ?_)
    obtain ⟨j, hj, q⟩ := hT x ht
    exact In.limb_lt hj q hx
  · simp only [h0, if_false, Bool.false_eq_true]
    have hr1 : 0 < rowMax := Nat.pos_of_ne_zero (by simpa using h0)
    obtain ⟨⟨b1, b2, b3⟩, ⟨d1, d2⟩, r1, r2⟩ := rd g f 0 hr1
    simp only [Nat.zero_mul, Nat.add_zero] at b1 b2 d1 d2 r1 r2
    obtain ⟨fm, vm⟩ := kMul_spec c cd g (res + col * c.nn) adft (pmat + col * nrows * c.nn) b1 b2 b3 d1 d2
    rw [r1, r2] at vm
    have L := loop_sim (fun g' (rr : Array α) => Fr (In (res + col * c.nn) c.nn) g g' ∧
        g'.readLimb cd.dflt (res + col * c.nn) c.nn = rr.map cd.enc) (rowMax - 1)
      (fun k => kAddmul c cd (res + col * c.nn) (adft + (k + 1) * c.nn) (pmat + col * nrows * c.nn + (k + 1) * c.nn))
      (fun r k => Module.addmul c r (Module.dlimb (rdD cd h adft (rowMax * c.nn)) (k + 1) c.nn)
        (pcolOf c.nn nrows col (rdD cd h pmat (c.nn * nrows * ncols)) (k + 1)))
      _ _ ⟨fm, vm⟩
      (by
        intro k g' rr hk ⟨f', v'⟩
        obtain ⟨⟨b1, b2, b3⟩, ⟨d1, d2⟩, r1, r2⟩ := rd g' (f.step f' SR.mem) (k + 1) (by omega)
        obtain ⟨fa, va⟩ := kAddmul_spec c cd g' (res + col * c.nn) (adft + (k + 1) * c.nn)
          (pmat + col * nrows * c.nn + (k + 1) * c.nn) b1 b2 b3 d1 d2
        exact ⟨f'.trans' fa, by rw [va, rdD_of_cells cd hr _ _ _ _ v', r1, r2]⟩)
    obtain ⟨fl, vl⟩ := L
    unfold VmpErr.smallChain
    exact P.store (col * c.nn) c.nn _ fl vl SR.mem

end

section
variable (c : Module.Parts α) (cd : Cells γ α) (hr : RoundTrip cd)
include hr

/-- `fft64_vmp_apply_dft_to_dft_{ref,avx}`.  Only the first `min(nrows, a_size)` limbs of `a_dft` are read (the
    caller `vmp_apply_dft` passes a buffer of exactly that many limbs together with the full `a_size`). -/
theorem vmpApplyDftToDft_heap (h : Heap γ) (res rsz adft asz pmat nrows ncols tmp tb : Nat)
    (hnn : c.nn = 2 * c.m) (hm4 : 8 ≤ c.nn → c.m % 4 = 0)
    (htb : 8 ≤ c.nn → 128 + 64 * min nrows asz ≤ tb)
    (hres : res + rsz * c.nn ≤ h.mem.size) (hadft : adft + min nrows asz * c.nn ≤ h.mem.size)
    (hpm : pmat + c.nn * nrows * ncols ≤ h.mem.size)
    (dra : adft + min nrows asz * c.nn ≤ res ∨ res + rsz * c.nn ≤ adft)
    (drp : pmat + c.nn * nrows * ncols ≤ res ∨ res + rsz * c.nn ≤ pmat)
    (hscr : 8 ≤ c.nn → tmp + (16 + 8 * min nrows asz) ≤ h.mem.size ∧
      (tmp + (16 + 8 * min nrows asz) ≤ res ∨ res + rsz * c.nn ≤ tmp) ∧
      (tmp + (16 + 8 * min nrows asz) ≤ adft ∨ adft + min nrows asz * c.nn ≤ tmp) ∧
      (tmp + (16 + 8 * min nrows asz) ≤ pmat ∨ pmat + c.nn * nrows * ncols ≤ tmp)) :
    Fr (fun x => In res (rsz * c.nn) x ∨ (8 ≤ c.nn ∧ In tmp (16 + 8 * min nrows asz) x)) h
      (vmpApplyDftToDft c cd h res rsz adft asz pmat nrows ncols tmp tb) ∧
    (vmpApplyDftToDft c cd h res rsz adft asz pmat nrows ncols tmp tb).readLimb cd.dflt res (rsz * c.nn) =
      (Module.vmpApplyDftToDft c rsz (rdD cd h adft (min nrows asz * c.nn)) asz
        (rdD cd h pmat (c.nn * nrows * ncols)) nrows ncols).map cd.enc := by
  rw [vmpApplyDftToDft_unfold]
  have hcr : min ncols rsz ≤ rsz := Nat.min_le_right _ _
  have hcc : min ncols rsz ≤ ncols := Nat.min_le_left _ _
  have ST := Sub.tail res c.nn rsz (min ncols rsz) hcr
  have eNM := sub_mul_add rsz (min ncols rsz) c.nn hcr
  have zt : ∀ (W : Nat → Prop) (g : Heap γ), Fr W h g →
      Fr (In (res + min ncols rsz * c.nn) ((rsz - min ncols rsz) * c.nn)) g
        (kZeroD c cd (res + min ncols rsz * c.nn) ((rsz - min ncols rsz) * c.nn) g) ∧
      (kZeroD c cd (res + min ncols rsz * c.nn) ((rsz - min ncols rsz) * c.nn) g).readLimb cd.dflt
        (res + min ncols rsz * c.nn) ((rsz - min ncols rsz) * c.nn) =
          Array.replicate ((rsz - min ncols rsz) * c.nn) (cd.enc c.ar.zero) := by
    intro W g f
    have := kZeroD_spec c cd g (res + min ncols rsz * c.nn) ((rsz - min ncols rsz) * c.nn) (f.size ▸ ST.le hres)
    rwa [Array.map_replicate] at this
  by_cases h8 : c.nn ≥ 8
  · simp only [if_pos h8]
    obtain ⟨s1, s2, s3, s4⟩ := hscr h8
    have K : BigCtx c h res rsz adft pmat nrows ncols tmp tb (min nrows asz) (min ncols rsz) :=
      ⟨hnn, hm4 h8, hcc, hcr, htb h8, hres, hadft, hpm, s1, dra, drp, s2, s3, s4⟩
    rw [Module.vmpApply_eq_gblk c h8]
    obtain ⟨f, v⟩ := fill_refine cd c.ar.zero h (bigW c res rsz tmp (min nrows asz)) res (rsz * c.nn) (c.m / 4)
      (fun blk x => blkCells c.m c.nn (min ncols rsz) blk x)
      (bigBody c cd res adft pmat nrows ncols tmp tb (min nrows asz) (min ncols rsz)) _
      (kZeroD c cd (res + min ncols rsz * c.nn) ((rsz - min ncols rsz) * c.nn)) _ _ eNM
      (fun blk g R T hblk _ r =>
        blkStep c cd hr h res rsz adft pmat nrows ncols tmp tb (min nrows asz) (min ncols rsz) K blk hblk g T R r)
      (bigCells_iff c.m c.nn (min ncols rsz) hnn (hm4 h8)) (zt _)
      (fun x q => Or.inl (ST.mem x q))
    refine ⟨f.mono (fun x q => ?_), v⟩
    unfold bigW at q
    exact q.elim Or.inl (fun q => Or.inr ⟨h8, q⟩)
  · simp only [if_neg h8]
    have K : SmallCtx c h res rsz adft pmat nrows ncols (min nrows asz) (min ncols rsz) :=
      ⟨hcc, hcr, Nat.min_le_left _ _, hres, hadft, hpm, dra, drp⟩
    unfold Module.vmpApplyDftToDft
    simp only [if_neg h8]
    obtain ⟨f, v⟩ := fill_refine cd c.ar.zero h (In res (rsz * c.nn)) res (rsz * c.nn) (min ncols rsz)
      (fun col x => In (col * c.nn) c.nn x)
      (smallBody c cd res adft pmat nrows (min nrows asz)) _
      (kZeroD c cd (res + min ncols rsz * c.nn) ((rsz - min ncols rsz) * c.nn)) _ _ eNM
      (fun col g R T hcol hT r =>
        smallStep c cd hr h res rsz adft pmat nrows ncols (min nrows asz) (min ncols rsz) K col hcol g T R hT r)
      (smallCells_iff c.nn (min ncols rsz)) (zt _)
      ST.mem
    exact ⟨f.mono (fun x q => Or.inl q), v⟩

end

end Spq.ModuleHeap
