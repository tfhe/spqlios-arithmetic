/-
  Counting loops over an ABSTRACT environment (only some slots are known; what is known is a predicate `Keep env` /
  `I k env`): used for loops whose body declares locals (their values of the previous iteration are dead and the
  invariant does not mention them), e.g. `znx_normalize`.
-/
import SpqProofs.Lemmas.SrcFill
namespace Spq.CIR

/-- counting `for` loop whose body is an arbitrary statement; the environment is abstract: `Keep env` is what
    the loop needs to know about it (length, values of the slots the body reads but does not write) and must be
    preserved by the body and by assignments to the counter slot `js`. -/
theorem body_for (Γ : List Ptr) (js : Nat) (e0 hiE : Expr) (body : Stmt) (env0 : List Int) (m0 : Mem)
    (M : Nat → Mem) (Keep : List Int → Prop) (lo hi : Nat)
    (hm0 : m0 = M lo) (hlh : lo ≤ hi) (h64 : hi < 18446744073709551616)
    (hK0 : Keep (lset env0 js (lo : Int)))
    (hKjs : ∀ env v, Keep env → Keep (lset env js v))
    (hKlen : ∀ env, Keep env → js < env.length)
    (he0 : eval Γ ⟨env0, m0⟩ e0 = .ok (lo : Int))
    (hhiE : ∀ env k, Keep env → eval Γ ⟨env, M k⟩ hiE = .ok (hi : Int))
    (hbody : ∀ env k, lo ≤ k → k < hi → Keep env → lget env js = (k : Int) → ∀ f,
      ∃ env', exec Γ body f ⟨env, M k⟩ = .ok (.norm, ⟨env', M (k + 1)⟩) ∧ Keep env' ∧ lget env' js = (k : Int)) :
    ∀ f, hi - lo ≤ f →
      memOf (exec Γ (.for (.assign js e0) (.bin .lt .u64 (.var js) hiE)
          (.assign js (.bin .add .u64 (.var js) (.lit 1))) body) f ⟨env0, m0⟩) = .ok (M hi) := by
  intro f hf
  subst hm0
  refine Post.memOf _ _ _ (for_count ExtSem.none Γ js e0 hiE body ⟨env0, M lo⟩
    (fun k σ => σ.mem = M k ∧ Keep σ.env ∧ lget σ.env js = (k : Int)) lo hi 0 hlh h64 he0
    ⟨rfl, hK0, lget_lset_self _ _ _ (by have := hKlen _ hK0; rwa [length_lset] at this)⟩
    (fun _ _ h => h.2.2) (fun k ⟨env, m⟩ _ _ ⟨hm, hK, _⟩ => by subst hm; exact hhiE env k hK)
    (fun k ⟨env, m⟩ hk1 hk2 ⟨hm, hK, hj⟩ f _ => by
      subst hm
      obtain ⟨env', hb, hK', hj'⟩ := hbody env k hk1 hk2 hK hj f
      exact ⟨_, hb, hj', rfl, hKjs _ _ hK', lget_lset_self _ _ _ (hKlen _ hK')⟩) f (by omega)) fun _ h => h.1

theorem memOf_seqK_post (x : Out) (k : State → Out) (Q : State → Prop) (M : R Mem)
    (ha : ∃ σ', x = .ok (.norm, σ') ∧ Q σ') (hb : ∀ σ', Q σ' → memOf (k σ') = M) : memOf (seqK x k) = M := by
  obtain ⟨σ', rfl, hq⟩ := ha
  exact hb σ' hq

end Spq.CIR
