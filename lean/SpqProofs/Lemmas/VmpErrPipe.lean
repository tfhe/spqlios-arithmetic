/-
  C02 rounding budget: one output column of the binary64 vector-matrix product.
  `col_out`: the rows of the operand by the forward rule, the column rule `near_col` (its budget bounded by
  `f·ΣS_i`, `f = fB ε μ_n (ε·m)`, `S_i = ‖a_i‖₁·nb_i + na_i·‖M_ij‖₁`: `rowF_rel_le`), `Size.rows`, then the consumer
  `ProdErr.near_out` (inverse stage and final conversion): `|(spec_j)_i| ≤ ΣS/2`, and every output
  coefficient is an integer within `vbudget + 1/2` of `(spec_j)_i`, `spec_j = Σ_{i<n} a_i ⊛ M[i][j]`.
-/
import SpqProofs.Lemmas.VmpErrNear
namespace Spq.VmpErr
open Finset Spq Spq.Module Spq.Fft Spq.Fft.Alg Spq.Fft.SimP Spq.Fft.LevelN Spq.Fft.SchedN Spq.Fft.RelN Spq.FftErr Spq.F64
  Spq.Reim4 Spq.ProdErr Spq.C06Err Spq.Conv

/-- **flags of the pipeline for output column `j`**, stage by stage (as `ProdErr.PipeOk`): forward transforms of the
    `n = min nrows asz` vector limbs and of the `n` matrix entries of column `j`, the accumulation (flagged run of
    `vmp_apply_dft_to_dft`, the `N` cells of column `j`), the inverse transform of the computed column. -/
structure VmpOk (c : Cfg) (k : ℕ) (cN sN cNi sNi : ℕ → ℕ) (mat : Array Int) (nrows ncols : ℕ) (a : Array Int)
    (asz asl rsz j : ℕ) : Prop where
  okA : ∀ i, i < min nrows asz → FwdOk c k cN sN (limbOf a i asl (2 * 2 ^ k))
  okB : ∀ i, i < min nrows asz → FwdOk c k cN sN (matEntry mat ncols (2 * 2 ^ k) i j)
  okD : ∀ p, p < 2 * 2 ^ k → vmpFlag c mat nrows ncols a asz asl rsz (j * (2 * 2 ^ k) + p)
  okI : InvOk c k cNi sNi (dlimb (vmpRes c mat nrows ncols a asz asl rsz) j (2 * 2 ^ k))

/-- the exact column: `Σ_{i<n} a_i ⊛ M[i][j]` in `ℤ[X]/(X^N + 1)` -/
def colSpec (k : ℕ) (mat : Array Int) (nrows ncols : ℕ) (a : Array Int) (asz asl j : ℕ) : Array Int :=
  isum (2 * 2 ^ k) (min nrows asz)
    (fun i => nmul (2 * 2 ^ k) (limbOf a i asl (2 * 2 ^ k)) (matEntry mat ncols (2 * 2 ^ k) i j))

variable {K : Type} [Field K] [LinearOrder K] [IsStrictOrderedRing K]

/-- `S_i = ‖a_i‖₁·nb_i + na_i·‖M_ij‖₁` -/
def rowS (K : Type) [Field K] [LinearOrder K] (k : ℕ) (mat : Array Int) (ncols : ℕ) (a : Array Int) (asl j : ℕ)
    (na nb : ℕ → K) (i : ℕ) : K :=
  n1 K (limbOf a i asl (2 * 2 ^ k)) (2 * 2 ^ k) * nb i + na i * n1 K (matEntry mat ncols (2 * 2 ^ k) i j) (2 * 2 ^ k)

/-- `Σ_{i<n} S_i` -/
def sumS (K : Type) [Field K] [LinearOrder K] (k : ℕ) (mat : Array Int) (nrows ncols : ℕ) (a : Array Int)
    (asz asl j : ℕ) (na nb : ℕ → K) : K :=
  ∑ i ∈ range (min nrows asz), rowS K k mat ncols a asl j na nb i

theorem rowS_nonneg (k : ℕ) (mat : Array Int) (ncols : ℕ) (a : Array Int) (asl j : ℕ) (na nb : ℕ → K) (i : ℕ)
    (h1 : 0 ≤ na i) (h2 : 0 ≤ nb i) : 0 ≤ rowS K k mat ncols a asl j na nb i := by
  unfold rowS
  have a1 : (0 : K) ≤ n1 K (limbOf a i asl (2 * 2 ^ k)) (2 * 2 ^ k) := n1_nonneg _ _
  have a2 : (0 : K) ≤ n1 K (matEntry mat ncols (2 * 2 ^ k) i j) (2 * 2 ^ k) := n1_nonneg _ _
  positivity

/-- the budget of one column: `eB ε μ_n (ε·m)·Σ_i S_i` -/
def vbudget (K : Type) [Field K] [LinearOrder K] (k : ℕ) (mat : Array Int) (nrows ncols : ℕ) (a : Array Int)
    (asz asl j : ℕ) (na nb : ℕ → K) : K :=
  eB (eps K k) ((muD (min nrows asz) : ℚ) : K) (eps K k * 2 ^ k) * sumS K k mat nrows ncols a asz asl j na nb

theorem sumS_nonneg (k : ℕ) (mat : Array Int) (nrows ncols : ℕ) (a : Array Int) (asz asl j : ℕ) (na nb : ℕ → K)
    (hna0 : ∀ i, i < min nrows asz → 0 ≤ na i) (hnb0 : ∀ i, i < min nrows asz → 0 ≤ nb i) :
    0 ≤ sumS K k mat nrows ncols a asz asl j na nb :=
  sum_nonneg (fun i hi => rowS_nonneg k mat ncols a asl j na nb i (hna0 i (mem_range.1 hi)) (hnb0 i (mem_range.1 hi)))

theorem vmpRes_size (c : Cfg) (k : ℕ) (cN sN cNi sNi : ℕ → ℕ) (h : VCfgOk c k cN sN cNi sNi)
    (mat : Array Int) (nrows ncols : ℕ) (a : Array Int) (asz asl rsz : ℕ)
    (hM : ∀ i j, i < nrows → j < ncols → Box k (matEntry mat ncols (2 * 2 ^ k) i j)) :
    (vmpRes c mat nrows ncols a asz asl rsz).size = rsz * (2 * 2 ^ k) :=
  vmpResD_size c k cN sN cNi sNi h mat nrows ncols _ asz rsz hM

theorem dlimb_size {α : Type} (x : Array α) (j nn rsz : ℕ) (hs : x.size = rsz * nn) (hj : j < rsz) :
    (dlimb x j nn).size = nn := by
  unfold dlimb
  apply size_extract_of_le
  have := mul_step j rsz nn hj
  omega

/-- the domain side condition of the final conversion of column `j`: `|(spec_j)_t| + budget < B_v` -/
def VOutDom (K : Type) [Field K] [LinearOrder K] (c : Cfg) (k : ℕ) (mat : Array Int) (nrows ncols : ℕ) (a : Array Int)
    (asz asl j : ℕ) (na nb : ℕ → K) : Prop :=
  ∀ t, t < 2 * 2 ^ k → |(((colSpec k mat nrows ncols a asz asl j).getD t 0 : Int) : K)| +
    vbudget K k mat nrows ncols a asz asl j na nb < ((Bv c.toVariant : ℚ) : K)

theorem col_out (C : Ctx K) (hk : C.k ≤ 961) (h : VCfgOk C.c C.k C.cN C.sN C.cNi C.sNi)
    (mat : Array Int) (nrows ncols : ℕ) (a : Array Int) (asz asl rsz rsz2 : ℕ)
    (hA : ∀ i, i < min nrows asz → Box C.k (limbOf a i asl C.N))
    (hM : ∀ i j, i < nrows → j < ncols → Box C.k (matEntry mat ncols C.N i j))
    (j : ℕ) (hj : j < min ncols rsz) (hj2 : j < rsz2) (hpos : C.k < 2 → 0 < min nrows asz)
    (hok : VmpOk C.c C.k C.cN C.sN C.cNi C.sNi mat nrows ncols a asz asl rsz j)
    (na nb : ℕ → K) (sa : ∀ i, i < min nrows asz → Size C (limbOf a i asl C.N) (na i))
    (sb : ∀ i, i < min nrows asz → Size C (matEntry mat ncols C.N i j) (nb i))
    (hnl : ∀ i, i < min nrows asz → nb i ≤ n1 K (matEntry mat ncols C.N i j) C.N) :
    (∀ t, t < C.N → |(((colSpec C.k mat nrows ncols a asz asl j).getD t 0 : Int) : K)| ≤
      sumS K C.k mat nrows ncols a asz asl j na nb / 2) ∧
    (VOutDom K C.c C.k mat nrows ncols a asz asl j na nb → ∀ t, t < C.N → ∃ r : ℤ,
      (dlimb (vecIdft (Cfg.parts C.c) rsz2 (vmpRes C.c mat nrows ncols a asz asl rsz) rsz) j C.N)[t]? = some r ∧
      |(r : K) - (((colSpec C.k mat nrows ncols a asz asl j).getD t 0 : Int) : K)| ≤
        vbudget K C.k mat nrows ncols a asz asl j na nb + 1 / 2) := by
  have hjr : j < rsz := lt_of_lt_of_le hj (Nat.min_le_right _ _)
  have hμ : (0 : K) ≤ ((muD (min nrows asz) : ℚ) : K) := by exact_mod_cast muD_nonneg _
  have hrep : ∀ i, i < min nrows asz → Near C (dlimb (vecDft (Cfg.parts C.c) (min nrows asz) a asz asl) i C.N)
      (limbOf a i asl C.N) (eps K C.k * na i) := fun i hi => by
    rw [vecDft_row C.c C.k C.cN C.sN C.cNi C.sNi h a asz asl _ (Nat.min_le_right _ _) hA i hi]
    exact near_fwd C _ (hA i hi) (hok.okA i hi) (na i) (sa i hi)
  have col := (near_col C h mat nrows ncols _ asz rsz (fun i => limbOf a i asl C.N) _ hrep hM j hj hpos hok.okB hok.okD
    na nb sa sb).mono
    (sum_le_sum (fun i hi => rowF_rel_le _ _ _ _ _ _ _ (eps_nonneg C.k) hμ (sa i (mem_range.1 hi)).1
      (sb i (mem_range.1 hi)).1 (n1_nonneg _ _) (by positivity) (hnl i (mem_range.1 hi))))
  obtain ⟨hcb, hout⟩ := near_out C hk _
    (dlimb_size _ j _ rsz (vmpRes_size C.c C.k C.cN C.sN C.cNi C.sNi h mat nrows ncols a asz asl rsz hM) hjr)
    hok.okI _ _ _ (vbudget K C.k mat nrows ncols a asz asl j na nb) col
    (Size.rows (fun i hi => (sa i hi).nmul (sb i hi)))
    (by unfold vbudget eB sumS rowS; simp only [div_eq_mul_inv, ← sum_mul, ← mul_sum]; ring)
  refine ⟨fun t ht => le_of_le_of_eq (hcb t ht) (by unfold sumS rowS; simp only [div_eq_mul_inv, ← sum_mul]),
    fun hdom t ht => ?_⟩
  rw [idft_limb C.c C.k C.ok.nn C.ok.toVar rsz2 _ rsz j hj2, if_pos hjr, parts_ifft C.c C.k C.cN C.sN C.cNi C.sNi C.ok]
  exact hout t ht (hdom t ht)

end Spq.VmpErr
