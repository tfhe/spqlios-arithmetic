/-
  Helper lemmas of `Properties/SrcReim4.lean` (source tie of the reference reim4 block kernels of
  spqlios/reim4/reim4_arithmetic_ref.c): pointer locals (`src_ptr`, `dst_ptr`) as two slots, loads / stores at a cell
  offset in a memory `mem[d := A]` whose destination buffer `d` differs from the source buffer.  The three kernels are
  made of groups of four cell copies between two such pointers, written `dst[i] = src_ptr[j]`, `dst_ptr[j] = src[i]` or
  `dst_ptr[j] = src_ptr[j']`: `CopiesCell` says what one such statement does, `copies_*` prove it for the three forms with
  the slots of the pointer local as parameters (read off the literal environment by `rfl` at the call), and `exec_copy4`
  runs four of them into `copy4`.
-/
import SpqProofs.Lemmas.SrcFftvec
namespace Spq.CIR
open Spq Spq.Reim4

theorem encPtr_some4 (x0 x1 x2 x3 : Int) (b o : Nat) :
    encPtr [x0, x1, x2, x3] 2 (some (b, o)) = [x0, x1, (b : Int), (o : Int)] := rfl

/-- load at cell `o` of a buffer other than the rewritten one -/
theorem loadAt_other (mem : Mem) (d s : Nat) (A : Array Int) (o : Nat) (hsd : s ≠ d) (ho : o < (buf mem s).size) :
    loadCell (mem.setIfInBounds d A) (some (s, o)) 0 = .ok ((buf mem s).getD o 0) := by
  have h := loadCell_nat (mem.setIfInBounds d A) s o 0 (by rw [buf_set_ne _ _ _ _ hsd]; omega)
  rw [buf_set_ne _ _ _ _ hsd] at h
  simpa using h

/-- store at cell `o` of the rewritten buffer -/
theorem storeAt_self (mem : Mem) (d : Nat) (A : Array Int) (o : Nat) (v : Int) (hA : A.size = (buf mem d).size)
    (ho : o < (buf mem d).size) :
    storeCell (mem.setIfInBounds d A) (some (d, o)) 0 v = .ok (mem.setIfInBounds d (A.setIfInBounds o v)) := by
  have hd : d < mem.size := lt_size_of_buf_size_pos mem d (by omega)
  have h := storeCell_nat (mem.setIfInBounds d A) d o 0 v (by rw [buf_set_self _ _ _ hd]; omega)
  rw [buf_set_self _ _ _ hd, set_set] at h
  simpa using h

theorem size_copy4 {α : Type} (z : α) (dst : Array α) (d : Nat) (src : Array α) (s : Nat) :
    (copy4 z dst d src s).size = dst.size := by
  simp [copy4]

/-- `S` copies cell `os` of buffer `s` to cell `od` of a different buffer `d`, whatever `d` holds by then, and leaves
    the environment as it is -/
def CopiesCell (Γ : List Ptr) (env : List Int) (S : Stmt) (d od s os : Nat) : Prop :=
  ∀ (f : Nat) (mem : Mem) (A : Array Int), s ≠ d → A.size = (buf mem d).size → od < (buf mem d).size →
    os < (buf mem s).size →
    exec Γ S f ⟨env, mem.setIfInBounds d A⟩
      = .ok (.norm, ⟨env, mem.setIfInBounds d (A.setIfInBounds od ((buf mem s).getD os 0))⟩)

section copies
variable {Γ : List Ptr} {env : List Int} {d s : Nat}

/-- `dst[i] = src_ptr[j]` -/
theorem copies_store_pload {rp sl o i j : Nat} (hΓ : Γ.getD rp none = some (d, 0)) (hb : lget env sl = (s : Int))
    (ho : lget env (sl + 1) = (o : Int)) :
    CopiesCell Γ env (.store rp (.lit (i : Int)) (.pload (.pvar sl) (.lit (j : Int)))) d i s (o + j) := by
  intro f mem A hsd hA hd hs
  rw [exec_store, eval_lit, R.bind_ok, eval_pload, eval_lit, R.bind_ok, ptrAt_pvar_off Γ env sl s o j _ rfl hb ho,
    R.bind_ok, loadAt_other mem d s A _ hsd hs, R.bind_ok, hΓ, store_self mem d A i _ hA hd]
  rfl

/-- `dst_ptr[j] = src[i]` -/
theorem copies_pstore_load {rp sl o i j : Nat} (hΓ : Γ.getD rp none = some (s, 0)) (hb : lget env sl = (d : Int))
    (ho : lget env (sl + 1) = (o : Int)) :
    CopiesCell Γ env (.pstore (.pvar sl) (.lit (j : Int)) (.load rp (.lit (i : Int)))) d (o + j) s i := by
  intro f mem A hsd hA hd hs
  rw [exec_pstore, eval_lit, R.bind_ok, eval_load, eval_lit, R.bind_ok, hΓ, load_other mem d s A i hsd hs,
    R.bind_ok, ptrAt_pvar_off Γ env sl d o j _ rfl hb ho, R.bind_ok, storeAt_self mem d A _ _ hA hd]
  rfl

/-- `dst_ptr[j] = src_ptr[j']` -/
theorem copies_pstore_pload {sd ss od os j j' : Nat} (hbd : lget env sd = (d : Int))
    (hod : lget env (sd + 1) = (od : Int)) (hbs : lget env ss = (s : Int)) (hos : lget env (ss + 1) = (os : Int)) :
    CopiesCell Γ env (.pstore (.pvar sd) (.lit (j : Int)) (.pload (.pvar ss) (.lit (j' : Int)))) d (od + j) s
      (os + j') := by
  intro f mem A hsd hA hd hs
  rw [exec_pstore, eval_lit, R.bind_ok, eval_pload, eval_lit, R.bind_ok, ptrAt_pvar_off Γ env ss s os j' _ rfl hbs hos,
    R.bind_ok, loadAt_other mem d s A _ hsd hs, R.bind_ok, ptrAt_pvar_off Γ env sd d od j _ rfl hbd hod, R.bind_ok,
    storeAt_self mem d A _ _ hA hd]
  rfl

theorem CopiesCell.seq {S : Stmt} {od os : Nat} (h : CopiesCell Γ env S d od s os) (rest : Stmt) (f : Nat) (mem : Mem)
    (A : Array Int) (hsd : s ≠ d) (hA : A.size = (buf mem d).size) (hd : od < (buf mem d).size)
    (hs : os < (buf mem s).size) :
    exec Γ (.seq S rest) f ⟨env, mem.setIfInBounds d A⟩
      = exec Γ rest f ⟨env, mem.setIfInBounds d (A.setIfInBounds od ((buf mem s).getD os 0))⟩ := by
  rw [exec_seq, h f mem A hsd hA hd hs, seqK_norm]

variable (C : Nat → Stmt) {od os : Nat} (hC : ∀ i, CopiesCell Γ env (C i) d (od + i) s (os + i)) (mem : Mem)
  (A : Array Int) (hsd : s ≠ d) (hA : A.size = (buf mem d).size) (hd : od + 3 < (buf mem d).size)
  (hs : os + 3 < (buf mem s).size)
include hC hsd hA hd hs

/-- four statements `C 0 … C 3` that copy four consecutive cells are `copy4` -/
theorem exec_copy4_seq (rest : Stmt) (f : Nat) :
    exec Γ (.seq (C 0) (.seq (C 1) (.seq (C 2) (.seq (C 3) rest)))) f ⟨env, mem.setIfInBounds d A⟩
      = exec Γ rest f ⟨env, mem.setIfInBounds d (copy4 0 A od (buf mem s) os)⟩ := by
  rw [(hC 0).seq _ f mem A hsd hA (by omega) (by omega),
    (hC 1).seq _ f mem _ hsd (by rw [Array.size_setIfInBounds]; exact hA) (by omega) (by omega),
    (hC 2).seq _ f mem _ hsd (by simp only [Array.size_setIfInBounds]; exact hA) (by omega) (by omega),
    (hC 3).seq _ f mem _ hsd (by simp only [Array.size_setIfInBounds]; exact hA) (by omega) (by omega)]
  rfl

theorem exec_copy4 (f : Nat) :
    exec Γ (.seq (C 0) (.seq (C 1) (.seq (C 2) (C 3)))) f ⟨env, mem.setIfInBounds d A⟩
      = .ok (.norm, ⟨env, mem.setIfInBounds d (copy4 0 A od (buf mem s) os)⟩) := by
  rw [(hC 0).seq _ f mem A hsd hA (by omega) (by omega),
    (hC 1).seq _ f mem _ hsd (by rw [Array.size_setIfInBounds]; exact hA) (by omega) (by omega),
    (hC 2).seq _ f mem _ hsd (by simp only [Array.size_setIfInBounds]; exact hA) (by omega) (by omega),
    hC 3 f mem _ hsd (by simp only [Array.size_setIfInBounds]; exact hA) (by omega) (by omega)]
  rfl
end copies

/-- `p = base + o;` -/
theorem exec_passign_ok {Γ : List Ptr} {env : List Int} (sl : Nat) (b : PBase) (o : Expr) (f : Nat) (m : Mem) {v : Int}
    {p : Ptr} (ho : eval Γ ⟨env, m⟩ o = .ok v) (hp : ptrAt Γ env b v = .ok p) :
    exec Γ (.passign sl b o) f ⟨env, m⟩ = .ok (.norm, ⟨encPtr env sl p, m⟩) := by
  rw [exec_passign, ho, R.bind_ok, hp, R.bind_ok]

theorem exec_passign_seq {Γ : List Ptr} {env : List Int} (sl : Nat) (b : PBase) (o : Expr) (rest : Stmt) (f : Nat)
    (m : Mem) {v : Int} {p : Ptr} (ho : eval Γ ⟨env, m⟩ o = .ok v) (hp : ptrAt Γ env b v = .ok p) :
    exec Γ (.seq (.passign sl b o) rest) f ⟨env, m⟩ = exec Γ rest f ⟨encPtr env sl p, m⟩ := by
  rw [exec_seq, exec_passign_ok sl b o f m ho hp, seqK_norm]

/-- the accumulator of `extract1blkFromContiguousReimRef` after `k` rows -/
def extractK (m blk : Nat) (D S : Array Int) (k : Nat) : Array Int :=
  Nat.fold k (fun i _ d => copy4 (0 : Int) d (4 * i) S (4 * blk + i * m)) D

theorem extractK_succ (m blk : Nat) (D S : Array Int) (k : Nat) :
    extractK m blk D S (k + 1) = copy4 (0 : Int) (extractK m blk D S k) (4 * k) S (4 * blk + k * m) := by
  simp only [extractK, Nat.fold_succ]

theorem size_extractK (m blk : Nat) (D S : Array Int) (k : Nat) : (extractK m blk D S k).size = D.size := by
  induction k with
  | zero => simp [extractK]
  | succ k ih => rw [extractK_succ, size_copy4, ih]

theorem encPtr_some (env : List Int) (sl b o : Nat) :
    encPtr env sl (some (b, o)) = lset (lset env sl (b : Int)) (sl + 1) (o : Int) := rfl

/-! ### buffers of binary64 patterns (`patBuf`): the copies commute with the embedding of patterns into cells -/

theorem copy4_map {α β : Type} (f : α → β) (z : α) (dst : Array α) (d : Nat) (src : Array α) (s : Nat) :
    copy4 (f z) (dst.map f) d (src.map f) s = (copy4 z dst d src s).map f := by
  simp only [copy4, getD_map, ← Array.map_setIfInBounds]

theorem extract1blkFromReimRef_patBuf (m blk : Nat) (D S : Array Nat) :
    extract1blkFromReimRef (0 : Int) m blk (patBuf D) (patBuf S) = patBuf (extract1blkFromReimRef 0 m blk D S) := by
  simp only [extract1blkFromReimRef, patBuf]
  rw [show (0 : Int) = ((fun (x : Nat) => (x : Int)) 0) from rfl, copy4_map, copy4_map]

theorem save1blkToReimRef_patBuf (m blk : Nat) (D S : Array Nat) :
    save1blkToReimRef (0 : Int) m blk (patBuf D) (patBuf S) = patBuf (save1blkToReimRef 0 m blk D S) := by
  simp only [save1blkToReimRef, patBuf]
  rw [show (0 : Int) = ((fun (x : Nat) => (x : Int)) 0) from rfl, copy4_map, copy4_map]

theorem extract1blkFromContiguousReimRef_patBuf (m nrows blk : Nat) (D S : Array Nat) :
    extract1blkFromContiguousReimRef (0 : Int) m nrows blk (patBuf D) (patBuf S)
      = patBuf (extract1blkFromContiguousReimRef 0 m nrows blk D S) := by
  simp only [extract1blkFromContiguousReimRef, patBuf]
  generalize 2 * nrows = n
  induction n with
  | zero => simp only [Nat.fold_zero]
  | succ n ih =>
    simp only [Nat.fold_succ]
    rw [ih, show (0 : Int) = ((fun (x : Nat) => (x : Int)) 0) from rfl, copy4_map]

/-- `blk << 2` in `uint64_t`: the cell index `4 * blk` of a block of four -/
theorem shl2_wrap (blk : Nat) (h : 4 * blk < 18446744073709551616) :
    ((blk : Int) * 2 ^ (2 : Int).toNat) % 18446744073709551616 = ((4 * blk : Nat) : Int) := by
  have : (2 : Int).toNat = 2 := rfl
  rw [this]; omega

theorem shift2_ok : ((0 : Int) ≤ 2 ∧ (2 : Int) < 64) := by decide

end Spq.CIR
