/-
  Layouts: an index set laid out one-to-one on the slots `[0, N)`, given with its inverse (`Tiles`).  What the users
  of a layout need (in bounds, the two round trips, the windows of width `w` cover the prefix `[0, w·N)`) is proved once; a
  layout with one more most significant digit is again one (`Tiles.digit`), by the two-digit fact `radix_iff`.
-/
import SpqProofs.Lemmas.Window
namespace Spq.Module
open Spq ModuleHeap

theorem radix_iff (a b i j s : Nat) : (i < a ∧ j < b ∧ i * b + j = s) ↔ (s < a * b ∧ s / b = i ∧ s % b = j) := by
  constructor
  · rintro ⟨hi, hj, rfl⟩
    have := mul_step i a b hi
    refine ⟨by omega, ?_, ?_⟩
    · rw [Nat.mul_comm]; exact mul_add_div_of_lt hj
    · rw [Nat.mul_comm]; exact mul_add_mod_of_lt hj
  · rintro ⟨hs, rfl, rfl⟩
    have hb : 0 < b := by
      rcases Nat.eq_zero_or_pos b with e | e
      · subst e; simp at hs
      · exact e
    exact ⟨(Nat.div_lt_iff_lt_mul hb).2 hs, Nat.mod_lt _ hb, by rw [Nat.mul_comm]; exact Nat.div_add_mod s b⟩

theorem In_mul_iff (w s x : Nat) (hw : 0 < w) : In (w * s) w x ↔ x / w = s := by
  unfold In
  constructor
  · intro h
    exact (Nat.div_eq_iff hw).2 ⟨by rw [Nat.mul_comm]; exact h.1, by rw [Nat.mul_comm]; omega⟩
  · rintro rfl
    have := Nat.div_add_mod x w
    have := Nat.mod_lt x hw
    omega

def Tiles {ι : Type} (dom : ι → Prop) (slot : ι → Nat) (N : Nat) (inv : Nat → ι) : Prop :=
  ∀ i s, (dom i ∧ slot i = s) ↔ (s < N ∧ inv s = i)

namespace Tiles
variable {ι : Type} {dom : ι → Prop} {slot : ι → Nat} {N : Nat} {inv : Nat → ι}

theorem lt (t : Tiles dom slot N inv) {i : ι} (hi : dom i) : slot i < N := ((t i _).1 ⟨hi, rfl⟩).1
theorem left (t : Tiles dom slot N inv) {i : ι} (hi : dom i) : inv (slot i) = i := ((t i _).1 ⟨hi, rfl⟩).2
theorem right (t : Tiles dom slot N inv) {s : Nat} (hs : s < N) : dom (inv s) ∧ slot (inv s) = s := (t _ s).2 ⟨hs, rfl⟩
theorem bound (t : Tiles dom slot N inv) (w : Nat) {i : ι} (hi : dom i) : w * slot i + w ≤ w * N := by
  have := Nat.mul_le_mul_left w (t.lt hi)
  rwa [Nat.mul_succ] at this

theorem win (t : Tiles dom slot N inv) (w : Nat) (hw : 0 < w) (i : ι) (x : Nat) :
    (dom i ∧ In (w * slot i) w x) ↔ (x < w * N ∧ inv (x / w) = i) := by
  rw [In_mul_iff w _ x hw, eq_comm, t i, Nat.div_lt_iff_lt_mul hw, Nat.mul_comm]

/-- the coverage hypothesis of `ModuleHeap.fill_refine` -/
theorem cover (t : Tiles dom slot N inv) (w : Nat) (hw : 0 < w) (x : Nat) :
    (∃ i, dom i ∧ In (w * slot i) w x) ↔ x < w * N :=
  ⟨fun ⟨i, h⟩ => ((t.win w hw i x).1 h).1, fun h => ⟨_, (t.win w hw _ x).2 ⟨h, rfl⟩⟩⟩

theorem digit (t : Tiles dom slot N inv) (nb : Nat) :
    Tiles (fun i : ι × Nat => dom i.1 ∧ i.2 < nb) (fun i => i.2 * N + slot i.1) (nb * N) (fun s => (inv (s % N), s / N)) := by
  rintro ⟨i, b⟩ s
  dsimp only
  constructor
  · rintro ⟨⟨hi, hb⟩, e⟩
    obtain ⟨h1, h2, h3⟩ := (radix_iff nb N b (slot i) s).1 ⟨hb, t.lt hi, e⟩
    exact ⟨h1, by rw [h2, h3, t.left hi]⟩
  · rintro ⟨hs, e⟩
    obtain ⟨e1, e2⟩ := Prod.mk.inj e
    obtain ⟨h1, h2, h3⟩ := (radix_iff nb N _ _ s).2 ⟨hs, rfl, rfl⟩
    obtain ⟨d, q⟩ := t.right h2
    rw [e1] at d q
    rw [e2] at h1 h3
    exact ⟨⟨d, h1⟩, by rw [q]; exact h3⟩

end Tiles

theorem Tiles.range (n : Nat) : Tiles (fun i => i < n) (fun i => i) n (fun s => s) :=
  fun _ _ => ⟨fun ⟨h, e⟩ => ⟨e ▸ h, e.symm⟩, fun ⟨h, e⟩ => ⟨e ▸ h, e.symm⟩⟩

end Spq.Module
