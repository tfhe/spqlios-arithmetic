/-
  C16, binary64 side: the round trip `vec_znx_idft (vec_znx_dft a)` of one limb in the binary64 module: its relative
  budget `rtRel = 2ε + ε²` (forward error `ε = (1+8u)^k − 1` of C06Err, inverse error `ε·(1+ε)`; `rtRel_le16`:
  `≤ 17·(k+1)·2^-53` for `k ≤ 16`), the flags `RtOk` of its two transforms, and `firstN`, the array of the `N`
  coefficients it returns.
-/
import SpqProofs.Lemmas.VmpErrTop
namespace Spq.ProgErr
open Finset Spq Spq.Module Spq.Fft Spq.Fft.Alg Spq.Fft.SimP Spq.Fft.LevelN Spq.Fft.SchedN Spq.Fft.RelN Spq.FftErr Spq.F64
  Spq.Reim4 Spq.C06Err Spq.ProdErr Spq.VmpErr Spq.Conv
variable {K : Type} [Field K] [LinearOrder K] [IsStrictOrderedRing K]

def rtRel (K : Type) [Field K] (k : ℕ) : K := 2 * eps K k + eps K k ^ 2

/-- flags of the round trip of the integer polynomial `a`: forward transform of `a`, inverse transform of the
    computed forward transform -/
structure RtOk (c : Cfg) (k : ℕ) (cN sN cNi sNi : ℕ → ℕ) (a : Array Int) : Prop where
  okF : FwdOk c k cN sN a
  okI : InvOk c k cNi sNi (stF c k cN sN a)

/-- the `N` coefficients of `a` as an array of exactly `N` cells -/
def firstN (N : ℕ) (a : Array Int) : Array Int := Array.ofFn (n := N) fun t => a.getD t.val 0

@[simp] theorem size_firstN (N : ℕ) (a : Array Int) : (firstN N a).size = N := by simp [firstN]

theorem getD_firstN (N : ℕ) (a : Array Int) (t : ℕ) (ht : t < N) : (firstN N a).getD t 0 = a.getD t 0 := by
  simp [firstN, Array.getD_eq_getD_getElem?, ht]

theorem firstN_of_size (N : ℕ) (a : Array Int) (h : a.size = N) : firstN N a = a := by
  apply ext_getD 0 (by simp [h])
  intro i hi
  exact getD_firstN N a i (by simpa using hi)

theorem rtRel_le16 (k : ℕ) (hk : k ≤ 16) : rtRel K k ≤ ((17 * (k + 1 : ℚ) * u64 : ℚ) : K) := by
  have := (Rat.cast_le (K := K)).2 (roundtrip16 k hk)
  unfold rtRel
  rw [eps_cast]
  refine le_trans (le_of_eq ?_) this
  push_cast; ring

end Spq.ProgErr
