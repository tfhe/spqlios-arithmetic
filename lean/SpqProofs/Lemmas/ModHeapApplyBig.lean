/-
  Heap-level refinement of the block loop of `fft64_vmp_apply_dft_to_dft_{ref,avx}` (`nn ≥ 8`): one iteration is a
  `Rep` step onto `Module.gBlkBody`; the scratch (`tmp[0,16)` accumulator, `tmp[16, 16+8*row_max)` extracted block) stays
  inside its declared extent, nothing else changes.
-/
import SpqProofs.Lemmas.ModHeapRefine
import SpqProofs.Lemmas.ModuleVmpBlk
import SpqProofs.Lemmas.ModHeapIdft
namespace Spq.ModuleHeap
open Spq Heap Reim4
variable {γ α : Type}

theorem extract_full {β : Type} (O : Array β) (n : Nat) (hO : O.size = n) : O.extract 0 n = O := by
  subst hO; exact Array.extract_size

theorem cells_lo (cd : Cells γ α) (g : Heap γ) (p : Nat) (O : Array α)
    (v : g.readLimb cd.dflt p 16 = O.map cd.enc) : g.readLimb cd.dflt p 8 = (O.extract 0 8).map cd.enc := by
  have := readLimb_extract g cd.dflt p 16 0 8 (by omega)
  rw [v, ← Array.map_extract] at this
  simp only [Nat.zero_add, Nat.add_zero] at this
  rw [this]

theorem cells_hi (cd : Cells γ α) (g : Heap γ) (p : Nat) (O : Array α)
    (v : g.readLimb cd.dflt p 16 = O.map cd.enc) : g.readLimb cd.dflt (p + 8) 8 = (O.extract 8 16).map cd.enc := by
  have := readLimb_extract g cd.dflt p 16 8 8 (by omega)
  rw [v, ← Array.map_extract] at this
  exact this.symm

/-- the slice of `w` columns from `col` on in block `blk` of the prepared matrix lies inside it (`nn = 8 * (m/4)`) -/
theorem pm_bound (nn m nrows ncols blk col w : Nat) (hnn : nn = 2 * m) (hm4 : m % 4 = 0) (hblk : blk < m / 4)
    (hcol : col + w ≤ ncols) :
    blk * (8 * nrows * ncols) + col * (8 * nrows) + 8 * w * nrows ≤ nn * nrows * ncols := by
  have e1 : col * (8 * nrows) + 8 * w * nrows = (col + w) * (8 * nrows) := by ring
  have e2 : (col + w) * (8 * nrows) ≤ ncols * (8 * nrows) := Nat.mul_le_mul_right _ hcol
  have e3 : ncols * (8 * nrows) = 8 * nrows * ncols := by ring
  have e4 := mul_step blk (m / 4) (8 * nrows * ncols) hblk
  have e5 : nn * nrows * ncols = m / 4 * (8 * nrows * ncols) := by
    have : nn = 8 * (m / 4) := by omega
    rw [this]; ring
  omega

def pairBody (c : Module.Parts α) (cd : Cells γ α) (res pmat nrows ncols tmp tb rowMax blk t : Nat) (h : Heap γ) : Heap γ :=
  h |> scr tb 0 16 |> scr tb 16 (8 * rowMax)
    |> kProd2 c cd rowMax nrows tmp (tmp + 16) (pmat + blk * (8 * nrows * ncols) + 2 * t * (8 * nrows))
    |> kSave c cd blk (res + 2 * t * c.nn) tmp
    |> kSave c cd blk (res + (2 * t + 1) * c.nn) (tmp + 8)

def tailBody (c : Module.Parts α) (cd : Cells γ α) (res pmat nrows ncols tmp tb rowMax colMax blk : Nat) (h : Heap γ) : Heap γ :=
  (if ncols == colMax then
      h |> scr tb 0 8 |> scr tb 16 (8 * rowMax)
        |> kProd1 c cd rowMax nrows tmp (tmp + 16) (pmat + blk * (8 * nrows * ncols) + (colMax - 1) * (8 * nrows))
    else
      h |> scr tb 0 16 |> scr tb 16 (8 * rowMax)
        |> kProd2 c cd rowMax nrows tmp (tmp + 16) (pmat + blk * (8 * nrows * ncols) + (colMax - 1) * (8 * nrows)))
    |> kSave c cd blk (res + (colMax - 1) * c.nn) tmp

def bigBody (c : Module.Parts α) (cd : Cells γ α) (res adft pmat nrows ncols tmp tb rowMax colMax blk : Nat) (h : Heap γ) : Heap γ :=
  let h := h |> scr tb 16 (8 * rowMax) |> kExtractRows c cd rowMax blk (tmp + 16) adft
  let h := h |> loop (colMax / 2) (fun t h => pairBody c cd res pmat nrows ncols tmp tb rowMax blk t h)
  if colMax % 2 == 1 then tailBody c cd res pmat nrows ncols tmp tb rowMax colMax blk h else h

def smallBody (c : Module.Parts α) (cd : Cells γ α) (res adft pmat nrows rowMax col : Nat) (h : Heap γ) : Heap γ :=
  if rowMax == 0 then kZeroD c cd (res + col * c.nn) c.nn h
  else
    h |> kMul c cd (res + col * c.nn) adft (pmat + col * nrows * c.nn)
      |> loop (rowMax - 1) (fun k => kAddmul c cd (res + col * c.nn) (adft + (k + 1) * c.nn) (pmat + col * nrows * c.nn + (k + 1) * c.nn))

theorem vmpApplyDftToDft_unfold (c : Module.Parts α) (cd : Cells γ α) (h : Heap γ)
    (res rsz adft asz pmat nrows ncols tmp tb : Nat) :
    vmpApplyDftToDft c cd h res rsz adft asz pmat nrows ncols tmp tb =
      kZeroD c cd (res + min ncols rsz * c.nn) ((rsz - min ncols rsz) * c.nn)
        (if c.nn ≥ 8 then loop (c.m / 4) (bigBody c cd res adft pmat nrows ncols tmp tb (min nrows asz) (min ncols rsz)) h
         else loop (min ncols rsz) (smallBody c cd res adft pmat nrows (min nrows asz)) h) := rfl

structure BigCtx (c : Module.Parts α) (h : Heap γ) (res rsz adft pmat nrows ncols tmp tb rowMax colMax : Nat) : Prop where
  hnn : c.nn = 2 * c.m
  hm4 : c.m % 4 = 0
  hcol : colMax ≤ ncols
  hcolr : colMax ≤ rsz
  htb : 128 + 64 * rowMax ≤ tb
  hres : res + rsz * c.nn ≤ h.mem.size
  hadft : adft + rowMax * c.nn ≤ h.mem.size
  hpm : pmat + c.nn * nrows * ncols ≤ h.mem.size
  htmp : tmp + (16 + 8 * rowMax) ≤ h.mem.size
  dra : adft + rowMax * c.nn ≤ res ∨ res + rsz * c.nn ≤ adft
  drp : pmat + c.nn * nrows * ncols ≤ res ∨ res + rsz * c.nn ≤ pmat
  drt : tmp + (16 + 8 * rowMax) ≤ res ∨ res + rsz * c.nn ≤ tmp
  dat : tmp + (16 + 8 * rowMax) ≤ adft ∨ adft + rowMax * c.nn ≤ tmp
  dpt : tmp + (16 + 8 * rowMax) ≤ pmat ∨ pmat + c.nn * nrows * ncols ≤ tmp

/-- the cells the block loop may change -/
def bigW (c : Module.Parts α) (res rsz tmp rowMax : Nat) (x : Nat) : Prop :=
  In res (rsz * c.nn) x ∨ In tmp (16 + 8 * rowMax) x

section
variable (c : Module.Parts α) (cd : Cells γ α) (hr : RoundTrip cd) (h : Heap γ)
  (res rsz adft pmat nrows ncols tmp tb rowMax colMax : Nat)
  (K : BigCtx c h res rsz adft pmat nrows ncols tmp tb rowMax colMax)
include hr K

/-- invariant inside one block: frame, content of the result region, content of the extraction buffer -/
def BlkInv (blk : Nat) (g : Heap γ) (R : Array γ) : Prop :=
  (Fr (bigW c res rsz tmp rowMax) h g ∧ g.readLimb cd.dflt res (rsz * c.nn) = R) ∧
  g.readLimb cd.dflt (tmp + 16) (8 * rowMax) =
    (extOf c rowMax blk (rdD cd h adft (rowMax * c.nn))).map cd.enc

omit hr K in
theorem blkInv_def (blk : Nat) (g : Heap γ) (R : Array γ) :
    BlkInv c cd h res rsz adft tmp rowMax blk g R ↔
    ((Fr (bigW c res rsz tmp rowMax) h g ∧ g.readLimb cd.dflt res (rsz * c.nn) = R) ∧
      g.readLimb cd.dflt (tmp + 16) (8 * rowMax) = (extOf c rowMax blk (rdD cd h adft (rowMax * c.nn))).map cd.enc) := Iff.rfl

def BlkRep (blk : Nat) (T : Nat → Prop) (g : Heap γ) (R : Array α) : Prop :=
  ∃ G, BlkInv c cd h res rsz adft tmp rowMax blk g G ∧ PRep cd.enc c.ar.zero T G R

omit hr K in
variable {c cd h res rsz adft tmp rowMax} in
theorem BlkRep.congr {blk : Nat} {T T' : Nat → Prop} {g : Heap γ} {R : Array α}
    (P : BlkRep c cd h res rsz adft tmp rowMax blk T g R) (hT : ∀ x, T x ↔ T' x) :
    BlkRep c cd h res rsz adft tmp rowMax blk T' g R :=
  let ⟨G, P0, p⟩ := P
  ⟨G, P0, p.congr hT⟩

omit hr K in
variable {c cd h res rsz adft tmp rowMax} in
theorem BlkRep.rep {blk : Nat} {T : Nat → Prop} {g : Heap γ} {R : Array α}
    (P : BlkRep c cd h res rsz adft tmp rowMax blk T g R) :
    Rep cd c.ar.zero h (bigW c res rsz tmp rowMax) res (rsz * c.nn) T g R := by
  obtain ⟨G, ⟨⟨f, v⟩, _⟩, p⟩ := P
  exact ⟨f, by rw [v]; exact p⟩

omit hr K in
theorem acc_sub (n off : Nat) (hn : off + n ≤ 16) : Sub (tmp + off) n tmp (16 + 8 * rowMax) :=
  Sub.at _ _ _ _ (Nat.le_trans hn (Nat.le_add_right _ _))
omit hr K in
theorem ext_sub : Sub (tmp + 16) (8 * rowMax) tmp (16 + 8 * rowMax) := Sub.at _ _ _ _ (Nat.le_refl _)

/-- a save of 8 accumulator cells (at `tmp + off` inside `tmp[0,16)`) into limb `col`, after a step `g → ga` that
    changed the accumulator only: `Rep.keep`, then one `Rep.store` for each of the two quadruples -/
theorem prodSaveStep (blk col off : Nat) (hblk : blk < c.m / 4) (hcol : col < colMax) (hoff : off + 8 ≤ 16)
    (g ga : Heap γ) (T : Nat → Prop) (R : Array α)
    (O8 : Array α) (P : BlkRep c cd h res rsz adft tmp rowMax blk T g R)
    (fa : Fr (In tmp 16) g ga) (va : ga.readLimb cd.dflt (tmp + off) 8 = O8.map cd.enc) :
    BlkRep c cd h res rsz adft tmp rowMax blk (fun x => T x ∨ saveCells c.m c.nn blk col x)
      (kSave c cd blk (res + col * c.nn) (tmp + off) ga) (Module.gSave c.m c.nn blk R col O8) ∧
    Fr (In res (rsz * c.nn)) ga (kSave c cd blk (res + col * c.nn) (tmp + off) ga) := by
  have r := P.rep
  obtain ⟨G, ⟨⟨f, v⟩, ve⟩, p⟩ := P
  have hnn := K.hnn
  have hm4 := K.hm4
  have SA : Sub tmp 16 tmp (16 + 8 * rowMax) := Sub.head _ _ _ (Nat.le_add_right _ _)
  have SS := acc_sub tmp rowMax 8 off hoff
  have SE := ext_sub tmp rowMax
  have hcr : col < rsz := Nat.lt_of_lt_of_le hcol K.hcolr
  have SL : Sub (res + col * c.nn) c.nn res (rsz * c.nn) := Sub.limb _ _ _ col hcr
  have S1 : Sub (res + col * c.nn + 4 * blk) 4 res (rsz * c.nn) := (Sub.at _ c.nn _ _ (by omega)).trans SL
  have S2 : Sub (res + col * c.nn + c.m + 4 * blk) 4 res (rsz * c.nn) :=
    Sub.trans (q := res + col * c.nn) (m := c.nn) ⟨by omega, by omega⟩ SL
  have Fa := f.trans fa
  have r1 := r.keep fa (fun x q => Or.inr (SA.mem x q)) (Dj.mono K.drt SA (Sub.refl _ _)).symm.not_mem
  obtain ⟨g1, f1, v1, f2, v2⟩ := kSave_spec c cd ga blk (res + col * c.nn) (tmp + off) (Fa.size ▸ SS.le K.htmp)
    (Fa.size ▸ S1.le K.hres) (Fa.size ▸ S2.le K.hres) (Dj.mono K.drt SS S1).symm (Dj.mono K.drt SS S2).symm
  rw [rdD_of_cells cd hr _ _ _ _ va] at v1 v2
  have e1 : res + col * c.nn + 4 * blk = res + (col * c.nn + 4 * blk) := Nat.add_assoc _ _ _
  have e2 : res + col * c.nn + c.m + 4 * blk = res + (col * c.nn + c.m + 4 * blk) := by omega
  have r2 := r1.store (col * c.nn + 4 * blk) 4 _ (e1 ▸ f1) (e1 ▸ v1)
    (fun x q => Or.inl (S1.mem x (e1 ▸ q)))
  have r3 := r2.store (col * c.nn + c.m + 4 * blk) 4 _ (e2 ▸ f2) (e2 ▸ v2)
    (fun x q => Or.inl (S2.mem x (e2 ▸ q)))
  have fs : Fr (In res (rsz * c.nn)) ga (kSave c cd blk (res + col * c.nn) (tmp + off) ga) :=
    (f1.trans f2).mono (fun x q => q.elim (S1.mem x) (S2.mem x))
  refine ⟨⟨_, ⟨⟨r3.1, rfl⟩, ?_⟩, r3.2.congr (fun _ => or_assoc)⟩, fs⟩
  rw [readLimb_of_fr fs cd.dflt _ _ (Dj.mono K.drt SE (Sub.refl _ _)).not_mem,
      readLimb_of_fr fa cd.dflt _ _ (Dj.not_mem (Or.inr (Nat.le_refl _)))]
  exact ve

/-- `reim4_vec_mat2cols_product` on the extracted block and the column pair starting at `col` -/
theorem prod2Step (blk col : Nat) (hblk : blk < c.m / 4) (hcol : col + 2 ≤ ncols) (g : Heap γ) (R : Array γ)
    (P : BlkInv c cd h res rsz adft tmp rowMax blk g R) :
    Fr (In tmp 16) g (kProd2 c cd rowMax nrows tmp (tmp + 16) (pmat + blk * (8 * nrows * ncols) + col * (8 * nrows)) g) ∧
    (kProd2 c cd rowMax nrows tmp (tmp + 16) (pmat + blk * (8 * nrows * ncols) + col * (8 * nrows)) g).readLimb cd.dflt tmp 16 =
      (prod2 c rowMax (extOf c rowMax blk (rdD cd h adft (rowMax * c.nn))) (Module.gCol (rdD cd h pmat (c.nn * nrows * ncols)) nrows ncols blk col 16)).map cd.enc := by
  obtain ⟨⟨f, v⟩, ve⟩ := P
  have hb := pm_bound c.nn c.m nrows ncols blk col 2 K.hnn K.hm4 hblk hcol
  have SA : Sub tmp 16 tmp (16 + 8 * rowMax) := Sub.head _ _ _ (Nat.le_add_right _ _)
  have SP : Sub (pmat + (blk * (8 * nrows * ncols) + col * (8 * nrows))) (16 * nrows) pmat (c.nn * nrows * ncols) :=
    Sub.at _ _ _ _ hb
  rw [Nat.add_assoc pmat]
  obtain ⟨fa, va⟩ := kProd2_spec c cd g rowMax nrows tmp (tmp + 16) (pmat + (blk * (8 * nrows * ncols) + col * (8 * nrows)))
    (f.size ▸ (ext_sub tmp rowMax).le K.htmp) (f.size ▸ SP.le K.hpm) (f.size ▸ SA.le K.htmp) (Or.inl (Nat.le_refl _))
    (Dj.mono K.dpt SA SP)
  refine ⟨fa, ?_⟩
  rw [va, rdD_of_cells cd hr _ _ _ _ ve, rdD_of_fr f cd _ _ (fun x hx hw => hw.elim
      ((Dj.mono K.drp SP (Sub.refl _ _)).not_mem x hx) ((Dj.mono K.dpt (Sub.refl _ _) SP).symm.not_mem x hx))]
  unfold Module.gCol
  rw [← extract_rdD cd h pmat (c.nn * nrows * ncols) _ (16 * nrows) hb]

theorem pairStep (blk t : Nat) (hblk : blk < c.m / 4) (ht : t < colMax / 2) (g : Heap γ) (T : Nat → Prop) (R : Array α)
    (P : BlkRep c cd h res rsz adft tmp rowMax blk T g R) :
    BlkRep c cd h res rsz adft tmp rowMax blk
      (fun x => T x ∨ (saveCells c.m c.nn blk (2 * t) x ∨ saveCells c.m c.nn blk (2 * t + 1) x))
      (pairBody c cd res pmat nrows ncols tmp tb rowMax blk t g)
      (Module.gSave c.m c.nn blk
        (Module.gSave c.m c.nn blk R (2 * t)
          ((prod2 c rowMax (extOf c rowMax blk (rdD cd h adft (rowMax * c.nn))) (Module.gCol (rdD cd h pmat (c.nn * nrows * ncols)) nrows ncols blk (2 * t) 16)).extract 0 8))
        (2 * t + 1)
        ((prod2 c rowMax (extOf c rowMax blk (rdD cd h adft (rowMax * c.nn))) (Module.gCol (rdD cd h pmat (c.nn * nrows * ncols)) nrows ncols blk (2 * t) 16)).extract 8 16)) := by
  have htb := K.htb
  have hc := K.hcol
  unfold pairBody
  rw [scr_eq tb 0 16 _ (by omega), scr_eq tb 16 (8 * rowMax) _ (by omega)]
  obtain ⟨G, P0, p⟩ := P
  obtain ⟨fa, va⟩ := prod2Step c cd hr h res rsz adft pmat nrows ncols tmp tb rowMax colMax K blk (2 * t) hblk (by omega) g G P0
  obtain ⟨P1, f1⟩ := prodSaveStep c cd hr h res rsz adft pmat nrows ncols tmp tb rowMax colMax K blk (2 * t) 0 hblk (by omega)
    (by omega) g _ T R _ ⟨G, P0, p⟩ fa (cells_lo cd _ tmp _ va)
  have vhi := f1.keeps (Dj.mono K.drt (acc_sub tmp rowMax 8 8 (Nat.le_refl _)) (Sub.refl _ _)) (cells_hi cd _ tmp _ va)
  exact (prodSaveStep c cd hr h res rsz adft pmat nrows ncols tmp tb rowMax colMax K blk (2 * t + 1) 8 hblk (by omega)
    (by omega) _ _ _ _ _ P1 (Fr.refl _ _) vhi).1.congr (fun _ => or_assoc)

theorem tailStep (blk : Nat) (hblk : blk < c.m / 4) (hodd : colMax % 2 = 1) (g : Heap γ) (T : Nat → Prop) (R : Array α)
    (P : BlkRep c cd h res rsz adft tmp rowMax blk T g R) :
    BlkRep c cd h res rsz adft tmp rowMax blk (fun x => T x ∨ saveCells c.m c.nn blk (colMax - 1) x)
      (tailBody c cd res pmat nrows ncols tmp tb rowMax colMax blk g)
      (Module.gSave c.m c.nn blk R (colMax - 1)
        ((if ncols == colMax then
            prod1 c rowMax (extOf c rowMax blk (rdD cd h adft (rowMax * c.nn))) (Module.gCol (rdD cd h pmat (c.nn * nrows * ncols)) nrows ncols blk (colMax - 1) 8)
          else prod2 c rowMax (extOf c rowMax blk (rdD cd h adft (rowMax * c.nn))) (Module.gCol (rdD cd h pmat (c.nn * nrows * ncols)) nrows ncols blk (colMax - 1) 16)).extract 0 8)) := by
  have htb := K.htb
  have hc := K.hcol
  have hc1 : colMax - 1 < colMax := by omega
  unfold tailBody Module.gCol
  by_cases hl : (ncols == colMax) = true
  · -- the last column is alone in the prepared matrix
    have hle : colMax = ncols := by have : ncols = colMax := by simpa using hl
                                    exact this.symm
    simp only [hl, if_true]
    subst hle
    rw [scr_eq tb 0 8 _ (by omega), scr_eq tb 16 (8 * rowMax) _ (by omega)]
    obtain ⟨G, ⟨⟨f, v⟩, ve⟩, p⟩ := P
    have hb := pm_bound c.nn c.m nrows colMax blk (colMax - 1) 1 K.hnn K.hm4 hblk (by omega)
    have SA : Sub tmp 8 tmp (16 + 8 * rowMax) := Sub.head _ _ _ (by omega)
    have SP : Sub (pmat + (blk * (8 * nrows * colMax) + (colMax - 1) * (8 * nrows))) (8 * nrows) pmat (c.nn * nrows * colMax) :=
      Sub.at _ _ _ _ hb
    rw [Nat.add_assoc pmat]
    obtain ⟨fa, va⟩ := kProd1_spec c cd g rowMax nrows tmp (tmp + 16) (pmat + (blk * (8 * nrows * colMax) + (colMax - 1) * (8 * nrows)))
      (f.size ▸ (ext_sub tmp rowMax).le K.htmp) (f.size ▸ SP.le K.hpm) (f.size ▸ SA.le K.htmp) (Or.inl (by omega))
      (Dj.mono K.dpt SA SP)
    rw [rdD_of_cells cd hr _ _ _ _ ve, rdD_of_fr f cd _ _ (fun x hx hw => hw.elim
        ((Dj.mono K.drp SP (Sub.refl _ _)).not_mem x hx) ((Dj.mono K.dpt (Sub.refl _ _) SP).symm.not_mem x hx)),
      ← extract_rdD cd h pmat (c.nn * nrows * colMax) _ (8 * nrows) hb,
      ← extract_full _ 8 (size_prod1 c rowMax _ _)] at va
    exact (prodSaveStep c cd hr h res rsz adft pmat nrows colMax tmp tb rowMax colMax K blk (colMax - 1) 0 hblk hc1
      (by omega) g _ T R _ ⟨G, ⟨⟨f, v⟩, ve⟩, p⟩ (fa.mono (fun x q => (Sub.head tmp 8 16 (by omega)).mem x q)) va).1
  · -- the last column is the first of a pair
    have hlt : colMax < ncols := by
      have : ncols ≠ colMax := by simpa using hl
      omega
    simp only [hl, if_false, Bool.false_eq_true]
    rw [scr_eq tb 0 16 _ (by omega), scr_eq tb 16 (8 * rowMax) _ (by omega)]
    obtain ⟨G, P0, p⟩ := P
    obtain ⟨fa, va⟩ := prod2Step c cd hr h res rsz adft pmat nrows ncols tmp tb rowMax colMax K blk (colMax - 1) hblk (by omega) g G P0
    exact (prodSaveStep c cd hr h res rsz adft pmat nrows ncols tmp tb rowMax colMax K blk (colMax - 1) 0 hblk hc1
      (by omega) g _ T R _ ⟨G, P0, p⟩ fa (cells_lo cd _ tmp _ va)).1

theorem blkStep (blk : Nat) (hblk : blk < c.m / 4) (g : Heap γ) (T : Nat → Prop) (R : Array α)
    (P : Rep cd c.ar.zero h (bigW c res rsz tmp rowMax) res (rsz * c.nn) T g R) :
    Rep cd c.ar.zero h (bigW c res rsz tmp rowMax) res (rsz * c.nn) (fun x => T x ∨ blkCells c.m c.nn colMax blk x)
      (bigBody c cd res adft pmat nrows ncols tmp tb rowMax colMax blk g)
      (Module.gBlkBody c rowMax colMax (rdD cd h adft (rowMax * c.nn)) (rdD cd h pmat (c.nn * nrows * ncols)) nrows ncols R blk) := by
  obtain ⟨f, p⟩ := P
  have htb := K.htb
  have SE := ext_sub tmp rowMax
  unfold bigBody Module.gBlkBody blkCells
  simp only [scr_eq tb 16 (8 * rowMax) _ (show 8 * (16 + 8 * rowMax) ≤ tb by omega)]
  obtain ⟨f1, v1⟩ := kExtractRows_spec c cd g rowMax blk (tmp + 16) adft (f.size ▸ K.hadft) (f.size ▸ SE.le K.htmp)
    (Dj.mono K.dat SE (Sub.refl _ _))
  rw [rdD_of_fr f cd _ _ (fun x hx hw => hw.elim (Dj.not_mem K.dra x hx) (Dj.not_mem (Dj.symm K.dat) x hx))] at v1
  have P1 : BlkRep c cd h res rsz adft tmp rowMax blk T (kExtractRows c cd rowMax blk (tmp + 16) adft g) R := by
    refine ⟨_, ⟨⟨f.step f1 (fun x q => Or.inr (SE.mem x q)), rfl⟩, v1⟩, ?_⟩
    rw [readLimb_of_fr f1 cd.dflt res _ (Dj.mono K.drt SE (Sub.refl _ _)).symm.not_mem]; exact p
  have P2 := sim_fold (fun T g R => BlkRep c cd h res rsz adft tmp rowMax blk T g R) (colMax / 2)
    (fun t x => saveCells c.m c.nn blk (2 * t) x ∨ saveCells c.m c.nn blk (2 * t + 1) x)
    (fun t h => pairBody c cd res pmat nrows ncols tmp tb rowMax blk t h)
    (fun R t => Module.gSave c.m c.nn blk
        (Module.gSave c.m c.nn blk R (2 * t)
          ((prod2 c rowMax (extOf c rowMax blk (rdD cd h adft (rowMax * c.nn))) (Module.gCol (rdD cd h pmat (c.nn * nrows * ncols)) nrows ncols blk (2 * t) 16)).extract 0 8))
        (2 * t + 1)
        ((prod2 c rowMax (extOf c rowMax blk (rdD cd h adft (rowMax * c.nn))) (Module.gCol (rdD cd h pmat (c.nn * nrows * ncols)) nrows ncols blk (2 * t) 16)).extract 8 16))
    T _ R P1 (fun t g R T ht _ P => pairStep c cd hr h res rsz adft pmat nrows ncols tmp tb rowMax colMax K blk t hblk ht g T R P)
  by_cases ho : (colMax % 2 == 1) = true
  · simp only [ho, if_true]
    refine ((tailStep c cd hr h res rsz adft pmat nrows ncols tmp tb rowMax colMax K blk hblk (by simpa using ho) _ _ _ P2).congr
      (fun x => ?_)).rep
    exact ⟨fun q => q.elim (fun q => q.elim Or.inl (fun e => Or.inr (Or.inl e))) (fun s => Or.inr (Or.inr ⟨trivial, s⟩)),
      fun q => q.elim (fun t => Or.inl (Or.inl t)) (fun q => q.elim (fun e => Or.inl (Or.inr e)) (fun s => Or.inr s.2))⟩
  · simp only [ho, if_false, Bool.false_eq_true]
    refine (P2.congr (fun x => ?_)).rep
    exact ⟨fun q => q.elim Or.inl (fun e => Or.inr (Or.inl e)),
      fun q => q.elim Or.inl (fun q => q.elim Or.inr (fun s => s.1.elim))⟩

end

end Spq.ModuleHeap
