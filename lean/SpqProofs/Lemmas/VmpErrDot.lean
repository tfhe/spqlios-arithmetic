/-
  C02 rounding budget: the accumulating kernels of the vector-matrix product as SCALAR recurrences, for ANY
  arithmetic record (no algebra): what one output complex of
    reim4_vec_mat1col_product_{ref,avx2}, reim4_vec_mat2cols_product_{ref,avx2}
  and of the `nn < 8` path (`reim_fftvec_mul_ref` then `reim_fftvec_addmul_ref`) is, as a function of the row data
  `(a_i + i·b_i)` (vector) and `(c_i + i·d_i)` (matrix column), `i < n`:
    ref  (1col and 2cols):  s ← add s (reRef a b c d)            (s₀ = 0)
    av1  (1col avx2):       sub (Σfma a c) (Σfma b d),  add (Σfma a d) (Σfma b c)
    av2  (2cols avx2):      s ← fms a c (fms b d s),   s ← fma b c (fma a d s)
    sm   (nn < 8):          s₀ = reRef row 0;  s ← add s (reRef row k)
  `RArith.Sim R ar br`: every operation maps `R`-related operands to `R`-related results (`dot_sim_on`; congruence in the row
  data is the case `R = Eq`).
-/
import SpqProofs.Lemmas.Reim4Err
namespace Spq.VmpErr
open Spq Spq.Reim4
variable {α : Type}

inductive DotK where
  | ref | av1 | av2 | sm
  deriving DecidableEq, Repr

def refRe (ar : RArith α) (a b c d : ℕ → α) : ℕ → α
  | 0 => ar.zero
  | n + 1 => ar.add (refRe ar a b c d n) (reRef ar (a n) (b n) (c n) (d n))
def refIm (ar : RArith α) (a b c d : ℕ → α) : ℕ → α
  | 0 => ar.zero
  | n + 1 => ar.add (refIm ar a b c d n) (imRef ar (a n) (b n) (c n) (d n))
def av2Re (ar : RArith α) (a b c d : ℕ → α) : ℕ → α
  | 0 => ar.zero
  | n + 1 => ar.fms (a n) (c n) (ar.fms (b n) (d n) (av2Re ar a b c d n))
def av2Im (ar : RArith α) (a b c d : ℕ → α) : ℕ → α
  | 0 => ar.zero
  | n + 1 => ar.fma (b n) (c n) (ar.fma (a n) (d n) (av2Im ar a b c d n))
def av1Re (ar : RArith α) (a b c d : ℕ → α) (n : ℕ) : α := ar.sub (fmaChain ar a c n) (fmaChain ar b d n)
def av1Im (ar : RArith α) (a b c d : ℕ → α) (n : ℕ) : α := ar.add (fmaChain ar a d n) (fmaChain ar b c n)
/-- `k + 1` rows -/
def smRe (ar : RArith α) (a b c d : ℕ → α) : ℕ → α
  | 0 => reRef ar (a 0) (b 0) (c 0) (d 0)
  | k + 1 => ar.add (smRe ar a b c d k) (reRef ar (a (k + 1)) (b (k + 1)) (c (k + 1)) (d (k + 1)))
def smIm (ar : RArith α) (a b c d : ℕ → α) : ℕ → α
  | 0 => imRef ar (a 0) (b 0) (c 0) (d 0)
  | k + 1 => ar.add (smIm ar a b c d k) (imRef ar (a (k + 1)) (b (k + 1)) (c (k + 1)) (d (k + 1)))

/-- real part of the dot product of `n` rows, accumulation order `K` (`sm`: `n ≥ 1`) -/
def dotRe (ar : RArith α) (K : DotK) (a b c d : ℕ → α) (n : ℕ) : α :=
  match K with
  | .ref => refRe ar a b c d n
  | .av1 => av1Re ar a b c d n
  | .av2 => av2Re ar a b c d n
  | .sm => smRe ar a b c d (n - 1)
def dotIm (ar : RArith α) (K : DotK) (a b c d : ℕ → α) (n : ℕ) : α :=
  match K with
  | .ref => refIm ar a b c d n
  | .av1 => av1Im ar a b c d n
  | .av2 => av2Im ar a b c d n
  | .sm => smIm ar a b c d (n - 1)

end Spq.VmpErr

namespace Spq
variable {α β : Type}

structure RArith.Sim (R : α → β → Prop) (ar : RArith α) (br : RArith β) : Prop where
  zero : R ar.zero br.zero
  add : ∀ {a a' b b'}, R a a' → R b b' → R (ar.add a b) (br.add a' b')
  sub : ∀ {a a' b b'}, R a a' → R b b' → R (ar.sub a b) (br.sub a' b')
  mul : ∀ {a a' b b'}, R a a' → R b b' → R (ar.mul a b) (br.mul a' b')
  fma : ∀ {a a' b b' c c'}, R a a' → R b b' → R c c' → R (ar.fma a b c) (br.fma a' b' c')
  fms : ∀ {a a' b b' c c'}, R a a' → R b b' → R c c' → R (ar.fms a b c) (br.fms a' b' c')

theorem RArith.Sim.refl (ar : RArith α) : RArith.Sim (fun x y : α => x = y) ar ar where
  zero := rfl
  add := by intro a a' b b' h1 h2; rw [h1, h2]
  sub := by intro a a' b b' h1 h2; rw [h1, h2]
  mul := by intro a a' b b' h1 h2; rw [h1, h2]
  fma := by intro a a' b b' c c' h1 h2 h3; rw [h1, h2, h3]
  fms := by intro a a' b b' c c' h1 h2 h3; rw [h1, h2, h3]

namespace Reim4
variable {R : α → β → Prop} {ar : RArith α} {br : RArith β}

theorem reRef_sim (h : RArith.Sim R ar br) {a a' b b' c c' d d'} (ha : R a a') (hb : R b b') (hc : R c c') (hd : R d d') :
    R (reRef ar a b c d) (reRef br a' b' c' d') :=
  h.sub (h.mul ha hc) (h.mul hb hd)

theorem imRef_sim (h : RArith.Sim R ar br) {a a' b b' c c' d d'} (ha : R a a') (hb : R b b') (hc : R c c') (hd : R d d') :
    R (imRef ar a b c d) (imRef br a' b' c' d') :=
  h.add (h.mul ha hd) (h.mul hb hc)

theorem fmaChain_sim_on (h : RArith.Sim R ar br) (p q : ℕ → α) (p' q' : ℕ → β) (n : ℕ)
    (hp : ∀ i, i < n → R (p i) (p' i)) (hq : ∀ i, i < n → R (q i) (q' i)) :
    R (fmaChain ar p q n) (fmaChain br p' q' n) := by
  induction n with
  | zero => exact h.zero
  | succ n ih =>
    exact h.fma (hp n (by omega)) (hq n (by omega)) (ih (fun i hi => hp i (by omega)) (fun i hi => hq i (by omega)))

theorem fmaChain_sim (h : RArith.Sim R ar br) (p q : Nat → α) (p' q' : Nat → β)
    (hp : ∀ i, R (p i) (p' i)) (hq : ∀ i, R (q i) (q' i)) (n : Nat) :
    R (fmaChain ar p q n) (fmaChain br p' q' n) :=
  fmaChain_sim_on h p q p' q' n (fun i _ => hp i) (fun i _ => hq i)

end Reim4
end Spq

namespace Spq.VmpErr
open Spq Spq.Reim4
variable {α β : Type} {R : α → β → Prop} {ar : RArith α} {br : RArith β}

theorem dot_sim_on (h : RArith.Sim R ar br) (K : DotK)
    (a b c d : ℕ → α) (a' b' c' d' : ℕ → β) (n : ℕ) (hn : K = .sm → 1 ≤ n)
    (ha : ∀ i, i < n → R (a i) (a' i)) (hb : ∀ i, i < n → R (b i) (b' i)) (hc : ∀ i, i < n → R (c i) (c' i))
    (hd : ∀ i, i < n → R (d i) (d' i)) :
    R (dotRe ar K a b c d n) (dotRe br K a' b' c' d' n) ∧ R (dotIm ar K a b c d n) (dotIm br K a' b' c' d' n) := by
  cases K with
  | ref =>
    simp only [dotRe, dotIm]
    clear hn
    induction n with
    | zero => exact ⟨h.zero, h.zero⟩
    | succ n ih =>
      obtain ⟨i1, i2⟩ := ih (fun i hi => ha i (by omega)) (fun i hi => hb i (by omega)) (fun i hi => hc i (by omega))
        (fun i hi => hd i (by omega))
      have hn := Nat.lt_succ_self n
      exact ⟨h.add i1 (reRef_sim h (ha n hn) (hb n hn) (hc n hn) (hd n hn)),
        h.add i2 (imRef_sim h (ha n hn) (hb n hn) (hc n hn) (hd n hn))⟩
  | av1 =>
    simp only [dotRe, dotIm, av1Re, av1Im]
    exact ⟨h.sub (fmaChain_sim_on h _ _ _ _ n ha hc) (fmaChain_sim_on h _ _ _ _ n hb hd),
      h.add (fmaChain_sim_on h _ _ _ _ n ha hd) (fmaChain_sim_on h _ _ _ _ n hb hc)⟩
  | av2 =>
    simp only [dotRe, dotIm]
    clear hn
    induction n with
    | zero => exact ⟨h.zero, h.zero⟩
    | succ n ih =>
      obtain ⟨i1, i2⟩ := ih (fun i hi => ha i (by omega)) (fun i hi => hb i (by omega)) (fun i hi => hc i (by omega))
        (fun i hi => hd i (by omega))
      have hn := Nat.lt_succ_self n
      exact ⟨h.fms (ha n hn) (hc n hn) (h.fms (hb n hn) (hd n hn) i1), h.fma (hb n hn) (hc n hn) (h.fma (ha n hn) (hd n hn) i2)⟩
  | sm =>
    obtain ⟨k, rfl⟩ : ∃ k, n = k + 1 := ⟨n - 1, by have := hn rfl; omega⟩
    simp only [dotRe, dotIm, Nat.add_sub_cancel]
    clear hn
    induction k with
    | zero =>
      exact ⟨reRef_sim h (ha 0 (by omega)) (hb 0 (by omega)) (hc 0 (by omega)) (hd 0 (by omega)),
        imRef_sim h (ha 0 (by omega)) (hb 0 (by omega)) (hc 0 (by omega)) (hd 0 (by omega))⟩
    | succ k ih =>
      obtain ⟨i1, i2⟩ := ih (fun i hi => ha i (by omega)) (fun i hi => hb i (by omega)) (fun i hi => hc i (by omega))
        (fun i hi => hd i (by omega))
      have hk : k + 1 < k + 1 + 1 := by omega
      exact ⟨h.add i1 (reRef_sim h (ha _ hk) (hb _ hk) (hc _ hk) (hd _ hk)),
        h.add i2 (imRef_sim h (ha _ hk) (hb _ hk) (hc _ hk) (hd _ hk))⟩

/-- related everywhere: no condition on `n` (`sm` on 0 rows reads row 0, as on 1 row) -/
theorem dot_sim (h : RArith.Sim R ar br) (K : DotK) (a b c d : ℕ → α) (a' b' c' d' : ℕ → β)
    (ha : ∀ i, R (a i) (a' i)) (hb : ∀ i, R (b i) (b' i)) (hc : ∀ i, R (c i) (c' i)) (hd : ∀ i, R (d i) (d' i)) (n : ℕ) :
    R (dotRe ar K a b c d n) (dotRe br K a' b' c' d' n) ∧ R (dotIm ar K a b c d n) (dotIm br K a' b' c' d' n) := by
  by_cases hn : K = .sm ∧ n = 0
  · obtain ⟨rfl, rfl⟩ := hn
    exact dot_sim_on h .sm a b c d a' b' c' d' 1 (fun _ => le_rfl) (fun i _ => ha i) (fun i _ => hb i) (fun i _ => hc i)
      (fun i _ => hd i)
  · exact dot_sim_on h K a b c d a' b' c' d' n (fun hk => Nat.pos_of_ne_zero fun h0 => hn ⟨hk, h0⟩) (fun i _ => ha i)
      (fun i _ => hb i) (fun i _ => hc i) (fun i _ => hd i)

theorem dotRe_congr (ar : RArith α) (K : DotK) (a b c d a' b' c' d' : ℕ → α) (n : ℕ) (hn : K = .sm → 1 ≤ n)
    (ha : ∀ i, i < n → a i = a' i) (hb : ∀ i, i < n → b i = b' i) (hc : ∀ i, i < n → c i = c' i)
    (hd : ∀ i, i < n → d i = d' i) :
    dotRe ar K a b c d n = dotRe ar K a' b' c' d' n ∧ dotIm ar K a b c d n = dotIm ar K a' b' c' d' n :=
  dot_sim_on (RArith.Sim.refl ar) K a b c d a' b' c' d' n hn ha hb hc hd

/-- lane `k` of the blocks at offsets `uo t` of `u`, as row data -/
def laneA (z : α) (u : Array α) (uo : ℕ → ℕ) (k : ℕ) : ℕ → α := fun t => u.getD (uo t + k) z

/-- `reim4_zero`, then `n` successive `reim4_add_mul` into block `d`.  Every analysis of this loop (exact, error,
    simulation) is the corresponding theorem about the `ref` recurrence read through this. -/
theorem dotAt_cells (ar : RArith α) (n d : ℕ) (uo vo : ℕ → ℕ) (dst u v : Array α) (hb : d + 8 ≤ dst.size) :
    (Nat.fold n (fun t _ dst => addMulAt ar dst d u (uo t) v (vo t)) (zeroAt ar dst d)).size = dst.size ∧
    (∀ k, k < 4 →
      (Nat.fold n (fun t _ dst => addMulAt ar dst d u (uo t) v (vo t)) (zeroAt ar dst d)).getD (d + k) ar.zero =
        refRe ar (laneA ar.zero u uo k) (laneA ar.zero u uo (k + 4)) (laneA ar.zero v vo k) (laneA ar.zero v vo (k + 4)) n ∧
      (Nat.fold n (fun t _ dst => addMulAt ar dst d u (uo t) v (vo t)) (zeroAt ar dst d)).getD (d + k + 4) ar.zero =
        refIm ar (laneA ar.zero u uo k) (laneA ar.zero u uo (k + 4)) (laneA ar.zero v vo k) (laneA ar.zero v vo (k + 4)) n) ∧
    ∀ x, x < d ∨ d + 8 ≤ x →
      (Nat.fold n (fun t _ dst => addMulAt ar dst d u (uo t) v (vo t)) (zeroAt ar dst d)).getD x ar.zero =
        dst.getD x ar.zero := by
  induction n with
  | zero =>
    obtain ⟨z1, z2, z3⟩ := zeroAt_spec ar dst d hb
    exact ⟨z1, fun k hk => ⟨z2 k (by omega), by rw [Nat.add_assoc]; exact z2 (k + 4) (by omega)⟩, z3⟩
  | succ n ih =>
    simp only [Nat.fold_succ]
    generalize Nat.fold n (fun t _ dst => addMulAt ar dst d u (uo t) v (vo t)) (zeroAt ar dst d) = rn at ih
    obtain ⟨s1, s2, s3⟩ := ih
    obtain ⟨t1, t2, t3⟩ := addMulAt_spec ar rn d u (uo n) v (vo n) (by omega)
    refine ⟨by rw [t1, s1], fun k hk => ?_, fun x hx => by rw [t3 x hx, s3 x hx]⟩
    rw [(t2 k hk).1, (t2 k hk).2, (s2 k hk).1, (s2 k hk).2, refRe, refIm]
    exact ⟨rfl, rfl⟩

end Spq.VmpErr

namespace Spq.Reim4
open Finset
variable {R : Type} [CommRing R]

theorem fmaChain_exact (p q : Nat → R) (n : Nat) : fmaChain (RArith.ofRing R) p q n = ∑ i ∈ range n, p i * q i := by
  induction n with
  | zero => rfl
  | succ n ih => rw [fmaChain, ih, sum_range_succ, ofRing_fma, add_comm]

end Spq.Reim4

namespace Spq.VmpErr
open Finset Spq Spq.Reim4
variable {R : Type} [CommRing R]

theorem dot_ofRing (K : DotK) (a b c d : ℕ → R) (n : ℕ) (hn : K = .sm → 1 ≤ n) :
    dotRe (RArith.ofRing R) K a b c d n = ∑ i ∈ range n, (a i * c i - b i * d i) ∧
    dotIm (RArith.ofRing R) K a b c d n = ∑ i ∈ range n, (a i * d i + b i * c i) := by
  cases K with
  | ref =>
    simp only [dotRe, dotIm]
    clear hn
    induction n with
    | zero => exact ⟨rfl, rfl⟩
    | succ n ih => rw [refRe, refIm, ih.1, ih.2, sum_range_succ, sum_range_succ]; exact ⟨rfl, rfl⟩
  | av1 =>
    simp only [dotRe, dotIm, av1Re, av1Im, fmaChain_exact, ofRing_sub, ofRing_add, sum_sub_distrib, sum_add_distrib, and_self]
  | av2 =>
    simp only [dotRe, dotIm]
    clear hn
    induction n with
    | zero => exact ⟨rfl, rfl⟩
    | succ n ih =>
      rw [av2Re, av2Im, ih.1, ih.2, sum_range_succ, sum_range_succ, ofRing_fms, ofRing_fms, ofRing_fma, ofRing_fma]
      exact ⟨by ring, by ring⟩
  | sm =>
    obtain ⟨k, rfl⟩ : ∃ k, n = k + 1 := ⟨n - 1, by have := hn rfl; omega⟩
    simp only [dotRe, dotIm, Nat.add_sub_cancel]
    clear hn
    induction k with
    | zero => rw [smRe, smIm, sum_range_one, sum_range_one]; exact ⟨rfl, rfl⟩
    | succ k ih => rw [smRe, smIm, ih.1, ih.2, sum_range_succ _ (k + 1), sum_range_succ _ (k + 1)]; exact ⟨rfl, rfl⟩

end Spq.VmpErr
