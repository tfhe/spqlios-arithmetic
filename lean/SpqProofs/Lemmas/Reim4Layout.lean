/-
  Layout lemmas for C17: block extraction / saving and the cplx <-> reim4 conversions are pure data
  movement.  The AVX variants are the reference ones (`rfl`), the loops are instances of the combinators
  `mapV4` / `mapV4x2`, and both conversions are one shuffle of every block of 8 cells (`perm8`, `shuffle8_spec`).
  The cell-by-cell statements about the kernels (values + frame) are in Properties/C17.lean.
-/
import SpqProofs.Lemmas.Reim4Base
import Mathlib.Tactic.Ring
namespace Spq.Reim4
variable {α : Type}

theorem copy4_eq_vcopy4 (z : α) (dst : Array α) (d : Nat) (src : Array α) (s : Nat) :
    copy4 z dst d src s = vcopy4 z dst d src s := rfl

theorem extract1blkFromReim_avx_eq (z : α) (m blk : Nat) (dst src : Array α) :
    extract1blkFromReimAvx z m blk dst src = extract1blkFromReimRef z m blk dst src := rfl

theorem extract1blkFromContiguousReim_avx_eq (z : α) (m nrows blk : Nat) (dst src : Array α) :
    extract1blkFromContiguousReimAvx z m nrows blk dst src = extract1blkFromContiguousReimRef z m nrows blk dst src := rfl

theorem extract1blkFromContiguousReimSl_avx_eq (z : α) (m sl nrows blk : Nat) (dst src : Array α) :
    extract1blkFromContiguousReimSlAvx z m sl nrows blk dst src = extract1blkFromContiguousReimSlRef z m sl nrows blk dst src := rfl

theorem save1blkToReim_avx_eq (z : α) (m blk : Nat) (dst src : Array α) :
    save1blkToReimAvx z m blk dst src = save1blkToReimRef z m blk dst src := rfl

theorem extractC_eq_mapV4 (z : α) (m nrows blk : Nat) (dst src : Array α) :
    extract1blkFromContiguousReimRef z m nrows blk dst src =
      mapV4 z (2 * nrows) (fun i => 4 * i) (fun i _ => V4.load z src (4 * blk + i * m)) dst := rfl

theorem extractSl_eq_mapV4x2 (z : α) (m sl nrows blk : Nat) (dst src : Array α) :
    extract1blkFromContiguousReimSlRef z m sl nrows blk dst src =
      mapV4x2 z nrows (fun i => 8 * i) (fun i => 8 * i + 4)
        (fun i _ _ => (V4.load z src (4 * blk + i * sl), V4.load z src (4 * blk + i * sl + m))) dst := rfl

theorem fromCplxRef_eq_mapV4x2 (z : α) (m : Nat) (r x : Array α) :
    fromCplxRef z m r x =
      mapV4x2 z (m / 4) (fun i => 8 * i) (fun i => 8 * i + 4)
        (fun i _ _ => (⟨x.getD (8 * i) z, x.getD (8 * i + 4) z, x.getD (8 * i + 2) z, x.getD (8 * i + 6) z⟩,
                       ⟨x.getD (8 * i + 1) z, x.getD (8 * i + 5) z, x.getD (8 * i + 3) z, x.getD (8 * i + 7) z⟩)) r := rfl

theorem toCplxRef_eq_mapV4x2 (z : α) (m : Nat) (y a : Array α) :
    toCplxRef z m y a =
      mapV4x2 z (m / 4) (fun i => 8 * i) (fun i => 8 * i + 4)
        (fun i _ _ => (⟨a.getD (8 * i) z, a.getD (8 * i + 4) z, a.getD (8 * i + 2) z, a.getD (8 * i + 6) z⟩,
                       ⟨a.getD (8 * i + 1) z, a.getD (8 * i + 5) z, a.getD (8 * i + 3) z, a.getD (8 * i + 7) z⟩)) y := rfl

/-- the in-block permutation applied by both conversions: an involution of `{0..7}` -/
def perm8 (u : Nat) : Nat :=
  match u with
  | 1 => 4
  | 3 => 6
  | 4 => 1
  | 6 => 3
  | u => u

theorem perm8_invol (u : Nat) : perm8 (perm8 u) = u := by
  unfold perm8
  rcases u with _ | _ | _ | _ | _ | _ | _ | _ | u <;> rfl

theorem perm8_lt (u : Nat) (h : u < 8) : perm8 u < 8 := by
  unfold perm8
  rcases u with _ | _ | _ | _ | _ | _ | _ | _ | u <;> first | omega | decide

/-- the two conversions are the same block shuffle: cell `8b+u` of the output is cell `8b + perm8 u` of the input -/
theorem shuffle8_spec (z : α) (nb : Nat) (r x : Array α) (hr : 8 * nb ≤ r.size) :
    let res := mapV4x2 z nb (fun i => 8 * i) (fun i => 8 * i + 4)
        (fun i _ _ => (⟨x.getD (8 * i) z, x.getD (8 * i + 4) z, x.getD (8 * i + 2) z, x.getD (8 * i + 6) z⟩,
                       ⟨x.getD (8 * i + 1) z, x.getD (8 * i + 5) z, x.getD (8 * i + 3) z, x.getD (8 * i + 7) z⟩)) r
    res.size = r.size ∧
    (∀ b u, b < nb → u < 8 → res.getD (8 * b + u) z = x.getD (8 * b + perm8 u) z) ∧
    (∀ i, 8 * nb ≤ i → res.getD i z = r.getD i z) := by
  intro res
  have sp := mapV4x2_spec z nb (fun i => 8 * i) (fun i => 8 * i + 4)
    (fun i _ _ => (⟨x.getD (8 * i) z, x.getD (8 * i + 4) z, x.getD (8 * i + 2) z, x.getD (8 * i + 6) z⟩,
                   ⟨x.getD (8 * i + 1) z, x.getD (8 * i + 5) z, x.getD (8 * i + 3) z, x.getD (8 * i + 7) z⟩)) r
    (by intro j j' _ _ _; omega) (by intro j j' _ _ _; omega) (by intro j j' _ _; omega)
    (by intro j hj; omega)
  obtain ⟨s1, s2, s3⟩ := sp
  refine ⟨s1, ?_, ?_⟩
  · intro b u hb hu
    by_cases h4 : u < 4
    · have := (s2 b hb u h4).1
      simp only at this
      show res.getD (8 * b + u) z = _
      rw [this]
      rcases u with _ | _ | _ | _ | u
      · rfl
      · rfl
      · rfl
      · rfl
      · omega
    · have := (s2 b hb (u - 4) (by omega)).2
      simp only at this
      have e : 8 * b + u = 8 * b + 4 + (u - 4) := by omega
      show res.getD (8 * b + u) z = _
      rw [e, this]
      rcases u with _ | _ | _ | _ | _ | _ | _ | _ | u
      · omega
      · omega
      · omega
      · omega
      · rfl
      · rfl
      · rfl
      · rfl
      · omega
  · intro i hi
    apply s3
    intro j hj
    omega

theorem unpackLoopFma_eq (z : α) (m : Nat) (h : m % 4 = 0) (r x : Array α) :
    unpackLoopFma z m r x = some (fromCplxRef z m r x) := by
  unfold unpackLoopFma fromCplxRef
  simp only [h, bne_self_eq_false, Bool.false_eq_true, if_false]
  rfl

theorem toCplxRef_eq_fromCplxRef (z : α) (m : Nat) (y a : Array α) : toCplxRef z m y a = fromCplxRef z m y a := by
  rw [toCplxRef_eq_mapV4x2, fromCplxRef_eq_mapV4x2]

end Spq.Reim4
