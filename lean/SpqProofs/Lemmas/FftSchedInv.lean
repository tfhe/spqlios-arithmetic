/-
  Structural schedule theorem (inverse reim): `ifftRI F m T s` is the inverse level network `VNI` whose block `b` of
  step `n` (level `ℓ = k − 1 − n`) runs the butterfly `gNet F c s k ℓ n b` (same selection rule as the forward network,
  with the inverse butterfly functions and the stored conjugate twiddles).
-/
import SpqProofs.Lemmas.FftSchedKern
import SpqProofs.Lemmas.FftSchedTop
set_option linter.unusedSectionVars false
namespace Spq.Fft.SchedN
open Spq.Fft Spq.Fft.Alg Spq.Fft.View Spq.Fft.Sim Spq.Fft.SimP Spq.Fft.LevelN Spq.Fft.KernN Spq.Fft.Tw
open Spq.Fft.Kern (ileafE)

variable {R : Type} [Inhabited R]

/-- The table value function `v` stores `c`, `s` under the kinds 0, 2, the kinds of the inverse tables (`eM`: the
conjugate twiddle `(cos, −sin)`; `s` stands for `−sin`).  The inverse drivers read nothing else. -/
structure InvTab (v : Ent → R) (c s : ℕ → R) : Prop where
  cos : ∀ x, v ⟨0, x⟩ = c x
  sin : ∀ x, v ⟨2, x⟩ = s x

theorem InvTab.valP (c s : ℕ → R) : InvTab (valP c s) c s := ⟨fun _ => rfl, fun _ => rfl⟩

section invTab
variable {v : Ent → R} {c s : ℕ → R} (hv : InvTab v c s)
include hv

theorem InvTab.read_eM (T : Array R) (t x : ℕ) (h : SegP T t ((eM x).map v)) : T[t]! = c x ∧ T[t + 1]! = s x :=
  ⟨(h 0 Nat.zero_lt_two).trans (hv.cos x), (h 1 Nat.one_lt_two).trans (hv.sin x)⟩

omit hv in
theorem riFill16_vals (v : Ent → R) (U e : ℕ) : (riFill16 U e).map v =
    [v ⟨0, e / 16⟩, v ⟨0, e / 16 + U / 8⟩, v ⟨0, e / 16 + U / 16⟩, v ⟨0, e / 16 + U / 8 + U / 16⟩,
     v ⟨2, e / 16⟩, v ⟨2, e / 16 + U / 8⟩, v ⟨2, e / 16 + U / 16⟩, v ⟨2, e / 16 + U / 8 + U / 16⟩,
     v ⟨0, e / 8⟩, v ⟨2, e / 8⟩, v ⟨0, e / 8 + U / 8⟩, v ⟨2, e / 8 + U / 8⟩, v ⟨0, e / 4⟩, v ⟨2, e / 4⟩,
     v ⟨0, e / 2⟩, v ⟨2, e / 2⟩] := rfl

theorem InvTab.ileaf_read (T : Array R) (t e U : ℕ) (h : SegP T t ((riFill16 U e).map v)) :
    ∀ q, q < 8 → reimIW16 T t q = (c (ileafE e U q), s (ileafE e U q)) := by
  rw [riFill16_vals] at h
  have g : ∀ j, j < 16 → T[t + j]! = _ := h
  intro q hq
  have : q = 0 ∨ q = 1 ∨ q = 2 ∨ q = 3 ∨ q = 4 ∨ q = 5 ∨ q = 6 ∨ q = 7 := by omega
  rcases this with rfl | rfl | rfl | rfl | rfl | rfl | rfl | rfl
  · exact Prod.ext ((g 0 (by omega)).trans (hv.cos _)) ((g 4 (by omega)).trans (hv.sin _))
  · exact Prod.ext ((g 1 (by omega)).trans (hv.cos _)) ((g 5 (by omega)).trans (hv.sin _))
  · exact Prod.ext ((g 2 (by omega)).trans (hv.cos _)) ((g 6 (by omega)).trans (hv.sin _))
  · exact Prod.ext ((g 3 (by omega)).trans (hv.cos _)) ((g 7 (by omega)).trans (hv.sin _))
  · exact Prod.ext ((g 8 (by omega)).trans (hv.cos _)) ((g 9 (by omega)).trans (hv.sin _))
  · exact Prod.ext ((g 10 (by omega)).trans (hv.cos _)) ((g 11 (by omega)).trans (hv.sin _))
  · exact Prod.ext ((g 12 (by omega)).trans (hv.cos _)) ((g 13 (by omega)).trans (hv.sin _))
  · exact Prod.ext ((g 14 (by omega)).trans (hv.cos _)) ((g 15 (by omega)).trans (hv.sin _))

end invTab

section reimFrom
variable {F : Flav R} {c s : ℕ → R} {k : ℕ} {g : ℕ → ℕ → ℕ → R × R → R × R → (R × R) × (R × R)} (y : ℕ → R × R)
  {v v' : Ent → R}

theorem ReimFrom.ileaf_step {L : ℕ} (hL : ReimFrom F c s k g v' L) (w : ℕ → R × R) (N : ℕ) {ℓ B off e : ℕ}
    (hB : Blk k ℓ 4 B 16 off e) (s0 : RI R) (hs : Valid N s0) (hN : off + 16 ≤ N) (hLℓ : L ≤ ℓ)
    (hw : ∀ q, q < 8 → w q = (c (ileafE e (4 * 2 ^ k) q), s (ileafE e (4 * 2 ^ k) q))) :
    AdvI k g y (prs s0) (prs (ifft16K F w off s0)) 0 4 off 16 ∧ Valid N (ifft16K F w off s0) := by
  obtain ⟨i0, i⟩ := ileafE_tw e (4 * 2 ^ k)
  exact ifft16K_adv k g y F w ℓ B off hB.lvl.symm hB.pos hN
    (hL.leafNet hB hLℓ _ _ (by rw [hw 7 (by norm_num), i0]) fun t j ht hj => by
      rw [hw _ (by have := leaf_idx_lt ht hj; omega), i t j ht hj]) s0 hs

/-- the loop over the inverse 16-point leaves of a block; `W` reads a leaf pack laid out by `Fill` (reim: `reimIW16`,
`riFill16`; cplx: `cplxW16`, `ciFill16`) -/
theorem ReimFrom.ileaves {L : ℕ} (hL : ReimFrom F c s k g v' L) (W : Array R → ℕ → ℕ → R × R)
    (Fill : ℕ → ℕ → List Ent) (hlen : ∀ U e, (Fill U e).length = 16)
    (hread : ∀ T t e U, SegP T t ((Fill U e).map v) →
      ∀ q, q < 8 → W T t q = (c (ileafE e U q), s (ileafE e U q)))
    {ℓ0 D b0 m off pw j ss : ℕ} (hB : Blk k ℓ0 D b0 m off pw) (hD : D = j + 4) (hLℓ : L ≤ ℓ0 + j)
    (hss : ss = twE ℓ0 4 b0) :
    Runs v ((List.range (m / 16)).flatMap (fun b => Fill (4 * 2 ^ k) (ss + frbN (4 * 2 ^ k) b)))
      (fun T st => iterFrom (fun b (st : RI R × ℕ) => (ifft16K F (W T st.2) (off + 16 * b) st.1, st.2 + 16)) (m / 16) 0 st)
      (VNI k g y 0) (VNI k g y 4) off m :=
  Runs.blocks k hB hD (by norm_num : 16 = 2 ^ 4) hss _
    (fun b T st => (ifft16K F (W T st.2) (off + 16 * b) st.1, st.2 + 16)) fun b _ hS =>
    Runs.step 16 (hlen _ _) (fun T t s => ifft16K F (W T t) (off + 16 * b) s) fun N T t s1 hs1 hN hT => by
      rw [Nat.mul_comm b 16] at hS hN ⊢
      exact hL.ileaf_step y (W T t) N hS s1 hs1 hN hLℓ (hread T _ _ _ hT)

/-- one inverse radix-4 level over a block seen as `2^j` blocks of size `4h`, whatever expressions `x0`, `x1` the table
filler has for the two exponents -/
theorem R4Pair.ir4G (hv : InvTab v c s) {ℓ0 j : ℕ} (hp : R4Pair F c s g (ℓ0 + j)) {D b0 m off pw e h : ℕ}
    (hB : Blk k ℓ0 D b0 m off pw)
    (hD : D = j + (e + 2)) (hh : h = 2 ^ e) (x0 x1 : ℕ → ℕ)
    (hx : ∀ i, i < 2 ^ j → x0 i = twE (ℓ0 + j + 1) e (2 * (b0 * 2 ^ j + i)) ∧ x1 i = twE (ℓ0 + j) (e + 1) (b0 * 2 ^ j + i)) :
    Runs v ((List.range (m / (4 * h))).flatMap (fun i => eM (x0 i) ++ eM (x1 i)))
      (fun T st => iterFrom (fun b (st : RI R × ℕ) => (invbitwiddle F T st.2 h (off + b * (4 * h)) st.1, st.2 + 4))
        (m / (4 * h)) 0 st)
      (VNI k g y e) (VNI k g y (e + 2)) off m :=
  Runs.blocks k hB hD (show 4 * h = 2 ^ (e + 2) by rw [hh, pow_add]; ring) rfl _
    (fun b T st => (invbitwiddle F T st.2 h (off + b * (4 * h)) st.1, st.2 + 4)) fun b hb hS =>
    Runs.step 4 rfl (fun T t s => invbitwiddle F T t h (off + b * (4 * h)) s) fun N T t s1 hs1 hN hT => by
      obtain ⟨e0, e1⟩ := hx b hb
      rw [List.map_append] at hT
      obtain ⟨r0, r1⟩ := hv.read_eM T t _ hT.left
      obtain ⟨r2, r3⟩ := hv.read_eM T (t + 2) _ hT.right
      rw [e0] at r0 r1
      rw [e1] at r2 r3
      exact invbitwiddle_advN k g y F T t N (ℓ0 + j) e (b0 * 2 ^ j + b) (off + b * (4 * h)) h
        s1 hs1 (by rw [hS.lvl]; ring) hh hS.pos hN (by rw [hp.even, r0, r1]) (by rw [hp.odd, r0, r1])
        (by rw [hp.top, r2, r3])

/-- the reim layout `rs0 = ss + fracrevbits(b)/4`, `rs1 = 2·rs0`, in the spelling of `ibfsLevels` -/
theorem R4Pair.ir4R (hv : InvTab v c s) {ℓ0 j : ℕ} (hp : R4Pair F c s g (ℓ0 + j)) {D b0 m off pw e h ss : ℕ}
    (hB : Blk k ℓ0 D b0 m off pw)
    (hD : D = j + (e + 2)) (hh : h = 2 ^ e) (hss : ss = twE ℓ0 e b0) :
    Runs v ((List.range (m / (4 * h))).flatMap (fun b =>
        eM (ss + frbN (4 * 2 ^ k) b / 4) ++ eM (2 * (ss + frbN (4 * 2 ^ k) b / 4))))
      (fun T st => iterFrom (fun b (st : RI R × ℕ) => (invbitwiddle F T st.2 h (off + b * (h * 4)) st.1, st.2 + 4))
        (m / (h * 4)) 0 st)
      (VNI k g y e) (VNI k g y (e + 2)) off m :=
  (hp.ir4G y hv hB hD hh _ _ fun i hi => by
    have := sub_tw ℓ0 j e 2 b0 i k hi (hB.lvl_sub hD)
    rw [show (2 : ℕ) ^ 2 = 4 from rfl] at this
    rw [hss, this, twE_even, Nat.mul_comm 2, ← twE_dsucc]; exact ⟨rfl, rfl⟩).of_eq rfl
    (fun T st => by rw [Nat.mul_comm h 4]) rfl rfl

/-- the cplx layout `p + fracrevbits(2b)/2`, `2p + fracrevbits(2b)` -/
theorem R4Pair.ir4C (hv : InvTab v c s) {ℓ0 j : ℕ} (hp : R4Pair F c s g (ℓ0 + j)) {D b0 m off pw e h ss : ℕ}
    (hB : Blk k ℓ0 D b0 m off pw)
    (hD : D = j + (e + 2)) (hh : h = 2 ^ e) (hss : ss = twE ℓ0 e b0) :
    Runs v ((List.range (m / (4 * h))).flatMap (fun b =>
        eM (ss + frbN (4 * 2 ^ k) (2 * b) / 2) ++ eM (2 * ss + frbN (4 * 2 ^ k) (2 * b))))
      (fun T st => iterFrom (fun b (st : RI R × ℕ) => (invbitwiddle F T st.2 h (off + b * (4 * h)) st.1, st.2 + 4))
        (m / (4 * h)) 0 st)
      (VNI k g y e) (VNI k g y (e + 2)) off m :=
  hp.ir4G y hv hB hD hh _ _ fun i hi => by
    have hk : k = ℓ0 + j + (e + 2) := hB.lvl_sub hD
    have h2 := frbN_two j (4 * 2 ^ k) i ⟨2 * 2 ^ (ℓ0 + (e + 2)), by rw [hk, pow_add, pow_add, pow_succ]; ring⟩ hi
    have a := sub_tw ℓ0 j e 2 b0 i k hi hk
    have b := sub_tw ℓ0 j (e + 1) 1 b0 i k hi hk
    rw [h2, Nat.div_div_eq_div_mul, hss, twE_even, Nat.mul_comm 2 (twE ℓ0 e b0), ← twE_dsucc, ← a, ← b]
    exact ⟨rfl, by rw [pow_one]⟩

end reimFrom

variable (F : Flav R) (c s : ℕ → R) (k : ℕ) (y : ℕ → R × R) {v : Ent → R} (hv : InvTab v c s)
include hv

theorem itw_runs {ℓ D b m off pw : ℕ} (hB : Blk k ℓ (D + 1) b m off pw) (h4 : 4 ≤ k)
    (hcl : clv (k - ℓ) = false ∨ b % 2 = 0) :
    Runs v (eM (pw / 2)) (fun T st => (twPass F.ct (m / 2) off T[st.2]! T[st.2 + 1]! st.1, st.2 + 2))
      (VNI k (gNet F c s k) y D) (VNI k (gNet F c s k) y (D + 1)) off m :=
  (Runs.step 2 rfl (fun T t s0 => twPass F.ct (2 ^ D) off T[t]! T[t + 1]! s0) (fun N T t s0 hs hN hT => by
    obtain ⟨w0, w1⟩ := hv.read_eM T t _ hT
    exact twPass_adv (VNI_step k (gNet F c s k) y ℓ D hB.lvl_pass) F.ct b off T[t]! T[t + 1]! hB.pass hN
      (by rw [gNet_ct F c s k ℓ _ b hcl, ctK_big F k h4, w0, w1, hB.pw_half]) s0 hs)).of_eq rfl
    (fun T st => by rw [hB.half]) rfl hB.two_pow

/-- the `while (h < ms2)` loop of `ibfs16` followed by what `ibfs16` does with its result (`fin`: the odd-log
pass, which reads the last size `2^(D − D % 2)` from the third component) -/
theorem ibfsLevels_runs {ℓ0 D b0 m off pw : ℕ} (hB : Blk k ℓ0 D b0 m off pw) (hD11 : D ≤ 11)
    (fin : Array R → RI R × ℕ × ℕ → RI R × ℕ)
    (hfin : Runs v (if m.log2 % 2 != 0 then eM (twE ℓ0 (D - D % 2) b0) else [])
      (fun T st => fin T (st.1, st.2, 2 ^ (D - D % 2))) (VNI k (gNet F c s k) y (D - D % 2))
      (VNI k (gNet F c s k) y D) off m) :
    ∀ fuel e h ss, h = 2 ^ e → ss = twE ℓ0 e b0 → e % 2 = 0 → 4 ≤ e → e ≤ D → D < e + 2 * fuel →
      Runs v (riBfsLevels (4 * 2 ^ k) m fuel h ss) (fun T st => fin T (ibfsLevels F T m off fuel h st))
        (VNI k (gNet F c s k) y e) (VNI k (gNet F c s k) y D) off m := by
  intro fuel
  induction fuel with
  | zero => intro e h ss _ _ _ _ h1 h2; omega
  | succ f ih =>
    intro e h ss hh hss hev he4 heD hf
    by_cases hlt : e + 2 ≤ D
    · have hg : h < m / 2 := hh ▸ (hB.lt_half_iff e).2 hlt
      obtain ⟨j, hj⟩ : ∃ j, D = j + (e + 2) := ⟨D - (e + 2), by omega⟩
      have st := (gNet_r4Pair F c s (hB.lvl_sub hj) hev he4 (by omega)).ir4R y hv hB hj hh hss
      have nx := ih (e + 2) (4 * h) (ss * 4) (by rw [hh, pow_add]; ring) (by rw [hss, twE, twE, pow_add]; ring)
        (by omega) (by omega) hlt (by omega)
      exact (st.seq nx).of_eq (by rw [riBfsLevels, if_pos hg])
        (fun T st => by rw [ibfsLevels, if_pos hg, Nat.mul_comm h 4]) rfl rfl
    · have hg : ¬ h < m / 2 := hh ▸ fun hc => hlt ((hB.lt_half_iff e).1 hc)
      obtain rfl : e = D - D % 2 := by omega
      exact hfin.of_eq (by rw [riBfsLevels, if_neg hg, hss]) (fun T st => by rw [ibfsLevels, if_neg hg, hh]) rfl rfl

theorem ibfs16_runs {ℓ0 D b0 m off pw : ℕ} (hB : Blk k ℓ0 D b0 m off pw) (hD : 5 ≤ D) (hD11 : D ≤ 11)
    (hb0 : D = 11 ∨ b0 = 0) :
    Runs v (riBfs (4 * 2 ^ k) m pw) (fun T st => ibfs16 F T m off st)
      (VNI k (gNet F c s k) y 0) (VNI k (gNet F c s k) y D) off m := by
  have hss : pw * 16 / m = twE ℓ0 4 b0 := hB.cursor (e := 4) (by omega)
  have s1 := (ReimFrom.refl F c s k).ileaves y reimIW16 riFill16 (fun _ _ => rfl)
    hv.ileaf_read hB (j := D - 4) (by omega) (Nat.zero_le _) hss
  have hfin : Runs v (if m.log2 % 2 != 0 then eM (twE ℓ0 (D - D % 2) b0) else [])
      (fun T st => if m.log2 % 2 != 0 then (twPass F.ct (2 ^ (D - D % 2)) off T[st.2]! T[st.2 + 1]! st.1, st.2 + 2)
        else (st.1, st.2))
      (VNI k (gNet F c s k) y (D - D % 2)) (VNI k (gNet F c s k) y D) off m := by
    by_cases hodd : m.log2 % 2 != 0
    · obtain ⟨D1, rfl⟩ : ∃ D1, D = D1 + 1 := ⟨D - 1, by omega⟩
      have hp : D1 + 1 - (D1 + 1) % 2 = D1 := by rw [hB.log2] at hodd; simp at hodd; omega
      have := itw_runs F c s k y hv hB (by have := hB.lvl; omega) (by
        rcases hb0 with h | h
        · left; rw [show k - ℓ0 = 11 by have := hB.lvl; omega]; rfl
        · right; omega)
      rw [hp]
      exact this.of_eq (by rw [if_pos hodd, hB.pw_half]) (fun T st => by rw [if_pos hodd, hB.half]) rfl rfl
    · have hp : D - D % 2 = D := by rw [hB.log2] at hodd; simp at hodd; omega
      rw [hp]
      exact (Runs.id _ _ off m).of_eq (by rw [if_neg hodd]) (fun T st => by rw [if_neg hodd]) rfl rfl
  have s2 := ibfsLevels_runs F c s k y hv hB hD11
    (fun T st3 => if m.log2 % 2 != 0 then (twPass F.ct st3.2.2 off T[st3.2.1]! T[st3.2.1 + 1]! st3.1, st3.2.1 + 2)
      else (st3.1, st3.2.1))
    hfin m 4 16 _ (by norm_num) hss (by norm_num) (by omega) (by omega) (by have := hB.lt_size; omega)
  exact (s1.seq s2).of_eq (by rw [riBfs]) (fun _ _ => rfl) rfl rfl

theorem irec16_runs : ∀ fuel {D ℓ0 b0 m off pw : ℕ}, Blk k ℓ0 D b0 m off pw → 11 ≤ D → m ≤ fuel →
    Runs v (riRec (4 * 2 ^ k) fuel m pw) (fun T st => irec16 F T fuel m off st)
      (VNI k (gNet F c s k) y 0) (VNI k (gNet F c s k) y D) off m :=
  Runs.recB k 11 2048 (by norm_num) (Tab := riRec (4 * 2 ^ k)) (rec := fun T f m off st => irec16 F T f m off st)
    (Epre := fun _ => []) (Epost := eM) (pre := fun _ _ _ st => st)
    (post := fun T h off st => (twPass F.ct h off T[st.2]! T[st.2 + 1]! st.1, st.2 + 2))
    (In := fun _ _ => VNI k (gNet F c s k) y 0) (Out := fun _ D => VNI k (gNet F c s k) y D)
    (fun f m pw h => by rw [riRec, if_neg h]; rfl) (fun T f m off st h => by rw [irec16, if_neg h])
    (fun f D ℓ b m off pw hB hD hle =>
      have hD11 := hB.below (C := 11) (by norm_num) hle
      (ibfs16_runs F c s k y hv hB (Nat.le_trans (by norm_num) hD) hD11 (Or.inl (Nat.le_antisymm hD11 hD))).of_eq
        (by rw [riRec, if_pos hle]) (fun T st => by rw [irec16, if_pos hle]) rfl rfl)
    (fun _ _ => Runs.id _ _ _ _)
    (fun hB hD => itw_runs F c s k y hv hB (by have := hB.lvl; omega) (Or.inl (clv_big _ (by have := hB.lvl; omega))))

end Spq.Fft.SchedN
