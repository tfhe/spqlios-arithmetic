/-
  C02 rounding budget: the binary64 module.  Sizes, linearity of the exact network over the row sum (`V_isum`), the
  flagged module `pOk` (flagged arithmetic, prepared matrix = lifted bit-level DFTs of the entries) and the flag
  predicate `vmpFlag` of the accumulation.
-/
import SpqProofs.Lemmas.VmpErrF64
import SpqProofs.Lemmas.VmpErrCompose
import SpqProofs.Lemmas.ProdErrBudget
import SpqProofs.Lemmas.ModuleVmpPrep
import SpqProofs.Lemmas.FftApi
namespace Spq.VmpErr
open Finset Spq Spq.Module Spq.Fft Spq.Fft.Alg Spq.Fft.SimP Spq.Fft.LevelN Spq.Fft.SchedN Spq.Fft.RelN Spq.FftErr Spq.F64
  Spq.Reim4 Spq.ProdErr Spq.C06Err

theorem parts_m (c : Cfg) (k : ℕ) (hnn : c.nn = 2 * 2 ^ k) : (Cfg.parts c).m = 2 ^ k := by
  show c.nn / 2 = 2 ^ k
  rw [hnn]; exact two_mul_pow_half k

/-- law-free: the structural schedule theorem keeps the two halves valid -/
theorem reimFft_size (fma : Bool) (k : ℕ) (cN sN : ℕ → ℕ) (d : Array ℕ) (hd : d.size = 2 * 2 ^ k) :
    (reimFft (if fma then "fma" else "ref") (2 ^ k) (tabF k cN sN) d).size = 2 * 2 ^ k := by
  rw [reimFft_eq]
  unfold reimFftA tabF
  exact Api.joinRI_size _ (fftRI_struct (famOf fma f64) cN sN k (splitRI (2 ^ k) d) (Api.splitRI_valid (2 ^ k) d hd)).2

theorem reimIfft_size (fma : Bool) (k : ℕ) (cNi sNi : ℕ → ℕ) (d : Array ℕ) (hd : d.size = 2 * 2 ^ k) :
    (reimIfft (if fma then "fma" else "ref") (2 ^ k) (tabI k cNi sNi) d).size = 2 * 2 ^ k := by
  rw [reimIfft_eq]
  unfold reimIfftA tabI
  exact Api.joinRI_size _ (ifftRI_struct (ifamOf fma f64) cNi sNi k (splitRI (2 ^ k) d) (Api.splitRI_valid (2 ^ k) d hd)).2

theorem stF_size (c : Cfg) (k : ℕ) (cN sN cNi sNi : ℕ → ℕ) (h : CfgOk c k cN sN cNi sNi) (x : Array Int) (hx : Box k x) :
    (stF c k cN sN x).size = 2 * 2 ^ k := by
  obtain ⟨hsz, _⟩ := fromZnx_spec c k h.nn h.fromBnd50 x hx
  unfold stF
  exact reimFft_size c.fftFma k cN sN _ hsz

variable {K : Type} [Field K] [LinearOrder K] [IsStrictOrderedRing K]

theorem V_isum (k : ℕ) (ζ : Cplx K) (hI : ζ ^ 2 ^ k = Ic) (n : ℕ) (f : ℕ → Array Int) (j : ℕ) (hj : j < 2 ^ k) :
    V ζ (pkC (isum (2 * 2 ^ k) n f) (2 ^ k)) k 0 j = ∑ i ∈ range n, V ζ (pkC (f i) (2 ^ k)) k 0 j := by
  rw [V_eval k ζ hI _ j hj]
  have : ∀ i ∈ range n, V ζ (pkC (f i) (2 ^ k)) k 0 j =
      evalF (2 * 2 ^ k) (fun t => ((icoef (f i) t : Int) : Cplx K)) (ζ ^ (1 + 4 * brev k j)) :=
    fun i _ => V_eval k ζ hI _ j hj
  rw [sum_congr rfl this]
  unfold evalF
  rw [sum_comm]
  apply sum_congr rfl
  intro t ht
  simp only []
  rw [icoef_isum _ _ _ _ (mem_range.1 ht)]
  push_cast
  rw [sum_mul]

/-- a module that only carries what `vmpPrepare` / `vmpApplyDftToDft` use: the arithmetic, `nn`, the dispatch flags,
    and "conversion + DFT" of a matrix entry as one function (`fft` is the identity) -/
def mkParts {α : Type} (ar : RArith α) (nn : ℕ) (mulFma addmulFma vmpAvx : Bool) (pre : Array Int → Array α) : Parts α :=
  { nn := nn, ar := ar, fromZnx := pre, fft := fun d => d, ifft := fun d => d, toZnx := fun _ => #[],
    mulFma := mulFma, addmulFma := addmulFma, vmpAvx := vmpAvx }

/-- the flagged module: flagged binary64 arithmetic; the prepared matrix holds the LIFTED bit-level DFTs of the
    entries (flag of a cell = it is a finite double) -/
def pOk (c : Cfg) : Parts (ℕ × Prop) :=
  mkParts arithOk c.nn c.mulFma c.addmulFma c.vmpAvx (fun x => ((Cfg.parts c).fft ((Cfg.parts c).fromZnx x)).map lift)

/-- **flag of output cell `p` of the vector-matrix product**: the flagged run of `vmp_apply_dft_to_dft` on the lifted
    DFT rows of the vector and the lifted prepared matrix: every operation that cell `p` depends on had finite
    operands and an exact result that is 0 or in the normal range -/
def vmpFlag (c : Cfg) (mat : Array Int) (nrows ncols : ℕ) (a : Array Int) (asz asl rsz p : ℕ) : Prop :=
  ((vmpApplyDftToDft (pOk c) rsz ((vecDft (Cfg.parts c) (min nrows asz) a asz asl).map lift) asz
    (vmpPrepare (pOk c) mat nrows ncols) nrows ncols).getD p arithOk.zero).2

theorem matDft_pOk (c : Cfg) (mat : Array Int) (ncols i j : ℕ) :
    matDft (pOk c) mat ncols i j = (matDft (Cfg.parts c) mat ncols i j).map lift := rfl

end Spq.VmpErr
