/-
  C06, view layer: a state is a function `ℕ → R` (cell ↦ complex value); a butterfly `G φ ψ a b` rewrites
  cells `a`, `b`; `twG φ ψ h off` is the closed form of `h` butterflies `(off+i, off+h+i)`.
  Every loop of the FFT kernels is shown to be a composition of `twG`s: the butterflies of one loop act on
  pairwise disjoint cells, so their order is irrelevant (`iter_disjoint`, `loop1`), and a loop whose body is two
  butterflies splits into two such loops because butterflies on disjoint cells commute (`G_comm`,
  `iterFrom_interleave`; `loop2`, `loop3`).
-/
import Spq.Fft
import Mathlib.Tactic.Ring
namespace Spq.Fft.View
open Spq.Fft

variable {R : Type}

theorem iterFrom_succ_last {σ : Type} (f : ℕ → σ → σ) (c i : ℕ) (s : σ) :
    iterFrom f (c + 1) i s = f (i + c) (iterFrom f c i s) := by
  induction c generalizing i s with
  | zero => simp [iterFrom]
  | succ c ih =>
    rw [iterFrom, ih, iterFrom]
    congr 1
    omega

theorem iterFrom_sim {σ τ : Type} (v : σ → τ) (P : σ → Prop) (f : ℕ → σ → σ) (g : ℕ → τ → τ)
    (c i : ℕ) (h : ∀ j s, i ≤ j → j < i + c → P s → v (f j s) = g j (v s) ∧ P (f j s)) (s : σ) (hs : P s) :
    v (iterFrom f c i s) = iterFrom g c i (v s) ∧ P (iterFrom f c i s) := by
  induction c generalizing i s with
  | zero => exact ⟨rfl, hs⟩
  | succ c ih =>
    rw [iterFrom, iterFrom]
    have h0 := h i s (by omega) (by omega) hs
    rw [← h0.1]
    exact ih (i + 1) (fun j s hj hj' => h j s (by omega) (by omega)) _ h0.2

theorem iterFrom_add {σ : Type} (f : ℕ → σ → σ) (m n : ℕ) (s : σ) :
    iterFrom f (m + n) 0 s = iterFrom (fun i => f (m + i)) n 0 (iterFrom f m 0 s) := by
  induction n with
  | zero => rfl
  | succ n ih => rw [← Nat.add_assoc, iterFrom_succ_last, iterFrom_succ_last, ih, Nat.zero_add, Nat.zero_add]

theorem iterFrom_comm {σ : Type} (f1 : σ → σ) (g : ℕ → σ → σ) (n : ℕ) (hc : ∀ j, j < n → ∀ s, f1 (g j s) = g j (f1 s))
    (s : σ) : f1 (iterFrom g n 0 s) = iterFrom g n 0 (f1 s) := by
  induction n with
  | zero => rfl
  | succ n ih =>
    rw [iterFrom_succ_last, iterFrom_succ_last, Nat.zero_add, hc n (by omega), ih (fun j hj => hc j (by omega))]

theorem iterFrom_interleave {σ : Type} (f g : ℕ → σ → σ) (n : ℕ)
    (hc : ∀ i j, j < i → i < n → ∀ s, f i (g j s) = g j (f i s)) (s : σ) :
    iterFrom (fun i s => g i (f i s)) n 0 s = iterFrom g n 0 (iterFrom f n 0 s) := by
  induction n with
  | zero => rfl
  | succ n ih =>
    rw [iterFrom_succ_last, iterFrom_succ_last, iterFrom_succ_last, Nat.zero_add,
      ih (fun i j hj hi => hc i j hj (by omega)), iterFrom_comm (f n) g n (fun j hj => hc n j hj (by omega))]

def G (φ ψ : R → R → R) (a b : ℕ) (x : ℕ → R) : ℕ → R :=
  fun p => if p = a then φ (x a) (x b) else if p = b then ψ (x a) (x b) else x p

def twG (φ ψ : R → R → R) (h off : ℕ) (x : ℕ → R) : ℕ → R := fun p =>
  if off ≤ p ∧ p < off + h then φ (x p) (x (p + h))
  else if off + h ≤ p ∧ p < off + 2 * h then ψ (x (p - h)) (x p) else x p

/-- steps that act on pairwise disjoint cell sets `D i` can be evaluated independently -/
theorem iter_disjoint (g : ℕ → (ℕ → R) → (ℕ → R)) (D : ℕ → ℕ → Prop) (n : ℕ)
    (hout : ∀ i x p, ¬ D i p → g i x p = x p)
    (hloc : ∀ i x y, (∀ p, D i p → x p = y p) → ∀ p, D i p → g i x p = g i y p)
    (hdisj : ∀ i j p, i < n → j < n → D i p → D j p → i = j) (x : ℕ → R) :
    (∀ i p, i < n → D i p → iterFrom g n 0 x p = g i x p) ∧
    (∀ p, (∀ i, i < n → ¬ D i p) → iterFrom g n 0 x p = x p) := by
  induction n with
  | zero => exact ⟨fun i p hi => by omega, fun p _ => rfl⟩
  | succ n ih =>
    have ih' := ih (fun i j p hi hj => hdisj i j p (by omega) (by omega))
    rw [iterFrom_succ_last, Nat.zero_add]
    constructor
    · intro i p hi hD
      by_cases hin : i = n
      · subst hin
        apply hloc _ _ _ _ p hD
        intro q hq
        apply ih'.2
        intro j hj hDj
        have := hdisj j i q (by omega) (by omega) hDj hq
        omega
      · have hnD : ¬ D n p := fun hDn => hin (hdisj i n p (by omega) (by omega) hD hDn)
        rw [hout _ _ _ hnD]
        exact ih'.1 i p (by omega) hD
    · intro p hp
      rw [hout _ _ _ (hp n (by omega))]
      exact ih'.2 p (fun i hi => hp i (by omega))

section loops
variable (φ ψ φ' ψ' : R → R → R)

theorem G_out (a b : ℕ) (x : ℕ → R) (p : ℕ) (h : ¬ (p = a ∨ p = b)) : G φ ψ a b x p = x p := by
  unfold G; rw [if_neg (fun e => h (Or.inl e)), if_neg (fun e => h (Or.inr e))]

theorem G_loc (S : ℕ → Prop) (a b : ℕ) (ha : S a) (hb : S b) (x y : ℕ → R)
    (hxy : ∀ p, S p → x p = y p) : ∀ p, S p → G φ ψ a b x p = G φ ψ a b y p := by
  intro p hp
  simp only [G, hxy a ha, hxy b hb, hxy p hp]

theorem G_comm (a b c d : ℕ) (h : a ≠ c ∧ a ≠ d ∧ b ≠ c ∧ b ≠ d) (x : ℕ → R) :
    G φ ψ a b (G φ' ψ' c d x) = G φ' ψ' c d (G φ ψ a b x) := by
  funext p
  by_cases hp : p = a ∨ p = b
  · rw [G_out φ' ψ' c d _ p (by omega)]
    exact G_loc φ ψ (fun q => q = a ∨ q = b) a b (Or.inl rfl) (Or.inr rfl) _ _
      (fun q hq => G_out φ' ψ' c d x q (by omega)) p hp
  · rw [G_out φ ψ a b _ p hp]
    by_cases hq : p = c ∨ p = d
    · exact (G_loc φ' ψ' (fun q => q = c ∨ q = d) c d (Or.inl rfl) (Or.inr rfl) _ _
        (fun q hq => G_out φ ψ a b x q (by omega)) p hq).symm
    · rw [G_out _ _ _ _ _ _ hq, G_out _ _ _ _ _ _ hq, G_out _ _ _ _ _ _ hp]

/-- loop L1: `twPass` -/
theorem loop1 (h off : ℕ) (x : ℕ → R) :
    iterFrom (fun i x => G φ ψ (off + i) (off + h + i) x) h 0 x = twG φ ψ h off x := by
  have key := iter_disjoint (fun i x => G φ ψ (off + i) (off + h + i) x)
    (fun i p => p = off + i ∨ p = off + h + i) h
    (fun i x p hp => G_out φ ψ _ _ x p hp)
    (fun i x y hxy p hp => by
      have ha := hxy (off + i) (Or.inl rfl)
      have hb := hxy (off + h + i) (Or.inr rfl)
      simp only [G, ha, hb]
      split <;> [rfl; (split <;> [rfl; exact hxy p hp])])
    (fun i j p hi hj h1 h2 => by omega) x
  funext p
  unfold twG
  by_cases h1 : off ≤ p ∧ p < off + h
  · rw [if_pos h1, key.1 (p - off) p (by omega) (Or.inl (by omega))]
    have e : off + (p - off) = p := by omega
    simp only [G, e, if_true]
    congr 2; omega
  · rw [if_neg h1]
    by_cases h2 : off + h ≤ p ∧ p < off + 2 * h
    · rw [if_pos h2, key.1 (p - off - h) p (by omega) (Or.inr (by omega))]
      have e : off + h + (p - off - h) = p := by omega
      have e' : off + (p - off - h) = p - h := by omega
      have ne : p ≠ p - h ∨ h = 0 := by omega
      simp only [G, e, e']
      rw [if_neg (by omega)]
      simp
    · rw [if_neg h2]
      exact key.2 p (fun i hi => by omega)

/-- loop L2: first loop of `bitwiddle`: pairs `(off+i, off+2h+i)` and `(off+h+i, off+3h+i)`, i.e. the butterflies
    `i` and `h + i` of the pass of half-size `2h` -/
theorem loop2 (h off : ℕ) (x : ℕ → R) :
    iterFrom (fun i x => G φ ψ (off + h + i) (off + 3 * h + i) (G φ ψ (off + i) (off + 2 * h + i) x)) h 0 x
      = twG φ ψ (2 * h) off x := by
  rw [← loop1, two_mul, iterFrom_add]
  refine Eq.trans ?_ (iterFrom_interleave (fun i x => G φ ψ (off + i) (off + (h + h) + i) x)
    (fun i x => G φ ψ (off + (h + i)) (off + (h + h) + (h + i)) x) h
    (fun i j hj hi s => G_comm φ ψ φ ψ _ _ _ _ (by omega) s) x)
  congr 1
  funext i x
  rw [show off + h + i = off + (h + i) by omega, show off + 3 * h + i = off + (h + h) + (h + i) by omega]

theorem twG_out (h off : ℕ) (x : ℕ → R) (p : ℕ) (hp : p < off ∨ off + 2 * h ≤ p) :
    twG φ ψ h off x p = x p := by
  unfold twG; rw [if_neg (by omega), if_neg (by omega)]

theorem twG_lo (h off : ℕ) (x : ℕ → R) (p : ℕ) (hp : off ≤ p ∧ p < off + h) :
    twG φ ψ h off x p = φ (x p) (x (p + h)) := by
  unfold twG; rw [if_pos hp]

theorem twG_hi (h off : ℕ) (x : ℕ → R) (p : ℕ) (hp : off + h ≤ p ∧ p < off + 2 * h) :
    twG φ ψ h off x p = ψ (x (p - h)) (x p) := by
  unfold twG; rw [if_neg (by omega), if_pos hp]

theorem twG_col (h off i : ℕ) (hi : i < h) (x : ℕ → R) :
    twG φ ψ h off x (off + i) = φ (x (off + i)) (x (off + h + i)) ∧
    twG φ ψ h off x (off + h + i) = ψ (x (off + i)) (x (off + h + i)) := by
  constructor
  · rw [twG_lo _ _ _ _ _ _ ⟨Nat.le_add_right _ _, Nat.add_lt_add_left hi _⟩, Nat.add_right_comm]
  · rw [twG_hi _ _ _ _ _ _ (by omega), Nat.add_right_comm, Nat.add_sub_cancel]

/-- loop L3: second loop of `bitwiddle`: `(off+i, off+h+i)` with one butterfly, `(off+2h+i, off+3h+i)` with another -/
theorem loop3 (h off : ℕ) (x : ℕ → R) :
    iterFrom (fun i x => G φ' ψ' (off + 2 * h + i) (off + 3 * h + i) (G φ ψ (off + i) (off + h + i) x)) h 0 x
      = twG φ' ψ' h (off + 2 * h) (twG φ ψ h off x) := by
  rw [← loop1, ← loop1]
  refine (iterFrom_interleave (fun i x => G φ ψ (off + i) (off + h + i) x)
    (fun i x => G φ' ψ' (off + 2 * h + i) (off + 3 * h + i) x) h
    (fun i j hj hi s => G_comm φ ψ φ' ψ' _ _ _ _ (by omega) s) x).trans ?_
  congr 1
  funext i x
  congr 1
  omega

theorem G_eq_twG1 (a : ℕ) (x : ℕ → R) : G φ ψ a (a + 1) x = twG φ ψ 1 a x := by
  have := loop1 φ ψ 1 a x
  simp only [iterFrom, Nat.add_zero] at this
  exact this

theorem G_G_eq_twG2 (a a1 a2 a3 : ℕ) (h1 : a1 = a + 1) (h2 : a2 = a + 2) (h3 : a3 = a + 3) (x : ℕ → R) :
    G φ ψ a1 a3 (G φ ψ a a2 x) = twG φ ψ 2 a x := by
  subst h1 h2 h3
  have := loop1 φ ψ 2 a x
  simp only [iterFrom, Nat.add_zero] at this
  exact this

end loops

end Spq.Fft.View
