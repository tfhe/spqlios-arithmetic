/-
  C06.4: the structural inverse network `VNI k (gNet F c s k)` over an ordered field against the exact inverse
  network `WI` (twiddles `ζi^(twE (k-1-n) n b)`); `WI` is an inverse chain with the exact butterflies (`WI_chain`), hence
  `WI ∘ V = 2^k · id` on the cells `p < 2^k` by `Exact.chainI_V`.
-/
import SpqProofs.Lemmas.FftErrNet
import SpqProofs.Lemmas.FftSchedLevel
import SpqProofs.Lemmas.FftErrSchedNet
namespace Spq.FftErr
open Finset Spq.Fft Spq.Fft.Alg Spq.Fft.SimP Spq.Fft.LevelN Spq.Fft.SchedN
variable {K : Type} [Field K] [LinearOrder K] [IsStrictOrderedRing K]

abbrev InvErrOK (F : Flav K) (τ η : K) : Prop := ErrOK IBfErrAt (-Ic) F τ η

theorem invRef_errOK (A : Arith K) (u τ : K) (sm : FStd A u) (hτ : 0 ≤ τ) : InvErrOK (invRef A) τ (eta u τ) :=
  ⟨fun wh w => ibutterfly_err_ref A u τ sm hτ wh w, fun wh w => ibutterfly_err_cit_ref A u τ sm hτ wh w,
   fun wh w => ibutterfly_err_ref A u τ sm hτ wh w, fun wh w => ibutterfly_err_cit_ref A u τ sm hτ wh w,
   fun wh w => ibutterfly_err_ref A u τ sm hτ wh w⟩

theorem invFma_errOK (A : Arith K) (u τ : K) (sm : FStd A u) (hτ : 0 ≤ τ) : InvErrOK (invFma A) τ (eta u τ) :=
  ⟨fun wh w => ibutterfly_err_fma A u τ sm hτ wh w, fun wh w => ibutterfly_err_cit_fmaB A u τ sm hτ wh w,
   fun wh w => ibutterfly_err_fma A u τ sm hτ wh w, fun wh w => ibutterfly_err_cit_fmaN A u τ sm hτ wh w,
   fun wh w => ibutterfly_err_ref A u τ sm hτ wh w⟩

variable (F : Flav K) (c s : ℕ → K) (k : ℕ) (ζi : Cplx K) (τ η : K)

/-- the exact inverse network of size `2^k` for the inverse root `ζi` -/
def WIk (k : ℕ) (ζi : Cplx K) (y : ℕ → Cplx K) : ℕ → ℕ → Cplx K := WI (fun n b => ζi ^ twE (k - 1 - n) n b) y

theorem invN_err (hζ : nsq ζi = 1) (hη : 0 ≤ η) (g : ℕ → ℕ → ℕ → K × K → K × K → (K × K) × (K × K))
    (hg : ∀ ℓ d b, ℓ + d + 1 = k → b < 2 ^ ℓ → IBfErrAt (gCof g ℓ d b) (ζi ^ twE ℓ d b) η) (y : ℕ → K × K) :
    ∑ p ∈ range (2 ^ k), nsq (toC (VNI k g y k p) - WIk k ζi (fun p => toC (y p)) k p) ≤
      ((1 + η) ^ k - 1) ^ 2 * ∑ p ∈ range (2 ^ k), nsq (WIk k ζi (fun p => toC (y p)) k p) :=
  Chain.err (lvI_sum k) (fun ℓ d => invE (fun b => ζi ^ twE ℓ d b)) (gCof g) η hη
    (fun ℓ d b a c => ibfly_norm a c _ (by rw [nsq_pow, hζ, one_pow])) (fun ℓ d => invE_add _) hg
    (WI_chain k (fun ℓ d b => ζi ^ twE ℓ d b) (fun p => toC (y p))) (VNI_chain k g y).cplx (fun _ => rfl) k le_rfl

theorem WIk_V (ζ : Cplx K) (hinv : ζ * ζi = 1) (a y : ℕ → Cplx K) (hy : ∀ q, q < 2 ^ k → y q = V ζ a k 0 q)
    (n : ℕ) (hn : n ≤ k) (p : ℕ) (hp : p < 2 ^ k) : WIk k ζi y n p = 2 ^ n * V ζ a (k - n) n p :=
  Exact.chainI_V (fun z => z) _ k ζ
    (fun ℓ d b _ _ => ⟨ζi ^ twE ℓ d b, by rw [← mul_pow, hinv, one_pow], fun u v => ⟨rfl, mul_comm _ _⟩⟩)
    (WI_chain k (fun ℓ d b => ζi ^ twE ℓ d b) y) a hy n p hn hp

theorem WIk_of_evals (ζ : Cplx K) (hinv : ζ * ζi = 1) (a : ℕ → Cplx K) (n : ℕ) (hn : n ≤ k) (p : ℕ) (hp : p < 2 ^ k) :
    WIk k ζi (fun p => V ζ a k 0 p) n p = 2 ^ n * V ζ a (k - n) n p :=
  WIk_V k ζi ζ hinv a _ (fun _ _ => rfl) n hn p hp

theorem WIk_V_last (ζ : Cplx K) (hinv : ζ * ζi = 1) (a y : ℕ → Cplx K) (hy : ∀ q, q < 2 ^ k → y q = V ζ a k 0 q)
    (j : ℕ) (hj : j < 2 ^ k) : WIk k ζi y k j = 2 ^ k * a j := by
  rw [WIk_V k ζi ζ hinv a y hy k le_rfl j hj, Nat.sub_self, V]

end Spq.FftErr
