/-
  C06, array layer: exact arithmetic on a commutative ring `R` with `I² = −1`, the complex value
  `cxs s p = re[p] + I·im[p]` of a cell of split storage, and what it means for a butterfly of `Spq.Fft` to realise a
  map on complex values.
-/
import SpqProofs.Lemmas.FftView
namespace Spq.Fft.Sim
open Spq.Fft

theorem getElem!_set! {α} [Inhabited α] (xs : Array α) (a p : Nat) (v : α) (ha : a < xs.size) :
    (xs.set! a v)[p]! = if p = a then v else xs[p]! := by
  by_cases h : p = a
  · subst h; simp [ha]
  · rw [if_neg h]
    simp only [Array.set!, getElem!_def, Array.getElem?_setIfInBounds]
    rw [if_neg (Ne.symm h)]

variable {R : Type} [CommRing R] [Inhabited R] (I : R)

def ringA : Arith R := ⟨(· + ·), (· - ·), (· * ·), (- ·), fun a b c => a * b + c, fun a b c => a * b - c⟩

def cxs (s : RI R) : ℕ → R := fun p => s.re[p]! + I * s.im[p]!

def Valid (N : ℕ) (s : RI R) : Prop := s.re.size = N ∧ s.im.size = N

def Realises (f : Bf R) (wr wi : R) (φ ψ : R → R → R) : Prop :=
  ∀ ra ia rb ib,
    (f ra ia rb ib wr wi).1 + I * (f ra ia rb ib wr wi).2.1 = φ (ra + I * ia) (rb + I * ib) ∧
    (f ra ia rb ib wr wi).2.2.1 + I * (f ra ia rb ib wr wi).2.2.2 = ψ (ra + I * ia) (rb + I * ib)

end Spq.Fft.Sim
