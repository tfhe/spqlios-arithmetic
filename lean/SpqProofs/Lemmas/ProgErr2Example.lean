/-
  C16, binary64 side, products of products: a concrete instance of every hypothesis of the program-level theorem
  `prog_refines_f64_metric_partial` on a program OUTSIDE `SingleProductDepth`.
  `N = 2` (`k = 0`), `K = ℚ`, `ζ = i`, module `exC`, heap of 8 cells, `x = 1 + 2X`, `y = 3 + 4X`:
      P0 := svp_prepare(y);  M0 := vmp_prepare(y);  D0 := svp_apply_dft(P0, x)          -- D0 = DFT(x·y) = (−5, 10)
      D2 := vmp_apply_dft_to_dft(D0, M0)                                               -- a product of a product
      w := idft(D2)                                                                     -- w = x·y·y = −55 + 10X
  This file: the flags on the concrete operands (accumulation of `(−5 + 10i)·(3 + 4i)`, inverse transform of `(−55, 10)`).
-/
import SpqProofs.Lemmas.ProgErr2Step
import SpqProofs.Lemmas.ProgErrExample2
namespace Spq.ProgErr2
open Finset Spq Spq.Module Spq.Fft Spq.Fft.Alg Spq.Fft.SimP Spq.Fft.LevelN Spq.Fft.SchedN Spq.Fft.RelN Spq.FftErr Spq.F64
  Spq.Reim4 Spq.Conv Spq.ProdErr Spq.VmpErr Spq.Prog Spq.Closed Spq.ProgErr

/-- the DFT-space object `(−5.0, 10.0)` = `svp_apply_dft(svp_prepare(3 + 4X), 1 + 2X)` -/
def exAd : Array ℕ := #[13840687554816376832, 4621819117588971520]
/-- the DFT-space object `(−55.0, 10.0)` -/
def exAd2 : Array ℕ := #[13856309416023818240, 4621819117588971520]

theorem exAd_eq : exAd = stM exC 0 z0 z0 #[1, 2] #[3, 4] := by rw [exM]; rfl

/-- flags of the reference product `(−5 + 10i)·(3 + 4i)` -/
theorem ex2_okM : ∀ p, p < 2 →
    ((mulA arithOk false 1 (exAd.map lift) ((#[4613937818241073152, 4616189618054758400] : Array ℕ).map lift)).getD p
      arithOk.zero).2 := by
  intro p hp
  obtain ⟨c1, c2⟩ := (mulA_cells arithOk false 1 (by simp) (exAd.map lift)
    ((#[4613937818241073152, 4616189618054758400] : Array ℕ).map lift)).2 0 (by omega)
  have g0 : (exAd.map lift).getD 0 arithOk.zero = lift (ofInt (-5)) := getD_map lift _ 0 0
  have g1 : (exAd.map lift).getD (0 + 1) arithOk.zero = lift (ofInt 10) := getD_map lift _ 1 0
  have g2 : ((#[4613937818241073152, 4616189618054758400] : Array ℕ).map lift).getD 0 arithOk.zero = lift (ofInt 3) :=
    getD_map lift _ 0 0
  have g3 : ((#[4613937818241073152, 4616189618054758400] : Array ℕ).map lift).getD (0 + 1) arithOk.zero = lift (ofInt 4) :=
    getD_map lift _ 1 0
  rw [g0, g1, g2, g3] at c1 c2
  have m1 : F64.mul (ofInt (-5)) (ofInt 3) = ofInt (-15) := by decide +kernel
  have m2 : F64.mul (ofInt 10) (ofInt 4) = ofInt 40 := by decide +kernel
  have m3 : F64.mul (ofInt (-5)) (ofInt 4) = ofInt (-20) := by decide +kernel
  have m4 : F64.mul (ofInt 10) (ofInt 3) = ofInt 30 := by decide +kernel
  have v5 : val (ofInt (-5)) = ((-5 : ℤ) : ℚ) := val_ofInt (by decide)
  have v10 : val (ofInt 10) = ((10 : ℤ) : ℚ) := val_ofInt (by decide)
  have v3 : val (ofInt 3) = ((3 : ℤ) : ℚ) := val_ofInt (by decide)
  have v4 : val (ofInt 4) = ((4 : ℤ) : ℚ) := val_ofInt (by decide)
  have v15 : val (ofInt (-15)) = ((-15 : ℤ) : ℚ) := val_ofInt (by decide)
  have v40 : val (ofInt 40) = ((40 : ℤ) : ℚ) := val_ofInt (by decide)
  have v20 : val (ofInt (-20)) = ((-20 : ℤ) : ℚ) := val_ofInt (by decide)
  have v30 : val (ofInt 30) = ((30 : ℤ) : ℚ) := val_ofInt (by decide)
  have : p = 0 ∨ p = 0 + 1 := by omega
  rcases this with rfl | rfl
  · rw [c1]
    simp only [cellRe, Bool.false_eq_true, if_false, reRef, arithOk_sub_snd, arithOk_mul_snd, arithOk_mul_fst, lift_fst,
      lift_snd]
    rw [m1, m2, v5, v10, v3, v4, v15, v40]
    refine ⟨⟨by decide, by decide, ?_⟩, ⟨by decide, by decide, ?_⟩, ?_⟩
    · rw [← Int.cast_mul]; exact normalRange_int _ (by decide)
    · rw [← Int.cast_mul]; exact normalRange_int _ (by decide)
    · rw [← Int.cast_sub]; exact normalRange_int _ (by decide)
  · rw [c2]
    simp only [cellIm, Bool.false_eq_true, if_false, imRef, arithOk_add_snd, arithOk_mul_snd, arithOk_mul_fst, lift_fst,
      lift_snd]
    rw [m3, m4, v5, v10, v3, v4, v20, v30]
    refine ⟨⟨by decide, by decide, ?_⟩, ⟨by decide, by decide, ?_⟩, ?_⟩
    · rw [← Int.cast_mul]; exact normalRange_int _ (by decide)
    · rw [← Int.cast_mul]; exact normalRange_int _ (by decide)
    · rw [← Int.cast_add]; exact normalRange_int _ (by decide)

theorem ex2_okD : ∀ p, p < 2 * 2 ^ 0 → vmpFlagD exC #[3, 4] 1 1 exAd 1 1 (0 * (2 * 2 ^ 0) + p) :=
  ex_okD_of arithOk (pOk exC) exAd rfl (by rw [exFB]; exact ex2_okM)

theorem ex2_okI : InvOk exC 0 z0 z0 exAd2 := by
  unfold InvOk exAd2
  intro p hp
  have : p = 0 ∨ p = 1 := by omega
  rcases this with rfl | rfl <;> simp [reimIfftA, ifftRI, joinRI, splitRI, lift] <;> decide

end Spq.ProgErr2
