/-
  Reading arrays through `getD` (the model reads every cell as `a.getD i z`), and folds over lists and ranges.
  Core Lean only: every region, the Mathlib-free ones included, imports this.
-/
namespace Spq
variable {α β : Type}

theorem getD_of_lt (a : Array α) (z : α) {i : Nat} (h : i < a.size) : a.getD i z = a[i] := by
  simp [Array.getD, h]

theorem getD_of_size_le (a : Array α) (i : Nat) (z : α) (h : a.size ≤ i) : a.getD i z = z := by
  simp [Array.getD, Nat.not_lt.2 h]

theorem getD_of_getElem? {a : Array α} {i : Nat} {v z : α} (h : a[i]? = some v) : a.getD i z = v := by
  simp [Array.getD_eq_getD_getElem?, h]

theorem getElem?_of_getD {a : Array α} {i : Nat} (z : α) (h : i < a.size) : a[i]? = some (a.getD i z) := by
  simp [Array.getD_eq_getD_getElem?, h]

theorem ext_getD (z : α) {a b : Array α} (hs : a.size = b.size) (h : ∀ k, k < a.size → a.getD k z = b.getD k z) :
    a = b := by
  apply Array.ext hs
  intro k h1 h2
  have := h k h1
  rwa [getD_of_lt a z h1, getD_of_lt b z h2] at this

theorem getD_setIfInBounds (a : Array α) (i j : Nat) (v z : α) :
    (a.setIfInBounds i v).getD j z = if i = j ∧ j < a.size then v else a.getD j z := by
  simp only [Array.getD_eq_getD_getElem?, Array.getElem?_setIfInBounds]
  by_cases h : i = j
  · subst h
    by_cases h2 : i < a.size <;> simp [h2]
  · simp [h]

theorem getD_setIfInBounds_ne (a : Array α) {i j : Nat} (v z : α) (h : i ≠ j) :
    (a.setIfInBounds i v).getD j z = a.getD j z := by
  rw [getD_setIfInBounds, if_neg (fun c => h c.1)]

theorem getD_ofFn {n : Nat} (f : Fin n → α) (z : α) (j : Nat) (h : j < n) : (Array.ofFn f).getD j z = f ⟨j, h⟩ := by
  rw [Array.getD_eq_getD_getElem?, Array.getElem?_ofFn, dif_pos h, Option.getD_some]

theorem getD_map (f : α → β) (a : Array α) (i : Nat) (z : α) : (a.map f).getD i (f z) = f (a.getD i z) := by
  simp only [Array.getD_eq_getD_getElem?, Array.getElem?_map]
  cases a[i]? <;> rfl

theorem getD_map_lt (f : α → β) (a : Array α) (i : Nat) (z : α) (z' : β) (h : i < a.size) :
    (a.map f).getD i z' = f (a.getD i z) := by
  rw [getD_of_lt _ _ (by simpa using h), getD_of_lt _ _ h, Array.getElem_map]

theorem getD_replicate (z : α) (n i : Nat) : (Array.replicate n z).getD i z = z := by
  simp only [Array.getD_eq_getD_getElem?, Array.getElem?_replicate]
  split <;> rfl

theorem getD_extract (a : Array α) (s e i : Nat) (z : α) :
    (a.extract s e).getD i z = if s + i < e then a.getD (s + i) z else z := by
  simp only [Array.getD_eq_getD_getElem?, Array.getElem?_extract]
  by_cases h : s + i < e
  · rw [if_pos h]
    by_cases h2 : s + i < a.size
    · rw [if_pos (by omega)]
    · rw [if_neg (by omega), Array.getElem?_eq_none (by omega)]
  · rw [if_neg h, if_neg (by omega)]; rfl

theorem size_extract_of_le (a : Array α) (s n : Nat) (h : s + n ≤ a.size) : (a.extract s (s + n)).size = n := by
  simp; omega

theorem foldl_congr_mem {γ : Type} (f g : β → γ → β) (l : List γ) (b : β)
    (h : ∀ x, x ∈ l → ∀ b, f b x = g b x) : l.foldl f b = l.foldl g b := by
  induction l generalizing b with
  | nil => rfl
  | cons x xs ih =>
    rw [List.foldl_cons, List.foldl_cons, h x (by simp)]
    exact ih _ (fun y hy => h y (by simp [hy]))

theorem foldl_range_congr (f g : β → Nat → β) (n : Nat) (b : β)
    (h : ∀ i, i < n → ∀ b, f b i = g b i) : (List.range n).foldl f b = (List.range n).foldl g b :=
  foldl_congr_mem f g _ b (fun i hi => h i (List.mem_range.1 hi))

theorem all_range {n : Nat} {f : Nat → Bool} (h : (List.range n).all f = true) (p : Nat) (hp : p < n) : f p = true :=
  List.all_eq_true.1 h p (List.mem_range.2 hp)

theorem size_foldl_of_step {γ : Type} (f : Array α → γ → Array α) (hf : ∀ r j, (f r j).size = r.size)
    (l : List γ) (r : Array α) : (l.foldl f r).size = r.size := by
  induction l generalizing r with
  | nil => rfl
  | cons k ks ih => rw [List.foldl_cons, ih, hf]

end Spq
