/-
  Pointwise products of the module (`mul`, `addmul`) in exact arithmetic and the core of C01:
  the DFT of the negacyclic product is the pointwise product of the DFTs.
-/
import SpqProofs.Lemmas.ModuleSpec
import SpqProofs.Properties.C17
namespace Spq.Module
open Finset Spq Reim4
variable {R : Type} [CommRing R]

theorem eq_of_cx_reim (m : Nat) (u v : Array R) (hu : u.size = 2 * m) (hv : v.size = 2 * m)
    (h : ∀ j, j < m → cx u j (j + m) = cx v j (j + m)) : u = v := by
  apply ext_getD 0 (by rw [hu, hv])
  intro x _
  by_cases hx : x < 2 * m
  · by_cases h1 : x < m
    · have := congrArg Cx.re (h x h1)
      simpa using this
    · have := congrArg Cx.im (h (x - m) (by omega))
      have e : x - m + m = x := by omega
      simpa [e] using this
  · rw [getD_of_size_le _ _ _ (by omega), getD_of_size_le _ _ _ (by omega)]

/-- `reim_fftvec_mul` of the module, either flavour: `nn` cells, complex `j` is the product -/
theorem mul_exact (c : Parts R) (h : ExactArith c) (a b : Array R) :
    (mul c a b).size = c.nn ∧ ∀ j, j < c.m → cx (mul c a b) j (j + c.m) = cx a j (j + c.m) * cx b j (j + c.m) := by
  obtain ⟨har, hnn, _, _, hmul, _⟩ := h
  have hr : 2 * c.m ≤ (Array.replicate c.nn (0 : R)).size := by simp; omega
  obtain ⟨⟨s1, s2, _⟩, s4⟩ := C17.reim_fftvec_mul_exact c.m (Array.replicate c.nn (0 : R)) a b hr
  have e : mul c a b = reimFftvecMulRef (RArith.ofRing R) c.m (Array.replicate c.nn (0 : R)) a b := by
    unfold mul
    simp only [har, ofRing_zero]
    by_cases hf : c.mulFma = true
    · rw [if_pos hf, s4 (hmul hf)]; rfl
    · rw [if_neg hf]
  rw [e]
  refine ⟨by rw [s1]; simp, ?_⟩
  intro j hj
  exact s2 j hj

/-- `reim_fftvec_addmul` of the module, either flavour -/
theorem addmul_exact (c : Parts R) (h : ExactArith c) (r a b : Array R) (hr : r.size = c.nn) :
    (addmul c r a b).size = c.nn ∧
    ∀ j, j < c.m → cx (addmul c r a b) j (j + c.m) = cx r j (j + c.m) + cx a j (j + c.m) * cx b j (j + c.m) := by
  obtain ⟨har, hnn, _, _, _, haddmul⟩ := h
  have hr' : 2 * c.m ≤ r.size := by omega
  obtain ⟨⟨s1, s2, _⟩, s4⟩ := C17.reim_fftvec_addmul_exact c.m r a b hr'
  have e : addmul c r a b = reimFftvecAddmulRef (RArith.ofRing R) c.m r a b := by
    unfold addmul
    simp only [har]
    by_cases hf : c.addmulFma = true
    · rw [if_pos hf, s4 (haddmul hf)]; rfl
    · rw [if_neg hf]
  rw [e]
  refine ⟨by rw [s1, hr], ?_⟩
  intro j hj
  exact s2 j hj

/-- the embedding `ℤ → R → Cx R` -/
def zcx (R : Type) [CommRing R] : Int →+* Cx R := (Cx.ofRe).comp (Int.castRingHom R)

theorem zcx_apply (n : Int) : zcx R n = Cx.ofRe ((n : Int) : R) := rfl

theorem pow_nn_of_pow_m (w : Cx R) (m : Nat) (h : w ^ m = Cx.I) : w ^ (2 * m) = -1 := by
  rw [Nat.mul_comm, pow_mul, h, pow_two, Cx.I_mul_I]

/-- H1 + H2 + `reim_eval`: complex `j` of the DFT of an integer vector is the evaluation of its `nn`
    coefficients at `z_j` -/
theorem fft_embed (c : Parts R) (z : Nat → Cx R) (ha : ExactArith c) (hd : ExactDft c z)
    (x : Array Int) (hx : x.size = c.nn) (j : Nat) (hj : j < c.m) :
    cx (c.fft (c.fromZnx x)) j (j + c.m) = evalF c.nn (fun k => zcx R (icoef x k)) (z j) := by
  rw [hd.fft_eval _ (hd.fromZnx_size x hx) j hj, ha.hnn, reim_evalF c.m _ (z j) Cx.I (hd.hz j hj)]
  apply sum_congr rfl
  intro k hk
  have hk := mem_range.1 hk
  have hn := ha.hnn
  rw [cx_eq, hd.fromZnx_get x hx k (by omega), hd.fromZnx_get x hx (k + c.m) (by omega)]
  rfl

theorem fft_prod (c : Parts R) (z : Nat → Cx R) (ha : ExactArith c) (hd : ExactDft c z)
    (a b : Array Int) (hsa : a.size = c.nn) (hsb : b.size = c.nn) :
    mul c (c.fft (c.fromZnx a)) (c.fft (c.fromZnx b)) = c.fft (c.fromZnx (nmul c.nn a b)) := by
  obtain ⟨m1, m2⟩ := mul_exact c ha (c.fft (c.fromZnx a)) (c.fft (c.fromZnx b))
  have hn := ha.hnn
  apply eq_of_cx_reim c.m _ _ (by omega)
    (by rw [hd.fft_size _ (hd.fromZnx_size _ (size_nmul _ _ _))]; exact hn)
  intro j hj
  rw [m2 j hj, fft_embed c z ha hd a hsa j hj, fft_embed c z ha hd b hsb j hj,
    fft_embed c z ha hd _ (size_nmul _ _ _) j hj,
    ← eval_nmulF c.nn _ _ (z j) (by rw [hn]; exact pow_nn_of_pow_m _ _ (hd.hz j hj))]
  unfold evalF
  apply sum_congr rfl
  intro k hk
  simp only []
  rw [icoef_nmul _ _ _ _ (mem_range.1 hk), map_nmulF]

/-- H3 + H4 (+ H1): conversion, DFT, inverse DFT and rounding return the integers -/
theorem roundtrip (c : Parts R) (z : Nat → Cx R) (hd : ExactDft c z) (x : Array Int) (hx : x.size = c.nn) :
    c.toZnx (c.ifft (c.fft (c.fromZnx x))) = x := by
  have hs := hd.fromZnx_size x hx
  apply hd.toZnx_round _ _ (hd.ifft_size _ hs) hx
  intro t ht
  rw [hd.ifft_fft _ hs t ht, hd.fromZnx_get x hx t ht]

/-- `fft64_znx_small_single_product` in exact arithmetic -/
theorem smallProduct_exact (c : Parts R) (z : Nat → Cx R) (ha : ExactArith c) (hd : ExactDft c z)
    (a b : Array Int) (hsa : a.size = c.nn) (hsb : b.size = c.nn) :
    smallProduct c a b = nmul c.nn a b := by
  unfold smallProduct
  rw [fft_prod c z ha hd a b hsa hsb, roundtrip c z hd _ (size_nmul _ _ _)]

end Spq.Module
