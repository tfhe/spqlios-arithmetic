/-
  The exact-arithmetic module `exactParts`: `Spq.Module.Cfg.parts` with binary64 replaced by a commutative ring `R` of
  cells ("the reals": `ℝ`, `ℚ`, …; complex numbers are `Cx R`).  `fft` / `ifft` ARE `Spq.Fft.reimFftA` / `reimIfftA`
  (reference or FMA schedule) run on real cells, with the twiddle table `cos e = Re ζ^e`, `sin e = Im ζ^e` placed by the
  transcription `reimFftEnts` / `reimIfftEnts` of the C table builders — the same table `C06` uses.
-/
import SpqProofs.Lemmas.ModuleSpec
import SpqProofs.Lemmas.NatBasic
import SpqProofs.Lemmas.FftApi
import SpqProofs.Lemmas.FftAlgSum
import SpqProofs.Lemmas.FftExact
namespace Spq.Closed
open Finset Spq Spq.Fft Spq.Fft.Alg Spq.Fft.Sim Spq.Fft.Tab Spq.Fft.Kern Spq.Fft.Api

variable {R : Type} [CommRing R]

/-- the `Inhabited` instance the `[i]!` reads of the network use: out-of-range reads give `0` -/
@[reducible] def inh0 (α : Type) [Zero α] : Inhabited α := ⟨0⟩

def conj (x : Cx R) : Cx R := ⟨x.re, -x.im⟩

theorem conj_one : conj (1 : Cx R) = 1 := by ext <;> simp [conj]
theorem conj_mul (x y : Cx R) : conj (x * y) = conj x * conj y := by
  ext
  · simp [conj]
  · simp [conj]; ring
theorem conj_pow (x : Cx R) (e : ℕ) : conj (x ^ e) = conj x ^ e := by
  induction e with
  | zero => simp [conj_one]
  | succ e ih => rw [pow_succ, pow_succ, conj_mul, ih]

theorem ofRe_sub_I_mul (x : Cx R) : Cx.ofRe x.re - Cx.I * Cx.ofRe x.im = conj x := by
  ext <;> simp [conj, sub_eq_add_neg]

theorem ofRe_natCast (n : ℕ) : (n : Cx R) = Cx.ofRe (n : R) := (map_natCast Cx.ofRe n).symm

theorem I_pow_four : (Cx.I : Cx R) ^ 4 = 1 := by
  have : (Cx.I : Cx R) ^ 4 = (Cx.I * Cx.I) * (Cx.I * Cx.I) := by ring
  rw [this, Cx.I_mul_I]; ring

/-- a primitive 4m-th root of unity of norm 1 in `Cx R` (`m = 2^k`), and exact division by `m` on `m·ℤ ⊂ R` -/
structure RootData (R : Type) [CommRing R] (k : ℕ) where
  ζ : Cx R
  hζ : ζ ^ 2 ^ k = Cx.I
  hnorm : ζ * conj ζ = 1
  rd : R → ℤ
  hrd : ∀ n : ℤ, rd (((2 ^ k : ℕ) : R) * (n : R)) = n

/-- `cos(2π e / 4m)` -/
def RootData.c {k : ℕ} (rt : RootData R k) (e : ℕ) : R := (rt.ζ ^ e).re
/-- `sin(2π e / 4m)` -/
def RootData.s {k : ℕ} (rt : RootData R k) (e : ℕ) : R := (rt.ζ ^ e).im

/-- the `powomegas` table of `reim_fft_precomp`, exact -/
def RootData.fftTable {k : ℕ} (rt : RootData R k) : Array R :=
  ((reimFftEnts (2 ^ k)).map (val rt.c rt.s)).toArray
/-- the table of `reim_ifft_precomp`, exact -/
def RootData.ifftTable {k : ℕ} (rt : RootData R k) : Array R :=
  ((reimIfftEnts (2 ^ k)).map (val rt.c rt.s)).toArray

/-- which kernels the module installed (the booleans of `Spq.Module.Cfg`) -/
structure Flags where
  fftFma : Bool
  ifftFma : Bool
  mulFma : Bool
  addmulFma : Bool
  vmpAvx : Bool

/-- the forward network the module runs: `reim_fft_ref` or `reim_fft_avx2_fma`, exact arithmetic, real cells -/
def netFft {k : ℕ} (rt : RootData R k) (fma : Bool) (d : Array R) : Array R :=
  @reimFftA R (inh0 R) (if fma then fwdFma ringA else fwdRef ringA) (2 ^ k) rt.fftTable d
def netIfft {k : ℕ} (rt : RootData R k) (fma : Bool) (d : Array R) : Array R :=
  @reimIfftA R (inh0 R) (if fma then invFma ringA else invRef ringA) (2 ^ k) rt.ifftTable d

/-- `Spq.Module.Cfg.parts` over the exact ring `R`: `fromZnx` reads `nn` coefficients and casts them (as
    `Conv.fromZnx64Ref`: `scalarLoop (2m) fun i => lane (x.getD i 0)`), `toZnx` applies `rd` to `nn` cells -/
def exactParts {k : ℕ} (rt : RootData R k) (fl : Flags) : Module.Parts R :=
  { nn := 2 * 2 ^ k, ar := RArith.ofRing R,
    fromZnx := fun x => Array.ofFn (n := 2 * 2 ^ k) fun i => ((x.getD i.val 0 : Int) : R),
    fft := netFft rt fl.fftFma,
    ifft := netIfft rt fl.ifftFma,
    toZnx := fun d => Array.ofFn (n := 2 * 2 ^ k) fun i => rt.rd (d.getD i.val 0),
    mulFma := fl.mulFma, addmulFma := fl.addmulFma, vmpAvx := fl.vmpAvx }

@[simp] theorem exactParts_nn {k : ℕ} (rt : RootData R k) (fl : Flags) : (exactParts rt fl).nn = 2 * 2 ^ k := rfl
@[simp] theorem exactParts_m {k : ℕ} (rt : RootData R k) (fl : Flags) : (exactParts rt fl).m = 2 ^ k := by
  simp [Module.Parts.m, exactParts]

/-- the dispatch invariants: the FMA pointwise kernels are installed only for `m ≥ 4` -/
def Flags.ok (fl : Flags) (k : ℕ) : Prop := (fl.mulFma = true ∨ fl.addmulFma = true) → 2 ≤ k

theorem exactParts_exactArith {k : ℕ} (rt : RootData R k) (fl : Flags) (hfl : fl.ok k) :
    Module.ExactArith (exactParts rt fl) := by
  refine ⟨rfl, by simp, by simp, ?_, ?_, ?_⟩
  · intro h
    rw [exactParts_m]
    apply pow_mod_four
    rw [exactParts_nn] at h
    rcases k with _ | _ | k
    · simp at h
    · simp at h
    · omega
  · intro h; rw [exactParts_m]; exact pow_mod_four k (hfl (Or.inl h))
  · intro h; rw [exactParts_m]; exact pow_mod_four k (hfl (Or.inr h))

section cells
set_option linter.unusedSectionVars false
variable {A B : Type} [Inhabited A] [Inhabited B]

def mapRI (f : A → B) (s : RI A) : RI B := ⟨s.re.map f, s.im.map f⟩

/-- the state of the drivers: split storage and the table pointer -/
def mapSt (f : A → B) (st : RI A × Nat) : RI B × Nat := (mapRI f st.1, st.2)

@[simp] theorem mapSt_fst (f : A → B) (st : RI A × Nat) : (mapSt f st).1 = mapRI f st.1 := rfl
@[simp] theorem mapSt_snd (f : A → B) (st : RI A × Nat) : (mapSt f st).2 = st.2 := rfl
theorem mapSt_mk (f : A → B) (s : RI A) (t : Nat) : mapSt f (s, t) = (mapRI f s, t) := rfl

end cells

end Spq.Closed
