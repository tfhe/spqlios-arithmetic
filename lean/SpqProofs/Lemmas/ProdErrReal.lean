/-
  C01 rounding budget over `K = ℝ` with the true 2-norms `‖x‖₂ = √Σ x_t²` (`na = ‖a‖₂`, `nb = ‖b‖₂`): the three
  side conditions on `na`, `nb` of the end-to-end theorems hold.
-/
import SpqProofs.Lemmas.ProdErrBudget
import Mathlib.Analysis.Real.Sqrt
namespace Spq.ProdErr
open Finset

/-- the 2-norm of the first `N` coefficients -/
noncomputable def n2 (x : Array Int) (N : ℕ) : ℝ := Real.sqrt (∑ t ∈ range N, ((x.getD t 0 : Int) : ℝ) ^ 2)

theorem n2_nonneg (x : Array Int) (N : ℕ) : 0 ≤ n2 x N := Real.sqrt_nonneg _

theorem n2_sq (x : Array Int) (N : ℕ) : ∑ t ∈ range N, ((x.getD t 0 : Int) : ℝ) ^ 2 ≤ n2 x N ^ 2 := by
  unfold n2
  rw [Real.sq_sqrt (sum_nonneg (fun _ _ => by positivity))]

theorem sum_sq_le_sq_sum (N : ℕ) (f : ℕ → ℝ) : ∑ t ∈ range N, f t ^ 2 ≤ (∑ t ∈ range N, |f t|) ^ 2 := by
  induction N with
  | zero => simp
  | succ N ih =>
    rw [sum_range_succ, sum_range_succ]
    have h0 : 0 ≤ ∑ t ∈ range N, |f t| := sum_nonneg (fun _ _ => abs_nonneg _)
    have h1 := abs_nonneg (f N)
    have h2 : f N ^ 2 = |f N| ^ 2 := (sq_abs _).symm
    have := mul_nonneg h0 h1
    linarith

theorem n2_le_n1 (x : Array Int) (N : ℕ) : n2 x N ≤ ∑ t ∈ range N, |((x.getD t 0 : Int) : ℝ)| := by
  unfold n2
  rw [Real.sqrt_le_left (sum_nonneg (fun _ _ => abs_nonneg _))]
  exact sum_sq_le_sq_sum N _

end Spq.ProdErr
