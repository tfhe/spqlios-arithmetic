/-
  In-place automorphism: level-loop state, strided loops against `Coeffs.stepRange`, the IR states that stand for the
  abstract states of the level loop and of the paired walk.  The memory of such a state is `M res` for a family `M` of
  memories with `Cells M p nn` (Lemmas/SrcFill): a whole buffer or a window of an arena.
-/
import SpqProofs.Lemmas.CoeffsAutPass
import SpqProofs.Lemmas.SrcAutWalk
import SpqProofs.Lemmas.SrcAut
import SpqProofs.Lemmas.SrcWalk
import SpqProofs.Lemmas.SrcFuel
namespace Spq.CIR
open Spq

/-! ### strided loops -/
theorem stride_lt_iff (lo hi s k : Nat) (hs : 0 < s) :
    lo + k * s < hi ↔ k < (hi - lo + s - 1) / s := by
  constructor
  · intro h
    have : (k + 1) * s ≤ hi - lo + s - 1 := by
      rw [Nat.add_mul]; omega
    have := (Nat.le_div_iff_mul_le hs).mpr this
    omega
  · intro h
    have h1 : k + 1 ≤ (hi - lo + s - 1) / s := h
    have h2 := (Nat.le_div_iff_mul_le hs).mp h1
    rw [Nat.add_mul] at h2
    omega

/-- `for (j = lo; j < hi; j += s)`: `Rk k σ`: "`σ` is a state at the loop head after `k` iterations", where `j = lo + k*s` -/
theorem exec_for_stride (Γ : List Ptr) (init : Stmt) (sj : Nat) (hiE : Expr) (inc body : Stmt) (σ0 : State)
    (Rk : Nat → State → Prop) (lo hi s : Nat) (hs : 0 < s)
    (hi0 : ∀ f, Post (exec Γ init f σ0) (Rk 0))
    (hj : ∀ k σ, Rk k σ → lget σ.env sj = ((lo + k * s : Nat) : Int))
    (hh : ∀ k σ, Rk k σ → eval Γ σ hiE = .ok (hi : Int))
    (hstep : ∀ k σ, lo + k * s < hi → Rk k σ → ∀ f,
      Post (thenStep (exec Γ body f σ) (fun σ' => exec Γ inc f σ')) (Rk (k + 1))) :
    ∀ f, hi ≤ f →
      Post (exec Γ (.for init (.bin .lt .u64 (.var sj) hiE) inc body) f σ0) (Rk ((hi - lo + s - 1) / s)) := by
  intro f hf
  have hcnt := stride_lt_iff lo hi s
  have hle : (hi - lo + s - 1) / s ≤ hi := by
    apply Nat.le_of_not_lt
    intro h
    have h1 := (hcnt hi hs).mpr h
    have h2 : hi * 1 ≤ hi * s := Nat.mul_le_mul_left hi hs
    omega
  have hcond : ∀ k σ, Rk k σ →
      evalB Γ (.bin .lt .u64 (.var sj) hiE) σ = .ok (decide (lo + k * s < hi)) := by
    intro k σ h
    rw [evalB_def, eval_bin, eval_var, hj k σ h, hh k σ h]
    simp only [R.bind_ok, evalBin_lt_u64, decide_b2i_ne_zero, Nat.cast_lt]
  refine execK_for_inv _ Γ init _ inc body σ0 Rk 0 _ 0 (Nat.zero_le _) hi0 ?_ ?_ f (by omega)
  · intro k σ _ hk h
    exact ⟨by rw [hcond k σ h, decide_eq_true ((hcnt k hs).mpr hk)],
      fun f _ => hstep k σ ((hcnt k hs).mpr hk) h f⟩
  · intro σ h
    rw [hcond _ σ h, decide_eq_false (fun h => Nat.lt_irrefl _ ((hcnt _ hs).mp h))]

theorem stride_succ (lo s k : Nat) : lo + (k + 1) * s = lo + k * s + s := by
  rw [Nat.succ_mul, Nat.add_assoc]

/-- the array after `k` iterations of a fold over `stepRange lo hi s` -/
def strideFold (F : Array Int → Nat → Array Int) (lo s : Nat) (res : Array Int) (k : Nat) : Array Int :=
  ((List.range k).map fun t => lo + t * s).foldl F res

theorem strideFold_zero (F : Array Int → Nat → Array Int) (lo s : Nat) (res : Array Int) :
    strideFold F lo s res 0 = res := rfl

theorem strideFold_succ (F : Array Int → Nat → Array Int) (lo s : Nat) (res : Array Int) (k : Nat) :
    strideFold F lo s res (k + 1) = F (strideFold F lo s res k) (lo + k * s) := by
  unfold strideFold
  rw [List.range_succ, List.map_append, List.foldl_append]
  rfl

theorem foldl_stepRange (F : Array Int → Nat → Array Int) (lo hi s : Nat) (hs : 0 < s) (res : Array Int) :
    (Coeffs.stepRange lo hi s).foldl F res = strideFold F lo s res ((hi - lo + s - 1) / s) := by
  unfold Coeffs.stepRange strideFold
  have : s ≠ 0 := by omega
  simp [this]

/-- value of a slot written in the previous iteration (`x0` before the first one) -/
def prevD (x0 : Int) (F : Nat → Int) (k : Nat) : Int := if k = 0 then x0 else F (k - 1)
theorem prevD_zero (x0 : Int) (F : Nat → Int) : prevD x0 F 0 = x0 := rfl
theorem prevD_succ (x0 : Int) (F : Nat → Int) (k : Nat) : prevD x0 F (k + 1) = F k := by simp [prevD]

/-! ### state of the level loop -/
structure LG where
  l : Nat
  binval : Nat
  vp : Nat
  orb : Nat
  res : Array Int

/-- the IR states at the head of the level loop that stand for `g`: slots `nn p _2mn _mn nn/2 binval vp orb` known,
    the 14 locals of the branches dead -/
def lR (nn pm : Nat) (M : Array Int → Mem) (g : LG) (σ : State) : Prop :=
  ∃ d8 d9 d10 d11 d12 d13 d14 d15 d16 d17 d18 d19 d20 d21 : Int,
    σ = ⟨[(nn : Int), (pm : Int), ((2 * nn - 1 : Nat) : Int), ((nn - 1 : Nat) : Int), ((nn / 2 : Nat) : Int),
      (g.binval : Int), (g.vp : Int), (g.orb : Int), d8, d9, d10, d11, d12, d13, d14, d15, d16, d17, d18, d19, d20,
      d21], M g.res⟩

end Spq.CIR

namespace Spq.CIR
theorem pow_le_p62 (t : Nat) (ht : t ≤ 62) : 2 ^ t ≤ 4611686018427387904 :=
  Nat.pow_le_pow_right (by decide) ht

theorem evalBin_shr_u64_one (x : Nat) : evalBin .shr .u64 (x : Int) 1 = .ok ((x / 2 : Nat) : Int) := by
  have h1 : (0 : Int) ≤ 1 ∧ (1 : Int) < ((Ty.bits .u64 : Nat) : Int) := by simp [Ty.bits]
  simp only [evalBin, h1, and_self, if_true]
  simp
theorem evalBin_shl_u64_one (x : Nat) :
    evalBin .shl .u64 (x : Int) 1 = .ok (((x : Int) * 2) % 18446744073709551616) := by
  have h1 : (0 : Int) ≤ 1 ∧ (1 : Int) < ((Ty.bits .u64 : Nat) : Int) := by simp [Ty.bits]
  simp only [evalBin, h1, and_self, if_true]
  simp [Ty.wrap]

theorem two_mul_u64 (b : Nat) (h : 2 * b < 18446744073709551616) :
    ((2 : Int) % 18446744073709551616 * (b : Int)) % 18446744073709551616 = ((2 * b : Nat) : Int) := by
  omega

theorem mul_two_u64 (b : Nat) (h : 2 * b < 18446744073709551616) :
    ((b : Int) * 2) % 18446744073709551616 = ((2 * b : Nat) : Int) := by
  omega

theorem add_two_u64 (a : Nat) (h : a + 2 < 18446744073709551616) :
    ((a : Int) + 2 % 18446744073709551616) % 18446744073709551616 = ((a + 2 : Nat) : Int) := by
  omega

/-- invariants of the level loop (`nn = 2^t`) -/
def LGood (t nn : Nat) (g : LG) : Prop :=
  g.binval = 2 ^ g.l ∧ g.l ≤ t ∧ g.vp < 2 * nn ∧ g.orb ≤ nn ∧ g.res.size = nn
end Spq.CIR

namespace Spq.CIR
theorem wrapS_nat (x : Nat) (h : x < 9223372036854775808) : wrapS (x : Int) = (x : Int) := by
  unfold wrapS; omega
end Spq.CIR

namespace Spq.CIR
theorem posMask_natCast (x m : Nat) (h : x < m) : posMask (x : Int) m = x := by
  unfold posMask
  have h1 : (x : Int) % (m : Int) = (x : Int) := Int.emod_eq_of_lt (by omega) (by omega)
  rw [h1]
  omega
end Spq.CIR

namespace Spq.CIR
theorem strideFold_size (F : Array Int → Nat → Array Int) (hF : ∀ r j, (F r j).size = r.size) (lo s : Nat)
    (res : Array Int) : ∀ k, (strideFold F lo s res k).size = res.size := by
  intro k
  induction k with
  | zero => rfl
  | succ k ih => rw [strideFold_succ, hF, ih]

/-- `x & (2nn-1)` and `x & (nn-1)` for a small natural `x` held as an `Int` -/
theorem band_mask_nat (t nn : Nat) (hnn : nn = 2 ^ t) (x : Nat) :
    x &&& (2 * nn - 1) = x % (2 * nn) ∧ x &&& (nn - 1) = x % nn := by
  subst hnn
  constructor
  · rw [two_mul_pow]; exact Nat.and_two_pow_sub_one_eq_mod x (t + 1)
  · exact Nat.and_two_pow_sub_one_eq_mod x t
end Spq.CIR

namespace Spq.CIR
/-- `(vp << 1) & (2nn-1)` -/
theorem shl_one_mask (t nn : Nat) (hnn : nn = 2 ^ t) (vp : Nat) (h : 2 * vp < 18446744073709551616) :
    ((((vp : Int) * 2) % 18446744073709551616).toNat) &&& (2 * nn - 1) = (2 * vp) % (2 * nn) := by
  rw [mul_two_u64 vp h, Int.toNat_natCast, (band_mask_nat t nn hnn _).1]

/-- `(vp - binval) & (nn-1)` in uint64 against the model's `(vp + 2nn - binval) % nn` -/
theorem sub_mask_mod (t nn : Nat) (hnn : nn = 2 ^ t) (ht : t ≤ 64) (vp b : Nat) (hb : b ≤ vp + 2 * nn) :
    (((vp : Int) - (b : Int)) % 18446744073709551616).toNat % nn = (vp + 2 * nn - b) % nn := by
  have hpos : (0 : Int) ≤ ((vp : Int) - (b : Int)) % 18446744073709551616 := Int.emod_nonneg _ (by decide)
  have hd : ((nn : Nat) : Int) ∣ 18446744073709551616 := by
    rw [p64_eq, hnn]
    exact Int.natCast_dvd_natCast.mpr (Nat.pow_dvd_pow 2 ht)
  apply Int.ofNat_inj.mp
  rw [Int.natCast_emod, Int.toNat_of_nonneg hpos, Int.emod_emod_of_dvd _ hd, Int.natCast_emod]
  have e : ((vp + 2 * nn - b : Nat) : Int) = ((vp : Int) - (b : Int)) + (nn : Int) * 2 := by omega
  rw [e, Int.add_mul_emod_self_left]
end Spq.CIR

namespace Spq.CIR
/-- IR states inside the paired walk of one level: slots 8–12 belong to the other branches (`x8 … x12`, unchanged),
    13 = `j_start`, 14 = `nb_modif`, 15–17 = `j tmp1 tmp2`, 18–21 = `new_j new_j_n tmp1a tmp2a`, dead between turns -/
def pR (nn pm : Nat) (M : Array Int → Mem) (binval vp orb : Nat) (x8 x9 x10 x11 x12 : Int) (jstart : Nat)
    (a : PA) (σ : State) : Prop :=
  ∃ d18 d19 d20 d21 : Int,
    σ = ⟨[(nn : Int), (pm : Int), ((2 * nn - 1 : Nat) : Int), ((nn - 1 : Nat) : Int), ((nn / 2 : Nat) : Int),
      (binval : Int), (vp : Int), (orb : Int), x8, x9, x10, x11, x12, (jstart : Int), (a.nb : Int), (a.j : Int),
      a.t1, a.t2, d18, d19, d20, d21], M a.res⟩

/-- at the head of the outer loop `j tmp1 tmp2` are dead too -/
def pbR (nn pm : Nat) (M : Array Int → Mem) (binval vp orb : Nat) (x8 x9 x10 x11 x12 : Int) (b : PB)
    (σ : State) : Prop :=
  ∃ d15 d16 d17 d18 d19 d20 d21 : Int,
    σ = ⟨[(nn : Int), (pm : Int), ((2 * nn - 1 : Nat) : Int), ((nn - 1 : Nat) : Int), ((nn / 2 : Nat) : Int),
      (binval : Int), (vp : Int), (orb : Int), x8, x9, x10, x11, x12, (b.jstart : Int), (b.a.nb : Int), d15, d16,
      d17, d18, d19, d20, d21], M b.a.res⟩

/-- multiplication `j * p` in uint64 followed by `& (2nn-1)` -/
theorem mul_mask2 (t nn : Nat) (hnn : nn = 2 ^ t) (ht : t ≤ 63) (j pm : Nat) :
    ((((j : Int) * ((pm : Int) % 18446744073709551616)) % 18446744073709551616).toNat) &&& (2 * nn - 1)
      = (j * pm) % (2 * nn) := by
  have e1 : (((j : Int) * ((pm : Int) % 18446744073709551616)) % 18446744073709551616).toNat
      = (j * (pm % 18446744073709551616)) % 18446744073709551616 := by
    have : ((j : Int) * ((pm : Int) % 18446744073709551616)) = ((j * (pm % 18446744073709551616) : Nat) : Int) := by
      push_cast; rfl
    rw [this]; omega
  rw [e1, (band_mask_nat t nn hnn _).1]
  have hd : 2 * nn ∣ 18446744073709551616 := by
    rw [hnn, two_mul_pow]
    have : (18446744073709551616 : Nat) = 2 ^ 64 := by decide
    rw [this]
    exact Nat.pow_dvd_pow 2 (by omega)
  rw [Nat.mod_mod_of_dvd _ hd, Nat.mul_mod, Nat.mod_mod_of_dvd _ hd, ← Nat.mul_mod]
end Spq.CIR

namespace Spq.CIR
open Spq
/-! ### pieces of the generated function (projections, so that the lemmas about one level of the loop can be stated
    without restating the generated term) -/
/-- body of the level loop: the `for` is the fifth statement of the function body -/
def levelBody (fn : Fn) : Stmt :=
  match fn.body with
  | .seq _ (.seq _ (.seq _ (.seq _ (.for _ _ _ b)))) => b
  | _ => .skip
def levelInc (fn : Fn) : Stmt :=
  match fn.body with
  | .seq _ (.seq _ (.seq _ (.seq _ (.for _ _ inc _)))) => inc
  | _ => .skip

/-- one iteration of the level loop: body, then (unless it returned) the increment -/
def levelStep (fn : Fn) (Γ : List Ptr) (f : Nat) (σ : State) : Out :=
  thenStep (exec Γ (levelBody fn) f σ) fun σ' => exec Γ (levelInc fn) f σ'

end Spq.CIR

namespace Spq.CIR
/-- `(5 * j_start) & (nn-1)`; the product may wrap in uint64 (for `nn = 2^62`), harmlessly since `nn ∣ 2^64` -/
theorem five_mul_mask1 (t nn : Nat) (hnn : nn = 2 ^ t) (ht : t ≤ 63) (j : Nat) :
    ((((5 : Int) % 18446744073709551616 * (j : Int)) % 18446744073709551616).toNat) &&& (nn - 1) = (5 * j) % nn := by
  have e : (5 : Int) % 18446744073709551616 = 5 := by decide
  have e1 : (((5 : Int) * (j : Int)) % 18446744073709551616).toNat = (5 * j) % 18446744073709551616 := by
    have : ((5 : Int) * (j : Int)) = ((5 * j : Nat) : Int) := by push_cast; rfl
    rw [this]
    have h2 : (((5 * j : Nat) : Int) % 18446744073709551616) = (((5 * j) % 18446744073709551616 : Nat) : Int) := by
      exact (Int.natCast_emod (5 * j) 18446744073709551616).symm
    rw [h2]
    exact Int.toNat_natCast _
  rw [e, e1, (band_mask_nat t nn hnn _).2]
  have hd : nn ∣ 18446744073709551616 := by
    rw [hnn]
    have : (18446744073709551616 : Nat) = 2 ^ 64 := by decide
    rw [this]
    exact Nat.pow_dvd_pow 2 (by omega)
  rw [Nat.mod_mod_of_dvd _ hd]
end Spq.CIR

namespace Spq.CIR
open Spq
/-! ### strided loops over the cells of a family of memories (`Cells`): `for (j = lo; j < hi; j += s) body`, for the two bodies the
    in-place automorphism has.  Stated for any environment and any slots (`sj` the counter, `st` the temporary): the
    lemmas are matched against the generated loops by unification, and what they ask of the slots the loop reads is
    closed by `rfl` on a literal environment.  `w` is what the body applies to a loaded value (nothing, or the
    negation of the element type), `g` what that does to the value. -/
section cells
variable {Γ : List Ptr} {rp : Nat} {M : Array Int → Mem} {nn : Nat} (hC : Cells M (Γ.getD rp none) nn)
  {sj : Nat} {e0 hiE stE : Expr} {env : List Int} {lo hi s : Nat} (hs : 0 < s) (hjl : sj < env.length)
  (h64 : nn + s < 18446744073709551616) (hhn : hi ≤ nn) (res : Array Int) (hres : res.size = nn)
  (he0 : eval Γ ⟨env, M res⟩ e0 = .ok (lo : Int))
  (w : Expr → Expr) (g : Int → Int) (hw : ∀ (σ : State) e v, eval Γ σ e = .ok v → eval Γ σ (w e) = .ok (g v))
include hC hs hjl h64 hhn hres he0 hw

/-- `a[j] = w(a[j])` -/
theorem stride_map (hhi : ∀ dj m, eval Γ ⟨lset env sj dj, m⟩ hiE = .ok (hi : Int))
    (hst : ∀ dj m, eval Γ ⟨lset env sj dj, m⟩ stE = .ok (s : Int)) :
    ∀ f, hi ≤ f → Post (exec Γ (.for (.assign sj e0) (.bin .lt .u64 (.var sj) hiE)
        (.assign sj (.bin .add .u64 (.var sj) stE)) (.store rp (.var sj) (w (.load rp (.var sj)))))
        f ⟨env, M res⟩)
      fun σ' => ∃ dj, σ' = ⟨lset env sj dj, M
        ((Coeffs.stepRange lo hi s).foldl (fun r j => r.setIfInBounds j (g (r.getD j 0))) res)⟩ := by
  intro f hf
  rw [foldl_stepRange _ lo hi s hs res]
  generalize hF : (fun (r : Array Int) (j : Nat) => r.setIfInBounds j (g (r.getD j 0))) = F
  have hFs : ∀ r j, (F r j).size = r.size := by intro r j; subst hF; simp
  refine Post.weaken _ _ _ (exec_for_stride Γ _ sj hiE _ _ _ (fun k σ => σ =
      ⟨lset env sj ((lo + k * s : Nat) : Int), M (strideFold F lo s res k)⟩)
    lo hi s hs ?hi0 ?hj ?hh ?hstep f hf) (fun σ h => ⟨_, h⟩)
  case hi0 =>
    intro f'
    refine ⟨_, by rw [exec_assign, he0]; rfl, ?_⟩
    rw [strideFold_zero, Nat.zero_mul, Nat.add_zero]
  case hj => rintro k σ rfl; exact lget_lset_self _ _ _ hjl
  case hh => rintro k σ rfl; exact hhi _ _
  case hstep =>
    rintro k σ hk rfl f'
    rw [stride_succ, strideFold_succ]
    have hsz : (strideFold F lo s res k).size = nn := by rw [strideFold_size F hFs]; exact hres
    generalize strideFold F lo s res k = X at hsz
    generalize lo + k * s = j at hk
    have hEj : lget (lset env sj (j : Int)) sj = j := lget_lset_self _ _ _ hjl
    cir_simp [hEj]
    rw [hw _ _ _ (by rw [eval_load, eval_var, R.bind_ok]; exact hEj ▸ hC.load _ _ hsz (by omega))]
    cir_simp
    rw [hC.store _ _ _ hsz (by omega)]
    cir_simp [hEj, hst]
    rw [add_u64_nat j s (by omega), lset_lset]
    subst hF
    exact ⟨_, rfl, rfl⟩

/-- `tmp = a[j]; a[j] = w(a[nn-j]); a[nn-j] = w(tmp)`: the cells `j` and `nn - j` change places -/
theorem stride_swap {st sN : Nat} (hjt : sj ≠ st) (htl : st < env.length) (hlo : 1 ≤ lo)
    (hN : ∀ dj dt, lget (lset (lset env sj dj) st dt) sN = (nn : Int))
    (hhi : ∀ dj dt m, eval Γ ⟨lset (lset env sj dj) st dt, m⟩ hiE = .ok (hi : Int))
    (hst : ∀ dj dt m, eval Γ ⟨lset (lset env sj dj) st dt, m⟩ stE = .ok (s : Int)) :
    ∀ f, hi ≤ f → Post (exec Γ (.for (.assign sj e0) (.bin .lt .u64 (.var sj) hiE)
        (.assign sj (.bin .add .u64 (.var sj) stE))
        (.seq (.assign st (.load rp (.var sj)))
          (.seq (.store rp (.var sj) (w (.load rp (.bin .sub .u64 (.var sN) (.var sj)))))
            (.store rp (.bin .sub .u64 (.var sN) (.var sj)) (w (.var st)))))) f ⟨env, M res⟩)
      fun σ' => ∃ dj dt, σ' = ⟨lset (lset env sj dj) st dt, M
        ((Coeffs.stepRange lo hi s).foldl (fun r j =>
          (r.setIfInBounds j (g (r.getD (nn - j) 0))).setIfInBounds (nn - j) (g (r.getD j 0))) res)⟩ := by
  intro f hf
  rw [foldl_stepRange _ lo hi s hs res]
  generalize hF : (fun (r : Array Int) (j : Nat) =>
    (r.setIfInBounds j (g (r.getD (nn - j) 0))).setIfInBounds (nn - j) (g (r.getD j 0))) = F
  have hFs : ∀ r j, (F r j).size = r.size := by intro r j; subst hF; simp
  refine Post.weaken _ _ _ (exec_for_stride Γ _ sj hiE _ _ _ (fun k σ => ∃ dt, σ =
      ⟨lset (lset env sj ((lo + k * s : Nat) : Int)) st dt, M (strideFold F lo s res k)⟩)
    lo hi s hs ?hi0 ?hj ?hh ?hstep f hf) (fun σ ⟨dt, h⟩ => ⟨_, dt, h⟩)
  case hi0 =>
    intro f'
    refine ⟨_, by rw [exec_assign, he0]; rfl, lget (lset env sj (lo : Int)) st, ?_⟩
    rw [strideFold_zero, Nat.zero_mul, Nat.add_zero, lset_lget]
  case hj =>
    rintro k σ ⟨dt, rfl⟩
    show lget (lset (lset env sj _) st dt) sj = _
    rw [lget_lset_ne _ _ _ _ (Ne.symm hjt), lget_lset_self _ _ _ hjl]
  case hh => rintro k σ ⟨dt, rfl⟩; exact hhi _ _ _
  case hstep =>
    rintro k σ hk ⟨dt, rfl⟩ f'
    rw [stride_succ, strideFold_succ]
    have hsz : (strideFold F lo s res k).size = nn := by rw [strideFold_size F hFs]; exact hres
    generalize strideFold F lo s res k = X at hsz
    have hj1 : lo ≤ lo + k * s := Nat.le_add_right _ _
    generalize lo + k * s = j at hk hj1
    have hEj : ∀ dt, lget (lset (lset env sj (j : Int)) st dt) sj = j := fun dt => by
      rw [lget_lset_ne _ _ _ _ (Ne.symm hjt), lget_lset_self _ _ _ hjl]
    have hEt : ∀ dt, lget (lset (lset env sj (j : Int)) st dt) st = dt := fun dt =>
      lget_lset_self _ _ _ (by rw [length_lset]; exact htl)
    have hsub : ∀ dt m, eval Γ ⟨lset (lset env sj (j : Int)) st dt, m⟩ (.bin .sub .u64 (.var sN) (.var sj))
        = .ok ((nn - j : Nat) : Int) := fun dt m => by
      cir_simp [hEj, hN]
      rw [sub_u64_nat nn j (by omega) (by omega)]
    cir_simp [hEj]
    rw [hC.load _ _ hsz (by omega)]
    cir_simp [lset_lset, hEj]
    rw [hw _ _ _ (by rw [eval_load, hsub, R.bind_ok]; exact hC.load _ _ hsz (by omega))]
    cir_simp
    rw [hC.store _ _ _ hsz (by omega)]
    cir_simp [hsub]
    rw [hw _ _ _ (eval_var Γ _ st)]
    cir_simp [hEt]
    rw [hC.store _ _ _ (by rw [Array.size_setIfInBounds]; exact hsz) (by omega)]
    cir_simp [hEj, hst]
    rw [add_u64_nat j s (by omega), lset_comm _ _ _ _ _ (Ne.symm hjt), lset_lset]
    subst hF
    exact ⟨_, rfl, _, rfl⟩
end cells
end Spq.CIR
