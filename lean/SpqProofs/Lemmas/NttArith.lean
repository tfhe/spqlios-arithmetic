/-
  Scalar lemmas of the q120 NTT model (one lane, one operation): the wrapped 64-bit operations of
  `Spq.Q120Ntt` agree with exact arithmetic under explicit range conditions, and the two lazy
  multiplications (`split_precompmul_si256`, `modq_red`) are congruent to the exact product modulo q.
-/
import Spq.Q120Ntt
import SpqProofs.Lemmas.SplitRed
import Mathlib.Tactic.Ring
import Mathlib.Tactic.Positivity

namespace Spq.Q120Ntt

/-- `_mm256_add_epi64` does not carry out of 64 bits -/
def addSafe (a b : Nat) : Prop := a + b < W64
/-- `_mm256_sub_epi64` does not borrow -/
def subSafe (a b : Nat) : Prop := b ≤ a
/-- `split_precompmul_si256`: both data operands of `_mm256_mul_epu32` fit in 32 bits (the twiddle operand
    is the packed word whose low / high half is selected by design) and the final sum does not carry -/
def splitMulSafe (inp po h mask : Nat) : Prop :=
  (inp &&& mask) < W32 ∧ (inp >>> h) < W32 ∧
    addSafe (mulEpu32 (inp &&& mask) po) (mulEpu32 (inp >>> h) (po >>> 32))
/-- `modq_red`: the high part and the constant fit in 32 bits, the final sum does not carry -/
def modqRedSafe (R : Reduc) (x : Nat) : Prop :=
  (x >>> R.h) < W32 ∧ R.cst < W32 ∧ addSafe (x &&& R.mask) (mulEpu32 (x >>> R.h) R.cst)
def redIfSafe (R : Reduc) (b : Bool) (x : Nat) : Prop := b = true → modqRedSafe R x

theorem add64_eq {a b : Nat} (h : addSafe a b) : add64 a b = a + b := Nat.mod_eq_of_lt h

theorem sub64_eq {a b : Nat} (h : subSafe a b) (ha : a < W64) : sub64 a b = a - b := by
  unfold sub64 subSafe at *
  have : a + W64 - b = (a - b) + W64 := by omega
  rw [this, Nat.add_mod_right]
  exact Nat.mod_eq_of_lt (by omega)

theorem add64_lt (a b : Nat) : add64 a b < W64 := Nat.mod_lt _ (by decide)
theorem sub64_lt (a b : Nat) : sub64 a b < W64 := Nat.mod_lt _ (by decide)
theorem splitMul_lt (a b c d : Nat) : splitMul a b c d < W64 := add64_lt _ _
theorem modqRed_lt (R : Reduc) (x : Nat) : modqRed R x < W64 := add64_lt _ _

theorem mulEpu32_eq {a b : Nat} (ha : a < W32) (hb : b < W32) : mulEpu32 a b = a * b := by
  unfold mulEpu32; rw [Nat.mod_eq_of_lt ha, Nat.mod_eq_of_lt hb]

theorem and_mask (x mask h : Nat) (hm : mask + 1 = 2 ^ h) : x &&& mask = x % 2 ^ h := by
  have : mask = 2 ^ h - 1 := by omega
  rw [this, Nat.and_two_pow_sub_one_eq_mod]

theorem packTw_eq (q h u : Nat) (hq : q ≤ W32) (hu : u < q) (hh : h ≤ 32) :
    packTw q h u = ((u * 2 ^ h) % q) * W32 + u := by
  unfold packTw
  simp only [W32, W64] at *
  have hq0 : 0 < q := by omega
  have h32 : (2:Nat) ^ h ≤ 4294967296 := by
    calc (2:Nat) ^ h ≤ 2 ^ 32 := Nat.pow_le_pow_right (by norm_num) hh
      _ = 4294967296 := by norm_num
  have hu32 : u < 4294967296 := by omega
  have h1 : u * 2 ^ h < 18446744073709551616 := by
    have : u * 2 ^ h ≤ 4294967295 * 4294967296 := Nat.mul_le_mul (by omega) h32
    omega
  have ht1 : (u * 2 ^ h) % q < q := Nat.mod_lt _ hq0
  simp only [Nat.shiftLeft_eq]
  rw [Nat.mod_eq_of_lt h1]
  generalize (u * 2 ^ h) % q = t1 at ht1 ⊢
  have e32 : (2:Nat) ^ 32 = 4294967296 := by norm_num
  rw [e32, Nat.mod_eq_of_lt (by omega), Nat.mod_eq_of_lt (by omega)]

theorem hiMul_eq {x h B c : Nat} (hx : x < B) (hBh : B ≤ 2 ^ (h + 32)) (hc : c < W32) :
    x >>> h < W32 ∧ mulEpu32 (x >>> h) c = (x / 2 ^ h) * c := by
  have hpos : 0 < 2 ^ h := by positivity
  have hhi : x / 2 ^ h < W32 := by
    rw [Nat.div_lt_iff_lt_mul hpos]
    calc x < B := hx
      _ ≤ 2 ^ (h + 32) := hBh
      _ = W32 * 2 ^ h := by rw [pow_add]; ring
  rw [Nat.shiftRight_eq_div_pow]
  exact ⟨hhi, mulEpu32_eq hhi hc⟩

/-- **`split_precompmul_si256` is sound.**
    For a modulus `q ≤ 2^32`, a residue `u < q`, a split point `h ≤ 32` with `mask = 2^h - 1`, and an input
    `inp < B ≤ 2^(h+32)` such that the worst-case sum fits in 64 bits: no operand of `mul_epu32` is truncated,
    the sum does not wrap, the result is the exact two-term product, it is `≡ inp * u (mod q)` and bounded. -/
theorem splitMul_sound (q u h mask inp B : Nat)
    (hq : q ≤ W32) (hu : u < q) (hh : h ≤ 32) (hm : mask + 1 = 2 ^ h)
    (hB : inp < B) (hBh : B ≤ 2 ^ (h + 32))
    (hfit : (2 ^ h - 1 + (B - 1) / 2 ^ h) * (q - 1) < W64) :
    let t1 := (u * 2 ^ h) % q
    let r := splitMul inp (packTw q h u) h mask
    splitMulSafe inp (packTw q h u) h mask
    ∧ r = (inp % 2 ^ h) * u + (inp / 2 ^ h) * t1
    ∧ r % q = (inp * u) % q
    ∧ r ≤ (2 ^ h - 1 + (B - 1) / 2 ^ h) * (q - 1) := by
  intro t1 r
  have ht1 : t1 < q := Nat.mod_lt _ (by omega)
  have hu32 : u < W32 := by omega
  have h32 : (2:Nat) ^ h ≤ 2 ^ 32 := Nat.pow_le_pow_right (by norm_num) hh
  have hlo32 : inp % 2 ^ h < W32 := lt_of_lt_of_le (Nat.mod_lt _ (by positivity)) h32
  have e1 : packTw q h u % W32 = u := by
    rw [packTw_eq q h u hq hu hh]; exact Nat.mul_add_mod_of_lt hu32
  have e2 : packTw q h u >>> 32 = t1 := by
    rw [packTw_eq q h u hq hu hh, Nat.shiftRight_eq_div_pow]
    show ((u * 2 ^ h) % q * W32 + u) / W32 = t1
    rw [Nat.mul_comm, Nat.mul_add_div (by decide), Nat.div_eq_of_lt hu32]; rfl
  obtain ⟨hhi, m2⟩ := hiMul_eq (c := t1) hB hBh (by omega)
  have elo := and_mask inp mask h hm
  have m1 : mulEpu32 (inp &&& mask) (packTw q h u) = (inp % 2 ^ h) * u := by
    unfold mulEpu32; rw [e1, elo, Nat.mod_eq_of_lt hlo32]
  -- the value is `splitRed` with the halves of the packed word as constants: `u` and `t1 ≡ u·2^h`
  have hle : Q120.splitRed h u t1 inp ≤ (2 ^ h - 1 + (B - 1) / 2 ^ h) * (q - 1) := by
    refine le_trans (Q120.splitRed_le h u t1 inp (B - 1) (by omega)) ?_
    rw [Nat.add_mul]
    exact Nat.add_le_add (Nat.mul_le_mul_left _ (by omega)) (Nat.mul_le_mul_left _ (by omega))
  have hmod := Q120.splitRed_modEq q h u t1 u inp rfl (Nat.mod_mod _ _)
  have hsafe : addSafe (mulEpu32 (inp &&& mask) (packTw q h u)) (mulEpu32 (inp >>> h) (packTw q h u >>> 32)) := by
    unfold addSafe; rw [m1, e2, m2]; exact lt_of_le_of_lt hle hfit
  have key : r = Q120.splitRed h u t1 inp := by
    show splitMul inp (packTw q h u) h mask = _
    unfold splitMul; rw [add64_eq hsafe, m1, e2, m2]; rfl
  exact ⟨⟨by rw [elo]; exact hlo32, hhi, hsafe⟩, key, by rw [key, Nat.mul_comm inp u]; exact hmod,
    by rw [key]; exact hle⟩

theorem modqRed_sound (q : Nat) (R : Reduc) (x B : Nat)
    (hm : R.mask + 1 = 2 ^ R.h) (hc : R.cst < W32) (hcq : R.cst % q = 2 ^ R.h % q)
    (hB : x < B) (hBh : B ≤ 2 ^ (R.h + 32))
    (hfit : 2 ^ R.h - 1 + (B - 1) / 2 ^ R.h * R.cst < W64) :
    modqRedSafe R x
    ∧ modqRed R x = x % 2 ^ R.h + (x / 2 ^ R.h) * R.cst
    ∧ modqRed R x % q = x % q
    ∧ modqRed R x ≤ 2 ^ R.h - 1 + (B - 1) / 2 ^ R.h * R.cst := by
  obtain ⟨hhi, m2⟩ := hiMul_eq hB hBh hc
  -- the value is `splitRed` with constants `1` and `cst ≡ 2^h`
  have hle := Q120.splitRed_le R.h 1 R.cst x (B - 1) (by omega)
  have hmod := Q120.splitRed_modEq q R.h 1 R.cst 1 x rfl (by rw [hcq, Nat.one_mul])
  simp only [Q120.splitRed, Nat.mul_one, Nat.one_mul] at hle hmod
  have hsafe : addSafe (x &&& R.mask) (mulEpu32 (x >>> R.h) R.cst) := by
    unfold addSafe; rw [m2, and_mask _ _ _ hm]; omega
  have key : modqRed R x = x % 2 ^ R.h + (x / 2 ^ R.h) * R.cst := by
    unfold modqRed; rw [add64_eq hsafe, m2, and_mask _ _ _ hm]
  exact ⟨⟨hhi, hc, hsafe⟩, key, by rw [key]; exact hmod, by rw [key]; exact hle⟩

end Spq.Q120Ntt
