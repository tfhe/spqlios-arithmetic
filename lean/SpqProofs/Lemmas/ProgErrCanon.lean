/-
  C16, binary64 side: canonical integer arrays of abstract values (`polyArr N (f i)` = limb `i` of a coefficient function;
  `Prog.flatOf N sz f` = `sz` limbs, stride `N`, row-major: what `vmp_prepare_contiguous` receives), and the congruences
  that let a program-level budget be stated on the abstract state: the module functions (ANY carrier, ANY parts) depend
  on their integer array argument only through the limbs they read.
-/
import SpqProofs.Lemmas.ProgRaw
namespace Spq.ProgErr
open Spq Spq.Module Spq.Prog Spq.Closed

theorem limbOf_flatOf (N sz : ℕ) (f : ℕ → ℕ → ℤ) (i : ℕ) (hi : i < sz) :
    limbOf (flatOf N sz f) i N N = polyArr N (f i) := limbOf_agree (agree_flatOf N sz f) i hi

theorem matEntry_agree {N nrows ncols : ℕ} {x : Array Int} {f : ℕ → ℕ → ℤ} (hag : Agree N x (nrows * ncols) N f)
    (i j : ℕ) (hi : i < nrows) (hj : j < ncols) : matEntry x ncols N i j = polyArr N (f (i * ncols + j)) := by
  have hidx : i * ncols + j < nrows * ncols := by
    have := mul_step i nrows ncols hi
    omega
  exact limbOf_agree hag (i * ncols + j) hidx

theorem matEntry_flatOf (N nrows ncols : ℕ) (f : ℕ → ℕ → ℤ) (i j : ℕ) (hi : i < nrows) (hj : j < ncols) :
    matEntry (flatOf N (nrows * ncols) f) ncols N i j = polyArr N (f (i * ncols + j)) :=
  matEntry_agree (agree_flatOf N (nrows * ncols) f) i j hi hj

variable {α : Type}

theorem svpApply_congr (c : Parts α) (rsz : ℕ) (ppol : Array α) (x x' : Array Int) (asz asl asl' : ℕ)
    (h : ∀ i, i < rsz → i < asz → limbOf x i asl c.nn = limbOf x' i asl' c.nn) :
    svpApply c rsz ppol x asz asl = svpApply c rsz ppol x' asz asl' := by
  unfold svpApply
  apply foldl_range_congr
  intro i hi acc
  by_cases ha : i < asz
  · rw [if_pos ha, if_pos ha, h i hi ha]
  · rw [if_neg ha, if_neg ha]

theorem vmpPrepare_congr (c : Parts α) (mat mat' : Array Int) (nrows ncols : ℕ)
    (h : ∀ i j, i < nrows → j < ncols → matEntry mat ncols c.nn i j = matEntry mat' ncols c.nn i j) :
    vmpPrepare c mat nrows ncols = vmpPrepare c mat' nrows ncols := by
  unfold vmpPrepare
  apply foldl_range_congr
  intro row hr pm
  apply foldl_range_congr
  intro col hc pm2
  have e := h row col hr hc
  unfold matEntry at e
  simp only [e]

theorem vmpApplyDft_congr (c : Parts α) (rsz : ℕ) (x x' : Array Int) (asz asl asl' : ℕ) (pm : Array α)
    (nrows ncols : ℕ) (h : ∀ i, i < min nrows asz → limbOf x i asl c.nn = limbOf x' i asl' c.nn) :
    vmpApplyDft c rsz x asz asl pm nrows ncols = vmpApplyDft c rsz x' asz asl' pm nrows ncols := by
  unfold vmpApplyDft
  simp only
  rw [vecDft_congr c (min nrows asz) x x' asz asz asl asl' (fun i hi => ⟨Iff.rfl, fun _ => h i hi⟩)]

theorem vecDft_canon (c : Parts α) (rsz : ℕ) {x : Array Int} {asz asl : ℕ} {f : ℕ → ℕ → ℤ}
    (hag : Agree c.nn x asz asl f) : vecDft c rsz x asz asl = vecDft c rsz (flatOf c.nn asz f) asz c.nn :=
  vecDft_congr c rsz x _ asz asz asl c.nn
    (fun i _ => ⟨Iff.rfl, fun ha => by rw [limbOf_agree hag i ha, limbOf_flatOf _ _ _ i ha]⟩)

theorem svpApply_canon (c : Parts α) (rsz : ℕ) (ppol : Array α) {x : Array Int} {asz asl : ℕ} {f : ℕ → ℕ → ℤ}
    (hag : Agree c.nn x asz asl f) :
    svpApply c rsz ppol x asz asl = svpApply c rsz ppol (flatOf c.nn asz f) asz c.nn :=
  svpApply_congr c rsz ppol x _ asz asl c.nn (fun i _ ha => by rw [limbOf_agree hag i ha, limbOf_flatOf _ _ _ i ha])

theorem vmpPrepare_canon (c : Parts α) {x : Array Int} (nrows ncols : ℕ) {f : ℕ → ℕ → ℤ}
    (hag : Agree c.nn x (nrows * ncols) c.nn f) :
    vmpPrepare c x nrows ncols = vmpPrepare c (flatOf c.nn (nrows * ncols) f) nrows ncols :=
  vmpPrepare_congr c x _ nrows ncols
    (fun i j hi hj => by rw [matEntry_agree hag i j hi hj, matEntry_flatOf _ _ _ _ i j hi hj])

theorem vmpApplyDft_canon (c : Parts α) (rsz : ℕ) {x : Array Int} {asz asl : ℕ} {f : ℕ → ℕ → ℤ} (pm : Array α)
    (nrows ncols : ℕ) (hag : Agree c.nn x asz asl f) :
    vmpApplyDft c rsz x asz asl pm nrows ncols = vmpApplyDft c rsz (flatOf c.nn asz f) asz c.nn pm nrows ncols :=
  vmpApplyDft_congr c rsz x _ asz asl c.nn pm nrows ncols
    (fun i hi => by
      have ha : i < asz := by omega
      rw [limbOf_agree hag i ha, limbOf_flatOf _ _ _ i ha])

end Spq.ProgErr
