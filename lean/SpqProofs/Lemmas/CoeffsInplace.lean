/-
  In-place rotation / (X^p-1) product = out-of-place, for every `nn > 0` and every `p : Int`.
-/
import SpqProofs.Lemmas.CoeffsRotate
import SpqProofs.Lemmas.CoeffsWalk
import SpqProofs.Lemmas.CoeffsOrbit
namespace Spq.Rq
open Spq
variable {α : Type}

def rotG (o : Ops α) (nn : Nat) (p : Int) (sub : Bool) (j : Nat) (t t2 : α) : α :=
  let v := if posMask ((j : Int) + p) (2 * nn) < nn then t else o.neg t
  if sub then o.sub v t2 else v

theorem rotSigma_eq (nn : Nat) (hn : 0 < nn) (p : Int) (j : Nat) :
    posMask ((j : Int) + p) (2 * nn) % nn = addMod nn (posMask p nn) j := by
  have e : ((addMod nn (posMask p nn) j : Nat) : Int) = (posMask ((j : Int) + p) nn : Nat) := by
    unfold addMod
    rw [Int.natCast_mod, Int.natCast_add, posMask_cast p nn hn, Int.add_emod_emod, posMask_cast _ nn hn]
  rw [posMask_mod_half _ nn hn]
  exact_mod_cast e.symm

theorem walkCycle_eq (o : Ops α) (nn : Nat) (hn : 0 < nn) (p : Int) (sub : Bool) (jstart : Nat) :
    ∀ (fuel j : Nat) (t : α) (res : Array α) (nb : Nat),
      Coeffs.walkCycle o nn p sub jstart fuel j t res nb =
        walkS (addMod nn (posMask p nn)) (stepG (addMod nn (posMask p nn)) (rotG o nn p sub) o.zero) 1
          jstart fuel j t res nb := by
  intro fuel
  induction fuel with
  | zero => intro j t res nb; rfl
  | succ f ih =>
    intro j t res nb
    simp only [Coeffs.walkCycle, walkS, stepG, rotSigma_eq nn hn p j, ih]
    rfl

theorem walkAll_eq_leaderLoop (o : Ops α) (nn : Nat) (p : Int) (sub : Bool) :
    ∀ (fuel jstart nb : Nat) (res : Array α),
      Coeffs.walkAll o nn p sub fuel jstart nb res =
        leaderLoop (fun j f nb => Coeffs.walkCycle o nn p sub j nn j (f.getD j o.zero) f nb) (· + 1) nn
          fuel jstart nb res := by
  intro fuel
  induction fuel with
  | zero => intro j nb res; rfl
  | succ f ih => intro j nb res; simp only [Coeffs.walkAll, leaderLoop, ih]

theorem succ_iterate (s j : Nat) : (· + 1)^[s] j = j + s := by
  induction s with
  | zero => rfl
  | succ s ih => rw [Function.iterate_succ_apply', ih]; rfl

/-- all cells moved: the leaders `0 … gcd-1` cover the residue classes modulo `gcd (p mod nn) nn` -/
theorem walkAll_moved (o : Ops α) (nn : Nat) (hn : 0 < nn) (p : Int) (sub : Bool) (x : Array α)
    (hx : x.size = nn) :
    Moved (addMod nn (posMask p nn)) (rotG o nn p sub) o.zero nn (fun _ => True) x
      (Coeffs.walkAll o nn p sub nn 0 0 x) := by
  set pn := posMask p nn
  have hd := gcd_pos' nn pn hn
  have hdle : Nat.gcd pn nn ≤ nn := Nat.le_of_dvd hn (Nat.gcd_dvd_right _ _)
  have h := leaderLoop_spec (σ := addMod nn pn) (G := rotG o nn p sub) (z := o.zero) (N := nn)
    (fun j f nb => Coeffs.walkCycle o nn p sub j nn j (f.getD j o.zero) f nb) (· + 1) 0
    (Nat.gcd pn nn) (nn / Nat.gcd pn nn) (fun s y => y % Nat.gcd pn nn = s)
    (fun y _ => Nat.mod_lt _ hn) (orbLen_pos nn pn hn)
    (fun s y _ c => by rw [addMod_mod nn pn]; exact c) (fun s s' y hs c c' => by omega)
    (fun s hs f nb hf => by
      rw [succ_iterate, Nat.zero_add, walkCycle_eq o nn hn]
      have hsn : s < nn := by omega
      have := walkG_moved (addMod nn pn) (rotG o nn p sub) o.zero s (nn / Nat.gcd pn nn) f
        (fun i => by rw [hf]; exact addMod_iter_lt nn pn s i hsn) (orbLen_pos nn pn hn)
        (addMod_ret nn pn s hsn) (fun i j hi hj e => addMod_dist nn pn hn s hsn i j hi hj e)
        nn nb (Nat.div_le_self _ _) (fun y => y % Nat.gcd pn nn = s)
        (fun y hy => ⟨fun c => addMod_surj nn pn hn s y (hf ▸ hy) hs c,
          fun ⟨i, _, e⟩ => by rw [e, addMod_iter_mod nn pn s i hsn, Nat.mod_eq_of_lt hs]⟩)
      rwa [hf] at this)
    x (Nat.gcd pn nn) 0 nn x (by omega) hdle
    ((Moved.refl x hx).congr fun y _ => ⟨fun h => h.elim, fun ⟨_, h, _⟩ => by omega⟩)
  rw [Nat.mul_comm, orbLen_mul nn pn, Nat.zero_mul] at h
  rw [walkAll_eq_leaderLoop]
  exact h.congr fun y _ => ⟨fun _ => trivial, fun _ => ⟨_, Nat.mod_lt _ hd, rfl⟩⟩

/-- rotating back: `rotSrc_comp` at `q = -p`, with `rotSrc_shift` for the wrapped half -/
theorem rot_preimage_mask (nn : Nat) (hn : 0 < nn) (p : Int) (k : Nat) (hk : k < nn) :
    posMask (((rotSrc nn p k % nn : Nat) : Int) + p) (2 * nn) =
      if rotSrc nn p k < nn then k else k + nn := by
  have he := rotSrc_lt nn hn p k
  have hc := rotSrc_comp nn hn p (-p) k
  rw [add_neg_cancel, rotSrc_zero nn k (by omega)] at hc
  rw [← sub_neg_eq_add]
  show rotSrc nn (-p) (rotSrc nn p k % nn) = _
  by_cases c : rotSrc nn p k < nn
  · rw [if_pos c, Nat.mod_eq_of_lt c, hc]
  · rw [if_neg c, mod_eq_sub_of_le (by omega) (by omega)]
    have hs := rotSrc_shift nn hn (-p) (rotSrc nn p k) (by omega)
    have hX := rotSrc_lt nn hn (-p) (rotSrc nn p k - nn)
    rw [hc, mod_two_mul_cases _ _ (by omega)] at hs
    split at hs <;> omega

/-- the preimage of position `k` under the rotation walk, and the value it carries -/
theorem rot_preimage (o : Ops α) (nn : Nat) (hn : 0 < nn) (p : Int) (x : Array α) (k : Nat) (hk : k < nn) :
    addMod nn (posMask p nn) (rotSrc nn p k % nn) = k ∧
    (if posMask (((rotSrc nn p k % nn : Nat) : Int) + p) (2 * nn) < nn then x.getD (rotSrc nn p k % nn) o.zero
      else o.neg (x.getD (rotSrc nn p k % nn) o.zero)) = sget o nn x (rotSrc nn p k) := by
  have key := rot_preimage_mask nn hn p k hk
  have he := rotSrc_lt nn hn p k
  rw [← rotSigma_eq nn hn, key]
  unfold sget
  by_cases c : rotSrc nn p k < nn
  · simp only [c, if_true, hk, Nat.mod_eq_of_lt, and_self]
  · have e1 : rotSrc nn p k % nn = rotSrc nn p k - nn := mod_eq_sub_of_le (by omega) (by omega)
    have e2 : (k + nn) % nn = k := by rw [Nat.add_mod_right]; exact Nat.mod_eq_of_lt hk
    have e3 : ¬ k + nn < nn := by omega
    simp only [c, if_false, e1, e2, e3, true_and]

theorem walkAll_result (o : Ops α) (nn : Nat) (hn : 0 < nn) (p : Int) (sub : Bool) (x : Array α)
    (hx : x.size = nn) :
    (Coeffs.walkAll o nn p sub nn 0 0 x).size = nn ∧
    ∀ k, k < nn → (Coeffs.walkAll o nn p sub nn 0 0 x).getD k o.zero =
      (if sub then o.sub (sget o nn x (rotSrc nn p k)) (x.getD k o.zero) else sget o nn x (rotSrc nn p k)) := by
  have h := walkAll_moved o nn hn p sub x hx
  refine ⟨h.size, fun k hk => ?_⟩
  obtain ⟨e1, e2⟩ := rot_preimage o nn hn p x k hk
  have := h.moved (Nat.mod_lt (rotSrc nn p k) hn) trivial
  rw [e1] at this
  rw [this]
  unfold rotG
  simp only [e2]

theorem walkAll_outofplace (o : Ops α) (nn : Nat) (p : Int) (sub : Bool) (x : Array α) (hx : x.size = nn) :
    Coeffs.walkAll o nn p sub nn 0 0 x =
      if sub then Coeffs.mulXpMinusOne o nn p x else Coeffs.rotate o nn p x := by
  rcases Nat.eq_zero_or_pos nn with rfl | hn
  · obtain rfl : x = #[] := Array.eq_empty_of_size_eq_zero hx
    cases sub <;> rfl
  · obtain ⟨h1, h2⟩ := walkAll_result o nn hn p sub x hx
    have hs : (if sub then Coeffs.mulXpMinusOne o nn p x else Coeffs.rotate o nn p x).size = nn := by
      cases sub
      · exact Coeffs.size_rotate o nn p x
      · exact Coeffs.size_mulXpMinusOne o nn p x
    refine ext_getD o.zero (h1.trans hs.symm) fun k hk => ?_
    rw [h1] at hk
    rw [h2 k hk]
    cases sub
    · exact (rotate_getD o nn p x k hk o.zero).symm
    · exact (mulXp_getD o nn p x k hk o.zero).symm

end Spq.Rq
