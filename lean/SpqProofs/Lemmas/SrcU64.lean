/-
  `uint64_t` expressions as exact natural numbers modulo `2 ^ 64`.  `EvU Γ σ e n`: `e` evaluates to `n mod 2 ^ 64`.
  Sums, differences and products compose without any bound (reduction mod `2 ^ 64` is a ring homomorphism), so an
  index or byte count is followed through the expression on its exact value, a slot that holds an intermediate value
  holds `n mod 2 ^ 64` for the exact `n` whether or not that wrapped, and the only bound ever asked for is that of the
  value finally used as an offset (`EvU.exact`): it is a summand of an address inside the arena.
-/
import SpqProofs.Lemmas.SrcEv
namespace Spq.CIR

def EvU (Γ : List Ptr) (σ : State) (e : Expr) (n : Nat) : Prop :=
  eval Γ σ e = .ok ((n % 18446744073709551616 : Nat) : Int)

section
variable {Γ : List Ptr} {σ : State} {e e1 e2 : Expr} {a b n : Nat}

theorem EvU.exact (h : EvU Γ σ e n) (hn : n < 18446744073709551616) : eval Γ σ e = .ok (n : Int) := by
  rw [h, Nat.mod_eq_of_lt hn]

theorem EvU.of_eval (h : eval Γ σ e = .ok (n : Int)) (hn : n < 18446744073709551616) : EvU Γ σ e n := by
  rw [EvU, h, Nat.mod_eq_of_lt hn]

theorem EvU.congr {n' : Nat} (h : EvU Γ σ e n) (hn : n = n') : EvU Γ σ e n' := hn ▸ h

/-- a slot that holds the wrapped value of `n` -/
theorem EvU.var {x : Nat} (h : lget σ.env x = ((n % 18446744073709551616 : Nat) : Int)) : EvU Γ σ (.var x) n := by
  rw [EvU, eval_var, h]

/-- a slot that holds a value below `2 ^ 64` (an argument, a counter) -/
theorem EvU.arg {x : Nat} (h : lget σ.env x = (n : Int)) (hn : n < 18446744073709551616) : EvU Γ σ (.var x) n :=
  EvU.of_eval (eval_var_eq h) hn

theorem EvU.lit (n : Nat) : EvU Γ σ (.lit ((n % 18446744073709551616 : Nat) : Int)) n := rfl

theorem EvU.cast (h : EvU Γ σ e n) : EvU Γ σ (.cast .u64 e) n := by
  rw [EvU, eval_cast, h, R.bind_ok, wrap_u64]
  congr 1
  omega

theorem EvU.add (h1 : EvU Γ σ e1 a) (h2 : EvU Γ σ e2 b) : EvU Γ σ (.bin .add .u64 e1 e2) (a + b) := by
  rw [EvU, eval_bin_ok h1 h2 (evalBin_add_u64 _ _)]
  congr 1
  omega

theorem EvU.sub (h1 : EvU Γ σ e1 a) (h2 : EvU Γ σ e2 b) (h : b ≤ a) : EvU Γ σ (.bin .sub .u64 e1 e2) (a - b) := by
  rw [EvU, eval_bin_ok h1 h2 (evalBin_sub_u64 _ _)]
  congr 1
  omega

theorem EvU.mul (h1 : EvU Γ σ e1 a) (h2 : EvU Γ σ e2 b) : EvU Γ σ (.bin .mul .u64 e1 e2) (a * b) := by
  rw [EvU, eval_bin_ok h1 h2 (evalBin_mul_u64 _ _), ← Int.natCast_mul]
  congr 1
  have := Nat.mul_mod a b 18446744073709551616
  omega

/-- `e >> s` and `e % d` are no ring operations: they need the value of `e` itself -/
theorem EvU.shr_lit (h : eval Γ σ e = .ok (a : Int)) (ha : a < 18446744073709551616) (s d : Nat) (hs : s < 64)
    (hd : 2 ^ s = d) : EvU Γ σ (.bin .shr .u64 e (.lit (s : Int))) (a / d) := by
  subst hd
  refine EvU.of_eval ?_ (Nat.lt_of_le_of_lt (Nat.div_le_self _ _) ha)
  rw [eval_bin, h, eval_lit, R.bind_ok, R.bind_ok, evalBin_shr_u64, if_pos (by omega), Int.toNat_natCast]
  congr 1

theorem EvU.mod {d : Nat} (h1 : eval Γ σ e1 = .ok (a : Int)) (ha : a < 18446744073709551616)
    (h2 : eval Γ σ e2 = .ok (d : Int)) (hd : 0 < d) : EvU Γ σ (.bin .mod .u64 e1 e2) (a % d) := by
  refine EvU.of_eval ?_ (Nat.lt_of_le_of_lt (Nat.mod_le _ _) ha)
  rw [eval_bin, h1, h2, R.bind_ok, R.bind_ok]
  show (if (d : Int) = 0 then R.err Err.ub else R.ok ((a : Int) % (d : Int))) = _
  rw [if_neg (by omega)]
  congr 1

/-! The bounds `EvU.exact` asks for, read off an address inside an arena of fewer than `2 ^ 61` cells (the `ok` of a
    model step has this form): a summand of the address does not wrap; nor does a byte count of cells of the arena; and
    when the base of the address is kept in a slot as `b + m mod 2 ^ 64` the address is still `b + m + k`. -/

theorem lt_of_addr {p k q S : Nat} (h : p + k + q ≤ S) (hS : S < 2305843009213693952) : k < 18446744073709551616 := by
  omega

theorem bytes_lt_of_addr {p n S : Nat} (h : p + n ≤ S) (hS : S < 2305843009213693952) :
    n * 8 < 18446744073709551616 := by
  omega

theorem addr_of_wrapped {b m k q S : Nat} (h : b + m + k + q ≤ S) (hS : S < 2305843009213693952) :
    k < 18446744073709551616 ∧ b + m % 18446744073709551616 + k = b + m + k := by
  omega

/-- a pointer argument `param i + o` whose offset is followed on its exact value -/
theorem evalPtrs_paramU {i : Nat} {o : Expr} {ps : List (PBase × Expr)} {k bf off : Nat} {qs : List Ptr}
    (ho : EvU Γ σ o k) (hk : k < 18446744073709551616) (hΓ : Γ.getD i none = some (bf, off))
    (hq : evalPtrs Γ σ ps = .ok qs) : evalPtrs Γ σ ((.param i, o) :: ps) = .ok (some (bf, off + k) :: qs) :=
  evalPtrs_param (ho.exact hk) hΓ hq

/-- a pointer argument `q + o` for a pointer local `q` whose own offset may be a wrapped value (`off` is
    `b + m mod 2 ^ 64`): that `o` does not wrap and that the address is `p` are read off one fact about the arena -/
theorem evalPtrs_pvarU {s : Nat} {o : Expr} {ps : List (PBase × Expr)} {k bf off p : Nat} {qs : List Ptr}
    (ho : EvU Γ σ o k) (h1 : lget σ.env s = (bf : Int)) (h2 : lget σ.env (s + 1) = (off : Int))
    (hp : k < 18446744073709551616 ∧ off + k = p) (hq : evalPtrs Γ σ ps = .ok qs) :
    evalPtrs Γ σ ((.pvar s, o) :: ps) = .ok (some (bf, p) :: qs) :=
  hp.2 ▸ evalPtrs_pvar (ho.exact hp.1) h1 h2 hq
end
end Spq.CIR
