/-
  The `m & (m-1)` test (uint32) of the constructors of the conversions (spqlios/reim/reim_conversions.c,
  spqlios/cplx/cplx_conversions.c): what passes it; and each constructor as the conjunction of its argument checks
  with its choice of kernel.
-/
import SpqProofs.Lemmas.ConvToTnx

namespace Spq.Conv
open Spq Spq.F64

/-- `m - 1` on uint32 for `0 < m < 2^32` -/
theorem u32_pred (m : Nat) (h0 : 0 < m) (h32 : m < 4294967296) :
    (m + 4294967296 - 1) % 4294967296 = m - 1 := by omega

theorem and_pred_of_odd (m : Nat) (hodd : m % 2 = 1) (h : m &&& (m - 1) = 0) : m < 2 := by
  have h1 : (m &&& (m - 1)) >>> 1 = 0 := by rw [h]; rfl
  rw [Nat.shiftRight_and_distrib] at h1
  have e1 : (m - 1) >>> 1 = m >>> 1 := by
    rw [Nat.shiftRight_eq_div_pow, Nat.shiftRight_eq_div_pow]; omega
  rw [e1, Nat.and_self, Nat.shiftRight_eq_div_pow] at h1
  omega

theorem even_of_notPow2U32 (m : Nat) (h32 : m < 4294967296) (h2 : 2 ≤ m) (h : notPow2U32 m = false) :
    m % 2 = 0 := by
  unfold notPow2U32 at h
  rw [u32_pred m (by omega) h32] at h
  have h' : m &&& (m - 1) = 0 := by simpa using h
  rcases Nat.mod_two_eq_zero_or_one m with h0 | h1
  · exact h0
  · have := and_pred_of_odd m h1 h'
    omega

theorem notPow2U32_two_pow (k : Nat) (hk : k < 32) : notPow2U32 (2 ^ k) = false := by
  have h32 : 2 ^ k < 4294967296 := Nat.pow_lt_pow_right (by norm_num) hk
  have h0 : 0 < 2 ^ k := Nat.pos_of_ne_zero (by simp)
  unfold notPow2U32
  rw [u32_pred _ h0 h32, Nat.and_two_pow_sub_one_eq_mod, Nat.mod_self]
  rfl

theorem initToZnx64_eq_some (m divisor log2bound : Nat) (avx2 : Bool) (v : ToZnx64Variant) :
    initToZnx64 m divisor log2bound avx2 = some v ↔
      notPow2U32 m = false ∧ isNotPow2Double divisor = 0 ∧ log2bound ≤ 64 ∧
      (if avx2 && m ≥ 8 then (if log2bound ≤ 50 then .bnd50 else .bnd63) else .ref) = v := by
  simp only [initToZnx64, Option.ite_none_left_eq_some, Option.some.injEq, Bool.not_eq_true, bne_iff_ne,
    ne_eq, not_not, gt_iff_lt, not_lt]

theorem initFromZnx64_eq_some (m log2bound : Nat) (avx2 : Bool) (v : FromZnx64Variant) :
    initFromZnx64 m log2bound avx2 = some v ↔
      notPow2U32 m = false ∧ log2bound ≤ 50 ∧ (if m ≥ 8 && avx2 then .bnd50 else .ref) = v := by
  simp only [initFromZnx64, Option.ite_none_left_eq_some, Option.some.injEq, Bool.not_eq_true, gt_iff_lt, not_lt]

theorem initCplxToTnx32_eq_some (m divisor log2overhead : Nat) (avx2 b : Bool) :
    initCplxToTnx32 m divisor log2overhead avx2 = some b ↔
      isNotPow2Double divisor = 0 ∧ notPow2U32 m = false ∧ log2overhead ≤ 52 ∧
      (avx2 && decide (log2overhead ≤ 18) && decide (m ≥ 8)) = b := by
  simp only [initCplxToTnx32, Option.ite_none_left_eq_some, Option.some.injEq, Bool.not_eq_true, bne_iff_ne,
    ne_eq, not_not, gt_iff_lt, not_lt]

end Spq.Conv
