/-
  The ring endomorphism `X ↦ X^p` of `R[X]/(X^n+1)` (`p` odd): `autHom`, and that fixing the coefficients and
  sending `X` to `X^p` determines it.
-/
import SpqProofs.Lemmas.BridgeRot
import SpqProofs.Lemmas.CoeffsAutom
import Mathlib.Algebra.Ring.Parity

namespace Spq.Bridge
open Polynomial Finset Spq.Rq

variable {R : Type} [CommRing R]

theorem rootU_pow_n (n : Nat) (hn : 0 < n) : (rootU n hn : (Rq R n)ˣ) ^ n = -1 := by
  apply Units.ext
  rw [Units.val_pow_eq_pow_val, rootU_val, root_pow_n]; rfl

/-- `(X^p)^n = -1` for odd `p`: `X^p` is again a root of `X^n + 1` -/
theorem rootU_zpow_pow_n (n : Nat) (hn : 0 < n) (p : Int) (hp : Odd p) :
    (((rootU n hn : (Rq R n)ˣ) ^ p : (Rq R n)ˣ) : Rq R n) ^ n = -1 := by
  rw [← Units.val_pow_eq_pow_val, ← zpow_natCast, ← zpow_mul, mul_comm, zpow_mul, zpow_natCast,
    rootU_pow_n, hp.neg_one_zpow]; rfl

/-- the ring endomorphism `X ↦ X^p` of `R[X]/(X^n+1)`, `p` odd (any sign) -/
noncomputable def autHom (n : Nat) (hn : 0 < n) (p : Int) (hp : Odd p) : Rq R n →+* Rq R n :=
  AdjoinRoot.lift (of n) (((rootU n hn : (Rq R n)ˣ) ^ p : (Rq R n)ˣ) : Rq R n) (by
    show eval₂ (of n) _ (X ^ n + 1 : R[X]) = 0
    rw [eval₂_add, eval₂_pow, eval₂_X, eval₂_one, rootU_zpow_pow_n n hn p hp, neg_add_cancel])

theorem autHom_mk (n : Nat) (hn : 0 < n) (p : Int) (hp : Odd p) (g : R[X]) :
    autHom n hn p hp (mk n g) = eval₂ (of n) (((rootU n hn : (Rq R n)ˣ) ^ p : (Rq R n)ˣ) : Rq R n) g :=
  AdjoinRoot.lift_mk _ g

theorem autHom_root (n : Nat) (hn : 0 < n) (p : Int) (hp : Odd p) :
    autHom n hn p hp (root n) = (((rootU n hn : (Rq R n)ˣ) ^ p : (Rq R n)ˣ) : Rq R n) := by
  have h : root n = mk n (X : R[X]) := AdjoinRoot.mk_X.symm
  rw [h, autHom_mk, eval₂_X]

theorem autHom_of (n : Nat) (hn : 0 < n) (p : Int) (hp : Odd p) (c : R) :
    autHom n hn p hp (of n c) = of n c := by
  have h : of n c = mk n (C c : R[X]) := (AdjoinRoot.mk_C c).symm
  rw [h, autHom_mk, eval₂_C, h]

theorem autHom_unique (n : Nat) (hn : 0 < n) (p : Int) (hp : Odd p) (φ : Rq R n →+* Rq R n)
    (hof : ∀ c, φ (of n c) = of n c)
    (hroot : φ (root n) = (((rootU n hn : (Rq R n)ˣ) ^ p : (Rq R n)ˣ) : Rq R n)) :
    φ = autHom n hn p hp := by
  apply AdjoinRoot.ringHom_ext
  · ext c
    show φ (of n c) = autHom n hn p hp (of n c)
    rw [hof, autHom_of]
  · show φ (root n) = autHom n hn p hp (root n)
    rw [hroot, autHom_root]

end Spq.Bridge
