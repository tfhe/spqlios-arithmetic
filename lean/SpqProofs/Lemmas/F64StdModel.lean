/-
  The standard model restricted to a set of exact results (`StdModelOn`), the guarded arithmetic that turns it into
  the unconditional `StdModel` of `Reim4Err.lean` (`RArith.guard`), and the instance for binary64: the arithmetic `arQ` on ℚ
  (`op = rnd ∘ exact op`) satisfies `StdModelOn arQ 2^-53 GoodQ`, `GoodQ q` = multiple of 2^-2148 in the normal range.

  An unconditional `StdModel arQ 2^-53` is impossible: `rnd (2^-1074 · 2^-1)` = 0 (underflow: relative error 1), and
  `rnd` of a value ≥ 2^1024·(1−2^-54) is the value decoded from the `inf` pattern.
-/
import SpqProofs.Lemmas.F64StdRnd
import SpqProofs.Lemmas.Reim4Err

namespace Spq
variable {K : Type} [Field K] [LinearOrder K] [IsStrictOrderedRing K]

/-- the standard model of floating-point arithmetic with unit roundoff `u`, for exact results in `P` -/
structure StdModelOn (ar : RArith K) (u : K) (P : K → Prop) : Prop where
  u_nonneg : 0 ≤ u
  zero : ar.zero = 0
  add : ∀ a b, P (a + b) → |ar.add a b - (a + b)| ≤ u * |a + b|
  sub : ∀ a b, P (a - b) → |ar.sub a b - (a - b)| ≤ u * |a - b|
  mul : ∀ a b, P (a * b) → |ar.mul a b - a * b| ≤ u * |a * b|
  fma : ∀ a b c, P (a * b + c) → |ar.fma a b c - (a * b + c)| ≤ u * |a * b + c|
  fms : ∀ a b c, P (a * b - c) → |ar.fms a b c - (a * b - c)| ≤ u * |a * b - c|

omit [IsStrictOrderedRing K] in
theorem StdModel.on {ar : RArith K} {u : K} (h : StdModel ar u) (P : K → Prop) : StdModelOn ar u P :=
  ⟨h.u_nonneg, h.zero, fun a b _ => h.add a b, fun a b _ => h.sub a b, fun a b _ => h.mul a b,
    fun a b c _ => h.fma a b c, fun a b c _ => h.fms a b c⟩

noncomputable def gd (p : Prop) (x y : K) : K := @ite K p (Classical.propDecidable p) x y

omit [Field K] [LinearOrder K] [IsStrictOrderedRing K] in
theorem gd_pos {p : Prop} (h : p) (x y : K) : gd p x y = x := by unfold gd; rw [if_pos h]

/-- `ar` where the exact result is in `P`, the exact operation elsewhere -/
noncomputable def RArith.guard (ar : RArith K) (P : K → Prop) : RArith K where
  zero := ar.zero
  add := fun a b => gd (P (a + b)) (ar.add a b) (a + b)
  sub := fun a b => gd (P (a - b)) (ar.sub a b) (a - b)
  mul := fun a b => gd (P (a * b)) (ar.mul a b) (a * b)
  fma := fun a b c => gd (P (a * b + c)) (ar.fma a b c) (a * b + c)
  fms := fun a b c => gd (P (a * b - c)) (ar.fms a b c) (a * b - c)

theorem guard_aux {u x y : K} {p : Prop} (hu : 0 ≤ u) (h : p → |x - y| ≤ u * |y|) :
    |gd p x y - y| ≤ u * |y| := by
  unfold gd
  split
  · rename_i hp; exact h hp
  · rw [sub_self, abs_zero]; exact mul_nonneg hu (abs_nonneg _)

theorem StdModelOn.guard {ar : RArith K} {u : K} {P : K → Prop} (h : StdModelOn ar u P) :
    StdModel (ar.guard P) u where
  u_nonneg := h.u_nonneg
  zero := h.zero
  add := fun a b => guard_aux h.u_nonneg (h.add a b)
  sub := fun a b => guard_aux h.u_nonneg (h.sub a b)
  mul := fun a b => guard_aux h.u_nonneg (h.mul a b)
  fma := fun a b c => guard_aux h.u_nonneg (h.fma a b c)
  fms := fun a b c => guard_aux h.u_nonneg (h.fms a b c)

namespace F64

/-- binary64 arithmetic on exact rational values: every operation is `rnd` of the exact result -/
def arQ : RArith ℚ where
  zero := 0
  add := fun a b => rnd (a + b)
  sub := fun a b => rnd (a - b)
  mul := fun a b => rnd (a * b)
  fma := fun a b c => rnd (a * b + c)
  fms := fun a b c => rnd (a * b - c)

/-- exact results on which `rnd` is a faithful binary64 rounding with relative error `2^-53` -/
def GoodQ (q : ℚ) : Prop := Dyadic q ∧ NormalRange q

theorem rnd_good {q : ℚ} (h : GoodQ q) : |rnd q - q| ≤ u64 * |q| :=
  (rnd_std q h.1 h.2.noOvf).1 h.2

theorem arQ_stdModelOn : StdModelOn arQ u64 GoodQ where
  u_nonneg := le_of_lt u64_pos
  zero := rfl
  add := fun _ _ h => rnd_good h
  sub := fun _ _ h => rnd_good h
  mul := fun _ _ h => rnd_good h
  fma := fun _ _ _ h => rnd_good h
  fms := fun _ _ _ h => rnd_good h

/-- underflow: half of the smallest subnormal rounds (tie, to even) to 0 -/
theorem rnd_underflow : rnd ((2 : ℚ) ^ (-1075 : ℤ)) = 0 := by
  have h := rnd_scaled 1 (-1075) (by norm_num) false
  rw [Int.cast_one, one_mul] at h
  rw [h, packSigned_ne_zero (by norm_num)]
  have : pack (decide ((1 : Int) < 0)) (1 : Int).natAbs (-1075) = 0 := by decide +kernel
  rw [this]
  exact val_sgn false

theorem arQ_not_stdModel (u : ℚ) (hu : u < 1) : ¬ StdModel arQ u := by
  intro sm
  have h := sm.mul ((2 : ℚ) ^ (-1074 : ℤ)) ((2 : ℚ) ^ (-1 : ℤ))
  have e : (2 : ℚ) ^ (-1074 : ℤ) * 2 ^ (-1 : ℤ) = 2 ^ (-1075 : ℤ) := by
    rw [← zpow_add₀ (by norm_num)]; norm_num
  have hm : arQ.mul ((2 : ℚ) ^ (-1074 : ℤ)) ((2 : ℚ) ^ (-1 : ℤ)) = 0 := by
    show rnd _ = 0
    rw [e]; exact rnd_underflow
  rw [hm, e, zero_sub, abs_neg] at h
  have hp : (0 : ℚ) < |(2 : ℚ) ^ (-1075 : ℤ)| := abs_pos.2 (ne_of_gt (zpow_pos (by norm_num) _))
  generalize |(2 : ℚ) ^ (-1075 : ℤ)| = X at *
  nlinarith

noncomputable def arG : RArith ℚ := arQ.guard GoodQ

theorem arG_stdModel : StdModel arG u64 := arQ_stdModelOn.guard

theorem val_arith_hom :
    val F64.arith.zero = arQ.zero ∧
    (∀ a b, val (F64.arith.add a b) = arQ.add (val a) (val b)) ∧
    (∀ a b, b < 18446744073709551616 → val (F64.arith.sub a b) = arQ.sub (val a) (val b)) ∧
    (∀ a b, val (F64.arith.mul a b) = arQ.mul (val a) (val b)) ∧
    (∀ a b c, val (F64.arith.fma a b c) = arQ.fma (val a) (val b) (val c)) ∧
    (∀ a b c, c < 18446744073709551616 → val (F64.arith.fms a b c) = arQ.fms (val a) (val b) (val c)) :=
  ⟨val_sgn false, val_add, val_sub, val_mul, val_fma, val_fms⟩

end F64
end Spq
