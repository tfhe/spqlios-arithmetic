/-
  Generic lemmas for the q120 product kernels: a left fold whose state component `π` is updated by a
  wrapping 64-bit addition of a per-term value is the exact sum as long as `length · bound < 2^64`.
-/
import Spq.Q120
import SpqProofs.Lemmas.ArrayBasic
import SpqProofs.Lemmas.SplitRed
import Mathlib.Tactic.Ring
namespace Spq.Q120
variable {α σ : Type}

/-- exact (unbounded) sum of a per-term value over the term list -/
def wsum (f : α → Nat) (l : List α) : Nat := (l.map f).sum

@[simp] theorem wsum_nil (f : α → Nat) : wsum f [] = 0 := rfl
@[simp] theorem wsum_cons (f : α → Nat) (t : α) (l : List α) : wsum f (t :: l) = f t + wsum f l := by
  simp [wsum]

theorem wsum_le (f : α → Nat) (B : Nat) (l : List α) (h : ∀ t ∈ l, f t ≤ B) : wsum f l ≤ l.length * B := by
  induction l with
  | nil => simp
  | cons t l ih =>
    have h1 := h t (by simp)
    have h2 := ih (fun u hu => h u (by simp [hu]))
    simp only [wsum_cons, List.length_cons]
    have : (l.length + 1) * B = l.length * B + B := by ring
    omega

theorem wsum_congr (f g : α → Nat) (l : List α) (h : ∀ t ∈ l, f t = g t) : wsum f l = wsum g l := by
  induction l with
  | nil => rfl
  | cons t l ih =>
    simp only [wsum_cons]
    rw [h t (by simp), ih (fun u hu => h u (by simp [hu]))]

theorem wsum_add (f g : α → Nat) (l : List α) : wsum (fun t => f t + g t) l = wsum f l + wsum g l := by
  induction l with
  | nil => rfl
  | cons t l ih => simp only [wsum_cons, ih]; omega

theorem wsum_mul (c : Nat) (f : α → Nat) (l : List α) : wsum (fun t => c * f t) l = c * wsum f l := by
  induction l with
  | nil => rfl
  | cons t l ih => simp only [wsum_cons, ih]; ring

theorem acc_proj (step : σ → α → σ) (π : σ → Nat) (f : α → Nat) (l : List α)
    (h : ∀ t ∈ l, ∀ s, π (step s t) = (π s + f t) % 18446744073709551616)
    (s : σ) (hs : π s < 18446744073709551616) :
    π (l.foldl step s) = (π s + wsum f l) % 18446744073709551616 := by
  induction l generalizing s with
  | nil => simp; omega
  | cons t l ih =>
    have ht := h t (by simp) s
    simp only [List.foldl_cons, wsum_cons]
    rw [ih (fun u hu => h u (by simp [hu])) (step s t) (by rw [ht]; omega), ht]
    omega

theorem acc_exact (step : σ → α → σ) (π : σ → Nat) (f : α → Nat) (B N : Nat) (l : List α)
    (h : ∀ t ∈ l, ∀ s, π (step s t) = (π s + f t) % 18446744073709551616)
    (s : σ) (hs : π s = 0) (hB : ∀ t ∈ l, f t ≤ B) (hl : l.length ≤ N)
    (hN : N * B < 18446744073709551616) :
    π (l.foldl step s) = wsum f l ∧ wsum f l ≤ N * B := by
  have b := wsum_le f B l hB
  have : l.length * B ≤ N * B := Nat.mul_le_mul_right _ hl
  rw [acc_proj step π f l h s (by omega), hs]
  constructor
  · simp; omega
  · omega

/-- the lazy accumulator pair of the product loops: each term adds a low part to `acc1` and a high part to
    `acc2`; after at most `N` terms both hold exact sums -/
theorem acc2_exact (step : Nat × Nat → α → Nat × Nat) (f1 f2 : α → Nat) (B1 B2 N : Nat) (l : List α)
    (h : ∀ t ∈ l, ∀ s, step s t = (add64 s.1 (f1 t), add64 s.2 (f2 t)))
    (hB : ∀ t ∈ l, f1 t ≤ B1 ∧ f2 t ≤ B2) (hl : l.length ≤ N)
    (h1 : N * B1 < 18446744073709551616) (h2 : N * B2 < 18446744073709551616) :
    l.foldl step (0, 0) = (wsum f1 l, wsum f2 l) ∧ wsum f1 l ≤ N * B1 ∧ wsum f2 l ≤ N * B2 := by
  have a1 := acc_exact step Prod.fst f1 B1 N l (fun t ht s => by rw [h t ht]; rfl) (0, 0) rfl
    (fun t ht => (hB t ht).1) hl h1
  have a2 := acc_exact step Prod.snd f2 B2 N l (fun t ht s => by rw [h t ht]; rfl) (0, 0) rfl
    (fun t ht => (hB t ht).2) hl h2
  exact ⟨Prod.ext a1.1 a2.1, a1.2, a2.2⟩

theorem add64_eq (a b : Nat) (h : a + b < 18446744073709551616) : add64 a b = a + b := by
  unfold add64; omega
theorem mul64_eq (a b : Nat) (h : a * b < 18446744073709551616) : mul64 a b = a * b := by
  unfold mul64; exact Nat.mod_eq_of_lt h
theorem mulEpu32_eq (a b : Nat) (ha : a < 4294967296) (hb : b < 4294967296) : mulEpu32 a b = a * b := by
  unfold mulEpu32; rw [Nat.mod_eq_of_lt ha, Nat.mod_eq_of_lt hb]

theorem mul_le_max32_sq (a b : Nat) (ha : a < 4294967296) (hb : b < 4294967296) :
    a * b ≤ 4294967295 * 4294967295 := Nat.mul_le_mul (by omega) (by omega)

theorem add_mul_mod_congr (q a b c d : Nat) (h : c % q = d % q) : (a + b * c) % q = (a + b * d) % q := by
  rw [Nat.add_mod, Nat.mul_mod, h, ← Nat.mul_mod, ← Nat.add_mod]

theorem div_pow_lt (x : Nat) (hx : x < 18446744073709551616) : x / 4294967296 < 4294967296 := by omega

theorem laneTerms_forall (P : Nat × Nat → Prop) (ell : Nat) (x y : Array Nat) (sx ox sy oy : Nat)
    (h : ∀ i k, P (x.getD i 0, y.getD k 0)) : ∀ t ∈ laneTerms ell x y sx ox sy oy, P t := by
  intro t ht
  simp only [laneTerms, List.mem_map] at ht
  obtain ⟨i, _, rfl⟩ := ht
  exact h _ _

theorem laneTerms_length (ell : Nat) (x y : Array Nat) (sx ox sy oy : Nat) :
    (laneTerms ell x y sx ox sy oy).length = ell := by simp [laneTerms]

/-- the exact dot product of a term list -/
def dot (l : List (Nat × Nat)) : Nat := wsum (fun t => t.1 * t.2) l

end Spq.Q120
