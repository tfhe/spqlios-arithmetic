/-
  C16, binary64 side, products of products, the concrete instance continued: the joint run of `exProg2` (exact states,
  budget maps, binary64 states), the per-call budgets `PreM`, and `exGuardedM`.
  Budgets: `δ(D0) = 2^-40 ≥ μ/2·36`, `δ(D2) = 2^-30 ≥ rowF μ_1 2^-40 0 12 5 15 7 1`; consumer: `0·(56 + δ) + δ < 1/2`.
-/
import SpqProofs.Lemmas.ProgErr2Example
namespace Spq.ProgErr2
open Finset Spq Spq.Module Spq.FftErr Spq.F64 Spq.Conv Spq.ProdErr Spq.VmpErr Spq.Prog Spq.Closed Spq.ProgErr

/-- a program OUTSIDE `SingleProductDepth`: `vmp_apply_dft_to_dft` reads the output of `svp_apply_dft` -/
def exProg2 : List OpD :=
  [.svpPrepare 0 exY, .vmpPrepare exM0 exY, .svp exD0 0 exX, .vmpDD exD2 exD0 exM0, .idft exW exD2]

def exB0 : Bud ℚ := fun _ _ => 0
/-- budgets claimed for `D0` and `D2` -/
def exDl0 : ℕ → ℚ := fun _ => 1 / 2 ^ 40
def exDl1 : ℕ → ℚ := fun _ => 1 / 2 ^ 30

def exA1 : AState := astepD 2 (.svpPrepare 0 exY) ProgErr.exA
def exA2 : AState := astepD 2 (.vmpPrepare exM0 exY) exA1
def exA3 : AState := astepD 2 (.svp exD0 0 exX) exA2
def exA4 : AState := astepD 2 (.vmpDD exD2 exD0 exM0) exA3
def exS1 : CState ℕ := cstepD (Cfg.parts exC) 2 (.svpPrepare 0 exY) exS
def exS2 : CState ℕ := cstepD (Cfg.parts exC) 2 (.vmpPrepare exM0 exY) exS1
def exS3 : CState ℕ := cstepD (Cfg.parts exC) 2 (.svp exD0 0 exX) exS2
def exS4 : CState ℕ := cstepD (Cfg.parts exC) 2 (.vmpDD exD2 exD0 exM0) exS3
def exB3 : Bud ℚ := upd exB0 exD0 exDl0
def exB4 : Bud ℚ := upd exB3 exD2 exDl1

theorem ex2_f2 : exA2.ppol 0 = some #[3, 4] ∧ limbArr 2 exA2.env exX 0 = #[1, 2] ∧
    polyArr 2 (fun t => (#[3, 4] : Array Int).getD t 0) = #[3, 4] := by decide +kernel
theorem ex2_f3 : exA3.dvec exD0 = some #[#[-5, 10]] ∧ exA3.pmat exM0 = some #[#[3, 4]] ∧
    polyArr 2 (Val.coef #[#[-5, 10]] 0) = #[-5, 10] := by decide +kernel
theorem ex2_f4 : exA4.dvec exD2 = some #[#[-55, 10]] ∧ polyArr 2 (Val.coef #[#[-55, 10]] 0) = #[-55, 10] := by
  decide +kernel
theorem ex2_s3 : exS3.dvec exD0 = exAd := by decide +kernel
theorem ex2_s4 : dlimb (exS4.dvec exD2) 0 2 = exAd2 := by decide +kernel

theorem ex2_mu : mu64 = 3 / 2 * ((1 + 1 / 9007199254740992) ^ 2 - 1) := by
  unfold mu64 gam u64; norm_num
theorem ex2_muD : muD 1 = 3 / 2 * ((1 + 1 / 9007199254740992) ^ 4 - 1) := by
  unfold muD gamD u64; norm_num
theorem ex2_eps : eps ℚ 0 = 0 := by unfold eps; simp

theorem exPreM1 : PreM exMod exVars (.svpPrepare 0 exY) ProgErr.exA exB0 exS exDl0 := ⟨by decide, by decide, trivial⟩
theorem exPreM2 : PreM exMod exVars (.vmpPrepare exM0 exY) exA1 exB0 exS1 exDl0 := ⟨by decide, rfl, rfl, trivial⟩

theorem exSvpLimb : SvpLimbBudget exMod #[1, 2] #[3, 4] (1 / 2 ^ 40) := by
  refine ⟨box12, box34, MulOk.of_pipe exPipeOk, 3, 5, by norm_num, by norm_num, n2_12, n2_34, n1_34, ?_⟩
  show fB (eps ℚ 0) ((mu64 : ℚ) : ℚ) (eps ℚ 0 * 2 ^ 0) * (n1 ℚ #[1, 2] 2 * 5 + 3 * n1 ℚ #[3, 4] 2) ≤ _
  rw [ex2_eps, ex2_mu, n1_pair, n1_pair]
  unfold fB dB
  norm_num

theorem exPreM3 : PreM exMod exVars (.svp exD0 0 exX) exA2 exB0 exS2 exDl0 := by
  refine ⟨by decide, fun _ _ => by unfold exDl0; norm_num, #[3, 4], ex2_f2.1, ?_⟩
  intro i hi _
  obtain rfl : i = 0 := Nat.lt_one_iff.1 hi
  show SvpLimbBudget exMod (limbArr 2 exA2.env exX 0) (polyArr 2 fun t => (#[3, 4] : Array Int).getD t 0) (1 / 2 ^ 40)
  rw [ex2_f2.2.1, ex2_f2.2.2]; exact exSvpLimb

theorem exVmpDD : VmpDDBudget exMod #[3, 4] 1 1 (fun _ => #[-5, 10]) exAd 1 1 exDl0 exDl1 := by
  refine ⟨?_, ?_⟩
  · intro i j hi hj
    have : i = 0 := by omega
    have : j = 0 := by omega
    subst_vars
    show Box 0 (matEntry #[3, 4] 1 (2 * 2 ^ 0) 0 0)
    rw [exEntry]; exact box34
  · intro j hj _
    obtain rfl : j = 0 := Nat.lt_one_iff.1 hj
    refine ⟨?_, ex2_okD, fun _ => 12, fun _ => 5, fun _ _ => by norm_num, fun _ _ => by norm_num, ?_, ?_, ?_⟩
    · intro i hi
      obtain rfl : i = 0 := Nat.lt_one_iff.1 hi
      show FwdOk exC 0 z0 z0 (matEntry #[3, 4] 1 (2 * 2 ^ 0) 0 0)
      rw [exEntry]; exact ex_okB
    · intro i _
      exact (n2sq_pair ℚ (-5) 10).trans_le (by norm_num)
    · intro i hi
      obtain rfl : i = 0 := Nat.lt_one_iff.1 hi
      show n2sq ℚ (matEntry #[3, 4] 1 (2 * 2 ^ 0) 0 0) 2 ≤ _
      rw [exEntry]; exact n2_34
    · show ∑ i ∈ range 1, rowF ((muD 1 : ℚ) : ℚ) (exDl0 i) (eps ℚ 0 * 5) 12 5 (n1 ℚ #[-5, 10] 2)
        (n1 ℚ (matEntry #[3, 4] 1 (2 * 2 ^ 0) i 0) 2) (2 ^ 0) ≤ exDl1 0
      rw [sum_range_one, exEntry, ex2_eps, ex2_muD]
      rw [n1_pair, n1_pair]
      unfold rowF rowD exDl0 exDl1
      norm_num

theorem exPreM4 : PreM exMod exVars (.vmpDD exD2 exD0 exM0) exA3 exB3 exS3 exDl1 := by
  refine ⟨by decide, fun _ _ => by unfold exDl1; norm_num, #[#[-5, 10]], #[#[3, 4]], ex2_f3.1, ex2_f3.2.1, ?_⟩
  show VmpDDBudget exMod (flatOf 2 (1 * 1) (fun i t => Val.coef #[#[3, 4]] i t)) 1 1
    (fun i => polyArr 2 (Val.coef #[#[-5, 10]] i)) (exS3.dvec exD0) 1 1 (exB3 exD0) exDl1
  rw [ex_mat.1, ex2_s3, show exB3 exD0 = exDl0 from upd_same _ _ _]
  refine exVmpDD.congr fun i hi => ?_
  obtain rfl : i = 0 := Nat.lt_one_iff.1 hi
  exact ex2_f3.2.2

theorem exIdftLimb : IdftLimbBudget exMod exAd2 #[-55, 10] (1 / 2 ^ 30) := by
  have hS : n2sq ℚ #[-55, 10] exMod.N ≤ (56 : ℚ) ^ 2 := (n2sq_pair ℚ (-55) 10).trans_le (by norm_num)
  have hE : invBudget exMod 56 (1 / 2 ^ 30) < 1 / 2 := by
    show eps ℚ 0 * (56 + 1 / 2 ^ 30) + 1 / 2 ^ 30 < 1 / 2
    rw [ex2_eps]; norm_num
  exact ⟨ex2_okI, 56, by norm_num, hS, dom_of_box exMod _ _ 56 (by norm_num) hS (by norm_num) hE, hE⟩

theorem exPreM5 : PreM exMod exVars (.idft exW exD2) exA4 exB4 exS4 exDl1 := by
  refine ⟨by decide, #[#[-55, 10]], ex2_f4.1, ?_⟩
  intro i hi _
  obtain rfl : i = 0 := Nat.lt_one_iff.1 hi
  show IdftLimbBudget exMod (dlimb (exS4.dvec exD2) 0 2) (polyArr 2 (Val.coef #[#[-55, 10]] 0)) (exB4 exD2 0)
  rw [ex2_s4, ex2_f4.2]
  have e1 : exB4 exD2 0 = 1 / 2 ^ 30 := by
    show upd exB3 exD2 exDl1 exD2 0 = _
    rw [upd_same]; rfl
  rw [e1]; exact exIdftLimb

theorem exGuardedM : GuardedM exMod exVars exProg2 ProgErr.exA exB0 exS :=
  ⟨exDl0, exPreM1, exDl0, exPreM2, exDl0, exPreM3, exDl1, exPreM4, exDl1, exPreM5, trivial⟩

end Spq.ProgErr2
