/-
  Index arithmetic that every region needs: strides, `N * i + c`, reduction of `x < 2n` modulo `n`, masks with
  `2^t - 1`, powers of two modulo 4.  Core Lean only.
-/
namespace Spq

theorem mul_step (p p' n : Nat) (h : p < p') : p * n + n ≤ p' * n := by
  have : (p + 1) * n ≤ p' * n := Nat.mul_le_mul_right n h
  rwa [Nat.add_mul, Nat.one_mul] at this

/-- a `do … while` loop over `n > 0` cells in steps of `w ∣ n` runs `n / w` times (`max 1 ⌈n / w⌉` is the trip count the
    model gives such loops) -/
theorem mul_doWhile_count (n w : Nat) (hd : w ∣ n) (h0 : 0 < n) : w * max 1 ((n + w - 1) / w) = n := by
  obtain ⟨k, rfl⟩ := hd
  have hw : 0 < w := Nat.pos_of_ne_zero (by rintro rfl; simp at h0)
  have hk : 0 < k := Nat.pos_of_ne_zero (by rintro rfl; simp at h0)
  have : (w * k + w - 1) / w = k := by
    rw [show w * k + w - 1 = (w - 1) + w * k by omega, Nat.add_mul_div_left _ _ hw,
      Nat.div_eq_of_lt (by omega), Nat.zero_add]
  rw [this, Nat.max_eq_right hk]

theorem mul_add_lt {N i c r : Nat} (hi : i < r) (hc : c < N) : N * i + c < N * r :=
  Nat.lt_of_lt_of_le (Nat.add_lt_add_left hc _) (by rw [← Nat.mul_succ]; exact Nat.mul_le_mul_left _ hi)

theorem mul_add_div_of_lt {N i c : Nat} (hc : c < N) : (N * i + c) / N = i := by
  rw [Nat.mul_add_div (by omega), Nat.div_eq_of_lt hc, Nat.add_zero]

theorem mul_add_mod_of_lt {N i c : Nat} (hc : c < N) : (N * i + c) % N = c := by
  rw [Nat.mul_add_mod, Nat.mod_eq_of_lt hc]

theorem mod_eq_sub_of_le {x n : Nat} (h1 : n ≤ x) (h2 : x < 2 * n) : x % n = x - n := by
  rw [Nat.mod_eq_sub_mod h1]; exact Nat.mod_eq_of_lt (by omega)

theorem two_mul_pow (t : Nat) : 2 * 2 ^ t = 2 ^ (t + 1) := by
  rw [Nat.pow_succ]; omega

theorem two_mul_pow_half (k : Nat) : 2 * 2 ^ k / 2 = 2 ^ k := by omega

theorem pow_mod_four (k : Nat) (hk : 2 ≤ k) : 2 ^ k % 4 = 0 := by
  obtain ⟨j, rfl⟩ : ∃ j, k = j + 2 := ⟨k - 2, by omega⟩
  rw [Nat.pow_add]; omega

theorem two_mul_pow_mod_four (k : Nat) (hk : 1 ≤ k) : (2 * 2 ^ k) % 4 = 0 := by
  rw [two_mul_pow]; exact pow_mod_four _ (by omega)

/-- the C idiom `x & (nn - 1)` for `nn` a power of two; `hnn` is an equation so that `nn` may be a variable the
    caller knows only through it -/
theorem and_pred_pow {t nn : Nat} (hnn : nn = 2 ^ t) (x : Nat) : x &&& (nn - 1) = x % nn := by
  subst hnn; exact Nat.and_two_pow_sub_one_eq_mod x t

end Spq
