/-
  Helpers for `vec_znx_normalize_base2k_ref` (`Properties/SrcVecNorm.lean`): windows of an arena with a scratch
  window `[t, t+nn)` that the heap model does not track (`scr`), the downward limb loop as an indexed sequence of
  model states (`seqD`, `List.foldl` over a reversed range), monotonicity of the model's bounds flag.
-/
import SpqProofs.Lemmas.SrcNormKern
import SpqProofs.Lemmas.SrcVec
import SpqProofs.Lemmas.NormHeap
namespace Spq.CIR
open Spq Spq.Norm

/-! ### windows and `writeArr` -/
theorem win_ext (A A' : Array Int) (o nn : Nat) (h : ∀ c, c < nn → A.getD (o + c) 0 = A'.getD (o + c) 0) :
    win A o nn = win A' o nn := by
  apply ext_getD 0 (by simp)
  intro i hi
  simp only [size_win] at hi
  rw [getD_win _ _ _ _ hi, getD_win _ _ _ _ hi, h i hi]

theorem win_writeArr_disj (M c : Array Int) (t ao nn : Nat) (h : ao + nn ≤ t ∨ t + c.size ≤ ao) :
    win (Heap.writeArr M t c) ao nn = win M ao nn := by
  apply win_ext
  intro i hi
  rw [getD_writeArr, if_neg (by omega)]

theorem win_writeArr_same (M c : Array Int) (t nn : Nat) (hc : c.size = nn) (ht : t + nn ≤ M.size) :
    win (Heap.writeArr M t c) t nn = c := by
  apply ext_getD 0 (by simp [hc])
  intro i hi
  simp only [size_win] at hi
  rw [getD_win _ _ _ _ hi, getD_writeArr, if_pos (by omega)]
  congr 1; omega

theorem writeArr_writeArr_same (M c c' : Array Int) (t : Nat) (h : c.size = c'.size) :
    Heap.writeArr (Heap.writeArr M t c) t c' = Heap.writeArr M t c' := by
  apply ext_getD 0 (by simp)
  intro i _
  simp only [getD_writeArr, Heap.size_writeArr]
  repeat' split
  all_goals first | rfl | (exfalso; omega)

theorem writeArr_comm (M c r : Array Int) (t ro : Nat) (h : ro + r.size ≤ t ∨ t + c.size ≤ ro) :
    Heap.writeArr (Heap.writeArr M t c) ro r = Heap.writeArr (Heap.writeArr M ro r) t c := by
  apply ext_getD 0 (by simp)
  intro i _
  simp only [getD_writeArr, Heap.size_writeArr]
  repeat' split
  all_goals first | rfl | (exfalso; omega)

/-! ### downward loops: the model state after `d` iterations from index `top` -/
def seqD {σ : Type} (f : σ → Nat → σ) (top : Nat) (st : σ) : Nat → σ
  | 0 => st
  | d + 1 => f (seqD f top st d) (top - d)

theorem seqD_shift {σ : Type} (f : σ → Nat → σ) (top : Nat) (st : σ) :
    ∀ d, seqD f top st (d + 1) = seqD f (top - 1) (f st top) d := by
  intro d
  induction d with
  | zero => rfl
  | succ d ih =>
    show f (seqD f top st (d + 1)) (top - (d + 1)) = f (seqD f (top - 1) (f st top) d) (top - 1 - d)
    rw [ih]; congr 1; omega

theorem foldl_reverse_range' {σ : Type} (f : σ → Nat → σ) :
    ∀ n lo st, (List.range' lo n).reverse.foldl f st = seqD f (lo + n - 1) st n := by
  intro n
  induction n with
  | zero => intro lo st; rfl
  | succ n ih =>
    intro lo st
    rw [List.range'_concat, List.reverse_append, List.reverse_singleton, List.singleton_append, List.foldl_cons,
      Nat.one_mul, ih, seqD_shift]
    congr 1

end Spq.CIR

namespace Spq.CIR
open Spq Spq.Norm

/-! ### the model states of `VecZnx.normalize` and the arena -/

/-- arena content for the model state `st`: the model heap, the scratch window holding the last carry -/
def scr (t : Nat) (st : NState) : Array Int :=
  match st.2 with
  | none => st.1.mem
  | some c => Heap.writeArr st.1.mem t c

structure NInv (nn sz : Nat) (st : NState) : Prop where
  size : st.1.mem.size = sz
  csize : ∀ c, st.2 = some c → c.size = nn

theorem nstep_snd (nn k res rsz rsl a asl : Nat) (st : NState) (i : Nat) :
    (nstep nn k res rsz rsl a asl st i).2
      = some (Coeffs.znxNormalize nn k (win st.1.mem (a + i * asl) nn) st.2).2 := rfl

theorem nstep_mem_lt (nn k res rsz rsl a asl : Nat) (st : NState) (i : Nat) (h : i < rsz) :
    (nstep nn k res rsz rsl a asl st i).1.mem
      = Heap.writeArr st.1.mem (res + i * rsl) (Coeffs.znxNormalize nn k (win st.1.mem (a + i * asl) nn) st.2).1 := by
  simp only [nstep, if_pos h]; rfl

theorem nstep_mem_ge (nn k res rsz rsl a asl : Nat) (st : NState) (i : Nat) (h : ¬ i < rsz) :
    (nstep nn k res rsz rsl a asl st i).1.mem = st.1.mem := by
  simp only [nstep, if_neg h]; rfl

theorem nstep_ok (nn k res rsz rsl a asl : Nat) (st : NState) (i : Nat)
    (h : (nstep nn k res rsz rsl a asl st i).1.ok = true) :
    st.1.ok = true ∧ a + i * asl + nn ≤ st.1.mem.size ∧ (i < rsz → res + i * rsl + nn ≤ st.1.mem.size) := by
  by_cases hi : i < rsz
  · simp only [nstep, if_pos hi, Heap.writeLimb, Heap.touch, Bool.and_eq_true, decide_eq_true_eq, znx_size1] at h
    exact ⟨h.1.1, h.1.2, fun _ => h.2⟩
  · simp only [nstep, if_neg hi, Heap.touch, Bool.and_eq_true, decide_eq_true_eq] at h
    exact ⟨h.1, h.2, fun hh => absurd hh hi⟩

theorem nstep_inv (nn k res rsz rsl a asl sz : Nat) (st : NState) (i : Nat) (h : NInv nn sz st) :
    NInv nn sz (nstep nn k res rsz rsl a asl st i) := by
  refine ⟨?_, ?_⟩
  · by_cases hi : i < rsz
    · rw [nstep_mem_lt _ _ _ _ _ _ _ _ _ hi, Heap.size_writeArr, h.size]
    · rw [nstep_mem_ge _ _ _ _ _ _ _ _ _ hi, h.size]
  · intro c hc
    rw [nstep_snd] at hc
    cases hc
    exact znx_size2 _ _ _ _

theorem seqD_ok (f : NState → Nat → NState) (hf : ∀ st i, (f st i).1.ok = true → st.1.ok = true) (top : Nat)
    (st : NState) : ∀ n, (seqD f top st n).1.ok = true → ∀ d, d ≤ n → (seqD f top st d).1.ok = true := by
  intro n
  induction n with
  | zero => intro h d hd; have : d = 0 := by omega
            subst this; exact h
  | succ n ih =>
    intro h d hd
    by_cases hdn : d = n + 1
    · subst hdn; exact h
    · exact ih (hf _ _ h) d (by omega)

theorem seqD_inv (nn sz : Nat) (f : NState → Nat → NState) (hf : ∀ st i, NInv nn sz st → NInv nn sz (f st i))
    (top : Nat) (st : NState) (h : NInv nn sz st) : ∀ d, NInv nn sz (seqD f top st d) := by
  intro d
  induction d with
  | zero => exact h
  | succ d ih => exact hf _ _ ih

end Spq.CIR

namespace Spq.CIR
open Spq Spq.Norm

/-! ### one limb step on the arena `scr t st` (results of the lemmas `arena_norm_*`) is the model's step -/
section scrstep
variable (nn k res rsz rsl a asl t sz : Nat)

theorem scr_none (st : NState) (h : st.2 = none) : scr t st = st.1.mem := by
  unfold scr; rw [h]
theorem scr_some (st : NState) (c : Array Int) (h : st.2 = some c) : scr t st = Heap.writeArr st.1.mem t c := by
  unfold scr; rw [h]

theorem size_scr (st : NState) : (scr t st).size = st.1.mem.size := by
  unfold scr; split <;> simp

/-- carry-only step (`out = NULL`), no carry in -/
theorem scr_step_ge_none (st : NState) (i : Nat) (hi : ¬ i < rsz) (h2 : st.2 = none) :
    Heap.writeArr (scr t st) t (Coeffs.znxNormalize nn k (win (scr t st) (a + i * asl) nn) none).2
      = scr t (nstep nn k res rsz rsl a asl st i) := by
  rw [scr_none t st h2, scr_some t _ _ (nstep_snd _ _ _ _ _ _ _ _ _), nstep_mem_ge _ _ _ _ _ _ _ _ _ hi, h2]

/-- carry-only step with carry in -/
theorem scr_step_ge_some (st : NState) (hinv : NInv nn sz st) (i : Nat) (hi : ¬ i < rsz) (c : Array Int)
    (h2 : st.2 = some c) (hat : a + i * asl + nn ≤ t ∨ t + nn ≤ a + i * asl) (ht : t + nn ≤ sz) :
    Heap.writeArr (scr t st) t
        (Coeffs.znxNormalize nn k (win (scr t st) (a + i * asl) nn) (some (win (scr t st) t nn))).2
      = scr t (nstep nn k res rsz rsl a asl st i) := by
  have hc : c.size = nn := hinv.csize c h2
  rw [scr_some t st c h2, scr_some t _ _ (nstep_snd _ _ _ _ _ _ _ _ _), nstep_mem_ge _ _ _ _ _ _ _ _ _ hi, h2,
    win_writeArr_disj _ _ _ _ _ (by omega), win_writeArr_same _ _ _ _ hc (by rw [hinv.size]; exact ht),
    writeArr_writeArr_same _ _ _ _ (by rw [hc, znx_size2])]

/-- normalising step (`out = res_i`), no carry in -/
theorem scr_step_lt_none (st : NState) (i : Nat) (hi : i < rsz) (h2 : st.2 = none) :
    Heap.writeArr (Heap.writeArr (scr t st) (res + i * rsl)
        (Coeffs.znxNormalize nn k (win (scr t st) (a + i * asl) nn) none).1) t
        (Coeffs.znxNormalize nn k (win (scr t st) (a + i * asl) nn) none).2
      = scr t (nstep nn k res rsz rsl a asl st i) := by
  rw [scr_none t st h2, scr_some t _ _ (nstep_snd _ _ _ _ _ _ _ _ _), nstep_mem_lt _ _ _ _ _ _ _ _ _ hi, h2]

theorem scr_step_lt_some (st : NState) (hinv : NInv nn sz st) (i : Nat) (hi : i < rsz) (c : Array Int)
    (h2 : st.2 = some c) (hat : a + i * asl + nn ≤ t ∨ t + nn ≤ a + i * asl)
    (hrt : res + i * rsl + nn ≤ t ∨ t + nn ≤ res + i * rsl) (ht : t + nn ≤ sz) :
    Heap.writeArr (Heap.writeArr (scr t st) (res + i * rsl)
        (Coeffs.znxNormalize nn k (win (scr t st) (a + i * asl) nn) (some (win (scr t st) t nn))).1) t
        (Coeffs.znxNormalize nn k (win (scr t st) (a + i * asl) nn) (some (win (scr t st) t nn))).2
      = scr t (nstep nn k res rsz rsl a asl st i) := by
  have hc : c.size = nn := hinv.csize c h2
  rw [scr_some t st c h2, scr_some t _ _ (nstep_snd _ _ _ _ _ _ _ _ _), nstep_mem_lt _ _ _ _ _ _ _ _ _ hi, h2,
    win_writeArr_disj _ _ _ _ _ (by omega), win_writeArr_same _ _ _ _ hc (by rw [hinv.size]; exact ht),
    writeArr_comm st.1.mem c _ t (res + i * rsl) (by rw [znx_size1, hc]; omega),
    writeArr_writeArr_same _ _ _ _ (by rw [hc, znx_size2])]

/-- last step (`carry_out = NULL`): the scratch keeps the previous carry -/
theorem scr_last_none (st : NState) (i : Nat) (hi : i < rsz) (h2 : st.2 = none) :
    Heap.writeArr (scr t st) (res + i * rsl) (Coeffs.znxNormalize nn k (win (scr t st) (a + i * asl) nn) none).1
      = (nstep nn k res rsz rsl a asl st i).1.mem := by
  rw [scr_none t st h2, nstep_mem_lt _ _ _ _ _ _ _ _ _ hi, h2]

theorem scr_last_some (st : NState) (hinv : NInv nn sz st) (i : Nat) (hi : i < rsz) (c : Array Int)
    (h2 : st.2 = some c) (hat : a + i * asl + nn ≤ t ∨ t + nn ≤ a + i * asl)
    (hrt : res + i * rsl + nn ≤ t ∨ t + nn ≤ res + i * rsl) (ht : t + nn ≤ sz) :
    Heap.writeArr (scr t st) (res + i * rsl)
        (Coeffs.znxNormalize nn k (win (scr t st) (a + i * asl) nn) (some (win (scr t st) t nn))).1
      = Heap.writeArr (nstep nn k res rsz rsl a asl st i).1.mem t c := by
  have hc : c.size = nn := hinv.csize c h2
  rw [scr_some t st c h2, nstep_mem_lt _ _ _ _ _ _ _ _ _ hi, h2,
    win_writeArr_disj _ _ _ _ _ (by omega), win_writeArr_same _ _ _ _ hc (by rw [hinv.size]; exact ht),
    writeArr_comm st.1.mem c _ t (res + i * rsl) (by rw [znx_size1, hc]; omega)]
end scrstep

end Spq.CIR

namespace Spq.CIR
open Spq Spq.Norm Spq.Heap

/-- the zero-extension loop does not see the scratch window -/
theorem forLimbs_zero_scratch (nn res rsl t : Nat) (C : Array Int) (hC : C.size = nn) (lo : Nat) (h : Heap Int) :
    ∀ d, (∀ i, lo ≤ i → i < lo + d → res + i * rsl + nn ≤ t ∨ t + nn ≤ res + i * rsl) →
      (forLimbs lo (lo + d) (fun i => limb0 (Coeffs.zero i64Ops nn) (res + i * rsl)) ⟨writeArr h.mem t C, h.ok⟩).mem
          = writeArr (forLimbs lo (lo + d) (fun i => limb0 (Coeffs.zero i64Ops nn) (res + i * rsl)) h).mem t C ∧
        (forLimbs lo (lo + d) (fun i => limb0 (Coeffs.zero i64Ops nn) (res + i * rsl)) ⟨writeArr h.mem t C, h.ok⟩).ok
          = (forLimbs lo (lo + d) (fun i => limb0 (Coeffs.zero i64Ops nn) (res + i * rsl)) h).ok := by
  intro d
  induction d with
  | zero => intro _; simp only [Nat.add_zero, Heap.forLimbs_self]; trivial
  | succ d ih =>
    intro hdis
    obtain ⟨ih1, ih2⟩ := ih (fun i h1 h2 => hdis i h1 (by omega))
    rw [← Nat.add_assoc, forLimbs_succ lo (lo + d) (by omega), forLimbs_succ lo (lo + d) (by omega)]
    refine ⟨?_, ?_⟩
    · rw [limb0_mem, limb0_mem, ih1, writeArr_comm _ _ _ _ _ (by
        have := hdis (lo + d) (by omega) (by omega)
        rw [size_kzero, hC]; omega)]
    · rw [limb0_ok, limb0_ok, ih1, ih2, size_writeArr]

end Spq.CIR
