/-
  C16, binary64 side: every DFT-space-producing call of the binary64 module, inside its budget, returns an object that
  REPRESENTS (`LimbExact`) the exact result in `ℤ[X]/(X^N+1)`: `RtBudget` per limb for `vec_znx_dft` (`ProgErr2.rt_exact`),
  `ProdBudget` per limb for `svp_prepare` + `svp_apply_dft` and for `znx_small_single_product` (`ProgErr2.prod_exact`),
  `VmpBudget` for `vmp_prepare` + `vmp_apply_dft` (`VmpErr.vmp_exact_col`, `vmp_zero_col`).
-/
import SpqProofs.Lemmas.ProgErr2Rep
namespace Spq.ProgErr
open Finset Spq Spq.Module Spq.Fft Spq.Fft.Alg Spq.FftErr Spq.F64 Spq.Reim4 Spq.ProdErr Spq.VmpErr Spq.Conv Spq.Prog
  Spq.Closed
variable {K : Type} [Field K] [LinearOrder K] [IsStrictOrderedRing K]

theorem zero_limb_out (M : F64Mod K) :
    M.parts.toZnx (M.parts.ifft (Array.replicate M.N 0)) = Array.replicate M.N 0 :=
  zero_col_out M.c M.k (k961 M) M.cN M.sN M.cNi M.sNi M.ok.cfg _ Array.size_replicate (fun p _ => getD_replicate 0 _ p)

theorem dft_sound (M : F64Mod K) (x : Array Int) (asz asl rsz : ℕ) (f : ℕ → ℕ → ℤ) (hag : Agree M.N x asz asl f)
    (hb : ∀ i, i < asz → i < rsz → RtBudget M (polyArr M.N (f i))) :
    LimbExact M (Val.mk M.N rsz (zext asz f)) rsz (vecDft M.parts rsz x asz asl) := by
  obtain ⟨hsz, hl⟩ := vecDft_limbs M x asz asl rsz f hag
  refine limbwise M.N rsz (fun _ dl y => M.parts.toZnx (M.parts.ifft dl) = y) _ (· < asz) _ (fun i hi h => ?_) fun i hi h =>
    ⟨by rw [hl i hi, if_neg h]; exact zero_limb_out M, fun t _ => by rw [zext, if_neg h]⟩
  rw [hl i hi, if_pos h, zext_pos f h, ProgErr2.rt_exact M _ (hb i h hi), firstN_of_size _ _ (size_polyArr _ _)]

theorem svp_sound (M : F64Mod K) (x : Array Int) (asz asl rsz : ℕ) (f : ℕ → ℕ → ℤ) (hag : Agree M.N x asz asl f)
    (sp : Array Int) (hb : ∀ i, i < asz → i < rsz → ProdBudget M (polyArr M.N (f i)) sp) :
    LimbExact M (Val.mk M.N rsz fun i c => polyMul M.N (zext asz f i) (fun t => sp.getD t 0) c) rsz
      (svpApply M.parts rsz (svpPrepare M.parts sp) x asz asl) := by
  obtain ⟨hsz, hl⟩ := svpApply_limbs M x asz asl rsz f hag sp
  refine limbwise M.N rsz (fun _ dl y => M.parts.toZnx (M.parts.ifft dl) = y) _ (· < asz) _ (fun i hi h => ?_) fun i hi h =>
    ⟨by rw [hl i hi, if_neg h]; exact zero_limb_out M, fun t _ => by rw [zext_neg f h, polyMul_zero_left]⟩
  rw [hl i hi, if_pos h, zext_pos f h, ProgErr2.prod_exact M _ sp (hb i h hi), polyArr_polyMul]

theorem small_sound (M : F64Mod K) (fa fb : ℕ → ℤ) (hb : ProdBudget M (polyArr M.N fa) (polyArr M.N fb)) :
    smallProduct M.parts (polyArr M.N fa) (polyArr M.N fb) = polyArr M.N (polyMul M.N fa fb) := by
  rw [smallProduct_stages M.c M.k M.cN M.sN M.cNi M.sNi M.ok.cfg, stI, ← parts_ifft M.c M.k M.cN M.sN M.cNi M.sNi M.ok.cfg,
    ProgErr2.prod_exact M _ _ hb]
  apply eq_polyArr_of_getD _ _ _ (size_nmul _ _ _)
  intro t ht
  exact getD_nmul _ _ _ _ _ (fun u hu => getD_polyArr _ _ _ hu) (fun u hu => getD_polyArr _ _ _ hu) t ht

/-- the canonical flat form of an abstract matrix -/
abbrev matOf (M : F64Mod K) (Mv : Val) (nrows ncols : ℕ) : Array Int :=
  flatOf M.N (nrows * ncols) (fun i t => Mv.coef i t)

theorem colSpecP_getD (M : F64Mod K) (P : ℕ → Array Int) (g : ℕ → ℕ → ℤ) (Mv : Val) (asz nrows ncols j t : ℕ)
    (hP : ∀ i, i < min nrows asz → ∀ u, u < M.N → (P i).getD u 0 = g i u) (hj : j < ncols) (ht : t < M.N) :
    (ProgErr2.colSpecP M.N (matOf M Mv nrows ncols) ncols (min nrows asz) P j).getD t 0 =
      Prog.vmpVal M.N asz (zext asz g) Mv nrows ncols j t := by
  unfold ProgErr2.colSpecP Prog.vmpVal
  rw [getD_isum _ _ _ _ ht, if_pos hj]
  apply progSumTo_congr
  intro i hi
  apply getD_nmul _ _ _ _ _ _ _ t ht
  · intro u hu
    rw [hP i hi u hu, zext, if_pos (by omega)]
  · intro u hu
    rw [matEntry_flatOf _ _ _ _ i j (by omega) hj, getD_polyArr _ _ _ hu]

theorem vmpVal_dead (N asz : ℕ) (f : ℕ → ℕ → ℤ) (Mv : Val) (nrows ncols j t : ℕ)
    (h : ¬ j < ncols ∨ min nrows asz = 0) : Prog.vmpVal N asz f Mv nrows ncols j t = 0 := by
  unfold Prog.vmpVal
  rcases h with h | h
  · rw [if_neg h]
  · rw [h]; split <;> rfl

theorem vmp_sound_canon (M : F64Mod K) (asz rsz : ℕ) (f : ℕ → ℕ → ℤ) (Mv : Val) (nrows ncols : ℕ)
    (hb : VmpBudget M (matOf M Mv nrows ncols) nrows ncols (flatOf M.N asz f) asz rsz) :
    LimbExact M (Val.mk M.N rsz (Prog.vmpVal M.N asz (zext asz f) Mv nrows ncols)) rsz
      (vmpApplyDft M.parts rsz (flatOf M.N asz f) asz M.N (vmpPrepare M.parts (matOf M Mv nrows ncols) nrows ncols)
        nrows ncols) := by
  obtain ⟨hn, hA, hM, hcol⟩ := hb
  have key : ∀ j, j < rsz → ∀ D : Array ℕ,
      M.parts.toZnx (M.parts.ifft (dlimb D j M.N)) = dlimb (vecIdft M.parts rsz D rsz) j M.N :=
    fun j hj D => by rw [idft_row M rsz D rsz j hj, if_pos hj]
  -- a column is live when it exists and has a row to add up (for `nn < 8` the kernel needs one)
  refine limbwise M.N rsz (fun _ dl y => M.parts.toZnx (M.parts.ifft dl) = y) _
    (fun j => j < min ncols rsz ∧ ¬ (M.k < 2 ∧ min nrows asz = 0)) _ (fun j hj h => ?_) (fun j hj h => ⟨?_, fun t _ => ?_⟩)
  · obtain ⟨hok, na, nb, hna0, hnb0, hna, hnb, hnl, hE⟩ := hcol j h.1 (fun h2 => by have := h.2; omega)
    have e := vmp_exact_col M.c M.k M.hk M.cN M.sN M.cNi M.sNi M.ok M.ζ M.ζi M.hζ M.hI M.hinv M.hcs M.hcsi
      (matOf M Mv nrows ncols) nrows ncols (flatOf M.N asz f) asz M.N rsz rsz hn hA hM j h.1 hj
      (fun h2 => by have := h.2; omega) hok na nb hna0 hnb0 hna hnb hnl hE
    rw [key j hj]
    refine e.trans (eq_polyArr_of_getD _ _ _ (size_isum _ _ _) fun t ht => ?_)
    exact colSpecP_getD M (fun i => limbOf (flatOf M.N asz f) i M.N M.N) f Mv asz nrows ncols j t
      (fun i hi u hu => by rw [limbOf_flatOf _ _ _ i (by omega), getD_polyArr _ _ _ hu]) (by omega) ht
  · rw [key j hj]
    exact vmp_zero_col M.c M.k (k961 M) M.cN M.sN M.cNi M.sNi M.ok (matOf M Mv nrows ncols) nrows ncols
      (flatOf M.N asz f) asz M.N rsz rsz hM j hj (by omega)
  · exact vmpVal_dead _ _ _ _ _ _ _ _ (by omega)

theorem vmp_sound (M : F64Mod K) (x : Array Int) (asz asl rsz : ℕ) (f : ℕ → ℕ → ℤ) (hag : Agree M.N x asz asl f)
    (Mv : Val) (nrows ncols : ℕ)
    (hb : VmpBudget M (matOf M Mv nrows ncols) nrows ncols (flatOf M.N asz f) asz rsz) :
    LimbExact M (Val.mk M.N rsz (Prog.vmpVal M.N asz (zext asz f) Mv nrows ncols)) rsz
      (vmpApplyDft M.parts rsz x asz asl (vmpPrepare M.parts (matOf M Mv nrows ncols) nrows ncols) nrows ncols) := by
  have hc := vmpApplyDft_canon M.parts rsz (vmpPrepare M.parts (matOf M Mv nrows ncols) nrows ncols) nrows ncols
    (agree_nn M hag)
  rw [M.nn] at hc
  rw [hc]
  exact vmp_sound_canon M asz rsz f Mv nrows ncols hb

theorem vmpPrepare_matOf (M : F64Mod K) (x : Array Int) (nrows ncols : ℕ) (f : ℕ → ℕ → ℤ)
    (hag : Agree M.N x (nrows * ncols) M.N f) :
    vmpPrepare M.parts x nrows ncols = vmpPrepare M.parts (matOf M (Val.mk M.N (nrows * ncols) f) nrows ncols) nrows ncols := by
  have hag' : Agree M.parts.nn x (nrows * ncols) M.parts.nn f := by rw [M.nn]; exact hag
  have h1 := vmpPrepare_canon M.parts nrows ncols hag'
  rw [M.nn] at h1
  rw [h1]
  apply vmpPrepare_congr
  intro i j hi hj
  rw [M.nn, matEntry_flatOf _ _ _ _ i j hi hj, matEntry_flatOf _ _ _ _ i j hi hj]
  have hidx : i * ncols + j < nrows * ncols := by
    have := mul_step i nrows ncols hi
    omega
  apply polyArr_congr
  intro t ht
  rw [coef_mk _ _ _ _ _ hidx ht]

end Spq.ProgErr
