/-
  C06.4: the structural network `VN (gNet F c s k)` over an ordered field, with butterflies satisfying the
  standard model and stored twiddles within `τ` of the exact roots, is within `(1+η)^k − 1` of the exact network `V`.
-/
import SpqProofs.Lemmas.FftErrSchedLift
set_option linter.unusedSectionVars false
namespace Spq.FftErr
open Finset Spq.Fft Spq.Fft.Alg Spq.Fft.SimP Spq.Fft.LevelN Spq.Fft.SchedN
variable {K : Type} [Field K] [LinearOrder K] [IsStrictOrderedRing K]

def toC (p : K × K) : Cplx K := ⟨p.1, p.2⟩

/-- Every butterfly of an implementation meets the error predicate `E` (`BfErrAt`: forward, `IBfErrAt`: inverse)
    with relative error `η`, the stored twiddle being within `τ`; `J` is the factor the `cit` butterflies put on
    the twiddle (`i` forward, `−i` inverse). -/
structure ErrOK (E : (Cplx K → Cplx K → Cplx K × Cplx K) → Cplx K → K → Prop) (J : Cplx K) (F : Flav K) (τ η : K) :
    Prop where
  ct : ∀ wh w : Cplx K, nsq w = 1 → nsq (wh - w) ≤ τ ^ 2 → E (fun a b => bfC F.ct a b wh) w η
  cit : ∀ wh w : Cplx K, nsq w = 1 → nsq (wh - w) ≤ τ ^ 2 → E (fun a b => bfC F.cit a b wh) (J * w) η
  ctS : ∀ wh w : Cplx K, nsq w = 1 → nsq (wh - w) ≤ τ ^ 2 → E (fun a b => bfC F.ctS a b wh) w η
  citS : ∀ wh w : Cplx K, nsq w = 1 → nsq (wh - w) ≤ τ ^ 2 → E (fun a b => bfC F.citS a b wh) (J * w) η
  ct2 : ∀ wh w : Cplx K, nsq w = 1 → nsq (wh - w) ≤ τ ^ 2 → E (fun a b => bfC F.ct2 a b wh) w η

abbrev FwdErrOK (F : Flav K) (τ η : K) : Prop := ErrOK BfErrAt Ic F τ η

theorem fwdRef_errOK (A : Arith K) (u τ : K) (sm : FStd A u) (hτ : 0 ≤ τ) : FwdErrOK (fwdRef A) τ (eta u τ) :=
  ⟨fun wh w => butterfly_err_ref A u τ sm hτ wh w, fun wh w => butterfly_err_cit_ref A u τ sm hτ wh w,
   fun wh w => butterfly_err_ref A u τ sm hτ wh w, fun wh w => butterfly_err_cit_ref A u τ sm hτ wh w,
   fun wh w => butterfly_err_ref A u τ sm hτ wh w⟩

theorem fwdFma_errOK (A : Arith K) (u τ : K) (sm : FStd A u) (hτ : 0 ≤ τ) : FwdErrOK (fwdFma A) τ (eta u τ) :=
  ⟨fun wh w => butterfly_err_fma A u τ sm hτ wh w, fun wh w => butterfly_err_cit_fmaB A u τ sm hτ wh w,
   fun wh w => butterfly_err_fma A u τ sm hτ wh w, fun wh w => butterfly_err_cit_fmaN A u τ sm hτ wh w,
   fun wh w => butterfly_err_ref A u τ sm hτ wh w⟩

def gCof (g : ℕ → ℕ → ℕ → K × K → K × K → (K × K) × (K × K)) (ℓ d b : ℕ) (x y : Cplx K) : Cplx K × Cplx K :=
  (toC (g ℓ d b (x.re, x.im) (y.re, y.im)).1, toC (g ℓ d b (x.re, x.im) (y.re, y.im)).2)

theorem _root_.Spq.Fft.LevelN.Chain.cplx {k : ℕ} {lv : ℕ → ℕ × ℕ} {g : ℕ → ℕ → ℕ → K × K → K × K → (K × K) × (K × K)}
    {X : ℕ → ℕ → K × K} (h : Chain k lv g X) : Chain k lv (gCof g) (fun i p => toC (X i p)) := by
  intro i hi p
  show toC (X (i + 1) p) = _
  rw [h i hi p, apply_ite toC]
  rfl

theorem fwdN_err (ζ : Cplx K) (hζ : nsq ζ = 1) (η : K) (hη : 0 ≤ η) (k : ℕ)
    (g : ℕ → ℕ → ℕ → K × K → K × K → (K × K) × (K × K))
    (hg : ∀ ℓ d b, ℓ + d + 1 = k → b < 2 ^ ℓ → BfErrAt (gCof g ℓ d b) (ζ ^ twE ℓ d b) η) (a : ℕ → K × K) :
    ∑ p ∈ range (2 ^ k), nsq (toC (VN g a k 0 p) - V ζ (fun p => toC (a p)) k 0 p) ≤
      ((1 + η) ^ k - 1) ^ 2 * ∑ p ∈ range (2 ^ k), nsq (V ζ (fun p => toC (a p)) k 0 p) := by
  have := V_err ζ hζ η hη k (gCof g) hg (VN_chain k g a).cplx (fun p => toC (a p)) (fun _ => rfl)
  simp only [Nat.sub_self] at this
  exact this

theorem bfV_eq_bfC (f : Bf K) (wr wi : K) (x y : Cplx K) :
    (toC (bfV f wr wi (x.re, x.im) (y.re, y.im)).1, toC (bfV f wr wi (x.re, x.im) (y.re, y.im)).2) = bfC f x y ⟨wr, wi⟩ := rfl

variable (F : Flav K) (c s : ℕ → K) (k : ℕ) (ζ : Cplx K) (τ η : K)

theorem gC_err {E : (Cplx K → Cplx K → Cplx K × Cplx K) → Cplx K → K → Prop} {J : Cplx K} (hF : ErrOK E J F τ η)
    (hζ : nsq ζ = 1) (hI : ζ ^ 2 ^ k = J)
    (hcs : ∀ ℓ d b, ℓ + d + 1 = k → b < 2 ^ ℓ →
      nsq ((⟨c (twE ℓ d b), s (twE ℓ d b)⟩ : Cplx K) - ζ ^ twE ℓ d b) ≤ τ ^ 2) (ℓ d b : ℕ) (hk : ℓ + d + 1 = k) (hb : b < 2 ^ ℓ) :
    E (gCof (gNet F c s k) ℓ d b) (ζ ^ twE ℓ d b) η := by
  have hw : ∀ e, nsq (ζ ^ e) = 1 := fun e => by rw [nsq_pow, hζ, one_pow]
  have hct : ∀ wh w : Cplx K, nsq w = 1 → nsq (wh - w) ≤ τ ^ 2 → E (fun a b => bfC (ctK F k) a b wh) w η := by
    unfold ctK; split <;> [exact hF.ct2; (split <;> [exact hF.ctS; exact hF.ct])]
  have hcit : ∀ wh w : Cplx K, nsq w = 1 → nsq (wh - w) ≤ τ ^ 2 →
      E (fun a b => bfC (citK F k) a b wh) (J * w) η := by
    unfold citK; split <;> [exact hF.citS; exact hF.cit]
  -- `have … ; exact`: unifying the motive against the goal directly unfolds `gCof` and is slow
  have key := gNet_cases F c s k ℓ d b hk hb (fun gb e => E
      (fun x y => (toC (gb (x.re, x.im) (y.re, y.im)).1, toC (gb (x.re, x.im) (y.re, y.im)).2)) (ζ ^ e) η)
    (hct ⟨c (twE ℓ d b), s (twE ℓ d b)⟩ _ (hw _) (hcs ℓ d b hk hb))
    (fun _ => by
      have := hcit ⟨c (twE ℓ d (b - 1)), s (twE ℓ d (b - 1))⟩ _ (hw _) (hcs ℓ d (b - 1) hk (by omega))
      rw [← hI, ← pow_add] at this
      exact this)
  exact key

end Spq.FftErr
