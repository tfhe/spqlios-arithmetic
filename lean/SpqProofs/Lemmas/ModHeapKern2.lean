/-
  Kernel calls of the VMP entry points (block extraction, dot products, block save) and the bridge
  "a kernel call inside a region = `writeAt` on the region's content".
-/
import SpqProofs.Lemmas.ModHeapLoop
namespace Spq.ModuleHeap
open Spq Heap Module Reim4
variable {γ α : Type}

section kernels
variable (c : Parts α) (cd : Cells γ α) (h : Heap γ)

theorem kExtract1_spec (blk dst src : Nat) (hsrc : src + c.nn ≤ h.mem.size) (hdst : dst + 8 ≤ h.mem.size)
    (hal : dst + 8 ≤ src ∨ src + c.nn ≤ dst) :
    Fr (In dst 8) h (kExtract1 c cd blk dst src h) ∧
    (kExtract1 c cd blk dst src h).readLimb cd.dflt dst 8 =
      (extract1blkFromReimRef c.ar.zero c.m blk (Array.replicate 8 c.ar.zero) (rdD cd h src c.nn)).map cd.enc := by
  unfold kExtract1 wrD
  exact wr_spec h _ cd.dflt dst 8 _ (by simp) (by rw [guard_ok _ _ (disj_of _ _ _ _ hal), tch_ok _ _ _ hsrc])
    (by simp [size_extract1]) hdst

theorem kExtractRows_spec (rows blk dst src : Nat) (hsrc : src + rows * c.nn ≤ h.mem.size)
    (hdst : dst + 8 * rows ≤ h.mem.size) (hal : dst + 8 * rows ≤ src ∨ src + rows * c.nn ≤ dst) :
    Fr (In dst (8 * rows)) h (kExtractRows c cd rows blk dst src h) ∧
    (kExtractRows c cd rows blk dst src h).readLimb cd.dflt dst (8 * rows) =
      (extract1blkFromContiguousReimRef c.ar.zero c.m rows blk (Array.replicate (8 * rows) c.ar.zero)
        (rdD cd h src (rows * c.nn))).map cd.enc := by
  unfold kExtractRows wrD
  exact wr_spec h _ cd.dflt dst (8 * rows) _ (by simp)
    (by rw [guard_ok _ _ (disj_of _ _ _ _ hal), tch_ok _ _ _ hsrc]) (by simp [size_extractRows]) hdst

theorem kProd2_spec (rows nrows out u v : Nat) (hu : u + 8 * rows ≤ h.mem.size) (hv : v + 16 * nrows ≤ h.mem.size)
    (hout : out + 16 ≤ h.mem.size) (hau : out + 16 ≤ u ∨ u + 8 * rows ≤ out) (hav : out + 16 ≤ v ∨ v + 16 * nrows ≤ out) :
    Fr (In out 16) h (kProd2 c cd rows nrows out u v h) ∧
    (kProd2 c cd rows nrows out u v h).readLimb cd.dflt out 16 =
      (prod2 c rows (rdD cd h u (8 * rows)) (rdD cd h v (16 * nrows))).map cd.enc := by
  unfold kProd2 wrD
  exact wr_spec h _ cd.dflt out 16 _ (by simp)
    (by rw [guard_ok _ _ (by simp [disj_of _ _ _ _ hau, disj_of _ _ _ _ hav]), tch_ok _ _ _ (by simpa using hv),
          tch_ok _ _ _ hu])
    (by simp [size_prod2]) hout

theorem kProd1_spec (rows nrows out u v : Nat) (hu : u + 8 * rows ≤ h.mem.size) (hv : v + 8 * nrows ≤ h.mem.size)
    (hout : out + 8 ≤ h.mem.size) (hau : out + 8 ≤ u ∨ u + 8 * rows ≤ out) (hav : out + 8 ≤ v ∨ v + 8 * nrows ≤ out) :
    Fr (In out 8) h (kProd1 c cd rows nrows out u v h) ∧
    (kProd1 c cd rows nrows out u v h).readLimb cd.dflt out 8 =
      (prod1 c rows (rdD cd h u (8 * rows)) (rdD cd h v (8 * nrows))).map cd.enc := by
  unfold kProd1 wrD
  exact wr_spec h _ cd.dflt out 8 _ (by simp)
    (by rw [guard_ok _ _ (by simp [disj_of _ _ _ _ hau, disj_of _ _ _ _ hav]), tch_ok _ _ _ (by simpa using hv),
          tch_ok _ _ _ hu])
    (by simp [size_prod1]) hout

/-- `reim4_save_1blk_to_reim`: two 4-cell stores; `g1` is the state between them -/
theorem kSave_spec (blk dst src : Nat) (hsrc : src + 8 ≤ h.mem.size)
    (h1 : dst + 4 * blk + 4 ≤ h.mem.size) (h2 : dst + c.m + 4 * blk + 4 ≤ h.mem.size)
    (ha1 : dst + 4 * blk + 4 ≤ src ∨ src + 8 ≤ dst + 4 * blk)
    (ha2 : dst + c.m + 4 * blk + 4 ≤ src ∨ src + 8 ≤ dst + c.m + 4 * blk) :
    ∃ g1 : Heap γ,
      Fr (In (dst + 4 * blk) 4) h g1 ∧
      g1.readLimb cd.dflt (dst + 4 * blk) 4 = ((rdD cd h src 8).extract 0 4).map cd.enc ∧
      Fr (In (dst + c.m + 4 * blk) 4) g1 (kSave c cd blk dst src h) ∧
      (kSave c cd blk dst src h).readLimb cd.dflt (dst + c.m + 4 * blk) 4 = ((rdD cd h src 8).extract 4 8).map cd.enc := by
  unfold kSave wrD
  have hs1 : (((rdD cd h src 8).extract 0 4).map cd.enc).size = 4 := by simp
  have hs2 : (((rdD cd h src 8).extract 4 8).map cd.enc).size = 4 := by simp
  obtain ⟨f1, v1⟩ := wr_spec h (guard (disj (dst + 4 * blk) 4 src 8 && disj (dst + c.m + 4 * blk) 4 src 8) (tch src 8 h))
    cd.dflt (dst + 4 * blk) 4 _ (by simp)
    (by rw [guard_ok _ _ (by simp [disj_of _ _ _ _ ha1, disj_of _ _ _ _ ha2]), tch_ok _ _ _ hsrc]) hs1 (by omega)
  refine ⟨_, f1, v1, ?_⟩
  exact wr_spec _ _ cd.dflt (dst + c.m + 4 * blk) 4 _ rfl rfl hs2 (by rw [f1.size]; omega)

end kernels

theorem region_step {g g' : Heap γ} (d : γ) (reg N off n : Nat) (V : Array γ)
    (f : Fr (In (reg + off) n) g g') (v : g'.readLimb d (reg + off) n = V) :
    g'.readLimb d reg N = Module.writeAt (g.readLimb d reg N) off V := by
  have hV : V.size = n := by rw [← v]; simp
  apply Array.ext
  · simp
  · intro i h1 h2
    simp only [size_readLimb] at h1
    rw [← Option.some_inj, ← Array.getElem?_eq_getElem, ← Array.getElem?_eq_getElem, writeAt_eq_writeArr, getElem?_writeArr]
    simp only [size_readLimb, hV]
    by_cases hw : off ≤ i ∧ i < off + n
    · rw [if_pos (by omega)]
      have : (g'.readLimb d (reg + off) n)[i - off]? = V[i - off]? := by rw [v]
      rw [← this, getElem?_readLimb _ _ _ _ _ h1, getElem?_readLimb _ _ _ _ _ (by omega)]
      congr 2; omega
    · rw [if_neg (by omega), getElem?_readLimb _ _ _ _ _ h1, getElem?_readLimb _ _ _ _ _ h1]
      simp only [Array.getD_eq_getD_getElem?]
      rw [f.out (reg + i) (by unfold In; omega)]

end Spq.ModuleHeap
