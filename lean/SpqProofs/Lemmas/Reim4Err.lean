/-
  The standard model of rounding and the error of one complex product term (C17, `dot_err_*`).

  `StdModel ar u`: every operation of `ar` returns the exact result with relative error at most `u`
  (for binary64 without overflow/underflow: `u = 2^-53`).  One term `fl(fl(a·c) − fl(b·d))` has relative error
  `(1+u)² − 1` with respect to `|a·c| + |b·d|` (`term_err`, `reRef_err`, `imRef_err`); the accumulated products are
  analysed on the recurrences (`VmpErrDotErr`) and read at the kernel cells in `Reim4Chain`.
-/
import SpqProofs.Lemmas.Reim4Kernels
import SpqProofs.Lemmas.Reim4Cx
import Mathlib.Tactic.Linarith
import Mathlib.Tactic.Ring
import Mathlib.Algebra.Order.Field.Basic
import Mathlib.Algebra.Order.Ring.Abs
import Mathlib.Algebra.Order.BigOperators.Group.Finset
import Mathlib.Algebra.BigOperators.Intervals
namespace Spq
variable {K : Type} [Field K] [LinearOrder K] [IsStrictOrderedRing K]

structure StdModel (ar : RArith K) (u : K) : Prop where
  u_nonneg : 0 ≤ u
  zero : ar.zero = 0
  add : ∀ a b, |ar.add a b - (a + b)| ≤ u * |a + b|
  sub : ∀ a b, |ar.sub a b - (a - b)| ≤ u * |a - b|
  mul : ∀ a b, |ar.mul a b - a * b| ≤ u * |a * b|
  fma : ∀ a b c, |ar.fma a b c - (a * b + c)| ≤ u * |a * b + c|
  fms : ∀ a b c, |ar.fms a b c - (a * b - c)| ≤ u * |a * b - c|

/-- the standard model is satisfiable: exact arithmetic, `u = 0` -/
theorem stdModel_ofRing : StdModel (RArith.ofRing K) 0 :=
  { u_nonneg := le_refl _, zero := rfl,
    add := by intro a b; simp, sub := by intro a b; simp, mul := by intro a b; simp,
    fma := by intro a b c; simp, fms := by intro a b c; simp }

namespace Reim4

/-- One rounded addition `A = fl(s + t)` of two approximations `s ≈ X`, `t ≈ x`: relative accuracy `G - 1` with respect to the
    magnitudes `M`, `m` becomes `G (1 + u) - 1` with respect to `M + m`. -/
theorem round_add_err (u G s t X x M m A : K) (hu : 0 ≤ u)
    (hs : |s - X| ≤ (G - 1) * M) (hX : |X| ≤ M) (ht : |t - x| ≤ (G - 1) * m) (hx : |x| ≤ m)
    (hA : |A - (s + t)| ≤ u * |s + t|) :
    |A - (X + x)| ≤ (G * (1 + u) - 1) * (M + m) := by
  have e1 : |s + t| ≤ |s - X| + |t - x| + M + m := by
    have : s + t = (s - X) + (t - x) + X + x := by ring
    rw [this]
    linarith [abs_add_le ((s - X) + (t - x) + X) x, abs_add_le ((s - X) + (t - x)) X, abs_add_le (s - X) (t - x)]
  have e2 : |A - (X + x)| ≤ |A - (s + t)| + (|s - X| + |t - x|) := by
    have : A - (X + x) = (A - (s + t)) + ((s - X) + (t - x)) := by ring
    rw [this]
    linarith [abs_add_le (A - (s + t)) ((s - X) + (t - x)), abs_add_le (s - X) (t - x)]
  have e3 : u * |s + t| ≤ u * (|s - X| + |t - x| + M + m) := mul_le_mul_of_nonneg_left e1 hu
  have e4 : (1 + u) * (|s - X| + |t - x|) ≤ (1 + u) * ((G - 1) * M + (G - 1) * m) :=
    mul_le_mul_of_nonneg_left (by linarith only [hs, ht]) (by linarith only [hu])
  have : (G * (1 + u) - 1) * (M + m) = (1 + u) * ((G - 1) * M + (G - 1) * m) + u * (M + m) := by ring
  rw [this]
  linarith only [e2, hA, e3, e4]

omit [IsStrictOrderedRing K] in
theorem abs_sg_mul {sg : K} (hsg : sg = 1 ∨ sg = -1) (a : K) : |sg * a| = |a| := by
  rcases hsg with h | h <;> simp [h]

/-- final combination `fl(s1 ∘ s2)` of two chains (`sg = -1`: real part, `sg = 1`: imaginary part) -/
theorem combine_err (ε G s1 s2 X1 X2 M1 M2 A sg : K) (hε : 0 ≤ ε) (hsg : sg = 1 ∨ sg = -1)
    (h1 : |s1 - X1| ≤ (G - 1) * M1) (h2 : |s2 - X2| ≤ (G - 1) * M2) (hX1 : |X1| ≤ M1) (hX2 : |X2| ≤ M2)
    (hA : |A - (s1 + sg * s2)| ≤ ε * |s1 + sg * s2|) :
    |A - (X1 + sg * X2)| ≤ (G * (1 + ε) - 1) * (M1 + M2) :=
  round_add_err ε G s1 (sg * s2) X1 (sg * X2) M1 M2 A hε h1 hX1
    (by rw [← mul_sub, abs_sg_mul hsg]; exact h2) (by rw [abs_sg_mul hsg]; exact hX2) hA

/-- one term `T = fl(fl(p·q) ∘ fl(r·s))`, `∘ ∈ {−, +}`, given as the exact combination `sg = ±1` -/
theorem term_err (u p q r s P Q T sg : K) (hu : 0 ≤ u) (hsg : sg = 1 ∨ sg = -1)
    (hP : |P - p * q| ≤ u * |p * q|) (hQ : |Q - r * s| ≤ u * |r * s|)
    (hT : |T - (P + sg * Q)| ≤ u * |P + sg * Q|) :
    |T - (p * q + sg * (r * s))| ≤ ((1 + u) ^ 2 - 1) * (|p * q| + |r * s|) ∧
    |p * q + sg * (r * s)| ≤ |p * q| + |r * s| := by
  constructor
  · have := combine_err u (1 + u) P Q (p * q) (r * s) |p * q| |r * s| T sg hu hsg
      (by simpa using hP) (by simpa using hQ) le_rfl le_rfl hT
    rwa [← sq] at this
  · calc |p * q + sg * (r * s)| ≤ |p * q| + |sg * (r * s)| := abs_add_le _ _
      _ = _ := by rw [abs_sg_mul hsg]

/-! exact real and imaginary part of the product of the complexes at `(uo, uo+4)` of `u` and `(vo, vo+4)` of `v`, and
    the magnitudes the error bounds are relative to -/
def reX (z : K) (u v : Array K) (uo vo : Nat) : K := u.getD uo z * v.getD vo z - u.getD (uo + 4) z * v.getD (vo + 4) z
def reM (z : K) (u v : Array K) (uo vo : Nat) : K := |u.getD uo z * v.getD vo z| + |u.getD (uo + 4) z * v.getD (vo + 4) z|
def imX (z : K) (u v : Array K) (uo vo : Nat) : K := u.getD uo z * v.getD (vo + 4) z + u.getD (uo + 4) z * v.getD vo z
def imM (z : K) (u v : Array K) (uo vo : Nat) : K := |u.getD uo z * v.getD (vo + 4) z| + |u.getD (uo + 4) z * v.getD vo z|

theorem reRef_err (ar : RArith K) (ε : K) (sm : StdModel ar ε) (a b c d : K) :
    |reRef ar a b c d - (a * c - b * d)| ≤ ((1 + ε) ^ 2 - 1) * (|a * c| + |b * d|) ∧ |a * c - b * d| ≤ |a * c| + |b * d| := by
  have h := term_err ε a c b d (ar.mul a c) (ar.mul b d) (reRef ar a b c d) (-1) sm.u_nonneg (Or.inr rfl)
    (sm.mul a c) (sm.mul b d)
    (by have := sm.sub (ar.mul a c) (ar.mul b d)
        have e : ar.mul a c + -1 * ar.mul b d = ar.mul a c - ar.mul b d := by ring
        rw [e]; exact this)
  have e : a * c + -1 * (b * d) = a * c - b * d := by ring
  rw [e] at h
  exact h

theorem imRef_err (ar : RArith K) (ε : K) (sm : StdModel ar ε) (a b c d : K) :
    |imRef ar a b c d - (a * d + b * c)| ≤ ((1 + ε) ^ 2 - 1) * (|a * d| + |b * c|) ∧ |a * d + b * c| ≤ |a * d| + |b * c| := by
  have h := term_err ε a d b c (ar.mul a d) (ar.mul b c) (imRef ar a b c d) 1 sm.u_nonneg (Or.inl rfl)
    (sm.mul a d) (sm.mul b c)
    (by have := sm.add (ar.mul a d) (ar.mul b c)
        rw [one_mul]; exact this)
  rw [one_mul] at h
  exact h

def fmaChain (ar : RArith K) (p q : Nat → K) : Nat → K
  | 0 => ar.zero
  | n + 1 => ar.fma (p n) (q n) (fmaChain ar p q n)

omit [Field K] [LinearOrder K] [IsStrictOrderedRing K] in
theorem mat1colAvx2_chain (ar : RArith K) (n : Nat) (u v : Array K) (l : Nat) (hl : l < 4) :
    let acc := Nat.fold n (fun i _ s => vecMat1colAvx2Step ar u v i s)
      (V4.splat ar.zero, V4.splat ar.zero, V4.splat ar.zero, V4.splat ar.zero)
    acc.1.lane l = fmaChain ar (fun i => u.getD (8 * i + l) ar.zero) (fun i => v.getD (8 * i + l) ar.zero) n ∧
    acc.2.1.lane l = fmaChain ar (fun i => u.getD (8 * i + 4 + l) ar.zero) (fun i => v.getD (8 * i + 4 + l) ar.zero) n ∧
    acc.2.2.1.lane l = fmaChain ar (fun i => u.getD (8 * i + l) ar.zero) (fun i => v.getD (8 * i + 4 + l) ar.zero) n ∧
    acc.2.2.2.lane l = fmaChain ar (fun i => u.getD (8 * i + 4 + l) ar.zero) (fun i => v.getD (8 * i + l) ar.zero) n := by
  induction n with
  | zero => simp [Nat.fold_zero, V4.lane_splat, fmaChain]
  | succ n ih =>
    simp only [Nat.fold_succ]
    generalize Nat.fold n (fun i _ s => vecMat1colAvx2Step ar u v i s)
      (V4.splat ar.zero, V4.splat ar.zero, V4.splat ar.zero, V4.splat ar.zero) = s at ih
    obtain ⟨re1, re2, im1, im2⟩ := s
    obtain ⟨h1, h2, h3, h4⟩ := ih
    simp only at h1 h2 h3 h4
    simp only [vecMat1colAvx2Step, V4.fmadd, V4.lane_map3, V4.lane_load _ _ _ _ hl, fmaChain, h1, h2, h3, h4, and_self]

end Reim4
end Spq
