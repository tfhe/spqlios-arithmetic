/-
  The "magic constant" addition: adding a constant `c` whose binade contains the exact sum `x + c` rounds
  `x` to a multiple of the unit in the last place of `c` (round-to-nearest-even), and the rounded multiple
  can be read off the fraction field of the result.
-/
import SpqProofs.Lemmas.F64Arith

namespace Spq.F64

/-- Integer core of the trick: for `|T| ≤ B·2^k` and a constant `c` with `2^52 + B ≤ c`, `c + B < 2^53`, the sum
    `V = T + c·2^k` stays in the binade of `c·2^k`, and so does its rounding to the grid `2^k`. -/
theorem magic_core (T : Int) (c B k : Nat) (hB1 : 4503599627370496 + B ≤ c) (hB2 : c + B < 9007199254740992)
    (hT : |T| ≤ (B : Int) * 2 ^ k) :
    ∃ V : Nat, (V : Int) = T + (c : Int) * 2 ^ k ∧
      4503599627370496 * 2 ^ k ≤ V ∧ V < 9007199254740992 * 2 ^ k ∧ rne V k < 9007199254740992 ∧
      2 * |(rne V k : Int) * 2 ^ k - V| ≤ 2 ^ k := by
  obtain ⟨hT1, hT2⟩ := abs_le.1 hT
  obtain ⟨P, hP⟩ : ∃ P : Nat, P = 2 ^ k := ⟨_, rfl⟩
  have hPI : (2 : Int) ^ k = (P : Int) := by rw [hP]; push_cast; rfl
  rw [hPI] at hT1 hT2
  simp only [hPI, ← hP]
  have hPpos : 0 < P := by rw [hP]; positivity
  have h1 : ((4503599627370496 + B : Nat) : Int) * P ≤ (c : Int) * P := by
    exact_mod_cast Nat.mul_le_mul_right P hB1
  have h2 : ((c + B + 1 : Nat) : Int) * P ≤ ((9007199254740992 : Nat) : Int) * P := by
    exact_mod_cast Nat.mul_le_mul_right P (show c + B + 1 ≤ 9007199254740992 by omega)
  push_cast at h1 h2
  have hPI0 : (0 : Int) < P := by exact_mod_cast hPpos
  obtain ⟨V, hV⟩ : ∃ V : Nat, (V : Int) = T + (c : Int) * P := ⟨(T + (c : Int) * P).toNat, by
    rw [Int.toNat_of_nonneg]; linarith⟩
  have hlo : 4503599627370496 * P ≤ V := by
    have : ((4503599627370496 * P : Nat) : Int) ≤ V := by push_cast; linarith
    exact_mod_cast this
  have hle : V ≤ 9007199254740991 * P := by
    have : (V : Int) ≤ ((9007199254740991 * P : Nat) : Int) := by push_cast; linarith
    exact_mod_cast this
  refine ⟨V, hV, hlo, by omega, ?_, ?_⟩
  · have := rne_le (hP ▸ hle)
    omega
  · exact hPI ▸ rne_err_abs V k

/-- Adding `c = mc·2^ec > 0` to any `x` with `|x| ≤ B·ulp(c)`, `2^52 + B ≤ mc`, `mc + B < 2^53`: the sum is in the binade
    of `c`, so the result has the exponent field of `c` and its significand `q` is `mc + n`, `n` = `x/ulp(c)` rounded to
    nearest (ties to even); `q − 2^52` can be read off the fraction field.  Values in units of 2^-1074, where
    `ulp(c) = 2^(ec+1074)`. -/
theorem add_magic_val {x c : Nat} {mc : Nat} {ec : Int} (hc : decode c = ⟨false, mc, ec⟩)
    (B : Nat) (hB1 : 4503599627370496 + B ≤ mc) (hB2 : mc + B < 9007199254740992) (hec1 : ec ≤ 971)
    (hdom : |toScaled x| ≤ (B : Int) * 2 ^ ((ec + 1074).toNat)) :
    ∃ q : Nat, 4503599627370496 ≤ q ∧ q < 9007199254740992 ∧
      add x c = (ec + 1075).toNat * 4503599627370496 + (q - 4503599627370496) ∧
      2 * |((q : Int) - mc) * 2 ^ ((ec + 1074).toNat) - toScaled x| ≤ 2 ^ ((ec + 1074).toNat) := by
  have hec0 : -1074 ≤ ec := by have := decode_e_ge c; rw [hc] at this; exact this
  have hex0 := decode_e_ge x
  -- common exponent `e`, `x = T·W`, `ulp(c) = 2^k2·W` with `W = 2^(e+1074)`; `W` cancels and `magic_core` applies
  obtain ⟨e, he⟩ : ∃ e, e = min (decode x).e ec := ⟨_, rfl⟩
  obtain ⟨k1, hk1⟩ : ∃ k1 : Nat, (decode x).e = e + k1 := ⟨((decode x).e - e).toNat, by omega⟩
  obtain ⟨k2, hk2⟩ : ∃ k2 : Nat, ec = e + k2 := ⟨(ec - e).toNat, by omega⟩
  obtain ⟨W, hW⟩ : ∃ W : Int, W = 2 ^ ((e + 1074).toNat) := ⟨_, rfl⟩
  have hWpos : 0 < W := by rw [hW]; positivity
  have hxs : toScaled x = sI (decode x).neg (decode x).m * 2 ^ k1 * W :=
    hW ▸ toScaled_split (decode_eta x) e k1 hk1 (by omega)
  have hu : (2 : Int) ^ ((ec + 1074).toNat) = 2 ^ k2 * W := by
    rw [hW, ← pow_add]; congr 1; omega
  rw [hu, hxs] at hdom ⊢
  have hT : |sI (decode x).neg (decode x).m * 2 ^ k1| ≤ (B : Int) * 2 ^ k2 := by
    rw [abs_mul, abs_of_pos hWpos, ← mul_assoc] at hdom
    exact le_of_mul_le_mul_right hdom hWpos
  obtain ⟨V, hV, hlo, hhi, hq, herr⟩ := magic_core _ mc B k2 hB1 hB2 hT
  have hVpos : 0 < (V : Int) := by
    have : 0 < V := lt_of_lt_of_le (by positivity) hlo
    exact_mod_cast this
  refine ⟨rne V k2, (rne_range hlo hhi).1, hq, ?_, ?_⟩
  · have hadd : add x c = pack false V e := by
      rw [add_of_decode (decode_eta x) hc, ← he]
      have h1 : ((decode x).e - e).toNat = k1 := by omega
      have h2 : (ec - e).toNat = k2 := by omega
      rw [h1, h2, show sI false mc = (mc : Int) from rfl, ← hV, packSigned_pos hVpos, Int.toNat_natCast]
    rw [hadd, pack_round false V e k2 hlo hhi (by omega),
      encode_normal false _ _ (rne_range hlo hhi).1 hq (by omega), show e + (k2 : Int) = ec by omega]
    simp [sgn]
  · have hrw : ((rne V k2 : Int) - mc) * (2 ^ k2 * W) - sI (decode x).neg (decode x).m * 2 ^ k1 * W
        = ((rne V k2 : Int) * 2 ^ k2 - V) * W := by rw [hV]; ring
    rw [hrw, abs_mul, abs_of_pos hWpos, ← mul_assoc]
    exact mul_le_mul_of_nonneg_right herr hWpos.le

end Spq.F64
