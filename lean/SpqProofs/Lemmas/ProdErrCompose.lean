/-
  C01 rounding budget: the error sources of ONE product row in DFT space, over abstract sequences.  Exact transforms `Ā, B̄`
  (`‖Ā‖₂² ≤ na²·M`, `|Ā_j| ≤ la`: 2-norm and 1-norm of the coefficients, `M` points), computed operands with ABSOLUTE 2-norm
  errors `da·√M`, `db·√M`, pointwise product of relative error `μ` per cell.  With `S = la·nb + na·lb`: `‖Ā∘B̄‖₂ ≤ (S/2)·√M`
  and `‖Ĉ − Ā∘B̄‖₂ ≤ rowF·√M`, `rowF = μ·(S/2 + rowD) + rowD` (`t² ≥ M` only enters the second-order term `da·db·t` of `rowD`).
  For operands with a RELATIVE error `ε` (transforms of integer inputs) `rowF ≤ fB ε μ (ε·t)·S` (`rowF_rel_le` of `ErrBudget`).
-/
import SpqProofs.Lemmas.FftErrNorm
namespace Spq.ProdErr
open Finset Spq.FftErr
variable {K : Type} [Field K] [LinearOrder K] [IsStrictOrderedRing K]

/-- relative error of `Â∘B̂` against `Ā∘B̄` -/
def dB (ε θ : K) : K := ε * (1 + θ)
/-- relative error of the computed pointwise product -/
def fB (ε μ θ : K) : K := μ * (1 / 2 + dB ε θ) + dB ε θ
/-- relative error (w.r.t. `S`) of the whole pipeline after the inverse transform -/
def eB (ε μ θ : K) : K := ε * (1 / 2 + fB ε μ θ) + fB ε μ θ

theorem dB_nonneg {ε θ : K} (h1 : 0 ≤ ε) (h2 : 0 ≤ θ) : 0 ≤ dB ε θ := by unfold dB; positivity
theorem fB_nonneg {ε μ θ : K} (h1 : 0 ≤ ε) (h2 : 0 ≤ μ) (h3 : 0 ≤ θ) : 0 ≤ fB ε μ θ := by
  unfold fB; have := dB_nonneg h1 h3; positivity
theorem eB_nonneg {ε μ θ : K} (h1 : 0 ≤ ε) (h2 : 0 ≤ μ) (h3 : 0 ≤ θ) : 0 ≤ eB ε μ θ := by
  unfold eB; have := fB_nonneg h1 h2 h3; positivity

theorem sq_scale_mono {α β Y : K} (h0 : 0 ≤ α) (h : α ≤ β) (hY : 0 ≤ Y) : α ^ 2 * Y ≤ β ^ 2 * Y :=
  mul_le_mul_of_nonneg_right (pow_le_pow_left₀ h0 h 2) hY

theorem sum_mul_le (s : Finset ℕ) (f g : ℕ → Cplx K) (c : K) (hf : ∀ j ∈ s, nsq (f j) ≤ c ^ 2) :
    ∑ j ∈ s, nsq (f j * g j) ≤ c ^ 2 * ∑ j ∈ s, nsq (g j) := by
  rw [mul_sum]
  apply sum_le_sum
  intro j hj
  rw [nsq_mul]
  exact mul_le_mul_of_nonneg_right (hf j hj) (nsq_nonneg _)

theorem sq_chain {X Y ε n M : K} (h : X ≤ ε ^ 2 * Y) (hY : Y ≤ n ^ 2 * M) : X ≤ (ε * n) ^ 2 * M := by
  rw [mul_pow, mul_assoc]
  exact le_trans h (mul_le_mul_of_nonneg_left hY (sq_nonneg ε))

end Spq.ProdErr
namespace Spq.ProgErr2
variable {K : Type} [Field K] [LinearOrder K] [IsStrictOrderedRing K]

/-- error of `Â∘B̂` against `Ā∘B̄` (per `√M`) -/
def rowD (da db la lb t : K) : K := da * (lb + db * t) + la * db
/-- error of the computed product row against `Ā∘B̄` (per `√M`) -/
def rowF (μ da db na nb la lb t : K) : K := μ * ((la * nb + na * lb) / 2 + rowD da db la lb t) + rowD da db la lb t

theorem rowD_nonneg {da db la lb t : K} (h1 : 0 ≤ da) (h2 : 0 ≤ db) (h3 : 0 ≤ la) (h4 : 0 ≤ lb) (h5 : 0 ≤ t) :
    0 ≤ rowD da db la lb t := by unfold rowD; positivity

theorem rowF_nonneg {μ da db na nb la lb t : K} (h0 : 0 ≤ μ) (h1 : 0 ≤ da) (h2 : 0 ≤ db) (hna : 0 ≤ na) (hnb : 0 ≤ nb)
    (h3 : 0 ≤ la) (h4 : 0 ≤ lb) (h5 : 0 ≤ t) : 0 ≤ rowF μ da db na nb la lb t := by
  unfold rowF
  have := rowD_nonneg h1 h2 h3 h4 h5
  positivity

end Spq.ProgErr2
namespace Spq.ProdErr
open Finset Spq.FftErr Spq.ProgErr2
variable {K : Type} [Field K] [LinearOrder K] [IsStrictOrderedRing K]

/-- 2-norm of one factor times sup-norm of the other, whichever way is smaller -/
theorem dft_prod_size (s : Finset ℕ) (Ab Bb : ℕ → Cplx K) (na nb la lb M : K)
    (hna : 0 ≤ na) (hnb : 0 ≤ nb) (hla : 0 ≤ la) (hlb : 0 ≤ lb) (hM : 0 ≤ M)
    (hAn : ∑ j ∈ s, nsq (Ab j) ≤ na ^ 2 * M) (hAs : ∀ j ∈ s, nsq (Ab j) ≤ la ^ 2)
    (hBn : ∑ j ∈ s, nsq (Bb j) ≤ nb ^ 2 * M) (hBs : ∀ j ∈ s, nsq (Bb j) ≤ lb ^ 2) :
    ∑ j ∈ s, nsq (Ab j * Bb j) ≤ ((la * nb + na * lb) / 2) ^ 2 * M := by
  have hC1 := sq_chain (sum_mul_le s Ab Bb _ hAs) hBn
  have hC2 := sq_chain (sum_mul_le s Bb Ab _ hBs) hAn
  simp only [mul_comm (Bb _) (Ab _)] at hC2
  rcases le_total (la * nb) (na * lb) with h | h
  · exact le_trans hC1 (sq_scale_mono (mul_nonneg hla hnb) (by linarith) hM)
  · exact le_trans hC2 (sq_scale_mono (mul_nonneg hlb hna) (by linarith) hM)

theorem dft_prod_abs (s : Finset ℕ) (Ab Bb Ah Bh Ch : ℕ → Cplx K) (μ da db na nb la lb M t : K)
    (hμ : 0 ≤ μ) (hda : 0 ≤ da) (hdb : 0 ≤ db) (hna : 0 ≤ na) (hnb : 0 ≤ nb) (hla : 0 ≤ la) (hlb : 0 ≤ lb)
    (hM : 0 ≤ M) (ht : 0 ≤ t) (hMt : M ≤ t ^ 2)
    (hA : ∑ j ∈ s, nsq (Ah j - Ab j) ≤ da ^ 2 * M)
    (hAn : ∑ j ∈ s, nsq (Ab j) ≤ na ^ 2 * M) (hAs : ∀ j ∈ s, nsq (Ab j) ≤ la ^ 2)
    (hB : ∑ j ∈ s, nsq (Bh j - Bb j) ≤ db ^ 2 * M)
    (hBn : ∑ j ∈ s, nsq (Bb j) ≤ nb ^ 2 * M) (hBs : ∀ j ∈ s, nsq (Bb j) ≤ lb ^ 2)
    (hC : ∀ j ∈ s, nsq (Ch j - Ah j * Bh j) ≤ μ ^ 2 * (nsq (Ah j) * nsq (Bh j))) :
    ∑ j ∈ s, nsq (Ch j - Ab j * Bb j) ≤ rowF μ da db na nb la lb t ^ 2 * M := by
  unfold rowF rowD
  obtain ⟨S, hS⟩ : ∃ S, S = la * nb + na * lb := ⟨_, rfl⟩
  obtain ⟨D, hD⟩ : ∃ D, D = da * (lb + db * t) + la * db := ⟨_, rfl⟩
  rw [← hS, ← hD]
  have hS0 : 0 ≤ S := by rw [hS]; exact add_nonneg (mul_nonneg hla hnb) (mul_nonneg hna hlb)
  have hlt : 0 ≤ lb + db * t := add_nonneg hlb (mul_nonneg hdb ht)
  have hD0 : 0 ≤ D := by rw [hD]; exact add_nonneg (mul_nonneg hda hlt) (mul_nonneg hla hdb)
  have supB : ∀ j ∈ s, nsq (Bh j) ≤ (lb + db * t) ^ 2 := by
    intro j hj
    have h1 : nsq (Bh j - Bb j) ≤ ∑ j ∈ s, nsq (Bh j - Bb j) :=
      single_le_sum (f := fun j => nsq (Bh j - Bb j)) (fun i _ => nsq_nonneg _) hj
    have h2 : db ^ 2 * M ≤ (db * t) ^ 2 := by
      rw [mul_pow]; exact mul_le_mul_of_nonneg_left hMt (sq_nonneg db)
    have := one_tri (Bb j) (Bh j - Bb j) lb (db * t) 1 hlb (mul_nonneg hdb ht)
      (by rw [mul_one]; exact hBs j hj) (by rw [mul_one]; exact le_trans h1 (le_trans hB h2))
    rw [show Bb j + (Bh j - Bb j) = Bh j by ring, mul_one] at this
    exact this
  have T1 : ∑ j ∈ s, nsq (Bh j * (Ah j - Ab j)) ≤ (da * (lb + db * t)) ^ 2 * M := by
    rw [mul_comm da]; exact sq_chain (sum_mul_le s Bh (fun j => Ah j - Ab j) _ supB) hA
  have T2 := sq_chain (sum_mul_le s Ab (fun j => Bh j - Bb j) _ hAs) hB
  have hDD : ∑ j ∈ s, nsq (Ah j * Bh j - Ab j * Bb j) ≤ D ^ 2 * M := by
    have := sum_tri s (fun j => Bh j * (Ah j - Ab j)) (fun j => Ab j * (Bh j - Bb j)) _ _ M (mul_nonneg hda hlt)
      (mul_nonneg hla hdb) T1 T2
    have e : ∀ j, Bh j * (Ah j - Ab j) + Ab j * (Bh j - Bb j) = Ah j * Bh j - Ab j * Bb j := fun j => by ring
    simp only [e] at this
    rw [hD]; exact this
  have hCS : ∑ j ∈ s, nsq (Ab j * Bb j) ≤ (S / 2) ^ 2 * M := by
    rw [hS]; exact dft_prod_size s Ab Bb na nb la lb M hna hnb hla hlb hM hAn hAs hBn hBs
  have hS2 : 0 ≤ S / 2 := by linarith
  have hAB : ∑ j ∈ s, nsq (Ah j * Bh j) ≤ (S / 2 + D) ^ 2 * M := by
    have := sum_tri s (fun j => Ab j * Bb j) (fun j => Ah j * Bh j - Ab j * Bb j) _ _ M hS2 hD0 hCS hDD
    simp only [add_sub_cancel] at this
    exact this
  have hF : ∑ j ∈ s, nsq (Ch j - Ah j * Bh j) ≤ (μ * (S / 2 + D)) ^ 2 * M := by
    refine sq_chain ?_ hAB
    rw [mul_sum]
    exact sum_le_sum (fun j hj => by rw [nsq_mul]; exact hC j hj)
  have := sum_tri s (fun j => Ch j - Ah j * Bh j) (fun j => Ah j * Bh j - Ab j * Bb j) _ _ M
    (mul_nonneg hμ (add_nonneg hS2 hD0)) hD0 hF hDD
  simp only [sub_add_sub_cancel] at this
  exact this

end Spq.ProdErr
