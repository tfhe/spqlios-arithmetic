/-
  No-overflow from a magnitude box: the accumulation recurrences of `VmpErrDot.lean` on the bound arithmetic.
  Row data bounded by `Ua` (vector) and `Ub` (matrix), `P = Ua·Ub`, `n` rows: every accumulation order has bound-flag
  `True` and bound `≤ 32·P·(n+1)` provided `(1+u)^(2n) ≤ 4` and `32·P·(n+1) < 2^1023` (an FMA chain alone: `12·P·(n+1)`).
  For the bound only how much a step adds and how often it rounds matters (`AccStep`: at most `3P`, at most twice), so the
  four orders share one induction (`acc_bd`) and differ in the proof that their step has that shape.
-/
import SpqProofs.Lemmas.VmpErrOvf6
import SpqProofs.Lemmas.VmpErrDot
namespace Spq.VmpErr
open Spq Spq.F64 Spq.Reim4

theorem bd_addk {U1 U2 : ℚ} {x y : ℚ × Prop} (hx : Bd U1 x) (hy : Bd U2 y) (hlt : U1 + U2 < Tov) :
    Bd ((U1 + U2) * kap) (arithB.add x y) ∧ Bd ((U1 + U2) * kap) (arithB.sub x y) := by
  obtain ⟨p1, n1, b1⟩ := hx
  obtain ⟨p2, n2, b2⟩ := hy
  have a : Bd ((U1 + U2) * kap) (((x.1 + y.1) * kap, x.2 ∧ y.2 ∧ x.1 + y.1 < Tov) : ℚ × Prop) :=
    ⟨⟨p1, p2, by linarith⟩, mul_nonneg (add_nonneg n1 n2) (le_of_lt kap_pos),
      mul_le_mul_of_nonneg_right (add_le_add b1 b2) (le_of_lt kap_pos)⟩
  exact ⟨a, a⟩

theorem bd_fmak {U1 U2 U3 : ℚ} {x y z : ℚ × Prop} (hx : Bd U1 x) (hy : Bd U2 y) (hz : Bd U3 z)
    (hlt : U1 * U2 + U3 < Tov) :
    Bd ((U1 * U2 + U3) * kap) (arithB.fma x y z) ∧ Bd ((U1 * U2 + U3) * kap) (arithB.fms x y z) := by
  obtain ⟨p1, n1, b1⟩ := hx
  obtain ⟨p2, n2, b2⟩ := hy
  obtain ⟨p3, n3, b3⟩ := hz
  have h1 : x.1 * y.1 ≤ U1 * U2 := mul_le_mul b1 b2 n2 (le_trans n1 b1)
  have a : Bd ((U1 * U2 + U3) * kap) (((x.1 * y.1 + z.1) * kap, x.2 ∧ y.2 ∧ z.2 ∧ x.1 * y.1 + z.1 < Tov) : ℚ × Prop) :=
    ⟨⟨p1, p2, p3, by linarith⟩, mul_nonneg (add_nonneg (mul_nonneg n1 n2) n3) (le_of_lt kap_pos),
      mul_le_mul_of_nonneg_right (add_le_add h1 b3) (le_of_lt kap_pos)⟩
  exact ⟨a, a⟩

/-- the closed form of the bound after `i` rows -/
def accB (P : ℚ) (c0 i : ℕ) : ℚ := 3 * P * ((i : ℚ) + c0) * kap ^ (2 * i)

theorem accB_nonneg (P : ℚ) (hP : 0 ≤ P) (c0 i : ℕ) : 0 ≤ accB P c0 i := by
  unfold accB
  have := kap_pos
  positivity

theorem acc_step (P : ℚ) (hP : 0 ≤ P) (c0 i : ℕ) (U t : ℚ) (hU : U ≤ accB P c0 i) (ht : t ≤ 3 * P) :
    U + t ≤ 3 * P * ((i : ℚ) + 1 + c0) * kap ^ (2 * i) ∧
    (U + t) * kap ≤ accB P c0 (i + 1) ∧ (U + t) * kap * kap ≤ accB P c0 (i + 1) := by
  have hk1 := kap_ge
  have hG : (1 : ℚ) ≤ kap ^ (2 * i) := one_le_pow₀ hk1
  have h1 : U + t ≤ 3 * P * ((i : ℚ) + 1 + c0) * kap ^ (2 * i) := by
    unfold accB at hU
    have : t ≤ 3 * P * kap ^ (2 * i) := le_trans ht (le_mul_of_one_le_right (by positivity) hG)
    linarith
  have e : accB P c0 (i + 1) = 3 * P * ((i : ℚ) + 1 + c0) * kap ^ (2 * i) * kap * kap := by
    unfold accB
    rw [show 2 * (i + 1) = 2 * i + 1 + 1 by ring, pow_succ, pow_succ]
    push_cast; ring
  have h0 : 0 ≤ 3 * P * ((i : ℚ) + 1 + c0) * kap ^ (2 * i) := by
    have := kap_pos; positivity
  refine ⟨h1, ?_, ?_⟩
  · rw [e]
    have a1 : (U + t) * kap ≤ 3 * P * ((i : ℚ) + 1 + c0) * kap ^ (2 * i) * kap :=
      mul_le_mul_of_nonneg_right h1 (le_of_lt kap_pos)
    have a2 : 3 * P * ((i : ℚ) + 1 + c0) * kap ^ (2 * i) * kap ≤ 3 * P * ((i : ℚ) + 1 + c0) * kap ^ (2 * i) * kap * kap := by
      have : 0 ≤ 3 * P * ((i : ℚ) + 1 + c0) * kap ^ (2 * i) * kap := mul_nonneg h0 (le_of_lt kap_pos)
      exact le_mul_of_one_le_right this hk1
    linarith
  · rw [e]
    exact mul_le_mul_of_nonneg_right (mul_le_mul_of_nonneg_right h1 (le_of_lt kap_pos)) (le_of_lt kap_pos)

theorem accB_le (P : ℚ) (hP : 0 ≤ P) (c0 j i n : ℕ) (hjn : j ≤ n) (hin : i ≤ n) (hκ : kap ^ (2 * n) ≤ 4) :
    3 * P * ((j : ℚ) + c0) * kap ^ (2 * i) ≤ 12 * P * ((n : ℚ) + c0) := by
  have hG : kap ^ (2 * i) ≤ 4 := le_trans (pow_le_pow_right₀ kap_ge (by omega)) hκ
  have h1 : (j : ℚ) ≤ n := by exact_mod_cast hjn
  have hc0 : (0 : ℚ) ≤ (c0 : ℚ) := Nat.cast_nonneg c0
  have hj0 : (0 : ℚ) ≤ (j : ℚ) := Nat.cast_nonneg j
  have h2 : (0 : ℚ) ≤ 3 * P * ((j : ℚ) + c0) := by positivity
  have h4 : 3 * P * ((j : ℚ) + c0) * kap ^ (2 * i) ≤ 3 * P * ((j : ℚ) + c0) * 4 := mul_le_mul_of_nonneg_left hG h2
  have h5 : 3 * P * ((j : ℚ) + c0) * 4 ≤ 12 * P * ((n : ℚ) + c0) := by
    have := mul_le_mul_of_nonneg_left h1 hP
    linarith
  linarith

/-- the shape of one accumulation step on the bound arithmetic: it adds at most `3P` and rounds at most twice -/
def AccStep (P : ℚ) (x y : ℚ × Prop) : Prop :=
  ∀ S, Bd S x → 2 * (S + 3 * P) < Tov → Bd ((S + 3 * P) * kap * kap) y

theorem acc_bd (P : ℚ) (hP : 0 ≤ P) (c0 n : ℕ) (hκ : kap ^ (2 * n) ≤ 4) (hT : 24 * P * ((n : ℚ) + c0) < Tov)
    (s : ℕ → ℚ × Prop) (h0 : Bd (accB P c0 0) (s 0)) (hs : ∀ i, i < n → AccStep P (s i) (s (i + 1))) :
    ∀ i, i ≤ n → Bd (accB P c0 i) (s i) := by
  intro i
  induction i with
  | zero => exact fun _ => h0
  | succ i ih =>
    intro hi
    obtain ⟨s1, _, s3⟩ := acc_step P hP c0 i (accB P c0 i) (3 * P) (le_refl _) (le_refl _)
    have b1 := accB_le P hP c0 (i + 1) i n (by omega) (by omega) hκ
    push_cast at b1 s1
    exact (hs i (by omega) _ (ih (by omega)) (by linarith)).mono s3

theorem Bd.nn {U : ℚ} {x : ℚ × Prop} (h : Bd U x) : 0 ≤ U := le_trans h.2.1 h.2.2

/-- `ref`, `sm`: one rounded addition of a product term `≤ 3P` -/
theorem step_add {P : ℚ} {x t : ℚ × Prop} (ht : Bd (3 * P) t) : AccStep P x (arithB.add x t) := fun S hx hg =>
  ((bd_addk hx ht (by linarith [hx.nn, ht.nn])).1).mono
    (le_mul_of_one_le_right (mul_nonneg (by linarith [hx.nn, ht.nn]) (le_of_lt kap_pos)) kap_ge)

/-- an FMA chain: one fused step -/
theorem step_fma {Ua Ub : ℚ} {x p q : ℚ × Prop} (hp : Bd Ua p) (hq : Bd Ub q) : AccStep (Ua * Ub) x (arithB.fma p q x) := by
  intro S hx hg
  have hP : 0 ≤ Ua * Ub := mul_nonneg hp.nn hq.nn
  have hk := kap_pos
  have h1 : (Ua * Ub + S) * kap ≤ (S + 3 * (Ua * Ub)) * kap := mul_le_mul_of_nonneg_right (by linarith) (le_of_lt hk)
  exact ((bd_fmak hp hq hx (by linarith [hx.nn])).1).mono
    (le_trans h1 (le_mul_of_one_le_right (mul_nonneg (by linarith [hx.nn]) (le_of_lt hk)) kap_ge))

/-- `av2`: two fused steps, `≤ 2P` added -/
theorem step_fma2 {Ua Ub : ℚ} {x p q p' q' : ℚ × Prop} (hp : Bd Ua p) (hq : Bd Ub q) (hp' : Bd Ua p') (hq' : Bd Ub q') :
    AccStep (Ua * Ub) x (arithB.fms p q (arithB.fms p' q' x)) ∧ AccStep (Ua * Ub) x (arithB.fma p q (arithB.fma p' q' x)) := by
  have hP : 0 ≤ Ua * Ub := mul_nonneg hp.nn hq.nn
  have hk := kap_pos
  have hk2 := kap_le
  have key : ∀ S, 0 ≤ S → 2 * (S + 3 * (Ua * Ub)) < Tov →
      Ua * Ub + S < Tov ∧ Ua * Ub + (Ua * Ub + S) * kap < Tov ∧
      (Ua * Ub + (Ua * Ub + S) * kap) * kap ≤ (S + 3 * (Ua * Ub)) * kap * kap := by
    intro S hS hg
    have : (Ua * Ub + S) * kap ≤ (Ua * Ub + S) * (9 / 8) := mul_le_mul_of_nonneg_left hk2 (by linarith)
    have h3 : Ua * Ub ≤ Ua * Ub * kap := le_mul_of_one_le_right hP kap_ge
    refine ⟨by linarith, by linarith, mul_le_mul_of_nonneg_right ?_ (le_of_lt hk)⟩
    have : (S + 3 * (Ua * Ub)) * kap = (Ua * Ub + S) * kap + 2 * (Ua * Ub * kap) := by ring
    linarith
  constructor
  · intro S hx hg
    obtain ⟨g1, g2, g3⟩ := key S hx.nn hg
    exact ((bd_fmak hp hq (bd_fmak hp' hq' hx g1).2 g2).2).mono g3
  · intro S hx hg
    obtain ⟨g1, g2, g3⟩ := key S hx.nn hg
    exact ((bd_fmak hp hq (bd_fmak hp' hq' hx g1).1 g2).1).mono g3

section
variable (a b c d : ℕ → ℚ × Prop) (Ua Ub : ℚ) (hUa : 0 ≤ Ua) (hUb : 0 ≤ Ub)
  (ha : ∀ i, Bd Ua (a i)) (hb : ∀ i, Bd Ua (b i)) (hc : ∀ i, Bd Ub (c i)) (hd : ∀ i, Bd Ub (d i))
include hUa hUb ha hb hc hd

theorem dot_bd (Kd : DotK) (n : ℕ) (hn : Kd = .sm → 1 ≤ n) (hκ : kap ^ (2 * n) ≤ 4)
    (hT : 32 * (Ua * Ub) * ((n : ℚ) + 1) < Tov) :
    Bd (32 * (Ua * Ub) * ((n : ℚ) + 1)) (dotRe arithB Kd a b c d n) ∧
    Bd (32 * (Ua * Ub) * ((n : ℚ) + 1)) (dotIm arithB Kd a b c d n) := by
  have hP : 0 ≤ Ua * Ub := mul_nonneg hUa hUb
  have hPn : 0 ≤ Ua * Ub * (n : ℚ) := mul_nonneg hP (Nat.cast_nonneg n)
  have hT3 : 3 * (Ua * Ub) < Tov := lt_of_le_of_lt (by linarith) hT
  have cell := fun i => cell_bd false Ua Ub hUa hUb hT3 _ _ _ _ (ha i) (hb i) (hc i) (hd i)
  have z : Bd (accB (Ua * Ub) 0 0) ((0, True) : ℚ × Prop) := ⟨trivial, le_refl _, accB_nonneg _ hP 0 0⟩
  have hT0 : 24 * (Ua * Ub) * ((n : ℚ) + (0 : ℕ)) < Tov := by push_cast; linarith
  have fin : ∀ c0 m : ℕ, m + c0 ≤ n + 1 → kap ^ (2 * m) ≤ 4 → accB (Ua * Ub) c0 m ≤ 12 * (Ua * Ub) * ((n : ℚ) + 1) := by
    intro c0 m hm hκm
    have h1 := accB_le (Ua * Ub) hP c0 m m m (le_refl _) (le_refl _) hκm
    have h2 : ((m : ℚ) + c0) ≤ (n : ℚ) + 1 := by exact_mod_cast hm
    have := mul_le_mul_of_nonneg_left h2 hP
    unfold accB; linarith
  have run := fun (s : ℕ → ℚ × Prop) (h0 : Bd (accB (Ua * Ub) 0 0) (s 0)) (hs : ∀ i, i < n → AccStep (Ua * Ub) (s i) (s (i + 1))) =>
    acc_bd (Ua * Ub) hP 0 n hκ hT0 s h0 hs n (le_refl _)
  have f0 := fin 0 n (by omega) hκ
  cases Kd with
  | ref =>
    exact ⟨(run (refRe arithB a b c d) z fun i _ => step_add (cell i).1).mono (by linarith),
      (run (refIm arithB a b c d) z fun i _ => step_add (cell i).2).mono (by linarith)⟩
  | av1 =>
    have ch := fun (p q : ℕ → ℚ × Prop) (hp : ∀ i, Bd Ua (p i)) (hq : ∀ i, Bd Ub (q i)) =>
      run (fmaChain arithB p q) z fun i _ => step_fma (hp i) (hq i)
    have hS0 := accB_nonneg (Ua * Ub) hP 0 n
    have hfin : (accB (Ua * Ub) 0 n + accB (Ua * Ub) 0 n) * kap ≤ 32 * (Ua * Ub) * ((n : ℚ) + 1) :=
      scale_le (by linarith) (by linarith)
    have hlt : accB (Ua * Ub) 0 n + accB (Ua * Ub) 0 n < Tov := lt_of_le_of_lt (by linarith) hT
    exact ⟨((bd_addk (ch a c ha hc) (ch b d hb hd) hlt).2).mono hfin, ((bd_addk (ch a d ha hd) (ch b c hb hc) hlt).1).mono hfin⟩
  | av2 =>
    exact ⟨(run (av2Re arithB a b c d) z fun i _ => (step_fma2 (ha i) (hc i) (hb i) (hd i)).1).mono (by linarith),
      (run (av2Im arithB a b c d) z fun i _ => (step_fma2 (hb i) (hc i) (ha i) (hd i)).2).mono (by linarith)⟩
  | sm =>
    obtain ⟨k, rfl⟩ : ∃ k, n = k + 1 := ⟨n - 1, by have := hn rfl; omega⟩
    have hκ' : kap ^ (2 * k) ≤ 4 := le_trans (pow_le_pow_right₀ kap_ge (by omega)) hκ
    have e : accB (Ua * Ub) 1 0 = 3 * (Ua * Ub) := by unfold accB; simp
    have hT1 : 24 * (Ua * Ub) * ((k : ℚ) + (1 : ℕ)) < Tov := by push_cast at hT ⊢; linarith
    have f1 := fin 1 k (by omega) hκ'
    simp only [dotRe, dotIm, Nat.add_sub_cancel]
    exact ⟨(acc_bd (Ua * Ub) hP 1 k hκ' hT1 (smRe arithB a b c d) (by rw [e]; exact (cell 0).1)
        (fun i _ => step_add (cell (i + 1)).1) k (le_refl _)).mono (by linarith),
      (acc_bd (Ua * Ub) hP 1 k hκ' hT1 (smIm arithB a b c d) (by rw [e]; exact (cell 0).2)
        (fun i _ => step_add (cell (i + 1)).2) k (le_refl _)).mono (by linarith)⟩

end

end Spq.VmpErr
