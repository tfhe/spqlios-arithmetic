/-
  Array lemmas for the module-level pipelines: `writeAt`, range folds with an invariant (indexed by the
  counter, or by the set of things done so far: `fold_sets`), stores of final values into a zero array (`CellInv`)
  and the cells of a `Tiles` layout (`tileV`).
-/
import Spq.Module
import SpqProofs.Lemmas.Reim4Base
import SpqProofs.Lemmas.Tiles
namespace Spq.Module
open Spq ModuleHeap
variable {α : Type}

/-- `writeAt` is `Heap.writeArr` written a second time in the model: its facts are those of `Lemmas/Heap`, read through `getD` -/
theorem writeAt_eq_writeArr (dst : Array α) (off : Nat) (src : Array α) : writeAt dst off src = Heap.writeArr dst off src := rfl

@[simp] theorem size_writeAt (dst : Array α) (off : Nat) (src : Array α) : (writeAt dst off src).size = dst.size :=
  Heap.size_writeArr dst off src

theorem writeAt_spec (dst : Array α) (off : Nat) (src : Array α) (z : α) :
    (writeAt dst off src).size = dst.size ∧
    ∀ x, (writeAt dst off src).getD x z =
      if off ≤ x ∧ x < off + src.size ∧ x < dst.size then src.getD (x - off) z else dst.getD x z := by
  refine ⟨size_writeAt dst off src, fun x => ?_⟩
  simp only [writeAt_eq_writeArr, Array.getD_eq_getD_getElem?, Heap.getElem?_writeArr]
  split <;> rfl

theorem getD_writeAt_in (dst : Array α) (off : Nat) (src : Array α) (z : α) (k : Nat)
    (hk : k < src.size) (hb : off + src.size ≤ dst.size) : (writeAt dst off src).getD (off + k) z = src.getD k z := by
  rw [(writeAt_spec dst off src z).2, if_pos (by omega)]
  congr 1; omega

theorem getD_writeAt_out (dst : Array α) (off : Nat) (src : Array α) (z : α) (x : Nat)
    (hx : x < off ∨ off + src.size ≤ x) : (writeAt dst off src).getD x z = dst.getD x z := by
  rw [(writeAt_spec dst off src z).2, if_neg (by omega)]

theorem foldl_range_inv {β : Type} (P : Nat → β → Prop) (f : β → Nat → β) (n : Nat) (b : β)
    (h0 : P 0 b) (hs : ∀ i b, i < n → P i b → P (i + 1) (f b i)) : P n ((List.range n).foldl f b) := by
  induction n with
  | zero => exact h0
  | succ n ih =>
    rw [List.range_succ, List.foldl_append]
    exact hs n _ (by omega) (ih (fun i b hi => hs i b (by omega)))

/-- a range fold, for a relation indexed by the set of things done so far: iteration `i` adds `S i`, and may use
    that only `T0` and the sets of the iterations before it have been added.  Loops nest. -/
theorem fold_sets {ι β : Type} (P : (ι → Prop) → β → Prop) (n : Nat) (S : Nat → ι → Prop) (fb : β → Nat → β)
    (T0 : ι → Prop) (b : β) (h0 : P T0 b)
    (hs : ∀ i r T, i < n → (∀ x, T x → T0 x ∨ ∃ j, j < i ∧ S j x) → P T r → P (fun x => T x ∨ S i x) (fb r i)) :
    P (fun x => T0 x ∨ ∃ i, i < n ∧ S i x) ((List.range n).foldl fb b) := by
  refine foldl_range_inv (fun k r => P (fun x => T0 x ∨ ∃ i, i < k ∧ S i x) r) fb n b ?_ (fun k r hk ih => ?_)
  · have : (fun x => T0 x ∨ ∃ i, i < 0 ∧ S i x) = T0 :=
      funext fun x => propext ⟨fun q => q.elim id (fun ⟨i, hi, _⟩ => by omega), Or.inl⟩
    rw [this]; exact h0
  · have st := hs k r _ hk (fun _ q => q) ih
    have : (fun x => T0 x ∨ ∃ i, i < k + 1 ∧ S i x) = (fun x => (T0 x ∨ ∃ i, i < k ∧ S i x) ∨ S k x) := by
      funext x
      apply propext
      constructor
      · rintro (q | ⟨i, hi, q⟩)
        · exact Or.inl (Or.inl q)
        · by_cases e : i = k
          · subst e; exact Or.inr q
          · exact Or.inl (Or.inr ⟨i, by omega, q⟩)
      · rintro ((q | ⟨i, hi, q⟩) | q)
        · exact Or.inl q
        · exact Or.inr ⟨i, by omega, q⟩
        · exact Or.inr ⟨k, by omega, q⟩
    rw [this]; exact st

def CellInv (z : α) (V : Nat → α) (N : Nat) (T : Nat → Prop) (res : Array α) : Prop :=
  res.size = N ∧ (∀ x, T x → res.getD x z = V x) ∧ (∀ x, ¬ T x → res.getD x z = z)

theorem CellInv.congr {z : α} {V : Nat → α} {N : Nat} {T T' : Nat → Prop} {res : Array α}
    (h : CellInv z V N T res) (hT : ∀ x, T' x ↔ T x) : CellInv z V N T' res :=
  ⟨h.1, fun x q => h.2.1 x ((hT x).1 q), fun x q => h.2.2 x (fun t => q ((hT x).2 t))⟩

/-- a store of final values.  The value is a function of the cell, so nothing has to be known about what the
    window held before, nor about how it lies relative to the earlier stores. -/
theorem CellInv.write {z : α} {V : Nat → α} {N : Nat} {T : Nat → Prop} {res : Array α}
    (h : CellInv z V N T res) (off : Nat) (v : Array α) (hb : off + v.size ≤ N)
    (hv : ∀ k, k < v.size → v.getD k z = V (off + k)) :
    CellInv z V N (fun x => T x ∨ (off ≤ x ∧ x < off + v.size)) (writeAt res off v) := by
  obtain ⟨h1, h2, h3⟩ := h
  refine ⟨by rw [size_writeAt, h1], fun x hx => ?_, fun x hx => ?_⟩
  · by_cases hw : off ≤ x ∧ x < off + v.size
    · have e : x = off + (x - off) := by omega
      rw [e, getD_writeAt_in _ _ _ _ _ (by omega) (by omega), hv _ (by omega)]
    · rw [getD_writeAt_out _ _ _ _ _ (by omega)]
      exact h2 x (hx.resolve_right hw)
  · rw [getD_writeAt_out _ _ _ _ _ (by omega)]
    exact h3 x (fun q => hx (Or.inl q))

theorem CellInv.writeIn {z : α} {V : Nat → α} {N : Nat} {T : Nat → Prop} {res : Array α}
    (h : CellInv z V N T res) (off n : Nat) (v : Array α) (hn : v.size = n) (hb : off + n ≤ N)
    (hv : ∀ k, k < n → v.getD k z = V (off + k)) :
    CellInv z V N (fun x => T x ∨ In off n x) (writeAt res off v) := by
  subst hn; exact h.write off v hb hv

theorem CellInv.init (z : α) (V : Nat → α) (N : Nat) : CellInv z V N (fun _ => False) (Array.replicate N z) :=
  ⟨by simp, fun _ q => q.elim, fun x _ => getD_replicate z N x⟩

theorem CellInv.fold {z : α} {V : Nat → α} {N : Nat} (n : Nat) (S : Nat → Nat → Prop) (fb : Array α → Nat → Array α)
    (T0 : Nat → Prop) (b : Array α) (h0 : CellInv z V N T0 b)
    (hs : ∀ i r T, i < n → CellInv z V N T r → CellInv z V N (fun x => T x ∨ S i x) (fb r i)) :
    CellInv z V N (fun x => T0 x ∨ ∃ i, i < n ∧ S i x) ((List.range n).foldl fb b) :=
  fold_sets (CellInv z V N) n S fb T0 b h0 (fun i r T hi _ => hs i r T hi)

def tileV {ι : Type} (z : α) (w : Nat) (inv : Nat → ι) (val : ι → Array α) (x : Nat) : α :=
  (val (inv (x / w))).getD (x % w) z

theorem tileV_slot {ι : Type} {dom : ι → Prop} {slot : ι → Nat} {N : Nat} {inv : Nat → ι} (t : Tiles dom slot N inv)
    (z : α) (w : Nat) (val : ι → Array α) (i : ι) (hi : dom i) (k : Nat) (hk : k < w) :
    tileV z w inv val (w * slot i + k) = (val i).getD k z := by
  unfold tileV
  rw [mul_add_div_of_lt hk, mul_add_mod_of_lt hk, t.left hi]

theorem CellInv.tile {ι : Type} {dom : ι → Prop} {slot : ι → Nat} {N : Nat} {inv : Nat → ι} (t : Tiles dom slot N inv)
    {z : α} {w : Nat} {val : ι → Array α} {T : Nat → Prop} {res : Array α}
    (h : CellInv z (tileV z w inv val) (w * N) T res) (i : ι) (hi : dom i) (hv : (val i).size = w) :
    CellInv z (tileV z w inv val) (w * N) (fun x => T x ∨ In (w * slot i) w x) (writeAt res (w * slot i) (val i)) :=
  h.writeIn _ w _ hv (t.bound w hi) (fun k hk => (tileV_slot t z w val i hi k hk).symm)

theorem CellInv.tiles_get {ι : Type} {dom : ι → Prop} {slot : ι → Nat} {N : Nat} {inv : Nat → ι} (t : Tiles dom slot N inv)
    {z : α} {w : Nat} {val : ι → Array α} {T : Nat → Prop} {res : Array α}
    (h : CellInv z (tileV z w inv val) (w * N) T res) (hT : ∀ i, dom i → ∀ x, In (w * slot i) w x → T x)
    (i : ι) (hi : dom i) (k : Nat) (hk : k < w) : res.getD (w * slot i + k) z = (val i).getD k z := by
  rw [h.2.1 _ (hT i hi _ ⟨by omega, by omega⟩), tileV_slot t z w val i hi k hk]

end Spq.Module
