/-
  In-place rotation / (X^p - 1) kernels (`znx_rotate_inplace_i64`, `rnx_rotate_inplace_f64`,
  `rnx_mul_xp_minus_one_inplace`): the abstract states of the two nested loops, their relation to the model
  (`Coeffs.walkCycle`, `Coeffs.walkAll`), the number theory that makes the inner do-while terminate
  (`j ↦ j + p mod nn` returns to its start within `nn` steps), and the two outer loops of the three kernels,
  proved once with the body of the do-while left open (`walk_outer`), over the cells of any family of memories
  (`Cells`, Lemmas/SrcFill).  `znx_rotate_inplace_cells` is the int64 kernel on such cells, which the wrappers call on
  windows of an arena.
-/
import Gen.CSrc
import Spq.Coeffs
import SpqProofs.Lemmas.SrcSim
import SpqProofs.Lemmas.SrcInv
import SpqProofs.Lemmas.SrcMask
import SpqProofs.Lemmas.SrcAut
import Mathlib.Tactic.Ring
namespace Spq.CIR
open Spq

/-- what the inner do-while carries from one turn to the next: the arguments of `Coeffs.walkCycle` -/
structure WA where
  j : Nat
  t : Int
  res : Array Int
  nb : Nat

/-- the coefficient one turn stores at `new_j mod nn`: `t` carried there from the previous position, negated if the
    move wrapped past `nn`, minus the coefficient `t2` found there for `X^p - 1` -/
def wVal (o : Ops Int) (nn : Nat) (sub : Bool) (newj : Nat) (t t2 : Int) : Int :=
  let v := if newj < nn then t else o.neg t
  if sub then o.sub v t2 else v

def wStp (o : Ops Int) (nn : Nat) (p : Int) (sub : Bool) (a : WA) : WA :=
  let newj := posMask ((a.j : Int) + p) (2 * nn)
  let newjn := newj % nn
  let t2 := a.res.getD newjn o.zero
  { j := newjn, t := t2, res := a.res.setIfInBounds newjn (wVal o nn sub newj a.t t2), nb := a.nb + 1 }

def wEx (jstart : Nat) (a : WA) : Bool := a.j == jstart

/-- the model's cycle walk is the abstract do-while -/
theorem walkCycle_eq (o : Ops Int) (nn : Nat) (p : Int) (sub : Bool) (jstart : Nat) :
    ∀ (m : Nat) (a : WA),
      Coeffs.walkCycle o nn p sub jstart m a.j a.t a.res a.nb
        = ((walkA (wStp o nn p sub) (wEx jstart) m a).res, (walkA (wStp o nn p sub) (wEx jstart) m a).nb) := by
  intro m
  induction m with
  | zero => intro a; rfl
  | succ m ih =>
    intro a
    unfold Coeffs.walkCycle
    simp only [walkA]
    by_cases h : posMask ((a.j : Int) + p) (2 * nn) % nn = jstart
    · have hex : wEx jstart (wStp o nn p sub a) = true := by simp [wEx, wStp, h]
      simp only [h, if_true, hex]
      simp only [wStp, wVal, h]
    · have hex : wEx jstart (wStp o nn p sub a) = false := by simp [wEx, wStp, h]
      simp only [h, if_false, hex, Bool.false_eq_true]
      exact ih (wStp o nn p sub a)

theorem walkA_size (o : Ops Int) (nn : Nat) (p : Int) (sub : Bool) (jstart : Nat) :
    ∀ (m : Nat) (a : WA), (walkA (wStp o nn p sub) (wEx jstart) m a).res.size = a.res.size := by
  intro m
  induction m with
  | zero => intro a; rfl
  | succ m ih =>
    intro a
    simp only [walkA]
    split
    · simp [wStp]
    · rw [ih]; simp [wStp]

theorem walkA_nb (o : Ops Int) (nn : Nat) (p : Int) (sub : Bool) (jstart : Nat) :
    ∀ (m : Nat) (a : WA), a.nb + 1 ≤ (walkA (wStp o nn p sub) (wEx jstart) (m + 1) a).nb ∧
      (walkA (wStp o nn p sub) (wEx jstart) (m + 1) a).nb ≤ a.nb + m + 1 := by
  intro m
  induction m with
  | zero =>
    intro a
    simp only [walkA]
    split <;> simp [wStp]
  | succ m ih =>
    intro a
    rw [walkA]
    split
    · simp [wStp]
    · have := ih (wStp o nn p sub a)
      have e : (wStp o nn p sub a).nb = a.nb + 1 := rfl
      omega

/-! ### termination of the inner walk -/
theorem posMask_mod (nn : Nat) (hn : 0 < nn) (x : Int) :
    ((posMask x (2 * nn) % nn : Nat) : Int) = x % (nn : Int) := by
  unfold posMask
  have h2 : (0 : Int) ≤ x % ((2 * nn : Nat) : Int) := Int.emod_nonneg _ (by omega)
  rw [Int.natCast_emod, Int.toNat_of_nonneg h2]
  apply Int.emod_emod_of_dvd
  exact ⟨2, by push_cast; ring⟩

/-- the walk started at `j` reaches `jstart` within `m` steps -/
def Closes (nn : Nat) (p : Int) (jstart m j : Nat) : Prop :=
  ∃ s : Nat, 1 ≤ s ∧ s ≤ m ∧ ((j : Int) + (s : Int) * p) % (nn : Int) = (jstart : Int)

theorem closes_self (nn : Nat) (hn : 0 < nn) (p : Int) (jstart : Nat) (hj : jstart < nn) :
    Closes nn p jstart nn jstart := by
  refine ⟨nn, hn, Nat.le_refl _, ?_⟩
  rw [Int.add_mul_emod_self_left]
  exact Int.emod_eq_of_lt (by omega) (by omega)

theorem termA_of_closes (o : Ops Int) (nn : Nat) (hn : 0 < nn) (p : Int) (sub : Bool) (jstart : Nat) :
    ∀ (m : Nat) (a : WA), Closes nn p jstart m a.j → TermA (wStp o nn p sub) (wEx jstart) m a := by
  intro m
  induction m with
  | zero => intro a ⟨s, h1, h2, _⟩; omega
  | succ m ih =>
    intro a ⟨s, h1, h2, h3⟩
    have hj' : (((wStp o nn p sub a).j : Nat) : Int) = ((a.j : Int) + p) % (nn : Int) :=
      posMask_mod nn hn _
    by_cases hex : wEx jstart (wStp o nn p sub a) = true
    · exact Or.inl hex
    · right
      apply ih
      have hs : s ≠ 1 := by
        intro hs1
        subst hs1
        apply hex
        simp only [wEx, beq_iff_eq]
        have : (((wStp o nn p sub a).j : Nat) : Int) = (jstart : Int) := by
          rw [hj', ← h3]; congr 1; ring
        exact_mod_cast this
      refine ⟨s - 1, by omega, by omega, ?_⟩
      rw [hj', Int.emod_add_emod, ← h3]
      congr 1
      have : ((s - 1 : Nat) : Int) = (s : Int) - 1 := by omega
      rw [this]; ring

/-! ### the outer `while (nb_modif < nn)` loop -/
structure WB where
  jstart : Nat
  a : WA

def bTst (nn : Nat) (b : WB) : Bool := decide (b.a.nb < nn)

/-- the abstract state at the start of the do-while of the cycle led by `b.jstart` -/
def bEnter (o : Ops Int) (b : WB) : WA := { b.a with j := b.jstart, t := b.a.res.getD b.jstart o.zero }

def bStp (o : Ops Int) (nn : Nat) (p : Int) (sub : Bool) (b : WB) : WB :=
  { jstart := b.jstart + 1, a := walkA (wStp o nn p sub) (wEx b.jstart) nn (bEnter o b) }

theorem walkAll_eq (o : Ops Int) (nn : Nat) (p : Int) (sub : Bool) :
    ∀ (m : Nat) (b : WB),
      Coeffs.walkAll o nn p sub m b.jstart b.a.nb b.a.res
        = (whileA (bTst nn) (bStp o nn p sub) m b).a.res := by
  intro m
  induction m with
  | zero => intro b; rfl
  | succ m ih =>
    intro b
    unfold Coeffs.walkAll
    simp only [whileA, bTst]
    by_cases h : b.a.nb < nn
    · simp only [h, if_true, decide_true]
      have hc := walkCycle_eq o nn p sub b.jstart nn (bEnter o b)
      simp only [bEnter] at hc
      rw [hc]
      exact ih (bStp o nn p sub b)
    · simp only [h, if_false, decide_false, Bool.false_eq_true]

/-- invariant of the outer loop with `m` leaders still allowed -/
def BG (nn : Nat) (m : Nat) (b : WB) : Prop :=
  b.a.res.size = nn ∧ b.jstart ≤ b.a.nb ∧ nn ≤ b.a.nb + m ∧ b.a.nb < 2 * nn

/-- invariant of the inner loop with `m` steps still allowed -/
def AG (nn : Nat) (m : Nat) (a : WA) : Prop :=
  a.res.size = nn ∧ a.nb + m < 18446744073709551616

theorem AG_step (o : Ops Int) (nn : Nat) (p : Int) (sub : Bool) (m : Nat) (a : WA) (h : AG nn (m + 1) a) :
    AG nn m (wStp o nn p sub a) := by
  obtain ⟨h1, h2⟩ := h
  refine ⟨by simp [wStp, h1], ?_⟩
  have e : (wStp o nn p sub a).nb = a.nb + 1 := rfl
  omega

theorem BG_step (o : Ops Int) (nn : Nat) (hn : 0 < nn) (p : Int) (sub : Bool) (m : Nat) (b : WB)
    (h : BG nn (m + 1) b) (ht : bTst nn b = true) : BG nn m (bStp o nn p sub b) := by
  obtain ⟨h1, h2, h3, h4⟩ := h
  have hlt : b.a.nb < nn := by simpa [bTst] using ht
  obtain ⟨n', rfl⟩ : ∃ n', nn = n' + 1 := ⟨nn - 1, by omega⟩
  have hnb := walkA_nb o (n' + 1) p sub b.jstart n' (bEnter o b)
  have hsz := walkA_size o (n' + 1) p sub b.jstart (n' + 1) (bEnter o b)
  have e1 : (bEnter o b).nb = b.a.nb := rfl
  have e2 : (bEnter o b).res.size = b.a.res.size := rfl
  refine ⟨?_, ?_, ?_, ?_⟩
  · show (walkA _ _ (n' + 1) (bEnter o b)).res.size = n' + 1
    rw [hsz, e2, h1]
  · show b.jstart + 1 ≤ (walkA _ _ (n' + 1) (bEnter o b)).nb
    omega
  · show n' + 1 ≤ (walkA _ _ (n' + 1) (bEnter o b)).nb + m
    omega
  · show (walkA _ _ (n' + 1) (bEnter o b)).nb < 2 * (n' + 1)
    omega

end Spq.CIR

namespace Spq.CIR
/-- the IR states of the in-place kernels that stand for an abstract state: 11 slots
    `nn p _2mn _mn nb_modif j_start j tmp1 new_j new_j_n tmp2`, the last three dead between turns of the do-while;
    the memory is the one in which the cells of the (single) pointer hold `a.res` -/
def wR (nn : Nat) (p : Int) (M : Array Int → Mem) (jstart : Nat) (a : WA) (σ : State) : Prop :=
  ∃ d8 d9 d10 : Int, σ = ⟨[(nn : Int), p, ((2 * nn - 1 : Nat) : Int), ((nn - 1 : Nat) : Int), (a.nb : Int),
    (jstart : Int), (a.j : Int), a.t, d8, d9, d10], M a.res⟩

/-- at the head of the outer loop `j` and `tmp1` are dead too -/
def bR (nn : Nat) (p : Int) (M : Array Int → Mem) (b : WB) (σ : State) : Prop :=
  ∃ d6 d7 d8 d9 d10 : Int, σ = ⟨[(nn : Int), p, ((2 * nn - 1 : Nat) : Int), ((nn - 1 : Nat) : Int), (b.a.nb : Int),
    (b.jstart : Int), d6, d7, d8, d9, d10], M b.a.res⟩

/-- `new_j & _mn` -/
theorem and_mn (t : Nat) (nn : Nat) (hnn : nn = 2 ^ t) (x : Nat) : x &&& (nn - 1) = x % nn := by
  subst hnn
  exact Nat.and_two_pow_sub_one_eq_mod x t

theorem b2i_decide_ne_zero (q : Prop) [Decidable q] : (b2i (decide q) ≠ 0) ↔ q := by
  by_cases h : q <;> simp [b2i, h]

/-- The three in-place walks differ only in the expression `E` their do-while stores at `new_j mod nn`.  The outer
    `while`, the entry of a cycle, the do-while with its termination and `j_start++`, for any coefficient record, any
    `sub` flag and any `E` that evaluates to `wVal` once `new_j`, `new_j mod nn` and the coefficient found there are in
    slots 8–10; the initial state is the one the three generated functions have after their prologue.  The memories are
    those of a family `M` with `Cells M pr nn`. -/
theorem walk_outer (o : Ops Int) (ho0 : o.zero = 0) (sb : Bool) (t : Nat) (ht : t ≤ 63) (nn : Nat) (hnn : nn = 2 ^ t)
    (p : Int) {M : Array Int → Mem} {pr : Ptr} (hC : Cells M pr nn) (X0 : Array Int) (hX0 : X0.size = nn) (E : Expr)
    (hE : ∀ (nb jstart j newj : Nat) (tmp1 : Int) (X : Array Int), X.size = nn →
      eval [pr] ⟨[(nn : Int), p, ((2 * nn - 1 : Nat) : Int), ((nn - 1 : Nat) : Int), (nb : Int),
          (jstart : Int), (j : Int), tmp1, (newj : Int), ((newj % nn : Nat) : Int), X.getD (newj % nn) 0],
        M X⟩ E = .ok (wVal o nn sb newj tmp1 (X.getD (newj % nn) 0))) :
    ∀ fuel, 2 * nn ≤ fuel →
      memOf (exec [pr] (.while (.bin .lt .u64 (.var 4) (.var 0))
          (.seq (.assign 6 (.var 5)) (.seq (.assign 7 (.load 0 (.var 6)))
            (.seq (.doWhile
                (.seq (.assign 8 (.bin .band .u64 (.bin .add .u64 (.var 6) (.cast .u64 (.var 1))) (.var 2)))
                  (.seq (.assign 9 (.bin .band .u64 (.var 8) (.var 3)))
                    (.seq (.assign 10 (.load 0 (.var 9)))
                      (.seq (.store 0 (.var 9) E)
                        (.seq (.assign 7 (.var 10))
                          (.seq (.assign 4 (.bin .add .u64 (.var 4) (.lit 1))) (.assign 6 (.var 9))))))))
                (.bin .ne .u64 (.var 6) (.var 5)))
              (.assign 5 (.bin .add .u64 (.var 5) (.lit 1))))))) fuel
        ⟨[(nn : Int), p, ((2 * nn - 1 : Nat) : Int), ((nn - 1 : Nat) : Int), ((0 : Nat) : Int), ((0 : Nat) : Int), 0, 0, 0,
          0, 0], M X0⟩)
      = .ok (M (Coeffs.walkAll o nn p sb nn 0 0 X0)) := by
  intro fuel hf
  have hn1 : 1 ≤ nn := hnn ▸ one_le_pow2 t
  have hn2 : nn ≤ 9223372036854775808 := hnn ▸ pow_le_p63 t ht
  let b0 : WB := ⟨0, ⟨0, 0, X0, 0⟩⟩
  refine Post.memOf _ _ _ (while_rel _ _ _ (bR nn p M) (bTst nn) (bStp o nn p sb) (BG nn) nn ?hG ?hzero ?hcond
    ?hbody nn b0 _ fuel ?hG0 ?hR0 (by omega)) ?fin
  case fin =>
    rintro σ' ⟨_, _, _, _, _, rfl⟩
    have := walkAll_eq o nn p sb nn b0
    show M _ = _
    rw [← this]
  case hR0 => exact ⟨_, _, _, _, _, rfl⟩
  case hG0 => exact ⟨hX0, Nat.le_refl _, by simp [b0], by simp [b0]; omega⟩
  case hG => intro m b h ht; exact BG_step o nn (by omega) p sb m b h ht
  case hzero =>
    intro b ⟨_, _, h3, _⟩
    simp only [bTst]
    exact decide_eq_false (by omega)
  case hcond =>
    rintro m b σ _ ⟨d6, d7, d8, d9, d10, rfl⟩
    cir_simp
    simp only [bTst, Nat.cast_lt]
  case hbody =>
    rintro m b σ f hG ⟨d6, d7, d8, d9, d10, rfl⟩ htst hf
    obtain ⟨h1, h2, h3, h4⟩ := hG
    have hlt : b.a.nb < nn := by simpa [bTst] using htst
    cir_simp
    rw [hC.load _ _ h1 (by omega)]; cir_simp
    refine Post.seq _ _ (wR nn p M b.jstart (walkA (wStp o nn p sb) (wEx b.jstart) nn (bEnter o b))) _
      (doWhile_rel _ _ _ (wR nn p M b.jstart) (wStp o nn p sb) (wEx b.jstart) (AG nn)
        (fun m a h _ => AG_step o nn p sb m a h) ?hbody ?hcond nn (bEnter o b) _ f
        ⟨h1, by show b.a.nb + nn < _; omega⟩ ⟨d8, d9, d10, by simp only [bEnter, ho0]⟩ ?hT (by omega)) ?after
    case after =>
      rintro σ' ⟨e8, e9, e10, rfl⟩
      cir_simp
      rw [succ_u64_nat b.jstart (by omega)]
      exact ⟨_, rfl, _, _, _, _, _, rfl⟩
    case hT =>
      apply termA_of_closes o nn (by omega) p sb b.jstart nn
      exact closes_self nn (by omega) p b.jstart (by omega)
    case hcond =>
      rintro a σ ⟨e8, e9, e10, rfl⟩
      cir_simp
      simp only [wEx]
      by_cases h : a.j = b.jstart <;> simp [h]
    case hbody =>
      rintro m a σ f ⟨hs, hb⟩ ⟨e8, e9, e10, rfl⟩
      have hmod : posMask ((a.j : Int) + p) (2 * nn) % nn < nn := Nat.mod_lt _ (by omega)
      cir_simp
      simp only [Int.toNat_natCast]
      rw [posmask_src2 t ht nn hnn, and_mn t nn hnn]
      rw [hC.load _ _ hs hmod]; cir_simp
      rw [hE _ _ _ _ _ _ hs]; cir_simp
      rw [hC.store _ _ _ hs hmod]; cir_simp
      rw [succ_u64_nat a.nb (by omega)]
      refine ⟨_, rfl, ?_⟩
      simp only [wStp, ho0]
      exact ⟨_, _, _, rfl⟩
/-- the in-place rotation, for a function whose body is the generated `int64_t` one moved to the element type `ty`
    (`Stmt.unAt`; both generated kernels are such functions, by `rfl`), on the cells of any family: the prologue, then
    `walk_outer` with the value of the `?:` the do-while stores -/
theorem rotate_inplace_cells {ty : Ty} {o : Ops Int} (ho : ElemOps ty o) (fn : Fn)
    (hfb : fn.body = Gen.CSrc.znx_rotate_inplace_i64.body.unAt ty) (hfs : fn.nslots = 11) (t : Nat) (ht : t ≤ 63)
    (nn : Nat) (hnn : nn = 2 ^ t) (p : Int) {M : Array Int → Mem} {pr : Ptr} (hC : Cells M pr nn) (X : Array Int)
    (hX : X.size = nn) :
    ∀ fuel, 2 * nn ≤ fuel → run fuel fn [(nn : Int), p] [pr] (M X) = .ok (M (Coeffs.rotateInplace o nn p X)) := by
  obtain ⟨name, sc, ps, ns, body, ret⟩ := fn
  subst hfb hfs
  intro fuel hf
  have hn1 : 1 ≤ nn := hnn ▸ one_le_pow2 t
  have hn2 : nn ≤ 9223372036854775808 := hnn ▸ pow_le_p63 t ht
  dsimp only [run, Gen.CSrc.znx_rotate_inplace_i64, Stmt.unAt, Expr.unAt, Ty.elemAt, List.length_cons, List.length_nil,
    List.replicate, List.cons_append, List.nil_append, Nat.reduceSub, Nat.reduceAdd]
  cir_simp
  have ez : (0 : Int) % 18446744073709551616 = ((0 : Nat) : Int) := by decide
  rw [mask_int nn hn1 hn2, mask1_int nn hn1 hn2, ez]
  refine walk_outer o ho.zero false t ht nn hnn p hC X hX _ ?_ fuel hf
  intro nb jstart j newj tmp1 Y hY
  cir_simp [ho.neg]
  by_cases hlt : newj < nn
  · rw [if_pos (show (newj : Int) < (nn : Int) by omega)]
    simp only [wVal, if_pos hlt, Bool.false_eq_true, if_false]
  · rw [if_neg (show ¬ (newj : Int) < (nn : Int) by omega)]
    simp only [wVal, if_neg hlt, Bool.false_eq_true, if_false]

theorem znx_rotate_inplace_cells (t : Nat) (ht : t ≤ 63) (nn : Nat) (hnn : nn = 2 ^ t) (p : Int) {M : Array Int → Mem}
    {pr : Ptr} (hC : Cells M pr nn) (X : Array Int) (hX : X.size = nn) :
    ∀ fuel, 2 * nn ≤ fuel →
      run fuel Gen.CSrc.znx_rotate_inplace_i64 [(nn : Int), p] [pr] (M X)
        = .ok (M (Coeffs.rotateInplace i64Ops nn p X)) :=
  rotate_inplace_cells elem_i64 _ rfl rfl t ht nn hnn p hC X hX
end Spq.CIR
