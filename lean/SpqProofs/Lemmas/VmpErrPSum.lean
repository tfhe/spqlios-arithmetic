/-
  C02 rounding budget: "perturbed sums".  `PSum n x m G s`: `s = Σ_{i<n} (x_i + e_i)` with `|e_i| ≤ (G − 1)·m_i`
  — the backward-error form of an accumulated sum (each TERM carries its own relative perturbation), which is what the
  row-wise composition with the FFT error needs (the forward bound `|s − Σx_i| ≤ (G − 1)·Σm_i` is `PSum.err`).
-/
import SpqProofs.Lemmas.VmpErrDot
import SpqProofs.Lemmas.FftErrBfly
set_option linter.unusedSectionVars false
namespace Spq.VmpErr
open Finset Spq Spq.Reim4
variable {K : Type} [Field K] [LinearOrder K] [IsStrictOrderedRing K]

def PSum (n : ℕ) (x m : ℕ → K) (G s : K) : Prop :=
  ∃ e : ℕ → K, (∀ i, i < n → |e i| ≤ (G - 1) * m i) ∧ s = ∑ i ∈ range n, (x i + e i)

theorem PSum.zero (x m : ℕ → K) (G : K) : PSum 0 x m G 0 := ⟨fun _ => 0, fun i hi => by omega, by simp⟩

theorem rel_factor {u A y : K} (hu : 0 ≤ u) (h : |A - y| ≤ u * |y|) : ∃ δ : K, |δ| ≤ u ∧ A = y * (1 + δ) := by
  by_cases hy : y = 0
  · subst hy
    rw [abs_zero, mul_zero] at h
    have : A - 0 = 0 := abs_eq_zero.1 (le_antisymm h (abs_nonneg _))
    exact ⟨0, by rw [abs_zero]; exact hu, by rw [sub_zero] at this; rw [this]; ring⟩
  · have e : y * ((A - y) / y) = A - y := by rw [mul_comm, div_mul_cancel₀ _ hy]
    refine ⟨(A - y) / y, ?_, by rw [mul_add, mul_one, e]; ring⟩
    rw [abs_div]
    have hp : 0 < |y| := abs_pos.2 hy
    rw [div_le_iff₀ hp]
    exact h

theorem PSum.mono {n : ℕ} {x m : ℕ → K} {G G' s : K} (h : PSum n x m G s) (hm : ∀ i, i < n → 0 ≤ m i) (hG : G ≤ G') :
    PSum n x m G' s := by
  obtain ⟨e, h1, h2⟩ := h
  exact ⟨e, fun i hi => le_trans (h1 i hi) (mul_le_mul_of_nonneg_right (by linarith) (hm i hi)), h2⟩

theorem PSum.scale {n : ℕ} {x m : ℕ → K} {G s u δ : K} (h : PSum n x m G s) (hx : ∀ i, i < n → |x i| ≤ m i) (hG : 1 ≤ G)
    (hδ : |δ| ≤ u) : PSum n x m (G * (1 + u)) (s * (1 + δ)) := by
  obtain ⟨e, h1, h2⟩ := h
  have hu : 0 ≤ u := le_trans (abs_nonneg _) hδ
  refine ⟨fun i => e i * (1 + δ) + x i * δ, ?_, ?_⟩
  · intro i hi
    have hm : 0 ≤ m i := le_trans (abs_nonneg _) (hx i hi)
    have a1 : |e i * (1 + δ)| ≤ (G - 1) * m i * (1 + u) := by
      rw [abs_mul]
      have : |1 + δ| ≤ 1 + u := by
        calc |1 + δ| ≤ |(1 : K)| + |δ| := abs_add_le _ _
          _ ≤ 1 + u := by rw [abs_one]; linarith
      exact mul_le_mul (h1 i hi) this (abs_nonneg _) (mul_nonneg (by linarith) hm)
    have a2 : |x i * δ| ≤ m i * u := by
      rw [abs_mul]; exact mul_le_mul (hx i hi) hδ (abs_nonneg _) hm
    calc |e i * (1 + δ) + x i * δ| ≤ |e i * (1 + δ)| + |x i * δ| := abs_add_le _ _
      _ ≤ (G - 1) * m i * (1 + u) + m i * u := add_le_add a1 a2
      _ = (G * (1 + u) - 1) * m i := by ring
  · rw [h2, sum_mul]
    apply sum_congr rfl
    intro i _
    ring

theorem PSum.snoc {n : ℕ} {x m : ℕ → K} {G s e : K} (h : PSum n x m G s) (he : |e| ≤ (G - 1) * m n) :
    PSum (n + 1) x m G (s + (x n + e)) := by
  obtain ⟨e0, h1, h2⟩ := h
  refine ⟨fun i => if i = n then e else e0 i, ?_, ?_⟩
  · intro i hi
    by_cases hin : i = n
    · subst hin; simp only [if_true]; exact he
    · simp only [hin, if_false]; exact h1 i (by omega)
  · rw [sum_range_succ, h2]
    simp only [if_true]
    congr 1
    apply sum_congr rfl
    intro i hi
    have : i ≠ n := by have := mem_range.1 hi; omega
    simp only [this, if_false]

/-- one rounded accumulation step `A = fl(s + t)`, `t` a computed term with relative error `G' − 1` -/
theorem PSum.step {n : ℕ} {x m : ℕ → K} {G G' s t A u : K} (h : PSum n x m G s) (hx : ∀ i, i ≤ n → |x i| ≤ m i)
    (hu : 0 ≤ u) (hG : 1 ≤ G) (hG' : G' ≤ G) (ht : |t - x n| ≤ (G' - 1) * m n) (hA : |A - (s + t)| ≤ u * |s + t|) :
    PSum (n + 1) x m (G * (1 + u)) A := by
  obtain ⟨δ, hδ, hAe⟩ := rel_factor hu hA
  have hm : 0 ≤ m n := le_trans (abs_nonneg _) (hx n (le_refl n))
  have h1 := (h.scale (fun i hi => hx i (by omega)) hG hδ).snoc (e := t * (1 + δ) - x n) (by
    have e1 : t * (1 + δ) - x n = (t - x n) * (1 + δ) + x n * δ := by ring
    rw [e1]
    have hd : |1 + δ| ≤ 1 + u := by
      calc |1 + δ| ≤ |(1 : K)| + |δ| := abs_add_le _ _
        _ ≤ 1 + u := by rw [abs_one]; linarith
    have a1 : |(t - x n) * (1 + δ)| ≤ (G - 1) * m n * (1 + u) := by
      rw [abs_mul]
      exact mul_le_mul (le_trans ht (mul_le_mul_of_nonneg_right (by linarith) hm)) hd (abs_nonneg _)
        (mul_nonneg (by linarith) hm)
    have a2 : |x n * δ| ≤ m n * u := by
      rw [abs_mul]; exact mul_le_mul (hx n (le_refl n)) hδ (abs_nonneg _) hm
    calc |(t - x n) * (1 + δ) + x n * δ| ≤ |(t - x n) * (1 + δ)| + |x n * δ| := abs_add_le _ _
      _ ≤ (G - 1) * m n * (1 + u) + m n * u := add_le_add a1 a2
      _ = (G * (1 + u) - 1) * m n := by ring)
  have e2 : s * (1 + δ) + (x n + (t * (1 + δ) - x n)) = A := by rw [hAe]; ring
  rw [e2] at h1
  exact h1

theorem PSum.addsg {n : ℕ} {x1 x2 m1 m2 : ℕ → K} {G s1 s2 sg : K} (h1 : PSum n x1 m1 G s1) (h2 : PSum n x2 m2 G s2)
    (hsg : sg = 1 ∨ sg = -1) : PSum n (fun i => x1 i + sg * x2 i) (fun i => m1 i + m2 i) G (s1 + sg * s2) := by
  obtain ⟨e1, a1, b1⟩ := h1
  obtain ⟨e2, a2, b2⟩ := h2
  have hsgabs : |sg| = 1 := by rcases hsg with h | h <;> simp [h]
  refine ⟨fun i => e1 i + sg * e2 i, ?_, ?_⟩
  · intro i hi
    calc |e1 i + sg * e2 i| ≤ |e1 i| + |sg * e2 i| := abs_add_le _ _
      _ = |e1 i| + |e2 i| := by rw [abs_mul, hsgabs, one_mul]
      _ ≤ (G - 1) * m1 i + (G - 1) * m2 i := add_le_add (a1 i hi) (a2 i hi)
      _ = (G - 1) * (m1 i + m2 i) := by ring
  · rw [b1, b2, mul_sum, ← sum_add_distrib]
    apply sum_congr rfl
    intro i _
    ring

theorem PSum.err {n : ℕ} {x m : ℕ → K} {G s : K} (h : PSum n x m G s) :
    |s - ∑ i ∈ range n, x i| ≤ (G - 1) * ∑ i ∈ range n, m i := by
  obtain ⟨e, h1, h2⟩ := h
  have : s - ∑ i ∈ range n, x i = ∑ i ∈ range n, e i := by rw [h2, sum_add_distrib]; ring
  rw [this, mul_sum]
  exact le_trans (abs_sum_le_sum_abs _ _) (sum_le_sum (fun i hi => h1 i (mem_range.1 hi)))

end Spq.VmpErr
