/-
  C02.2: under H1–H4 column `j` of the vector-matrix product is the DFT of the sum of negacyclic products
  `Σ_i a_i · M[i][j]` (`vmp_cols`); `C02.vmp_exact` applies the inverse DFT to it.
-/
import SpqProofs.Lemmas.ModuleVmpSmall
import SpqProofs.Lemmas.ModuleProd
import SpqProofs.Lemmas.ModuleVmpCongr
namespace Spq.Module
open Finset Spq Reim4
variable {R : Type} [CommRing R]

/-- entry (i, j) of the integer matrix (row-major, `nn` coefficients per entry) -/
def matEntry (mat : Array Int) (ncols nn i j : Nat) : Array Int :=
  mat.extract ((i * ncols + j) * nn) ((i * ncols + j) * nn + nn)

/-- entries of a full `nrows × ncols` matrix have `nn` coefficients (discharges `hmat`) -/
theorem size_matEntry (mat : Array Int) (nrows ncols nn i j : Nat) (h : nrows * ncols * nn ≤ mat.size) (hi : i < nrows)
    (hj : j < ncols) : (matEntry mat ncols nn i j).size = nn := by
  unfold matEntry
  apply size_extract_of_le
  have h1 := mul_step i nrows ncols hi
  have h2 := mul_step (i * ncols + j) (nrows * ncols) nn (by omega)
  omega

omit [CommRing R] in
theorem matDft_eq (c : Parts R) (mat : Array Int) (ncols i j : Nat) :
    matDft c mat ncols i j = c.fft (c.fromZnx (matEntry mat ncols c.nn i j)) := rfl

theorem fft_isum (c : Parts R) (z : Nat → Cx R) (ha : ExactArith c) (hd : ExactDft c z) (n : Nat) (f : Nat → Array Int)
    (hf : ∀ i, i < n → (f i).size = c.nn) (j : Nat) (hj : j < c.m) :
    ∑ i ∈ range n, cx (c.fft (c.fromZnx (f i))) j (j + c.m) = cx (c.fft (c.fromZnx (isum c.nn n f))) j (j + c.m) := by
  rw [fft_embed c z ha hd _ (size_isum _ _ _) j hj]
  have : ∀ i ∈ range n, cx (c.fft (c.fromZnx (f i))) j (j + c.m) = evalF c.nn (fun k => zcx R (icoef (f i) k)) (z j) :=
    fun i hi => fft_embed c z ha hd _ (hf i (mem_range.1 hi)) j hj
  rw [sum_congr rfl this]
  unfold evalF
  rw [sum_comm]
  apply sum_congr rfl
  intro k hk
  simp only []
  rw [icoef_isum _ _ _ _ (mem_range.1 hk), map_sum, sum_mul]

/-- `vmp_prepare_contiguous` + `vmp_apply_dft`, in DFT space: column `j < min ncols rsz` is the DFT of
    `Σ_i a_i · M[i][j]`, the other columns are zero -/
theorem vmp_cols (c : Parts R) (z : Nat → Cx R) (ha : ExactArith c) (hd : ExactDft c z) (mat : Array Int) (nrows ncols : ℕ)
    (hmat : ∀ i j, i < nrows → j < ncols → (matEntry mat ncols c.nn i j).size = c.nn)
    (a : Array Int) (asz asl : ℕ) (hlimb : ∀ i, i < min nrows asz → (limbOf a i asl c.nn).size = c.nn) (rsz : ℕ) :
    (vmpApplyDft c rsz a asz asl (vmpPrepare c mat nrows ncols) nrows ncols).size = rsz * c.nn ∧
    ∀ j, j < rsz → dlimb (vmpApplyDft c rsz a asz asl (vmpPrepare c mat nrows ncols) nrows ncols) j c.nn =
      if j < min ncols rsz then
        c.fft (c.fromZnx (isum c.nn (min nrows asz) (fun i => nmul c.nn (limbOf a i asl c.nn) (matEntry mat ncols c.nn i j))))
      else Array.replicate c.nn 0 := by
  have hnn := ha.hnn
  have hra : min nrows asz ≤ asz := Nat.min_le_right _ _
  have hrn : min nrows asz ≤ nrows := Nat.min_le_left _ _
  have hcn : min ncols rsz ≤ ncols := Nat.min_le_left _ _
  have hcr : min ncols rsz ≤ rsz := Nat.min_le_right _ _
  obtain ⟨_, b2⟩ := vecDft_spec c (min nrows asz) a asz asl (fun i => c.fft (c.fromZnx (limbOf a i asl c.nn)))
    (fun i hi => by rw [if_pos (by omega)]) (fun i hi => hd.fft_size _ (hd.fromZnx_size _ (hlimb i hi)))
  have hT : ∀ row col, row < nrows → col < ncols → (matDft c mat ncols row col).size = c.nn :=
    fun row col hr hc => hd.fft_size _ (hd.fromZnx_size _ (hmat row col hr hc))
  have hD : vmpApplyDft c rsz a asz asl (vmpPrepare c mat nrows ncols) nrows ncols =
      vmpApplyDftToDft c rsz (vecDft c (min nrows asz) a asz asl) asz (vmpPrepare c mat nrows ncols) nrows ncols := rfl
  obtain ⟨L1, L2, L3⟩ := vmp_layout_aux c ha mat nrows ncols rsz asz (vecDft c (min nrows asz) a asz asl) (fun _ => hT)
  rw [← hD] at L1 L2 L3
  refine ⟨L1, ?_⟩
  intro j hjr
  have hstep := mul_step j rsz c.nn hjr
  by_cases hj : j < min ncols rsz
  · rw [if_pos hj]
    apply eq_of_cx_reim c.m _ _ (by unfold dlimb; rw [size_extract_of_le _ _ _ (by omega)]; exact hnn)
      (by rw [hd.fft_size _ (hd.fromZnx_size _ (size_isum _ _ _))]; exact hnn)
    intro t ht
    rw [dlimb_cx _ j c.nn c.m t (by omega), L2 j t hj ht,
      ← fft_isum c z ha hd _ _ (fun i _ => size_nmul _ _ _) t ht]
    apply sum_congr rfl
    intro i hi
    have hi := mem_range.1 hi
    rw [← dlimb_cx _ i c.nn c.m t (by omega), b2 i hi, matDft_eq,
      ← (mul_exact c ha _ _).2 t ht, fft_prod c z ha hd _ _ (hlimb i hi) (hmat i j (by omega) (by omega))]
  · rw [if_neg hj]
    unfold dlimb
    apply ext_getD 0 (by rw [size_extract_of_le _ _ _ (by omega)]; simp)
    intro x _
    rw [getD_extract, getD_replicate]
    split
    · exact L3 j x (by omega)
    · rfl

end Spq.Module
