/-
  Non-vacuity witness: discharging the FLAG hypotheses (`hok` of C06Err, `PipeOk` of C01Err) by evaluation.
  The flags of `aOk` / `arithOk` are propositions (`NormalRange` of rational expressions).  `arithOkB` / `aOkB` is the
  same flagged binary64 arithmetic with a BOOLEAN flag: the exact result of an operation is `n / 2^s` with
  `n` an integer expression of the scaled integers `toScaled x` (`val x = toScaled x / 2^1074`) and `s ∈ {1074, 2148}`,
  and `nrB n s` decides `NormalRange (n / 2^s)` on integers.  `RB`: same pattern, Boolean flag ⇒ propositional flag.
-/
import SpqProofs.Lemmas.FftErrSchedIFin
import SpqProofs.Lemmas.ProdErrPipe
namespace Spq.ErrWitness
open Spq.Fft Spq.Fft.Alg Spq.Fft.RelN Spq.Fft.SimP Spq.Fft.LevelN Spq.Fft.SchedN Spq.Fft.Sim Spq.FftErr Spq.F64 Spq.ProdErr
  Spq.Reim4

/-- decides `NormalRange (n / 2^s)` (`s ≥ 1022`): `n = 0` or `2^(s−1022) ≤ |n| < (2^54 − 1)·2^(970+s)` -/
def nrB (n : Int) (s : Nat) : Bool :=
  n == 0 || (decide (2 ^ (s - 1022) ≤ n.natAbs) && decide (n.natAbs < 18014398509481983 * 2 ^ (970 + s)))

theorem nrB_sound (n : Int) (s : Nat) (hs : 1022 ≤ s) (h : nrB n s = true) : NormalRange ((n : ℚ) / 2 ^ s) := by
  unfold nrB at h
  rw [Bool.or_eq_true] at h
  rcases h with h | h
  · left
    have : n = 0 := by simpa using h
    rw [this]; simp
  · right
    rw [Bool.and_eq_true, decide_eq_true_eq, decide_eq_true_eq] at h
    obtain ⟨h1, h2⟩ := h
    obtain ⟨t, rfl⟩ := Nat.exists_eq_add_of_le hs
    rw [Nat.add_sub_cancel_left] at h1
    have hpos : (0 : ℚ) < 2 ^ (1022 + t) := by positivity
    have habs : |(n : ℚ) / 2 ^ (1022 + t)| = (n.natAbs : ℚ) / 2 ^ (1022 + t) := by
      rw [abs_div, abs_of_pos hpos, Nat.cast_natAbs, Int.cast_abs]
    rw [habs]
    constructor
    · rw [le_div_iff₀ hpos]
      unfold minNormal
      have e : (2 : ℚ) ^ (-1022 : ℤ) * 2 ^ (1022 + t) = 2 ^ t := by
        rw [pow_add, ← mul_assoc, ← zpow_natCast (2 : ℚ) 1022, ← zpow_add₀ (by norm_num)]
        norm_num
      rw [e]
      exact_mod_cast h1
    · rw [div_lt_iff₀ hpos]
      unfold ovfThr
      have e : ((2 : ℚ) ^ 54 - 1) * 2 ^ (970 : ℤ) * 2 ^ (1022 + t) = ((18014398509481983 * 2 ^ (970 + (1022 + t)) : ℕ) : ℚ) := by
        rw [show (970 : ℤ) = ((970 : ℕ) : ℤ) by norm_num, zpow_natCast]
        push_cast
        rw [pow_add 2 970 (1022 + t)]
        norm_num
        ring
      rw [e]
      exact_mod_cast h2

theorem val_add_scaled (x y : ℕ) : val x + val y = ((toScaled x + toScaled y : ℤ) : ℚ) / 2 ^ 1074 := by
  unfold val; push_cast; ring
theorem val_sub_scaled (x y : ℕ) : val x - val y = ((toScaled x - toScaled y : ℤ) : ℚ) / 2 ^ 1074 := by
  unfold val; push_cast; ring
theorem val_mul_scaled (x y : ℕ) : val x * val y = ((toScaled x * toScaled y : ℤ) : ℚ) / 2 ^ 2148 := by
  unfold val; push_cast
  rw [show (2148 : ℕ) = 1074 + 1074 by norm_num, pow_add]
  field_simp
theorem val_fma_scaled (x y z : ℕ) :
    val x * val y + val z = ((toScaled x * toScaled y + toScaled z * 2 ^ 1074 : ℤ) : ℚ) / 2 ^ 2148 := by
  unfold val; push_cast
  rw [show (2148 : ℕ) = 1074 + 1074 by norm_num, pow_add]
  field_simp
theorem val_fms_scaled (x y z : ℕ) :
    val x * val y - val z = ((toScaled x * toScaled y - toScaled z * 2 ^ 1074 : ℤ) : ℚ) / 2 ^ 2148 := by
  unfold val; push_cast
  rw [show (2148 : ℕ) = 1074 + 1074 by norm_num, pow_add]
  field_simp

def liftB (b : Nat) : Nat × Bool := (b, decide (Fin64 b))

def arithOkB : RArith (Nat × Bool) where
  zero := liftB 0
  add := fun x y => (F64.add x.1 y.1, x.2 && y.2 && nrB (toScaled x.1 + toScaled y.1) 1074)
  sub := fun x y => (F64.sub x.1 y.1, x.2 && y.2 && nrB (toScaled x.1 - toScaled y.1) 1074)
  mul := fun x y => (F64.mul x.1 y.1, x.2 && y.2 && nrB (toScaled x.1 * toScaled y.1) 2148)
  fma := fun x y z => (F64.fma x.1 y.1 z.1,
    x.2 && y.2 && z.2 && nrB (toScaled x.1 * toScaled y.1 + toScaled z.1 * 2 ^ 1074) 2148)
  fms := fun x y z => (F64.fms x.1 y.1 z.1,
    x.2 && y.2 && z.2 && nrB (toScaled x.1 * toScaled y.1 - toScaled z.1 * 2 ^ 1074) 2148)

def aOkB : Arith (Nat × Bool) :=
  ⟨arithOkB.add, arithOkB.sub, arithOkB.mul, fun x => (F64.neg x.1, x.2), arithOkB.fma, arithOkB.fms⟩

def RB (x : Nat × Bool) (y : Nat × Prop) : Prop := y.1 = x.1 ∧ (x.2 = true → y.2)

theorem RB_lift (b : Nat) : RB (liftB b) (lift b) :=
  ⟨rfl, fun h => by
    have h' : decide (Fin64 b) = true := h
    show Fin64 b
    exact of_decide_eq_true h'⟩

theorem arithOkB_sim : RArith.Sim RB arithOkB arithOk where
  zero := RB_lift 0
  add := by
    rintro ⟨a, fa⟩ ⟨a', fa'⟩ ⟨b, fb⟩ ⟨b', fb'⟩ ⟨h1, h1'⟩ ⟨h2, h2'⟩
    simp only at h1 h2 h1' h2'; subst h1 h2
    refine ⟨rfl, fun h => ?_⟩
    simp only [arithOkB, Bool.and_eq_true] at h
    refine ⟨h1' h.1.1, h2' h.1.2, ?_⟩
    show NormalRange (val a' + val b')
    rw [val_add_scaled]; exact nrB_sound _ _ (by norm_num) h.2
  sub := by
    rintro ⟨a, fa⟩ ⟨a', fa'⟩ ⟨b, fb⟩ ⟨b', fb'⟩ ⟨h1, h1'⟩ ⟨h2, h2'⟩
    simp only at h1 h2 h1' h2'; subst h1 h2
    refine ⟨rfl, fun h => ?_⟩
    simp only [arithOkB, Bool.and_eq_true] at h
    refine ⟨h1' h.1.1, h2' h.1.2, ?_⟩
    show NormalRange (val a' - val b')
    rw [val_sub_scaled]; exact nrB_sound _ _ (by norm_num) h.2
  mul := by
    rintro ⟨a, fa⟩ ⟨a', fa'⟩ ⟨b, fb⟩ ⟨b', fb'⟩ ⟨h1, h1'⟩ ⟨h2, h2'⟩
    simp only at h1 h2 h1' h2'; subst h1 h2
    refine ⟨rfl, fun h => ?_⟩
    simp only [arithOkB, Bool.and_eq_true] at h
    refine ⟨h1' h.1.1, h2' h.1.2, ?_⟩
    show NormalRange (val a' * val b')
    rw [val_mul_scaled]; exact nrB_sound _ _ (by norm_num) h.2
  fma := by
    rintro ⟨a, fa⟩ ⟨a', fa'⟩ ⟨b, fb⟩ ⟨b', fb'⟩ ⟨c, fc⟩ ⟨c', fc'⟩ ⟨h1, h1'⟩ ⟨h2, h2'⟩ ⟨h3, h3'⟩
    simp only at h1 h2 h3 h1' h2' h3'; subst h1 h2 h3
    refine ⟨rfl, fun h => ?_⟩
    simp only [arithOkB, Bool.and_eq_true] at h
    refine ⟨h1' h.1.1.1, h2' h.1.1.2, h3' h.1.2, ?_⟩
    show NormalRange (val a' * val b' + val c')
    rw [val_fma_scaled]; exact nrB_sound _ _ (by norm_num) h.2
  fms := by
    rintro ⟨a, fa⟩ ⟨a', fa'⟩ ⟨b, fb⟩ ⟨b', fb'⟩ ⟨c, fc⟩ ⟨c', fc'⟩ ⟨h1, h1'⟩ ⟨h2, h2'⟩ ⟨h3, h3'⟩
    simp only at h1 h2 h3 h1' h2' h3'; subst h1 h2 h3
    refine ⟨rfl, fun h => ?_⟩
    simp only [arithOkB, Bool.and_eq_true] at h
    refine ⟨h1' h.1.1.1, h2' h.1.1.2, h3' h.1.2, ?_⟩
    show NormalRange (val a' * val b' - val c')
    rw [val_fms_scaled]; exact nrB_sound _ _ (by norm_num) h.2

theorem aOkB_sim : ASim RB aOkB aOk :=
  ASim.ofR arithOkB_sim (fun x => (F64.neg x.1, x.2)) (fun x => (F64.neg x.1, x.2)) (by
    rintro ⟨a, fa⟩ ⟨a', fa'⟩ ⟨h1, h1'⟩
    simp only at h1 h1'; subst h1
    exact ⟨rfl, h1'⟩)

end Spq.ErrWitness
