/-
  The model's twiddle tables (`tableFwd`, `tableInv`): where each level's words sit and what they are —
  packed residues of the expected powers of the root.  Gives the `TwSpec` hypotheses of `cert_sound`.
-/
import SpqProofs.Lemmas.NttSched
import SpqProofs.Lemmas.NttSpec

namespace Spq.Q120Ntt

theorem rd_push (acc : Array Nat) (v j : Nat) :
    rd (acc.push v) j = if j < acc.size then rd acc j else if j = acc.size then v else 0 := by
  by_cases h1 : j < acc.size
  · rw [if_pos h1, rd_of_lt _ (by simp; omega), rd_of_lt _ h1, Array.getElem_push_lt h1]
  · by_cases h2 : j = acc.size
    · subst h2; rw [if_neg h1, if_pos rfl, rd_of_lt _ (by simp)]; simp
    · rw [if_neg h1, if_neg h2, rd_of_ge _ (by simp; omega)]

theorem powsAux_spec (q w : Nat) (c cur : Nat) (acc : Array Nat) (hcur : cur < q) :
    (powsAux q w c cur acc).size = acc.size + c ∧
    (∀ j < acc.size, rd (powsAux q w c cur acc) j = rd acc j) ∧
    (∀ j < c, rd (powsAux q w c cur acc) (acc.size + j) = (cur * w ^ j) % q) := by
  induction c generalizing cur acc with
  | zero => exact ⟨rfl, fun _ _ => rfl, fun j hj => by omega⟩
  | succ c ih =>
    have hq : 0 < q := by omega
    obtain ⟨h1, h2, h3⟩ := ih ((cur * w) % q) (acc.push cur) (Nat.mod_lt _ hq)
    simp only [powsAux]
    refine ⟨by rw [h1]; simp; omega, ?_, ?_⟩
    · intro j hj
      rw [h2 j (by simp; omega), rd_push, if_pos hj]
    · intro j hj
      cases j with
      | zero =>
        rw [Nat.add_zero, h2 _ (by simp), rd_push, if_neg (by omega), if_pos rfl, pow_zero, Nat.mul_one,
          Nat.mod_eq_of_lt hcur]
      | succ j =>
        have := h3 j (by omega)
        simp only [Array.size_push] at this
        rw [show acc.size + (j + 1) = acc.size + 1 + j by omega, this, pow_succ, Nat.mod_mul_mod]
        congr 1; ring

theorem size_pows (q w n : Nat) (hq : 1 < q) : (pows q w n).size = n := by
  have := (powsAux_spec q w n 1 (Array.mkEmpty n) hq).1
  simpa [pows] using this

theorem rd_pows (q w n : Nat) (hq : 1 < q) {j : Nat} (hj : j < n) : rd (pows q w n) j = w ^ j % q := by
  have := (powsAux_spec q w n 1 (Array.mkEmpty n) hq).2.2 j hj
  simpa [pows] using this

theorem cast_pow_mod (q w j : Nat) : (((w ^ j % q : Nat) : Nat) : ZMod q) = ((w : Nat) : ZMod q) ^ j := by
  rw [ZMod.natCast_mod, Nat.cast_pow]

theorem rd_append_left (a b : Array Nat) {j : Nat} (h : j < a.size) : rd (a ++ b) j = rd a j := by
  rw [rd_of_lt _ (by simp; omega), rd_of_lt _ h, Array.getElem_append_left h]

theorem rd_append_right (a b : Array Nat) (t : Nat) : rd (a ++ b) (a.size + t) = rd b t := by
  by_cases h : t < b.size
  · rw [rd_of_lt _ (by simp; omega), rd_of_lt _ h, Array.getElem_append_right (by omega)]
    simp
  · rw [rd_of_ge _ (by simp; omega), rd_of_ge _ (by omega)]

/-- the steps' offsets are the running size of the table -/
def OffsOK (gen : Step → Array Nat) : List Step → Nat → Prop
  | [], _ => True
  | s :: l, o => s.off = o ∧ OffsOK gen l (o + (gen s).size)

theorem foldl_append_spec (gen : Step → Array Nat) (l : List Step) (acc : Array Nat)
    (hoff : OffsOK gen l acc.size) :
    acc.size ≤ (l.foldl (fun acc s => acc ++ gen s) acc).size ∧
    (∀ j < acc.size, rd (l.foldl (fun acc s => acc ++ gen s) acc) j = rd acc j) ∧
    ∀ s ∈ l, s.off + (gen s).size ≤ (l.foldl (fun acc s => acc ++ gen s) acc).size ∧
      ∀ t < (gen s).size, rd (l.foldl (fun acc s => acc ++ gen s) acc) (s.off + t) = rd (gen s) t := by
  induction l generalizing acc with
  | nil => exact ⟨le_refl _, fun _ _ => rfl, fun s hs => by cases hs⟩
  | cons s l ih =>
    obtain ⟨ho, hrest⟩ := hoff
    have hsz : (acc ++ gen s).size = acc.size + (gen s).size := by simp
    obtain ⟨h1, h2, h3⟩ := ih (acc ++ gen s) (by rw [hsz]; exact hrest)
    simp only [List.foldl_cons]
    refine ⟨by omega, ?_, ?_⟩
    · intro j hj
      rw [h2 j (by omega), rd_append_left _ _ hj]
    · intro s' hs'
      rcases List.mem_cons.1 hs' with rfl | hs'
      · refine ⟨by omega, fun t ht => ?_⟩
        rw [ho, h2 _ (by omega), rd_append_right]
      · exact h3 s' hs'

theorem size_levelSlice (q n2 : Nat) (pw : Array Nat) (s : Step) : (levelSlice q n2 pw s).size = s.nn / 2 - 1 := by
  simp [levelSlice]

theorem rd_levelSlice (q n2 : Nat) (pw : Array Nat) (s : Step) {t : Nat} (ht : t < s.nn / 2 - 1) :
    rd (levelSlice q n2 pw s) t = packTw q s.L.h (rd pw ((t + 1) * (n2 / s.nn))) := by
  rw [rd_of_lt _ (by rw [size_levelSlice]; exact ht)]
  simp [levelSlice]

theorem offsOK_fwdSteps (q n2 : Nat) (pw : Array Nat) (levels : Array Level) (k idx off : Nat) :
    OffsOK (levelSlice q n2 pw) (fwdSteps levels k idx off) off := by
  induction k generalizing idx off with
  | zero => trivial
  | succ k ih =>
    refine ⟨rfl, ?_⟩
    rw [size_levelSlice]
    show OffsOK _ _ (off + (2 ^ (k + 1) / 2 - 1))
    rw [pow_succ_half]
    exact ih _ _

theorem offsOK_invSteps (q n2 : Nat) (pw : Array Nat) (levels : Array Level) (c l off : Nat) :
    OffsOK (levelSlice q n2 pw) (invSteps levels c l off) off := by
  induction c generalizing l off with
  | zero => trivial
  | succ c ih =>
    refine ⟨rfl, ?_⟩
    rw [size_levelSlice]
    show OffsOK _ _ (off + (2 ^ (l + 1) / 2 - 1))
    rw [pow_succ_half]
    exact ih _ _

theorem size_foldl_invSteps (q n2 : Nat) (pw : Array Nat) (levels : Array Level) (c l off : Nat) (acc : Array Nat) :
    ((invSteps levels c l off).foldl (fun acc s => acc ++ levelSlice q n2 pw s) acc).size + c + 2 ^ l
      = acc.size + 2 ^ (l + c) := by
  induction c generalizing l off acc with
  | zero => simp [invSteps]
  | succ c ih =>
    simp only [invSteps, List.foldl_cons]
    have := ih (l + 1) (off + (2 ^ l - 1)) (acc ++ levelSlice q n2 pw ⟨2 ^ (l + 1), levels.getD l default, off⟩)
    rw [Array.size_append, size_levelSlice] at this
    simp only [pow_succ_half] at this
    have e1 : 2 ^ (l + 1) = 2 * 2 ^ l := by ring
    have e2 : l + 1 + c = l + (c + 1) := by omega
    have hp : 0 < 2 ^ l := by positivity
    rw [e2] at this
    omega

/-- index of the power used by word `t` of a level of size `2^a` in a transform of size `2^k` -/
theorem level_index_lt {k a t : Nat} (ha1 : 1 ≤ a) (hak : a ≤ k) (ht : t < 2 ^ a / 2 - 1) :
    (t + 1) * (2 * 2 ^ k / 2 ^ a) < 2 ^ k := by
  obtain ⟨b, rfl⟩ : ∃ b, a = b + 1 := ⟨a - 1, by omega⟩
  rw [pow_succ_half] at ht
  have e : 2 * 2 ^ k / 2 ^ (b + 1) = 2 ^ (k - b) := by
    rw [show 2 * 2 ^ k = 2 ^ (k + 1) by ring, Nat.pow_div (by omega) (by norm_num)]
    congr 1; omega
  rw [e]
  calc (t + 1) * 2 ^ (k - b) < 2 ^ b * 2 ^ (k - b) := by
        apply Nat.mul_lt_mul_of_lt_of_le (by omega) (le_refl _) (by positivity)
    _ = 2 ^ k := by rw [← pow_add]; congr 1; omega

/-- layout of the forward table: the `n` twist words, then the slice of every level at its offset -/
theorem rd_tableFwd (q Ω k : Nat) (levels : Array Level) :
    (∀ t < 2 ^ k, rd (tableFwd q Ω k levels) t
      = packTw q (levels.getD 0 default).h (rd (pows q (omegaN q Ω k) (2 ^ k)) t)) ∧
    ∀ s ∈ fwdSteps levels k 1 (2 ^ k), ∀ t < s.nn / 2 - 1, rd (tableFwd q Ω k levels) (s.off + t)
      = rd (levelSlice q (2 * 2 ^ k) (pows q (omegaN q Ω k) (2 ^ k)) s) t := by
  have hspec := foldl_append_spec (levelSlice q (2 * 2 ^ k) (pows q (omegaN q Ω k) (2 ^ k)))
    (fwdSteps levels k 1 (2 ^ k))
    (Array.ofFn (n := 2 ^ k) fun i => packTw q (levels.getD 0 default).h (rd (pows q (omegaN q Ω k) (2 ^ k)) i.val))
    (by simpa using offsOK_fwdSteps _ _ _ _ _ _ _)
  refine ⟨fun t ht => ?_, fun s hs t ht => (hspec.2.2 s hs).2 t (by rw [size_levelSlice]; exact ht)⟩
  unfold tableFwd
  simp only
  rw [hspec.2.1 t (by simpa using ht), rd_of_lt _ (by simpa using ht)]
  simp only [Array.getElem_ofFn]

/-- layout of the inverse table: the slices of the levels from offset 0, then the `n` words of the last twist -/
theorem rd_tableInv (q Ω k : Nat) (levels : Array Level) :
    (∀ s ∈ invSteps levels k 0 0, ∀ t < s.nn / 2 - 1, rd (tableInv q Ω k levels) (s.off + t)
      = rd (levelSlice q (2 * 2 ^ k) (pows q (modqPow (omegaN q Ω k) (-1) q) (2 ^ k)) s) t) ∧
    ∀ t < 2 ^ k, rd (tableInv q Ω k levels) (2 ^ k - 1 - k + t)
      = packTw q (levels.getD k default).h
          ((rd (pows q (modqPow (omegaN q Ω k) (-1) q) (2 ^ k)) t * modqPow (2 ^ k) (-1) q) % q) := by
  refine ⟨fun s hs t ht => ?_, fun t ht => ?_⟩
  · have hspec := foldl_append_spec (levelSlice q (2 * 2 ^ k) (pows q (modqPow (omegaN q Ω k) (-1) q) (2 ^ k)))
      (invSteps levels k 0 0) #[] (by simpa using offsOK_invSteps _ _ _ _ _ _ _)
    have hin := (hspec.2.2 s hs).1
    rw [size_levelSlice] at hin
    unfold tableInv
    simp only
    rw [rd_append_left _ _ (by omega), (hspec.2.2 s hs).2 t (by rw [size_levelSlice]; exact ht)]
  · have hsz := size_foldl_invSteps q (2 * 2 ^ k) (pows q (modqPow (omegaN q Ω k) (-1) q) (2 ^ k)) levels k 0 0 #[]
    simp only [pow_zero, Nat.zero_add] at hsz
    have hoff : 2 ^ k - 1 - k
        = ((invSteps levels k 0 0).foldl
            (fun acc s => acc ++ levelSlice q (2 * 2 ^ k) (pows q (modqPow (omegaN q Ω k) (-1) q) (2 ^ k)) s) #[]).size := by
      have : (#[] : Array Nat).size = 0 := rfl
      omega
    unfold tableInv
    simp only
    rw [hoff, rd_append_right, rd_of_lt _ (by simpa using ht)]
    simp only [Array.getElem_ofFn]

theorem twSpec_tableFwd_twist (q Ω k : Nat) (hq : 1 < q) (levels : Array Level) :
    TwSpec q (levels.getD 0 default).h (2 ^ k) (fun t => rd (tableFwd q Ω k levels) t)
      (fun i => ((omegaN q Ω k : Nat) : ZMod q) ^ i) := by
  intro t ht
  refine ⟨(omegaN q Ω k) ^ t % q, Nat.mod_lt _ (by omega), ?_, cast_pow_mod _ _ _⟩
  show rd (tableFwd q Ω k levels) t = _
  rw [(rd_tableFwd q Ω k levels).1 t ht, rd_pows q _ _ hq ht]

theorem twSpec_slice (q w k a : Nat) (hq : 1 < q) (tbl : Array Nat) (s : Step) (ha1 : 1 ≤ a) (hak : a ≤ k) (hnn : s.nn = 2 ^ a)
    (hrd : ∀ t < s.nn / 2 - 1, rd tbl (s.off + t) = rd (levelSlice q (2 * 2 ^ k) (pows q w (2 ^ k)) s) t) :
    TwSpec q s.L.h (s.nn - s.nn / 2 - 1) (fun t => rd tbl (s.off + t)) (τLevel ((w : Nat) : ZMod q) (2 * 2 ^ k) s.nn) := by
  intro t ht
  have hhalf : s.nn - s.nn / 2 - 1 = s.nn / 2 - 1 := by
    obtain ⟨b, rfl⟩ : ∃ b, a = b + 1 := ⟨a - 1, by omega⟩
    rw [hnn, pow_succ_half, pow_succ]; omega
  rw [hhalf] at ht
  have hidx : (t + 1) * (2 * 2 ^ k / s.nn) < 2 ^ k := by rw [hnn]; exact level_index_lt ha1 hak (by rwa [hnn] at ht)
  refine ⟨w ^ ((t + 1) * (2 * 2 ^ k / s.nn)) % q, Nat.mod_lt _ (by omega), ?_, cast_pow_mod _ _ _⟩
  show rd tbl (s.off + t) = _
  rw [hrd t ht, rd_levelSlice _ _ _ _ ht, rd_pows q _ _ hq hidx]

theorem twSpec_tableInv_twist (q Ω k : Nat) (hq : 1 < q) (levels : Array Level) :
    TwSpec q (levels.getD k default).h (2 ^ k) (fun t => rd (tableInv q Ω k levels) (2 ^ k - 1 - k + t))
      (fun i => ((modqPow (omegaN q Ω k) (-1) q : Nat) : ZMod q) ^ i * ((modqPow (2 ^ k) (-1) q : Nat) : ZMod q)) := by
  intro t ht
  refine ⟨((modqPow (omegaN q Ω k) (-1) q) ^ t % q * modqPow (2 ^ k) (-1) q) % q, Nat.mod_lt _ (by omega), ?_, ?_⟩
  · show rd (tableInv q Ω k levels) (2 ^ k - 1 - k + t) = _
    rw [(rd_tableInv q Ω k levels).2 t ht, rd_pows q _ _ hq ht]
  · rw [ZMod.natCast_mod, Nat.cast_mul, cast_pow_mod]

end Spq.Q120Ntt
