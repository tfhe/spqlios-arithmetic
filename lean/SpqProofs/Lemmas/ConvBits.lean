/-
  Bit-level identities on 64-bit words used by `reim_to_znx64_avx2_bnd63_fma`: masks as div/mod, complement
  by xor with all-ones.
-/
import Spq.Conv
import Mathlib.Tactic.NormNum

namespace Spq.Conv

theorem and_shifted_mask (a s w : Nat) : a &&& (2 ^ s * (2 ^ w - 1)) = 2 ^ s * (a / 2 ^ s % 2 ^ w) := by
  apply Nat.eq_of_testBit_eq
  intro i
  rw [Nat.testBit_and, Nat.testBit_two_pow_mul, Nat.testBit_two_pow_mul, Nat.testBit_two_pow_sub_one,
    Nat.testBit_mod_two_pow, Nat.testBit_div_two_pow]
  by_cases h : i ≥ s
  · have : i - s + s = i := by omega
    simp [h, this]
    exact Bool.and_comm _ _
  · simp [h]

theorem and_expo_mask (a : Nat) : a &&& EXPO_MASK = 4503599627370496 * (a / 4503599627370496 % 2048) := by
  have := and_shifted_mask a 52 11
  norm_num at this
  exact this

theorem and_sign_mask (a : Nat) (ha : a < 18446744073709551616) :
    a &&& SIGN_MASK = 9223372036854775808 * (a / 9223372036854775808) := by
  have := and_shifted_mask a 63 1
  norm_num at this
  rw [this]
  have : a / 9223372036854775808 % 2 = a / 9223372036854775808 := by omega
  rw [this]

theorem xor_all_ones (v : Nat) (hv : v < 18446744073709551616) :
    v ^^^ 18446744073709551615 = 18446744073709551615 - v := by
  have h64 : (18446744073709551616 : Nat) = 2 ^ 64 := by norm_num
  have e1 : (18446744073709551615 : Nat) = 2 ^ 64 - 1 := by norm_num
  have e2 : 18446744073709551615 - v = 2 ^ 64 - (v + 1) := by omega
  rw [e2]
  apply Nat.eq_of_testBit_eq
  intro i
  rw [Nat.testBit_xor, e1, Nat.testBit_two_pow_sub_one, Nat.testBit_two_pow_sub_succ (by rw [← h64]; exact hv)]
  by_cases hi : i < 64
  · simp [hi]
  · have hvi : v.testBit i = false := by
      apply Nat.testBit_lt_two_pow
      have : 2 ^ 64 ≤ 2 ^ i := Nat.pow_le_pow_right (by norm_num) (by omega)
      omega
    simp [hi, hvi]

/-- `(v ^ mask) - mask` with `mask ∈ {0, -1}` is the conditional two's-complement negation -/
theorem cond_negate (v : Nat) (hv : v ≤ 9223372036854775808) (neg : Bool) :
    toS (sub64 (v ^^^ (if neg then 18446744073709551615 else 0)) (if neg then 18446744073709551615 else 0))
      = if neg then wrapS (-(v : Int)) else wrapS (v : Int) := by
  cases neg
  · simp only [Bool.false_eq_true, if_false, Nat.xor_zero]
    unfold toS sub64 wrapS; omega
  · simp only [if_true]
    rw [xor_all_ones v (by omega)]
    unfold toS sub64 wrapS; omega

end Spq.Conv
