/-
  C16, binary64 side, products of products: the METRIC invariant of one DFT-space limb (`LimbMetric`) and the limbs that
  satisfy it (DFT-space error bounds BEFORE any inverse transform; no flag of an inverse transform is needed).
  `LimbMetric M d x δ` unfolds to `ProdErr.Near M.ctx d x δ`, so the rules of `ProdErrNear` / `VmpErrNear` apply as they
  stand: `fwd_limbMetric` is `near_fwd`, `svp_stage` is `near_mul` with `rowF_rel_le`, `vmpDD_col_stage` is `near_col`
  (one output column when the vector operand is only known up to an error).
-/
import SpqProofs.Lemmas.VmpErrNear
import SpqProofs.Lemmas.ProgErrMod
namespace Spq.ProgErr2
open Finset Spq Spq.Module Spq.Fft Spq.Fft.Alg Spq.FftErr Spq.F64 Spq.Reim4 Spq.ProdErr Spq.VmpErr Spq.ProgErr Spq.Closed
variable {K : Type} [Field K] [LinearOrder K] [IsStrictOrderedRing K]

/-- **`LimbMetric M d x δ`**: the `N` cells of the DFT-space limb `d` are finite doubles, and their values are within
    `δ` (root-mean-square over the `m = 2^k` complex points: `Σ_j |val(d)_j − DFT(x)_j|² ≤ δ²·m`) of the exact transform
    `DFT(x)_j = V ζ (pkC x m) k 0 j` of the integer polynomial `x` (the exact network of C06Err / C01Err). -/
def LimbMetric (M : F64Mod K) (d : Array ℕ) (x : Array Int) (δ : K) : Prop :=
  0 ≤ δ ∧ (∀ p, p < M.N → Fin64 (d.getD p 0)) ∧
  ∑ j ∈ range (2 ^ M.k), nsq (outC d M.k j - V M.ζ (pkC x (2 ^ M.k)) M.k 0 j) ≤ δ ^ 2 * 2 ^ M.k

theorem LimbMetric.mono {M : F64Mod K} {d : Array ℕ} {x : Array Int} {δ δ' : K} (h : LimbMetric M d x δ)
    (hle : δ ≤ δ') : LimbMetric M d x δ' := Near.mono (C := M.ctx) h hle

theorem LimbMetric.congr {M : F64Mod K} {d : Array ℕ} {x y : Array Int} {δ : K} (h : LimbMetric M d x δ)
    (hxy : ∀ t, t < M.N → x.getD t 0 = y.getD t 0) : LimbMetric M d y δ := by
  obtain ⟨h0, h1, h2⟩ := h
  refine ⟨h0, h1, le_trans (le_of_eq ?_) h2⟩
  have e : ∀ p, p < 2 ^ M.k → (pkC y (2 ^ M.k) p : Cplx K) = pkC x (2 ^ M.k) p := by
    intro p hp
    unfold pkC
    rw [hxy p (by show p < 2 * 2 ^ M.k; omega), hxy (2 ^ M.k + p) (by show 2 ^ M.k + p < 2 * 2 ^ M.k; omega)]
  apply sum_congr rfl
  intro j hj
  rw [V_top M.ζ _ M.k (pow_two_mul_of_I M.hI) j (mem_range.1 hj),
    V_top M.ζ _ M.k (pow_two_mul_of_I M.hI) j (mem_range.1 hj)]
  congr 2
  apply sumTo_congr
  intro i hi
  rw [e i hi]

/-- the DFT-space budget of output column `j`: `Σ_{i<n} rowF μ_n δ_i (ε·nb_i) na_i nb_i ‖P_i‖₁ ‖M_ij‖₁ m` -/
def colDelta (M : F64Mod K) (mat : Array Int) (ncols n : ℕ) (P : ℕ → Array Int) (j : ℕ) (δ na nb : ℕ → K) : K :=
  ∑ i ∈ range n, rowF ((muD n : ℚ) : K) (δ i) (eps K M.k * nb i) (na i) (nb i) (n1 K (P i) M.N)
    (n1 K (matEntry mat ncols M.N i j) M.N) (2 ^ M.k)

theorem colDelta_nonneg (M : F64Mod K) (mat : Array Int) (ncols n : ℕ) (P : ℕ → Array Int) (j : ℕ) (δ na nb : ℕ → K)
    (hδ : ∀ i, i < n → 0 ≤ δ i) (hna : ∀ i, i < n → 0 ≤ na i) (hnb : ∀ i, i < n → 0 ≤ nb i) :
    0 ≤ colDelta M mat ncols n P j δ na nb := by
  apply sum_nonneg
  intro i hi
  have hi' := mem_range.1 hi
  have hμ : (0 : K) ≤ ((muD n : ℚ) : K) := by exact_mod_cast muD_nonneg n
  exact rowF_nonneg hμ (hδ i hi') (mul_nonneg (eps_nonneg M.k) (hnb i hi')) (hna i hi') (hnb i hi') (n1_nonneg _ _)
    (n1_nonneg _ _) (by positivity)

theorem vmpResD_size (M : F64Mod K) (mat : Array Int) (nrows ncols : ℕ) (adft : Array ℕ) (asz rsz : ℕ)
    (hM : ∀ i j, i < nrows → j < ncols → Box M.k (matEntry mat ncols M.N i j)) :
    (vmpResD M.c mat nrows ncols adft asz rsz).size = rsz * M.N :=
  VmpErr.vmpResD_size M.c M.k M.cN M.sN M.cNi M.sNi M.ok mat nrows ncols adft asz rsz hM

theorem vmpDD_col_stage (M : F64Mod K) (mat : Array Int) (nrows ncols : ℕ) (adft : Array ℕ) (asz rsz : ℕ)
    (P : ℕ → Array Int) (δ : ℕ → K)
    (hrep : ∀ i, i < min nrows asz → LimbMetric M (dlimb adft i M.N) (P i) (δ i))
    (hM : ∀ i j, i < nrows → j < ncols → Box M.k (matEntry mat ncols M.N i j))
    (j : ℕ) (hj : j < min ncols rsz) (hpos : M.k < 2 → 0 < min nrows asz)
    (hokB : ∀ i, i < min nrows asz → FwdOk M.c M.k M.cN M.sN (matEntry mat ncols M.N i j))
    (hokD : ∀ p, p < M.N → vmpFlagD M.c mat nrows ncols adft asz rsz (j * M.N + p))
    (na nb : ℕ → K) (hna0 : ∀ i, i < min nrows asz → 0 ≤ na i) (hnb0 : ∀ i, i < min nrows asz → 0 ≤ nb i)
    (hna : ∀ i, i < min nrows asz → n2sq K (P i) M.N ≤ na i ^ 2)
    (hnb : ∀ i, i < min nrows asz → n2sq K (matEntry mat ncols M.N i j) M.N ≤ nb i ^ 2) :
    LimbMetric M (dlimb (vmpResD M.c mat nrows ncols adft asz rsz) j M.N)
      (colSpecP M.N mat ncols (min nrows asz) P j) (colDelta M mat ncols (min nrows asz) P j δ na nb) :=
  near_col M.ctx M.ok mat nrows ncols adft asz rsz P δ hrep hM j hj hpos hokB hokD na nb
    (fun i hi => ⟨hna0 i hi, hna i hi⟩) (fun i hi => ⟨hnb0 i hi, hnb i hi⟩)

theorem V_zero (M : F64Mod K) (x : Array Int) (hx : ∀ t, t < M.N → x.getD t 0 = 0) (j : ℕ) (hj : j < 2 ^ M.k) :
    V M.ζ (pkC x (2 ^ M.k)) M.k 0 j = 0 := by
  rw [V_top M.ζ _ M.k (pow_two_mul_of_I M.hI) j hj]
  have e : ∀ p, p < 2 ^ M.k → (pkC x (2 ^ M.k) p : Cplx K) = 0 := by
    intro p hp
    unfold pkC
    rw [hx p (by show p < 2 * 2 ^ M.k; omega), hx (2 ^ M.k + p) (by show 2 ^ M.k + p < 2 * 2 ^ M.k; omega)]
    apply QuadraticAlgebra.ext <;> simp [toC]
  exact sumTo_zero (fun i hi => by rw [e i hi, zero_mul])

theorem limbMetric_zero (M : F64Mod K) (d : Array ℕ) (δ : K) (hδ : 0 ≤ δ) (hd : ∀ p, p < M.N → d.getD p 0 = 0) :
    LimbMetric M d (Array.replicate M.N 0) δ := by
  refine ⟨hδ, fun p hp => by rw [hd p hp]; exact fin64_zero, ?_⟩
  have hz : ∀ j ∈ range (2 ^ M.k),
      nsq (outC d M.k j - V M.ζ (pkC (Array.replicate M.N 0) (2 ^ M.k)) M.k 0 j : Cplx K) = 0 := by
    intro j hj
    have hj' := mem_range.1 hj
    rw [V_zero M _ (fun t _ => getD_replicate 0 _ t) j hj', sub_zero, outC_getD, hd j (by show j < 2 * 2 ^ M.k; omega),
      hd (j + 2 ^ M.k) (by show j + 2 ^ M.k < 2 * 2 ^ M.k; omega), val_zero]
    simp [nsq]
  rw [sum_eq_zero hz]
  positivity

theorem fwd_limbMetric (M : F64Mod K) (a : Array Int) (hbox : Box M.k a) (hok : FwdOk M.c M.k M.cN M.sN a) (na : K)
    (hna0 : 0 ≤ na) (hna : n2sq K a M.N ≤ na ^ 2) :
    LimbMetric M (M.parts.fft (M.parts.fromZnx a)) a (eps K M.k * na) := by
  rw [parts_fft M.c M.k M.cN M.sN M.cNi M.sNi M.ok.cfg]
  exact near_fwd M.ctx a hbox hok na ⟨hna0, hna⟩

/-- flags of the forward transforms of `a`, `b` and of their pointwise product (the first three stages of
    `ProdErr.PipeOk`; no inverse transform) -/
structure MulOk (c : Cfg) (k : ℕ) (cN sN : ℕ → ℕ) (a b : Array Int) : Prop where
  okA : FwdOk c k cN sN a
  okB : FwdOk c k cN sN b
  okM : ∀ p, p < 2 * 2 ^ k →
    ((mulA arithOk c.mulFma (2 ^ k) ((stF c k cN sN a).map lift) ((stF c k cN sN b).map lift)).getD p arithOk.zero).2

theorem MulOk.of_pipe {c : Cfg} {k : ℕ} {cN sN cNi sNi : ℕ → ℕ} {a b : Array Int} (h : PipeOk c k cN sN cNi sNi a b) :
    MulOk c k cN sN a b := ⟨h.okA, h.okB, h.okM⟩

/-- the DFT-space budget of one product `a ⊛ b`: `fB ε μ (ε·m)·(‖a‖₁·nb + na·‖b‖₁)` -/
def svpDelta (M : F64Mod K) (a b : Array Int) (na nb : K) : K :=
  fB (eps K M.k) ((mu64 : ℚ) : K) (eps K M.k * 2 ^ M.k) * (n1 K a M.N * nb + na * n1 K b M.N)

theorem svpDelta_nonneg (M : F64Mod K) (a b : Array Int) (na nb : K) (hna0 : 0 ≤ na) (hnb0 : 0 ≤ nb) :
    0 ≤ svpDelta M a b na nb := by
  unfold svpDelta
  have hθ0 : (0 : K) ≤ eps K M.k * 2 ^ M.k := mul_nonneg (eps_nonneg M.k) (by positivity)
  have hf0 := fB_nonneg (eps_nonneg (K := K) M.k) (mu_nonneg (K := K)) hθ0
  have h1 : (0 : K) ≤ n1 K a M.N := n1_nonneg _ _
  have h2 : (0 : K) ≤ n1 K b M.N := n1_nonneg _ _
  positivity

theorem svp_stage (M : F64Mod K) (a b : Array Int) (ha : Box M.k a) (hb : Box M.k b)
    (hok : MulOk M.c M.k M.cN M.sN a b) (na nb : K) (hna0 : 0 ≤ na) (hnb0 : 0 ≤ nb)
    (hna : n2sq K a M.N ≤ na ^ 2) (hnb : n2sq K b M.N ≤ nb ^ 2) (hnl : nb ≤ n1 K b M.N) :
    LimbMetric M (stM M.c M.k M.cN M.sN a b) (nmul M.N a b) (svpDelta M a b na nb) := by
  have sa : Size M.ctx a na := ⟨hna0, hna⟩
  have sb : Size M.ctx b nb := ⟨hnb0, hnb⟩
  exact (near_mul M.ctx _ _ a b _ _ na nb (near_fwd M.ctx a ha hok.okA na sa) (near_fwd M.ctx b hb hok.okB nb sb) sa sb
    hok.okM).mono
    (rowF_rel_le _ _ na nb _ _ _ (eps_nonneg M.k) mu_nonneg hna0 hnb0 (n1_nonneg _ _) (by positivity) hnl)

end Spq.ProgErr2
