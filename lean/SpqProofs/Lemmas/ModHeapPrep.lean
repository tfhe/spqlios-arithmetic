/-
  Heap-level refinement of `fft64_vmp_prepare_contiguous_{ref,avx}` against `Spq.Module.vmpPrepare`: the address
  facts of the loop nest, and the row / column / block loops as `Rep` steps (`fill_refine`, `sim_fold`); that every
  cell of `pmat` is written is `prepS_iff` (`ModuleVmpPrep`).
-/
import SpqProofs.Lemmas.ModHeapRefine
import SpqProofs.Lemmas.ModuleVmpPrep
import SpqProofs.Lemmas.ModHeapVec
namespace Spq.ModuleHeap
open Spq Heap Reim4
variable {γ α : Type}

theorem matDft_rdI (c : Module.Parts α) (cd : Cells γ α) (h : Heap γ) (mat nrows ncols row col : Nat)
    (hrow : row < nrows) (hcol : col < ncols) :
    Module.matDft c (rdI cd h mat (nrows * ncols * c.nn)) ncols row col =
      c.fft (c.fromZnx (rdI cd h (mat + (row * ncols + col) * c.nn) c.nn)) := by
  have h1 := mul_step row nrows ncols hrow
  have h2 := mul_step (row * ncols + col) (nrows * ncols) c.nn (by omega)
  unfold Module.matDft rdI
  rw [← Array.map_extract, readLimb_extract _ _ _ _ _ _ h2]

theorem prep_src_sub (mat nn nrows ncols row col : Nat) (hrow : row < nrows) (hcol : col < ncols) :
    Sub (mat + (row * ncols + col) * nn) nn mat (nrows * ncols * nn) :=
  Sub.limb mat nn (nrows * ncols) (row * ncols + col)
    (Nat.lt_of_lt_of_le (Nat.add_lt_add_left hcol _) (mul_step row nrows ncols hrow))

/-- `nn ≥ 8`: the 8-cell block `blk` of entry `(row, col)` -/
theorem prep_blk_bound (c : Module.Parts α) (nrows ncols row col blk : Nat) (hnn : c.nn = 2 * c.m) (hm4 : c.m % 4 = 0)
    (hrow : row < nrows) (hcol : col < ncols) (hblk : blk < c.m / 4) :
    Module.pmatStart nrows ncols row col + blk * (nrows * ncols * 8) + 8 ≤ c.nn * nrows * ncols := by
  rw [prep_total c nrows ncols hnn hm4, Module.pmatStart_blk]
  exact (Module.pTiles nrows ncols (c.m / 4)).bound 8 ⟨⟨hrow, hcol⟩, hblk⟩

/-- `nn < 8`: the limb of entry `(row, col)` of the prepared matrix (plain layout, column-major) -/
theorem pm_small_bound (nn nrows ncols row col : Nat) (hrow : row < nrows) (hcol : col < ncols) :
    (col * nrows + row) * nn + nn ≤ nn * nrows * ncols := by
  have h2 := mul_step (col * nrows + row) (ncols * nrows) nn
    (Nat.lt_of_lt_of_le (Nat.add_lt_add_left hrow _) (mul_step col ncols nrows hcol))
  have e : nn * nrows * ncols = ncols * nrows * nn := by ring
  omega

section
variable (c : Module.Parts α) (cd : Cells γ α) (hs : Sized c) (hr : RoundTrip cd)
include hs hr

theorem vmpPrepare_heap (h : Heap γ) (pmat mat nrows ncols tmp tb : Nat)
    (hnn : c.nn = 2 * c.m) (hm4 : 8 ≤ c.nn → c.m % 4 = 0) (htb : 8 ≤ c.nn → 8 * c.nn ≤ tb)
    (hpm : pmat + c.nn * nrows * ncols ≤ h.mem.size) (hmat : mat + nrows * ncols * c.nn ≤ h.mem.size)
    (htmp : 8 ≤ c.nn → tmp + c.nn ≤ h.mem.size)
    (hd1 : mat + nrows * ncols * c.nn ≤ pmat ∨ pmat + c.nn * nrows * ncols ≤ mat)
    (hd2 : 8 ≤ c.nn → (tmp + c.nn ≤ pmat ∨ pmat + c.nn * nrows * ncols ≤ tmp) ∧
      (tmp + c.nn ≤ mat ∨ mat + nrows * ncols * c.nn ≤ tmp)) :
    Fr (fun x => In pmat (c.nn * nrows * ncols) x ∨ (8 ≤ c.nn ∧ In tmp c.nn x)) h
      (vmpPrepare c cd h pmat mat nrows ncols tmp tb) ∧
    (vmpPrepare c cd h pmat mat nrows ncols tmp tb).readLimb cd.dflt pmat (c.nn * nrows * ncols) =
      (Module.vmpPrepare c (rdI cd h mat (nrows * ncols * c.nn)) nrows ncols).map cd.enc := by
  unfold vmpPrepare Module.vmpPrepare
  have hcov := prepS_iff c nrows ncols hnn hm4
  unfold prepS prepCell at hcov
  by_cases h8 : 8 ≤ c.nn
  · have htb' := htb h8
    have htmp' := htmp h8
    obtain ⟨hd2a, hd2b⟩ := hd2 h8
    have e : ∀ g : Heap γ, scr tb 0 c.nn g = g := fun g => scr_eq tb 0 c.nn g (by omega)
    have h8' : c.nn ≥ 8 := h8
    simp only [if_pos h8', e]
    simp only [h8, if_true] at hcov
    refine fill_refine cd c.ar.zero h _ pmat (c.nn * nrows * ncols) nrows
      (fun row x => ∃ col, col < ncols ∧ ∃ blk, blk < c.m / 4 ∧
        In (Module.pmatStart nrows ncols row col + blk * (nrows * ncols * 8)) 8 x)
      _ _ id (c.nn * nrows * ncols) 0 rfl (fun row g R T hrow _ r => ?_) hcov
      (fun g _ => ⟨Fr.refl _ g, by simp [readLimb]⟩) (fun x q => absurd q.2 (Nat.not_lt.2 q.1))
    refine sim_fold (Rep cd c.ar.zero h _ pmat (c.nn * nrows * ncols)) ncols
      (fun col x => ∃ blk, blk < c.m / 4 ∧ In (Module.pmatStart nrows ncols row col + blk * (nrows * ncols * 8)) 8 x)
      _ _ T g R r (fun col g R T hcol _ r => ?_)
    have SM := prep_src_sub mat c.nn nrows ncols row col hrow hcol
    have DM1 : Dj (mat + (row * ncols + col) * c.nn) c.nn pmat (c.nn * nrows * ncols) := Dj.mono hd1 SM (Sub.refl _ _)
    have DM2 : Dj (mat + (row * ncols + col) * c.nn) c.nn tmp c.nn := (Dj.mono hd2b (Sub.refl _ _) SM).symm
    obtain ⟨f1, v1⟩ := dftStep c cd hs hr h g _ r.1 tmp (mat + (row * ncols + col) * c.nn) htmp' (SM.le hmat) DM2
      (fun x hx hw => hw.elim (DM1.not_mem x hx) (fun q => DM2.not_mem x hx q.2))
    have et := matDft_rdI c cd h mat nrows ncols row col hrow hcol
    unfold Module.matDft at et
    rw [← et] at v1
    have r1 := r.keep f1 (fun x q => Or.inr ⟨h8, q⟩) (Dj.symm hd2a).not_mem
    refine (sim_fold (fun T g R => Rep cd c.ar.zero h _ pmat (c.nn * nrows * ncols) T g R ∧
        g.readLimb cd.dflt tmp c.nn = _) (c.m / 4)
      (fun blk x => In (Module.pmatStart nrows ncols row col + blk * (nrows * ncols * 8)) 8 x)
      _ _ T _ R ⟨r1, v1⟩ (fun blk g R T hblk _ P => ?_)).1
    obtain ⟨r, vt⟩ := P
    have hb := prep_blk_bound c nrows ncols row col blk hnn (hm4 h8) hrow hcol hblk
    have SB : Sub (pmat + (Module.pmatStart nrows ncols row col + blk * (nrows * ncols * 8))) 8 pmat (c.nn * nrows * ncols) :=
      Sub.at _ _ _ _ hb
    have DB : Dj tmp c.nn (pmat + (Module.pmatStart nrows ncols row col + blk * (nrows * ncols * 8))) 8 :=
      Dj.mono hd2a (Sub.refl _ _) SB
    have ea : pmat + Module.pmatStart nrows ncols row col + blk * (nrows * ncols * 8) =
        pmat + (Module.pmatStart nrows ncols row col + blk * (nrows * ncols * 8)) := Nat.add_assoc _ _ _
    rw [ea]
    obtain ⟨f2, v2⟩ := kExtract1_spec c cd g blk
      (pmat + (Module.pmatStart nrows ncols row col + blk * (nrows * ncols * 8))) tmp
      (r.1.size ▸ htmp') (r.1.size ▸ SB.le hpm) DB.symm
    rw [rdD_of_cells cd hr _ _ _ _ vt] at v2
    refine ⟨r.store _ 8 _ f2 v2 (fun x q => Or.inl (SB.mem x q)), ?_⟩
    rw [readLimb_of_fr f2 cd.dflt tmp _ DB.not_mem]; exact vt
  · have h8' : ¬ c.nn ≥ 8 := h8
    simp only [if_neg h8']
    simp only [h8, if_false] at hcov
    refine fill_refine cd c.ar.zero h _ pmat (c.nn * nrows * ncols) nrows
      (fun row x => ∃ col, col < ncols ∧ In ((col * nrows + row) * c.nn) c.nn x)
      _ _ id (c.nn * nrows * ncols) 0 rfl (fun row g R T hrow _ r => ?_) hcov
      (fun g _ => ⟨Fr.refl _ g, by simp [readLimb]⟩) (fun x q => absurd q.2 (Nat.not_lt.2 q.1))
    refine sim_fold (Rep cd c.ar.zero h _ pmat (c.nn * nrows * ncols)) ncols
      (fun col x => In ((col * nrows + row) * c.nn) c.nn x) _ _ T g R r (fun col g R T hcol _ r => ?_)
    have SM := prep_src_sub mat c.nn nrows ncols row col hrow hcol
    have hb := pm_small_bound c.nn nrows ncols row col hrow hcol
    have SP : Sub (pmat + (col * nrows + row) * c.nn) c.nn pmat (c.nn * nrows * ncols) := Sub.at _ _ _ _ hb
    obtain ⟨f1, v1⟩ := dftStep c cd hs hr h g _ r.1 (pmat + (col * nrows + row) * c.nn) (mat + (row * ncols + col) * c.nn)
      (SP.le hpm) (SM.le hmat) (Dj.mono hd1 SM SP)
      (fun x hx hw => hw.elim ((Dj.mono hd1 SM (Sub.refl _ _)).not_mem x hx) (fun q => h8 q.1))
    have et := matDft_rdI c cd h mat nrows ncols row col hrow hcol
    unfold Module.matDft at et
    rw [← et] at v1
    exact r.store _ c.nn _ f1 v1 (fun x q => Or.inl (SP.mem x q))

end

end Spq.ModuleHeap
