/-
  `vmpApplyDftToDft` against `vmpPrepare` on the reim4 layout (`nn ≥ 8`) for an ARBITRARY arithmetic record (no ring
  laws): what the dot-product kernels read from the prepared matrix and from the extracted vector block, hence what
  every kernel output cell is — the scalar recurrence `dotRe / dotIm` of `VmpErrDot.lean` applied to `(adft_i[t])_i`
  and `(fft(M[i][j])[t])_i` —, the block save, and the invariant of the loops: every cell of every computed column is
  `colRe / colIm` in the accumulation order `colKind8` (2-column kernel for paired columns, 1-column kernel for a lone
  last column).  The namespace is `VmpErr` because the layout is stated for any arithmetic record, so that the
  exact-ring statement (`C02.vmp_layout`) and the binary64 one (`C02Err.vmp_layout_f64`) are both instances.
-/
import SpqProofs.Lemmas.VmpErrCells
import SpqProofs.Lemmas.ModuleVmpApply
import SpqProofs.Lemmas.ModuleVmpBlk
namespace Spq.VmpErr
open Spq Spq.Module Spq.Reim4
variable {α : Type}

/-- cell `t` / `t + m` of row `i` of the DFT-space vector (rows of `nn` cells) -/
def aRe (z : α) (adft : Array α) (nn t : ℕ) : ℕ → α := fun i => adft.getD (i * nn + t) z
def aIm (z : α) (adft : Array α) (nn m t : ℕ) : ℕ → α := fun i => adft.getD (i * nn + t + m) z
/-- cell `t` / `t + m` of the DFT of matrix entry `(i, j)` -/
def bRe (c : Parts α) (mat : Array Int) (ncols j t : ℕ) : ℕ → α := fun i => (matDft c mat ncols i j).getD t c.ar.zero
def bIm (c : Parts α) (mat : Array Int) (ncols j t : ℕ) : ℕ → α := fun i => (matDft c mat ncols i j).getD (t + c.m) c.ar.zero

/-- complex `t` of output column `j` as the accumulation order `Kd` computes it from `n` rows -/
def colRe (c : Parts α) (Kd : DotK) (adft : Array α) (mat : Array Int) (ncols n j t : ℕ) : α :=
  dotRe c.ar Kd (aRe c.ar.zero adft c.nn t) (aIm c.ar.zero adft c.nn c.m t) (bRe c mat ncols j t) (bIm c mat ncols j t) n
def colIm (c : Parts α) (Kd : DotK) (adft : Array α) (mat : Array Int) (ncols n j t : ℕ) : α :=
  dotIm c.ar Kd (aRe c.ar.zero adft c.nn t) (aIm c.ar.zero adft c.nn c.m t) (bRe c mat ncols j t) (bIm c mat ncols j t) n

theorem extOf_get (c : Parts α) (hnn : c.nn = 2 * c.m) (adft : Array α) (n blk i k : ℕ) (hi : i < n) (hk : k < 4) :
    uRe c.ar.zero (ModuleHeap.extOf c n blk adft) k i = aRe c.ar.zero adft c.nn (4 * blk + k) i ∧
    uIm c.ar.zero (ModuleHeap.extOf c n blk adft) k i = aIm c.ar.zero adft c.nn c.m (4 * blk + k) i := by
  obtain ⟨e1, e2⟩ := extractRows_get c.ar.zero c.m n blk (Array.replicate (8 * n) c.ar.zero) adft (by simp) i k hi hk
  unfold uRe uIm aRe aIm ModuleHeap.extOf
  constructor
  · rw [e1, hnn]; congr 1; omega
  · rw [(by omega : 8 * i + k + 4 = 8 * i + 4 + k), e2, hnn]; congr 1; omega

theorem col_off (col nrows : ℕ) (he : col % 2 = 0) : col * (8 * nrows) = 16 * (col / 2 * nrows) := by
  have : col = 2 * (col / 2) := by omega
  calc col * (8 * nrows) = (2 * (col / 2)) * (8 * nrows) := by rw [← this]
    _ = 16 * (col / 2 * nrows) := by ring

theorem pair_read_g (c : Parts α) (mat : Array Int) (nrows ncols : ℕ) (h8 : 8 ≤ c.nn) (hnn : c.nn = 2 * c.m)
    (hm4 : c.m % 4 = 0) (col blk i k : ℕ) (he : col % 2 = 0) (hc : col + 1 < ncols) (hb : blk < c.m / 4) (hi : i < nrows)
    (hk : k < 4) :
    vRe c.ar.zero (gCol (vmpPrepare c mat nrows ncols) nrows ncols blk col 16) 16 0 k i = bRe c mat ncols col (4 * blk + k) i ∧
    vIm c.ar.zero (gCol (vmpPrepare c mat nrows ncols) nrows ncols blk col 16) 16 0 k i = bIm c mat ncols col (4 * blk + k) i ∧
    vRe c.ar.zero (gCol (vmpPrepare c mat nrows ncols) nrows ncols blk col 16) 16 8 k i =
      bRe c mat ncols (col + 1) (4 * blk + k) i ∧
    vIm c.ar.zero (gCol (vmpPrepare c mat nrows ncols) nrows ncols blk col 16) 16 8 k i =
      bIm c mat ncols (col + 1) (4 * blk + k) i := by
  obtain ⟨a1, a2⟩ := prepared_cell c mat nrows ncols h8 hnn hm4 i col blk k hi (by omega) hb hk
  obtain ⟨b1, b2⟩ := prepared_cell c mat nrows ncols h8 hnn hm4 i (col + 1) blk k hi hc hb hk
  rw [qslot_pair _ _ _ _ (by omega)] at a1 a2 b1 b2
  have e0 : (col + 1) / 2 = col / 2 := by omega
  rw [e0] at b1 b2
  have e1 : blk * (8 * nrows * ncols) = 8 * (blk * (nrows * ncols)) := by ring
  have e2 := col_off col nrows he
  have e3 : 4 * blk + k + c.m = c.m + 4 * blk + k := by omega
  unfold vRe vIm bRe bIm gCol
  refine ⟨?_, ?_, ?_, ?_⟩
  · rw [getD_extract, if_pos (by omega), ← a1]; congr 1; omega
  · rw [getD_extract, if_pos (by omega), e3, ← a2]; congr 1; omega
  · rw [getD_extract, if_pos (by omega), ← b1]; congr 1; omega
  · rw [getD_extract, if_pos (by omega), e3, ← b2]; congr 1; omega

theorem lone_read_g (c : Parts α) (mat : Array Int) (nrows ncols : ℕ) (h8 : 8 ≤ c.nn) (hnn : c.nn = 2 * c.m)
    (hm4 : c.m % 4 = 0) (col blk i k : ℕ) (hl : col + 1 = ncols ∧ ncols % 2 = 1) (hb : blk < c.m / 4) (hi : i < nrows)
    (hk : k < 4) :
    vRe c.ar.zero (gCol (vmpPrepare c mat nrows ncols) nrows ncols blk col 8) 8 0 k i = bRe c mat ncols col (4 * blk + k) i ∧
    vIm c.ar.zero (gCol (vmpPrepare c mat nrows ncols) nrows ncols blk col 8) 8 0 k i = bIm c mat ncols col (4 * blk + k) i := by
  obtain ⟨a1, a2⟩ := prepared_cell c mat nrows ncols h8 hnn hm4 i col blk k hi (by omega) hb hk
  rw [qslot_lone _ _ _ _ hl] at a1 a2
  have e1 : blk * (8 * nrows * ncols) = 8 * (blk * (nrows * ncols)) := by ring
  have e2 := col_off col nrows (by omega)
  have e3 : 4 * blk + k + c.m = c.m + 4 * blk + k := by omega
  unfold vRe vIm bRe bIm gCol
  refine ⟨?_, ?_⟩
  · rw [getD_extract, if_pos (by omega), ← a1]; congr 1; omega
  · rw [getD_extract, if_pos (by omega), e3, ← a2]; congr 1; omega

def kind2 (c : Parts α) : DotK := if c.vmpAvx then .av2 else .ref
def kind1 (c : Parts α) : DotK := if c.vmpAvx then .av1 else .ref

theorem kind2_ne (c : Parts α) : kind2 c = .sm → 1 ≤ 0 := by unfold kind2; split <;> intro h <;> cases h
theorem kind1_ne (c : Parts α) : kind1 c = .sm → 1 ≤ 0 := by unfold kind1; split <;> intro h <;> cases h

theorem prod2_cells (c : Parts α) (n : ℕ) (u v : Array α) (k : ℕ) (hk : k < 4) :
    (ModuleHeap.prod2 c n u v).size = 16 ∧
    (ModuleHeap.prod2 c n u v).getD k c.ar.zero =
      dotRe c.ar (kind2 c) (uRe c.ar.zero u k) (uIm c.ar.zero u k) (vRe c.ar.zero v 16 0 k) (vIm c.ar.zero v 16 0 k) n ∧
    (ModuleHeap.prod2 c n u v).getD (k + 4) c.ar.zero =
      dotIm c.ar (kind2 c) (uRe c.ar.zero u k) (uIm c.ar.zero u k) (vRe c.ar.zero v 16 0 k) (vIm c.ar.zero v 16 0 k) n ∧
    (ModuleHeap.prod2 c n u v).getD (8 + k) c.ar.zero =
      dotRe c.ar (kind2 c) (uRe c.ar.zero u k) (uIm c.ar.zero u k) (vRe c.ar.zero v 16 8 k) (vIm c.ar.zero v 16 8 k) n ∧
    (ModuleHeap.prod2 c n u v).getD (8 + k + 4) c.ar.zero =
      dotIm c.ar (kind2 c) (uRe c.ar.zero u k) (uIm c.ar.zero u k) (vRe c.ar.zero v 16 8 k) (vIm c.ar.zero v 16 8 k) n := by
  unfold ModuleHeap.prod2 kind2
  cases h : c.vmpAvx
  · simp only [Bool.false_eq_true, if_false, dotRe, dotIm]
    obtain ⟨s, r⟩ := mat2colsRef_cells c.ar n (Array.replicate 16 c.ar.zero) u v (by simp) k hk
    exact ⟨by rw [s]; simp, r⟩
  · simp only [if_true, dotRe, dotIm]
    obtain ⟨s, r⟩ := mat2colsAvx2_cells c.ar n (Array.replicate 16 c.ar.zero) u v (by simp) k hk
    exact ⟨by rw [s]; simp, r⟩

theorem prod1_cells (c : Parts α) (n : ℕ) (u v : Array α) (k : ℕ) (hk : k < 4) :
    (ModuleHeap.prod1 c n u v).size = 8 ∧
    (ModuleHeap.prod1 c n u v).getD k c.ar.zero =
      dotRe c.ar (kind1 c) (uRe c.ar.zero u k) (uIm c.ar.zero u k) (vRe c.ar.zero v 8 0 k) (vIm c.ar.zero v 8 0 k) n ∧
    (ModuleHeap.prod1 c n u v).getD (k + 4) c.ar.zero =
      dotIm c.ar (kind1 c) (uRe c.ar.zero u k) (uIm c.ar.zero u k) (vRe c.ar.zero v 8 0 k) (vIm c.ar.zero v 8 0 k) n := by
  unfold ModuleHeap.prod1 kind1
  cases h : c.vmpAvx
  · simp only [Bool.false_eq_true, if_false, dotRe, dotIm]
    obtain ⟨s, r⟩ := mat1colRef_cells c.ar n (Array.replicate 8 c.ar.zero) u v (by simp) k hk
    exact ⟨by rw [s]; simp, r⟩
  · simp only [if_true, dotRe, dotIm]
    obtain ⟨s, r⟩ := mat1colAvx2_cells' c.ar n (Array.replicate 8 c.ar.zero) u v (by simp) k hk
    exact ⟨by rw [s]; simp, r⟩

theorem prod2_val_g (c : Parts α) (mat : Array Int) (nrows ncols : ℕ) (h8 : 8 ≤ c.nn) (hnn : c.nn = 2 * c.m)
    (hm4 : c.m % 4 = 0) (adft : Array α) (n : ℕ) (hrm : n ≤ nrows) (col blk k : ℕ) (he : col % 2 = 0)
    (hc : col + 1 < ncols) (hb : blk < c.m / 4) (hk : k < 4) :
    (ModuleHeap.prod2 c n (ModuleHeap.extOf c n blk adft) (gCol (vmpPrepare c mat nrows ncols) nrows ncols blk col 16)).size = 16 ∧
    (ModuleHeap.prod2 c n (ModuleHeap.extOf c n blk adft) (gCol (vmpPrepare c mat nrows ncols) nrows ncols blk col 16)).getD k c.ar.zero =
      colRe c (kind2 c) adft mat ncols n col (4 * blk + k) ∧
    (ModuleHeap.prod2 c n (ModuleHeap.extOf c n blk adft) (gCol (vmpPrepare c mat nrows ncols) nrows ncols blk col 16)).getD (k + 4) c.ar.zero =
      colIm c (kind2 c) adft mat ncols n col (4 * blk + k) ∧
    (ModuleHeap.prod2 c n (ModuleHeap.extOf c n blk adft) (gCol (vmpPrepare c mat nrows ncols) nrows ncols blk col 16)).getD (8 + k) c.ar.zero =
      colRe c (kind2 c) adft mat ncols n (col + 1) (4 * blk + k) ∧
    (ModuleHeap.prod2 c n (ModuleHeap.extOf c n blk adft) (gCol (vmpPrepare c mat nrows ncols) nrows ncols blk col 16)).getD (8 + k + 4) c.ar.zero =
      colIm c (kind2 c) adft mat ncols n (col + 1) (4 * blk + k) := by
  obtain ⟨s, r1, r2, r3, r4⟩ := prod2_cells c n (ModuleHeap.extOf c n blk adft)
    (gCol (vmpPrepare c mat nrows ncols) nrows ncols blk col 16) k hk
  have hn : kind2 c = .sm → 1 ≤ n := fun h => by have := kind2_ne c h; omega
  have pr := fun i (hi : i < n) => pair_read_g c mat nrows ncols h8 hnn hm4 col blk i k he hc hb (by omega) hk
  have ex := fun i (hi : i < n) => extOf_get c hnn adft n blk i k hi hk
  obtain ⟨q1, q2⟩ := dotRe_congr c.ar (kind2 c) _ _ _ _ (aRe c.ar.zero adft c.nn (4 * blk + k))
    (aIm c.ar.zero adft c.nn c.m (4 * blk + k)) (bRe c mat ncols col (4 * blk + k)) (bIm c mat ncols col (4 * blk + k)) n hn
    (fun i hi => (ex i hi).1) (fun i hi => (ex i hi).2) (fun i hi => (pr i hi).1) (fun i hi => (pr i hi).2.1)
  obtain ⟨q3, q4⟩ := dotRe_congr c.ar (kind2 c) _ _ _ _ (aRe c.ar.zero adft c.nn (4 * blk + k))
    (aIm c.ar.zero adft c.nn c.m (4 * blk + k)) (bRe c mat ncols (col + 1) (4 * blk + k))
    (bIm c mat ncols (col + 1) (4 * blk + k)) n hn
    (fun i hi => (ex i hi).1) (fun i hi => (ex i hi).2) (fun i hi => (pr i hi).2.2.1) (fun i hi => (pr i hi).2.2.2)
  exact ⟨s, by rw [r1, q1]; rfl, by rw [r2, q2]; rfl, by rw [r3, q3]; rfl, by rw [r4, q4]; rfl⟩

theorem prod1_val_g (c : Parts α) (mat : Array Int) (nrows ncols : ℕ) (h8 : 8 ≤ c.nn) (hnn : c.nn = 2 * c.m)
    (hm4 : c.m % 4 = 0) (adft : Array α) (n : ℕ) (hrm : n ≤ nrows) (col blk k : ℕ)
    (hl : col + 1 = ncols ∧ ncols % 2 = 1) (hb : blk < c.m / 4) (hk : k < 4) :
    (ModuleHeap.prod1 c n (ModuleHeap.extOf c n blk adft) (gCol (vmpPrepare c mat nrows ncols) nrows ncols blk col 8)).size = 8 ∧
    (ModuleHeap.prod1 c n (ModuleHeap.extOf c n blk adft) (gCol (vmpPrepare c mat nrows ncols) nrows ncols blk col 8)).getD k c.ar.zero =
      colRe c (kind1 c) adft mat ncols n col (4 * blk + k) ∧
    (ModuleHeap.prod1 c n (ModuleHeap.extOf c n blk adft) (gCol (vmpPrepare c mat nrows ncols) nrows ncols blk col 8)).getD (k + 4) c.ar.zero =
      colIm c (kind1 c) adft mat ncols n col (4 * blk + k) := by
  obtain ⟨s, r1, r2⟩ := prod1_cells c n (ModuleHeap.extOf c n blk adft)
    (gCol (vmpPrepare c mat nrows ncols) nrows ncols blk col 8) k hk
  have hn : kind1 c = .sm → 1 ≤ n := fun h => by have := kind1_ne c h; omega
  have pr := fun i (hi : i < n) => lone_read_g c mat nrows ncols h8 hnn hm4 col blk i k hl hb (by omega) hk
  have ex := fun i (hi : i < n) => extOf_get c hnn adft n blk i k hi hk
  obtain ⟨q1, q2⟩ := dotRe_congr c.ar (kind1 c) _ _ _ _ (aRe c.ar.zero adft c.nn (4 * blk + k))
    (aIm c.ar.zero adft c.nn c.m (4 * blk + k)) (bRe c mat ncols col (4 * blk + k)) (bIm c mat ncols col (4 * blk + k)) n hn
    (fun i hi => (ex i hi).1) (fun i hi => (ex i hi).2) (fun i hi => (pr i hi).1) (fun i hi => (pr i hi).2)
  exact ⟨s, by rw [r1, q1]; rfl, by rw [r2, q2]; rfl⟩

/-- the final value of cell `x` of the output vector: limb `x / nn`, real part `vre` on the first `m` cells of the
    limb, imaginary part `vim` on the others -/
def cellV (vre vim : ℕ → ℕ → α) (m nn x : ℕ) : α :=
  if x % nn < m then vre (x / nn) (x % nn) else vim (x / nn) (x % nn - m)

theorem cellV_re (vre vim : ℕ → ℕ → α) (m nn col t : ℕ) (hnn : nn = 2 * m) (ht : t < m) :
    cellV vre vim m nn (col * nn + t) = vre col t := by
  unfold cellV
  rw [Nat.mul_comm, mul_add_mod_of_lt (by omega), mul_add_div_of_lt (by omega), if_pos ht]

theorem cellV_im (vre vim : ℕ → ℕ → α) (m nn col t : ℕ) (hnn : nn = 2 * m) (ht : t < m) :
    cellV vre vim m nn (col * nn + m + t) = vim col t := by
  unfold cellV
  rw [Nat.add_assoc, Nat.mul_comm, mul_add_mod_of_lt (by omega), mul_add_div_of_lt (by omega), if_neg (by omega),
    Nat.add_sub_cancel_left]

theorem _root_.Spq.Module.CellInv.gSave {z : α} {vre vim : ℕ → ℕ → α} {m nn N : ℕ} {T : ℕ → Prop} {res : Array α}
    (h : CellInv z (cellV vre vim m nn) N T res) (hnn : nn = 2 * m) (col blk : ℕ) (o8 : Array α)
    (hN : col * nn + nn ≤ N) (hb : 4 * blk + 4 ≤ m) (ho : 8 ≤ o8.size)
    (hv : ∀ k, k < 4 → o8.getD k z = vre col (4 * blk + k) ∧ o8.getD (4 + k) z = vim col (4 * blk + k)) :
    CellInv z (cellV vre vim m nn) N (fun x => T x ∨ ModuleHeap.saveCells m nn blk col x) (gSave m nn blk res col o8) := by
  have s1 : (o8.extract 0 4).size = 4 := by simp; omega
  have s2 : (o8.extract 4 8).size = 4 := by simp; omega
  have w1 := h.writeIn (col * nn + 4 * blk) 4 (o8.extract 0 4) s1 (by omega) (fun k hk => by
    rw [getD_extract, if_pos (by omega), Nat.zero_add, (hv k hk).1, Nat.add_assoc, cellV_re _ _ _ _ _ _ hnn (by omega)])
  have w2 := w1.writeIn (col * nn + m + 4 * blk) 4 (o8.extract 4 8) s2 (by omega) (fun k hk => by
    rw [getD_extract, if_pos (by omega), (hv k hk).2, Nat.add_assoc, cellV_im _ _ _ _ _ _ hnn (by omega)])
  exact w2.congr (fun _ => or_assoc.symm)

/-- which accumulation order computes output column `col` (`nn ≥ 8`): the 1-column kernel only for the last column
    of an odd `ncols` that is not clipped by `rsz` -/
def colKind8 (c : Parts α) (ncols rsz col : ℕ) : DotK :=
  if col + 1 = min ncols rsz ∧ min ncols rsz % 2 = 1 ∧ ncols = min ncols rsz then kind1 c else kind2 c

theorem lo_get (z : α) (out : Array α) (k : ℕ) (hk : k < 4) :
    (out.extract 0 8).getD k z = out.getD k z ∧ (out.extract 0 8).getD (4 + k) z = out.getD (k + 4) z := by
  constructor
  · rw [getD_extract, if_pos (by omega), Nat.zero_add]
  · rw [getD_extract, if_pos (by omega), Nat.zero_add, Nat.add_comm]

theorem hi_get (z : α) (out : Array α) (k : ℕ) (hk : k < 4) :
    (out.extract 8 16).getD k z = out.getD (8 + k) z ∧ (out.extract 8 16).getD (4 + k) z = out.getD (8 + k + 4) z := by
  constructor
  · rw [getD_extract, if_pos (by omega)]
  · rw [getD_extract, if_pos (by omega)]; congr 1; omega

theorem gsize_lo (out : Array α) (h : out.size = 16 ∨ out.size = 8) : 8 ≤ (out.extract 0 8).size := by
  simp; omega
theorem gsize_hi (out : Array α) (h : out.size = 16) : 8 ≤ (out.extract 8 16).size := by
  simp; omega

theorem gBlkBody_cells (c : Parts α) (hnn : c.nn = 2 * c.m) (hm4 : c.m % 4 = 0) (h8 : 8 ≤ c.nn) (mat : Array Int)
    (nrows ncols rsz asz : ℕ) (adft : Array α) (B : ℕ) (hB : B < c.m / 4) (T : ℕ → Prop) (res : Array α)
    (h : CellInv c.ar.zero (cellV (fun col t => colRe c (colKind8 c ncols rsz col) adft mat ncols (min nrows asz) col t)
      (fun col t => colIm c (colKind8 c ncols rsz col) adft mat ncols (min nrows asz) col t) c.m c.nn)
      (rsz * c.nn) T res) :
    CellInv c.ar.zero (cellV (fun col t => colRe c (colKind8 c ncols rsz col) adft mat ncols (min nrows asz) col t)
      (fun col t => colIm c (colKind8 c ncols rsz col) adft mat ncols (min nrows asz) col t) c.m c.nn)
      (rsz * c.nn) (fun x => T x ∨ ModuleHeap.blkCells c.m c.nn (min ncols rsz) B x)
      (gBlkBody c (min nrows asz) (min ncols rsz) adft (vmpPrepare c mat nrows ncols) nrows ncols res B) := by
  have hrm : min nrows asz ≤ nrows := Nat.min_le_left _ _
  have hcm : min ncols rsz ≤ rsz := Nat.min_le_right _ _
  have hcn : min ncols rsz ≤ ncols := Nat.min_le_left _ _
  have hb4 : 4 * B + 4 ≤ c.m := by omega
  have hN : ∀ col, col < min ncols rsz → col * c.nn + c.nn ≤ rsz * c.nn := fun col hc => mul_step col rsz c.nn (by omega)
  have k2 : ∀ col, ¬ (col + 1 = min ncols rsz ∧ min ncols rsz % 2 = 1 ∧ ncols = min ncols rsz) →
      colKind8 c ncols rsz col = kind2 c := fun col hcol => by unfold colKind8; rw [if_neg hcol]
  unfold gBlkBody ModuleHeap.blkCells
  dsimp only
  have pairs := CellInv.fold (min ncols rsz / 2)
    (fun t x => ModuleHeap.saveCells c.m c.nn B (2 * t) x ∨ ModuleHeap.saveCells c.m c.nn B (2 * t + 1) x)
    (fun res t =>
      gSave c.m c.nn B (gSave c.m c.nn B res (2 * t)
        ((ModuleHeap.prod2 c (min nrows asz) (ModuleHeap.extOf c (min nrows asz) B adft)
          (gCol (vmpPrepare c mat nrows ncols) nrows ncols B (2 * t) 16)).extract 0 8)) (2 * t + 1)
        ((ModuleHeap.prod2 c (min nrows asz) (ModuleHeap.extOf c (min nrows asz) B adft)
          (gCol (vmpPrepare c mat nrows ncols) nrows ncols B (2 * t) 16)).extract 8 16))
    T res h
    (by
      intro t res T ht hi
      have pv := fun k hk => prod2_val_g c mat nrows ncols h8 hnn hm4 adft (min nrows asz) hrm (2 * t) B k
        (by omega) (by omega) hB hk
      have hs := (pv 0 (by omega)).1
      have st1 := hi.gSave hnn (2 * t) B _ (hN _ (by omega)) hb4 (gsize_lo _ (Or.inl hs))
        (fun k hk => by
          obtain ⟨l1, l2⟩ := lo_get c.ar.zero _ k hk
          rw [l1, l2, k2 (2 * t) (by omega)]
          exact ⟨(pv k hk).2.1, (pv k hk).2.2.1⟩)
      have st2 := st1.gSave hnn (2 * t + 1) B _ (hN _ (by omega)) hb4 (gsize_hi _ hs)
        (fun k hk => by
          obtain ⟨l1, l2⟩ := hi_get c.ar.zero _ k hk
          rw [l1, l2, k2 (2 * t + 1) (by omega)]
          exact ⟨(pv k hk).2.2.2.1, (pv k hk).2.2.2.2⟩)
      exact st2.congr (fun _ => or_assoc.symm))
  by_cases hodd : (min ncols rsz % 2 == 1) = true
  · rw [if_pos hodd]
    have hodd' : min ncols rsz % 2 = 1 := by simpa using hodd
    -- the written set of the statement against the one the last save leaves
    have cg : ∀ x (E s : Prop), (T x ∨ (E ∨ ((min ncols rsz % 2 == 1) = true ∧ s))) ↔ ((T x ∨ E) ∨ s) := fun x E s =>
      ⟨fun q => q.elim (fun t => Or.inl (Or.inl t)) (fun q => q.elim (fun e => Or.inl (Or.inr e)) (fun s => Or.inr s.2)),
       fun q => q.elim (fun q => q.elim Or.inl (fun e => Or.inr (Or.inl e))) (fun s => Or.inr (Or.inr ⟨hodd, s⟩))⟩
    by_cases hl : (ncols == min ncols rsz) = true
    · rw [if_pos hl]
      have hl' : ncols = min ncols rsz := by simpa using hl
      have pv := fun k hk => prod1_val_g c mat nrows ncols h8 hnn hm4 adft (min nrows asz) hrm
        (min ncols rsz - 1) B k (by omega) hB hk
      have hs := (pv 0 (by omega)).1
      have kk : colKind8 c ncols rsz (min ncols rsz - 1) = kind1 c := by
        unfold colKind8; rw [if_pos ⟨by omega, hodd', hl'⟩]
      have st := pairs.gSave hnn (min ncols rsz - 1) B _ (hN _ (by omega)) hb4 (gsize_lo _ (Or.inr hs))
        (fun k hk => by
          obtain ⟨l1, l2⟩ := lo_get c.ar.zero _ k hk
          rw [l1, l2, kk]
          exact ⟨(pv k hk).2.1, (pv k hk).2.2⟩)
      exact st.congr (fun x => cg x _ _)
    · rw [if_neg hl]
      have hl' : ncols ≠ min ncols rsz := by simpa using hl
      have pv := fun k hk => prod2_val_g c mat nrows ncols h8 hnn hm4 adft (min nrows asz) hrm
        (min ncols rsz - 1) B k (by omega) (by omega) hB hk
      have hs := (pv 0 (by omega)).1
      have st := pairs.gSave hnn (min ncols rsz - 1) B _ (hN _ (by omega)) hb4 (gsize_lo _ (Or.inl hs))
        (fun k hk => by
          obtain ⟨l1, l2⟩ := lo_get c.ar.zero _ k hk
          rw [l1, l2, k2 (min ncols rsz - 1) (fun q => hl' q.2.2)]
          exact ⟨(pv k hk).2.1, (pv k hk).2.2.1⟩)
      exact st.congr (fun x => cg x _ _)
  · rw [if_neg hodd]
    exact pairs.congr (fun x => ⟨fun q => q.elim Or.inl (fun q => q.elim Or.inr (fun s => absurd s.1 hodd)),
      fun q => q.elim Or.inl (fun e => Or.inr (Or.inl e))⟩)

/-- `vmp_apply_dft_to_dft ∘ vmp_prepare`, `nn ≥ 8`, any arithmetic record: the first `min ncols rsz` limbs hold their
    final values (the form `vmpApply_small_inv_g` has for `nn < 8`) -/
theorem vmpApply_blk_cells (c : Parts α) (hnn : c.nn = 2 * c.m) (hm4 : c.m % 4 = 0) (h8 : 8 ≤ c.nn) (mat : Array Int)
    (nrows ncols rsz asz : ℕ) (adft : Array α) :
    CellInv c.ar.zero (cellV (fun col t => colRe c (colKind8 c ncols rsz col) adft mat ncols (min nrows asz) col t)
      (fun col t => colIm c (colKind8 c ncols rsz col) adft mat ncols (min nrows asz) col t) c.m c.nn)
      (rsz * c.nn) (fun x => x < min ncols rsz * c.nn)
      (vmpApplyDftToDft c rsz adft asz (vmpPrepare c mat nrows ncols) nrows ncols) := by
  rw [vmpApply_eq_gblk c h8]
  refine (CellInv.fold (c.m / 4) (fun blk x => ModuleHeap.blkCells c.m c.nn (min ncols rsz) blk x) _ (fun _ => False) _
    (CellInv.init _ _ _) ?_).congr
    (fun x => ⟨fun q => Or.inr ((ModuleHeap.bigCells_iff c.m c.nn (min ncols rsz) hnn hm4 x).2 q),
      fun q => (ModuleHeap.bigCells_iff c.m c.nn (min ncols rsz) hnn hm4 x).1 (q.resolve_left id)⟩)
  intro B res T hB hi
  exact gBlkBody_cells c hnn hm4 h8 mat nrows ncols rsz asz adft B hB T res hi

theorem _root_.Spq.Module.CellInv.read {z : α} {vre vim : ℕ → ℕ → α} {m nn rsz C : ℕ} {res : Array α}
    (h : CellInv z (cellV vre vim m nn) (rsz * nn) (fun x => x < C * nn) res) (hnn : nn = 2 * m) :
    res.size = rsz * nn ∧
    (∀ j t, j < C → t < m → res.getD (j * nn + t) z = vre j t ∧ res.getD (j * nn + t + m) z = vim j t) ∧
    (∀ j x, C ≤ j → res.getD (j * nn + x) z = z) := by
  obtain ⟨s1, s2, s3⟩ := h
  refine ⟨s1, fun j t hj ht => ?_, fun j x hj => ?_⟩
  · have := mul_step j C nn hj
    have a := s2 (j * nn + t) (by omega)
    have b := s2 (j * nn + m + t) (by omega)
    rw [cellV_re _ _ _ _ _ _ hnn ht] at a
    rw [cellV_im _ _ _ _ _ _ hnn ht] at b
    rw [(by omega : j * nn + t + m = j * nn + m + t)]
    exact ⟨a, b⟩
  · have : C * nn ≤ j * nn := Nat.mul_le_mul_right _ hj
    exact s3 _ (by omega)

end Spq.VmpErr
