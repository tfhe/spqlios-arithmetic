/-
  C01 rounding budget: through the inverse transform.  `y` = values of the computed DFT-space product,
  `V ζ γ k 0` = exact DFT of the packed exact result `γ`, `ch` = values of the computed inverse transform:
      Σ_p ‖ch_p − 2^k·γ_p‖² ≤ ((ε·(S2 + F) + F)·M)²,  M = 2^k.
-/
import SpqProofs.Lemmas.ProdErrNet
import SpqProofs.Lemmas.ProdErrCompose
namespace Spq.ProdErr
open Finset Spq.Fft.Alg Spq.FftErr
variable {K : Type} [Field K] [LinearOrder K] [IsStrictOrderedRing K]

theorem WIk_V (k : ℕ) (ζ ζi : Cplx K) (hinv : ζ * ζi = 1) (γ : ℕ → Cplx K) (p : ℕ) (hp : p < 2 ^ k) :
    WIk k ζi (fun q => V ζ γ k 0 q) k p = 2 ^ k * γ p := by
  have := WIk_of_evals k ζi ζ hinv γ k (le_refl k) p hp
  rw [Nat.sub_self] at this
  rw [this]; simp [V]

/-- Parseval through the inverse network -/
theorem size_of_dft (k : ℕ) (ζ ζi : Cplx K) (hζi : nsq ζi = 1) (hinv : ζ * ζi = 1) (γ : ℕ → Cplx K) (S2 : K)
    (hC : ∑ p ∈ range (2 ^ k), nsq (V ζ γ k 0 p) ≤ S2 ^ 2 * 2 ^ k) :
    ∑ p ∈ range (2 ^ k), nsq (2 ^ k * γ p) ≤ (S2 * 2 ^ k) ^ 2 := by
  have e : ∑ p ∈ range (2 ^ k), nsq (2 ^ k * γ p) = ∑ p ∈ range (2 ^ k), nsq (WIk k ζi (fun q => V ζ γ k 0 q) k p) :=
    sum_congr rfl fun p hp => by rw [WIk_V k ζ ζi hinv γ p (mem_range.1 hp)]
  rw [e, WIk_norm k ζi hζi, show (S2 * 2 ^ k) ^ 2 = 2 ^ k * (S2 ^ 2 * 2 ^ k) by ring]
  exact mul_le_mul_of_nonneg_left hC (by positivity)

theorem inv_compose (k : ℕ) (ζ ζi : Cplx K) (hζi : nsq ζi = 1) (hinv : ζ * ζi = 1) (γ y ch : ℕ → Cplx K)
    (ε F S2 M : K) (hM : M = 2 ^ k) (hε : 0 ≤ ε) (hF : 0 ≤ F) (hS2 : 0 ≤ S2)
    (hy : ∑ p ∈ range (2 ^ k), nsq (y p - V ζ γ k 0 p) ≤ F ^ 2 * M)
    (hC : ∑ p ∈ range (2 ^ k), nsq (V ζ γ k 0 p) ≤ S2 ^ 2 * M)
    (hch : ∑ p ∈ range (2 ^ k), nsq (ch p - WIk k ζi y k p) ≤ ε ^ 2 * ∑ p ∈ range (2 ^ k), nsq (WIk k ζi y k p)) :
    ∑ p ∈ range (2 ^ k), nsq (ch p - 2 ^ k * γ p) ≤ ((ε * (S2 + F) + F) * M) ^ 2 := by
  have hM0 : 0 ≤ M := by rw [hM]; positivity
  have h1 : ∑ p ∈ range (2 ^ k), nsq (WIk k ζi y k p - 2 ^ k * γ p) ≤ (F * M) ^ 2 * 1 := by
    have e : ∑ p ∈ range (2 ^ k), nsq (WIk k ζi y k p - 2 ^ k * γ p) =
        ∑ p ∈ range (2 ^ k), nsq (WIk k ζi (fun q => y q - V ζ γ k 0 q) k p) :=
      sum_congr rfl fun p hp => by rw [WIk_sub, WIk_V k ζ ζi hinv γ p (mem_range.1 hp)]
    rw [e, WIk_norm k ζi hζi, ← hM]
    have := mul_le_mul_of_nonneg_left hy hM0
    rw [show (F * M) ^ 2 * 1 = M * (F ^ 2 * M) by ring]
    exact this
  have h2 : ∑ p ∈ range (2 ^ k), nsq (2 ^ k * γ p) ≤ (S2 * M) ^ 2 * 1 := by
    rw [mul_one, hM]
    exact size_of_dft k ζ ζi hζi hinv γ S2 (by rw [← hM]; exact hC)
  have h3 : ∑ p ∈ range (2 ^ k), nsq (WIk k ζi y k p) ≤ ((S2 + F) * M) ^ 2 * 1 := by
    have := sum_tri (range (2 ^ k)) (fun p => 2 ^ k * γ p) (fun p => WIk k ζi y k p - 2 ^ k * γ p) (S2 * M) (F * M) 1
      (by positivity) (by positivity) h2 h1
    simp only [add_sub_cancel] at this
    rw [show (S2 + F) * M = S2 * M + F * M by ring]
    exact this
  have h4 : ∑ p ∈ range (2 ^ k), nsq (ch p - WIk k ζi y k p) ≤ (ε * ((S2 + F) * M)) ^ 2 * 1 := sq_chain hch h3
  have := sum_tri (range (2 ^ k)) (fun p => ch p - WIk k ζi y k p) (fun p => WIk k ζi y k p - 2 ^ k * γ p)
    (ε * ((S2 + F) * M)) (F * M) 1 (by positivity) (by positivity) h4 h1
  simp only [sub_add_sub_cancel, mul_one] at this
  refine le_trans this (le_of_eq ?_)
  ring

theorem coord_of_sum (n : ℕ) (f : ℕ → Cplx K) (B : K) (hB : 0 ≤ B) (h : ∑ p ∈ range n, nsq (f p) ≤ B ^ 2) (p : ℕ)
    (hp : p < n) : |(f p).re| ≤ B ∧ |(f p).im| ≤ B := by
  have h1 : nsq (f p) ≤ ∑ p ∈ range n, nsq (f p) :=
    single_le_sum (f := fun p => nsq (f p)) (fun i _ => nsq_nonneg _) (mem_range.2 hp)
  have h2 : nsq (f p) ≤ B ^ 2 := le_trans h1 h
  unfold nsq at h2
  constructor
  · exact abs_le_of_sq_le_sq (by linarith [sq_nonneg (f p).im]) hB
  · exact abs_le_of_sq_le_sq (by linarith [sq_nonneg (f p).re]) hB

end Spq.ProdErr
