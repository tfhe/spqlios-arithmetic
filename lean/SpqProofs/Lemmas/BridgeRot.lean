/-
  `X` as a unit of `R[X]/(X^n+1)`, the signed reduction of its integer powers, the rotation and `X^p - 1`
  coefficient formulas, and the one lemma that turns a coefficient formula into a ring element
  (`mk_toPoly_scatter`: `b[(E i) mod n] = ± a[i]` at distinct positions represents `Σ a_i X^(E i)`).  Rotation
  and automorphism are the choices `E k = k - p` (with `a`, `b` exchanged: a gather is a scatter read backwards,
  negation being involutive) and `E i = i·p`.
-/
import SpqProofs.Lemmas.BridgeMul
import SpqProofs.Lemmas.RqSpec
import SpqProofs.Lemmas.NatBasic
import Mathlib.Tactic.Ring
import Mathlib.Tactic.LinearCombination

namespace Spq.Bridge
open Polynomial Finset

variable {R : Type} [CommRing R]

/-- the class of `X` as a unit (`X^(2n) = 1`) -/
noncomputable def rootU (n : Nat) (hn : 0 < n) : (Rq R n)ˣ :=
  Units.ofPowEqOne (root n) (2 * n) (root_pow_2n n) (by omega)

@[simp] theorem rootU_val (n : Nat) (hn : 0 < n) : ((rootU n hn : (Rq R n)ˣ) : Rq R n) = root n := rfl

theorem rootU_pow_2n (n : Nat) (hn : 0 < n) : (rootU n hn : (Rq R n)ˣ) ^ (2 * n) = 1 := by
  apply Units.ext
  rw [Units.val_pow_eq_pow_val, rootU_val, root_pow_2n]; rfl

theorem rootU_zpow_nat (n : Nat) (hn : 0 < n) (k : Nat) :
    (((rootU n hn : (Rq R n)ˣ) ^ (k : Int) : (Rq R n)ˣ) : Rq R n) = root n ^ k := by
  rw [zpow_natCast, Units.val_pow_eq_pow_val, rootU_val]

theorem rootU_zpow_mod (n : Nat) (hn : 0 < n) (m : Int) :
    (rootU n hn : (Rq R n)ˣ) ^ m = rootU n hn ^ (m % ((2 * n : Nat) : Int)) := by
  conv_lhs => rw [← Int.emod_add_mul_ediv m ((2 * n : Nat) : Int)]
  rw [zpow_add, zpow_mul, zpow_natCast, rootU_pow_2n, one_zpow, mul_one]

/-- signed reduction of an integer exponent: `X^m = ± X^(m mod n)`, `+` iff `m mod 2n < n` -/
theorem rootU_zpow_reduce (n : Nat) (hn : 0 < n) (m : Int) :
    (((rootU n hn : (Rq R n)ˣ) ^ m : (Rq R n)ˣ) : Rq R n) =
      if (m % ((2 * n : Nat) : Int)).toNat < n then root n ^ (m % (n : Int)).toNat
      else - root n ^ (m % (n : Int)).toNat := by
  have h2 : (0 : Int) < ((2 * n : Nat) : Int) := by exact_mod_cast (by omega : 0 < 2 * n)
  have hr0 : 0 ≤ m % ((2 * n : Nat) : Int) := Int.emod_nonneg _ (ne_of_gt h2)
  have hr1 : m % ((2 * n : Nat) : Int) < ((2 * n : Nat) : Int) := Int.emod_lt_of_pos _ h2
  obtain ⟨r, hr⟩ : ∃ r : Nat, (r : Int) = m % ((2 * n : Nat) : Int) := ⟨_, Int.toNat_of_nonneg hr0⟩
  have hrlt : r < 2 * n := by exact_mod_cast (hr ▸ hr1)
  have hmn : m % (n : Int) = ((r % n : Nat) : Int) := by
    rw [Int.natCast_mod, hr]
    exact (Int.emod_emod_of_dvd m ⟨2, by push_cast; ring⟩).symm
  rw [rootU_zpow_mod, ← hr, hmn, rootU_zpow_nat, Int.toNat_natCast, Int.toNat_natCast]
  by_cases hlt : r < n
  · rw [if_pos hlt, Nat.mod_eq_of_lt hlt]
  · rw [if_neg hlt]
    rw [mod_eq_sub_of_le (by omega) (by omega)]
    have e : r = n + (r - n) := by omega
    conv_lhs => rw [e, pow_add, root_pow_n]
    ring

/-- coefficient `k` of `X^p · a` (the formula of `Spq.Rq.rotCoeff`, on functions over a ring) -/
def rot (n : Nat) (p : Int) (a : Nat → R) (k : Nat) : R :=
  if (((k : Int) - p) % ((2 * n : Nat) : Int)).toNat < n then a (((k : Int) - p) % (n : Int)).toNat
  else - a (((k : Int) - p) % (n : Int)).toNat

/-- coefficient `k` of `(X^p - 1) · a` (the formula of `Spq.Rq.mulXpCoeff`) -/
def mulxp (n : Nat) (p : Int) (a : Nat → R) (k : Nat) : R := rot n p a k - a k

theorem sum_range_reindex {M : Type} [AddCommMonoid M] (n : Nat) (σ : Nat → Nat)
    (hlt : ∀ i, i < n → σ i < n) (hinj : ∀ i i', i < n → i' < n → σ i = σ i' → i = i') (F : Nat → M) :
    ∑ i ∈ range n, F (σ i) = ∑ j ∈ range n, F j := by
  have hm : ∀ i ∈ range n, σ i ∈ range n := fun i hi => mem_range.2 (hlt i (mem_range.1 hi))
  have hi : Set.InjOn σ ↑(range n) := fun i hi i' hi' e =>
    hinj i i' (mem_range.1 (mem_coe.1 hi)) (mem_range.1 (mem_coe.1 hi')) e
  exact sum_nbij σ hm hi
    (surjOn_of_injOn_of_card_le _ (fun i hi => mem_coe.2 (hm i (mem_coe.1 hi))) hi le_rfl) (fun _ _ => rfl)

theorem emod_toNat_lt (n : Nat) (hn : 0 < n) (x : Int) : (x % (n : Int)).toNat < n := by
  have hn' : (0 : Int) < (n : Int) := by exact_mod_cast hn
  rw [Int.toNat_lt (Int.emod_nonneg _ (ne_of_gt hn'))]; exact Int.emod_lt_of_pos _ hn'

theorem mk_toPoly_scatter (n : Nat) (hn : 0 < n) (E : Nat → Int) (a b : Nat → R)
    (hinj : ∀ i i', i < n → i' < n → (E i % (n : Int)).toNat = (E i' % (n : Int)).toNat → i = i')
    (hb : ∀ i, i < n → b (E i % (n : Int)).toNat =
      if (E i % ((2 * n : Nat) : Int)).toNat < n then a i else - a i) :
    mk n (toPoly n b) =
      ∑ i ∈ range n, of n (a i) * (((rootU n hn : (Rq R n)ˣ) ^ E i : (Rq R n)ˣ) : Rq R n) := by
  rw [mk_toPoly, ← sum_range_reindex n _ (fun i _ => emod_toNat_lt n hn (E i)) hinj]
  apply sum_congr rfl
  intro i hi
  rw [hb i (mem_range.1 hi), rootU_zpow_reduce n hn (E i)]
  split_ifs
  · rfl
  · rw [map_neg]; ring

end Spq.Bridge
