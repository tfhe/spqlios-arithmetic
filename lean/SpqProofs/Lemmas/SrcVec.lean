/-
  Infrastructure for the limb-vector wrappers (`vec_znx_*_ref`): the unfolding equations of `call`, pointer
  arithmetic and pointer locals; the counting `for` loop over an arbitrary memory sequence; and the facts about the
  heap model (`Spq/Heap.lean`: `forLimbs`, `limb0/1/2`, the `ok` flag) needed to step through it limb by limb.
-/
import Spq.VecZnx
import SpqProofs.Lemmas.SrcArena
import SpqProofs.Lemmas.SrcFill
namespace Spq.CIR
open Spq

/-! ### pointer expressions -/
/-- `param + k` for a natural number of cells -/
theorem ptrAt_param (Γ : List Ptr) (env : List Int) (i bf o k : Nat) (h : Γ.getD i none = some (bf, o)) :
    ptrAt Γ env (.param i) (k : Int) = .ok (some (bf, o + k)) :=
  ptrAt_param_off Γ env i bf o k k rfl h

theorem ptrAt_null (Γ : List Ptr) (env : List Int) (v : Int) : ptrAt Γ env .null v = .ok none := rfl

/-! ### counting loop over an arbitrary sequence of memories -/
theorem count_for (Γ : List Ptr) (js : Nat) (e0 hiE : Expr) (body : Stmt) (env : List Int) (m00 : Mem)
    (M : Nat → Mem) (lo hi fb : Nat) (hm0 : m00 = M lo) (hlh : lo ≤ hi) (h64 : hi < 18446744073709551616) (hjs : js < env.length)
    (he0 : eval Γ ⟨env, M lo⟩ e0 = .ok (lo : Int))
    (hhiE : ∀ k, lo ≤ k → k ≤ hi → eval Γ ⟨lset env js (k : Int), M k⟩ hiE = .ok (hi : Int))
    (hbody : ∀ k, lo ≤ k → k < hi → ∀ f, fb ≤ f →
      exec Γ body f ⟨lset env js (k : Int), M k⟩ = .ok (.norm, ⟨lset env js (k : Int), M (k + 1)⟩)) :
    ∀ f, (hi - lo) + fb ≤ f →
      exec Γ (.for (.assign js e0) (.bin .lt .u64 (.var js) hiE)
          (.assign js (.bin .add .u64 (.var js) (.lit 1))) body) f ⟨env, m00⟩
        = .ok (.norm, ⟨lset env js (hi : Int), M hi⟩) := by
  subst hm0
  intro f hf
  obtain ⟨σ', h, rfl⟩ := for_count ExtSem.none Γ js e0 hiE body ⟨env, M lo⟩
    (fun k σ => σ = ⟨lset env js (k : Int), M k⟩) lo hi fb hlh h64 he0 (by rfl)
    (fun k σ h => by rw [h]; exact lget_lset_self env js _ hjs)
    (fun k σ h1 h2 h => by rw [h]; exact hhiE k h1 h2)
    (fun k σ h1 h2 h f hf' => by
      subst h
      exact ⟨_, hbody k h1 h2 f hf', lget_lset_self env js _ hjs, by rw [lset_lset]⟩) f hf
  exact h

/-! ### the heap model, limb by limb -/
open Heap

theorem size_kzero (nn : Nat) : (Coeffs.zero i64Ops nn).size = nn := by simp [Coeffs.zero]
theorem size_kcopy (nn : Nat) (x : Array Int) : (Coeffs.copy i64Ops nn x).size = nn := by simp [Coeffs.copy]
theorem size_kneg (nn : Nat) (x : Array Int) : (Coeffs.negate i64Ops nn x).size = nn := by simp [Coeffs.negate]
theorem size_kadd (nn : Nat) (x y : Array Int) : (Coeffs.add i64Ops nn x y).size = nn := by simp [Coeffs.add]
theorem size_ksub (nn : Nat) (x y : Array Int) : (Coeffs.sub i64Ops nn x y).size = nn := by simp [Coeffs.sub]
theorem size_krot (nn : Nat) (p : Int) (x : Array Int) : (Coeffs.rotate i64Ops nn p x).size = nn := by
  simp [Coeffs.rotate]

theorem forLimbs_succ (lo k : Nat) (hk : lo ≤ k) (f : Nat → Heap Int → Heap Int) (h : Heap Int) :
    forLimbs lo (k + 1) f h = f k (forLimbs lo k f h) := by
  unfold forLimbs
  have e : k + 1 - lo = (k - lo) + 1 := by omega
  rw [e, List.range'_concat, List.foldl_append]
  have e2 : lo + (k - lo) = k := by omega
  simp [e2]

theorem limb0_ok (K : Array Int) (r : Nat) (h : Heap Int) :
    (limb0 K r h).ok = (h.ok && decide (r + K.size ≤ h.mem.size)) := rfl
theorem limb0_mem (K : Array Int) (r : Nat) (h : Heap Int) : (limb0 K r h).mem = writeArr h.mem r K := rfl

theorem readLimb_eq_win (h : Heap Int) (o nn : Nat) : h.readLimb 0 o nn = win h.mem o nn := rfl

theorem limb1_mem (nn : Nat) (K : Array Int → Array Int) (r a : Nat) (h : Heap Int) :
    (limb1 0 nn K r a h).mem = writeArr h.mem r (K (win h.mem a nn)) := rfl
theorem limb1_ok (nn : Nat) (K : Array Int → Array Int) (r a : Nat) (h : Heap Int) :
    (limb1 0 nn K r a h).ok
      = ((h.ok && decide (a + nn ≤ h.mem.size)) && decide (r + (K (win h.mem a nn)).size ≤ h.mem.size)) := rfl

theorem limb2_mem (nn : Nat) (K : Array Int → Array Int → Array Int) (r a b : Nat) (h : Heap Int) :
    (limb2 0 nn K r a b h).mem = writeArr h.mem r (K (win h.mem a nn) (win h.mem b nn)) := rfl
theorem limb2_ok (nn : Nat) (K : Array Int → Array Int → Array Int) (r a b : Nat) (h : Heap Int) :
    (limb2 0 nn K r a b h).ok
      = (((h.ok && decide (a + nn ≤ h.mem.size)) && decide (b + nn ≤ h.mem.size)) &&
          decide (r + (K (win h.mem a nn) (win h.mem b nn)).size ≤ h.mem.size)) := rfl
theorem mul_wrap (a b : Nat) (h : a * b < 18446744073709551616) :
    ((a : Int) * (b : Int)) % 18446744073709551616 = ((a * b : Nat) : Int) := by
  have : ((a : Int) * (b : Int)) = ((a * b : Nat) : Int) := by push_cast; rfl
  rw [this]; omega

end Spq.CIR

namespace Spq.CIR
open Spq Heap
/-- `x < y ? x : y` on uint64 values -/
theorem min_cond (a b : Nat) :
    (if (a : Int) < (b : Int) then (R.ok (a : Int) : R Int) else R.ok (b : Int)) = R.ok ((min a b : Nat) : Int) := by
  by_cases h : a < b
  · have : (a : Int) < (b : Int) := by omega
    rw [if_pos this, Nat.min_eq_left (by omega)]
  · have : ¬ (a : Int) < (b : Int) := by omega
    rw [if_neg this, Nat.min_eq_right (by omega)]

end Spq.CIR

namespace Spq.CIR
theorem lt_min_of_le {k r a b : Nat} (h : k < min r a) (hab : a ≤ b) : k < min r b := by
  have := Nat.lt_min.mp h
  exact Nat.lt_min.mpr ⟨this.1, by omega⟩
theorem lt_min_of_ge_lt {k r a b : Nat} (h1 : min r a ≤ k) (h : k < min r b) : k < min r b := h
theorem min_le_min_of_le {r a b : Nat} (hab : a ≤ b) : min r a ≤ min r b := by
  by_cases h : r ≤ a
  · rw [Nat.min_eq_left h, Nat.min_eq_left (by omega)]; exact Nat.le_refl _
  · rw [Nat.min_eq_right (by omega)]
    exact Nat.le_min.mpr ⟨by omega, hab⟩
end Spq.CIR

namespace Spq.CIR
theorem encPtr_some (env : List Int) (s b o : Nat) :
    encPtr env s (some (b, o)) = lset (lset env s (b : Int)) (s + 1) (o : Int) := rfl
theorem encPtr_none (env : List Int) (s : Nat) : encPtr env s none = lset (lset env s (-1)) (s + 1) 0 := rfl

/-- read of a pointer local holding `(b, o)` -/
theorem ptrAt_pvar (Γ : List Ptr) (env : List Int) (s b o : Nat) (h1 : lget env s = (b : Int))
    (h2 : lget env (s + 1) = (o : Int)) : ptrAt Γ env (.pvar s) 0 = .ok (some (b, o)) :=
  ptrAt_pvar_off Γ env s b o 0 0 rfl h1 h2

/-- value of a slot in the previous iteration (0 before the first one) -/
def prevI (F : Nat → Int) (k : Nat) : Int := if k = 0 then 0 else F (k - 1)
theorem prevI_zero (F : Nat → Int) : prevI F 0 = 0 := rfl
theorem prevI_succ (F : Nat → Int) (k : Nat) : prevI F (k + 1) = F k := by simp [prevI]
end Spq.CIR
