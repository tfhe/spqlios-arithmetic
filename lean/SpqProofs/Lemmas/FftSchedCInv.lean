/-
  Structural schedule theorem (inverse cplx), `cibfs16`: the per-block butterflies `gNetCI` (the odd-log pass of
  `cibfs16` comes right after the leaves, so the `−i·ω̄` levels depend on the parity of the `bfs16` region), table
  readers, twiddle pass, leaves and radix-4 levels (instances of the reim ones), the odd-log pass.
-/
import SpqProofs.Lemmas.FftSchedCFwd
import SpqProofs.Lemmas.FftSchedInvTop
set_option linter.unusedSectionVars false
namespace Spq.Fft.SchedC
open Spq.Fft Spq.Fft.Alg Spq.Fft.View Spq.Fft.Sim Spq.Fft.SimP Spq.Fft.LevelN Spq.Fft.KernN Spq.Fft.Tw Spq.Fft.SchedN
open Spq.Fft.Kern (ileafE)

variable {R : Type} [Inhabited R]

/-- levels (`r = k − ℓ`) whose odd blocks run the `−i·ω̄` butterfly in the inverse cplx transform of size `2^k` -/
def clvI (k r : ℕ) : Bool := r ≤ 3 || (5 ≤ r && r ≤ 10 && (r % 2 != (min k 11) % 2))

/-- the butterfly of block `b` at level `(ℓ, d)` of the inverse cplx transform of size `2^k`;
`c e`, `s e`: the stored cos / −sin of exponent `e` -/
def gNetCI (F : CFlav R) (c s : ℕ → R) (k ℓ d b : ℕ) : R × R → R × R → (R × R) × (R × R) :=
  if k ≤ 3 then
    (if d = 0 then lastV F.last (c (twE ℓ d b)) (s (twE ℓ d b)) (c (twE ℓ d b)) (s (twE ℓ d b))
     else bfV F.ctTop (c (twE ℓ d b)) (s (twE ℓ d b)))
  else if 12 ≤ k - ℓ then bfV F.ctTop (c (twE ℓ d b)) (s (twE ℓ d b))
  else if k - ℓ = 5 ∧ (min k 11) % 2 = 1 then bfV F.ctOdd (c (twE ℓ d b)) (s (twE ℓ d b))
  else if clvI k (k - ℓ) && b % 2 == 1 then bfV F.big.cit (c (twE ℓ d (b - 1))) (s (twE ℓ d (b - 1)))
  else bfV F.big.ct (c (twE ℓ d b)) (s (twE ℓ d b))

/-- a member of a butterfly family, for every value type at once -/
abbrev PolyBf := ∀ {R : Type}, CFlav R → (ℕ → R) → (ℕ → R) → R × R → R × R → (R × R) × (R × R)

/-- Which butterfly block `b` of level `(ℓ, d)` runs, as a case analysis whose motive ranges over the butterfly for
    every value type at once: a fact about one run and a fact relating two runs on different types are both instances. -/
theorem gNetCI_pick (k ℓ d b : ℕ) (Q : PolyBf → Prop)
    (hlast : d = 0 → Q (fun F c s => lastV F.last (c (twE ℓ d b)) (s (twE ℓ d b)) (c (twE ℓ d b)) (s (twE ℓ d b))))
    (htop : Q (fun F c s => bfV F.ctTop (c (twE ℓ d b)) (s (twE ℓ d b))))
    (hodd : Q (fun F c s => bfV F.ctOdd (c (twE ℓ d b)) (s (twE ℓ d b))))
    (hcit : b % 2 = 1 → Q (fun F c s => bfV F.big.cit (c (twE ℓ d (b - 1))) (s (twE ℓ d (b - 1)))))
    (hct : Q (fun F c s => bfV F.big.ct (c (twE ℓ d b)) (s (twE ℓ d b)))) :
    Q (fun F c s => gNetCI F c s k ℓ d b) := by
  unfold gNetCI
  split_ifs with h1 h2 h3 h4 h5
  · exact hlast h2
  · exact htop
  · exact htop
  · exact hodd
  · exact hcit (by rw [Bool.and_eq_true, beq_iff_eq] at h5; exact h5.2)
  · exact hct

variable (F : CFlav R) (c s : ℕ → R) (k : ℕ) (y : ℕ → R × R)

theorem gNetCI_ct (ℓ d b : ℕ) (hk : 4 ≤ k) (hr : k - ℓ ≤ 11) (h5 : ¬ (k - ℓ = 5 ∧ (min k 11) % 2 = 1))
    (h : clvI k (k - ℓ) = false ∨ b % 2 = 0) :
    gNetCI F c s k ℓ d b = bfV F.big.ct (c (twE ℓ d b)) (s (twE ℓ d b)) := by
  unfold gNetCI
  rw [if_neg (by omega), if_neg (by omega), if_neg h5]
  rcases h with h | h
  · rw [h]; simp
  · rw [h]; simp

theorem gNetCI_cit (ℓ d b : ℕ) (hk : 4 ≤ k) (hr : k - ℓ ≤ 11) (h5 : ¬ (k - ℓ = 5 ∧ (min k 11) % 2 = 1))
    (h : clvI k (k - ℓ) = true) :
    gNetCI F c s k ℓ d (2 * b + 1) = bfV F.big.cit (c (twE ℓ d (2 * b))) (s (twE ℓ d (2 * b))) := by
  unfold gNetCI
  rw [if_neg (by omega), if_neg (by omega), if_neg h5, h, show (2 * b + 1) % 2 = 1 by omega,
    show 2 * b + 1 - 1 = 2 * b by omega]
  simp

theorem gNetCI_odd (ℓ d b : ℕ) (hk : 4 ≤ k) (hr : k - ℓ = 5) (ho : (min k 11) % 2 = 1) :
    gNetCI F c s k ℓ d b = bfV F.ctOdd (c (twE ℓ d b)) (s (twE ℓ d b)) := by
  unfold gNetCI
  rw [if_neg (by omega), if_neg (by omega), if_pos ⟨hr, ho⟩]

theorem gNetCI_top (ℓ d b : ℕ) (hk : 4 ≤ k) (hr : 12 ≤ k - ℓ) :
    gNetCI F c s k ℓ d b = bfV F.ctTop (c (twE ℓ d b)) (s (twE ℓ d b)) := by
  unfold gNetCI
  rw [if_neg (by omega), if_pos hr]

theorem gNetCI_small (ℓ d b : ℕ) (hk : k ≤ 3) (hd : d ≠ 0) :
    gNetCI F c s k ℓ d b = bfV F.ctTop (c (twE ℓ d b)) (s (twE ℓ d b)) := by
  unfold gNetCI
  rw [if_pos hk, if_neg hd]

theorem gNetCI_last (ℓ b : ℕ) (hk : k ≤ 3) :
    gNetCI F c s k ℓ 0 b = lastV F.last (c (twE ℓ 0 b)) (s (twE ℓ 0 b)) (c (twE ℓ 0 b)) (s (twE ℓ 0 b)) := by
  unfold gNetCI
  rw [if_pos hk, if_pos rfl]

omit [Inhabited R] in
/-- The butterfly of a block of the inverse cplx transform is one of five; `lastV` only at `d = 0`; the `−i·ω̄`
    butterfly sits in an odd block, on the stored twiddle of the block before it, whose exponent is `2^k` less
    (second argument of `P`: the exponent to realise). -/
theorem gNetCI_cases (ℓ d b : ℕ) (hk : ℓ + d + 1 = k) (hb : b < 2 ^ ℓ)
    (P : (R × R → R × R → (R × R) × (R × R)) → ℕ → Prop)
    (hlast : d = 0 → P (lastV F.last (c (twE ℓ d b)) (s (twE ℓ d b)) (c (twE ℓ d b)) (s (twE ℓ d b))) (twE ℓ d b))
    (htop : P (bfV F.ctTop (c (twE ℓ d b)) (s (twE ℓ d b))) (twE ℓ d b))
    (hodd : P (bfV F.ctOdd (c (twE ℓ d b)) (s (twE ℓ d b))) (twE ℓ d b))
    (hct : P (bfV F.big.ct (c (twE ℓ d b)) (s (twE ℓ d b))) (twE ℓ d b))
    (hcit : b % 2 = 1 → P (bfV F.big.cit (c (twE ℓ d (b - 1))) (s (twE ℓ d (b - 1)))) (2 ^ k + twE ℓ d (b - 1))) :
    P (gNetCI F c s k ℓ d b) (twE ℓ d b) :=
  gNetCI_pick k ℓ d b (fun g => P (g F c s) (twE ℓ d b)) hlast htop hodd
    (fun ho => by rw [twE_odd_block hk hb ho]; exact hcit ho) hct

variable (g : ℕ → ℕ → ℕ → R × R → R × R → (R × R) × (R × R))

theorem ciFill16_vals (v : Ent → R) (U e : ℕ) : (ciFill16 U e).map v =
    [v ⟨0, e / 16⟩, v ⟨2, e / 16⟩, v ⟨0, e / 16 + U / 8⟩, v ⟨2, e / 16 + U / 8⟩, v ⟨0, e / 16 + U / 16⟩,
     v ⟨2, e / 16 + U / 16⟩, v ⟨0, e / 16 + U / 8 + U / 16⟩, v ⟨2, e / 16 + U / 8 + U / 16⟩,
     v ⟨0, e / 8⟩, v ⟨2, e / 8⟩, v ⟨0, e / 8 + U / 8⟩, v ⟨2, e / 8 + U / 8⟩, v ⟨0, e / 4⟩, v ⟨2, e / 4⟩,
     v ⟨0, e / 2⟩, v ⟨2, e / 2⟩] := rfl

theorem icleaf_readN {v : Ent → R} (hv : InvTab v c s) (T : Array R) (t e U : ℕ)
    (h : SegP T t ((ciFill16 U e).map v)) :
    ∀ q, q < 8 → cplxW16 T t q = (c (ileafE e U q), s (ileafE e U q)) := by
  rw [ciFill16_vals] at h
  have g : ∀ j, j < 16 → T[t + j]! = _ := h
  intro q hq
  have : q = 0 ∨ q = 1 ∨ q = 2 ∨ q = 3 ∨ q = 4 ∨ q = 5 ∨ q = 6 ∨ q = 7 := by omega
  rcases this with rfl | rfl | rfl | rfl | rfl | rfl | rfl | rfl
  · exact Prod.ext ((g 0 (by omega)).trans (hv.cos _)) ((g 1 (by omega)).trans (hv.sin _))
  · exact Prod.ext ((g 2 (by omega)).trans (hv.cos _)) ((g 3 (by omega)).trans (hv.sin _))
  · exact Prod.ext ((g 4 (by omega)).trans (hv.cos _)) ((g 5 (by omega)).trans (hv.sin _))
  · exact Prod.ext ((g 6 (by omega)).trans (hv.cos _)) ((g 7 (by omega)).trans (hv.sin _))
  · exact Prod.ext ((g 8 (by omega)).trans (hv.cos _)) ((g 9 (by omega)).trans (hv.sin _))
  · exact Prod.ext ((g 10 (by omega)).trans (hv.cos _)) ((g 11 (by omega)).trans (hv.sin _))
  · exact Prod.ext ((g 12 (by omega)).trans (hv.cos _)) ((g 13 (by omega)).trans (hv.sin _))
  · exact Prod.ext ((g 14 (by omega)).trans (hv.cos _)) ((g 15 (by omega)).trans (hv.sin _))

/-- in the last four levels the inverse cplx network runs the reim butterflies of `F.big` -/
theorem gNetCI_reimFrom (hk : 4 ≤ k) : ReimFrom F.big c s k (gNetCI F c s k) (valP c s) (k - 4) := by
  refine ⟨fun ℓ hℓ d b => ?_, fun _ => rfl, fun _ => rfl⟩
  have e1 : clvI k (k - ℓ) = clv (k - ℓ) := by
    have : ¬ 5 ≤ k - ℓ := by omega
    simp [clvI, clv, this]
  unfold gNetCI gNet
  rw [if_neg (by omega), if_neg (by omega), if_neg (by omega), e1, ctK_big _ _ hk, citK_big _ _ hk]

/-- the levels `ℓ`, `ℓ + 1` of the radix-4 pass `e → e + 2` of `cibfs16`, `k = ℓ + (e + 2)`: the parity of `e` against
that of the `bfs16` region decides which levels pair up -/
theorem gNetCI_r4Pair {ℓ e : ℕ} (hk : k = ℓ + (e + 2)) (hpar : e % 2 = (min k 11) % 2) (he4 : 4 ≤ e)
    (he11 : e + 2 ≤ 11) : R4Pair F.big c s (gNetCI F c s k) ℓ := by
  have hA : clvI k (k - ℓ) = false := by
    rw [show k - ℓ = e + 2 by omega]; unfold clvI
    have h1 : (e + 2) % 2 = min k 11 % 2 := by omega
    have h2 : ¬ e + 2 ≤ 3 := by omega
    simp [h1, h2]
  have hB : clvI k (k - (ℓ + 1)) = true := by
    rw [show k - (ℓ + 1) = e + 1 by omega]; unfold clvI
    have h1 : ¬ (e + 1) % 2 = min k 11 % 2 := by omega
    have h2 : 5 ≤ e + 1 := by omega
    have h3 : e + 1 ≤ 10 := by omega
    simp [h1, h2, h3]
  have hk4 : 4 ≤ k := by omega
  have hr : k - ℓ ≤ 11 := by omega
  have hr' : k - (ℓ + 1) ≤ 11 := by omega
  have h5 : ¬ (k - ℓ = 5 ∧ (min k 11) % 2 = 1) := fun h => by omega
  have h5' : ¬ (k - (ℓ + 1) = 5 ∧ (min k 11) % 2 = 1) := fun h => by omega
  exact ⟨fun d b => gNetCI_ct F c s k ℓ d b hk4 hr h5 (Or.inl hA),
    fun d b => gNetCI_ct F c s k (ℓ + 1) d (2 * b) hk4 hr' h5' (Or.inr (Nat.mul_mod_right 2 b)),
    fun d b => gNetCI_cit F c s k (ℓ + 1) d b hk4 hr' h5' hB⟩

variable {v : Ent → R} (hv : InvTab v c s)
include hv

/-- one inverse twiddle pass over a block whose twiddle `exp(−2iπx)` is stored twice at the pointer -/
theorem itwL_runs (f : Bf R) (lanes : Bool) {ℓ D b m off pw x : ℕ} (hB : Blk k ℓ (D + 1) b m off pw)
    (hg : gNetCI F c s k ℓ D b = bfV f (c (twE ℓ D b)) (s (twE ℓ D b))) (hx : x = twE ℓ D b) :
    Runs v (eM x ++ eM x) (fun T st => (twPassL f lanes T st.2 (m / 2) off st.1, st.2 + 4))
      (VNI k (gNetCI F c s k) y D) (VNI k (gNetCI F c s k) y (D + 1)) off m :=
  (Runs.step 4 rfl (fun T t s0 => twPassL f lanes T t (2 ^ D) off s0) (fun N T t s0 hs hN hT => by
    rw [List.map_append] at hT
    obtain ⟨w0, w0'⟩ := hv.read_eM T t _ hT.left
    obtain ⟨w1, w1'⟩ := hv.read_eM T (t + 2) _ hT.right
    exact twPassL_adv (VNI_step k (gNetCI F c s k) y ℓ D hB.lvl_pass) f lanes T t N b off hB.pass hN
      (by rw [hg, w0, w0', hx]) (fun _ => by rw [hg, w1, w1', hx]) s0 hs)).of_eq rfl
    (fun T st => by rw [hB.half]) rfl hB.two_pow

/-- the same with the twiddle stored once, for a pass that reads the first copy only -/
theorem itwL1_runs (f : Bf R) (lanes : Bool) (hl : lanes = false) {ℓ D b m off pw x : ℕ}
    (hB : Blk k ℓ (D + 1) b m off pw) (hg : gNetCI F c s k ℓ D b = bfV f (c (twE ℓ D b)) (s (twE ℓ D b)))
    (hx : x = twE ℓ D b) :
    Runs v (eM x) (fun T st => (twPassL f lanes T st.2 (m / 2) off st.1, st.2 + 2))
      (VNI k (gNetCI F c s k) y D) (VNI k (gNetCI F c s k) y (D + 1)) off m :=
  (Runs.step 2 rfl (fun T t s0 => twPassL f lanes T t (2 ^ D) off s0) (fun N T t s0 hs hN hT => by
    obtain ⟨w0, w0'⟩ := hv.read_eM T t _ hT
    exact twPassL_adv (VNI_step k (gNetCI F c s k) y ℓ D hB.lvl_pass) f lanes T t N b off hB.pass hN
      (by rw [hg, w0, w0', hx]) (fun h => by rw [hl] at h; exact absurd h (by simp)) s0 hs)).of_eq rfl
    (fun T st => by rw [hB.half]) rfl hB.two_pow

/-- the `for (; h < m; h <<= 2)` loop of `cibfs16`: `i` inverse radix-4 levels are left -/
theorem cibfsLevels_runs {ℓ0 D b0 m off pw : ℕ} (hB : Blk k ℓ0 D b0 m off pw) (hD11 : D ≤ 11) (hreg : min k 11 = D) :
    ∀ i fuel e h ss, e + 2 * i = D → h = 2 ^ e → ss = twE ℓ0 e b0 → 4 ≤ e → i ≤ fuel →
      Runs v (ciBfs16Levels (4 * 2 ^ k) m fuel h ss) (fun T st => cibfsLevels F T m off fuel h st)
        (VNI k (gNetCI F c s k) y e) (VNI k (gNetCI F c s k) y D) off m := by
  intro i
  induction i with
  | zero =>
    intro fuel e h ss he hh hss he4 hf
    obtain rfl : e = D := he
    have hg : ¬ h < m := hh ▸ fun hc => Nat.lt_irrefl _ ((hB.lt_iff e).1 hc)
    cases fuel with
    | zero => exact (Runs.id _ _ off m).of_eq (by rw [ciBfs16Levels]) (fun T st => by rw [cibfsLevels]) rfl rfl
    | succ f =>
      exact (Runs.id _ _ off m).of_eq (by rw [ciBfs16Levels, if_neg hg]) (fun T st => by rw [cibfsLevels, if_neg hg])
        rfl rfl
  | succ i ih =>
    intro fuel e h ss he hh hss he4 hf
    obtain ⟨f, rfl⟩ : ∃ f, fuel = f + 1 := Nat.exists_eq_add_one.2 (Nat.lt_of_lt_of_le i.succ_pos hf)
    have heD : D = 2 * i + (e + 2) := by rw [← he]; ring
    have hg : h < m := hh ▸ (hB.lt_iff e).2 (by rw [heD]; omega)
    -- the invariant is `e + 2 * i = D` and not the parity of `e`: the parity the callee asks for is then
    -- `Nat.add_mul_mod_self_left`, and no `%` fact is in sight of `omega`, which pays for each one whatever it proves
    have st := (gNetCI_r4Pair F c s k (ℓ := ℓ0 + 2 * i) (e := e) (hB.lvl_sub heD)
      (by rw [hreg, ← he, Nat.add_mul_mod_self_left]) he4 (Nat.le_trans (heD ▸ Nat.le_add_left _ _) hD11)).ir4C y hv hB heD hh hss
    have nx := ih f (e + 2) (h * 4) (ss * 4) (by rw [← he]; ring) (by rw [hh, pow_add]; ring)
      (by rw [hss, twE, twE, pow_add]; ring) (Nat.le_add_right_of_le he4) (Nat.le_of_succ_le_succ hf)
    exact (st.seq nx).of_eq (by rw [ciBfs16Levels, if_pos hg]) (fun T st => by rw [cibfsLevels, if_pos hg]) rfl rfl

/-- the odd-log pass of `cibfs16`: blocks of 16 become blocks of 32, one twiddle per block -/
theorem ciodd_runs (hl : F.lanesOdd = false) {ℓ0 D b0 m off pw j ss : ℕ} (hB : Blk k ℓ0 D b0 m off pw)
    (hD : D = j + 5) (hreg : (min k 11) % 2 = 1) (hss : ss = twE ℓ0 4 b0) :
    Runs v ((List.range (m / 32)).flatMap (fun i => eM (ss + frbN (4 * 2 ^ k) i / 2)))
      (fun T st => iterFrom (fun b (st : RI R × ℕ) =>
        (twPassL F.ctOdd F.lanesOdd T st.2 16 (off + b * 32) st.1, st.2 + 2)) (m / 32) 0 st)
      (VNI k (gNetCI F c s k) y 4) (VNI k (gNetCI F c s k) y 5) off m :=
  Runs.blocks k hB (e := 4 + 1) hD (by norm_num : 32 = 2 ^ (4 + 1)) rfl (fun i => eM (ss + frbN (4 * 2 ^ k) i / 2))
    (fun b T st => (twPassL F.ctOdd F.lanesOdd T st.2 16 (off + b * 32) st.1, st.2 + 2)) fun b hb hS => by
    have hk := hS.lvl
    have hg := gNetCI_odd F c s k (ℓ0 + j) 4 (b0 * 2 ^ j + b) (by omega) (by omega) hreg
    -- elaborated without the expected type: unifying the pass size `?m / 2` with `16` before `m` is known times out
    exact (itwL1_runs F c s k y hv F.ctOdd F.lanesOdd hl hS hg (hB.sub_pass hD hss hb) :)

/-- `cibfs16` on a block of log-size `4 ≤ D ≤ 11`, the `bfs16` region of the transform -/
theorem cibfs16_runs (hl : F.lanesOdd = false) {ℓ0 D b0 m off pw : ℕ} (hB : Blk k ℓ0 D b0 m off pw) (hD : 4 ≤ D)
    (hD11 : D ≤ 11) (hreg : min k 11 = D) :
    Runs v (ciBfs16 (4 * 2 ^ k) m pw) (fun T st => cibfs16 F T m off st)
      (VNI k (gNetCI F c s k) y 0) (VNI k (gNetCI F c s k) y D) off m := by
  have hss : pw * 16 / m = twE ℓ0 4 b0 := hB.cursor (e := 4) hD
  have hk := hB.lvl
  have s1 := (gNetCI_reimFrom F c s k (by omega)).ileaves y cplxW16 ciFill16 (fun _ _ => rfl)
    (icleaf_readN c s hv) hB (j := D - 4) (by omega) (by omega) hss
  have hfuel : D < m := hB.lt_size
  by_cases hodd : m.log2 % 2 != 0
  · obtain ⟨i, hi⟩ : ∃ i, D = 2 * i + 5 := ⟨(D - 5) / 2, by rw [hB.log2] at hodd; simp at hodd; omega⟩
    have s2 := ciodd_runs F c s k y hv hl hB hi (by rw [hreg, hi]; omega) hss
    have s3 := cibfsLevels_runs F c s k y hv hB hD11 hreg i m 5 32 (pw * 16 / m * 2) (by omega) (by norm_num)
      (by rw [hss, twE, twE]; ring) (by omega) (by omega)
    exact (s1.seq (s2.seq s3)).of_eq (by rw [ciBfs16, if_pos hodd])
      (fun T st => by unfold cibfs16; simp only [if_pos hodd]) rfl rfl
  · obtain ⟨i, hi⟩ : ∃ i, D = 2 * i + 4 := ⟨(D - 4) / 2, by rw [hB.log2] at hodd; simp at hodd; omega⟩
    have s3 := cibfsLevels_runs F c s k y hv hB hD11 hreg i m 4 16 _ (by omega) (by norm_num) hss (by omega) (by omega)
    exact (s1.seq s3).of_eq (by rw [ciBfs16, if_neg hodd])
      (fun T st => by unfold cibfs16; simp only [if_neg hodd]) rfl rfl

end Spq.Fft.SchedC
