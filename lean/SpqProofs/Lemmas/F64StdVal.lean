/-
  Exact rational value of a binary64 pattern (`val`), finiteness (`Fin64`), the normal range of exact results
  (`NormalRange`) and the dictionary between `decode` triples and rationals (`sv`).
-/
import SpqProofs.Lemmas.F64Arith
import Mathlib.Algebra.Order.Field.Rat
import Mathlib.Algebra.Order.Field.Power
import Mathlib.Algebra.Order.Ring.Abs
import Mathlib.Data.Rat.Cast.Order
import Mathlib.Tactic.FieldSimp
import Mathlib.Tactic.LinearCombination

namespace Spq.F64

/-- exact rational value of a (finite) pattern: `toScaled b / 2^1074` -/
def val (b : Nat) : ℚ := (toScaled b : ℚ) / 2 ^ 1074

def Fin64 (b : Nat) : Prop := b < 18446744073709551616 ∧ isFinite b = true

instance (b : Nat) : Decidable (Fin64 b) := by unfold Fin64; infer_instance

/-- the unit roundoff `2^-53` -/
def u64 : ℚ := 2 ^ (-53 : ℤ)
/-- the smallest normal number `2^-1022` -/
def minNormal : ℚ := 2 ^ (-1022 : ℤ)
/-- the overflow threshold of round-to-nearest: `2^1024·(1 − 2^-54) = (2^54 − 1)·2^970` -/
def ovfThr : ℚ := (2 ^ 54 - 1) * 2 ^ (970 : ℤ)
/-- half of the smallest subnormal: `2^-1075` -/
def halfMinSub : ℚ := 2 ^ (-1075 : ℤ)

/-- no overflow after rounding -/
def NoOvf (q : ℚ) : Prop := |q| < ovfThr
/-- an exact result that neither overflows nor falls into the subnormal range (or is 0) -/
def NormalRange (q : ℚ) : Prop := q = 0 ∨ (minNormal ≤ |q| ∧ |q| < ovfThr)

theorem NormalRange.noOvf {q : ℚ} (h : NormalRange q) : NoOvf q := by
  rcases h with rfl | ⟨_, h⟩
  · unfold NoOvf ovfThr; rw [abs_zero]; positivity
  · exact h

theorem ovfThr_eq : ovfThr = 2 ^ (1024 : ℤ) * (1 - 2 ^ (-54 : ℤ)) := by
  unfold ovfThr
  have h1 : (2 : ℚ) ^ (1024 : ℤ) = 2 ^ 54 * 2 ^ (970 : ℤ) := by
    rw [← zpow_natCast, ← zpow_add₀ (by norm_num)]; norm_num
  have h2 : (2 : ℚ) ^ 54 * 2 ^ (-54 : ℤ) = 1 := by
    rw [← zpow_natCast, ← zpow_add₀ (by norm_num)]; norm_num
  rw [h1]
  linear_combination (-(2 : ℚ) ^ (970 : ℤ)) * h2

/-- signed value of a decoded triple -/
def sv (s : Bool) (m : Nat) (e : Int) : ℚ := (sI s m : ℚ) * 2 ^ e

theorem sI_abs (s : Bool) (m : Nat) : |((sI s m : ℤ) : ℚ)| = (m : ℚ) := by
  cases s <;> simp [sI]

theorem sv_abs (s : Bool) (m : Nat) (e : Int) : |sv s m e| = (m : ℚ) * 2 ^ e := by
  unfold sv
  rw [abs_mul, sI_abs, abs_of_pos (zpow_pos (by norm_num) e)]

theorem sv_zero (s : Bool) (e : Int) : sv s 0 e = 0 := by
  cases s <;> simp [sv, sI]

theorem val_of_scaled {b : ℕ} {s : Bool} {q : ℕ} {e : ℤ} (he : -1074 ≤ e)
    (h : toScaled b = sI s q * 2 ^ ((e + 1074).toNat)) : val b = sv s q e := by
  unfold val sv
  rw [h]
  obtain ⟨n, hn⟩ : ∃ n : Nat, e + 1074 = (n : Int) := ⟨(e + 1074).toNat, by omega⟩
  have e1 : e = (n : Int) - 1074 := by omega
  rw [hn, Int.toNat_natCast, e1]
  push_cast
  rw [zpow_sub₀ (by norm_num), zpow_natCast]
  rw [mul_div_assoc]
  norm_cast

theorem val_of_decode {b : Nat} {s : Bool} {m : Nat} {e : Int} (h : decode b = ⟨s, m, e⟩) :
    val b = sv s m e :=
  val_of_scaled (by have := decode_e_ge b; rwa [h] at this) (toScaled_of_decode' h)

theorem val_decode (b : Nat) : val b = sv (decode b).neg (decode b).m (decode b).e :=
  val_of_decode rfl

theorem val_of_toScaled {b : ℕ} {n : ℤ} (h : toScaled b = n * 2 ^ 1074) : val b = n := by
  unfold val
  rw [h, Int.cast_mul, Int.cast_pow, Int.cast_ofNat, mul_div_assoc, div_self (pow_ne_zero _ (by norm_num)), mul_one]

theorem toScaled_eq_val (x : ℕ) : ((toScaled x : ℤ) : ℚ) = val x * 2 ^ 1074 := by
  unfold val; rw [div_mul_cancel₀ _ (pow_ne_zero _ (by norm_num))]

end Spq.F64
