/-
  `reim4_vec_mat1col_product_avx2` for any arithmetic: the result cells are two FMA chains over the lane data, combined
  by the final subtraction / addition.
-/
import SpqProofs.Lemmas.VmpErrDot

namespace Spq
variable {α : Type}

namespace Reim4
theorem mat1colAvx2_cells (ar : RArith α) (n : Nat) (dst u v : Array α) (hb : 8 ≤ dst.size) (k : Nat) (hk : k < 4) :
    (vecMat1colProductAvx2 ar n dst u v).getD k ar.zero =
      ar.sub (fmaChain ar (fun i => u.getD (8 * i + k) ar.zero) (fun i => v.getD (8 * i + k) ar.zero) n)
        (fmaChain ar (fun i => u.getD (8 * i + 4 + k) ar.zero) (fun i => v.getD (8 * i + 4 + k) ar.zero) n) ∧
    (vecMat1colProductAvx2 ar n dst u v).getD (k + 4) ar.zero =
      ar.add (fmaChain ar (fun i => u.getD (8 * i + k) ar.zero) (fun i => v.getD (8 * i + 4 + k) ar.zero) n)
        (fmaChain ar (fun i => u.getD (8 * i + 4 + k) ar.zero) (fun i => v.getD (8 * i + k) ar.zero) n) := by
  generalize hacc : Nat.fold n (fun i _ s => vecMat1colAvx2Step ar u v i s)
    (V4.splat ar.zero, V4.splat ar.zero, V4.splat ar.zero, V4.splat ar.zero) = acc
  have e : vecMat1colProductAvx2 ar n dst u v =
      V4.store (V4.store dst 0 (V4.sub ar acc.1 acc.2.1)) 4 (V4.add ar acc.2.2.1 acc.2.2.2) := by
    rw [← hacc]; rfl
  obtain ⟨c1, c2, c3, c4⟩ := mat1colAvx2_chain ar n u v k hk
  rw [hacc] at c1 c2 c3 c4
  have g0 := V4.getD_store_in dst 0 (V4.sub ar acc.1 acc.2.1) k ar.zero hk (by omega)
  rw [Nat.zero_add] at g0
  have e4 : k + 4 = 4 + k := by omega
  constructor
  · rw [e, V4.getD_store_out _ _ _ _ _ (by omega), g0, V4.sub, V4.lane_map2, c1, c2]
  · rw [e, e4, V4.getD_store_in _ _ _ _ _ hk (by rw [V4.size_store]; omega), V4.add, V4.lane_map2, c3, c4]

end Reim4
end Spq
