/-
  C06.4: binary64 instances for the FFT arithmetic record: the bit-level `f64`, the flagged arithmetic `aOk`
  (flag = "every operation so far had finite operands and an exact result in the normal range"), the guarded
  rational arithmetic `aG`.
-/
import SpqProofs.Lemmas.FftErrSchedNet
import SpqProofs.Lemmas.FftApi
import SpqProofs.Lemmas.F64StdDot
namespace Spq.FftErr
open Spq.Fft Spq.Fft.RelN Spq.F64

/-- flagged binary64 for the FFT record (negation is exact and keeps the flag) -/
def aOk : Arith (Nat × Prop) :=
  ⟨arithOk.add, arithOk.sub, arithOk.mul, fun x => (F64.neg x.1, x.2), arithOk.fma, arithOk.fms⟩

noncomputable def aG : Arith ℚ := ofRArith arG

theorem aG_fstd : FStd aG u64 := fstd_of_stdModel arG_stdModel

theorem _root_.Spq.Fft.RelN.ASim.ofR {α β : Type} {Rl : α → β → Prop} {ar : RArith α} {br : RArith β}
    (h : RArith.Sim Rl ar br) (na : α → α) (nb : β → β) (hn : ∀ {a a'}, Rl a a' → Rl (na a) (nb a')) :
    ASim Rl (Arith.ofR ar na) (Arith.ofR br nb) :=
  ⟨h.add, h.sub, h.mul, hn, h.fma, h.fms⟩

theorem aOk_sim_f64 : ASim (fun (x : Nat × Prop) (b : Nat) => x.1 = b) aOk f64 :=
  ASim.ofR arithOk_sim_arith (fun x => (F64.neg x.1, x.2)) F64.neg (fun h => by subst h; rfl)

theorem aOk_sim_aG : ASim RelQ aOk aG :=
  ASim.ofR arithOk_sim_arG (fun x => (F64.neg x.1, x.2)) (fun a => -a) (by
    intro a a' h1 hf
    obtain ⟨fa, rfl⟩ := h1 hf
    exact ⟨fin64_neg fa, val_neg fa.1⟩)

theorem aG_neg (q : ℚ) : aG.neg q = -q := rfl

section api
variable {R : Type} [Inhabited R]

theorem getElem!_map {S : Type} [Inhabited S] (f : R → S) (a : Array R) (p : ℕ) (hp : p < a.size) :
    (a.map f)[p]! = f a[p]! := by
  simp [hp]

end api
end Spq.FftErr
