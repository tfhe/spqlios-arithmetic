/-
  Grids: a value on the grid `2^-G·ℤ` (`G ≤ 1022`) of magnitude at most `2^1023` is 0 or in the normal range, and
  rounding keeps it on the grid.  This gives an a-priori way to discharge the "all partial results are in the normal
  range" hypothesis of the binary64 error theorems (see `F64StdBox.lean`).
-/
import SpqProofs.Lemmas.F64StdModel
import SpqProofs.Lemmas.F64StdInt

namespace Spq.F64

def GridQ (G : ℕ) (q : ℚ) : Prop := ∃ v : ℤ, q = (v : ℚ) * 2 ^ (-(G : ℤ))

theorem gridQ_zero (G : ℕ) : GridQ G 0 := ⟨0, by simp⟩

theorem GridQ.mono {G G' : ℕ} {q : ℚ} (h : GridQ G q) (hG : G ≤ G') : GridQ G' q := by
  obtain ⟨v, rfl⟩ := h
  refine ⟨v * 2 ^ (G' - G), ?_⟩
  have e : (-(G : ℤ)) = ((G' - G : ℕ) : ℤ) + (-(G' : ℤ)) := by omega
  rw [e, two_zpow_add, zpow_natCast]; push_cast; ring

theorem GridQ.add {G : ℕ} {x y : ℚ} (hx : GridQ G x) (hy : GridQ G y) : GridQ G (x + y) := by
  obtain ⟨a, rfl⟩ := hx; obtain ⟨b, rfl⟩ := hy
  exact ⟨a + b, by push_cast; ring⟩

theorem GridQ.neg {G : ℕ} {x : ℚ} (hx : GridQ G x) : GridQ G (-x) := by
  obtain ⟨a, rfl⟩ := hx
  exact ⟨-a, by push_cast; ring⟩

theorem GridQ.sub {G : ℕ} {x y : ℚ} (hx : GridQ G x) (hy : GridQ G y) : GridQ G (x - y) := by
  rw [sub_eq_add_neg]; exact hx.add hy.neg

theorem GridQ.mul {G1 G2 : ℕ} {x y : ℚ} (hx : GridQ G1 x) (hy : GridQ G2 y) : GridQ (G1 + G2) (x * y) := by
  obtain ⟨a, rfl⟩ := hx; obtain ⟨b, rfl⟩ := hy
  refine ⟨a * b, ?_⟩
  have e : (-((G1 + G2 : ℕ) : ℤ)) = (-(G1 : ℤ)) + (-(G2 : ℤ)) := by push_cast; ring
  rw [e, two_zpow_add]; push_cast; ring

theorem GridQ.dyadic {G : ℕ} {q : ℚ} (h : GridQ G q) (hG : G ≤ 2148) : Dyadic q := by
  obtain ⟨v, rfl⟩ := h
  exact dyadic_of_scaled v _ (by omega)

theorem GridQ.abs_ge {G : ℕ} {q : ℚ} (h : GridQ G q) (h0 : q ≠ 0) : (2 : ℚ) ^ (-(G : ℤ)) ≤ |q| := by
  obtain ⟨v, rfl⟩ := h
  have hv : v ≠ 0 := by rintro rfl; simp at h0
  have h1 : (1 : ℚ) ≤ |(v : ℚ)| := by rw [← Int.cast_abs]; exact_mod_cast Int.one_le_abs hv
  rw [abs_mul, abs_of_pos (two_zpow_pos _)]
  have := two_zpow_pos (-(G : ℤ))
  nlinarith

theorem GridQ.normalRange {G : ℕ} {q : ℚ} (h : GridQ G q) (hG : G ≤ 1022) (hb : |q| ≤ 2 ^ (1023 : ℤ)) :
    NormalRange q := by
  by_cases h0 : q = 0
  · exact Or.inl h0
  · exact normalRange_of (le_trans (two_zpow_le (by omega)) (h.abs_ge h0)) hb

theorem rnd_grid {G : ℕ} {q : ℚ} (h : GridQ G q) (hG : G ≤ 2148) (hov : NoOvf q) : GridQ G (rnd q) := by
  obtain ⟨v, rfl⟩ := h
  rw [rnd_scaled v _ (by omega) false]
  by_cases hv : v = 0
  · subst hv; rw [packSigned_zero, val_sgn]; exact gridQ_zero G
  rw [packSigned_ne_zero hv]
  have habs : |(v : ℚ) * 2 ^ (-(G : ℤ))| = ((v.natAbs : ℕ) : ℚ) * 2 ^ (-(G : ℤ)) := by
    rw [abs_mul, abs_of_pos (two_zpow_pos _), natAbs_cast_abs]
  unfold NoOvf at hov
  rw [habs] at hov
  obtain ⟨N, hN⟩ := pack_form (decide (v < 0)) v.natAbs (-(G : ℤ)) (by omega) hov
  rw [hN]
  exact ⟨sI (decide (v < 0)) N, rfl⟩

theorem rnd_abs_le {q : ℚ} (h : GoodQ q) : |rnd q| ≤ 2 * |q| := by
  have h1 := rnd_good h
  have hu : u64 ≤ 1 := by unfold u64; exact zpow_le_one_of_nonpos₀ (by norm_num) (by norm_num)
  have h2 : |rnd q| ≤ |rnd q - q| + |q| := by
    have : rnd q = (rnd q - q) + q := by ring
    calc |rnd q| = |(rnd q - q) + q| := by rw [← this]
      _ ≤ _ := abs_add_le _ _
  have := abs_nonneg q
  nlinarith

theorem round_ok {G : ℕ} {E : ℤ} {q : ℚ} (h : GridQ G q) (hG : G ≤ 1022) (hE : E ≤ 1023) (hb : |q| ≤ 2 ^ E) :
    GoodQ q ∧ GridQ G (rnd q) ∧ |rnd q| ≤ 2 ^ (E + 1) := by
  have hb' : |q| ≤ 2 ^ (1023 : ℤ) := le_trans hb (two_zpow_le hE)
  have hn := h.normalRange hG hb'
  have hgood : GoodQ q := ⟨h.dyadic (by omega), hn⟩
  refine ⟨hgood, rnd_grid h (by omega) hn.noOvf, ?_⟩
  have := rnd_abs_le hgood
  rw [two_zpow_add, zpow_one]
  linarith

/-- the last significant bit of such a double has weight `≥ 2^-g` -/
theorem gridQ_of_abs_ge (b : Nat) (g : ℕ) (h : (2 : ℚ) ^ (53 - (g : ℤ)) ≤ |val b|) : GridQ g (val b) := by
  rw [val_decode b] at h ⊢
  rw [sv_abs] at h
  have hm : ((decode b).m : ℚ) < 2 ^ (53 : ℤ) := by
    have := decode_m_lt b
    have e : (2 : ℚ) ^ (53 : ℤ) = ((9007199254740992 : ℕ) : ℚ) := by norm_num
    rw [e]; exact_mod_cast this
  have h2 : ((decode b).m : ℚ) * 2 ^ (decode b).e < 2 ^ (53 + (decode b).e) := by
    rw [two_zpow_add]; exact mul_lt_mul_of_pos_right hm (two_zpow_pos _)
  have h3 : (53 : ℤ) - g < 53 + (decode b).e := two_zpow_lt_iff.1 (lt_of_le_of_lt h h2)
  obtain ⟨t, ht⟩ : ∃ t : ℕ, (decode b).e + g = (t : ℤ) := ⟨((decode b).e + g).toNat, by omega⟩
  refine ⟨sI (decode b).neg (decode b).m * 2 ^ t, ?_⟩
  unfold sv
  have e : (decode b).e = (t : ℤ) + (-(g : ℤ)) := by omega
  rw [e, two_zpow_add, zpow_natCast]; push_cast; ring

theorem gridQ_of_val_zero {b : Nat} (g : ℕ) (h : val b = 0) : GridQ g (val b) := by rw [h]; exact gridQ_zero g

/-- every entry of `u` is a finite double on the grid `2^-g·ℤ` of magnitude `≤ 2^E0` -/
def InBox (g : ℕ) (E0 : ℤ) (u : Array Nat) : Prop :=
  ∀ i, i < u.size → Fin64 (u.getD i 0) ∧ GridQ g (val (u.getD i 0)) ∧ |val (u.getD i 0)| ≤ 2 ^ E0

end Spq.F64
