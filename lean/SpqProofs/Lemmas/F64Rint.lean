/-
  `rint` (round to nearest integer, ties to even), `toIntTrunc` (cvttsd2si) and division by a power of two
  at decode level; on values, `(int64_t)rint(y)` is a nearest integer of `y` (`toIntRne_nearest`).
-/
import SpqProofs.Lemmas.F64Arith

namespace Spq.F64

theorem rint_of_decode_neg {y : Nat} {s : Bool} {m : Nat} {e : Int} (hy : decode y = ⟨s, m, e⟩) (he : e < 0) :
    rint y = if rne m (-e).toNat == 0 then sgn s else pack s (rne m (-e).toNat) 0 := by
  unfold rint
  simp only [hy]
  have : ¬ e ≥ 0 := by omega
  simp only [this, if_false]
  unfold rne sgn
  rfl

theorem rint_of_decode_nonneg {y : Nat} {s : Bool} {m : Nat} {e : Int} (hy : decode y = ⟨s, m, e⟩) (he : 0 ≤ e) :
    rint y = y := by
  unfold rint
  simp only [hy]
  have : e ≥ 0 := he
  simp only [this, if_true]

theorem toIntTrunc_of_decode {y : Nat} {s : Bool} {m : Nat} {e : Int} (hy : decode y = ⟨s, m, e⟩) :
    toIntTrunc y =
      (let mag : Int := if e ≥ 0 then (m : Int) * (2 : Int) ^ e.toNat else ((m / 2 ^ ((-e).toNat) : Nat) : Int)
       let v := if s then -mag else mag
       if v < -9223372036854775808 || v > 9223372036854775807 then -9223372036854775808 else v) := by
  unfold toIntTrunc
  simp only [hy]

theorem toIntTrunc_sgn (s : Bool) : toIntTrunc (sgn s) = 0 := by
  rw [toIntTrunc_of_decode (decode_sgn s)]
  have : ¬ ((-1074 : Int) ≥ 0) := by omega
  simp only [this, if_false, Nat.zero_div, Nat.cast_zero, neg_zero, ite_self]
  decide

theorem toIntTrunc_pack_int (s : Bool) (q : Nat) (hq0 : q ≠ 0) (hq : q ≤ 4503599627370496) :
    toIntTrunc (pack s q 0) = sI s q := by
  obtain ⟨k, hk, hn1, hn2⟩ := exists_norm_shift hq0 (by omega)
  have hd := decode_pack_small s q 0 k hn1 hn2 (by omega) (by omega)
  rw [toIntTrunc_of_decode hd]
  have hP : 0 < 2 ^ k := by positivity
  have hmag : (if (0 : Int) - k ≥ 0 then ((q * 2 ^ k : Nat) : Int) * (2 : Int) ^ ((0 : Int) - k).toNat
      else ((q * 2 ^ k / 2 ^ ((-((0 : Int) - k)).toNat) : Nat) : Int)) = q := by
    split
    · rename_i h
      have hk0 : k = 0 := by omega
      subst hk0; simp
    · have : (-((0 : Int) - k)).toNat = k := by omega
      rw [this, Nat.mul_div_cancel _ hP]
  simp only [hmag]
  unfold sI
  cases s
  · simp only [Bool.false_eq_true, if_false]
    have h1 : ¬ ((q : Int) < -9223372036854775808) := by omega
    have h2 : ¬ ((q : Int) > 9223372036854775807) := by omega
    simp [h1, h2]
  · simp only [if_true]
    have h1 : ¬ (-(q : Int) < -9223372036854775808) := by omega
    have h2 : ¬ (-(q : Int) > 9223372036854775807) := by omega
    simp [h1, h2]

theorem rne_frac_le {m : Nat} {e : Int} (he : e < 0) (hm : m < 9007199254740992) :
    rne m (-e).toNat ≤ 4503599627370496 := by
  apply rne_le
  have : 2 ^ 1 ≤ 2 ^ (-e).toNat := Nat.pow_le_pow_right (by norm_num) (by omega)
  have := Nat.mul_le_mul_left 4503599627370496 this
  omega

theorem toIntTrunc_rint_neg {y : Nat} {s : Bool} {m : Nat} {e : Int} (hy : decode y = ⟨s, m, e⟩) (he : e < 0)
    (hm : m < 9007199254740992) :
    toIntTrunc (rint y) = sI s (rne m (-e).toNat) := by
  rw [rint_of_decode_neg hy he]
  have hq := rne_frac_le he hm
  by_cases h0 : rne m (-e).toNat = 0
  · simp only [h0, beq_self_eq_true, if_true]
    rw [toIntTrunc_sgn]; simp [sI]
  · have : (rne m (-e).toNat == 0) = false := by simpa using h0
    simp only [this, Bool.false_eq_true, if_false]
    exact toIntTrunc_pack_int s _ h0 hq

/-- the nearest multiple of `2^k` is at least as near as 0 -/
theorem rne_dist_le (m k : Nat) : |(m : Int) - (rne m k : Int) * 2 ^ k| ≤ m := by
  obtain ⟨e1, _⟩ := rne_err m k
  have e1' : 2 * ((rne m k : Int) * 2 ^ k) ≤ 2 * m + 2 ^ k := by exact_mod_cast e1
  rcases Nat.eq_zero_or_pos (rne m k) with h0 | hpos
  · rw [h0]; simp
  · have hq : (2 : Int) ^ k ≤ (rne m k : Int) * 2 ^ k := by
      have : (1 : Int) ≤ (rne m k : Int) := by exact_mod_cast hpos
      exact le_mul_of_one_le_left (by positivity) this
    have hP : (0 : Int) < 2 ^ k := by positivity
    rw [abs_le]; constructor <;> linarith

theorem toScaled_rint_neg {y : Nat} {s : Bool} {m : Nat} {e : Int} (hy : decode y = ⟨s, m, e⟩) (he : e < 0)
    (hm : m < 9007199254740992) :
    rint y < 18446744073709551616 ∧ toScaled (rint y) = sI s (rne m (-e).toNat) * 2 ^ 1074 := by
  rw [rint_of_decode_neg hy he]
  have hq := rne_frac_le he hm
  by_cases h0 : rne m (-e).toNat = 0
  · simp only [h0, beq_self_eq_true, if_true]
    rw [toScaled_sgn]
    exact ⟨by cases s <;> simp [sgn], by rw [sI_zero, zero_mul]⟩
  · have : (rne m (-e).toNat == 0) = false := by simpa using h0
    rw [this]
    simp only [Bool.false_eq_true, if_false]
    exact ⟨pack_lt _ _ _, toScaled_pack_exact s _ 0 (by omega) (by omega) (by omega)⟩

theorem toIntTrunc_rint_nonneg {y : Nat} {s : Bool} {m : Nat} {e : Int} (hy : decode y = ⟨s, m, e⟩) (he : 0 ≤ e)
    (hlt : (m : Int) * 2 ^ e.toNat < 9223372036854775808) :
    toIntTrunc (rint y) = sI s m * 2 ^ e.toNat := by
  rw [rint_of_decode_nonneg hy he, toIntTrunc_of_decode hy]
  have : e ≥ 0 := he
  simp only [this, if_true]
  have hnn : (0 : Int) ≤ (m : Int) * 2 ^ e.toNat := by positivity
  unfold sI
  cases s
  · simp only [Bool.false_eq_true, if_false]
    have h1 : ¬ ((m : Int) * 2 ^ e.toNat < -9223372036854775808) := by omega
    have h2 : ¬ ((m : Int) * 2 ^ e.toNat > 9223372036854775807) := by omega
    simp [h1, h2]
  · simp only [if_true]
    have h1 : ¬ (-((m : Int) * 2 ^ e.toNat) < -9223372036854775808) := by omega
    have h2 : ¬ (-((m : Int) * 2 ^ e.toNat) > 9223372036854775807) := by omega
    simp [h1, h2]

/-- a product/quotient whose exact value is below `2^-1022` packs to a pattern with exponent field ≤ 1:
    `decode = ⟨neg, q, -1074⟩` with `q ≤ 2^52` -/
theorem decode_pack_tiny (neg : Bool) (M : Nat) (E : Int) (L : Nat) (hM : M ≠ 0) (hlt : M < 2 ^ L)
    (h : E + L - 53 < -1074) :
    ∃ q, q ≤ 4503599627370496 ∧ decode (pack neg M E) = ⟨neg, q, -1074⟩ := by
  obtain ⟨hsh, hq⟩ := shift_clamped M E L hM hlt h
  refine ⟨_, hq, ?_⟩
  rw [pack_eq neg M E hM, hsh, show E + (-1074 - E) = -1074 by ring]
  rcases Nat.lt_or_ge (rneI M (-1074 - E)) 4503599627370496 with hlt' | hge
  · exact decode_encode_subnormal neg _ _ hlt'
  · exact decode_encode_normal neg _ _ hge (by omega) (by omega) (by omega)

theorem rne_small_of_lt (q k : Nat) (hk : 0 < k) (hq : q < 2 ^ (k - 1)) : rne q k = 0 := by
  have h2 : (2 : Nat) ^ (k - 1) < 2 ^ k := Nat.pow_lt_pow_right (by norm_num) (by omega)
  unfold rne
  generalize 2 ^ (k - 1) = H at *
  generalize 2 ^ k = P at *
  have hdiv : q / P = 0 := Nat.div_eq_of_lt (by omega)
  have hmod : q % P = q := Nat.mod_eq_of_lt (by omega)
  rw [hdiv, hmod]
  have c1 : ¬ (q > H) := by omega
  have c2 : (q == H) = false := by
    rw [beq_eq_false_iff_ne]; omega
  simp only [c1, decide_false, c2, Bool.false_and, Bool.or_self, Bool.false_eq_true, if_false]

theorem rne_tiny (q : Nat) (hq : q ≤ 4503599627370496) : rne q 1074 = 0 := by
  apply rne_small_of_lt q 1074 (by norm_num)
  have key : ∀ n, 53 ≤ n → (2 : Nat) ^ 53 ≤ 2 ^ n := fun n h => Nat.pow_le_pow_right (by omega) h
  have := key (1074 - 1) (by omega)
  have h53 : (2 : Nat) ^ 53 = 9007199254740992 := by norm_num
  rw [h53] at this
  exact lt_of_lt_of_le (by omega) this

theorem toIntTrunc_rint_tiny {y : Nat} {s : Bool} {q : Nat} (hy : decode y = ⟨s, q, -1074⟩) (hq : q ≤ 4503599627370496) :
    toIntTrunc (rint y) = 0 := by
  rw [toIntTrunc_rint_neg hy (by omega) (by omega)]
  have : (-(-1074 : Int)).toNat = 1074 := by omega
  rw [this, rne_tiny q hq]
  cases s <;> simp [sI]

/-- `(int64_t)rint(y)` is a nearest integer of `y`, for every pattern of magnitude below `2^63` (values in units of
    `2^-1074`) -/
theorem toIntRne_nearest (y : Nat) (hdom : |toScaled y| < 9223372036854775808 * 2 ^ 1074) :
    2 * |toIntTrunc (rint y) * 2 ^ 1074 - toScaled y| ≤ 2 ^ 1074 := by
  obtain ⟨s, m, e, hy, hm, he0, -⟩ := exists_decode y
  rw [toScaled_of_decode' hy] at hdom ⊢
  rcases Int.lt_or_le e 0 with he | he
  · -- fractional bits: `rne` on the grid `2^(-e)`, and `2^(-e)·2^(e+1074) = 2^1074`
    obtain ⟨k, hk⟩ : ∃ k : Nat, (k : Int) = -e := ⟨(-e).toNat, by omega⟩
    obtain ⟨c, hc⟩ : ∃ c : Nat, (c : Int) = e + 1074 := ⟨(e + 1074).toNat, by omega⟩
    have hkc : 1074 = k + c := by omega
    rw [toIntTrunc_rint_neg hy he hm, show (-e).toNat = k by omega, show (e + 1074).toNat = c by omega]
    have herr := rne_err_abs m k
    have hPc : (0 : Int) < 2 ^ c := by positivity
    have key : ∀ n, n = k + c → 2 * |sI s (rne m k) * 2 ^ n - sI s m * 2 ^ c| ≤ 2 ^ n := by
      rintro n rfl
      have : sI s (rne m k) * 2 ^ (k + c) - sI s m * 2 ^ c = (sI s (rne m k) * 2 ^ k - sI s m * 1) * 2 ^ c := by
        rw [pow_add]; ring
      rw [this, abs_mul, abs_of_pos hPc, sI_mul_sub, mul_one, pow_add, ← mul_assoc]
      exact mul_le_mul_of_nonneg_right herr hPc.le
    exact key 1074 hkc
  · -- an integer: returned as it is
    have hlt : (m : Int) * 2 ^ e.toNat < 9223372036854775808 := by
      rw [abs_sI_mul _ _ _ (by positivity), show (e + 1074).toNat = e.toNat + 1074 by omega, pow_add, ← mul_assoc] at hdom
      exact lt_of_mul_lt_mul_right hdom (by positivity)
    rw [toIntTrunc_rint_nonneg hy he hlt, show (e + 1074).toNat = e.toNat + 1074 by omega, pow_add, ← mul_assoc, sub_self,
      abs_zero, mul_zero]
    positivity

theorem div_pow2_of_decode {a b : Nat} {sa : Bool} {ma : Nat} {ea eb : Int}
    (ha : decode a = ⟨sa, ma, ea⟩) (hb : decode b = ⟨false, 4503599627370496, eb⟩) (hma : ma ≠ 0) :
    div a b = pack sa (ma * 2 ^ 59) (ea - eb - 111) := by
  unfold div
  simp only [ha, hb]
  have h1 : ((4503599627370496 : Nat) == 0) = false := by rfl
  have h2 : (ma == 0) = false := by simpa using hma
  rw [h1, h2]
  simp only [Bool.false_eq_true, if_false]
  have t2 : (2 : Nat) ^ 110 = 2 ^ 58 * 4503599627370496 := by norm_num
  have hd : ma * 2 ^ 110 / 4503599627370496 = ma * 2 ^ 58 := by
    rw [t2, ← mul_assoc, Nat.mul_div_cancel _ (by norm_num)]
  have hm : ma * 2 ^ 110 % 4503599627370496 = 0 := by
    rw [t2, ← mul_assoc, Nat.mul_mod_left]
  rw [hd, hm]
  have hs : (sa != false) = sa := by cases sa <;> rfl
  rw [hs]
  have h3 : (2 * (ma * 2 ^ 58) + if ((0 : Nat) == 0) = true then 0 else 1) = ma * 2 ^ 59 := by
    have h0 : ((0 : Nat) == 0) = true := rfl
    rw [if_pos h0, Nat.add_zero]
    have : (2 : Nat) ^ 59 = 2 * 2 ^ 58 := by norm_num
    rw [this]
    generalize (2:Nat) ^ 58 = P
    exact Nat.mul_left_comm 2 ma P
  rw [h3]

end Spq.F64
