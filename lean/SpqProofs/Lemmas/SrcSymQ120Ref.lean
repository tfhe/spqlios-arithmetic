/-
  The q120 reference product kernels (`Properties/SrcQ120.lean`, `SrcQ120X2.lean`) as the symbolic executor of
  `SrcSym.lean` sees them: the row body and the recombination are loops over the four primes, which the executor
  writes out.  Per kernel, as in `SrcSymQ120Avx.lean`: `K0`, `start`, `next`, the result lanes, the runs, and the
  facts the runs leave.
-/
import Gen.CSrc
import SpqProofs.Lemmas.SrcSymQ120Avx
namespace Spq.Src
open Spq Spq.CIR Spq.Q120

namespace Q120Ref
open Spq.Sym Q120Avx

/-- cell `i + q` of a row, `i` (input `a`) the row offset: the pointers stay at offset 0 and the index is added in
    uint64 -/
def cell (a q : Nat) : SV := .plus (.lit 0) (.add (.atom a 0) (.lit q))

/-- the cells `b[i + q]`, `q < 4` -/
def rowCells (b a : Nat) : List (SV × SV) := (List.range 4).map fun q => (.atom b 0, cell a q)

theorem den_cell (C : Ctx) (a q n : Nat) (ha : C.ρ a 0 = 4 * n) (hn : 4 * n + q < 18446744073709551616) :
    den C (cell a q) = 4 * n + q := by
  show 0 + add64 (C.ρ a 0) q = _
  rw [Nat.zero_add, ha]
  exact Nat.mod_eq_of_lt hn

theorem rowCells_met (C : Ctx) (b a x n : Nat) (X : Array Nat) (hM : C.M = fun b o => ((buf C.mem b).getD o 0).toNat)
    (hx : buf C.mem x = natBuf X) (hb : C.ρ b 0 = x) (ha : C.ρ a 0 = 4 * n) (hX : 4 * n + 4 ≤ X.size)
    (hn : 4 * n + 4 < 18446744073709551616) :
    ∀ t ∈ rowCells b a, loadCell C.mem (some (den C t.1, den C t.2)) 0 = .ok ((C.M (den C t.1) (den C t.2) : Nat) : Int) := by
  intro t ht
  obtain ⟨q, hq, rfl⟩ := List.mem_map.1 ht
  have hq := List.mem_range.1 hq
  simp only [den_cell C a q n ha (by omega), hM]
  exact load_natBuf C.mem _ X (4 * n + q) (hb.symm ▸ hx : buf C.mem (C.ρ b 0) = natBuf X) (by omega)

/-- the row test `i < 4 * ell` of the kernels that count the row offset (input `a`) -/
def test4 (a : Nat) : SV := .lt (.atom a 0) (.mul (.lit 4) (.atom 0 0))

theorem den_test4 (C : Ctx) (a n ell : Nat) (ha : C.ρ a 0 = 4 * n) (h0 : C.ρ 0 0 = ell) (hell : ell < 2305843009213693952) :
    den C (test4 a) = if n < ell then 1 else 0 := by
  show (if C.ρ a 0 < mul64 4 (C.ρ 0 0) then 1 else 0) = _
  rw [ha, h0, show mul64 4 ell = 4 * ell from Nat.mod_eq_of_lt (by omega)]
  by_cases hn : n < ell
  · rw [if_pos hn, if_pos (by omega)]
  · rw [if_neg hn, if_neg (by omega)]

/-- the uint32 word indices `m + 2 q` and `m + 2 q + 1`, `m = n * a (+ b)`, as the code computes them in uint64 -/
theorem words_mul (n a q : Nat) (h : n * a + 2 * q + 1 < 18446744073709551616) :
    add64 (mul64 n a) (mul64 2 q) = n * a + 2 * q ∧ add64 (mul64 n a) (add64 (mul64 2 q) 1) = n * a + 2 * q + 1 := by
  simp only [add64, mul64]
  omega

theorem words_add (n a b q : Nat) (h : n * a + b + 2 * q + 1 < 18446744073709551616) :
    add64 (add64 (mul64 n a) b) (mul64 2 q) = n * a + b + 2 * q ∧
      add64 (add64 (mul64 n a) b) (add64 (mul64 2 q) 1) = n * a + b + 2 * q + 1 := by
  simp only [add64, mul64]
  omega

/-- the cell a uint32 word lies in, as the side condition of `load32` names it -/
def wcell (w : SV) : SV := .plus (.lit 0) (.shr w (.lit 1))

/-- the cells of the low words `wl l` and of the high words `wh l`, `l < w`, of buffer `b` -/
def wordsOf (w b : Nat) (wl wh : Nat → SV) : List (SV × SV) :=
  ((List.range w).map fun l => (.atom b 0, wcell (wl l))) ++ (List.range w).map fun l => (.atom b 0, wcell (wh l))

/-- the words `wl l`, `wh l` are the two halves of cell `c l` of an operand -/
theorem wordsOf_met (C : Ctx) (w b z : Nat) (Z : Array Nat) (wl wh : Nat → SV) (c : Nat → Nat)
    (hM : C.M = fun b o => ((buf C.mem b).getD o 0).toNat) (hz : buf C.mem z = natBuf Z) (hb : C.ρ b 0 = z)
    (hwl : ∀ l, l < w → den C (wl l) = 2 * c l) (hwh : ∀ l, l < w → den C (wh l) = 2 * c l + 1)
    (hc : ∀ l, l < w → c l < Z.size) :
    ∀ t ∈ wordsOf w b wl wh,
      loadCell C.mem (some (den C t.1, den C t.2)) 0 = .ok ((C.M (den C t.1) (den C t.2) : Nat) : Int) := by
  intro t ht
  have hb' : den C (.atom b 0) = z := hb
  rcases List.mem_append.1 ht with ht | ht <;> obtain ⟨l, hl, rfl⟩ := List.mem_map.1 ht <;>
    have hl := List.mem_range.1 hl
  · have : den C (wcell (wl l)) = c l := by
      show 0 + den C (wl l) / 2 ^ 1 = _
      rw [hwl l hl]
      omega
    simp only [this, hb', hM]
    exact load_natBuf C.mem z Z (c l) hz (hc l hl)
  · have : den C (wcell (wh l)) = c l := by
      show 0 + den C (wh l) / 2 ^ 1 = _
      rw [hwh l hl]
      omega
    simp only [this, hb', hM]
    exact load_natBuf C.mem z Z (c l) hz (hc l hl)

/-- result lane `l` of the b·c recombinations as the C source has it (prime `l % 4`; the sums are inputs 1 and 2):
    `t = s[2q]; t += (s[2q+1] & MASK2) * precomp[1 + q]; t += (s[2q+1] >> H2) * precomp[5 + q]` -/
def bbcOut (l : Nat) : SV :=
  .add (.add (.atom 1 l) (.mul (lo2 (.atom 2 l)) (tbl 1 (l % 4)))) (.mul (hi2 (.atom 2 l)) (tbl 5 (l % 4)))

/-- `bbcOut` is the model's recombination `bbcRefFinal` -/
theorem den_bbcOut (C : Ctx) (pc : Nat) (P : BbcPrecomp) (hM : C.M = fun b o => ((buf C.mem b).getD o 0).toNat)
    (hΓ0 : C.Γ.getD 0 none = some (pc, 0)) (hpc : buf C.mem pc = natBuf (bbcCells P)) (l : Nat) :
    den C (bbcOut l) = bbcRefFinal P (l % 4) (C.ρ 1 l, C.ρ 2 l) := by
  have hH : den C H2 = P.h := den_H2 C pc (bbcCells P) hM hΓ0 hpc
  have hq : l % 4 < 4 := Nat.mod_lt _ (by decide)
  simp only [bbcOut, lo2, hi2, den, den_tbl C pc (bbcCells P) hM hΓ0 hpc, hH, Nat.and_two_pow_sub_one_eq_mod]
  generalize l % 4 = q at hq
  have : q = 0 ∨ q = 1 ∨ q = 2 ∨ q = 3 := by omega
  rcases this with rfl | rfl | rfl | rfl <;> rfl

/-- the product of word `wx` of `x` (input 3) and word `wy` of `y` (input 4) -/
def xy (wx wy : SV) : SV := .mul (.load32 (.atom 3 0) (.lit 0) wx) (.load32 (.atom 4 0) (.lit 0) wy)

/-- result lane `l` of the b·c word kernels one row on, as `accum_mul_q120_bc` has it: the low words `xl`, `yl`
    multiplied, the high words `xh`, `yh` multiplied, the halves of the two products added to the sums (inputs 1, 2) -/
def bbcNext1 (l : Nat) (xl xh yl yh : SV) : SV :=
  .add (.atom 1 l) (.add (.land (xy xl yl) (.lit 4294967295)) (.land (xy xh yh) (.lit 4294967295)))
def bbcNext2 (l : Nat) (xl xh yl yh : SV) : SV :=
  .add (.atom 2 l) (.add (.shr (xy xl yl) (.lit 32)) (.shr (xy xh yh) (.lit 32)))

/-- they advance by `bbcRefStep` on cell `cx` of `x` and cell `cy` of `y`, whose words these are; the halves of a
    cell are those of the operand because the operands are below `2 ^ 64` -/
theorem den_bbcNext (C : Ctx) (x y : Nat) (X Y : Array Nat) (hM : C.M = fun b o => ((buf C.mem b).getD o 0).toNat)
    (hx : buf C.mem x = natBuf X) (hy : buf C.mem y = natBuf Y) (h3 : C.ρ 3 0 = x) (h4 : C.ρ 4 0 = y) (l : Nat)
    (xl xh yl yh : SV) (cx cy : Nat) (hxl : den C xl = 2 * cx) (hxh : den C xh = 2 * cx + 1)
    (hyl : den C yl = 2 * cy) (hyh : den C yh = 2 * cy + 1) (hXb : ∀ i, X.getD i 0 < 18446744073709551616)
    (hYb : ∀ i, Y.getD i 0 < 18446744073709551616) :
    (den C (bbcNext1 l xl xh yl yh), den C (bbcNext2 l xl xh yl yh))
      = bbcRefStep (C.ρ 1 l, C.ρ 2 l) (X.getD cx 0, Y.getD cy 0) := by
  have hm : ∀ a : Nat, a &&& 4294967295 = a % 4294967296 := fun a => Nat.and_two_pow_sub_one_eq_mod a 32
  have p32 : (2 : Nat) ^ 32 = 4294967296 := by decide
  have hX := toNat_getD_natBuf C.mem x X cx hx
  have hY := toNat_getD_natBuf C.mem y Y cy hy
  have c0 : ∀ c, 0 + 2 * c / 2 = c := fun c => by omega
  have c1 : ∀ c, 0 + (2 * c + 1) / 2 = c := fun c => by omega
  have m0 : ∀ c, 2 * c % 2 = 0 := fun c => by omega
  have m1 : ∀ c, (2 * c + 1) % 2 = 1 := fun c => by omega
  simp only [bbcNext1, bbcNext2, xy, den, hxl, hxh, hyl, hyh, h3, h4, hM, c0, c1, m0, m1, hX, hY, half, if_true,
    if_neg Nat.one_ne_zero, Nat.mod_eq_of_lt (hXb _), Nat.mod_eq_of_lt (hYb _), hm, p32, bbcRefStep]

end Q120Ref

namespace BaaRef
open Spq.Sym Q120Avx Q120Ref

def loop : Stmt := firstFor Gen.CSrc.q120_vec_mat1col_product_baa_ref.body
def fin : Stmt := afterFor Gen.CSrc.q120_vec_mat1col_product_baa_ref.body

theorem split : seqDrop 6 Gen.CSrc.q120_vec_mat1col_product_baa_ref.body
    = .seq (.for (forInit loop) (forTest loop) (forInc loop) (forBody loop)) fin := rfl

/-- the head of the row loop.  Inputs: 0 `ell`, 1 `H`, 2 `MASK`, 3 `acc1[q]`, 4 `acc2[q]`, 5 `x`, 6 `y`, 7 the row
    offset `i`; `x_ptr` and `y_ptr` stay at offset 0 -/
def K0 : K :=
  [(0, .atom 0 0), (1, .atom 1 0), (2, .atom 2 0), (3, .atom 3 0), (4, .atom 3 1), (5, .atom 3 2), (6, .atom 3 3),
   (7, .atom 4 0), (8, .atom 4 1), (9, .atom 4 2), (10, .atom 4 3), (11, .atom 5 0), (12, .lit 0), (13, .atom 6 0),
   (14, .lit 0), (15, .atom 7 0)]

/-- prime `q` of one row as the C source has it: `t = x_ptr[i+q] * y_ptr[i+q]; acc1[q] += t & MASK; acc2[q] += t >> H` -/
def t (q : Nat) : SV := .mul (.load (.atom 5 0) (cell 7 q)) (.load (.atom 6 0) (cell 7 q))
def next : Nat → Nat → SV
  | 3, q => .add (.atom 3 q) (.land (t q) (.atom 2 0))
  | 4, q => .add (.atom 4 q) (.shr (t q) (.atom 1 0))
  | 7, _ => .add (.atom 7 0) (.lit 4)
  | i, l => .atom i l

def needsRow : Needs := ⟨[.atom 1 0], [], [], rowCells 5 7 ++ rowCells 6 7⟩

/-- the four rounds of the loop over the primes are what a row may spend of the fuel -/
theorem row_runs : runs 21 4 (.seq (forBody loop) (forInc loop)) K0 needsRow.good (renews 4 next K0) = true := by
  decide +kernel

def ctx (Γ : List Ptr) (mem : Mem) (ell h x y n : Nat) (S : Nat → Nat × Nat) : Ctx :=
  ⟨Γ, fun i l => match i with
    | 0 => ell | 1 => h | 2 => 2 ^ h - 1 | 3 => (S l).1 | 4 => (S l).2 | 5 => x | 6 => y | 7 => 4 * n | _ => 0,
   fun b o => ((buf mem b).getD o 0).toNat, mem⟩

section
variable (Γ : List Ptr) (mem : Mem) (ell h x y n : Nat) (S : Nat → Nat × Nat) (X Y : Array Nat)
  (hx : buf mem x = natBuf X) (hy : buf mem y = natBuf Y)

include hx hy

theorem row_needs (hh : h < 64) (hX : 4 * n + 4 ≤ X.size) (hY : 4 * n + 4 ≤ Y.size) (hn : 4 * n + 4 < 18446744073709551616) :
    needsRow.Met (ctx Γ mem ell h x y n S) :=
  ⟨List.forall_mem_cons.2 ⟨hh, nofun⟩, nofun, nofun, List.forall_mem_append.2
    ⟨rowCells_met _ 5 7 x n X rfl hx rfl rfl hX hn, rowCells_met _ 6 7 y n Y rfl hy rfl rfl hY hn⟩⟩

/-- `next` computes the inputs of the next row: the sums of prime `q` advance by `baaRefStep` -/
theorem row_next (S' : Nat → Nat × Nat)
    (hS : ∀ q, S' q = baaRefStep (2 ^ h) (S q) (X.getD (4 * n + q) 0, Y.getD (4 * n + q) 0))
    (hn : 4 * n + 4 < 18446744073709551616) (i q : Nat) (hq : q < 4) :
    den (ctx Γ mem ell h x y n S) (next i q) = (ctx Γ mem ell h x y (n + 1) S').ρ i q := by
  have hc := den_cell (ctx Γ mem ell h x y n S) 7 q n rfl (by omega)
  match i with
  | 0 => rfl | 1 => rfl | 2 => rfl | 5 => rfl | 6 => rfl | _ + 8 => rfl
  | 3 =>
    show add64 (S q).1 (mul64 (((buf mem x).getD (den _ (cell 7 q)) 0).toNat)
      (((buf mem y).getD (den _ (cell 7 q)) 0).toNat) &&& (2 ^ h - 1)) = (S' q).1
    rw [hc, Nat.and_two_pow_sub_one_eq_mod, toNat_getD_natBuf mem x X _ hx, toNat_getD_natBuf mem y Y _ hy, hS q]
    rfl
  | 4 =>
    show add64 (S q).2 (mul64 (((buf mem x).getD (den _ (cell 7 q)) 0).toNat)
      (((buf mem y).getD (den _ (cell 7 q)) 0).toNat) / 2 ^ h) = (S' q).2
    rw [hc, toNat_getD_natBuf mem x X _ hx, toNat_getD_natBuf mem y Y _ hy, hS q]
    rfl
  | 7 => show add64 (4 * n) 4 = 4 * (n + 1); simp only [add64]; omega
end

/-- the inputs of row 0 as the statements before the loop leave them: `H = precomp[0]`, `MASK`, sums 0 -/
def start : Nat → Nat → SV
  | 1, _ => H2 | 2, _ => .mask H2 | 3, _ => .lit 0 | 4, _ => .lit 0 | 5, _ => .par 2 | 6, _ => .par 3 | 7, _ => .lit 0
  | i, l => .atom i l

theorem pre_runs : runs 21 0 (.seq (seqTake 6 Gen.CSrc.q120_vec_mat1col_product_baa_ref.body) (forInit loop))
    [(0, .atom 0 0)] (needsTbl [H2] 1).good (renews 4 start K0) = true := by decide +kernel

theorem start_den (mem : Mem) (ell x y pc r : Nat) (S : Nat → Nat × Nat) (P : BaaPrecomp)
    (hpc : buf mem pc = natBuf (baaCells P)) (hS : ∀ q, S q = (0, 0)) (i l : Nat) :
    den (ctx [some (pc, 0), some (r, 0), some (x, 0), some (y, 0)] mem ell P.h x y 0 S) (start i l)
      = (ctx [some (pc, 0), some (r, 0), some (x, 0), some (y, 0)] mem ell P.h x y 0 S).ρ i l := by
  have hH := den_H2 (ctx [some (pc, 0), some (r, 0), some (x, 0), some (y, 0)] mem ell P.h x y 0 S) pc (baaCells P)
    rfl rfl hpc
  match i with
  | 0 => rfl | 5 => rfl | 6 => rfl | 7 => rfl | _ + 8 => rfl
  | 1 => exact hH
  | 2 => exact congrArg (2 ^ · - 1) hH
  | 3 => exact congrArg Prod.fst (hS l).symm
  | 4 => exact congrArg Prod.snd (hS l).symm

/-- the recombination of prime `q`: `res[q] = acc1[q] + acc2[q] * precomp[1 + q]` -/
def out (q : Nat) : SV := .add (.atom 3 q) (.mul (.atom 4 q) (tbl 1 q))
theorem fin_runs : fills 21 4 fin K0 (needsTbl [] 5).good (.par 1) 0 4 out = true := by decide +kernel

/-- `out` is the model's recombination of the sums with `H_POW_RED` -/
theorem fin_out (Γ : List Ptr) (mem : Mem) (ell x y n pc : Nat) (S : Nat → Nat × Nat) (P : BaaPrecomp)
    (hΓ0 : Γ.getD 0 none = some (pc, 0)) (hpc : buf mem pc = natBuf (baaCells P)) (q : Nat) (hq : q < 4) :
    den (ctx Γ mem ell P.h x y n S) (out q) = add64 (S q).1 (mul64 (S q).2 (P.hpow q)) := by
  show add64 (S q).1 (mul64 (S q).2 (den _ (tbl 1 q))) = _
  rw [den_tbl _ pc _ rfl hΓ0 hpc]
  have : q = 0 ∨ q = 1 ∨ q = 2 ∨ q = 3 := by omega
  rcases this with rfl | rfl | rfl | rfl <;> rfl

end BaaRef

namespace BbbRef
open Spq.Sym Q120Avx Q120Ref

def loop : Stmt := firstFor Gen.CSrc.q120_vec_mat1col_product_bbb_ref.body
def fin : Stmt := afterFor Gen.CSrc.q120_vec_mat1col_product_bbb_ref.body

theorem split : seqDrop 8 Gen.CSrc.q120_vec_mat1col_product_bbb_ref.body
    = .seq (.for (forInit loop) (forTest loop) (forInc loop) (forBody loop)) fin := rfl

/-- the head of the row loop.  Inputs: 0 `ell`, 1 `H1`, 2 `MASK1`, 3 … 6 the sums `s1[q]` … `s4[q]`, 7 `x`, 8 `y`,
    9 the row offset `i` -/
def K0 : K :=
  [(0, .atom 0 0), (1, .atom 1 0), (2, .atom 2 0), (3, .atom 3 0), (4, .atom 3 1), (5, .atom 3 2), (6, .atom 3 3),
   (7, .atom 4 0), (8, .atom 4 1), (9, .atom 4 2), (10, .atom 4 3), (11, .atom 5 0), (12, .atom 5 1), (13, .atom 5 2),
   (14, .atom 5 3), (15, .atom 6 0), (16, .atom 6 1), (17, .atom 6 2), (18, .atom 6 3), (19, .atom 7 0), (20, .lit 0),
   (21, .atom 8 0), (22, .lit 0), (23, .atom 9 0)]

/-- prime `q` of one row as the C source has it: the four products of the halves of `x_ptr[i+q]` and `y_ptr[i+q]`,
    their halves added to the sums -/
def lo (a : SV) : SV := .land a (.atom 2 0)
def hi (a : SV) : SV := .shr a (.atom 1 0)
def vX (q : Nat) : SV := .load (.atom 7 0) (cell 9 q)
def vY (q : Nat) : SV := .load (.atom 8 0) (cell 9 q)
def next : Nat → Nat → SV
  | 3, q => .add (.atom 3 q) (lo (.mul (lo (vX q)) (lo (vY q))))
  | 4, q => .add (.atom 4 q) (.add (.add (hi (.mul (lo (vX q)) (lo (vY q)))) (lo (.mul (lo (vX q)) (hi (vY q)))))
      (lo (.mul (hi (vX q)) (lo (vY q)))))
  | 5, q => .add (.atom 5 q) (.add (.add (hi (.mul (lo (vX q)) (hi (vY q)))) (hi (.mul (hi (vX q)) (lo (vY q)))))
      (lo (.mul (hi (vX q)) (hi (vY q)))))
  | 6, q => .add (.atom 6 q) (hi (.mul (hi (vX q)) (hi (vY q))))
  | 9, _ => .add (.atom 9 0) (.lit 4)
  | i, l => .atom i l

def needsRow : Needs := ⟨[.atom 1 0], [], [], rowCells 7 9 ++ rowCells 8 9⟩

theorem row_runs : runs 55 4 (.seq (forBody loop) (forInc loop)) K0 needsRow.good (renews 4 next K0) = true := by
  decide +kernel

def ctx (Γ : List Ptr) (mem : Mem) (ell x y n : Nat) (S : Nat → S4) : Ctx :=
  ⟨Γ, fun i l => match i with
    | 0 => ell | 1 => 32 | 2 => 2 ^ 32 - 1 | 3 => (S l).s1 | 4 => (S l).s2 | 5 => (S l).s3 | 6 => (S l).s4 | 7 => x
    | 8 => y | 9 => 4 * n | _ => 0,
   fun b o => ((buf mem b).getD o 0).toNat, mem⟩

section
variable (Γ : List Ptr) (mem : Mem) (ell x y n : Nat) (S : Nat → S4) (X Y : Array Nat)
  (hx : buf mem x = natBuf X) (hy : buf mem y = natBuf Y)

include hx hy

theorem row_needs (hX : 4 * n + 4 ≤ X.size) (hY : 4 * n + 4 ≤ Y.size) (hn : 4 * n + 4 < 18446744073709551616) :
    needsRow.Met (ctx Γ mem ell x y n S) :=
  ⟨List.forall_mem_cons.2 ⟨(by decide : 32 < 64), nofun⟩, nofun, nofun, List.forall_mem_append.2
    ⟨rowCells_met _ 7 9 x n X rfl hx rfl rfl hX hn, rowCells_met _ 8 9 y n Y rfl hy rfl rfl hY hn⟩⟩

/-- `next` computes the inputs of the next row: the sums of prime `q` advance by `bbbRefStep` -/
theorem row_next (S' : Nat → S4) (hS : ∀ q, S' q = bbbRefStep (S q) (X.getD (4 * n + q) 0, Y.getD (4 * n + q) 0))
    (hn : 4 * n + 4 < 18446744073709551616) (i q : Nat) (hq : q < 4) :
    den (ctx Γ mem ell x y n S) (next i q) = (ctx Γ mem ell x y (n + 1) S').ρ i q := by
  have e32 : (4294967296 : Nat) = 2 ^ 32 := by decide
  have hc := den_cell (ctx Γ mem ell x y n S) 9 q n rfl (by omega)
  have hX := toNat_getD_natBuf mem x X (4 * n + q) hx
  have hY := toNat_getD_natBuf mem y Y (4 * n + q) hy
  have r1 : (ctx Γ mem ell x y n S).ρ 1 0 = 32 := rfl
  have r2 : (ctx Γ mem ell x y n S).ρ 2 0 = 2 ^ 32 - 1 := rfl
  have r7 : (ctx Γ mem ell x y n S).ρ 7 0 = x := rfl
  have r8 : (ctx Γ mem ell x y n S).ρ 8 0 = y := rfl
  have hM : ∀ b o, (ctx Γ mem ell x y n S).M b o = ((buf mem b).getD o 0).toNat := fun _ _ => rfl
  match i with
  | 0 => rfl | 1 => rfl | 2 => rfl | 7 => rfl | 8 => rfl | _ + 10 => rfl
  | 3 =>
    show _ = (S' q).s1
    rw [hS q]
    simp only [next, lo, vX, vY, den, hc, r2, r7, r8, hM, hX, hY, Nat.and_two_pow_sub_one_eq_mod, bbbRefStep, e32]
    rfl
  | 4 =>
    show _ = (S' q).s2
    rw [hS q]
    simp only [next, lo, hi, vX, vY, den, hc, r1, r2, r7, r8, hM, hX, hY, Nat.and_two_pow_sub_one_eq_mod, bbbRefStep, e32]
    rfl
  | 5 =>
    show _ = (S' q).s3
    rw [hS q]
    simp only [next, lo, hi, vX, vY, den, hc, r1, r2, r7, r8, hM, hX, hY, Nat.and_two_pow_sub_one_eq_mod, bbbRefStep, e32]
    rfl
  | 6 =>
    show _ = (S' q).s4
    rw [hS q]
    simp only [next, hi, vX, vY, den, hc, r1, r7, r8, hM, hX, hY, bbbRefStep, e32]
    rfl
  | 9 => show add64 (4 * n) 4 = 4 * (n + 1); simp only [add64]; omega
end

/-- the inputs of row 0 as the statements before the loop leave them: `H1 = 32`, `MASK1`, sums 0 -/
def start : Nat → Nat → SV
  | 1, _ => .lit 32 | 2, _ => .mask (.lit 32) | 3, _ => .lit 0 | 4, _ => .lit 0 | 5, _ => .lit 0 | 6, _ => .lit 0
  | 7, _ => .par 2 | 8, _ => .par 3 | 9, _ => .lit 0
  | i, l => .atom i l

theorem pre_runs : runs 55 0 (.seq (seqTake 8 Gen.CSrc.q120_vec_mat1col_product_bbb_ref.body) (forInit loop))
    [(0, .atom 0 0)] (needsTbl [.lit 32] 0).good (renews 4 start K0) = true := by decide +kernel

theorem start_den (mem : Mem) (ell x y pc r : Nat) (S : Nat → S4) (hS : ∀ q, S q = ⟨0, 0, 0, 0⟩) (i l : Nat) :
    den (ctx [some (pc, 0), some (r, 0), some (x, 0), some (y, 0)] mem ell x y 0 S) (start i l) = (ctx [some (pc, 0), some (r, 0), some (x, 0), some (y, 0)] mem ell x y 0 S).ρ i l := by
  match i with
  | 0 => rfl | 1 => rfl | 2 => rfl | 7 => rfl | 8 => rfl | 9 => rfl | _ + 10 => rfl
  | 3 => exact congrArg S4.s1 (hS l).symm
  | 4 => exact congrArg S4.s2 (hS l).symm
  | 5 => exact congrArg S4.s3 (hS l).symm
  | 6 => exact congrArg S4.s4 (hS l).symm

/-- the recombination of prime `q` as the C source has it: the halves of the four sums, each but the first times
    its table entry -/
def out (q : Nat) : SV :=
  .add (.add (.add (.add (.add (.add (.add (lo2 (.atom 3 q)) (.mul (hi2 (.atom 3 q)) (tbl 1 q)))
    (.mul (lo2 (.atom 4 q)) (tbl 5 q))) (.mul (hi2 (.atom 4 q)) (tbl 9 q))) (.mul (lo2 (.atom 5 q)) (tbl 13 q)))
    (.mul (hi2 (.atom 5 q)) (tbl 17 q))) (.mul (lo2 (.atom 6 q)) (tbl 21 q))) (.mul (hi2 (.atom 6 q)) (tbl 25 q))

theorem fin_runs : fills 55 4 fin K0 (needsTbl [H2] 29).good (.par 1) 0 4 out = true := by decide +kernel

/-- `out` is the model's recombination `bbbRefFinal` -/
theorem fin_out (Γ : List Ptr) (mem : Mem) (ell x y n pc : Nat) (S : Nat → S4) (P : BbbPrecomp)
    (hΓ0 : Γ.getD 0 none = some (pc, 0)) (hpc : buf mem pc = natBuf (bbbCells P)) (q : Nat) (hq : q < 4) :
    den (ctx Γ mem ell x y n S) (out q) = bbbRefFinal P q (S q) := by
  have hH : den (ctx Γ mem ell x y n S) H2 = P.h := den_H2 _ pc (bbbCells P) rfl hΓ0 hpc
  simp only [out, lo2, hi2, den, den_tbl (ctx Γ mem ell x y n S) pc (bbbCells P) rfl hΓ0 hpc, hH,
    Nat.and_two_pow_sub_one_eq_mod]
  have : q = 0 ∨ q = 1 ∨ q = 2 ∨ q = 3 := by omega
  rcases this with rfl | rfl | rfl | rfl <;> rfl

end BbbRef
namespace BbcRef
open Spq.Sym Q120Avx Q120Ref

def loop : Stmt := firstFor Gen.CSrc.q120_vec_mat1col_product_bbc_ref.body
def fin : Stmt := afterFor Gen.CSrc.q120_vec_mat1col_product_bbc_ref.body

theorem split : seqDrop 3 Gen.CSrc.q120_vec_mat1col_product_bbc_ref.body
    = .seq (.for (forInit loop) (forTest loop) (forInc loop) (forBody loop)) fin := rfl

/-- the head of the row loop.  Inputs: 0 `ell`, 1 `s[2q]`, 2 `s[2q+1]`, 3 `x`, 4 `y`, 5 the row counter `i` -/
def K0 : K :=
  [(0, .atom 0 0), (1, .atom 1 0), (2, .atom 2 0), (3, .atom 1 1), (4, .atom 2 1), (5, .atom 1 2), (6, .atom 2 2),
   (7, .atom 1 3), (8, .atom 2 3), (9, .atom 3 0), (10, .lit 0), (11, .atom 4 0), (12, .lit 0), (13, .atom 5 0)]

def test : SV := .lt (.atom 5 0) (.atom 0 0)

/-- prime `q` of one row as the C source has it: the uint32 words `8 i + 2 q` and `8 i + 2 q + 1` of `x` and of `y`
    (the halves of cell `4 i + q`), the low words multiplied, the high words multiplied, the halves of the two
    products added to `s[2q]` and `s[2q+1]` -/
def wlo (q : Nat) : SV := .add (.mul (.atom 5 0) (.lit 8)) (.mul (.lit 2) (.lit q))
def whi (q : Nat) : SV := .add (.mul (.atom 5 0) (.lit 8)) (.add (.mul (.lit 2) (.lit q)) (.lit 1))
def next : Nat → Nat → SV
  | 1, q => bbcNext1 q (wlo q) (whi q) (wlo q) (whi q)
  | 2, q => bbcNext2 q (wlo q) (whi q) (wlo q) (whi q)
  | 5, _ => .add (.atom 5 0) (.lit 1)
  | i, l => .atom i l

def needsRow : Needs := ⟨[.lit 32], [], [], wordsOf 4 3 wlo whi ++ wordsOf 4 4 wlo whi⟩

theorem row_runs : runs 28 4 (.seq (forBody loop) (forInc loop)) K0 needsRow.good (renews 4 next K0) = true := by
  decide +kernel

def ctx (Γ : List Ptr) (mem : Mem) (ell x y n : Nat) (S : Nat → Nat × Nat) : Ctx :=
  ⟨Γ, fun i l => match i with
    | 0 => ell | 1 => (S l).1 | 2 => (S l).2 | 3 => x | 4 => y | 5 => n | _ => 0,
   fun b o => ((buf mem b).getD o 0).toNat, mem⟩

section
variable (Γ : List Ptr) (mem : Mem) (ell x y n : Nat) (S : Nat → Nat × Nat) (X Y : Array Nat)
  (hx : buf mem x = natBuf X) (hy : buf mem y = natBuf Y)

theorem den_wlo (q : Nat) (hq : q < 4) (hn : n < 1152921504606846976) :
    den (ctx Γ mem ell x y n S) (wlo q) = 2 * (4 * n + q) :=
  (words_mul n 8 q (by omega)).1.trans (by omega)

theorem den_whi (q : Nat) (hq : q < 4) (hn : n < 1152921504606846976) :
    den (ctx Γ mem ell x y n S) (whi q) = 2 * (4 * n + q) + 1 :=
  (words_mul n 8 q (by omega)).2.trans (by omega)

theorem row_needs (hX : 4 * n + 4 ≤ X.size) (hY : 4 * n + 4 ≤ Y.size) (hn : n < 1152921504606846976)
    (hx : buf mem x = natBuf X) (hy : buf mem y = natBuf Y) : needsRow.Met (ctx Γ mem ell x y n S) :=
  ⟨List.forall_mem_cons.2 ⟨(by decide : 32 < 64), nofun⟩, nofun, nofun, List.forall_mem_append.2
    ⟨wordsOf_met _ 4 3 x X _ _ (fun q => 4 * n + q) rfl hx rfl (fun q hq => den_wlo Γ mem ell x y n S q hq hn)
      (fun q hq => den_whi Γ mem ell x y n S q hq hn) (fun q _ => by omega),
     wordsOf_met _ 4 4 y Y _ _ (fun q => 4 * n + q) rfl hy rfl (fun q hq => den_wlo Γ mem ell x y n S q hq hn)
      (fun q hq => den_whi Γ mem ell x y n S q hq hn) (fun q _ => by omega)⟩⟩

include hx hy

/-- `next` computes the inputs of the next row: the sums of prime `q` advance by `bbcRefStep`; the halves of a cell
    are those of the operand because the operands are below `2 ^ 64` -/
theorem row_next (S' : Nat → Nat × Nat) (hS : ∀ q, S' q = bbcRefStep (S q) (X.getD (4 * n + q) 0, Y.getD (4 * n + q) 0))
    (hXb : ∀ i, X.getD i 0 < 18446744073709551616) (hYb : ∀ i, Y.getD i 0 < 18446744073709551616)
    (hn : n < 1152921504606846976) (i q : Nat) (hq : q < 4) :
    den (ctx Γ mem ell x y n S) (next i q) = (ctx Γ mem ell x y (n + 1) S').ρ i q := by
  have step := den_bbcNext (ctx Γ mem ell x y n S) x y X Y rfl hx hy rfl rfl q _ _ _ _ (4 * n + q) (4 * n + q)
    (den_wlo Γ mem ell x y n S q hq hn) (den_whi Γ mem ell x y n S q hq hn) (den_wlo Γ mem ell x y n S q hq hn)
    (den_whi Γ mem ell x y n S q hq hn) hXb hYb
  match i with
  | 0 => rfl | 3 => rfl | 4 => rfl | _ + 6 => rfl
  | 1 => exact (congrArg Prod.fst step).trans (congrArg Prod.fst (hS q).symm)
  | 2 => exact (congrArg Prod.snd step).trans (congrArg Prod.snd (hS q).symm)
  | 5 => show add64 n 1 = n + 1; simp only [add64]; omega
end

/-- the inputs of row 0 as the statements before the loop leave them -/
def start : Nat → Nat → SV
  | 1, _ => .lit 0 | 2, _ => .lit 0 | 3, _ => .par 2 | 4, _ => .par 3 | 5, _ => .lit 0
  | i, l => .atom i l

theorem pre_runs : runs 28 0 (.seq (seqTake 3 Gen.CSrc.q120_vec_mat1col_product_bbc_ref.body) (forInit loop))
    [(0, .atom 0 0)] (needsTbl [] 0).good (renews 4 start K0) = true := by decide +kernel

theorem start_den (mem : Mem) (ell x y pc r : Nat) (S : Nat → Nat × Nat) (hS : ∀ q, S q = (0, 0)) (i l : Nat) :
    den (ctx [some (pc, 0), some (r, 0), some (x, 0), some (y, 0)] mem ell x y 0 S) (start i l) = (ctx [some (pc, 0), some (r, 0), some (x, 0), some (y, 0)] mem ell x y 0 S).ρ i l := by
  match i with
  | 0 => rfl | 3 => rfl | 4 => rfl | 5 => rfl | _ + 6 => rfl
  | 1 => exact congrArg Prod.fst (hS l).symm
  | 2 => exact congrArg Prod.snd (hS l).symm

theorem fin_runs : fills 28 4 fin K0 (needsTbl [H2] 9).good (.par 1) 0 4 bbcOut = true := by decide +kernel

end BbcRef
namespace X2Col1
open Spq.Sym Q120Avx Q120Ref

def loop : Stmt := firstFor Gen.CSrc.q120x2_vec_mat1col_product_bbc_ref.body
def fin : Stmt := afterFor Gen.CSrc.q120x2_vec_mat1col_product_bbc_ref.body

theorem split : seqDrop 4 Gen.CSrc.q120x2_vec_mat1col_product_bbc_ref.body
    = .seq (.for (forInit loop) (forTest loop) (forInc loop) (forBody loop)) fin := rfl

/-- the head of the row loop.  Inputs: 0 `ell`, 1 and 2 the two sums of result lane `l = 4 g + q` (block `g`, prime
    `q`: `s[16 g + 2 q]`, `s[16 g + 2 q + 1]`), 3 `x`, 4 `y`, 5 the row counter `i`, 6 `res` -/
def K0 : K :=
  [(0, .atom 0 0), (1, .atom 1 0), (2, .atom 2 0), (3, .atom 1 1), (4, .atom 2 1), (5, .atom 1 2), (6, .atom 2 2),
   (7, .atom 1 3), (8, .atom 2 3), (17, .atom 1 4), (18, .atom 2 4), (19, .atom 1 5), (20, .atom 2 5),
   (21, .atom 1 6), (22, .atom 2 6), (23, .atom 1 7), (24, .atom 2 7), (33, .atom 3 0), (34, .lit 0),
   (35, .atom 4 0), (36, .lit 0), (37, .atom 6 0), (38, .lit 0), (39, .atom 5 0)]

def test : SV := .lt (.atom 5 0) (.atom 0 0)

/-- result lane `l` of one row as the C source has it: as in `BbcRef`, on cell `8 i + l`; the second block adds its
    8 words to the row offset first -/
def base (l : Nat) : SV := if l < 4 then .mul (.atom 5 0) (.lit 16) else .add (.mul (.atom 5 0) (.lit 16)) (.lit 8)
def wlo (l : Nat) : SV := .add (base l) (.mul (.lit 2) (.lit (l % 4)))
def whi (l : Nat) : SV := .add (base l) (.add (.mul (.lit 2) (.lit (l % 4))) (.lit 1))
def next : Nat → Nat → SV
  | 1, l => bbcNext1 l (wlo l) (whi l) (wlo l) (whi l)
  | 2, l => bbcNext2 l (wlo l) (whi l) (wlo l) (whi l)
  | 5, _ => .add (.atom 5 0) (.lit 1)
  | i, l => .atom i l

def needsRow : Needs := ⟨[.lit 32], [], [], wordsOf 8 3 wlo whi ++ wordsOf 8 4 wlo whi⟩

/-- the two loops over the primes run one after the other on the same fuel -/
theorem row_runs : runs 68 4 (.seq (forBody loop) (forInc loop)) K0 needsRow.good (renews 8 next K0) = true := by
  decide +kernel

def ctx (Γ : List Ptr) (mem : Mem) (ell x y r n : Nat) (S : Nat → Nat × Nat) : Ctx :=
  ⟨Γ, fun i l => match i with
    | 0 => ell | 1 => (S l).1 | 2 => (S l).2 | 3 => x | 4 => y | 5 => n | 6 => r | _ => 0,
   fun b o => ((buf mem b).getD o 0).toNat, mem⟩

section
variable (Γ : List Ptr) (mem : Mem) (ell x y r n : Nat) (S : Nat → Nat × Nat) (X Y : Array Nat)

theorem den_wlo (l : Nat) (hl : l < 8) (hn : n < 576460752303423488) :
    den (ctx Γ mem ell x y r n S) (wlo l) = 2 * (8 * n + l) := by
  unfold wlo base
  split
  · exact (words_mul n 16 (l % 4) (by omega)).1.trans (by omega)
  · exact (words_add n 16 8 (l % 4) (by omega)).1.trans (by omega)

theorem den_whi (l : Nat) (hl : l < 8) (hn : n < 576460752303423488) :
    den (ctx Γ mem ell x y r n S) (whi l) = 2 * (8 * n + l) + 1 := by
  unfold whi base
  split
  · exact (words_mul n 16 (l % 4) (by omega)).2.trans (by omega)
  · exact (words_add n 16 8 (l % 4) (by omega)).2.trans (by omega)

variable (hx : buf mem x = natBuf X) (hy : buf mem y = natBuf Y)
include hx hy

theorem row_needs (hX : 8 * n + 8 ≤ X.size) (hY : 8 * n + 8 ≤ Y.size) (hn : n < 576460752303423488) :
    needsRow.Met (ctx Γ mem ell x y r n S) :=
  ⟨List.forall_mem_cons.2 ⟨(by decide : 32 < 64), nofun⟩, nofun, nofun, List.forall_mem_append.2
    ⟨wordsOf_met _ 8 3 x X _ _ (fun l => 8 * n + l) rfl hx rfl (fun l hl => den_wlo Γ mem ell x y r n S l hl hn)
      (fun l hl => den_whi Γ mem ell x y r n S l hl hn) (fun l _ => by omega),
     wordsOf_met _ 8 4 y Y _ _ (fun l => 8 * n + l) rfl hy rfl (fun l hl => den_wlo Γ mem ell x y r n S l hl hn)
      (fun l hl => den_whi Γ mem ell x y r n S l hl hn) (fun l _ => by omega)⟩⟩

/-- `next` computes the inputs of the next row: the sums of lane `l` advance by `bbcRefStep` on cell `8 n + l` -/
theorem row_next (S' : Nat → Nat × Nat) (hS : ∀ l, S' l = bbcRefStep (S l) (X.getD (8 * n + l) 0, Y.getD (8 * n + l) 0))
    (hXb : ∀ i, X.getD i 0 < 18446744073709551616) (hYb : ∀ i, Y.getD i 0 < 18446744073709551616)
    (hn : n < 576460752303423488) (i l : Nat) (hl : l < 8) :
    den (ctx Γ mem ell x y r n S) (next i l) = (ctx Γ mem ell x y r (n + 1) S').ρ i l := by
  have step := den_bbcNext (ctx Γ mem ell x y r n S) x y X Y rfl hx hy rfl rfl l _ _ _ _ (8 * n + l) (8 * n + l)
    (den_wlo Γ mem ell x y r n S l hl hn) (den_whi Γ mem ell x y r n S l hl hn) (den_wlo Γ mem ell x y r n S l hl hn)
    (den_whi Γ mem ell x y r n S l hl hn) hXb hYb
  match i with
  | 0 => rfl | 3 => rfl | 4 => rfl | 6 => rfl | _ + 7 => rfl
  | 1 => exact (congrArg Prod.fst step).trans (congrArg Prod.fst (hS l).symm)
  | 2 => exact (congrArg Prod.snd step).trans (congrArg Prod.snd (hS l).symm)
  | 5 => show add64 n 1 = n + 1; simp only [add64]; omega
end

def start : Nat → Nat → SV
  | 1, _ => .lit 0 | 2, _ => .lit 0 | 3, _ => .par 2 | 4, _ => .par 3 | 5, _ => .lit 0 | 6, _ => .par 1
  | i, l => .atom i l

theorem pre_runs : runs 68 0 (.seq (seqTake 4 Gen.CSrc.q120x2_vec_mat1col_product_bbc_ref.body) (forInit loop))
    [(0, .atom 0 0)] (needsTbl [] 0).good (renews 8 start K0) = true := by decide +kernel

theorem start_den (mem : Mem) (ell x y pc r : Nat) (S : Nat → Nat × Nat) (hS : ∀ q, S q = (0, 0)) (i l : Nat) :
    den (ctx [some (pc, 0), some (r, 0), some (x, 0), some (y, 0)] mem ell x y r 0 S) (start i l) = (ctx [some (pc, 0), some (r, 0), some (x, 0), some (y, 0)] mem ell x y r 0 S).ρ i l := by
  match i with
  | 0 => rfl | 3 => rfl | 4 => rfl | 5 => rfl | 6 => rfl | _ + 7 => rfl
  | 1 => exact congrArg Prod.fst (hS l).symm
  | 2 => exact congrArg Prod.snd (hS l).symm

/-- two recombination loops, one per block; the result pointer is input 6 -/
theorem fin_runs : fills 68 4 fin K0 (needsTbl [H2] 9).good (.atom 6 0) 0 8 bbcOut = true := by decide +kernel

end X2Col1
namespace X2Col2
open Spq.Sym Q120Avx Q120Ref

def loop : Stmt := firstFor Gen.CSrc.q120x2_vec_mat2cols_product_bbc_ref.body

/-- the head of the row loop.  Inputs as in `X2Col1`, with 16 result lanes `l = 4 b + q` (block `b`, prime `q`) -/
def K0 : K :=
  [(0, .atom 0 0), (1, .atom 1 0), (2, .atom 2 0), (3, .atom 1 1), (4, .atom 2 1), (5, .atom 1 2), (6, .atom 2 2),
   (7, .atom 1 3), (8, .atom 2 3), (17, .atom 1 4), (18, .atom 2 4), (19, .atom 1 5), (20, .atom 2 5),
   (21, .atom 1 6), (22, .atom 2 6), (23, .atom 1 7), (24, .atom 2 7), (33, .atom 1 8), (34, .atom 2 8),
   (35, .atom 1 9), (36, .atom 2 9), (37, .atom 1 10), (38, .atom 2 10), (39, .atom 1 11), (40, .atom 2 11),
   (49, .atom 1 12), (50, .atom 2 12), (51, .atom 1 13), (52, .atom 2 13), (53, .atom 1 14), (54, .atom 2 14),
   (55, .atom 1 15), (56, .atom 2 15), (65, .atom 3 0), (66, .lit 0), (67, .atom 4 0), (68, .lit 0),
   (69, .atom 6 0), (70, .lit 0), (71, .atom 5 0)]

def test : SV := .lt (.atom 5 0) (.atom 0 0)

/-- result lane `l = 4 b + q` of one row as the C source has it: as in `BbcRef`, on cell `8 i + 4 (b % 2) + q` of
    `x` (a row of `x` is two blocks) and cell `16 i + l` of `y` (a row of `y` is four) -/
def xbase (l : Nat) : SV :=
  if l / 4 % 2 = 0 then .mul (.atom 5 0) (.lit 16) else .add (.mul (.atom 5 0) (.lit 16)) (.lit 8)
def ybase (l : Nat) : SV :=
  if l < 4 then .mul (.atom 5 0) (.lit 32) else .add (.mul (.atom 5 0) (.lit 32)) (.lit (8 * (l / 4)))
def lo (b : SV) (l : Nat) : SV := .add b (.mul (.lit 2) (.lit (l % 4)))
def hi (b : SV) (l : Nat) : SV := .add b (.add (.mul (.lit 2) (.lit (l % 4))) (.lit 1))
def next : Nat → Nat → SV
  | 1, l => bbcNext1 l (lo (xbase l) l) (hi (xbase l) l) (lo (ybase l) l) (hi (ybase l) l)
  | 2, l => bbcNext2 l (lo (xbase l) l) (hi (xbase l) l) (lo (ybase l) l) (hi (ybase l) l)
  | 5, _ => .add (.atom 5 0) (.lit 1)
  | i, l => .atom i l

def needsRow : Needs :=
  ⟨[.lit 32], [], [], wordsOf 16 3 (fun l => lo (xbase l) l) (fun l => hi (xbase l) l) ++
    wordsOf 16 4 (fun l => lo (ybase l) l) fun l => hi (ybase l) l⟩

/-- the four loops over the primes run one after the other on the same fuel -/
theorem row_runs : runs 128 4 (.seq (forBody loop) (forInc loop)) K0 needsRow.good (renews 16 next K0) = true := by
  decide +kernel

def ctx (Γ : List Ptr) (mem : Mem) (ell x y r n : Nat) (S : Nat → Nat × Nat) : Ctx :=
  ⟨Γ, fun i l => match i with
    | 0 => ell | 1 => (S l).1 | 2 => (S l).2 | 3 => x | 4 => y | 5 => n | 6 => r | _ => 0,
   fun b o => ((buf mem b).getD o 0).toNat, mem⟩

section
variable (Γ : List Ptr) (mem : Mem) (ell x y r n : Nat) (S : Nat → Nat × Nat) (X Y : Array Nat)

theorem den_x (l : Nat) (hl : l < 16) (hn : n < 576460752303423488) :
    den (ctx Γ mem ell x y r n S) (lo (xbase l) l) = 2 * (8 * n + l % 8) ∧
      den (ctx Γ mem ell x y r n S) (hi (xbase l) l) = 2 * (8 * n + l % 8) + 1 := by
  unfold lo hi xbase
  split
  · have := words_mul n 16 (l % 4) (by omega)
    exact ⟨this.1.trans (by omega), this.2.trans (by omega)⟩
  · have := words_add n 16 8 (l % 4) (by omega)
    exact ⟨this.1.trans (by omega), this.2.trans (by omega)⟩

theorem den_y (l : Nat) (hl : l < 16) (hn : n < 576460752303423488) :
    den (ctx Γ mem ell x y r n S) (lo (ybase l) l) = 2 * (16 * n + l) ∧
      den (ctx Γ mem ell x y r n S) (hi (ybase l) l) = 2 * (16 * n + l) + 1 := by
  unfold lo hi ybase
  split
  · have := words_mul n 32 (l % 4) (by omega)
    exact ⟨this.1.trans (by omega), this.2.trans (by omega)⟩
  · have := words_add n 32 (8 * (l / 4)) (l % 4) (by omega)
    exact ⟨this.1.trans (by omega), this.2.trans (by omega)⟩

variable (hx : buf mem x = natBuf X) (hy : buf mem y = natBuf Y)
include hx hy

theorem row_needs (hX : 8 * n + 8 ≤ X.size) (hY : 16 * n + 16 ≤ Y.size) (hn : n < 576460752303423488) :
    needsRow.Met (ctx Γ mem ell x y r n S) :=
  ⟨List.forall_mem_cons.2 ⟨(by decide : 32 < 64), nofun⟩, nofun, nofun, List.forall_mem_append.2
    ⟨wordsOf_met _ 16 3 x X _ _ (fun l => 8 * n + l % 8) rfl hx rfl (fun l hl => (den_x Γ mem ell x y r n S l hl hn).1)
      (fun l hl => (den_x Γ mem ell x y r n S l hl hn).2) (fun l _ => by omega),
     wordsOf_met _ 16 4 y Y _ _ (fun l => 16 * n + l) rfl hy rfl (fun l hl => (den_y Γ mem ell x y r n S l hl hn).1)
      (fun l hl => (den_y Γ mem ell x y r n S l hl hn).2) (fun l hl => by omega)⟩⟩

/-- `next` computes the inputs of the next row: the sums of lane `l` advance by `bbcRefStep` -/
theorem row_next (S' : Nat → Nat × Nat)
    (hS : ∀ l, l < 16 → S' l = bbcRefStep (S l) (X.getD (8 * n + l % 8) 0, Y.getD (16 * n + l) 0))
    (hXb : ∀ i, X.getD i 0 < 18446744073709551616) (hYb : ∀ i, Y.getD i 0 < 18446744073709551616)
    (hn : n < 576460752303423488) (i l : Nat) (hl : l < 16) :
    den (ctx Γ mem ell x y r n S) (next i l) = (ctx Γ mem ell x y r (n + 1) S').ρ i l := by
  obtain ⟨hxl, hxh⟩ := den_x Γ mem ell x y r n S l hl hn
  obtain ⟨hyl, hyh⟩ := den_y Γ mem ell x y r n S l hl hn
  have step := den_bbcNext (ctx Γ mem ell x y r n S) x y X Y rfl hx hy rfl rfl l _ _ _ _ (8 * n + l % 8) (16 * n + l)
    hxl hxh hyl hyh hXb hYb
  match i with
  | 0 => rfl | 3 => rfl | 4 => rfl | 6 => rfl | _ + 7 => rfl
  | 1 => exact (congrArg Prod.fst step).trans (congrArg Prod.fst (hS l hl).symm)
  | 2 => exact (congrArg Prod.snd step).trans (congrArg Prod.snd (hS l hl).symm)
  | 5 => show add64 n 1 = n + 1; simp only [add64]; omega
end

def fin : Stmt := afterFor Gen.CSrc.q120x2_vec_mat2cols_product_bbc_ref.body

def start : Nat → Nat → SV
  | 1, _ => .lit 0 | 2, _ => .lit 0 | 3, _ => .par 2 | 4, _ => .par 3 | 5, _ => .lit 0 | 6, _ => .par 1
  | i, l => .atom i l

theorem split : seqDrop 4 Gen.CSrc.q120x2_vec_mat2cols_product_bbc_ref.body
    = .seq (.for (forInit loop) (forTest loop) (forInc loop) (forBody loop)) fin := rfl

theorem pre_runs : runs 128 0 (.seq (seqTake 4 Gen.CSrc.q120x2_vec_mat2cols_product_bbc_ref.body) (forInit loop))
    [(0, .atom 0 0)] (needsTbl [] 0).good (renews 16 start K0) = true := by decide +kernel

theorem start_den (mem : Mem) (ell x y pc r : Nat) (S : Nat → Nat × Nat) (hS : ∀ q, S q = (0, 0)) (i l : Nat) :
    den (ctx [some (pc, 0), some (r, 0), some (x, 0), some (y, 0)] mem ell x y r 0 S) (start i l) = (ctx [some (pc, 0), some (r, 0), some (x, 0), some (y, 0)] mem ell x y r 0 S).ρ i l := by
  match i with
  | 0 => rfl | 3 => rfl | 4 => rfl | 5 => rfl | 6 => rfl | _ + 7 => rfl
  | 1 => exact congrArg Prod.fst (hS l).symm
  | 2 => exact congrArg Prod.snd (hS l).symm

theorem fin_runs : fills 128 4 fin K0 (needsTbl [H2] 9).good (.atom 6 0) 0 16 bbcOut = true := by decide +kernel

end X2Col2
end Spq.Src
