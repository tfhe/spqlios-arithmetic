/-
  C06.4: assembled rounding bound of the inverse cplx transform on binary64 (interleaved layout).
-/
import SpqProofs.Lemmas.FftErrSchedCINet
import SpqProofs.Lemmas.FftErrSchedCFin
namespace Spq.FftErr
open Finset Spq.Fft Spq.Fft.Alg Spq.Fft.RelN Spq.Fft.SimP Spq.Fft.LevelN Spq.Fft.SchedN Spq.Fft.SchedC Spq.Fft.Sim Spq.F64
variable {K : Type} [Field K] [LinearOrder K] [IsStrictOrderedRing K]

/-- the exact (unnormalised) inverse transform of the values of the interleaved `data` -/
def exactInvC (ζi : Cplx K) (k : ℕ) (data : Array ℕ) (j : ℕ) : Cplx K := WIk k ζi (fun p => cellC data p) k j

theorem cifft_err_gen (Fb : CFlav ℕ) (FB : CFlav (ℕ × Prop)) (FQ : CFlav ℚ) (FK : CFlav K)
    (hlb : Fb.lanesOdd = false) (hlB : FB.lanesOdd = false)
    (h1 : CFlavSim (fun (x : Nat × Prop) (b : Nat) => x.1 = b) FB Fb) (h2 : CFlavSim RelQ FB FQ)
    (h3 : CFlavSim (fun (q : ℚ) (x : K) => x = (q : K)) FQ FK)
    (hErr : CInvErrOK FK (((7 / 2 * u64 : ℚ)) : K) (eta ((u64 : ℚ) : K) (((7 / 2 * u64 : ℚ)) : K)))
    (k : ℕ) (ζi : Cplx K) (hζ : nsq ζi = 1) (hI : ζi ^ 2 ^ k = -Ic) (cN sN : ℕ → ℕ)
    (hcs : ∀ ℓ d b, ℓ + d + 1 = k → b < 2 ^ ℓ →
      nsq (toC (((val (cN (twE ℓ d b)) : ℚ) : K), ((val (sN (twE ℓ d b)) : ℚ) : K)) - ζi ^ twE ℓ d b) ≤
        (((7 / 2 * u64 : ℚ)) : K) ^ 2)
    (data : Array ℕ) (hdata : data.size = 2 * 2 ^ k)
    (hok : ∀ p, p < 2 * 2 ^ k →
      ((cplxIfftA FB (2 ^ k) ((((cplxIfftEnts (2 ^ k)).map (valP cN sN)).toArray).map lift) (data.map lift))[p]!).2) :
    (∀ p, p < 2 * 2 ^ k →
      Fin64 ((cplxIfftA Fb (2 ^ k) ((cplxIfftEnts (2 ^ k)).map (valP cN sN)).toArray data)[p]!)) ∧
    ∑ j ∈ range (2 ^ k),
        nsq (cellC (cplxIfftA Fb (2 ^ k) ((cplxIfftEnts (2 ^ k)).map (valP cN sN)).toArray data) j
          - exactInvC ζi k data j) ≤
      ((1 + ((8 * u64 : ℚ) : K)) ^ k - 1) ^ 2 * ∑ j ∈ range (2 ^ k), nsq (exactInvC ζi k data j) := by
  rw [table_map lift cN sN] at hok
  obtain ⟨s1, s2, s3⟩ := gNetCI_sims Fb FB FQ FK h1 h2 h3 k cN sN
  exact (cellsCI k).err Fb FB FQ FK hlb hlB (cN, sN) (_, _) (_, _) (_, _) s1 s2 s3 data hdata hok _ _
    (invN_err k ζi _ hζ eta64_nonneg _
      (igCC_err FK (fun e => ((val (cN e) : ℚ) : K)) (fun e => ((val (sN e) : ℚ) : K)) k ζi _ _ hErr hζ hI hcs) _)
    (fun _ _ => rfl)

/-- the inverse cplx implementation selected by `new_cplx_ifft_precomp`: the FMA code only for `m > 4` -/
def cifamB (fma : Bool) (m : ℕ) {α : Type} (A : Arith α) (z : α) : CFlav α :=
  if fma && decide (m > 4) then cinvFma A z else cinvRef A

theorem cplxIfft_eq (fma : Bool) (m : ℕ) (T data : Array ℕ) :
    cplxIfft (if fma then "fma" else "ref") m T data = cplxIfftA (cifamB fma m f64 0) m T data := by
  cases fma <;> rfl

theorem cifft_err_fam (fma : Bool) (k : ℕ) (ζi : Cplx K) (hζ : nsq ζi = 1) (hI : ζi ^ 2 ^ k = -Ic) (cN sN : ℕ → ℕ)
    (hcs : ∀ ℓ d b, ℓ + d + 1 = k → b < 2 ^ ℓ →
      nsq (toC (((val (cN (twE ℓ d b)) : ℚ) : K), ((val (sN (twE ℓ d b)) : ℚ) : K)) - ζi ^ twE ℓ d b) ≤
        (((7 / 2 * u64 : ℚ)) : K) ^ 2)
    (data : Array ℕ) (hdata : data.size = 2 * 2 ^ k)
    (hok : ∀ p, p < 2 * 2 ^ k →
      ((cplxIfftA (cifamB fma (2 ^ k) aOk (lift 0)) (2 ^ k)
        ((((cplxIfftEnts (2 ^ k)).map (valP cN sN)).toArray).map lift) (data.map lift))[p]!).2) :
    (∀ p, p < 2 * 2 ^ k →
      Fin64 ((cplxIfftA (cifamB fma (2 ^ k) f64 0) (2 ^ k) ((cplxIfftEnts (2 ^ k)).map (valP cN sN)).toArray data)[p]!)) ∧
    ∑ j ∈ range (2 ^ k),
        nsq (cellC (cplxIfftA (cifamB fma (2 ^ k) f64 0) (2 ^ k) ((cplxIfftEnts (2 ^ k)).map (valP cN sN)).toArray data) j
          - exactInvC ζi k data j) ≤
      ((1 + ((8 * u64 : ℚ) : K)) ^ k - 1) ^ 2 * ∑ j ∈ range (2 ^ k), nsq (exactInvC ζi k data j) := by
  unfold cifamB at hok ⊢
  by_cases hc : (fma && decide (2 ^ k > 4)) = true
  · rw [if_pos hc] at hok ⊢
    exact cifft_err_gen (cinvFma f64 0) (cinvFma aOk (lift 0)) (cinvFmaZ aG) (cinvFmaZ (liftA aG : Arith K)) rfl rfl
      (cinvFma_sim aOk_sim_f64 rfl) cinvFma_simZ (cinvFmaZ_sim (liftA_sim (K := K) aG aG_neg))
      (cinvFmaZ_errOK (liftA aG) _ _ (liftA_fstd aG u64 aG_fstd) tau64_nonneg)
      k ζi hζ hI cN sN hcs data hdata hok
  · rw [if_neg hc] at hok ⊢
    exact cifft_err_gen (cinvRef f64) (cinvRef aOk) (cinvRef aG) (cinvRef (liftA aG : Arith K)) rfl rfl
      (cinvRef_sim aOk_sim_f64) (cinvRef_sim aOk_sim_aG) (cinvRef_sim (liftA_sim (K := K) aG aG_neg))
      (cinvRef_errOK (liftA aG) _ _ (liftA_fstd aG u64 aG_fstd) tau64_nonneg)
      k ζi hζ hI cN sN hcs data hdata hok

end Spq.FftErr
