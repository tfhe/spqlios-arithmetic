/-
  Structural schedule theorem (forward reim): for an ARBITRARY value type and arbitrary butterfly functions (no ring
  laws), `fftRI F m T s` is the level network `VN` whose block `b` of level `ℓ` runs the butterfly
  `gNet F c s k ℓ d b`: the plain butterfly with the stored twiddle of exponent `twE ℓ d b`, or — in the odd blocks of
  the levels where the kernels use the `i·ω` butterfly — the `i·ω` butterfly with the stored twiddle of block `b−1`.
  The schedules (leaves, bfs16, rec16) only decide WHEN a butterfly is executed.
-/
import SpqProofs.Lemmas.FftSchedKern
import SpqProofs.Lemmas.FftBlk
set_option linter.unusedSectionVars false
namespace Spq.Fft.SchedN
open Spq.Fft Spq.Fft.Alg Spq.Fft.View Spq.Fft.Sim Spq.Fft.SimP Spq.Fft.LevelN Spq.Fft.KernN Spq.Fft.Tw
open Spq.Fft.Kern (leafE)

variable {R : Type} [Inhabited R]

/-- levels (counted from the end, `r = k − ℓ`) whose odd blocks are computed with the `i·ω` butterfly -/
def clv (r : ℕ) : Bool := r ≤ 3 || (5 ≤ r && r ≤ 10 && r % 2 == 1)

/-- the plain / `i·ω` butterfly used for transform size `2^k` (`m = 2`: `ct2`; `m = 4, 8`: the small kernels) -/
def ctK (F : Flav R) (k : ℕ) : Bf R := if k = 1 then F.ct2 else if k ≤ 3 then F.ctS else F.ct
def citK (F : Flav R) (k : ℕ) : Bf R := if k ≤ 3 then F.citS else F.cit

/-- the butterfly of block `b` at level `(ℓ, d)`; `c e`, `s e`: stored cos / sin of exponent `e` -/
def gNet (F : Flav R) (c s : ℕ → R) (k ℓ d b : ℕ) : R × R → R × R → (R × R) × (R × R) :=
  if clv (k - ℓ) && b % 2 == 1 then bfV (citK F k) (c (twE ℓ d (b - 1))) (s (twE ℓ d (b - 1)))
  else bfV (ctK F k) (c (twE ℓ d b)) (s (twE ℓ d b))

theorem gNet_ct (F : Flav R) (c s : ℕ → R) (k ℓ d b : ℕ) (h : clv (k - ℓ) = false ∨ b % 2 = 0) :
    gNet F c s k ℓ d b = bfV (ctK F k) (c (twE ℓ d b)) (s (twE ℓ d b)) := by
  unfold gNet
  rcases h with h | h
  · rw [h]; simp
  · rw [h]; simp

theorem gNet_cit (F : Flav R) (c s : ℕ → R) (k ℓ d b : ℕ) (h : clv (k - ℓ) = true) :
    gNet F c s k ℓ d (2 * b + 1) = bfV (citK F k) (c (twE ℓ d (2 * b))) (s (twE ℓ d (2 * b))) := by
  unfold gNet
  rw [h, show (2 * b + 1) % 2 = 1 by omega, show 2 * b + 1 - 1 = 2 * b by omega]; simp

/-- The butterfly of a block of the transform of size `2^k` is the plain butterfly on the stored twiddle of the block,
    or, in an odd block, the `i·ω` butterfly on the stored twiddle of the block before it, whose exponent is `2^k`
    less.  The second argument of `P` is the exponent the butterfly has to realise. -/
theorem gNet_cases {R : Type} (F : Flav R) (c s : ℕ → R) (k ℓ d b : ℕ) (hk : ℓ + d + 1 = k) (hb : b < 2 ^ ℓ)
    (P : (R × R → R × R → (R × R) × (R × R)) → ℕ → Prop)
    (hct : P (bfV (ctK F k) (c (twE ℓ d b)) (s (twE ℓ d b))) (twE ℓ d b))
    (hcit : b % 2 = 1 → P (bfV (citK F k) (c (twE ℓ d (b - 1))) (s (twE ℓ d (b - 1)))) (2 ^ k + twE ℓ d (b - 1))) :
    P (gNet F c s k ℓ d b) (twE ℓ d b) := by
  unfold gNet
  split_ifs with h
  · have ho : b % 2 = 1 := by rw [Bool.and_eq_true, beq_iff_eq] at h; exact h.2
    rw [twE_odd_block hk hb ho]
    exact hcit ho
  · exact hct

/-- stored value of a forward table entry (kinds 0 = cos, 1 = sin only) -/
def valP (c s : ℕ → R) (x : Ent) : R := if x.kind = 0 then c x.e else s x.e

/-- From level `L` on the network `g` runs the reim butterflies `gNet F c s k`, and the table value function `v`
stores `c`, `s` under the kinds 0, 1.  This is all the radix-4 levels and the 16-point leaves use, in the reim
schedule (`g = gNet F c s k`, `L = 0`) and in the cplx schedule below its top passes. -/
structure ReimFrom (F : Flav R) (c s : ℕ → R) (k : ℕ) (g : ℕ → ℕ → ℕ → R × R → R × R → (R × R) × (R × R))
    (v : Ent → R) (L : ℕ) : Prop where
  net : ∀ ℓ, L ≤ ℓ → ∀ d b, g ℓ d b = gNet F c s k ℓ d b
  cos : ∀ x, v ⟨0, x⟩ = c x
  sin : ∀ x, v ⟨1, x⟩ = s x

theorem ReimFrom.refl (F : Flav R) (c s : ℕ → R) (k : ℕ) : ReimFrom F c s k (gNet F c s k) (valP c s) 0 :=
  ⟨fun _ _ _ _ => rfl, fun _ => rfl, fun _ => rfl⟩

section
variable {F : Flav R} {c s : ℕ → R} {k : ℕ} {g : ℕ → ℕ → ℕ → R × R → R × R → (R × R) × (R × R)} {v : Ent → R} {L : ℕ}
  (hL : ReimFrom F c s k g v L)
include hL

theorem ReimFrom.read_eP (T : Array R) (t x : ℕ) (h : SegP T t ((eP x).map v)) : T[t]! = c x ∧ T[t + 1]! = s x :=
  ⟨(h 0 Nat.zero_lt_two).trans (hL.cos x), (h 1 Nat.one_lt_two).trans (hL.sin x)⟩

omit hL in
theorem rFill16_vals (v : Ent → R) (U e : ℕ) : (rFill16 U e).map v =
    [v ⟨0, e / 2⟩, v ⟨1, e / 2⟩, v ⟨0, e / 4⟩, v ⟨1, e / 4⟩, v ⟨0, e / 8⟩, v ⟨1, e / 8⟩,
     v ⟨0, e / 8 + U / 8⟩, v ⟨1, e / 8 + U / 8⟩,
     v ⟨0, e / 16⟩, v ⟨0, e / 16 + U / 8⟩, v ⟨0, e / 16 + U / 16⟩, v ⟨0, e / 16 + U / 8 + U / 16⟩,
     v ⟨1, e / 16⟩, v ⟨1, e / 16 + U / 8⟩, v ⟨1, e / 16 + U / 16⟩, v ⟨1, e / 16 + U / 8 + U / 16⟩] := rfl

theorem ReimFrom.leaf_read (T : Array R) (t e U : ℕ) (h : SegP T t ((rFill16 U e).map v)) :
    ∀ q, q < 8 → reimW16 T t q = (c (leafE e U q), s (leafE e U q)) := by
  rw [rFill16_vals] at h
  have r : ∀ j, j < 16 → T[t + j]! = _ := h
  intro q hq
  have : q = 0 ∨ q = 1 ∨ q = 2 ∨ q = 3 ∨ q = 4 ∨ q = 5 ∨ q = 6 ∨ q = 7 := by omega
  rcases this with rfl | rfl | rfl | rfl | rfl | rfl | rfl | rfl
  · exact Prod.ext ((r 0 (by omega)).trans (hL.cos _)) ((r 1 (by omega)).trans (hL.sin _))
  · exact Prod.ext ((r 2 (by omega)).trans (hL.cos _)) ((r 3 (by omega)).trans (hL.sin _))
  · exact Prod.ext ((r 4 (by omega)).trans (hL.cos _)) ((r 5 (by omega)).trans (hL.sin _))
  · exact Prod.ext ((r 6 (by omega)).trans (hL.cos _)) ((r 7 (by omega)).trans (hL.sin _))
  · exact Prod.ext ((r 8 (by omega)).trans (hL.cos _)) ((r 12 (by omega)).trans (hL.sin _))
  · exact Prod.ext ((r 9 (by omega)).trans (hL.cos _)) ((r 13 (by omega)).trans (hL.sin _))
  · exact Prod.ext ((r 10 (by omega)).trans (hL.cos _)) ((r 14 (by omega)).trans (hL.sin _))
  · exact Prod.ext ((r 11 (by omega)).trans (hL.cos _)) ((r 15 (by omega)).trans (hL.sin _))

end

theorem ctK_big (F : Flav R) (k : ℕ) (hk : 4 ≤ k) : ctK F k = F.ct := by
  unfold ctK; rw [if_neg (by omega), if_neg (by omega)]
theorem citK_big (F : Flav R) (k : ℕ) (hk : 4 ≤ k) : citK F k = F.cit := by
  unfold citK; rw [if_neg (by omega)]

theorem clv_even (r : ℕ) (h2 : r % 2 = 0) (h4 : 4 ≤ r) : clv r = false := by
  unfold clv; simp [h2]; omega

theorem clv_odd (r : ℕ) (h2 : r % 2 = 1) (h5 : 5 ≤ r) (h10 : r ≤ 10) : clv r = true := by
  unfold clv; simp [h2]; omega

theorem clv_le_three (r : ℕ) (h : r ≤ 3) : clv r = true := by unfold clv; simp [h]

/-- levels `ℓ`, `ℓ + 1` of the network `g` form a radix-4 pass of `F` with the stored twiddles `c`, `s`: level `ℓ` runs
`F.ct` in every block, level `ℓ + 1` runs `F.ct` in the even blocks and `F.cit`, with the twiddle of the even
neighbour, in the odd ones -/
structure R4Pair (F : Flav R) (c s : ℕ → R) (g : ℕ → ℕ → ℕ → R × R → R × R → (R × R) × (R × R)) (ℓ : ℕ) : Prop where
  top : ∀ d b, g ℓ d b = bfV F.ct (c (twE ℓ d b)) (s (twE ℓ d b))
  even : ∀ d b, g (ℓ + 1) d (2 * b) = bfV F.ct (c (twE (ℓ + 1) d (2 * b))) (s (twE (ℓ + 1) d (2 * b)))
  odd : ∀ d b, g (ℓ + 1) d (2 * b + 1) = bfV F.cit (c (twE (ℓ + 1) d (2 * b))) (s (twE (ℓ + 1) d (2 * b)))

theorem gNet_r4Pair (F : Flav R) (c s : ℕ → R) {k ℓ e : ℕ} (hk : k = ℓ + (e + 2)) (he : e % 2 = 0) (he4 : 4 ≤ e)
    (he11 : e + 2 ≤ 11) : R4Pair F c s (gNet F c s k) ℓ := by
  have h4 : 4 ≤ k := by omega
  have hA : clv (k - ℓ) = false := clv_even _ (by omega) (by omega)
  have hB : clv (k - (ℓ + 1)) = true := clv_odd _ (by omega) (by omega) (by omega)
  exact ⟨fun d b => by rw [gNet_ct F c s k ℓ d b (Or.inl hA), ctK_big F k h4],
    fun d b => by rw [gNet_ct F c s k (ℓ + 1) d (2 * b) (Or.inr (Nat.mul_mod_right 2 b)), ctK_big F k h4],
    fun d b => by rw [gNet_cit F c s k (ℓ + 1) d b hB, citK_big F k h4]⟩

section reimFrom
variable {F : Flav R} {c s : ℕ → R} {k : ℕ} {g : ℕ → ℕ → ℕ → R × R → R × R → (R × R) × (R × R)} {v : Ent → R} {L : ℕ}
  (hL : ReimFrom F c s k g v L) (a : ℕ → R × R)
include hL

theorem ReimFrom.leafNet {ℓ B off e : ℕ} (hB : Blk k ℓ 4 B 16 off e) (hLℓ : L ≤ ℓ) (w0 : R × R) (tw : ℕ → ℕ → R × R)
    (h0 : w0 = (c (leafE e (4 * 2 ^ k) 0), s (leafE e (4 * 2 ^ k) 0)))
    (htw : ∀ t j, t < 3 → j < 2 ^ t →
      tw t j = (c (leafE e (4 * 2 ^ k) (2 ^ t + j)), s (leafE e (4 * 2 ^ k) (2 ^ t + j)))) :
    LeafNet F g w0 tw ℓ B := by
  have hk := hB.lvl
  obtain ⟨x0, x⟩ := leafE_tw ℓ B e (4 * 2 ^ k) hB.pwr (by rw [hk])
  have hct := ctK_big F k (by omega)
  have hcit := citK_big F k (by omega)
  refine ⟨?_, fun t j ht hj => ?_, fun t j ht hj => ?_⟩
  · rw [hL.net ℓ hLℓ, gNet_ct F c s k ℓ 3 B (Or.inl (by rw [show k - ℓ = 4 by omega]; rfl)), hct, h0, x0]
  · rw [hL.net _ (by omega), gNet_ct F c s k _ _ _ (Or.inr (Nat.mul_mod_right _ _)), hct, htw t j ht hj, x t j ht hj]
  · rw [hL.net _ (by omega), gNet_cit F c s k _ _ _ (clv_le_three _ (by omega)), hcit, htw t j ht hj, x t j ht hj]

theorem ReimFrom.leaf_step (w : ℕ → R × R) (N : ℕ) {ℓ B off e : ℕ} (hB : Blk k ℓ 4 B 16 off e) (s0 : RI R)
    (hs : Valid N s0) (hN : off + 16 ≤ N) (hLℓ : L ≤ ℓ)
    (hw : ∀ q, q < 8 → w q = (c (leafE e (4 * 2 ^ k) q), s (leafE e (4 * 2 ^ k) q))) :
    AdvN g a (prs s0) (prs (fft16K F w off s0)) ℓ 4 k 0 off 16 ∧ Valid N (fft16K F w off s0) := by
  rw [hB.lvl]
  exact fft16K_adv g a F w ℓ B off hB.pos hN
    (hL.leafNet hB hLℓ _ _ (hw 0 (by norm_num)) fun t j ht hj => hw _ (leaf_idx_lt ht hj)) s0 hs

/-- the loop over the 16-point leaves of a block; `W` reads a leaf pack laid out by `Fill` (reim: `reimW16`, `rFill16`;
cplx: `cplxW16`, `cFill16`) -/
theorem ReimFrom.leaves (W : Array R → ℕ → ℕ → R × R) (Fill : ℕ → ℕ → List Ent) (hlen : ∀ U e, (Fill U e).length = 16)
    (hread : ∀ T t e U, SegP T t ((Fill U e).map v) → ∀ q, q < 8 → W T t q = (c (leafE e U q), s (leafE e U q)))
    {ℓ0 D b0 m off pw j ss : ℕ} (hB : Blk k ℓ0 D b0 m off pw) (hD : D = j + 4) (hLℓ : L ≤ ℓ0 + j)
    (hss : ss = twE ℓ0 4 b0) :
    Runs v ((List.range (m / 16)).flatMap (fun b => Fill (4 * 2 ^ k) (ss + frbN (4 * 2 ^ k) b)))
      (fun T st => iterFrom (fun b (st : RI R × ℕ) => (fft16K F (W T st.2) (off + 16 * b) st.1, st.2 + 16)) (m / 16) 0 st)
      (VN g a (ℓ0 + j) 4) (VN g a k 0) off m :=
  Runs.blocks k hB hD (by norm_num : 16 = 2 ^ 4) hss _
    (fun b T st => (fft16K F (W T st.2) (off + 16 * b) st.1, st.2 + 16)) fun b _ hS =>
    Runs.step 16 (hlen _ _) (fun T t s => fft16K F (W T t) (off + 16 * b) s) fun N T t s1 hs1 hN hT => by
      rw [Nat.mul_comm b 16] at hS hN ⊢
      exact hL.leaf_step a (W T t) N hS s1 hs1 hN hLℓ (hread T _ _ _ hT)

theorem ReimFrom.r4Pair {ℓ e : ℕ} (hLℓ : L ≤ ℓ) (hk : k = ℓ + (e + 2)) (he : e % 2 = 0) (he4 : 4 ≤ e)
    (he11 : e + 2 ≤ 11) : R4Pair F c s g ℓ :=
  have hp := gNet_r4Pair F c s hk he he4 he11
  ⟨fun d b => by rw [hL.net ℓ hLℓ, hp.top], fun d b => by rw [hL.net (ℓ + 1) (Nat.le_succ_of_le hLℓ), hp.even],
    fun d b => by rw [hL.net (ℓ + 1) (Nat.le_succ_of_le hLℓ), hp.odd]⟩

/-- one radix-4 level of `bfs16` over a block seen as `2^j` blocks of size `mm = 2^(e+2)`, `ss` the cursor at that
size -/
theorem ReimFrom.r4 {ℓ0 D b0 m off pw j e mm ss : ℕ} (hB : Blk k ℓ0 D b0 m off pw) (hD : D = j + (e + 2))
    (hLℓ : L ≤ ℓ0 + j) (hmm : mm = 2 ^ (e + 2)) (hss : ss = twE ℓ0 (e + 2) b0) (he : e % 2 = 0) (he4 : 4 ≤ e)
    (he11 : e + 2 ≤ 11) :
    Runs v ((List.range (m / mm)).flatMap (fun b =>
        eP (2 * (ss / 4 + frbN (4 * 2 ^ k) b / 4)) ++ eP (ss / 4 + frbN (4 * 2 ^ k) b / 4)))
      (fun T st => iterFrom (fun b (st : RI R × ℕ) => (bitwiddle F T st.2 (mm / 4) (off + b * mm) st.1, st.2 + 4))
        (m / mm) 0 st)
      (VN g a (ℓ0 + j) (e + 2)) (VN g a (ℓ0 + j + 2) e) off m :=
  have hp := hL.r4Pair hLℓ (hB.lvl_sub hD) he he4 he11
  Runs.blocks k hB hD hmm hss
    (fun b => eP (2 * (ss / 4 + frbN (4 * 2 ^ k) b / 4)) ++ eP (ss / 4 + frbN (4 * 2 ^ k) b / 4))
    (fun b T st => (bitwiddle F T st.2 (mm / 4) (off + b * mm) st.1, st.2 + 4)) fun b hb hS =>
    Runs.step 4 rfl (fun T t s => bitwiddle F T t (mm / 4) (off + b * mm) s) fun N T t s1 hs1 hN hT => by
      have hh : mm / 4 = 2 ^ e := by rw [hmm, pow_add]; exact Nat.mul_div_cancel _ (by norm_num)
      have h4 : 4 * (mm / 4) = mm := by rw [hh, hmm, pow_add]; ring
      have e0 : ss / 4 + frbN (4 * 2 ^ k) b / 4 = twE (ℓ0 + j) e (b0 * 2 ^ j + b) := by
        have := sub_tw ℓ0 j e 2 b0 b k hb (hB.lvl_sub hD)
        rwa [← twE_shift ℓ0 e 2 b0, ← hss, show (2 : ℕ) ^ 2 = 4 from rfl] at this
      rw [List.map_append] at hT
      obtain ⟨r0, r1⟩ := hL.read_eP T t _ hT.left
      obtain ⟨r2, r3⟩ := hL.read_eP T (t + 2) _ hT.right
      rw [e0, Nat.mul_comm 2, ← twE_dsucc] at r0 r1
      rw [e0, ← twE_even] at r2 r3
      have := bitwiddle_advN g a F T t N (ℓ0 + j) e (b0 * 2 ^ j + b) (off + b * mm) (mm / 4)
        s1 hs1 hh (by rw [h4]; exact hS.pos) (by rw [h4]; exact hN)
        (by rw [hp.top, r0, r1]) (by rw [hp.even, r2, r3]) (by rw [hp.odd, r2, r3])
      rw [h4] at this
      exact this

/-- the `while (mm > 16)` loop of `bfs16`, all radix-4 levels down to blocks of 16, followed by the leaves.
`Tab fuel mm ss` is the table of the loop followed by the leaf packs `Fill` (reim: `rBfsLevels`, `rFill16`; cplx:
`cBfs16Levels`, `cFill16`), given by its two unfolding equations. -/
theorem ReimFrom.levels (Tab : ℕ → ℕ → ℕ → List Ent) (W : Array R → ℕ → ℕ → R × R) (Fill : ℕ → ℕ → List Ent)
    (hlen : ∀ U e, (Fill U e).length = 16)
    (hread : ∀ T t e U, SegP T t ((Fill U e).map v) → ∀ q, q < 8 → W T t q = (c (leafE e U q), s (leafE e U q)))
    {ℓ0 D b0 m off pw : ℕ} (hB : Blk k ℓ0 D b0 m off pw)
    (hstep : ∀ f mm ss, mm > 16 → Tab (f + 1) mm ss = (List.range (m / mm)).flatMap (fun b =>
      eP (2 * (ss / 4 + frbN (4 * 2 ^ k) b / 4)) ++ eP (ss / 4 + frbN (4 * 2 ^ k) b / 4)) ++ Tab f (mm / 4) (ss / 4))
    (hleaf : ∀ f mm ss, ¬ mm > 16 → Tab (f + 1) mm ss =
      (List.range (m / 16)).flatMap (fun b => Fill (4 * 2 ^ k) (ss + frbN (4 * 2 ^ k) b)))
    (hD11 : D ≤ 11) :
    ∀ i fuel j mm ss, j + (4 + 2 * i) = D → L ≤ ℓ0 + j → mm = 2 ^ (4 + 2 * i) → ss = twE ℓ0 (4 + 2 * i) b0 →
      mm ≤ fuel →
      Runs v (Tab fuel mm ss)
        (fun T st => iterFrom (fun b (st : RI R × ℕ) => (fft16K F (W T st.2) (off + 16 * b) st.1, st.2 + 16)) (m / 16) 0
          (bfsLevels F T m off fuel mm st))
        (VN g a (ℓ0 + j) (4 + 2 * i)) (VN g a k 0) off m := by
  intro i
  induction i with
  | zero =>
    intro fuel j mm ss hj hLℓ hmm hss hfuel
    obtain rfl : mm = 16 := hmm
    obtain ⟨f, rfl⟩ : ∃ f, fuel = f + 1 := Nat.exists_eq_add_one.2 (Nat.lt_of_lt_of_le (by norm_num) hfuel)
    exact (hL.leaves a W Fill hlen hread hB hj.symm hLℓ hss).of_eq (hleaf _ _ _ (Nat.lt_irrefl 16))
      (fun T st => by rw [bfsLevels, if_neg (Nat.lt_irrefl 16)]) rfl rfl
  | succ i ih =>
    intro fuel j mm ss hj hLℓ hmm hss hfuel
    have hgt : mm > 16 := by
      rw [hmm]; exact Nat.pow_lt_pow_right Nat.one_lt_two (show 4 < 4 + 2 * (i + 1) by omega)
    obtain ⟨f, rfl⟩ : ∃ f, fuel = f + 1 := Nat.exists_eq_add_one.2 (Nat.lt_of_lt_of_le (Nat.lt_trans (by norm_num) hgt) hfuel)
    have hmm4 : mm / 4 = 2 ^ (4 + 2 * i) := by
      rw [hmm, show 4 + 2 * (i + 1) = 4 + 2 * i + 2 by ring, pow_add]; exact Nat.mul_div_cancel _ (by norm_num)
    have st := hL.r4 a (e := 4 + 2 * i) hB (by rw [← hj]; ring) hLℓ hmm hss (by omega) (by omega) (by omega)
    have nx := ih f (j + 2) (mm / 4) (ss / 4) (by rw [← hj]; ring) (by omega) hmm4
      (by rw [hss, show 4 + 2 * (i + 1) = 4 + 2 * i + 2 by ring, ← twE_shift ℓ0 (4 + 2 * i) 2 b0]; rfl)
      (by have : 0 < mm := Nat.lt_trans (by norm_num) hgt; omega)
    rw [show ℓ0 + (j + 2) = ℓ0 + j + 2 by ring] at nx
    rw [show 4 + 2 * (i + 1) = 4 + 2 * i + 2 by ring]
    exact (st.seq nx).of_eq (hstep _ _ _ hgt) (fun T st => by rw [bfsLevels, if_pos hgt]) rfl rfl

end reimFrom

theorem clv_big (r : ℕ) (h : 11 ≤ r) : clv r = false := by
  unfold clv
  have h1 : ¬ r ≤ 3 := by omega
  have h2 : ¬ r ≤ 10 := by omega
  simp [h1, h2]

variable (F : Flav R) (c s : ℕ → R) (k : ℕ) (a : ℕ → R × R) {v : Ent → R} (hv : ReimFrom F c s k (gNet F c s k) v 0)
include hv

theorem tw_runs {ℓ D b m off pw : ℕ} (hB : Blk k ℓ (D + 1) b m off pw) (h4 : 4 ≤ k)
    (hcl : clv (k - ℓ) = false ∨ b % 2 = 0) :
    Runs v (eP (pw / 2)) (fun T st => (twPass F.ct (m / 2) off T[st.2]! T[st.2 + 1]! st.1, st.2 + 2))
      (VN (gNet F c s k) a ℓ (D + 1)) (VN (gNet F c s k) a (ℓ + 1) D) off m :=
  (Runs.step 2 rfl (fun T t s0 => twPass F.ct (2 ^ D) off T[t]! T[t + 1]! s0) (fun N T t s0 hs hN hT => by
    obtain ⟨w0, w1⟩ := hv.read_eP T t _ hT
    exact twPass_adv (VN_step (gNet F c s k) a ℓ D) F.ct b off T[t]! T[t + 1]! hB.pass hN
      (by rw [gNet_ct F c s k ℓ _ b hcl, ctK_big F k h4, w0, w1, hB.pw_half]) s0 hs)).of_eq rfl
    (fun T st => by rw [hB.half]) rfl hB.two_pow

/-- `bfs16`: a block of log-size `5 ≤ D ≤ 11` whose table is `fill_reim_fft_bfs_16_omegas(m, entry power)` is taken
from its level to the last level -/
theorem bfs16_runs {ℓ0 D b0 m off pw : ℕ} (hB : Blk k ℓ0 D b0 m off pw) (hD : 5 ≤ D) (hD11 : D ≤ 11)
    (hb0 : D = 11 ∨ b0 = 0) :
    Runs v (rBfs (4 * 2 ^ k) m pw) (fun T st => bfs16 F T m off st)
      (VN (gNet F c s k) a ℓ0 D) (VN (gNet F c s k) a k 0) off m := by
  have lv := hv.levels a (rBfsLevels (4 * 2 ^ k) m) reimW16 rFill16 (fun _ _ => rfl) hv.leaf_read hB
    (fun f mm ss h => by rw [rBfsLevels, if_pos h]) (fun f mm ss h => by rw [rBfsLevels, if_neg h]) hD11
  have hk := hB.lvl
  by_cases hodd : m.log2 % 2 != 0
  · obtain ⟨i, rfl⟩ : ∃ i, D = 4 + 2 * i + 1 := ⟨(D - 5) / 2, by rw [hB.log2] at hodd; simp at hodd; omega⟩
    have s1 := tw_runs F c s k a hv hB (by omega) (by
      rcases hb0 with h | h
      · left; rw [show k - ℓ0 = 11 by omega]; rfl
      · right; omega)
    have s2 := lv i m 1 (m / 2) (pw / 2) (Nat.add_comm _ _) (Nat.zero_le _) hB.half hB.pw_half (Nat.div_le_self m 2)
    exact (s1.seq s2).of_eq (by rw [rBfs, if_pos hodd]) (fun T st => by unfold bfs16; rw [if_pos hodd]; rfl) rfl rfl
  · obtain ⟨i, rfl⟩ : ∃ i, D = 4 + 2 * i := ⟨(D - 4) / 2, by rw [hB.log2] at hodd; simp at hodd; omega⟩
    have s2 := lv i m 0 m pw (Nat.zero_add _) (Nat.zero_le _) hB.size hB.pwr (Nat.le_refl _)
    exact s2.of_eq (by rw [rBfs, if_neg hodd]) (fun T st => by unfold bfs16; rw [if_neg hodd]; rfl) rfl rfl

theorem rec16_runs : ∀ fuel {D ℓ0 b0 m off pw : ℕ}, Blk k ℓ0 D b0 m off pw → 11 ≤ D → m ≤ fuel →
    Runs v (rRec (4 * 2 ^ k) fuel m pw) (fun T st => rec16 F T fuel m off st)
      (VN (gNet F c s k) a ℓ0 D) (VN (gNet F c s k) a k 0) off m :=
  Runs.recB k 11 2048 (by norm_num) (Tab := rRec (4 * 2 ^ k)) (rec := fun T f m off st => rec16 F T f m off st)
    (Epre := eP) (Epost := fun _ => [])
    (pre := fun T h off st => (twPass F.ct h off T[st.2]! T[st.2 + 1]! st.1, st.2 + 2)) (post := fun _ _ _ st => st)
    (In := fun ℓ D => VN (gNet F c s k) a ℓ D) (Out := fun _ _ => VN (gNet F c s k) a k 0)
    (fun f m pw h => by rw [rRec, if_neg h, List.append_nil, List.append_assoc])
    (fun T f m off st h => by rw [rec16, if_neg h])
    (fun f D ℓ b m off pw hB hD hle =>
      have hD11 := hB.below (C := 11) (by norm_num) hle
      (bfs16_runs F c s k a hv hB (Nat.le_trans (by norm_num) hD) hD11 (Or.inl (Nat.le_antisymm hD11 hD))).of_eq
        (by rw [rRec, if_pos hle]) (fun T st => by rw [rec16, if_pos hle]) rfl rfl)
    (fun hB hD => tw_runs F c s k a hv hB (by have := hB.lvl; omega) (Or.inl (clv_big _ (by have := hB.lvl; omega))))
    (fun _ _ => Runs.id _ _ _ _)

end Spq.Fft.SchedN
