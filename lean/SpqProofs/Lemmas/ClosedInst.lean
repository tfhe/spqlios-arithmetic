/-
  The hypotheses of the closed theorems (`RootData R k`) are satisfiable: over `ℝ` for every `k` (`realRoot`), and over
  two computable fields of characteristic 0 with decidable equality, on which the examples of `Properties/Closed.lean`
  evaluate the network: `ℚ` with `k = 0` (`ratRoot`), and `ℚ(√2)(w)`, `w = 2cos(π/8)`, with `k = 2` (`k4Root`; `nn = 8` is
  the smallest size with the reim4 layout and the FMA pointwise kernels).
-/
import SpqProofs.Lemmas.ClosedParts
import Mathlib.Analysis.SpecialFunctions.Trigonometric.Basic
import Mathlib.Algebra.Order.Round
import Mathlib.Algebra.QuadraticAlgebra.Defs
namespace Spq.Closed
open Spq

theorem cis_pow (θ : ℝ) (e : ℕ) :
    (⟨Real.cos θ, Real.sin θ⟩ : Cx ℝ) ^ e = ⟨Real.cos (e * θ), Real.sin (e * θ)⟩ := by
  induction e with
  | zero => ext <;> simp
  | succ e ih =>
    rw [pow_succ, ih]
    have h : ((e + 1 : ℕ) : ℝ) * θ = e * θ + θ := by push_cast; ring
    ext
    · rw [Cx.mul_re, h, Real.cos_add]
    · rw [Cx.mul_im, h, Real.sin_add]; ring

/-- `ζ = exp(iπ/2m)`: the table entries are the real numbers `cos(2πe/4m)`, `sin(2πe/4m)` -/
noncomputable def realRoot (k : ℕ) : RootData ℝ k where
  ζ := ⟨Real.cos (Real.pi / (2 * 2 ^ k)), Real.sin (Real.pi / (2 * 2 ^ k))⟩
  hζ := by
    rw [cis_pow]
    have h : ((2 ^ k : ℕ) : ℝ) * (Real.pi / (2 * 2 ^ k)) = Real.pi / 2 := by
      push_cast; field_simp
    rw [h, Real.cos_pi_div_two, Real.sin_pi_div_two]
    rfl
  hnorm := by
    ext
    · simp only [conj, Cx.mul_re, Cx.one_re]
      have := Real.cos_sq_add_sin_sq (Real.pi / (2 * 2 ^ k))
      linarith [this]
    · simp only [conj, Cx.mul_im, Cx.one_im]; ring
  rd := fun x => round (x / ((2 ^ k : ℕ) : ℝ))
  hrd := by
    intro n
    have h : ((2 ^ k : ℕ) : ℝ) ≠ 0 := by positivity
    rw [mul_div_cancel_left₀ _ h]
    exact round_intCast n

def ratRoot : RootData ℚ 0 where
  ζ := Cx.I
  hζ := by simp
  hnorm := by ext <;> simp [conj]
  rd := fun q => ⌊q⌋
  hrd := by intro n; simp

/-- `ℚ(√2)` -/
abbrev K2 := QuadraticAlgebra ℚ 2 0
/-- `ℚ(√2)(w)`, `w² = 2 + √2` -/
abbrev K4 := QuadraticAlgebra K2 ⟨2, 1⟩ 0

/-- `ζ₁₆ = cos(π/8) + i·sin(π/8)` with `2cos(π/8) = w`, `2sin(π/8) = w(√2 − 1)` -/
def z16 : Cx K4 :=
  let w : K4 := ⟨0, 1⟩
  let r2 : K4 := ⟨⟨0, 1⟩, 0⟩
  let half : K4 := ⟨⟨1 / 2, 0⟩, 0⟩
  ⟨w * half, w * (r2 - 1) * half⟩

def k4Root : RootData K4 2 where
  ζ := z16
  hζ := by ext <;> decide +kernel
  hnorm := by ext <;> decide +kernel
  rd := fun x => ⌊x.re.re / 4⌋
  hrd := by
    intro n
    have e : (((2 ^ 2 : ℕ) : K4) * (n : K4)).re.re = 4 * (n : ℚ) := by
      simp [QuadraticAlgebra.re_intCast, QuadraticAlgebra.re_ofNat]
    show ⌊(((2 ^ 2 : ℕ) : K4) * (n : K4)).re.re / 4⌋ = n
    rw [e, mul_div_cancel_left₀ _ (by norm_num : (4 : ℚ) ≠ 0)]
    exact Int.floor_intCast n

end Spq.Closed
