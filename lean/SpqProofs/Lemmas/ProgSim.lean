/-
  C16 helpers: the generic simulation theorem for straight-line programs, and the frame rule for the
  abstraction relation `Prog.R` (a call that writes only its destination region preserves every other
  declared variable).
-/
import Spq.Prog
import SpqProofs.Lemmas.VecOps
namespace Spq.Prog
open Spq Heap Spq.C08

theorem sim_run {σ τ ω : Type} (astp : ω → σ → σ) (cstp : ω → τ → τ) (Rel : σ → τ → Prop)
    (pre : ω → σ → Prop)
    (hstep : ∀ o a s, pre o a → Rel a s → Rel (astp o a) (cstp o s)) :
    ∀ (ops : List ω) (a : σ) (s : τ), Guarded pre astp ops a → Rel a s →
      Rel (run astp ops a) (run cstp ops s) := by
  intro ops
  induction ops with
  | nil => intro a s _ h; exact h
  | cons o ops ih =>
    intro a s hg h
    exact ih (astp o a) (cstp o s) hg.2 (hstep o a s hg.1 h)

theorem run_nil {σ ω : Type} (step : ω → σ → σ) (s : σ) : run step [] s = s := rfl
theorem run_cons {σ ω : Type} (step : ω → σ → σ) (o : ω) (ops : List ω) (s : σ) :
    run step (o :: ops) s = run step ops (step o s) := rfl
theorem run_append {σ ω : Type} (step : ω → σ → σ) (p q : List ω) (s : σ) :
    run step (p ++ q) s = run step q (run step p s) := by
  simp [run, List.foldl_append]

theorem guarded_append {σ ω : Type} (pre : ω → σ → Prop) (step : ω → σ → σ) (p q : List ω) (s : σ) :
    Guarded pre step (p ++ q) s ↔ Guarded pre step p s ∧ Guarded pre step q (run step p s) := by
  induction p generalizing s with
  | nil => simp [Guarded, run]
  | cons o p ih => simp [Guarded, run_cons, ih, and_assoc]

theorem coef_mk (nn sz : Nat) (f : Nat → Nat → Int) (i c : Nat) (hi : i < sz) (hc : c < nn) :
    (Val.mk nn sz f).coef i c = f i c := by
  simp [Val.mk, Val.coef, Array.getD, hi, hc]

theorem coef_mk_out (nn sz : Nat) (f : Nat → Nat → Int) (i c : Nat) (h : ¬ (i < sz ∧ c < nn)) :
    (Val.mk nn sz f).coef i c = 0 := by
  unfold Val.mk Val.coef
  by_cases hi : i < sz
  · have hc : ¬ c < nn := fun hc => h ⟨hi, hc⟩
    simp [Array.getD, hi, hc]
  · simp [Array.getD, hi]

theorem size_mk (nn sz : Nat) (f : Nat → Nat → Int) : (Val.mk nn sz f).size = sz := by simp [Val.mk]

theorem set_same (env : Env) (d : Var) (x : Val) : env.set d x d = x := by simp [Env.set]
theorem set_other (env : Env) (d v : Var) (x : Val) (h : v ≠ d) : env.set d x v = env v := by
  simp [Env.set, h]

theorem srcOK_of_wf {nn hsz : Nat} {vars : List Var} (wf : WF nn hsz vars) (d a : Var)
    (hd : d ∈ vars) (ha : a ∈ vars) :
    SrcOK nn d.off d.size d.stride a.off a.size a.stride := by
  by_cases e : a = d
  · subst e; exact Or.inl ⟨rfl, rfl⟩
  · exact Or.inr (fun i j hi hj => wf.disj a ha d hd e i j hi hj)

theorem inBounds_of_R {nn hsz : Nat} {vars : List Var} {env : Env} {h : Heap Int} (wf : WF nn hsz vars)
    (hR : R nn hsz vars env h) (v : Var) (hv : v ∈ vars) (n : Nat) (hn : n ≤ v.size) :
    InBounds nn h.mem.size v.off n v.stride :=
  fun i hi => hR.1 ▸ wf.inb v hv i (by omega)

theorem R_step {nn hsz : Nat} {vars : List Var} (wf : WF nn hsz vars) (env : Env) (h h' : Heap Int)
    (d : Var) (hd : d ∈ vars) (f : Nat → Nat → Int) (hR : R nn hsz vars env h)
    (hsize : h'.mem.size = h.mem.size) (hok : h'.ok = h.ok)
    (hval : ∀ i c, i < d.size → c < nn → h'.mem[d.off + i * d.stride + c]? = some (f i c))
    (hframe : Frame nn d.off d.size d.stride h.mem h'.mem) :
    R nn hsz vars (env.set d (Val.mk nn d.size f)) h' := by
  obtain ⟨r1, r2, r3⟩ := hR
  refine ⟨by rw [hsize, r1], by rw [hok, r2], ?_⟩
  intro v hv i c hi hc
  by_cases e : v = d
  · subst e
    rw [set_same, coef_mk _ _ _ _ _ hi hc]
    exact hval i c hi hc
  · rw [set_other _ _ _ _ e, ← r3 v hv i c hi hc]
    apply hframe
    intro j hj
    have := wf.disj v hv d hd e i j hi hj
    omega

theorem getD_of_R {nn hsz : Nat} {vars : List Var} {env : Env} {h : Heap Int} (hR : R nn hsz vars env h)
    (v : Var) (hv : v ∈ vars) (i c : Nat) (hi : i < v.size) (hc : c < nn) :
    h.mem.getD (v.off + i * v.stride + c) 0 = (env v).coef i c := by
  have := hR.2.2 v hv i c hi hc
  rw [Array.getD_eq_getD_getElem?, this]; rfl

theorem readVar_of_R {nn hsz : Nat} {vars : List Var} {env : Env} {h : Heap Int} (hR : R nn hsz vars env h)
    (v : Var) (hv : v ∈ vars) (i c : Nat) (hi : i < v.size) (hc : c < nn) :
    (readVar nn h v).coef i c = (env v).coef i c := by
  unfold readVar
  rw [coef_mk _ _ _ _ _ hi hc]
  exact getD_of_R hR v hv i c hi hc

end Spq.Prog
