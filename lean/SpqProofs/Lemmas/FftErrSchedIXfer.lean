/-
  Transfer from the bit-level transforms to the structural networks over an ordered field `K ⊇ ℚ`: if the flags of the
  flagged run hold (all exact partial results in the normal range, all operands finite), the values of the binary64
  outputs are the outputs of the network run with the guarded arithmetic lifted to `K`.  `Net` is what is used of a
  network, `NetCells` of a transform on an array, `XformOK` of a reim transform by `xform_rel` (two runs on related
  arithmetics).
-/
import SpqProofs.Lemmas.FftErrSchedF64
import SpqProofs.Lemmas.FftErrSchedRel
import SpqProofs.Lemmas.FftSchedInvTop
set_option linter.unusedSectionVars false
namespace Spq.FftErr
open Spq.Fft Spq.Fft.Alg Spq.Fft.RelN Spq.Fft.SimP Spq.Fft.LevelN Spq.Fft.SchedN Spq.Fft.Sim Spq.F64
variable {K : Type} [Field K] [LinearOrder K] [IsStrictOrderedRing K]

theorem valP_map {α β : Type} (f : α → β) (c s : ℕ → α) (x : Ent) : f (valP c s x) = valP (fun e => f (c e)) (fun e => f (s e)) x := by
  unfold valP; split <;> rfl

theorem table_map {α β : Type} (f : α → β) (c s : ℕ → α) (L : List Ent) :
    ((L.map (valP c s)).toArray).map f = (L.map (valP (fun e => f (c e)) (fun e => f (s e)))).toArray := by
  rw [List.map_toArray, List.map_map]
  congr 1
  apply List.map_congr_left
  intro x _
  exact valP_map f c s x

structure FamOK (Fam : ∀ {α : Type}, Arith α → Flav α) : Prop where
  sim : ∀ {α β : Type} {Rl : α → β → Prop} {A : Arith α} {B : Arith β}, ASim Rl A B → FlavSim Rl (Fam A) (Fam B)

theorem famRef : FamOK (fun {α} A => fwdRef (α := α) A) := ⟨fun h => fwdRef_sim h⟩
theorem famFma : FamOK (fun {α} A => fwdFma (α := α) A) := ⟨fun h => fwdFma_sim h⟩
theorem famIRef : FamOK (fun {α} A => invRef (α := α) A) := ⟨fun h => invRef_sim h⟩
theorem famIFma : FamOK (fun {α} A => invFma (α := α) A) := ⟨fun h => invFma_sim h⟩

def NetSim {γ δ : Type} (Q : γ → δ → Prop) (g : ℕ → ℕ → ℕ → γ → γ → γ × γ) (g' : ℕ → ℕ → ℕ → δ → δ → δ × δ) : Prop :=
  ∀ ℓ d b u u' v v', Q u u' → Q v v' → Q (g ℓ d b u v).1 (g' ℓ d b u' v').1 ∧ Q (g ℓ d b u v).2 (g' ℓ d b u' v').2

/-- A network of `k` levels on `2^k` cells, as a function of the per-block butterfly and the input cells
    (`VN · · k 0`: forward, `VNI k · · k`: inverse).  All that the transfers use of it: if every butterfly takes
    `Q n` to `Q (n + 1)`, the network takes `Q 0` on the inputs to `Q k` on the outputs. -/
structure Net (k : ℕ) (N : ∀ {γ : Type}, (ℕ → ℕ → ℕ → γ → γ → γ × γ) → (ℕ → γ) → ℕ → γ) : Prop where
  rel : ∀ {γ δ : Type} (Q : ℕ → γ → δ → Prop) (g : ℕ → ℕ → ℕ → γ → γ → γ × γ) (g' : ℕ → ℕ → ℕ → δ → δ → δ × δ),
    (∀ n ℓ d b u u' v v', n < k → Q n u u' → Q n v v' →
      Q (n + 1) (g ℓ d b u v).1 (g' ℓ d b u' v').1 ∧ Q (n + 1) (g ℓ d b u v).2 (g' ℓ d b u' v').2) →
    ∀ (a : ℕ → γ) (a' : ℕ → δ), (∀ p, p < 2 ^ k → Q 0 (a p) (a' p)) → ∀ p, p < 2 ^ k → Q k (N g a p) (N g' a' p)

theorem netF (k : ℕ) : Net k (fun g a p => VN g a k 0 p) :=
  ⟨fun Q g g' hg a a' ha p hp => by
    have := Chain.rel (lvF_sum k) Q g g' hg (VN_chain k g a) (VN_chain k g' a') ha k le_rfl p hp
    simp only [Nat.sub_self] at this
    exact this⟩

theorem netI (k : ℕ) : Net k (fun g a p => VNI k g a k p) :=
  ⟨fun Q g g' hg a a' ha p hp =>
    Chain.rel (lvI_sum k) Q g g' hg (VNI_chain k g a) (VNI_chain k g' a') ha k le_rfl p hp⟩

theorem Net.sim {k : ℕ} {N : ∀ {γ : Type}, (ℕ → ℕ → ℕ → γ → γ → γ × γ) → (ℕ → γ) → ℕ → γ} (hN : Net k N)
    {γ δ : Type} (Q : γ → δ → Prop) (g : ℕ → ℕ → ℕ → γ → γ → γ × γ) (g' : ℕ → ℕ → ℕ → δ → δ → δ × δ)
    (hg : NetSim Q g g') (a : ℕ → γ) (a' : ℕ → δ) (ha : ∀ p, p < 2 ^ k → Q (a p) (a' p)) (p : ℕ) (hp : p < 2 ^ k) :
    Q (N g a p) (N g' a' p) :=
  hN.rel (fun _ => Q) g g' (fun _ ℓ d b u u' v v' _ => hg ℓ d b u u' v v') a a' ha p hp

/-- `N g a j` is output `j` of a network with butterflies `g` on inputs `a`.  The inputs are the
    cells `(data[ix p], data[iy p])`.  Four runs are chained: bits `gb`, flagged bits `gB` (same bits, and a flag),
    guarded rationals `gQ` (the values, if the flag holds), the lifted arithmetic `gK` (the same rationals in `K`). -/
theorem transfer {N : ∀ {γ : Type}, (ℕ → ℕ → ℕ → γ → γ → γ × γ) → (ℕ → γ) → ℕ → γ} {k : ℕ} (hN : Net k N)
    (gb : ℕ → ℕ → ℕ → ℕ × ℕ → ℕ × ℕ → (ℕ × ℕ) × (ℕ × ℕ))
    (gB : ℕ → ℕ → ℕ → (ℕ × Prop) × (ℕ × Prop) → (ℕ × Prop) × (ℕ × Prop) →
      ((ℕ × Prop) × (ℕ × Prop)) × ((ℕ × Prop) × (ℕ × Prop)))
    (gQ : ℕ → ℕ → ℕ → ℚ × ℚ → ℚ × ℚ → (ℚ × ℚ) × (ℚ × ℚ)) (gK : ℕ → ℕ → ℕ → K × K → K × K → (K × K) × (K × K))
    (h1 : NetSim (R2 (fun (x : Nat × Prop) (b : Nat) => x.1 = b)) gB gb) (h2 : NetSim (R2 RelQ) gB gQ)
    (h3 : NetSim (R2 (fun (q : ℚ) (x : K) => x = (q : K))) gQ gK)
    (ix iy : ℕ → ℕ) (data : Array ℕ) (hix : ∀ p, p < 2 ^ k → ix p < data.size) (hiy : ∀ p, p < 2 ^ k → iy p < data.size)
    (ab : ℕ → ℕ × ℕ) (aB : ℕ → (ℕ × Prop) × (ℕ × Prop))
    (in1 : ∀ p, p < 2 ^ k → ab p = (data[ix p]!, data[iy p]!))
    (in2 : ∀ p, p < 2 ^ k → aB p = ((data.map lift)[ix p]!, (data.map lift)[iy p]!))
    (j : ℕ) (hj : j < 2 ^ k) (ob : ℕ × ℕ) (oB : (ℕ × Prop) × (ℕ × Prop)) (e1 : ob = N gb ab j) (e2 : oB = N gB aB j)
    (f1 : oB.1.2) (f2 : oB.2.2) :
    Fin64 ob.1 ∧ Fin64 ob.2 ∧
    ((val ob.1 : ℚ) : K) = (N gK (fun p => (((val data[ix p]! : ℚ) : K), ((val data[iy p]! : ℚ) : K))) j).1 ∧
    ((val ob.2 : ℚ) : K) = (N gK (fun p => (((val data[ix p]! : ℚ) : K), ((val data[iy p]! : ℚ) : K))) j).2 := by
  subst e1 e2
  have in2' : ∀ p, p < 2 ^ k → aB p = (lift data[ix p]!, lift data[iy p]!) := by
    intro p hp
    rw [in2 p hp, getElem!_map lift data _ (hix p hp), getElem!_map lift data _ (hiy p hp)]
  obtain ⟨a1, a2⟩ := hN.sim _ gB gb h1 aB ab (fun p hp => by rw [in2' p hp, in1 p hp]; exact ⟨rfl, rfl⟩) j hj
  obtain ⟨b1, b2⟩ := hN.sim _ gB gQ h2 aB (fun p => (val data[ix p]!, val data[iy p]!))
    (fun p hp => by rw [in2' p hp]; exact ⟨fun h => ⟨h, rfl⟩, fun h => ⟨h, rfl⟩⟩) j hj
  obtain ⟨c1, c2⟩ := hN.sim _ gQ gK h3 (fun p => (val data[ix p]!, val data[iy p]!))
    (fun p => (((val data[ix p]! : ℚ) : K), ((val data[iy p]! : ℚ) : K))) (fun p _ => ⟨rfl, rfl⟩) j hj
  obtain ⟨g1, g2⟩ := b1 f1
  obtain ⟨g3, g4⟩ := b2 f2
  rw [a1] at g1 g2
  rw [a2] at g3 g4
  refine ⟨g1, g3, ?_, ?_⟩
  · rw [g2]; exact c1.symm
  · rw [g4]; exact c2.symm

/-- split layout: cell `j` is `(out[j], out[2^k + j])` -/
theorem cov_split (k p : ℕ) (hp : p < 2 * 2 ^ k) : ∃ j, j < 2 ^ k ∧ (j = p ∨ 2 ^ k + j = p) := by
  by_cases h : p < 2 ^ k
  · exact ⟨p, h, Or.inl rfl⟩
  · exact ⟨p - 2 ^ k, by omega, Or.inr (by omega)⟩

/-- interleaved layout: cell `j` is `(out[2j], out[2j + 1])` -/
theorem cov_inter (k p : ℕ) (hp : p < 2 * 2 ^ k) : ∃ j, j < 2 ^ k ∧ (2 * j = p ∨ 2 * j + 1 = p) :=
  ⟨p / 2, by omega, by omega⟩

/-- A transform on an array whose cells are those of a network.  `Φ R`: its implementations over the value type `R`,
`Tw R`: its twiddle sources (`c, s` resp. `c, s, ns, nc`), `run F t d`: the API function with its table and its
layout on the array `d`, `ok F`: what the run asks of an implementation (`lanesOdd = false` for the inverse cplx
transform), `G F t`: its per-block butterflies, `(ix j, iy j)`: where cell `j` sits. -/
structure NetCells (k : ℕ) {Φ Tw : Type → Type}
    (run : ∀ {R : Type} [Inhabited R], Φ R → Tw R → Array R → Array R) (ok : ∀ {R : Type}, Φ R → Prop)
    (G : ∀ {R : Type}, Φ R → Tw R → ℕ → ℕ → ℕ → R × R → R × R → (R × R) × (R × R))
    (N : ∀ {γ : Type}, (ℕ → ℕ → ℕ → γ → γ → γ × γ) → (ℕ → γ) → ℕ → γ) (ix iy : ℕ → ℕ) : Prop where
  net : Net k N
  lt : ∀ p, p < 2 ^ k → ix p < 2 * 2 ^ k ∧ iy p < 2 * 2 ^ k
  cov : ∀ p, p < 2 * 2 ^ k → ∃ j, j < 2 ^ k ∧ (ix j = p ∨ iy j = p)
  cells : ∀ {R : Type} [Inhabited R] (F : Φ R) (t : Tw R) (d : Array R), ok F → d.size = 2 * 2 ^ k → ∀ j, j < 2 ^ k →
    ((run F t d)[ix j]!, (run F t d)[iy j]!) = N (G F t) (fun p => (d[ix p]!, d[iy p]!)) j

theorem NetCells.transfer {k : ℕ} {Φ Tw : Type → Type}
    {run : ∀ {R : Type} [Inhabited R], Φ R → Tw R → Array R → Array R} {ok : ∀ {R : Type}, Φ R → Prop}
    {G : ∀ {R : Type}, Φ R → Tw R → ℕ → ℕ → ℕ → R × R → R × R → (R × R) × (R × R)}
    {N : ∀ {γ : Type}, (ℕ → ℕ → ℕ → γ → γ → γ × γ) → (ℕ → γ) → ℕ → γ} {ix iy : ℕ → ℕ}
    (hC : NetCells k run ok G N ix iy) (Fb : Φ ℕ) (FB : Φ (ℕ × Prop)) (FQ : Φ ℚ) (FK : Φ K) (hb : ok Fb) (hB : ok FB)
    (tb : Tw ℕ) (tB : Tw (ℕ × Prop)) (tQ : Tw ℚ) (tK : Tw K)
    (h1 : NetSim (R2 (fun (x : Nat × Prop) (b : Nat) => x.1 = b)) (G FB tB) (G Fb tb))
    (h2 : NetSim (R2 RelQ) (G FB tB) (G FQ tQ))
    (h3 : NetSim (R2 (fun (q : ℚ) (x : K) => x = (q : K))) (G FQ tQ) (G FK tK))
    (data : Array ℕ) (hdata : data.size = 2 * 2 ^ k)
    (hok : ∀ p, p < 2 * 2 ^ k → ((run FB tB (data.map lift))[p]!).2) (j : ℕ) (hj : j < 2 ^ k) :
    Fin64 (run Fb tb data)[ix j]! ∧ Fin64 (run Fb tb data)[iy j]! ∧
    ((val (run Fb tb data)[ix j]! : ℚ) : K) =
      (N (G FK tK) (fun p => (((val data[ix p]! : ℚ) : K), ((val data[iy p]! : ℚ) : K))) j).1 ∧
    ((val (run Fb tb data)[iy j]! : ℚ) : K) =
      (N (G FK tK) (fun p => (((val data[ix p]! : ℚ) : K), ((val data[iy p]! : ℚ) : K))) j).2 :=
  FftErr.transfer hC.net _ _ _ _ h1 h2 h3 ix iy data (fun p hp => by rw [hdata]; exact (hC.lt p hp).1)
    (fun p hp => by rw [hdata]; exact (hC.lt p hp).2) _ _ (fun _ _ => rfl) (fun _ _ => rfl) j hj
    ((run Fb tb data)[ix j]!, (run Fb tb data)[iy j]!)
    ((run FB tB (data.map lift))[ix j]!, (run FB tB (data.map lift))[iy j]!)
    (hC.cells Fb tb data hb hdata j hj)
    (hC.cells FB tB (data.map lift) hB (by rw [Array.size_map]; exact hdata) j hj)
    (hok _ (hC.lt j hj).1) (hok _ (hC.lt j hj).2)

theorem prs_splitRI {R : Type} [Inhabited R] (m : ℕ) (data : Array R) (h : data.size = 2 * m) (p : ℕ) (hp : p < m) :
    prs (splitRI m data) p = (data[p]!, data[m + p]!) := by
  show ((splitRI m data).re[p]!, (splitRI m data).im[p]!) = _
  rw [Api.splitRI_re _ _ h p hp, Api.splitRI_im _ _ h p hp]

theorem gNet_sims (Fam : ∀ {α : Type}, Arith α → Flav α) (hFam : FamOK Fam) (k : ℕ) (cN sN : ℕ → ℕ) :
    NetSim (R2 (fun (x : Nat × Prop) (b : Nat) => x.1 = b))
      (gNet (Fam aOk) (fun e => lift (cN e)) (fun e => lift (sN e)) k) (gNet (Fam f64) cN sN k) ∧
    NetSim (R2 RelQ) (gNet (Fam aOk) (fun e => lift (cN e)) (fun e => lift (sN e)) k)
      (gNet (Fam aG) (fun e => val (cN e)) (fun e => val (sN e)) k) ∧
    NetSim (R2 (fun (q : ℚ) (x : K) => x = (q : K))) (gNet (Fam aG) (fun e => val (cN e)) (fun e => val (sN e)) k)
      (gNet (Fam (liftA aG : Arith K)) (fun e => ((val (cN e) : ℚ) : K)) (fun e => ((val (sN e) : ℚ) : K)) k) :=
  ⟨fun ℓ d b _ _ _ _ hu hv => gNet_sim (hFam.sim aOk_sim_f64) _ _ _ _ (fun _ => rfl) (fun _ => rfl) k ℓ d b hu hv,
   fun ℓ d b _ _ _ _ hu hv => gNet_sim (hFam.sim aOk_sim_aG) _ _ _ _ (fun _ h => ⟨h, rfl⟩) (fun _ h => ⟨h, rfl⟩) k ℓ d b
     hu hv,
   fun ℓ d b _ _ _ _ hu hv => gNet_sim (hFam.sim (liftA_sim (K := K) aG aG_neg)) _ _ _ _ (fun _ => rfl) (fun _ => rfl)
     k ℓ d b hu hv⟩

/-- a reim transform `T` with table layout `ents` whose cells are those of the network `N` -/
structure XformOK (k : ℕ) (ents : List Ent) (T : ∀ {R : Type} [Inhabited R], Flav R → ℕ → Array R → RI R → RI R)
    (N : ∀ {γ : Type}, (ℕ → ℕ → ℕ → γ → γ → γ × γ) → (ℕ → γ) → ℕ → γ) : Prop where
  net : Net k N
  struct : ∀ {R : Type} [Inhabited R] (F : Flav R) (c s : ℕ → R) (s0 : RI R), Valid (2 ^ k) s0 →
    (∀ p, p < 2 ^ k → prs (T F (2 ^ k) ((ents.map (valP c s)).toArray) s0) p = N (gNet F c s k) (prs s0) p) ∧
    Valid (2 ^ k) (T F (2 ^ k) ((ents.map (valP c s)).toArray) s0)

theorem xformF (k : ℕ) : XformOK k (reimFftEnts (2 ^ k)) (fun F m tab s0 => fftRI F m tab s0) (fun g a p => VN g a k 0 p) :=
  ⟨netF k, fun F c s s0 hs => fftRI_struct F c s k s0 hs⟩

theorem xformI (k : ℕ) : XformOK k (reimIfftEnts (2 ^ k)) (fun F m tab s0 => ifftRI F m tab s0) (fun g a p => VNI k g a k p) :=
  ⟨netI k, fun F c s s0 hs => ifftRI_struct F c s k s0 hs⟩

theorem halves {m : ℕ} {P : ℕ → Prop} (h1 : ∀ j, j < m → P j) (h2 : ∀ j, j < m → P (m + j)) : ∀ p, p < 2 * m → P p := by
  intro p hp
  by_cases hlt : p < m
  · exact h1 p hlt
  · obtain ⟨j, rfl⟩ : ∃ j, p = m + j := ⟨p - m, by omega⟩
    exact h2 j (by omega)

section xform
variable {k : ℕ} {ents : List Ent} {T : ∀ {R : Type} [Inhabited R], Flav R → ℕ → Array R → RI R → RI R}
  {N : ∀ {γ : Type}, (ℕ → ℕ → ℕ → γ → γ → γ × γ) → (ℕ → γ) → ℕ → γ}

theorem XformOK.cells (hX : XformOK k ents T N)
    {R : Type} [Inhabited R] (F : Flav R) (c s : ℕ → R) (d : Array R) (hd : d.size = 2 * 2 ^ k) :
    (∀ p, p < 2 ^ k → prs (splitRI (2 ^ k) d) p = (d[p]!, d[2 ^ k + p]!)) ∧
    ∀ j, j < 2 ^ k →
      (joinRI (T F (2 ^ k) ((ents.map (valP c s)).toArray) (splitRI (2 ^ k) d)))[j]! =
        (N (gNet F c s k) (prs (splitRI (2 ^ k) d)) j).1 ∧
      (joinRI (T F (2 ^ k) ((ents.map (valP c s)).toArray) (splitRI (2 ^ k) d)))[2 ^ k + j]! =
        (N (gNet F c s k) (prs (splitRI (2 ^ k) d)) j).2 := by
  obtain ⟨st, vo⟩ := hX.struct F c s (splitRI (2 ^ k) d) (Api.splitRI_valid (2 ^ k) d hd)
  refine ⟨prs_splitRI _ d hd, fun j hj => ?_⟩
  rw [Api.joinRI_re _ _ vo j hj, Api.joinRI_im _ _ vo j hj, ← st j hj]
  exact ⟨rfl, rfl⟩

theorem XformOK.netCells (hX : XformOK k ents T N) :
    NetCells k (Φ := Flav) (Tw := fun R => (ℕ → R) × (ℕ → R))
      (fun F t d => joinRI (T F (2 ^ k) ((ents.map (valP t.1 t.2)).toArray) (splitRI (2 ^ k) d))) (fun _ => True)
      (fun F t => gNet F t.1 t.2 k) N (fun j => j) (fun j => 2 ^ k + j) :=
  ⟨hX.net, fun p hp => by omega, cov_split k, fun F t d _ hd j hj => by
      obtain ⟨in1, c1⟩ := hX.cells F t.1 t.2 d hd
      rw [← hX.net.rel (fun _ => Eq) (gNet F t.1 t.2 k) (gNet F t.1 t.2 k)
        (fun _ _ _ _ _ _ _ _ _ hu hv => by rw [hu, hv]; exact ⟨rfl, rfl⟩) _ _ in1 j hj]
      exact Prod.ext (c1 j hj).1 (c1 j hj).2⟩

/-- Two runs of one transform on arithmetics related by a simulation have related output cells, if the tables and
    the data are images of the same bit patterns under embeddings (`ft`, `gt` for the table, `fd`, `gd` for the data)
    that are related on the entries that occur. -/
theorem xform_rel (hX : XformOK k ents T N) (Fam : ∀ {α : Type}, Arith α → Flav α) (hFam : FamOK Fam)
    {α β : Type} [Inhabited α] [Inhabited β] {Rl : α → β → Prop} {A : Arith α} {B : Arith β} (hAB : ASim Rl A B)
    (ft fd : ℕ → α) (gt gd : ℕ → β) (cN sN : ℕ → ℕ)
    (ht : ∀ e, Rl (ft (cN e)) (gt (cN e)) ∧ Rl (ft (sN e)) (gt (sN e)))
    (data : Array ℕ) (hdata : data.size = 2 * 2 ^ k) (hd : ∀ i, i < 2 * 2 ^ k → Rl (fd data[i]!) (gd data[i]!)) :
    ∀ p, p < 2 * 2 ^ k →
      Rl ((joinRI (T (Fam A) (2 ^ k) (((ents.map (valP cN sN)).toArray).map ft) (splitRI (2 ^ k) (data.map fd))))[p]!)
         ((joinRI (T (Fam B) (2 ^ k) (((ents.map (valP cN sN)).toArray).map gt) (splitRI (2 ^ k) (data.map gd))))[p]!) := by
  have hd1 : (data.map fd).size = 2 * 2 ^ k := by rw [Array.size_map]; exact hdata
  have hd2 : (data.map gd).size = 2 * 2 ^ k := by rw [Array.size_map]; exact hdata
  rw [table_map ft cN sN, table_map gt cN sN]
  obtain ⟨in1, c1⟩ := hX.cells (Fam A) (fun e => ft (cN e)) (fun e => ft (sN e)) (data.map fd) hd1
  obtain ⟨in2, c2⟩ := hX.cells (Fam B) (fun e => gt (cN e)) (fun e => gt (sN e)) (data.map gd) hd2
  have e : ∀ i, i < 2 * 2 ^ k → Rl (data.map fd)[i]! (data.map gd)[i]! := by
    intro i hi
    rw [getElem!_map fd data i (by omega), getElem!_map gd data i (by omega)]
    exact hd i hi
  have rel := hX.net.sim (R2 Rl) _ _
    (fun ℓ d b u u' v v' hu hv => gNet_sim (hFam.sim hAB) (fun e => ft (cN e)) (fun e => ft (sN e))
      (fun e => gt (cN e)) (fun e => gt (sN e)) (fun e => (ht e).1) (fun e => (ht e).2) k ℓ d b hu hv)
    (prs (splitRI (2 ^ k) (data.map fd))) (prs (splitRI (2 ^ k) (data.map gd)))
    (fun q hq => by rw [in1 q hq, in2 q hq]; exact ⟨e q (by omega), e (2 ^ k + q) (by omega)⟩)
  refine halves (fun j hj => ?_) (fun j hj => ?_)
  · rw [(c1 j hj).1, (c2 j hj).1]; exact (rel j hj).1
  · rw [(c1 j hj).2, (c2 j hj).2]; exact (rel j hj).2

end xform

end Spq.FftErr
