/-
  No-overflow from a magnitude box: the arithmetics and the butterflies.  `arithU` / `aU`: flagged binary64 whose flag
  records only "no underflow" (no upper limit); `arithB` / `aB`: magnitude bounds `(B, p)`, `B` bounding the computed
  value, `p` saying that every exact result so far was below `T = 2^1023`; `RlO` relates the fully flagged run to the
  run on their product and is preserved by every operation (`simO`, `asimO`).  On `aB`, with data bounded by `U` and
  stored twiddles by 1, every butterfly of `Spq/Fft/Core.lean` has outputs bounded by `8·U`, and all its exact
  intermediate results are below `T` if `8·U < T`.
-/
import SpqProofs.Lemmas.FftErrSchedF64
namespace Spq.VmpErr
open Spq Spq.F64 Spq.Fft Spq.Fft.RelN Spq.FftErr

/-- no underflow: the exact result is 0 or at least the smallest normal number in magnitude -/
def NoUnd (q : ℚ) : Prop := q = 0 ∨ minNormal ≤ |q|

/-- the overflow guard used for the bounds: `2^1023` (below the overflow threshold `2^1024·(1 − 2^-54)`) -/
def Tov : ℚ := 2 ^ 1023

theorem Tov_le : Tov ≤ ovfThr := by
  unfold Tov
  rw [ovfThr_eq]
  have h1 : (2 : ℚ) ^ (1024 : ℤ) = 2 ^ 1023 * 2 := by
    rw [show (1024 : ℤ) = ((1024 : ℕ) : ℤ) from rfl, zpow_natCast, ← pow_succ]
  have h2 : (2 : ℚ) ^ (-54 : ℤ) ≤ 1 / 2 := by
    rw [show (-54 : ℤ) = -((54 : ℕ) : ℤ) from rfl, zpow_neg, zpow_natCast]; norm_num
  rw [h1]
  have hP : (0 : ℚ) < 2 ^ 1023 := by positivity
  generalize (2 : ℚ) ^ 1023 = P at hP ⊢
  generalize (2 : ℚ) ^ (-54 : ℤ) = z at h2 ⊢
  linarith [mul_nonneg (le_of_lt hP) (show (0 : ℚ) ≤ 1 - 2 * z by linarith)]

theorem normalRange_of {q : ℚ} (h1 : NoUnd q) (h2 : |q| < Tov) : NormalRange q := by
  rcases h1 with h | h
  · exact Or.inl h
  · exact Or.inr ⟨h, lt_of_lt_of_le h2 Tov_le⟩

def arithU : RArith (ℕ × Prop) where
  zero := lift 0
  add := fun x y => (F64.add x.1 y.1, x.2 ∧ y.2 ∧ NoUnd (val x.1 + val y.1))
  sub := fun x y => (F64.sub x.1 y.1, x.2 ∧ y.2 ∧ NoUnd (val x.1 - val y.1))
  mul := fun x y => (F64.mul x.1 y.1, x.2 ∧ y.2 ∧ NoUnd (val x.1 * val y.1))
  fma := fun x y z => (F64.fma x.1 y.1 z.1, x.2 ∧ y.2 ∧ z.2 ∧ NoUnd (val x.1 * val y.1 + val z.1))
  fms := fun x y z => (F64.fms x.1 y.1 z.1, x.2 ∧ y.2 ∧ z.2 ∧ NoUnd (val x.1 * val y.1 - val z.1))

def aU : Arith (ℕ × Prop) :=
  ⟨arithU.add, arithU.sub, arithU.mul, fun x => (F64.neg x.1, x.2), arithU.fma, arithU.fms⟩

/-- magnitude bounds: `κ = 1 + 2^-53` per rounding -/
def kap : ℚ := 1 + u64

def arithB : RArith (ℚ × Prop) where
  zero := (0, True)
  add := fun x y => ((x.1 + y.1) * kap, x.2 ∧ y.2 ∧ x.1 + y.1 < Tov)
  sub := fun x y => ((x.1 + y.1) * kap, x.2 ∧ y.2 ∧ x.1 + y.1 < Tov)
  mul := fun x y => (x.1 * y.1 * kap, x.2 ∧ y.2 ∧ x.1 * y.1 < Tov)
  fma := fun x y z => ((x.1 * y.1 + z.1) * kap, x.2 ∧ y.2 ∧ z.2 ∧ x.1 * y.1 + z.1 < Tov)
  fms := fun x y z => ((x.1 * y.1 + z.1) * kap, x.2 ∧ y.2 ∧ z.2 ∧ x.1 * y.1 + z.1 < Tov)

def aB : Arith (ℚ × Prop) := ⟨arithB.add, arithB.sub, arithB.mul, fun x => x, arithB.fma, arithB.fms⟩

def _root_.Spq.RArith.prod {α β : Type} (a : RArith α) (b : RArith β) : RArith (α × β) where
  zero := (a.zero, b.zero)
  add := fun x y => (a.add x.1 y.1, b.add x.2 y.2)
  sub := fun x y => (a.sub x.1 y.1, b.sub x.2 y.2)
  mul := fun x y => (a.mul x.1 y.1, b.mul x.2 y.2)
  fma := fun x y z => (a.fma x.1 y.1 z.1, b.fma x.2 y.2 z.2)
  fms := fun x y z => (a.fms x.1 y.1 z.1, b.fms x.2 y.2 z.2)

theorem _root_.Spq.RArith.prod_fst {α β : Type} (a : RArith α) (b : RArith β) :
    RArith.Sim (fun (Z : α × β) (Y : α) => Z.1 = Y) (a.prod b) a where
  zero := rfl
  add := fun h1 h2 => by subst h1 h2; rfl
  sub := fun h1 h2 => by subst h1 h2; rfl
  mul := fun h1 h2 => by subst h1 h2; rfl
  fma := fun h1 h2 h3 => by subst h1 h2 h3; rfl
  fms := fun h1 h2 h3 => by subst h1 h2 h3; rfl

theorem _root_.Spq.RArith.prod_snd {α β : Type} (a : RArith α) (b : RArith β) :
    RArith.Sim (fun (Z : α × β) (W : β) => Z.2 = W) (a.prod b) b where
  zero := rfl
  add := fun h1 h2 => by subst h1 h2; rfl
  sub := fun h1 h2 => by subst h1 h2; rfl
  mul := fun h1 h2 => by subst h1 h2; rfl
  fma := fun h1 h2 h3 => by subst h1 h2 h3; rfl
  fms := fun h1 h2 h3 => by subst h1 h2 h3; rfl

abbrev arithUB : RArith ((ℕ × Prop) × (ℚ × Prop)) := arithU.prod arithB

def aUB : Arith ((ℕ × Prop) × (ℚ × Prop)) := Arith.ofR arithUB fun x => (aU.neg x.1, aB.neg x.2)

/-- same pattern; bound nonnegative; underflow-flag and bound-flag ⇒ full flag, finite, magnitude bounded -/
def RlO (X : ℕ × Prop) (Z : (ℕ × Prop) × (ℚ × Prop)) : Prop :=
  X.1 = Z.1.1 ∧ 0 ≤ Z.2.1 ∧ (Z.1.2 → Z.2.2 → X.2 ∧ Fin64 X.1 ∧ |val X.1| ≤ Z.2.1)

theorem kap_pos : 0 < kap := by unfold kap; have := u64_pos; linarith
theorem kap_ge : 1 ≤ kap := by unfold kap; have := u64_pos; linarith

theorem abs_le_kap {r q : ℚ} (h : |r - q| ≤ u64 * |q|) : |r| ≤ |q| * kap := by
  have : r = (r - q) + q := by ring
  calc |r| = |(r - q) + q| := by rw [← this]
    _ ≤ |r - q| + |q| := abs_add_le _ _
    _ ≤ |q| * kap := by unfold kap; linarith

theorem abs_add_le' {a b A B : ℚ} (ha : |a| ≤ A) (hb : |b| ≤ B) : |a + b| ≤ A + B :=
  le_trans (abs_add_le _ _) (add_le_add ha hb)
theorem abs_sub_le' {a b A B : ℚ} (ha : |a| ≤ A) (hb : |b| ≤ B) : |a - b| ≤ A + B := by
  rw [sub_eq_add_neg]
  exact le_trans (abs_add_le _ _) (add_le_add ha (by rw [abs_neg]; exact hb))
theorem abs_mul_le' {a b A B : ℚ} (ha : |a| ≤ A) (hb : |b| ≤ B) : |a * b| ≤ A * B := by
  rw [abs_mul]
  exact mul_le_mul ha hb (abs_nonneg _) (le_trans (abs_nonneg _) ha)

theorem flag_step {r : ℕ} {q E : ℚ} (hnu : NoUnd q) (hq : |q| ≤ E) (hlt : E < Tov)
    (hr : NormalRange q → Fin64 r ∧ |val r - q| ≤ u64 * |q|) : NormalRange q ∧ Fin64 r ∧ |val r| ≤ E * kap := by
  have hn := normalRange_of hnu (lt_of_le_of_lt hq hlt)
  obtain ⟨f, e⟩ := hr hn
  exact ⟨hn, f, le_trans (abs_le_kap e) (mul_le_mul_of_nonneg_right hq (le_of_lt kap_pos))⟩

theorem simO : RArith.Sim RlO arithOk arithUB where
  zero := ⟨rfl, le_refl _, fun _ _ => ⟨fin64_zero, fin64_zero, by show |val 0| ≤ (0 : ℚ); rw [val_zero, abs_zero]⟩⟩
  add := by
    rintro a a' b b' ⟨e1, n1, r1⟩ ⟨e2, n2, r2⟩
    refine ⟨by show F64.add a.1 b.1 = F64.add a'.1.1 b'.1.1; rw [e1, e2], mul_nonneg (add_nonneg n1 n2) (le_of_lt kap_pos), ?_⟩
    rintro ⟨fa, fb, hnu⟩ ⟨pa, pb, hlt⟩
    obtain ⟨x1, x2, x3⟩ := r1 fa pa
    obtain ⟨y1, y2, y3⟩ := r2 fb pb
    rw [← e1, ← e2] at hnu
    obtain ⟨hn, f, b⟩ := flag_step hnu (abs_add_le' x3 y3) hlt (fun hn => add_std a.1 b.1 hn.noOvf)
    exact ⟨⟨x1, y1, hn⟩, f, b⟩
  sub := by
    rintro a a' b b' ⟨e1, n1, r1⟩ ⟨e2, n2, r2⟩
    refine ⟨by show F64.sub a.1 b.1 = F64.sub a'.1.1 b'.1.1; rw [e1, e2], mul_nonneg (add_nonneg n1 n2) (le_of_lt kap_pos), ?_⟩
    rintro ⟨fa, fb, hnu⟩ ⟨pa, pb, hlt⟩
    obtain ⟨x1, x2, x3⟩ := r1 fa pa
    obtain ⟨y1, y2, y3⟩ := r2 fb pb
    rw [← e1, ← e2] at hnu
    obtain ⟨hn, f, b⟩ := flag_step hnu (abs_sub_le' x3 y3) hlt (fun hn => sub_std a.1 b.1 y2.1 hn.noOvf)
    exact ⟨⟨x1, y1, hn⟩, f, b⟩
  mul := by
    rintro a a' b b' ⟨e1, n1, r1⟩ ⟨e2, n2, r2⟩
    refine ⟨by show F64.mul a.1 b.1 = F64.mul a'.1.1 b'.1.1; rw [e1, e2], mul_nonneg (mul_nonneg n1 n2) (le_of_lt kap_pos), ?_⟩
    rintro ⟨fa, fb, hnu⟩ ⟨pa, pb, hlt⟩
    obtain ⟨x1, x2, x3⟩ := r1 fa pa
    obtain ⟨y1, y2, y3⟩ := r2 fb pb
    rw [← e1, ← e2] at hnu
    obtain ⟨hn, f, b⟩ := flag_step hnu (abs_mul_le' x3 y3) hlt
      (fun hn => ⟨(mul_std a.1 b.1 hn.noOvf).1, (mul_std a.1 b.1 hn.noOvf).2.1 hn⟩)
    exact ⟨⟨x1, y1, hn⟩, f, b⟩
  fma := by
    rintro a a' b b' c c' ⟨e1, n1, r1⟩ ⟨e2, n2, r2⟩ ⟨e3, n3, r3⟩
    refine ⟨by show F64.fma a.1 b.1 c.1 = F64.fma a'.1.1 b'.1.1 c'.1.1; rw [e1, e2, e3],
      mul_nonneg (add_nonneg (mul_nonneg n1 n2) n3) (le_of_lt kap_pos), ?_⟩
    rintro ⟨fa, fb, fc, hnu⟩ ⟨pa, pb, pc, hlt⟩
    obtain ⟨x1, x2, x3⟩ := r1 fa pa
    obtain ⟨y1, y2, y3⟩ := r2 fb pb
    obtain ⟨z1, z2, z3⟩ := r3 fc pc
    rw [← e1, ← e2, ← e3] at hnu
    obtain ⟨hn, f, b⟩ := flag_step hnu (abs_add_le' (abs_mul_le' x3 y3) z3) hlt
      (fun hn => ⟨(fma_std a.1 b.1 c.1 hn.noOvf).1, (fma_std a.1 b.1 c.1 hn.noOvf).2.1 hn⟩)
    exact ⟨⟨x1, y1, z1, hn⟩, f, b⟩
  fms := by
    rintro a a' b b' c c' ⟨e1, n1, r1⟩ ⟨e2, n2, r2⟩ ⟨e3, n3, r3⟩
    refine ⟨by show F64.fms a.1 b.1 c.1 = F64.fms a'.1.1 b'.1.1 c'.1.1; rw [e1, e2, e3],
      mul_nonneg (add_nonneg (mul_nonneg n1 n2) n3) (le_of_lt kap_pos), ?_⟩
    rintro ⟨fa, fb, fc, hnu⟩ ⟨pa, pb, pc, hlt⟩
    obtain ⟨x1, x2, x3⟩ := r1 fa pa
    obtain ⟨y1, y2, y3⟩ := r2 fb pb
    obtain ⟨z1, z2, z3⟩ := r3 fc pc
    rw [← e1, ← e2, ← e3] at hnu
    obtain ⟨hn, f, b⟩ := flag_step hnu (abs_sub_le' (abs_mul_le' x3 y3) z3) hlt
      (fun hn => ⟨(fms_std a.1 b.1 c.1 z2.1 hn.noOvf).1, (fms_std a.1 b.1 c.1 z2.1 hn.noOvf).2.1 hn⟩)
    exact ⟨⟨x1, y1, z1, hn⟩, f, b⟩

theorem asimO : ASim RlO aOk aUB :=
  ASim.ofR simO (fun x => (F64.neg x.1, x.2)) (fun x => (aU.neg x.1, aB.neg x.2)) (by
    rintro a a' ⟨e1, n1, r1⟩
    refine ⟨by show F64.neg a.1 = F64.neg a'.1.1; rw [e1], n1, ?_⟩
    intro hu hp
    obtain ⟨x1, x2, x3⟩ := r1 hu hp
    exact ⟨x1, fin64_neg x2, by show |val (F64.neg a.1)| ≤ _; rw [val_neg x2.1, abs_neg]; exact x3⟩)

theorem asim_fst : ASim (fun (Z : (ℕ × Prop) × (ℚ × Prop)) (Y : ℕ × Prop) => Z.1 = Y) aUB aU :=
  ASim.ofR (arithU.prod_fst arithB) _ aU.neg fun h => by subst h; rfl

theorem asim_snd : ASim (fun (Z : (ℕ × Prop) × (ℚ × Prop)) (W : ℚ × Prop) => Z.2 = W) aUB aB :=
  ASim.ofR (arithU.prod_snd arithB) _ aB.neg fun h => by subst h; rfl

def Bd (U : ℚ) (x : ℚ × Prop) : Prop := x.2 ∧ 0 ≤ x.1 ∧ x.1 ≤ U

theorem kap_le : kap ≤ 9 / 8 := by unfold kap u64; norm_num

theorem Bd.mono {U U' : ℚ} {x : ℚ × Prop} (h : Bd U x) (hU : U ≤ U') : Bd U' x := ⟨h.1, h.2.1, le_trans h.2.2 hU⟩

theorem scale_le {E V : ℚ} (hE : 0 ≤ E) (hV : E * (9 / 8) ≤ V) : E * kap ≤ V :=
  le_trans (mul_le_mul_of_nonneg_left kap_le hE) hV

theorem bd_add {U1 U2 V : ℚ} {x y : ℚ × Prop} (hx : Bd U1 x) (hy : Bd U2 y) (hlt : U1 + U2 < Tov)
    (hV : (U1 + U2) * (9 / 8) ≤ V) : Bd V (aB.add x y) := by
  obtain ⟨p1, n1, b1⟩ := hx
  obtain ⟨p2, n2, b2⟩ := hy
  refine ⟨⟨p1, p2, by linarith⟩, mul_nonneg (add_nonneg n1 n2) (le_of_lt kap_pos), ?_⟩
  show (x.1 + y.1) * kap ≤ V
  refine le_trans (mul_le_mul_of_nonneg_right (add_le_add b1 b2) (le_of_lt kap_pos)) ?_
  exact scale_le (by linarith) hV

theorem bd_sub {U1 U2 V : ℚ} {x y : ℚ × Prop} (hx : Bd U1 x) (hy : Bd U2 y) (hlt : U1 + U2 < Tov)
    (hV : (U1 + U2) * (9 / 8) ≤ V) : Bd V (aB.sub x y) := bd_add hx hy hlt hV

theorem bd_mulw {U V : ℚ} {x w : ℚ × Prop} (hx : Bd U x) (hw : Bd 1 w) (hlt : U < Tov) (hV : U * (9 / 8) ≤ V) :
    Bd V (aB.mul x w) ∧ Bd V (aB.mul w x) := by
  obtain ⟨p1, n1, b1⟩ := hx
  obtain ⟨p2, n2, b2⟩ := hw
  have hU : 0 ≤ U := le_trans n1 b1
  have h1 : x.1 * w.1 ≤ U := by
    calc x.1 * w.1 ≤ U * 1 := mul_le_mul b1 b2 n2 hU
      _ = U := mul_one _
  have h2 : w.1 * x.1 ≤ U := by rw [mul_comm]; exact h1
  constructor
  · refine ⟨⟨p1, p2, lt_of_le_of_lt h1 hlt⟩, mul_nonneg (mul_nonneg n1 n2) (le_of_lt kap_pos), ?_⟩
    show x.1 * w.1 * kap ≤ V
    exact le_trans (mul_le_mul_of_nonneg_right h1 (le_of_lt kap_pos)) (scale_le hU hV)
  · refine ⟨⟨p2, p1, lt_of_le_of_lt h2 hlt⟩, mul_nonneg (mul_nonneg n2 n1) (le_of_lt kap_pos), ?_⟩
    show w.1 * x.1 * kap ≤ V
    exact le_trans (mul_le_mul_of_nonneg_right h2 (le_of_lt kap_pos)) (scale_le hU hV)

theorem bd_fmaw {U U3 V : ℚ} {x w z : ℚ × Prop} (hx : Bd U x) (hw : Bd 1 w) (hz : Bd U3 z) (hlt : U + U3 < Tov)
    (hV : (U + U3) * (9 / 8) ≤ V) :
    Bd V (aB.fma x w z) ∧ Bd V (aB.fma w x z) ∧ Bd V (aB.fms x w z) ∧ Bd V (aB.fms w x z) := by
  obtain ⟨p1, n1, b1⟩ := hx
  obtain ⟨p2, n2, b2⟩ := hw
  obtain ⟨p3, n3, b3⟩ := hz
  have hU : 0 ≤ U := le_trans n1 b1
  have h1 : x.1 * w.1 ≤ U := by
    calc x.1 * w.1 ≤ U * 1 := mul_le_mul b1 b2 n2 hU
      _ = U := mul_one _
  have h2 : w.1 * x.1 ≤ U := by rw [mul_comm]; exact h1
  have hU3 : 0 ≤ U3 := le_trans n3 b3
  have a1 : Bd V (((x.1 * w.1 + z.1) * kap, x.2 ∧ w.2 ∧ z.2 ∧ x.1 * w.1 + z.1 < Tov) : ℚ × Prop) := by
    refine ⟨⟨p1, p2, p3, by linarith⟩, mul_nonneg (add_nonneg (mul_nonneg n1 n2) n3) (le_of_lt kap_pos), ?_⟩
    show (x.1 * w.1 + z.1) * kap ≤ V
    exact le_trans (mul_le_mul_of_nonneg_right (add_le_add h1 b3) (le_of_lt kap_pos)) (scale_le (by linarith) hV)
  have a2 : Bd V (((w.1 * x.1 + z.1) * kap, w.2 ∧ x.2 ∧ z.2 ∧ w.1 * x.1 + z.1 < Tov) : ℚ × Prop) := by
    refine ⟨⟨p2, p1, p3, by linarith⟩, mul_nonneg (add_nonneg (mul_nonneg n2 n1) n3) (le_of_lt kap_pos), ?_⟩
    show (w.1 * x.1 + z.1) * kap ≤ V
    exact le_trans (mul_le_mul_of_nonneg_right (add_le_add h2 b3) (le_of_lt kap_pos)) (scale_le (by linarith) hV)
  exact ⟨a1, a2, a1, a2⟩

/-! Inside a butterfly every bound is a numeric multiple `c·U` of the data bound `U` (`8·U < T`): the side conditions
  of the operation lemmas become comparisons of numerals. -/
section scaled
variable {U : ℚ} (hU : 0 ≤ U) (hT : 8 * U < Tov)
include hU hT

theorem bdc_add {c1 c2 c : ℚ} {x y : ℚ × Prop} (hx : Bd (c1 * U) x) (hy : Bd (c2 * U) y) (h8 : c1 + c2 ≤ 8)
    (hc : (c1 + c2) * (9 / 8) ≤ c) : Bd (c * U) (aB.add x y) ∧ Bd (c * U) (aB.sub x y) := by
  have e8 := mul_le_mul_of_nonneg_right h8 hU
  have ec := mul_le_mul_of_nonneg_right hc hU
  have a := bd_add (V := c * U) hx hy (by rw [← add_mul]; exact lt_of_le_of_lt e8 hT) (by rw [← add_mul, mul_right_comm]; exact ec)
  exact ⟨a, a⟩

theorem bdc_mulw {c1 c : ℚ} {x w : ℚ × Prop} (hx : Bd (c1 * U) x) (hw : Bd 1 w) (h8 : c1 ≤ 8) (hc : c1 * (9 / 8) ≤ c) :
    Bd (c * U) (aB.mul x w) ∧ Bd (c * U) (aB.mul w x) := by
  have e8 := mul_le_mul_of_nonneg_right h8 hU
  have ec := mul_le_mul_of_nonneg_right hc hU
  exact bd_mulw (V := c * U) hx hw (lt_of_le_of_lt e8 hT) (by rw [mul_right_comm]; exact ec)

theorem bdc_fmaw {c1 c3 c : ℚ} {x w z : ℚ × Prop} (hx : Bd (c1 * U) x) (hw : Bd 1 w) (hz : Bd (c3 * U) z)
    (h8 : c1 + c3 ≤ 8) (hc : (c1 + c3) * (9 / 8) ≤ c) :
    Bd (c * U) (aB.fma x w z) ∧ Bd (c * U) (aB.fma w x z) ∧ Bd (c * U) (aB.fms x w z) ∧ Bd (c * U) (aB.fms w x z) := by
  have e8 := mul_le_mul_of_nonneg_right h8 hU
  have ec := mul_le_mul_of_nonneg_right hc hU
  exact bd_fmaw (V := c * U) hx hw hz (by rw [← add_mul]; exact lt_of_le_of_lt e8 hT) (by rw [← add_mul, mul_right_comm]; exact ec)

end scaled

def BfBd (f : Bf (ℚ × Prop)) : Prop :=
  ∀ U : ℚ, 0 ≤ U → 8 * U < Tov → ∀ ra ia rb ib wr wi, Bd U ra → Bd U ia → Bd U rb → Bd U ib → Bd 1 wr → Bd 1 wi →
    Bd (8 * U) (f ra ia rb ib wr wi).1 ∧ Bd (8 * U) (f ra ia rb ib wr wi).2.1 ∧
    Bd (8 * U) (f ra ia rb ib wr wi).2.2.1 ∧ Bd (8 * U) (f ra ia rb ib wr wi).2.2.2

theorem ctRef_bd : BfBd (ctRef aB) := by
  intro U hU hT ra ia rb ib wr wi h1 h2 h3 h4 h5 h6
  rw [← one_mul U] at h1 h2 h3 h4
  have m1 := (bdc_mulw hU hT (c := 9 / 8) h3 h5 (by norm_num) (by norm_num)).1
  have m2 := (bdc_mulw hU hT (c := 9 / 8) h4 h6 (by norm_num) (by norm_num)).1
  have m3 := (bdc_mulw hU hT (c := 9 / 8) h3 h6 (by norm_num) (by norm_num)).1
  have m4 := (bdc_mulw hU hT (c := 9 / 8) h4 h5 (by norm_num) (by norm_num)).1
  have nr := (bdc_add hU hT (c := 3) m1 m2 (by norm_num) (by norm_num)).2
  have ni := (bdc_add hU hT (c := 3) m3 m4 (by norm_num) (by norm_num)).1
  exact ⟨(bdc_add hU hT h1 nr (by norm_num) (by norm_num)).1, (bdc_add hU hT h2 ni (by norm_num) (by norm_num)).1,
    (bdc_add hU hT h1 nr (by norm_num) (by norm_num)).2, (bdc_add hU hT h2 ni (by norm_num) (by norm_num)).2⟩

theorem ctFma_bd : BfBd (ctFma aB) := by
  intro U hU hT ra ia rb ib wr wi h1 h2 h3 h4 h5 h6
  rw [← one_mul U] at h1 h2 h3 h4
  have m1 := (bdc_mulw hU hT (c := 9 / 8) h4 h6 (by norm_num) (by norm_num)).1
  have m2 := (bdc_mulw hU hT (c := 9 / 8) h3 h6 (by norm_num) (by norm_num)).1
  have nr := (bdc_fmaw hU hT (c := 3) h3 h5 m1 (by norm_num) (by norm_num)).2.2.1
  have ni := (bdc_fmaw hU hT (c := 3) h4 h5 m2 (by norm_num) (by norm_num)).1
  exact ⟨(bdc_add hU hT h1 nr (by norm_num) (by norm_num)).1, (bdc_add hU hT h2 ni (by norm_num) (by norm_num)).1,
    (bdc_add hU hT h1 nr (by norm_num) (by norm_num)).2, (bdc_add hU hT h2 ni (by norm_num) (by norm_num)).2⟩

theorem citFmaB_bd : BfBd (citFmaB aB) := by
  intro U hU hT ra ia rb ib wr wi h1 h2 h3 h4 h5 h6
  rw [← one_mul U] at h1 h2 h3 h4
  have m1 := (bdc_mulw hU hT (c := 9 / 8) h4 h5 (by norm_num) (by norm_num)).2
  have m2 := (bdc_mulw hU hT (c := 9 / 8) h3 h5 (by norm_num) (by norm_num)).2
  have tr := (bdc_fmaw hU hT (c := 3) h3 h6 m1 (by norm_num) (by norm_num)).2.1
  have ti := (bdc_fmaw hU hT (c := 3) h4 h6 m2 (by norm_num) (by norm_num)).2.2.2
  exact ⟨(bdc_add hU hT h1 tr (by norm_num) (by norm_num)).2, (bdc_add hU hT h2 ti (by norm_num) (by norm_num)).2,
    (bdc_add hU hT h1 tr (by norm_num) (by norm_num)).1, (bdc_add hU hT h2 ti (by norm_num) (by norm_num)).1⟩

theorem ictRef_bd : BfBd (ictRef aB) := by
  intro U hU hT ra ia rb ib wr wi h1 h2 h3 h4 h5 h6
  rw [← one_mul U] at h1 h2 h3 h4
  have rd := (bdc_add hU hT (c := 9 / 4) h1 h3 (by norm_num) (by norm_num)).2
  have id := (bdc_add hU hT (c := 9 / 4) h2 h4 (by norm_num) (by norm_num)).2
  have m1 := (bdc_mulw hU hT (c := 3) rd h5 (by norm_num) (by norm_num)).1
  have m2 := (bdc_mulw hU hT (c := 3) id h6 (by norm_num) (by norm_num)).1
  have m3 := (bdc_mulw hU hT (c := 3) rd h6 (by norm_num) (by norm_num)).1
  have m4 := (bdc_mulw hU hT (c := 3) id h5 (by norm_num) (by norm_num)).1
  exact ⟨(bdc_add hU hT h1 h3 (by norm_num) (by norm_num)).1, (bdc_add hU hT h2 h4 (by norm_num) (by norm_num)).1,
    (bdc_add hU hT m1 m2 (by norm_num) (by norm_num)).2, (bdc_add hU hT m3 m4 (by norm_num) (by norm_num)).1⟩

theorem ictFma_bd : BfBd (ictFma aB) := by
  intro U hU hT ra ia rb ib wr wi h1 h2 h3 h4 h5 h6
  rw [← one_mul U] at h1 h2 h3 h4
  have rd := (bdc_add hU hT (c := 9 / 4) h1 h3 (by norm_num) (by norm_num)).2
  have id := (bdc_add hU hT (c := 9 / 4) h2 h4 (by norm_num) (by norm_num)).2
  have m1 := (bdc_mulw hU hT (c := 3) id h6 (by norm_num) (by norm_num)).1
  have m2 := (bdc_mulw hU hT (c := 3) rd h6 (by norm_num) (by norm_num)).1
  exact ⟨(bdc_add hU hT h1 h3 (by norm_num) (by norm_num)).1, (bdc_add hU hT h2 h4 (by norm_num) (by norm_num)).1,
    (bdc_fmaw hU hT rd h5 m1 (by norm_num) (by norm_num)).2.2.1, (bdc_fmaw hU hT id h5 m2 (by norm_num) (by norm_num)).1⟩

theorem icitFmaB_bd : BfBd (icitFmaB aB) := by
  intro U hU hT ra ia rb ib wr wi h1 h2 h3 h4 h5 h6
  rw [← one_mul U] at h1 h2 h3 h4
  have rd := (bdc_add hU hT (c := 9 / 4) h1 h3 (by norm_num) (by norm_num)).2
  have id := (bdc_add hU hT (c := 9 / 4) h2 h4 (by norm_num) (by norm_num)).2
  have m1 := (bdc_mulw hU hT (c := 3) id h5 (by norm_num) (by norm_num)).2
  have m2 := (bdc_mulw hU hT (c := 3) rd h5 (by norm_num) (by norm_num)).2
  exact ⟨(bdc_add hU hT h1 h3 (by norm_num) (by norm_num)).1, (bdc_add hU hT h2 h4 (by norm_num) (by norm_num)).1,
    (bdc_fmaw hU hT rd h6 m1 (by norm_num) (by norm_num)).2.1, (bdc_fmaw hU hT id h6 m2 (by norm_num) (by norm_num)).2.2.2⟩

theorem BfBd.swapW {f : Bf (ℚ × Prop)} (h : BfBd f) : BfBd (fun ra ia rb ib wr wi => f ra ia rb ib wi wr) :=
  fun U hU hT ra ia rb ib wr wi h1 h2 h3 h4 h5 h6 => h U hU hT ra ia rb ib wi wr h1 h2 h3 h4 h6 h5

/-! The bound arithmetic does not see signs: `aB.sub` is `aB.add`, `aB.fms` is `aB.fma`, `aB.neg` the identity.  So on
`aB` an `i·ω` butterfly that differs from the plain one in signs and in which twiddle component multiplies what IS the
plain one with `wr`, `wi` exchanged, by unfolding. -/
theorem citRef_bd : BfBd (citRef aB) := ctRef_bd.swapW
theorem icitRef_bd : BfBd (icitRef aB) := ictRef_bd.swapW
theorem citFmaN_bd : BfBd (citFmaN aB) := ctFma_bd.swapW
theorem icitFmaN_bd : BfBd (icitFmaN aB) := ictFma_bd.swapW

structure FlavBd (F : Flav (ℚ × Prop)) : Prop where
  ct : BfBd F.ct
  cit : BfBd F.cit
  ctS : BfBd F.ctS
  citS : BfBd F.citS
  ct2 : BfBd F.ct2

theorem fwdRef_bd : FlavBd (fwdRef aB) := ⟨ctRef_bd, citRef_bd, ctRef_bd, citRef_bd, ctRef_bd⟩
theorem fwdFma_bd : FlavBd (fwdFma aB) := ⟨ctFma_bd, citFmaB_bd, ctFma_bd, citFmaN_bd, ctRef_bd⟩
theorem invRef_bd : FlavBd (invRef aB) := ⟨ictRef_bd, icitRef_bd, ictRef_bd, icitRef_bd, ictRef_bd⟩
theorem invFma_bd : FlavBd (invFma aB) := ⟨ictFma_bd, icitFmaB_bd, ictFma_bd, icitFmaN_bd, ictRef_bd⟩

end Spq.VmpErr
