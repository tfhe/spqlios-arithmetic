/-
  complex double → torus32 (`cplx_to_tnx32_ref`, `cplx_to_tnx32_avx2_fma`) at lane level.
-/
import SpqProofs.Lemmas.ConvToTnx

namespace Spq.Conv
open Spq.F64

theorem xor_two_pow_hi (n a lo : Nat) (hlo : lo < 2 ^ n) :
    (2 ^ n * a + lo) ^^^ 2 ^ n = 2 ^ n * (a ^^^ 1) + lo := by
  apply Nat.eq_of_testBit_eq
  intro i
  rw [Nat.testBit_xor, Nat.testBit_two_pow_mul_add _ hlo, Nat.testBit_two_pow_mul_add _ hlo, Nat.testBit_two_pow]
  by_cases hi : i < n
  · have : ¬ n = i := by omega
    simp [hi, this]
  · simp only [hi, if_false]
    rw [Nat.testBit_xor]
    congr 1
    rcases Nat.eq_zero_or_pos (i - n) with h0 | hpos
    · have : n = i := by omega
      simp [this]
    · have : ¬ n = i := by omega
      have h1 : (1 : Nat).testBit (i - n) = false :=
        Bool.eq_false_iff.mpr (fun h => by
          have := Nat.testBit_one_eq_true_iff_self_eq_zero.mp h
          omega)
      simp [this, h1]

theorem xor_top32 (v : Nat) (hv : v < 4294967296) : v ^^^ 2147483648 = (v + 2147483648) % 4294967296 := by
  have h31 : (2 : Nat) ^ 31 = 2147483648 := by norm_num
  have hsplit : v = 2 ^ 31 * (v / 2147483648) + v % 2147483648 := by rw [h31]; omega
  have hlo : v % 2147483648 < 2 ^ 31 := by rw [h31]; omega
  have := xor_two_pow_hi 31 (v / 2147483648) (v % 2147483648) hlo
  rw [← hsplit, h31] at this
  rw [this]
  have ha : v / 2147483648 = 0 ∨ v / 2147483648 = 1 := by omega
  rcases ha with h | h <;> rw [h] <;> simp <;> omega

/-- `0.5 + (double)(3<<19)` -/
theorem tnx32_C0_eq : add D_HALF (ofInt 1572864) = 4699506213308596224 := by decide +kernel
theorem d2p32_eq : ofInt 4294967296 = 4751297606875873280 := by decide +kernel

theorem decode_tnx32_C0 : decode 4699506213308596224 = ⟨false, 6755401588539392, -32⟩ := by
  have := decode_pos_pattern 1043 2251801961168896 (by norm_num) (by norm_num) (by norm_num)
  simpa using this

theorem decode_d2p32 : decode 4751297606875873280 = ⟨false, 4503599627370496, -20⟩ := by
  have := decode_pos_pattern 1055 0 (by norm_num) (by norm_num) (by norm_num)
  simpa using this

/-- `R = (0.5 + 3·2^19) * divisor`, exactly -/
theorem decode_toTnx32R (j : Int) (hj1 : -1022 ≤ j) (hj2 : j ≤ 900) :
    decode (toTnx32R (pow2 j)) = ⟨false, 6755401588539392, j - 32⟩ := by
  unfold toTnx32R
  rw [tnx32_C0_eq, (decode_mul_pow2 decode_tnx32_C0 (by norm_num) (by norm_num) j hj1 (by omega) (by omega) (by omega)).1,
    neg_add_eq_sub]

/-- `factor = 2^32 / divisor`, exactly -/
theorem decode_toTnx32Factor (j : Int) (hj1 : -990 ≤ j) (hj2 : j ≤ 1000) :
    decode (toTnx32Factor (pow2 j)) = ⟨false, 4503599627370496, -20 - j⟩ := by
  unfold toTnx32Factor
  rw [d2p32_eq, div_pow2_of_decode decode_d2p32 (decode_pow2 j (by omega) (by omega)) (by norm_num)]
  have hpw : (4503599627370496 : Nat) = 2 ^ 52 := by norm_num
  have := decode_pack_exact false 4503599627370496 59 (-20 - (j - 52) - 111) 0 (by norm_num) (by norm_num)
    (by push_cast; omega) (by push_cast; omega)
  rw [this, pow_zero, Nat.mul_one]
  have e2 : (-20 : Int) - (j - 52) - 111 + ((59 : Nat) : Int) - ((0 : Nat) : Int) = -20 - j := by push_cast; omega
  rw [e2]

theorem low32 (A q : Nat) (hq : 4503599627370496 ≤ q) :
    (A * 4503599627370496 + (q - 4503599627370496)) % 4294967296 = q % 4294967296 := by
  omega

theorem s32_flip_congr (q : Nat) :
    (s32 ((q % 4294967296 + 2147483648) % 4294967296) - ((q : Int) - 6755401588539392)) % 4294967296 = 0 := by
  unfold s32; omega

theorem s32_range (v : Nat) : -2147483648 ≤ s32 (v % 4294967296) ∧ s32 (v % 4294967296) < 2147483648 := by
  unfold s32; omega

theorem wrap32_congr (v : Int) : (wrap32 v - v) % 4294967296 = 0 := by
  unfold wrap32; omega

theorem wrap32_range (v : Int) : -2147483648 ≤ wrap32 v ∧ wrap32 v < 2147483648 := by
  unfold wrap32; omega

/-- `cplx_to_tnx32_avx2_fma`, one lane: for `|x/d| < 2^18` the result is `n mod 2^32` (as an int32) for an
    integer `n` within 1/2 of `x·2^32/d` -/
theorem cplxToTnx32AvxLane_spec (j : Int) (hj1 : -1022 ≤ j) (hj2 : j ≤ 900) (x : Nat)
    (hdom : |toScaled x| < 262144 * toScaled (pow2 j)) :
    ∃ n : Int, (cplxToTnx32AvxLane (toTnx32R (pow2 j)) x - n) % 4294967296 = 0 ∧
      2 * |n * toScaled (pow2 j) - toScaled x * 4294967296| ≤ toScaled (pow2 j) ∧
      -2147483648 ≤ cplxToTnx32AvxLane (toTnx32R (pow2 j)) x ∧ cplxToTnx32AvxLane (toTnx32R (pow2 j)) x < 2147483648 := by
  -- `u` = ulp of the constant `R = (1/2 + 3·2^19)·d`; the divisor is `2^32·u`
  obtain ⟨u, hu⟩ : ∃ u : Int, u = 2 ^ ((j - 32 + 1074).toNat) := ⟨_, rfl⟩
  have hupos : 0 < u := by rw [hu]; positivity
  have hds : toScaled (pow2 j) = 4294967296 * u := by
    rw [toScaled_pow2 j hj1 (by omega), hu, show (4294967296 : Int) = 2 ^ 32 by norm_num, ← pow_add]; congr 1; omega
  rw [hds] at hdom ⊢
  obtain ⟨q, hq1, hq, hpat, herr⟩ := add_magic_val (x := x) (decode_toTnx32R j hj1 hj2) 1125899906842624
    (by norm_num) (by norm_num) (by omega) (by rw [← hu]; push_cast; linarith only [hdom])
  rw [← hu] at herr
  have hlane : cplxToTnx32AvxLane (toTnx32R (pow2 j)) x = s32 ((q % 4294967296 + 2147483648) % 4294967296) := by
    unfold cplxToTnx32AvxLane
    rw [hpat, low32 _ q hq1, xor_top32 _ (Nat.mod_lt _ (by norm_num))]
  rw [hlane]
  refine ⟨(q : Int) - 6755401588539392, s32_flip_congr q, ?_, (s32_range _).1, (s32_range _).2⟩
  have : ((q : Int) - 6755401588539392) * (4294967296 * u) - toScaled x * 4294967296
      = 4294967296 * (((q : Int) - (6755401588539392 : Nat)) * u - toScaled x) := by push_cast; ring
  rw [this, abs_mul, abs_of_pos (by norm_num : (0 : Int) < 4294967296)]
  linarith only [herr]

/-- `cplx_to_tnx32_ref`, one lane: same contract (for `|x/d| < 2^30`, which contains the documented `2^18`) -/
theorem cplxToTnx32RefLane_spec (j : Int) (hj1 : -990 ≤ j) (hj2 : j ≤ 1000) (x : Nat)
    (hdom : |toScaled x| < 1073741824 * toScaled (pow2 j)) :
    ∃ n : Int, (cplxToTnx32RefLane (toTnx32Factor (pow2 j)) x - n) % 4294967296 = 0 ∧
      2 * |n * toScaled (pow2 j) - toScaled x * 4294967296| ≤ toScaled (pow2 j) ∧
      -2147483648 ≤ cplxToTnx32RefLane (toTnx32Factor (pow2 j)) x ∧ cplxToTnx32RefLane (toTnx32Factor (pow2 j)) x < 2147483648 := by
  obtain ⟨b, hb⟩ : ∃ b : Nat, (b : Int) = j - 32 + 1074 := ⟨(j - 32 + 1074).toNat, by omega⟩
  have hds : toScaled (pow2 j) = 2 ^ b * 4294967296 := by
    rw [toScaled_pow2 j (by omega) (by omega)]
    have h32 : (4294967296 : Int) = 2 ^ 32 := by norm_num
    rw [h32, ← pow_add]; congr 1; omega
  rw [hds] at hdom ⊢
  have hb0 : (0 : Int) < 2 ^ b := by positivity
  have hcore := quot_round_core (x := x) (decode_toTnx32Factor j hj1 hj2) b (by rw [hb]; ring)
    (by linarith only [hdom, hb0])
  refine ⟨toIntTrunc (rint (mul x (toTnx32Factor (pow2 j)))), wrap32_congr _, ?_, (wrap32_range _).1, (wrap32_range _).2⟩
  have hexpr : toIntTrunc (rint (mul x (toTnx32Factor (pow2 j)))) * (2 ^ b * 4294967296) - toScaled x * 4294967296
      = 4294967296 * (toIntTrunc (rint (mul x (toTnx32Factor (pow2 j)))) * 2 ^ b - toScaled x) := by ring
  rw [hexpr, abs_mul, abs_of_pos (by norm_num : (0 : Int) < 4294967296)]
  linarith only [hcore]

end Spq.Conv
