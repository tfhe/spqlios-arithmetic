/-
  C16 helpers: under the abstraction relation `Prog.R`, the value clauses of the C08 / C09 / C05
  specifications (stated on heap cells, wrapping int64) are the abstract exact-integer values of
  `Prog.aval`, provided the exact result fits an int64 (resp. the `2^62` input bound of `normalize`).
-/
import SpqProofs.Lemmas.ProgSim
import SpqProofs.Lemmas.ProgOps
import SpqProofs.Properties.C08
import SpqProofs.Properties.C09
import SpqProofs.Properties.C05
namespace Spq.Prog
open Spq Heap Spq.C08 Rq

variable {nn hsz : Nat} {vars : List Var} {env : Env} {h : Heap Int}

theorem ext_of_lt (env : Env) (a : Var) (i c : Nat) (hi : i < a.size) : ext env a i c = (env a).coef i c := by
  simp [ext, hi]
theorem ext_of_ge (env : Env) (a : Var) (i : Nat) (hi : ¬ i < a.size) : ext env a i = fun _ => 0 := by
  funext c; simp [ext, hi]

theorem R_post (wf : WF nn hsz vars) (hR : R nn hsz vars env h) (op : Op) (hd : op.dst ∈ vars)
    {val : Nat → Nat → Option Int}
    (post : VecPost nn h.mem (cstep nn op h).mem op.dst.off op.dst.size op.dst.stride val)
    (nf : (cstep nn op h).ok = h.ok)
    (hval : ∀ i c, i < op.dst.size → c < nn → val i c = some (aval nn env op i c)) :
    R nn hsz vars (astep nn op env) (cstep nn op h) :=
  R_step wf env h _ op.dst hd _ hR post.1 nf (fun i c hi hc => (post.2.1 i c hi hc).trans (hval i c hi hc))
    post.2.2

theorem addVal_abs (hR : R nn hsz vars env h) (a b : Var) (ha : a ∈ vars) (hb : b ∈ vars) (i c : Nat)
    (hc : c < nn) (hfit : I64 (ext env a i c + ext env b i c)) :
    addVal i64Ops h.mem a.off a.size a.stride b.off b.size b.stride i c = ext env a i c + ext env b i c := by
  unfold addVal ext at *
  simp only [show i64Ops.zero = (0 : Int) from rfl]
  by_cases h1 : i < a.size <;> by_cases h2 : i < b.size
  · simp only [h1, h2, and_self, if_true] at hfit ⊢
    rw [getD_of_R hR a ha i c h1 hc, getD_of_R hR b hb i c h2 hc]; exact addS_exact _ _ hfit
  · simp only [h1, h2, and_false, if_true, if_false, Int.add_zero]
    exact getD_of_R hR a ha i c h1 hc
  · simp only [h1, h2, false_and, if_true, if_false, Int.zero_add]
    exact getD_of_R hR b hb i c h2 hc
  · simp [h1, h2]

theorem subVal_abs (hR : R nn hsz vars env h) (a b : Var) (ha : a ∈ vars) (hb : b ∈ vars) (i c : Nat)
    (hc : c < nn) (hfit : I64 (ext env a i c - ext env b i c)) :
    subVal i64Ops h.mem a.off a.size a.stride b.off b.size b.stride i c = ext env a i c - ext env b i c := by
  unfold subVal ext at *
  simp only [show i64Ops.zero = (0 : Int) from rfl]
  by_cases h1 : i < a.size <;> by_cases h2 : i < b.size
  · simp only [h1, h2, and_self, if_true] at hfit ⊢
    rw [getD_of_R hR a ha i c h1 hc, getD_of_R hR b hb i c h2 hc]; exact subS_exact _ _ hfit
  · simp only [h1, h2, and_false, if_true, if_false, Int.sub_zero]
    exact getD_of_R hR a ha i c h1 hc
  · simp only [h1, h2, false_and, if_true, if_false, Int.zero_sub] at hfit ⊢
    rw [getD_of_R hR b hb i c h2 hc]; exact negS_exact _ hfit
  · simp [h1, h2]

theorem negVal_abs (hR : R nn hsz vars env h) (a : Var) (ha : a ∈ vars) (i c : Nat)
    (hc : c < nn) (hfit : I64 (- ext env a i c)) :
    negVal i64Ops h.mem a.off a.size a.stride i c = - ext env a i c := by
  unfold negVal ext at *
  simp only [show i64Ops.zero = (0 : Int) from rfl]
  by_cases h1 : i < a.size
  · simp only [h1, if_true] at hfit ⊢
    rw [getD_of_R hR a ha i c h1 hc]; exact negS_exact _ hfit
  · simp [h1]

theorem copyVal_abs (hR : R nn hsz vars env h) (a : Var) (ha : a ∈ vars) (i c : Nat) (hc : c < nn) :
    copyVal i64Ops h.mem a.off a.size a.stride i c = ext env a i c := by
  unfold copyVal ext
  simp only [show i64Ops.zero = (0 : Int) from rfl]
  by_cases h1 : i < a.size
  · simp only [h1, if_true]; exact getD_of_R hR a ha i c h1 hc
  · simp [h1]

theorem readLimb_getD (hR : R nn hsz vars env h) (a : Var) (ha : a ∈ vars) (i : Nat) (hi : i < a.size)
    (j : Nat) (hj : j < nn) :
    (h.readLimb 0 (a.off + i * a.stride) nn).getD j 0 = ext env a i j := by
  rw [Array.getD_eq_getD_getElem?, getElem?_readLimb _ _ _ _ _ hj, Option.getD_some,
    getD_of_R hR a ha i j hi hj, ext_of_lt _ _ _ _ hi]

theorem polyRot_zero (nn : Nat) (p : Int) (k : Nat) : polyRot nn p (fun _ => 0) k = 0 := by
  simp [polyRot]

theorem polyAut_zero (nn : Nat) (p : Int) (k : Nat) : polyAut nn p (fun _ => 0) k = 0 := by
  unfold polyAut
  apply sumTo_zero
  intro j _
  simp [autTerm]

/-- both kernels (pointer-equality test of the C code) give `X^p · a` -/
theorem rotLimb_abs (hn : 0 < nn) (hR : R nn hsz vars env h) (p : Int) (d a : Var) (ha : a ∈ vars)
    (i c : Nat) (hc : c < nn) (hfit : I64 (polyRot nn p (ext env a i) c)) :
    (rotLimb i64Ops nn p h d.off d.stride a.off a.size a.stride i)[c]? =
      some (polyRot nn p (ext env a i) c) := by
  by_cases hi : i < a.size
  · have e : rotLimb i64Ops nn p h d.off d.stride a.off a.size a.stride i =
        Coeffs.rotate i64Ops nn p (h.readLimb 0 (a.off + i * a.stride) nn) := by
      unfold rotLimb
      rw [if_pos hi]
      split
      · exact C09.rotate_inplace_eq i64Ops nn p _ (size_readLimb _ _ _ _)
      · rfl
    rw [e, (C09.rotate_spec i64Ops nn p _).2 c hc]
    congr 1
    exact rotCoeff_eq_polyRot nn hn p _ _ (fun j hj => readLimb_getD hR a ha i hi j hj) c hfit
  · rw [rotLimb_zero_ext i64Ops nn p h d.off d.stride a.off a.size a.stride i c (by omega) hc,
      ext_of_ge env a i hi, polyRot_zero]; rfl

/-- in place or out of place (whatever the prior content of the output limb) -/
theorem autLimb_abs (t : Nat) (hR : R (2 ^ t) hsz vars env h) (p : Int) (hp : p % 2 = 1) (d a : Var)
    (ha : a ∈ vars) (i c : Nat)
    (hfuel : i < a.size → d.off + i * d.stride = a.off + i * a.stride → t ≤ 64) (hc : c < 2 ^ t) (hfit : I64 (polyAut (2 ^ t) p (ext env a i) c)) :
    (autLimb i64Ops (2 ^ t) p h d.off d.stride a.off a.size a.stride i)[c]? =
      some (polyAut (2 ^ t) p (ext env a i) c) := by
  by_cases hi : i < a.size
  · obtain ⟨r0, hr0, e⟩ : ∃ r0 : Array Int, r0.size = 2 ^ t ∧
        autLimb i64Ops (2 ^ t) p h d.off d.stride a.off a.size a.stride i =
        Coeffs.automorphism i64Ops (2 ^ t) p (h.readLimb 0 (a.off + i * a.stride) (2 ^ t)) r0 := by
      unfold autLimb
      rw [if_pos hi]
      split
      · rename_i eq
        refine ⟨h.readLimb 0 (a.off + i * a.stride) (2 ^ t), size_readLimb _ _ _ _, ?_⟩
        exact C09.autom_inplace_eq i64Ops t (hfuel hi eq) p hp _ _ (size_readLimb _ _ _ _) (size_readLimb _ _ _ _)
      · exact ⟨_, size_readLimb _ _ _ _, rfl⟩
    obtain ⟨j, hj, ej⟩ := autPos_surj t p hp c hc
    obtain ⟨_, v, _⟩ := C09.autom_spec i64Ops t p hp (h.readLimb 0 (a.off + i * a.stride) (2 ^ t)) r0 hr0
    have v' := v j hj
    rw [ej] at v'
    rw [e, v']
    congr 1
    have pa := polyAut_at t p hp (ext env a i) j hj
    rw [ej] at pa
    rw [pa] at hfit ⊢
    exact autVal_eq (2 ^ t) p _ _ j (readLimb_getD hR a ha i hi j hj) hfit
  · rw [autLimb_zero_ext i64Ops (2 ^ t) p h d.off d.stride a.off a.size a.stride i c (by omega) hc,
      ext_of_ge env a i hi, polyAut_zero]; rfl

theorem coefLimbs_abs (hR : R nn hsz vars env h) (a : Var) (ha : a ∈ vars) (c : Nat) (hc : c < nn) :
    Norm.coefLimbs h.mem a.off a.size a.stride c = coefLimbs env a c := by
  unfold Norm.coefLimbs Norm.limbsFrom coefLimbs
  rw [List.range_eq_range']
  apply List.map_congr_left
  intro j hj
  simp only [List.mem_range'_1] at hj
  exact getD_of_R hR a ha j c (by omega) hc

theorem digitCell_abs (hR : R nn hsz vars env h) (k : Nat) (d a : Var) (ha : a ∈ vars) (i c : Nat)
    (hc : c < nn) :
    C05.digitCell k h.mem a.off a.size a.stride i c = aval nn env (.normalize k d a) i c := by
  show _ = (if i < a.size then (balancedDigits k (coefLimbs env a c)).1.getD i 0 else 0)
  unfold C05.digitCell
  rw [coefLimbs_abs hR a ha c hc, balancedDigits_eq]

end Spq.Prog
