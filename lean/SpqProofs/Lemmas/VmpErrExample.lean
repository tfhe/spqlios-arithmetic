/-
  C02 rounding budget: a concrete instance of every hypothesis of the end-to-end theorems (the statements are not
  vacuous).  `N = 2` (`k = 0`), `K = ℚ`, `ζ = i`, the all-reference module `exC` of `ProdErrExample.lean`, a `1 × 1`
  matrix `M = (3 + 4X)`, the vector `a = (1 + 2X)`, two output limbs (the second one is beyond the matrix).
-/
import SpqProofs.Lemmas.VmpErrTop
import SpqProofs.Lemmas.ProdErrExample
namespace Spq.VmpErr
open Finset Spq Spq.Module Spq.Fft Spq.Fft.Alg Spq.FftErr Spq.F64 Spq.Reim4 Spq.ProdErr Spq.Conv

theorem exVCfgOk : VCfgOk exC 0 z0 z0 z0 z0 := ⟨exCfgOk, by decide⟩

theorem exLimb : limbOf #[1, 2] 0 2 (2 * 2 ^ 0) = #[1, 2] := by decide
theorem exEntry : matEntry #[3, 4] 1 (2 * 2 ^ 0) 0 0 = #[3, 4] := by decide
theorem exVD : vecDft (Cfg.parts exC) (min 1 1) #[1, 2] 1 2 = #[4607182418800017408, 4611686018427387904] := by
  decide +kernel
theorem exMD : matDft (Cfg.parts exC) #[3, 4] 1 0 0 = #[4613937818241073152, 4616189618054758400] := by decide +kernel
theorem exCol : dlimb (vmpRes exC #[3, 4] 1 1 #[1, 2] 1 2 1) 0 (2 * 2 ^ 0) = stM exC 0 z0 z0 #[1, 2] #[3, 4] := by
  rw [exM]; decide +kernel

/-- the flags of the two cells of the accumulation are those of the one product `ProdErrExample` runs (one row,
    reference kernel), for any vector operand `u` and any flagged arithmetic `ar` on the lifted data (`pOk`: `arithOk`; `pU`: `arithU`) -/
theorem ex_okD_of (ar : RArith (ℕ × Prop)) (P : Parts (ℕ × Prop)) (u : Array ℕ)
    (hP : P = mkParts ar exC.nn exC.mulFma exC.addmulFma exC.vmpAvx
      (fun x => ((Cfg.parts exC).fft ((Cfg.parts exC).fromZnx x)).map lift))
    (hM : ∀ p, p < 2 * 2 ^ 0 →
      ((mulA ar exC.mulFma (2 ^ 0) (u.map lift) ((stF exC 0 z0 z0 #[3, 4]).map lift)).getD p
        ar.zero).2) :
    ∀ p, p < 2 * 2 ^ 0 →
      ((vmpApplyDftToDft P 1 (u.map lift) 1 (vmpPrepare P #[3, 4] 1 1) 1 1).getD
        (0 * (2 * 2 ^ 0) + p) ar.zero).2 := by
  have hD : matDft P #[3, 4] 1 0 0 = (matDft (Cfg.parts exC) #[3, 4] 1 0 0).map lift := by rw [hP]; rfl
  have har : P.ar = ar := by rw [hP]; rfl
  have hn : P.nn = 2 := by rw [hP]; rfl
  have hm : P.m = 1 := by unfold Parts.m; rw [hn]
  have hf : P.mulFma = false ∧ P.addmulFma = false := by rw [hP]; exact ⟨rfl, rfl⟩
  have hk : colKind P 1 1 0 = .sm := by unfold colKind; rw [if_neg (by omega)]
  have hT : ∀ row col, row < 1 → col < 1 → (matDft P #[3, 4] 1 row col).size = P.nn := by
    intro row col hr hc
    have : row = 0 := by omega
    have : col = 0 := by omega
    subst_vars
    rw [hD, exMD, Array.size_map, hn]; rfl
  obtain ⟨_, L, _, _⟩ := vmp_layout_g P (by omega) (by omega) (fun _ => hf) #[3, 4] 1 1 1 1
    (u.map lift) (fun _ => hT)
  obtain ⟨c1, c2⟩ := L 0 0 (by decide) (by omega) (fun _ => by decide)
  obtain ⟨m1, m2⟩ := (mulA_cells ar false 1 (by simp) (u.map lift)
    ((stF exC 0 z0 z0 #[3, 4]).map lift)).2 0 (by omega)
  have f1 := hM 0 (by norm_num)
  have f2 := hM 1 (by norm_num)
  have e0 : exC.mulFma = false := rfl
  have e1 : 2 ^ 0 = 1 := rfl
  rw [e0, e1] at f1 f2
  rw [m1] at f1
  rw [show (1 : ℕ) = 0 + 1 from rfl, m2] at f2
  rw [exFB] at f1 f2
  simp only [cellRe, cellIm, Bool.false_eq_true, if_false] at f1 f2
  rw [hk, hn] at c1 c2
  rw [hm] at c2
  rw [← har] at f1 f2 ⊢
  intro p hp
  have hp' : p = 0 ∨ p = 1 := by omega
  rcases hp' with rfl | rfl
  · rw [show (0 * (2 * 2 ^ 0) + 0 : ℕ) = 0 * 2 + 0 from rfl, c1]
    change (reRef P.ar ((u.map lift).getD (0 * P.nn + 0) P.ar.zero)
      ((u.map lift).getD (0 * P.nn + 0 + P.m) P.ar.zero)
      ((matDft P #[3, 4] 1 0 0).getD 0 P.ar.zero) ((matDft P #[3, 4] 1 0 0).getD (0 + P.m) P.ar.zero)).2
    rw [hD, exMD, hn, hm]
    exact f1
  · rw [show (0 * (2 * 2 ^ 0) + 1 : ℕ) = 0 * 2 + 0 + 1 from rfl, c2]
    change (imRef P.ar ((u.map lift).getD (0 * P.nn + 0) P.ar.zero)
      ((u.map lift).getD (0 * P.nn + 0 + P.m) P.ar.zero)
      ((matDft P #[3, 4] 1 0 0).getD 0 P.ar.zero) ((matDft P #[3, 4] 1 0 0).getD (0 + P.m) P.ar.zero)).2
    rw [hD, exMD, hn, hm]
    exact f2

theorem exVmpOk : VmpOk exC 0 z0 z0 z0 z0 #[3, 4] 1 1 #[1, 2] 1 2 1 0 where
  okA := by
    intro i hi
    have : i = 0 := by omega
    subst this
    rw [exLimb]; exact ex_okA
  okB := by
    intro i hi
    have : i = 0 := by omega
    subst this
    rw [exEntry]; exact ex_okB
  okD := ex_okD_of arithOk (pOk exC) _ rfl (by rw [exVD, ← exFA]; exact ex_okM)
  okI := by
    unfold InvOk
    rw [exCol]
    exact ex_okI

end Spq.VmpErr
