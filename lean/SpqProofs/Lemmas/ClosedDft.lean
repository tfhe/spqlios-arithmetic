/-
  H2/H3 (`ExactDft`) for `exactParts`.  The transform is the level network `VN` / `VNI` of the per-block butterflies
  `gNet` for any value type (`fftRI_structV`, `ifftRI_structV`), and `VN_V` / `VNI_V` hold through any read-out.  Read a
  pair of real cells as a complex number (`pc`); what is left is ONE butterfly: `gNet` over `R` is related along
  `Cx.ofRe` to `gNet` over `Cx R` (`gNet_sim`), where `gNet_real` / `gNetI_real` apply with `I = Cx.I`, `ζi = conj ζ`
  and the table entries `ofRe (cos e)`, `ofRe (sin e)`.
-/
import SpqProofs.Lemmas.ClosedParts
import SpqProofs.Lemmas.FftErrSchedRel
namespace Spq.Closed
open Finset Spq Spq.Fft Spq.Fft.Alg Spq.Fft.Sim Spq.Fft.Kern Spq.Fft.Api
open Spq.Fft.SimP Spq.Fft.SchedN Spq.Fft.RelN Spq.Fft.Exact

variable {R : Type} [CommRing R]

abbrev Emb (a : R) (b : Cx R) : Prop := Cx.ofRe a = b

theorem emb_sim : ASim (@Emb R _) ringA ringA := by
  constructor <;> intros <;> subst_vars <;> simp [ringA, Emb]

theorem fwd_flav (fma : Bool) : ∃ F' : Flav (Cx R),
    FlavSim Emb (if fma then fwdFma (ringA (R := R)) else fwdRef ringA) F' ∧ FwdOK Cx.I F' := by
  cases fma
  · exact ⟨_, fwdRef_sim emb_sim, fwdRef_ok _ Cx.I_mul_I⟩
  · exact ⟨_, fwdFma_sim emb_sim, fwdFma_ok _ Cx.I_mul_I⟩

theorem inv_flav (fma : Bool) : ∃ F' : Flav (Cx R),
    FlavSim Emb (if fma then invFma (ringA (R := R)) else invRef ringA) F' ∧ InvOK Cx.I F' := by
  cases fma
  · exact ⟨_, invRef_sim emb_sim, invRef_ok _ Cx.I_mul_I⟩
  · exact ⟨_, invFma_sim emb_sim, invFma_ok _ Cx.I_mul_I⟩

variable {k : ℕ} (rt : RootData R k)

/-- the evaluation point of output complex `j` -/
def RootData.z (j : ℕ) : Cx R := rt.ζ ^ (1 + 4 * brev k j)

theorem z_pow_m (j : ℕ) : rt.z j ^ 2 ^ k = Cx.I := by
  unfold RootData.z
  rw [← pow_mul, Nat.mul_comm, pow_mul, rt.hζ, pow_add, pow_one, pow_mul, I_pow_four, one_pow, mul_one]

/-- the butterfly lemmas do not read the input slot `a` -/
def RootData.ctx : ICtx (Cx R) :=
  { ζ := rt.ζ, I := Cx.I, k := k, c := fun e => Cx.ofRe (rt.c e), s := fun e => Cx.ofRe (rt.s e), a := fun _ => 0,
    hI := rt.hζ, hI2 := Cx.I_mul_I, hcs := fun _ => (Cx.eq_ofRe_add _).symm,
    ζi := conj rt.ζ, hζi := rt.hnorm, hcsi := fun _ => by rw [← conj_pow]; exact ofRe_sub_I_mul _ }

def pc (u : R × R) : Cx R := ⟨u.1, u.2⟩

theorem pc_eq (u : R × R) : pc u = Exact.cx Cx.I (Cx.ofRe u.1, Cx.ofRe u.2) := Cx.eq_ofRe_add _

theorem gNet_pc {F : Flav R} {F' : Flav (Cx R)} (hs : FlavSim Emb F F') (hF : FwdOK Cx.I F')
    (ℓ d b : ℕ) (hk : ℓ + d + 1 = k) (hb : b < 2 ^ ℓ) (u v : R × R) :
    pc (gNet F rt.c rt.s k ℓ d b u v).1 = pc u + rt.ζ ^ twE ℓ d b * pc v ∧
    pc (gNet F rt.c rt.s k ℓ d b u v).2 = pc u - rt.ζ ^ twE ℓ d b * pc v := by
  have h := gNet_sim hs rt.c rt.s rt.ctx.c rt.ctx.s (fun _ => rfl) (fun _ => rfl) k ℓ d b
    (u := u) (v := v) (u' := (Cx.ofRe u.1, Cx.ofRe u.2)) (v' := (Cx.ofRe v.1, Cx.ofRe v.2)) ⟨rfl, rfl⟩ ⟨rfl, rfl⟩
  rw [pc_eq, pc_eq, pc_eq, pc_eq, h.1.1, h.1.2, h.2.1, h.2.2]
  exact gNet_real rt.ctx.toCtx hF ℓ d b hk hb _ _

theorem gNetI_pc {F : Flav R} {F' : Flav (Cx R)} (hs : FlavSim Emb F F') (hF : InvOK Cx.I F')
    (ℓ d b : ℕ) (hk : ℓ + d + 1 = k) (hb : b < 2 ^ ℓ) :
    ∃ W', rt.ζ ^ twE ℓ d b * W' = 1 ∧ ∀ u v,
      pc (gNet F rt.c (fun e => -rt.s e) k ℓ d b u v).1 = pc u + pc v ∧
      pc (gNet F rt.c (fun e => -rt.s e) k ℓ d b u v).2 = (pc u - pc v) * W' := by
  obtain ⟨W', hW, g⟩ := gNetI_real rt.ctx hF ℓ d b hk hb
  refine ⟨W', hW, fun u v => ?_⟩
  have h := gNet_sim hs rt.c (fun e => -rt.s e) rt.ctx.c (fun e => -rt.ctx.s e) (fun _ => rfl)
    (fun _ => map_neg Cx.ofRe _) k ℓ d b
    (u := u) (v := v) (u' := (Cx.ofRe u.1, Cx.ofRe u.2)) (v' := (Cx.ofRe v.1, Cx.ofRe v.2)) ⟨rfl, rfl⟩ ⟨rfl, rfl⟩
  rw [pc_eq, pc_eq, pc_eq, pc_eq, h.1.1, h.1.2, h.2.1, h.2.2]
  exact g _ _

section cells
-- the `[i]!` reads of `prs`, `fftRI`, … below are those of `netFft` / `netIfft`: default `0`
attribute [local instance] inh0

theorem get!_eq_getD (a : Array R) (i : ℕ) : a[i]! = a.getD i 0 := by
  simp [Array.getD_eq_getD_getElem?, getElem!_def]; rfl

theorem pc_split (d : Array R) (hd : d.size = 2 * 2 ^ k) (p : ℕ) (hp : p < 2 ^ k) :
    pc (prs (splitRI (2 ^ k) d) p) = cx d p (p + 2 ^ k) := by
  show (⟨(splitRI (2 ^ k) d).re[p]!, (splitRI (2 ^ k) d).im[p]!⟩ : Cx R) = _
  rw [splitRI_re _ _ hd p hp, splitRI_im _ _ hd p hp, get!_eq_getD, get!_eq_getD, Nat.add_comm]; rfl

theorem cx_join (s : RI R) (hs : Valid (2 ^ k) s) (p : ℕ) (hp : p < 2 ^ k) :
    cx (joinRI s) p (p + 2 ^ k) = pc (prs s p) := by
  unfold cx pc prs
  rw [← get!_eq_getD, ← get!_eq_getD, joinRI_re _ _ hs p hp, Nat.add_comm, joinRI_im _ _ hs p hp]

theorem netFft_size (fma : Bool) (d : Array R) (hd : d.size = 2 * 2 ^ k) : (netFft rt fma d).size = 2 * 2 ^ k := by
  exact joinRI_size _ (fftRI_structV _ _ _ _ (val_fwd rt.c rt.s _ k) _ (splitRI_valid _ _ hd)).2

theorem netIfft_size (fma : Bool) (d : Array R) (hd : d.size = 2 * 2 ^ k) : (netIfft rt fma d).size = 2 * 2 ^ k := by
  exact joinRI_size _ (ifftRI_structV _ _ _ _ (val_inv rt.c rt.s) _ (splitRI_valid _ _ hd)).2

theorem netFft_V (fma : Bool) (d : Array R) (hd : d.size = 2 * 2 ^ k) (j : ℕ) (hj : j < 2 ^ k) :
    cx (netFft rt fma d) j (j + 2 ^ k) = V rt.ζ (fun i => cx d i (i + 2 ^ k)) k 0 j := by
  obtain ⟨F', hs, hF⟩ := fwd_flav (R := R) fma
  obtain ⟨st, vo⟩ := fftRI_structV (if fma then fwdFma ringA else fwdRef ringA) rt.c rt.s k (val_fwd rt.c rt.s _ k) _
    (splitRI_valid (2 ^ k) d hd)
  rw [netFft, reimFftA, RootData.fftTable, cx_join _ vo j hj, st j hj]
  exact VN_V pc _ k rt.ζ (gNet_pc rt hs hF) _ _ (pc_split d hd) k 0 j rfl hj

theorem netIfft_V (fma : Bool) (e : Array R) (he : e.size = 2 * 2 ^ k) (a : ℕ → Cx R)
    (hy : ∀ q, q < 2 ^ k → cx e q (q + 2 ^ k) = V rt.ζ a k 0 q) (p : ℕ) (hp : p < 2 ^ k) :
    cx (netIfft rt fma e) p (p + 2 ^ k) = 2 ^ k * a p := by
  obtain ⟨F', hs, hF⟩ := inv_flav (R := R) fma
  obtain ⟨st, vo⟩ := ifftRI_structV (if fma then invFma ringA else invRef ringA) rt.c (fun e => -rt.s e) k
    (val_inv rt.c rt.s) _ (splitRI_valid (2 ^ k) e he)
  have key := VNI_V pc _ k rt.ζ (gNetI_pc rt hs hF) _ a (fun q hq => (pc_split e he q hq).trans (hy q hq)) k p
    (Nat.le_refl _) hp
  rw [Nat.sub_self] at key
  rw [netIfft, reimIfftA, RootData.ifftTable, cx_join _ vo p hp, st p hp]
  exact key

end cells

/-- **H2**: output complex `j` of the forward network = the `m` input complexes evaluated at `z_j` -/
theorem netFft_eval (fma : Bool) (d : Array R) (hd : d.size = 2 * 2 ^ k) (j : ℕ) (hj : j < 2 ^ k) :
    cx (netFft rt fma d) j (j + 2 ^ k) = ∑ i ∈ range (2 ^ k), cx d i (i + 2 ^ k) * rt.z j ^ i := by
  rw [netFft_V rt fma d hd j hj,
    Alg.V_top rt.ζ _ k (by rw [Nat.mul_comm, pow_mul, rt.hζ, pow_two, Cx.I_mul_I]) j hj, sumTo_eq_sum]
  apply sum_congr rfl
  intro i _
  rw [RootData.z, ← pow_mul]

/-- **H3**: inverse network ∘ forward network = `m •`, cell by cell -/
theorem netIfft_netFft (ffma ifma : Bool) (d : Array R) (hd : d.size = 2 * 2 ^ k) (t : ℕ) (ht : t < 2 * 2 ^ k) :
    (netIfft rt ifma (netFft rt ffma d)).getD t 0 = ((2 ^ k : ℕ) : R) * d.getD t 0 := by
  have key : ∀ p, p < 2 ^ k →
      cx (netIfft rt ifma (netFft rt ffma d)) p (p + 2 ^ k) = Cx.ofRe ((2 ^ k : ℕ) : R) * cx d p (p + 2 ^ k) := by
    intro p hp
    rw [netIfft_V rt ifma _ (netFft_size rt ffma d hd) _ (netFft_V rt ffma d hd) p hp, ← ofRe_natCast,
      Nat.cast_pow, Nat.cast_ofNat]
  by_cases h1 : t < 2 ^ k
  -- `cx_re` / `cx_im` are rewritten before `exact`: left to unification, `getD` is unfolded on the whole network term
  · have := congrArg Cx.re (key t h1)
    rw [Cx.mul_re, Cx.ofRe_re, Cx.ofRe_im, zero_mul, sub_zero, cx_re, cx_re] at this
    exact this
  · have := congrArg Cx.im (key (t - 2 ^ k) (by omega))
    have e : t - 2 ^ k + 2 ^ k = t := by omega
    rw [e, Cx.mul_im, Cx.ofRe_re, Cx.ofRe_im, zero_mul, add_zero, cx_im, cx_im] at this
    exact this

end Spq.Closed
