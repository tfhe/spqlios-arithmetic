/-
  Block programs that consume a twiddle table, and their composition.  `Runs v E f A B off sz`: wherever the table
  holds the entries `E` (read through `v`) at the pointer, `f` takes the cells `[off, off + sz)` from the network
  values `A` to `B`, moves nothing else, keeps the state valid and advances the pointer by `E.length`.
  The rules have the shapes in which `Spq/Fft/Tables.lean` builds the tables (`++`, `flatMap` over `range`) and the
  drivers are written (composition, `iterFrom`), so that a driver equation, once unfolded, is a rule instance.
-/
import SpqProofs.Lemmas.FftSchedSim
import SpqProofs.Lemmas.FftSchedLevel
namespace Spq.Fft.SchedN
open Spq.Fft Spq.Fft.View Spq.Fft.Sim Spq.Fft.SimP Spq.Fft.LevelN

variable {R : Type} [Inhabited R]

def SegP (T : Array R) (t : ℕ) (L : List R) : Prop := ∀ j, j < L.length → T[t + j]! = L[j]!

theorem SegP.left {T : Array R} {t : ℕ} {A B : List R} (h : SegP T t (A ++ B)) : SegP T t A := by
  intro j hj
  have := h j (by simp; omega)
  rw [this]
  simp [List.getElem!_eq_getElem?_getD, List.getElem?_append_left hj]

theorem SegP.right {T : Array R} {t : ℕ} {A B : List R} (h : SegP T t (A ++ B)) : SegP T (t + A.length) B := by
  intro j hj
  have := h (A.length + j) (by simp; omega)
  rw [Nat.add_assoc, this]
  simp [List.getElem!_eq_getElem?_getD, List.getElem?_append_right]

theorem SegP.of_toArray (L : List R) : SegP L.toArray 0 L := by
  intro j hj
  simp [hj]

def Runs (v : Ent → R) (E : List Ent) (f : Array R → RI R × ℕ → RI R × ℕ) (A B : ℕ → R × R) (off sz : ℕ) : Prop :=
  ∀ N T t s, Valid N s → off + sz ≤ N → SegP T t (E.map v) →
    AdvG A B (prs s) (prs (f T (s, t)).1) off sz ∧ Valid N (f T (s, t)).1 ∧ (f T (s, t)).2 = t + E.length

variable {v : Ent → R} {E E1 E2 : List Ent} {f f1 f2 : Array R → RI R × ℕ → RI R × ℕ} {A B C : ℕ → R × R}
  {off sz sz1 sz2 : ℕ}

theorem Runs.id (v : Ent → R) (A : ℕ → R × R) (off sz : ℕ) : Runs v [] (fun _ st => st) A A off sz :=
  fun _ _ _ _ hs _ _ => ⟨AdvG.id _ _ _ _, hs, rfl⟩

theorem Runs.empty (v : Ent → R) (A B : ℕ → R × R) (off : ℕ) : Runs v [] (fun _ st => st) A B off 0 :=
  fun _ _ _ _ hs _ _ => ⟨AdvG.empty _ _ _ _, hs, rfl⟩

theorem Runs.of_eq {E' : List Ent} {f' : Array R → RI R × ℕ → RI R × ℕ} {off' sz' : ℕ} (h : Runs v E f A B off sz)
    (hE : E' = E) (hf : ∀ T st, f' T st = f T st) (ho : off' = off) (hz : sz' = sz) : Runs v E' f' A B off' sz' := by
  subst hE ho hz
  intro N T t s hs hN hT
  rw [hf]; exact h N T t s hs hN hT

theorem Runs.seq (h1 : Runs v E1 f1 A B off sz) (h2 : Runs v E2 f2 B C off sz) :
    Runs v (E1 ++ E2) (fun T st => f2 T (f1 T st)) A C off sz := by
  intro N T t s hs hN hT
  rw [List.map_append] at hT
  obtain ⟨a1, v1, p1⟩ := h1 N T t s hs hN hT.left
  have hT2 := hT.right
  rw [List.length_map, ← p1] at hT2
  obtain ⟨a2, v2, p2⟩ := h2 N T _ _ v1 hN hT2
  exact ⟨a1.seq a2, v2, by rw [p2, p1, List.length_append, Nat.add_assoc]⟩

theorem Runs.par (h1 : Runs v E1 f1 A B off sz1) (h2 : Runs v E2 f2 A B (off + sz1) sz2) :
    Runs v (E1 ++ E2) (fun T st => f2 T (f1 T st)) A B off (sz1 + sz2) := by
  intro N T t s hs hN hT
  rw [List.map_append] at hT
  obtain ⟨a1, v1, p1⟩ := h1 N T t s hs (by omega) hT.left
  have hT2 := hT.right
  rw [List.length_map, ← p1] at hT2
  obtain ⟨a2, v2, p2⟩ := h2 N T _ _ v1 (by omega) hT2
  exact ⟨a1.par a2, v2, by rw [p2, p1, List.length_append, Nat.add_assoc]⟩

theorem Runs.sweep (Eb : ℕ → List Ent) (fb : ℕ → Array R → RI R × ℕ → RI R × ℕ) (n : ℕ)
    (h : ∀ b, b < n → Runs v (Eb b) (fb b) A B (off + b * sz) sz) :
    Runs v ((List.range n).flatMap Eb) (fun T st => iterFrom (fun b st => fb b T st) n 0 st) A B off (n * sz) := by
  induction n with
  | zero => exact (Runs.empty v A B off).of_eq rfl (fun _ _ => rfl) rfl (Nat.zero_mul _)
  | succ n ih =>
    refine ((ih (fun b hb => h b (by omega))).par (h n (by omega))).of_eq ?_ (fun T st => ?_) rfl (by ring)
    · rw [List.range_succ, List.flatMap_append]; simp
    · rw [iterFrom_succ_last, Nat.zero_add]

theorem Runs.step (len : ℕ) (hlen : E.length = len) (k : Array R → ℕ → RI R → RI R)
    (h : ∀ N T t s, Valid N s → off + sz ≤ N → SegP T t (E.map v) →
      AdvG A B (prs s) (prs (k T t s)) off sz ∧ Valid N (k T t s)) :
    Runs v E (fun T st => (k T st.2 st.1, st.2 + len)) A B off sz :=
  fun N T t s hs hN hT => ⟨(h N T t s hs hN hT).1, (h N T t s hs hN hT).2, by rw [hlen]⟩

theorem Runs.run {N : ℕ} (h : Runs v E f A B 0 N) (s : RI R) (hs : Valid N s) :
    AdvG A B (prs s) (prs (f (E.map v).toArray (s, 0)).1) 0 N ∧ Valid N (f (E.map v).toArray (s, 0)).1 :=
  ⟨(h N _ 0 s hs (by omega) (SegP.of_toArray _)).1, (h N _ 0 s hs (by omega) (SegP.of_toArray _)).2.1⟩

end Spq.Fft.SchedN
