/-
  The repaired `reim_to_znx64_avx2_bnd63_fma` (offset = divisor·(0.5 − 2^-54) = pred(d/2)): the contract
  `2·|r·d − x| ≤ d` holds unconditionally on |x/d| < 2^52.
-/
import SpqProofs.Lemmas.ConvBnd63
import SpqProofs.Lemmas.ConvBnd63Core

namespace Spq.Conv
open Spq.F64

theorem decode_D_PRED_HALF : decode D_PRED_HALF = ⟨false, 9007199254740991, -54⟩ := by
  have := decode_pos_pattern 1021 4503599627370495 (by norm_num) (by norm_num) (by norm_num)
  simpa using this

/-- `offset = divisor * (0.5 - 2^-54)` is exact: significand `2^53 − 1`, exponent `j − 54`, sign bit clear -/
theorem bnd63Offset_pow2 (j : Int) (hj1 : -1020 ≤ j) (hj2 : j ≤ 1023) :
    bnd63Offset (pow2 j) = (j + 1021).toNat * 4503599627370496 + 4503599627370495 := by
  unfold bnd63Offset
  rw [mul_of_decode (decode_pow2 j (by omega) hj2) decode_D_PRED_HALF]
  have hpw : 4503599627370496 * 9007199254740991 = 9007199254740991 * 2 ^ 52 := by norm_num
  rw [hpw, pack_exact_pattern (false != false) 9007199254740991 52 (j - 52 + -54) 0 (by norm_num) (by norm_num)
    (by push_cast; omega) (by push_cast; omega)]
  unfold normPat sgn
  simp only [bne_self_eq_false, Bool.false_eq_true, if_false, pow_zero, Nat.mul_one, Nat.zero_add]
  have e1 : (j - 52 + -54 + ((52 : Nat) : Int) - ((0 : Nat) : Int) + 1075).toNat = (j + 1021).toNat := by
    push_cast; congr 1; omega
  rw [e1]

theorem decode_bnd63Offset (j : Int) (hj1 : -1020 ≤ j) (hj2 : j ≤ 1023) :
    bnd63Offset (pow2 j) < 9223372036854775808 ∧
    decode (bnd63Offset (pow2 j)) = ⟨false, 9007199254740991, j - 54⟩ := by
  rw [bnd63Offset_pow2 j hj1 hj2]
  refine ⟨by omega, ?_⟩
  rw [decode_pos_pattern (j + 1021).toNat 4503599627370495 (by omega) (by omega) (by norm_num)]
  congr 1; omega

/-- a carry of the rounded sum can only happen strictly below the divisor's grid -/
theorem bnd63_carry_lt (X b k : Nat) (hb54 : 54 ≤ b) (hXdom : X < 4503599627370496 * 2 ^ b) (hk : k ≤ b)
    (hq : rne (X + 9007199254740991 * 2 ^ (b - 54)) k = 9007199254740992) : k < b := by
  by_contra hcon
  obtain rfl : k = b := by omega
  obtain ⟨hD, hDh⟩ := divisor_pows k hb54
  have hδpos : 0 < 2 ^ (k - 54) := by positivity
  have := rne_le (a := 4503599627370497) (k := k) (M := X + 9007199254740991 * 2 ^ (k - 54)) (by omega)
  omega

/-- Repaired `reim_to_znx64_avx2_bnd63_fma`, one lane: for every `x` with `|x/d| < 2^52` the result is within 1/2
    of `x/d` (ties included) -/
theorem toZnx64Bnd63Lane_spec (j : Int) (hj1 : -1020 ≤ j) (hj2 : j ≤ 971) (x : Nat)
    (hx64 : x < 18446744073709551616)
    (hdom : |toScaled x| < 4503599627370496 * toScaled (pow2 j)) :
    2 * |toZnx64Bnd63Lane (bnd63Offset (pow2 j)) (bnd63DiviBits (pow2 j)) x * toScaled (pow2 j) - toScaled x|
      ≤ toScaled (pow2 j) := by
  obtain ⟨m, a, hx, hm, -, -⟩ := toScaled_form x
  obtain ⟨b, hb⟩ : ∃ b : Nat, (b : Int) = j + 1074 := ⟨(j + 1074).toNat, by omega⟩
  have hb54 : 54 ≤ b := by omega
  have hd : toScaled (pow2 j) = ((2 ^ b : Nat) : Int) := by
    rw [toScaled_pow2 j (by omega) (by omega)]; push_cast; congr 1; omega
  have hxa : |toScaled x| = ((m * 2 ^ a : Nat) : Int) := by rw [hx, abs_sI]
  rw [hxa, hd] at hdom
  have hXdom : m * 2 ^ a < 4503599627370496 * 2 ^ b := by exact_mod_cast hdom
  obtain ⟨hc63, hc⟩ := decode_bnd63Offset j hj1 (by omega)
  have hoff : (toScaled (bnd63Offset (pow2 j))).natAbs = 9007199254740991 * 2 ^ (b - 54) := by
    rw [toScaled_of_decode' hc, sI_mul_pow, sI_natAbs]; congr 2; omega
  obtain ⟨hasign, hsum⟩ := bnd63_sum_val (c := bnd63Offset (pow2 j)) hx64 hc63
  rw [hoff, hx, sI_natAbs] at hsum
  -- the sum `V = X + pred(d/2)` lies in a binade with grid `2^k ≤ d`
  have hδpos : 0 < 2 ^ (b - 54) := by positivity
  obtain ⟨hD, hDh⟩ := divisor_pows b hb54
  obtain ⟨V, hV⟩ : ∃ V, V = m * 2 ^ a + 9007199254740991 * 2 ^ (b - 54) := ⟨_, rfl⟩
  rw [← hV] at hsum
  obtain ⟨k, hlo, hhi⟩ := exists_binade V (by rw [hV]; omega)
  have hk : k ≤ b := grid_le_divisor _ b k hb54 hXdom (by rw [← hV]; exact hlo)
  have hcarry : rne V k = 9007199254740992 → k < b := fun hq => bnd63_carry_lt _ b k hb54 hXdom hk (hV ▸ hq)
  rw [rnS_round _ V k hlo hhi (by omega) (fun h => by have := hcarry h; omega)] at hsum
  obtain ⟨hq1, hq2⟩ := rne_range hlo hhi
  have hFG : rne V k * 2 ^ k ≤ 9007199254740992 * 2 ^ b := Nat.mul_le_mul hq2 (Nat.pow_le_pow_right (by norm_num) hk)
  have hbpos : 0 < 2 ^ b := by positivity
  have hfitN : rne V k * 2 ^ k < 9223372036854775808 * 2 ^ b := by omega
  obtain ⟨R, hlane, hR1, hR2⟩ := bnd63Lane_val j (by omega) hj2 hasign
    (by rw [hsum, abs_sI]; exact_mod_cast hq1.trans (Nat.le_mul_of_pos_right _ (by positivity)))
    (by rw [hsum, abs_sI, hd]; exact_mod_cast hfitN)
  rw [hsum, abs_sI, hd] at hR1 hR2
  rw [hV] at hlo hR1 hR2
  obtain ⟨hup, hlow⟩ := core63 m a b k R hm hb54 hXdom hlo (by exact_mod_cast hR1) (by exact_mod_cast hR2)
  rw [hlane, hx, hd]
  exact bnd63_close (signBit x) R (m * 2 ^ a) b (by omega) hup hlow

end Spq.Conv
