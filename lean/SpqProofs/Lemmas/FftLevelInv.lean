/-
  C06, level layer: a step that takes one block of cells from the values `A` to the values `B` and leaves every other
  cell alone; such steps compose in sequence and side by side.
-/
import SpqProofs.Lemmas.FftAlg
import SpqProofs.Lemmas.FftView
set_option linter.unusedSectionVars false
namespace Spq.Fft.Level
open Spq.Fft Spq.Fft.Alg Spq.Fft.View

variable {R : Type} [CommRing R]

def AdvG (A B x y : ℕ → R) (off sz : ℕ) : Prop :=
  ((∀ p, off ≤ p → p < off + sz → x p = A p) → (∀ p, off ≤ p → p < off + sz → y p = B p)) ∧
  (∀ p, p < off ∨ off + sz ≤ p → y p = x p)

theorem AdvG.empty {β : Type} (A B x : ℕ → β) (off : ℕ) : AdvG A B x x off 0 :=
  ⟨fun _ p hp hp' => by omega, fun _ _ => rfl⟩

theorem AdvG.id {β : Type} (A x : ℕ → β) (off sz : ℕ) : AdvG A A x x off sz := ⟨fun h => h, fun _ _ => rfl⟩

theorem AdvG.seq {β : Type} {A B C x y z : ℕ → β} {off sz : ℕ} (h1 : AdvG A B x y off sz) (h2 : AdvG B C y z off sz) :
    AdvG A C x z off sz :=
  ⟨fun h => h2.1 (h1.1 h), fun p hp => by rw [h2.2 p hp, h1.2 p hp]⟩

theorem AdvG.par {β : Type} {A B x y z : ℕ → β} {off sz1 sz2 : ℕ} (h1 : AdvG A B x y off sz1)
    (h2 : AdvG A B y z (off + sz1) sz2) : AdvG A B x z off (sz1 + sz2) := by
  constructor
  · intro h p hp hp'
    by_cases hlt : p < off + sz1
    · rw [h2.2 p (by omega)]
      exact h1.1 (fun q hq hq' => h q hq (by omega)) p hp hlt
    · exact h2.1 (fun q hq hq' => by rw [h1.2 q (by omega)]; exact h q (by omega) (by omega)) p (by omega) (by omega)
  · intro p hp
    rw [h2.2 p (by omega), h1.2 p (by omega)]

theorem AdvG.of_eq {β : Type} {A B x y : ℕ → β} {off sz off' sz' : ℕ} (h : AdvG A B x y off sz)
    (e1 : off' = off) (e2 : sz' = sz) : AdvG A B x y off' sz' := by subst e1 e2; exact h

theorem AdvG.congr {A B A' B' x y : ℕ → R} {off sz : ℕ} (h : AdvG A B x y off sz)
    (eA : ∀ p, A' p = A p) (eB : ∀ p, B' p = B p) : AdvG A' B' x y off sz :=
  ⟨fun hx p hp hp' => by rw [eB]; exact h.1 (fun q hq hq' => by rw [hx q hq hq', eA]) p hp hp', h.2⟩

end Spq.Fft.Level
