/-
  Facts about the heap model of the vector-matrix product needed to compose the source theorems
  (`Properties/SrcModVmp.lean`): `ok` only decreases along `vmpApplyDftToDft`; `vecDft` keeps the arena size; the two
  cases of `pmatStart`; `Tr.for2D`, the loop over pairs of columns.
-/
import SpqProofs.Lemmas.SrcHas
namespace Spq.Src
open Spq Spq.CIR Heap ModuleHeap
variable {α : Type}

/-- the model of `fft64_vmp_apply_dft_to_dft`, piece by piece in the order of its definition -/
theorem good_vmpApplyDftToDft (c : Module.Parts α) (cd : Cells Int α)
    (res rsz adft asz pmat nrows ncols tmp tb : Nat) :
    Good (fun h => vmpApplyDftToDft c cd h res rsz adft asz pmat nrows ncols tmp tb) :=
  have gP2 := fun v => ((good_scr tb 0 16).comp (good_scr tb 16 (8 * min nrows asz))).comp
    (good_kProd2 c cd (min nrows asz) nrows tmp (tmp + 16) v)
  have gP1 := fun v => ((good_scr tb 0 8).comp (good_scr tb 16 (8 * min nrows asz))).comp
    (good_kProd1 c cd (min nrows asz) nrows tmp (tmp + 16) v)
  (Good.ite (c.nn ≥ 8)
    (Good.loop _ fun _ =>
      ((((good_scr _ _ _).comp (good_kExtractRows c cd _ _ _ _)).comp
        (Good.loop _ fun _ => ((gP2 _).comp (good_kSave c cd _ _ _)).comp (good_kSave c cd _ _ _))).comp
        (Good.ite _ ((Good.ite _ (gP1 _) (gP2 _)).comp (good_kSave c cd _ _ _)) Good.id)))
    (Good.loop _ fun _ =>
      Good.ite _ (good_kZeroD c cd _ _) ((good_kMul c cd _ _ _).comp (Good.loop _ fun _ => good_kAddmul c cd _ _ _)))).comp
    (good_kZeroD c cd _ _)

theorem good_vecDft (c : Module.Parts α) (cd : Cells Int α) (res rsz a asz asl : Nat) :
    Good (fun h => vecDft c cd h res rsz a asz asl) :=
  (Good.loop _ fun _ => (good_kFromZnx c cd _ _).comp (good_kFft c cd _)).comp (good_kZeroD c cd _ _)

theorem pmatStart_last (nrows ncols r k : Nat) (h : k = ncols - 1 ∧ ncols % 2 = 1) :
    Module.pmatStart nrows ncols r k = k * nrows * 8 + r * 8 := by
  simp [Module.pmatStart, h.1, h.2]
theorem pmatStart_pair (nrows ncols r k : Nat) (h : ¬ (k = ncols - 1 ∧ ncols % 2 = 1)) :
    Module.pmatStart nrows ncols r k = k / 2 * (2 * nrows) * 8 + r * 2 * 8 + k % 2 * 8 := by
  by_cases hk1 : k = ncols - 1
  · have hn2 : ¬ ncols % 2 = 1 := fun h2 => h ⟨hk1, h2⟩
    simp [Module.pmatStart, hn2]
  · simp [Module.pmatStart, hk1]

/-- `j + 1 < n` at `j = 2 k` holds exactly for the first `n / 2` pairs -/
theorem pair_cond (k n : Nat) (hk : k ≤ n / 2) (hn : n < 18446744073709551616) :
    (((2 * k : Nat) : Int) + 1 % 18446744073709551616) % 18446744073709551616 < (n : Int) ↔ k < n / 2 := by omega
theorem pair_succ (k n : Nat) (hk : k < n / 2) (hn : n < 18446744073709551616) :
    (((2 * k : Nat) : Int) + 2 % 18446744073709551616) % 18446744073709551616 = ((2 * (k + 1) : Nat) : Int) := by omega

/-- `for (j = 0; j + 1 < n; j += 2) body` against `loop (n / 2) F` -/
theorem Tr.for2D {K : ExtSem} {Γ : List Ptr} {m0 : Mem} {B N fb L : Nat} {d : List (Nat × Int)} (js : Nat) (e0 hiE : Expr)
    (body : Stmt) (F : Nat → Heap Int → Heap Int) (hF : ∀ i, Good (F i)) (n : Nat) (h64 : n < 18446744073709551616)
    (hjs : js < L) (h0 : ∀ env m, Has L d env → eval Γ ⟨env, m⟩ e0 = .ok 0)
    (hhi : ∀ (t : Nat) env m, Has L ((js, ((2 * t : Nat) : Int)) :: d) env → eval Γ ⟨env, m⟩ hiE = .ok (n : Int))
    (hbody : ∀ t, t < n / 2 → TrB K Γ m0 B N fb (Has L ((js, ((2 * t : Nat) : Int)) :: d)) body (F t)
      (Has L ((js, ((2 * t : Nat) : Int)) :: d))) :
    Tr K Γ m0 B N (n / 2 + fb) (Has L d) (.for (.assign js e0)
      (.bin .lt .u64 (.bin .add .u64 (.var js) (.cast .u64 (.lit 1))) hiE)
      (.assign js (.bin .add .u64 (.var js) (.cast .u64 (.lit 2)))) body) (ModuleHeap.loop (n / 2) F)
      (Has L ((js, ((2 * (n / 2) : Nat) : Int)) :: d)) :=
  Tr.forGD js e0 (.bin .lt .u64 (.bin .add .u64 (.var js) (.cast .u64 (.lit 1))) hiE)
    (.bin .add .u64 (.var js) (.cast .u64 (.lit 2))) body F hF (n / 2) (fun t => ((2 * t : Nat) : Int)) hjs h0
    (fun t env m ht H => by
      simp only [evalB_def, eval_bin, eval_var, eval_cast, eval_lit, hhi t env m H, R.bind_ok, evalBin_add_u64,
        evalBin_lt_u64, wrap_u64, decide_b2i_ne_zero, H.head]
      exact congrArg R.ok (decide_eq_decide.mpr (pair_cond t n ht h64)))
    (fun t env m ht H => by
      simp only [eval_bin, eval_var, eval_cast, eval_lit, R.bind_ok, evalBin_add_u64, wrap_u64, H.head]
      rw [pair_succ t n ht h64])
    hbody

end Spq.Src
