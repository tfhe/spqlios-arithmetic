/-
  Memory lemmas for the symbolic execution of `Spq.CIR` terms: buffers, cell loads/stores through a bound
  pointer, and `fillTo` (the shape of the result buffer of a loop that writes cell `k` at iteration `k`).
-/
import Spq.CIR
import SpqProofs.Lemmas.ArrayBasic
namespace Spq.CIR

/-! ### buffers -/
theorem buf_eq_getElem (m : Mem) (b : Nat) (h : b < m.size) : buf m b = m[b] := getD_of_lt m #[] h

theorem buf_of_ge (m : Mem) (b : Nat) (h : m.size ≤ b) : buf m b = #[] := getD_of_size_le m b #[] h

theorem lt_size_of_buf_size_pos (m : Mem) (b : Nat) (h : 0 < (buf m b).size) : b < m.size := by
  apply Classical.byContradiction
  intro hn
  rw [buf_of_ge m b (by omega)] at h
  simp at h

theorem buf_set_self (m : Mem) (r : Nat) (x : Array Int) (h : r < m.size) :
    buf (m.setIfInBounds r x) r = x := by
  unfold buf
  rw [getD_setIfInBounds, if_pos ⟨rfl, h⟩]

theorem buf_set_ne (m : Mem) (r b : Nat) (x : Array Int) (h : b ≠ r) :
    buf (m.setIfInBounds r x) b = buf m b :=
  getD_setIfInBounds_ne m x #[] h.symm

theorem set_buf_self (m : Mem) (r : Nat) : m.setIfInBounds r (buf m r) = m := by
  apply Array.ext
  · simp
  · intro i h1 h2
    simp at h1
    by_cases hi : r = i
    · subst hi
      simp [buf, Array.getD, h1]
    · rw [Array.getElem_setIfInBounds_ne h1 hi]

theorem set_set (m : Mem) (r : Nat) (x y : Array Int) :
    (m.setIfInBounds r x).setIfInBounds r y = m.setIfInBounds r y := by
  apply Array.ext
  · simp
  · intro i h1 h2
    simp at h1
    by_cases hi : r = i
    · subst hi; simp
    · rw [Array.getElem_setIfInBounds_ne h1 hi, Array.getElem_setIfInBounds_ne (by simpa using h1) hi,
        Array.getElem_setIfInBounds_ne h1 hi]

theorem modify_eq_set (m : Mem) (r : Nat) (f : Array Int → Array Int) :
    m.modify r f = m.setIfInBounds r (f (buf m r)) := by
  apply Array.ext
  · simp
  · intro i h1 h2
    simp at h1
    by_cases hi : r = i
    · subst hi
      simp [Array.getElem_modify, buf, Array.getD, h1]
    · rw [Array.getElem_setIfInBounds_ne h1 hi]
      simp [Array.getElem_modify, hi]

/-! ### loads and stores with natural-number indices -/
theorem loadCell_nat (m : Mem) (b off i : Nat) (h : off + i < (buf m b).size) :
    loadCell m (some (b, off)) (i : Int) = .ok ((buf m b).getD (off + i) 0) := by
  have h1 : (0:Int) ≤ (off:Int) + (i:Int) ∧ (off:Int) + (i:Int) < (((buf m b).size : Nat) : Int) := by omega
  have h2 : ((off:Int) + (i:Int)).toNat = off + i := by omega
  simp only [loadCell, h1, h2, and_self, if_true]

theorem storeCell_nat (m : Mem) (b off i : Nat) (v : Int) (h : off + i < (buf m b).size) :
    storeCell m (some (b, off)) (i : Int) v = .ok (m.setIfInBounds b ((buf m b).setIfInBounds (off + i) v)) := by
  have h1 : (0:Int) ≤ (off:Int) + (i:Int) ∧ (off:Int) + (i:Int) < (((buf m b).size : Nat) : Int) := by omega
  have h2 : ((off:Int) + (i:Int)).toNat = off + i := by omega
  simp only [storeCell, h1, h2, and_self, if_true, modify_eq_set]

/-- any access at or beyond the size of the buffer is reported -/
theorem loadCell_oob (m : Mem) (b off i : Nat) (h : (buf m b).size ≤ off + i) :
    loadCell m (some (b, off)) (i : Int) = .err .oob := by
  have h1 : ¬ ((0:Int) ≤ (off:Int) + (i:Int) ∧ (off:Int) + (i:Int) < (((buf m b).size : Nat) : Int)) := by omega
  simp only [loadCell, h1, if_false]

theorem storeCell_oob (m : Mem) (b off i : Nat) (v : Int) (h : (buf m b).size ≤ off + i) :
    storeCell m (some (b, off)) (i : Int) v = .err .oob := by
  have h1 : ¬ ((0:Int) ≤ (off:Int) + (i:Int) ∧ (off:Int) + (i:Int) < (((buf m b).size : Nat) : Int)) := by omega
  simp only [storeCell, h1, if_false]

/-! ### `fillTo arr g k`: cells `[0, k)` come from `g`, the others from `arr` -/
def fillTo (arr : Array Int) (g : Nat → Int) (k : Nat) : Array Int :=
  Array.ofFn (n := arr.size) fun i => if i.val < k then g i.val else arr[i]

@[simp] theorem size_fillTo (arr : Array Int) (g : Nat → Int) (k : Nat) : (fillTo arr g k).size = arr.size := by
  simp [fillTo]

theorem getD_fillTo (arr : Array Int) (g : Nat → Int) (k i : Nat) :
    (fillTo arr g k).getD i 0 = if i < k ∧ i < arr.size then g i else arr.getD i 0 := by
  by_cases hi : i < arr.size
  · by_cases hk : i < k <;> simp [fillTo, Array.getD, hi, hk]
  · simp [fillTo, Array.getD, hi]

theorem fillTo_zero (arr : Array Int) (g : Nat → Int) : fillTo arr g 0 = arr := by
  apply Array.ext
  · simp
  · intro i h1 h2
    simp [fillTo]

theorem fillTo_step (arr : Array Int) (g : Nat → Int) (k : Nat) (v : Int) (hv : v = g k) :
    (fillTo arr g k).setIfInBounds k v = fillTo arr g (k + 1) := by
  subst hv
  apply Array.ext
  · simp
  · intro i h1 h2
    simp at h1
    by_cases hik : k = i
    · subst hik
      simp [fillTo]
    · have : (i < k + 1) ↔ (i < k) := by omega
      rw [Array.getElem_setIfInBounds_ne (by simpa using h1) hik]
      simp [fillTo, this]

theorem fillTo_full (arr : Array Int) (g : Nat → Int) (k : Nat) (h : arr.size ≤ k) :
    fillTo arr g k = Array.ofFn (n := arr.size) fun i => g i.val := by
  apply Array.ext
  · simp
  · intro i h1 h2
    simp at h1
    have : i < k := by omega
    simp [fillTo, this]

/-- `Array.ofFn` over a size known by an equation -/
theorem ofFn_size_congr {n m : Nat} (h : n = m) (g : Nat → Int) :
    (Array.ofFn (n := n) fun i => g i.val) = Array.ofFn (n := m) fun i => g i.val := by
  subst h; rfl

/-! ### the result buffer inside the memory: `mem.setIfInBounds r (fillTo (buf mem r) g k)` -/

/-- sizes of all buffers are unchanged by writing a same-size array into buffer `r` -/
theorem size_buf_set (m : Mem) (r b : Nat) (x : Array Int) (hx : x.size = (buf m r).size) :
    (buf (m.setIfInBounds r x) b).size = (buf m b).size := by
  by_cases hb : b = r
  · subst hb
    by_cases h : b < m.size
    · rw [buf_set_self m b x h, hx]
    · simp [buf, Array.getD, h]
  · rw [buf_set_ne m r b x hb]

/-- reading cell `i ≥ k` of any buffer (the result buffer itself or another one) while the result buffer
    holds `fillTo … k` gives the original content: this is what makes the in-place use (`res == a`) of the
    element-wise kernels correct. -/
theorem getD_buf_fill_ge (m : Mem) (r b : Nat) (g : Nat → Int) (k i : Nat) (h : k ≤ i) :
    (buf (m.setIfInBounds r (fillTo (buf m r) g k)) b).getD i 0 = (buf m b).getD i 0 := by
  by_cases hb : b = r
  · subst hb
    by_cases hs : b < m.size
    · rw [buf_set_self m b _ hs, getD_fillTo]
      have : ¬ (i < k ∧ i < (buf m b).size) := by omega
      simp [this]
    · simp [buf, Array.getD, hs]
  · rw [buf_set_ne m r b _ hb]

end Spq.CIR

namespace Spq.CIR
/-! ### memcpy / memset over a whole exact-size buffer -/
theorem blit_all (src dst : Array Int) (n : Nat) (h : dst.size = n) :
    blit src 0 dst 0 n = Array.ofFn (n := n) fun i => src.getD i.val 0 := by
  subst h
  apply Array.ext
  · simp [blit]
  · intro i h1 h2
    simp [blit] at h1
    simp [blit]

theorem fill_all (dst : Array Int) (n : Nat) (v : Int) (h : dst.size = n) :
    fill dst 0 n v = Array.ofFn (n := n) fun _ => v := by
  subst h
  apply Array.ext
  · simp [fill]
  · intro i h1 h2
    simp [fill] at h1
    simp [fill]

theorem memsetPattern_i64_zero : memsetPattern .i64 0 = 0 := by decide
end Spq.CIR
