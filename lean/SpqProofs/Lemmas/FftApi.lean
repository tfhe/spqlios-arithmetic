/-
  C06: from the split-storage theorems to the flat reim vector (`splitRI` / `joinRI`).
-/
import SpqProofs.Lemmas.FftSim
set_option linter.unusedSectionVars false
namespace Spq.Fft.Api
open Spq.Fft Spq.Fft.Sim

variable {R : Type} [Inhabited R]

theorem splitRI_valid (m : ℕ) (data : Array R) (h : data.size = 2 * m) : Valid m (splitRI m data) := by
  constructor <;> simp [splitRI, h] <;> omega

theorem splitRI_re (m : ℕ) (data : Array R) (h : data.size = 2 * m) (p : ℕ) (hp : p < m) :
    (splitRI m data).re[p]! = data[p]! := by
  simp only [splitRI, getElem!_def]
  rw [Array.getElem?_extract]
  simp [hp, h]; rw [if_pos (by omega)]

theorem splitRI_im (m : ℕ) (data : Array R) (h : data.size = 2 * m) (p : ℕ) (hp : p < m) :
    (splitRI m data).im[p]! = data[m + p]! := by
  simp only [splitRI, getElem!_def]
  rw [Array.getElem?_extract]
  simp [h]; rw [if_pos (by omega)]

theorem joinRI_re (m : ℕ) (s : RI R) (hs : Valid m s) (p : ℕ) (hp : p < m) : (joinRI s)[p]! = s.re[p]! := by
  simp only [joinRI, getElem!_def]
  rw [Array.getElem?_append_left (by rw [hs.1]; exact hp)]

theorem joinRI_im (m : ℕ) (s : RI R) (hs : Valid m s) (p : ℕ) (hp : p < m) : (joinRI s)[m + p]! = s.im[p]! := by
  simp only [joinRI, getElem!_def]
  rw [Array.getElem?_append_right (by rw [hs.1]; omega), hs.1]
  simp

theorem deinterleave_valid (m : ℕ) (data : Array R) : Valid m (deinterleave m data) := by
  constructor <;> simp [deinterleave]

theorem deinterleave_re (m : ℕ) (data : Array R) (p : ℕ) (hp : p < m) :
    (deinterleave m data).re[p]! = data[2 * p]! := by
  simp [deinterleave, hp]

theorem deinterleave_im (m : ℕ) (data : Array R) (p : ℕ) (hp : p < m) :
    (deinterleave m data).im[p]! = data[2 * p + 1]! := by
  simp [deinterleave, hp]

theorem interleave_re (m : ℕ) (s : RI R) (p : ℕ) (hp : p < m) : (interleave m s)[2 * p]! = s.re[p]! := by
  have : 2 * p < 2 * m := by omega
  simp [interleave, this]

theorem interleave_im (m : ℕ) (s : RI R) (p : ℕ) (hp : p < m) : (interleave m s)[2 * p + 1]! = s.im[p]! := by
  have : 2 * p + 1 < 2 * m := by omega
  have h1 : (2 * p + 1) % 2 = 1 := by omega
  have h2 : (2 * p + 1) / 2 = p := by omega
  simp [interleave, this, h1, h2]

theorem joinRI_size {α : Type} {m : ℕ} (s : RI α) (hs : Valid m s) : (joinRI s).size = 2 * m := by
  rw [joinRI, Array.size_append, hs.1, hs.2, two_mul]

end Spq.Fft.Api
