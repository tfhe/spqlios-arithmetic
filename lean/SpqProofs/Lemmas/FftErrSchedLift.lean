/-
  C06.4: an arithmetic on ℚ satisfying the standard model (`FStd`) lifted to any ordered field `K ⊇ ℚ` (e.g. ℝ, where
  the exact roots of unity live): on rational operands it is the ℚ-arithmetic, elsewhere it is exact.
-/
import SpqProofs.Lemmas.FftErrInst
import SpqProofs.Lemmas.FftErrSchedRel
import Mathlib.Data.Rat.Cast.Order
set_option linter.unusedSectionVars false
namespace Spq.FftErr
open Spq.Fft Spq.Fft.RelN
variable {K : Type} [Field K] [LinearOrder K] [IsStrictOrderedRing K]

open Classical in
noncomputable def unc (x : K) : Option ℚ := if h : ∃ q : ℚ, (q : K) = x then some h.choose else none

theorem unc_cast (q : ℚ) : unc (q : K) = some q := by
  unfold unc
  have h : ∃ r : ℚ, (r : K) = (q : K) := ⟨q, rfl⟩
  rw [dif_pos h]
  exact congrArg some (Rat.cast_injective h.choose_spec)

theorem unc_some {x : K} {q : ℚ} (h : unc x = some q) : x = (q : K) := by
  unfold unc at h
  split at h
  · rename_i hx
    have := hx.choose_spec
    rw [Option.some.injEq] at h
    rw [← h, this]
  · exact absurd h (by simp)

theorem cast_bound {u q e : ℚ} (h : |q - e| ≤ u * |e|) : |((q : ℚ) : K) - (e : K)| ≤ (u : K) * |(e : K)| := by
  have := (Rat.cast_le (K := K)).2 h
  push_cast at this
  exact this

noncomputable def lift2 (f : ℚ → ℚ → ℚ) (G : K → K → K) (x y : K) : K :=
  match unc x, unc y with
  | some q, some r => ((f q r : ℚ) : K)
  | _, _ => G x y

noncomputable def lift3 (f : ℚ → ℚ → ℚ → ℚ) (G : K → K → K → K) (x y z : K) : K :=
  match unc x, unc y, unc z with
  | some q, some r, some t => ((f q r t : ℚ) : K)
  | _, _, _ => G x y z

theorem lift2_cast (f : ℚ → ℚ → ℚ) (G : K → K → K) (q r : ℚ) : lift2 f G (q : K) (r : K) = ((f q r : ℚ) : K) := by
  simp only [lift2, unc_cast]

theorem lift3_cast (f : ℚ → ℚ → ℚ → ℚ) (G : K → K → K → K) (q r t : ℚ) :
    lift3 f G (q : K) (r : K) (t : K) = ((f q r t : ℚ) : K) := by
  simp only [lift3, unc_cast]

theorem lift2_std {u : ℚ} (hu : 0 ≤ u) {f g : ℚ → ℚ → ℚ} {G : K → K → K} (hG : ∀ q r : ℚ, G q r = ((g q r : ℚ) : K))
    (h : ∀ q r, |f q r - g q r| ≤ u * |g q r|) (x y : K) : |lift2 f G x y - G x y| ≤ (u : K) * |G x y| := by
  unfold lift2
  split
  · rename_i q r hq hr
    rw [unc_some hq, unc_some hr, hG]
    exact cast_bound (h q r)
  · rw [sub_self, abs_zero]; exact mul_nonneg (by exact_mod_cast hu) (abs_nonneg _)

theorem lift3_std {u : ℚ} (hu : 0 ≤ u) {f g : ℚ → ℚ → ℚ → ℚ} {G : K → K → K → K}
    (hG : ∀ q r t : ℚ, G q r t = ((g q r t : ℚ) : K)) (h : ∀ q r t, |f q r t - g q r t| ≤ u * |g q r t|) (x y z : K) :
    |lift3 f G x y z - G x y z| ≤ (u : K) * |G x y z| := by
  unfold lift3
  split
  · rename_i q r t hq hr ht
    rw [unc_some hq, unc_some hr, unc_some ht, hG]
    exact cast_bound (h q r t)
  · rw [sub_self, abs_zero]; exact mul_nonneg (by exact_mod_cast hu) (abs_nonneg _)

noncomputable def liftA (A : Arith ℚ) : Arith K :=
  ⟨lift2 A.add (· + ·), lift2 A.sub (· - ·), lift2 A.mul (· * ·), fun x => -x,
    lift3 A.fma (fun x y z => x * y + z), lift3 A.fms (fun x y z => x * y - z)⟩

theorem liftA_sim (A : Arith ℚ) (hneg : ∀ q, A.neg q = -q) :
    ASim (fun (q : ℚ) (x : K) => x = (q : K)) A (liftA A) where
  add := by intro a a' b b' h1 h2; subst h1 h2; simp only [liftA, lift2_cast]
  sub := by intro a a' b b' h1 h2; subst h1 h2; simp only [liftA, lift2_cast]
  mul := by intro a a' b b' h1 h2; subst h1 h2; simp only [liftA, lift2_cast]
  neg := by intro a a' h1; subst h1; simp only [liftA, hneg]; push_cast; ring
  fma := by intro a a' b b' c c' h1 h2 h3; subst h1 h2 h3; simp only [liftA, lift3_cast]
  fms := by intro a a' b b' c c' h1 h2 h3; subst h1 h2 h3; simp only [liftA, lift3_cast]

theorem liftA_fstd (A : Arith ℚ) (u : ℚ) (sm : FStd A u) : FStd (liftA A : Arith K) (u : K) where
  u_nonneg := by exact_mod_cast sm.u_nonneg
  add := lift2_std sm.u_nonneg (g := (· + ·)) (fun q r => (Rat.cast_add q r).symm) sm.add
  sub := lift2_std sm.u_nonneg (g := (· - ·)) (fun q r => (Rat.cast_sub q r).symm) sm.sub
  mul := lift2_std sm.u_nonneg (g := (· * ·)) (fun q r => (Rat.cast_mul q r).symm) sm.mul
  fma := lift3_std sm.u_nonneg (g := fun q r t => q * r + t) (fun q r t => by push_cast; rfl) sm.fma
  fms := lift3_std sm.u_nonneg (g := fun q r t => q * r - t) (fun q r t => by push_cast; rfl) sm.fms
  neg := fun _ => rfl

end Spq.FftErr
