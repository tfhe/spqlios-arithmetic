/-
  C16, binary64 side, products of products: the metric invariant of a whole `VEC_ZNX_DFT` object (`MetricRep`), derived
  for the outputs of `vec_znx_dft` (`dft_metric`) and `svp_apply_dft` (`svp_metric`) and consumed by `vec_znx_idft`
  (`idft_of_metric`, `idftM_read`); each budget predicate comes with its limb rule.  The per-limb budgets of `C16Err` give
  a producer and a consumer budget (`metric_of_rtBudget`, `metric_of_prodBudget`); `rt_exact` and `prod_exact`, which the
  per-operation budgets of `ProgErrOps` rest on, are these followed by the two limb rules.
-/
import SpqProofs.Lemmas.ProgErr2Inv
namespace Spq.ProgErr2
open Finset Spq Spq.Module Spq.Fft Spq.Fft.Alg Spq.FftErr Spq.F64 Spq.Reim4 Spq.ProdErr Spq.VmpErr Spq.ProgErr Spq.Closed
  Spq.Prog
variable {K : Type} [Field K] [LinearOrder K] [IsStrictOrderedRing K]

/-- **`MetricRep M P sz d δ`**: the binary64 DFT-space object `d` (`sz` limbs of `N` cells) REPRESENTS the integer
    polynomial vector `P` with error budgets `δ`: every cell is a finite double and, limb by limb,
    `Σ_j |val(d_i)_j − DFT(P_i)_j|² ≤ δ_i²·m` (`LimbMetric`; `δ_i` is a root-mean-square error per complex point). -/
def MetricRep (M : F64Mod K) (P : Val) (sz : ℕ) (d : Array ℕ) (δ : ℕ → K) : Prop :=
  d.size = sz * M.N ∧ ∀ i, i < sz → LimbMetric M (dlimb d i M.N) (polyArr M.N (P.coef i)) (δ i)

theorem MetricRep.mono {M : F64Mod K} {P : Val} {sz : ℕ} {d : Array ℕ} {δ δ' : ℕ → K} (h : MetricRep M P sz d δ)
    (hle : ∀ i, i < sz → δ i ≤ δ' i) : MetricRep M P sz d δ' :=
  ⟨h.1, fun i hi => (h.2 i hi).mono (hle i hi)⟩

theorem MetricRep.congr {M : F64Mod K} {P P' : Val} {sz : ℕ} {d : Array ℕ} {δ : ℕ → K} (h : MetricRep M P sz d δ)
    (hP : ∀ i t, i < sz → t < M.N → P.coef i t = P'.coef i t) : MetricRep M P' sz d δ :=
  ⟨h.1, fun i hi => (h.2 i hi).congr (fun t ht => by
    rw [getD_polyArr _ _ _ ht, getD_polyArr _ _ _ ht, hP i t hi ht])⟩

/-- budget of one transformed limb `a` with target budget `δ`: box, forward flags, `ε·na ≤ δ` for some `na ≥ ‖a‖₂` -/
def DftLimbBudget (M : F64Mod K) (a : Array Int) (δ : K) : Prop :=
  Box M.k a ∧ FwdOk M.c M.k M.cN M.sN a ∧ ∃ na : K, 0 ≤ na ∧ n2sq K a M.N ≤ na ^ 2 ∧ eps K M.k * na ≤ δ

theorem DftLimbBudget.metric {M : F64Mod K} {a : Array Int} {δ : K} (h : DftLimbBudget M a δ) :
    LimbMetric M (M.parts.fft (M.parts.fromZnx a)) a δ := by
  obtain ⟨hbox, hok, na, hna0, hna, hle⟩ := h
  exact (fwd_limbMetric M a hbox hok na hna0 hna).mono hle

theorem dft_metric (M : F64Mod K) (x : Array Int) (asz asl rsz : ℕ) (f : ℕ → ℕ → ℤ) (hag : Agree M.N x asz asl f)
    (δ : ℕ → K) (hδ0 : ∀ i, i < rsz → 0 ≤ δ i)
    (hb : ∀ i, i < asz → i < rsz → DftLimbBudget M (polyArr M.N (f i)) (δ i)) :
    MetricRep M (Val.mk M.N rsz (zext asz f)) rsz (vecDft M.parts rsz x asz asl) δ := by
  obtain ⟨hsz, hl⟩ := vecDft_limbs M x asz asl rsz f hag
  refine ⟨hsz, limbwise M.N rsz (fun i dl y => LimbMetric M dl y (δ i)) _ (· < asz) _ (fun i hi h => ?_) fun i hi h =>
    ⟨by rw [hl i hi, if_neg h]; exact limbMetric_zero M _ _ (hδ0 i hi) fun p _ => getD_replicate 0 _ p,
      fun t _ => by rw [zext, if_neg h]⟩⟩
  rw [hl i hi, if_pos h, zext_pos f h]
  exact (hb i h hi).metric

/-- budget of one product limb `a ⊛ b` with target budget `δ`: boxes, flags of the two forward transforms and of the
    pointwise product, `fB ε μ (ε·m)·(‖a‖₁·nb + na·‖b‖₁) ≤ δ` -/
def SvpLimbBudget (M : F64Mod K) (a b : Array Int) (δ : K) : Prop :=
  Box M.k a ∧ Box M.k b ∧ MulOk M.c M.k M.cN M.sN a b ∧
  ∃ na nb : K, 0 ≤ na ∧ 0 ≤ nb ∧ n2sq K a M.N ≤ na ^ 2 ∧ n2sq K b M.N ≤ nb ^ 2 ∧ nb ≤ n1 K b M.N ∧
    svpDelta M a b na nb ≤ δ

theorem SvpLimbBudget.metric {M : F64Mod K} {a b : Array Int} {δ : K} (h : SvpLimbBudget M a b δ) :
    LimbMetric M (stM M.c M.k M.cN M.sN a b) (nmul M.N a b) δ := by
  obtain ⟨hA, hB, hok, na, nb, hna0, hnb0, hna, hnb, hnl, hle⟩ := h
  exact (svp_stage M a b hA hB hok na nb hna0 hnb0 hna hnb hnl).mono hle

theorem svp_metric (M : F64Mod K) (x : Array Int) (asz asl rsz : ℕ) (f : ℕ → ℕ → ℤ) (hag : Agree M.N x asz asl f)
    (sp : Array Int) (δ : ℕ → K) (hδ0 : ∀ i, i < rsz → 0 ≤ δ i)
    (hb : ∀ i, i < asz → i < rsz → SvpLimbBudget M (polyArr M.N (f i)) sp (δ i)) :
    MetricRep M (Val.mk M.N rsz fun i c => polyMul M.N (zext asz f i) (fun t => sp.getD t 0) c) rsz
      (svpApply M.parts rsz (svpPrepare M.parts sp) x asz asl) δ := by
  obtain ⟨hsz, hl⟩ := svpApply_limbs M x asz asl rsz f hag sp
  refine ⟨hsz, limbwise M.N rsz (fun i dl y => LimbMetric M dl y (δ i)) _ (· < asz) _ (fun i hi h => ?_) fun i hi h =>
    ⟨by rw [hl i hi, if_neg h]; exact limbMetric_zero M _ _ (hδ0 i hi) fun p _ => getD_replicate 0 _ p,
      fun t _ => by rw [zext_neg f h, polyMul_zero_left]⟩⟩
  rw [hl i hi, if_pos h, zext_pos f h, polyArr_polyMul]
  exact (hb i h hi).metric

/-- budget of the inverse transform of ONE limb `dl` (concrete) representing `x` with incoming budget `δ`: flags of
    the inverse transform of `dl`, and for some `S2 ≥ ‖x‖₂`: the domain of the final conversion and
    `ε·(S2 + δ) + δ < 1/2` -/
def IdftLimbBudget (M : F64Mod K) (dl : Array ℕ) (x : Array Int) (δ : K) : Prop :=
  InvOk M.c M.k M.cNi M.sNi dl ∧ ∃ S2 : K, 0 ≤ S2 ∧ n2sq K x M.N ≤ S2 ^ 2 ∧
    (∀ t, t < M.N → |((x.getD t 0 : Int) : K)| + invBudget M S2 δ < ((Bv M.c.toVariant : ℚ) : K)) ∧
    invBudget M S2 δ < 1 / 2

theorem IdftLimbBudget.exact {M : F64Mod K} {d : Array ℕ} {x : Array Int} {δ : K} (h : IdftLimbBudget M d x δ)
    (hsz : d.size = M.N) (hrep : LimbMetric M d x δ) : M.parts.toZnx (M.parts.ifft d) = firstN M.N x := by
  obtain ⟨hok, S2, hS0, hS, hdom, hE⟩ := h
  exact idft_limb_of_metric M d x δ hsz hrep hok S2 hS0 hS hdom hE

theorem idft_of_metric (M : F64Mod K) (P : Val) (sz : ℕ) (d : Array ℕ) (δ : ℕ → K) (hrep : MetricRep M P sz d δ)
    (i : ℕ) (hi : i < sz) (hb : IdftLimbBudget M (dlimb d i M.N) (polyArr M.N (P.coef i)) (δ i)) :
    M.parts.toZnx (M.parts.ifft (dlimb d i M.N)) = polyArr M.N (P.coef i) := by
  rw [hb.exact (dlimb_size d i M.N sz hrep.1 hi) (hrep.2 i hi), firstN_of_size _ _ (size_polyArr _ _)]

theorem idftM_read (M : F64Mod K) (P : Val) (sz rsz : ℕ) (d : Array ℕ) (δ : ℕ → K) (hrep : MetricRep M P sz d δ)
    (hb : ∀ i, i < sz → i < rsz → IdftLimbBudget M (dlimb d i M.N) (polyArr M.N (P.coef i)) (δ i)) (i t : ℕ)
    (hi : i < rsz) (ht : t < M.N) :
    (vecIdft M.parts rsz d sz).getD (i * M.N + t) 0 = zext sz (fun i t => P.coef i t) i t :=
  idft_read M P sz rsz d (fun i hs hr => idft_of_metric M P sz d δ hrep i hs (hb i hs hr)) i t hi ht

theorem metric_of_rtBudget (M : F64Mod K) (a : Array Int) (hb : RtBudget M a) :
    ∃ δ : K, DftLimbBudget M a δ ∧ IdftLimbBudget M (M.parts.fft (M.parts.fromZnx a)) a δ := by
  obtain ⟨hbox, hok, na, hna0, hna, hE⟩ := hb
  refine ⟨eps K M.k * na, ⟨hbox, hok.okF, na, hna0, hna, le_refl _⟩, ?_⟩
  rw [parts_fft M.c M.k M.cN M.sN M.cNi M.sNi M.ok.cfg]
  obtain ⟨hdom, hE'⟩ := rt_consumer M a na hna0 hna hE
  exact ⟨hok.okI, na, hna0, hna, hdom, hE'⟩

theorem metric_of_prodBudget (M : F64Mod K) (a b : Array Int) (hb : ProdBudget M a b) :
    ∃ δ : K, SvpLimbBudget M a b δ ∧ IdftLimbBudget M (stM M.c M.k M.cN M.sN a b) (nmul M.N a b) δ := by
  obtain ⟨hA, hB, hok, na, nb, hna0, hnb0, hna, hnb, hnl, hE⟩ := hb
  refine ⟨svpDelta M a b na nb, ⟨hA, hB, MulOk.of_pipe hok, na, nb, hna0, hnb0, hna, hnb, hnl, le_refl _⟩, ?_⟩
  exact ⟨hok.okI, prod_consumer M a b na nb hna0 hnb0 hna hnb hE⟩

theorem rt_exact (M : F64Mod K) (a : Array Int) (hb : RtBudget M a) :
    M.parts.toZnx (M.parts.ifft (M.parts.fft (M.parts.fromZnx a))) = firstN M.N a := by
  obtain ⟨δ, hp, hc⟩ := metric_of_rtBudget M a hb
  exact hc.exact (fwd_size M a) hp.metric

theorem prod_exact (M : F64Mod K) (a b : Array Int) (hb : ProdBudget M a b) :
    M.parts.toZnx (M.parts.ifft (stM M.c M.k M.cN M.sN a b)) = nmul M.N a b := by
  obtain ⟨δ, hp, hc⟩ := metric_of_prodBudget M a b hb
  rw [hc.exact (mulA_cells F64.arith M.c.mulFma (2 ^ M.k) (fun hf => pow_mod_four M.k (M.ok.cfg.mulFma hf)) _ _).1
    hp.metric, firstN_of_size _ _ (size_nmul _ _ _)]

end Spq.ProgErr2
