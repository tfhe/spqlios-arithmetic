/-
  Hoare-style rules for the loops of the deep-embedded IR `Spq.CIR` (used by the `src_*` theorems
  of `Properties/Src*.lean`), and the unfolding equations of the
  interpreter in the form used by the symbolic execution (`cir_simp`).

  Equations and rules are stated for `execK K`.  `exec Γ` is reducibly `execK ExtSem.none Γ`, so `exact`, `refine`
  and `simp only` accept them on an `exec` goal; `rw` compares head symbols and does not, which is what the
  `exec_*` forms below are for.
-/
import Spq.CIR
namespace Spq.CIR

/-- continuation of a sequence: run `k` after a normal completion.  The unfolding equation of `.seq` is stated
    with the continuation as a partial application (`exec Γ b f`), so that `simp` does not execute the second
    statement symbolically on an abstract intermediate state (it waits until the first one has been reduced to
    `.ok (.norm, σ')`). -/
def seqK (x : Out) (k : State → Out) : Out :=
  match x with
  | .ok (.norm, σ') => k σ'
  | r => r

theorem seqK_norm (σ : State) (k : State → Out) : seqK (.ok (.norm, σ)) k = k σ := rfl
theorem seqK_err (e : Err) (k : State → Out) : seqK (.err e) k = .err e := rfl
theorem seqK_ret (σ : State) (k : State → Out) : seqK (.ok (.ret, σ)) k = .ok (.ret, σ) := rfl
theorem seqK_cont (σ : State) (k : State → Out) : seqK (.ok (.cont, σ)) k = .ok (.cont, σ) := rfl

/-- `x` ends normally, in a state that satisfies `Q`.  Reducible, so that a goal `∃ σ', x = .ok (.norm, σ') ∧ Q σ'`
    written out and the anonymous constructor both fit. -/
@[reducible] def Post (x : Out) (Q : State → Prop) : Prop := ∃ σ', x = .ok (.norm, σ') ∧ Q σ'

theorem Post.seq (x : Out) (k : State → Out) (P Q : State → Prop) (h : Post x P) (hk : ∀ σ, P σ → Post (k σ) Q) :
    Post (seqK x k) Q := by
  obtain ⟨σ, rfl, hP⟩ := h
  exact hk σ hP

theorem Post.thenStep (x : Out) (k : State → Out) (P Q : State → Prop) (h : Post x P) (hk : ∀ σ, P σ → Post (k σ) Q) :
    Post (thenStep x k) Q := by
  obtain ⟨σ, rfl, hP⟩ := h
  exact hk σ hP

theorem Post.weaken (x : Out) (P Q : State → Prop) (h : Post x P) (hw : ∀ σ, P σ → Q σ) : Post x Q := by
  obtain ⟨σ, h1, hP⟩ := h
  exact ⟨σ, h1, hw σ hP⟩

theorem Post.memOf (x : Out) (M : Mem) (P : State → Prop) (h : Post x P) (hP : ∀ σ, P σ → σ.mem = M) :
    memOf x = .ok M := by
  obtain ⟨σ, rfl, h2⟩ := h
  exact congrArg R.ok (hP σ h2)

/-! ### unfolding equations of the interpreter (all by `rfl`; straight-line statements do not look at the fuel) -/
section eqs
variable (K : ExtSem) (Γ : List Ptr)
theorem execK_skip (f : Nat) (σ : State) : execK K Γ .skip f σ = .ok (.norm, σ) := rfl
theorem execK_assign (x : Nat) (e : Expr) (f : Nat) (σ : State) :
    execK K Γ (.assign x e) f σ = (eval Γ σ e).bind fun v => .ok (.norm, { σ with env := lset σ.env x v }) := rfl
theorem execK_store (p : Nat) (i e : Expr) (f : Nat) (σ : State) :
    execK K Γ (.store p i e) f σ = (eval Γ σ i).bind fun iv => (eval Γ σ e).bind fun v =>
      (storeCell σ.mem (Γ.getD p none) iv v).bind fun m => .ok (.norm, { σ with mem := m }) := rfl
theorem execK_seq (a b : Stmt) (f : Nat) (σ : State) :
    execK K Γ (.seq a b) f σ = seqK (execK K Γ a f σ) (execK K Γ b f) := rfl
theorem execK_ite (c : Expr) (t e : Stmt) (f : Nat) (σ : State) :
    execK K Γ (.ite c t e) f σ = (evalB Γ c σ).bind fun b => if b then execK K Γ t f σ else execK K Γ e f σ := rfl
theorem execK_for_def (i : Stmt) (c : Expr) (inc b : Stmt) (f : Nat) (σ : State) :
    execK K Γ (.for i c inc b) f σ = (match execK K Γ i f σ with
      | .ok (.norm, σ1) =>
        loopN (evalB Γ c) (fun f σ => thenStep (execK K Γ b f σ) fun σ' => execK K Γ inc f σ') f σ1
      | r => r) := rfl
theorem execK_memcpy (d s : Nat) (n : Expr) (f : Nat) (σ : State) :
    execK K Γ (.memcpy d s n) f σ = (eval Γ σ n).bind fun nv =>
      (memcpyCells σ.mem (Γ.getD d none) (Γ.getD s none) nv).bind fun m => .ok (.norm, { σ with mem := m }) := rfl
theorem execK_memset (d : Nat) (t : Ty) (v n : Expr) (f : Nat) (σ : State) :
    execK K Γ (.memset d t v n) f σ = (eval Γ σ v).bind fun vv => (eval Γ σ n).bind fun nv =>
      (memsetCells σ.mem (Γ.getD d none) t vv nv).bind fun m => .ok (.norm, { σ with mem := m }) := rfl
theorem execK_passign (s : Nat) (b : PBase) (o : Expr) (f : Nat) (σ : State) :
    execK K Γ (.passign s b o) f σ = (eval Γ σ o).bind fun v => (ptrAt Γ σ.env b v).bind fun p =>
      .ok (.norm, { σ with env := encPtr σ.env s p }) := rfl
theorem execK_call (body : Stmt) (nslots : Nat) (sargs : List Expr) (pargs : List (PBase × Expr)) (f : Nat)
    (σ : State) :
    execK K Γ (.call body nslots sargs pargs) f σ = (evalList Γ σ sargs).bind fun vs =>
      (evalPtrs Γ σ pargs).bind fun ps =>
        callRet σ (execK K ps body f { env := vs ++ List.replicate (nslots - vs.length) 0, mem := σ.mem }) := rfl
theorem execK_extcall (name : String) (sargs : List Expr) (pargs : List (PBase × Expr)) (f : Nat) (σ : State) :
    execK K Γ (.extcall name sargs pargs) f σ = (evalList Γ σ sargs).bind fun vs =>
      (evalPtrs Γ σ pargs).bind fun ps => (K name vs ps σ.mem).bind fun m => .ok (.norm, { σ with mem := m }) := rfl
theorem execK_ret (f : Nat) (σ : State) : execK K Γ .ret f σ = .ok (.ret, σ) := rfl
theorem execK_cont (f : Nat) (σ : State) : execK K Γ .cont f σ = .ok (.cont, σ) := rfl
end eqs

/-! ### the same for `exec`, for `rw`; `.while` and `.doWhile`, which only the kernels contain, have this form only -/
section eqs
variable (Γ : List Ptr)

theorem exec_skip (f : Nat) (σ : State) : exec Γ .skip f σ = .ok (.norm, σ) := execK_skip _ Γ f σ
theorem exec_assign (x : Nat) (e : Expr) (f : Nat) (σ : State) :
    exec Γ (.assign x e) f σ = (eval Γ σ e).bind fun v => .ok (.norm, { σ with env := lset σ.env x v }) :=
  execK_assign _ Γ x e f σ
theorem exec_store (p : Nat) (i e : Expr) (f : Nat) (σ : State) :
    exec Γ (.store p i e) f σ = (eval Γ σ i).bind fun iv => (eval Γ σ e).bind fun v =>
      (storeCell σ.mem (Γ.getD p none) iv v).bind fun m => .ok (.norm, { σ with mem := m }) :=
  execK_store _ Γ p i e f σ
theorem exec_seq (a b : Stmt) (f : Nat) (σ : State) :
    exec Γ (.seq a b) f σ = seqK (exec Γ a f σ) (exec Γ b f) := execK_seq _ Γ a b f σ
theorem exec_ite (c : Expr) (t e : Stmt) (f : Nat) (σ : State) :
    exec Γ (.ite c t e) f σ = (evalB Γ c σ).bind fun b => if b then exec Γ t f σ else exec Γ e f σ :=
  execK_ite _ Γ c t e f σ
theorem exec_while (c : Expr) (b : Stmt) (f : Nat) (σ : State) :
    exec Γ (.while c b) f σ = loopN (evalB Γ c) (fun f σ => exec Γ b f σ) f σ := rfl
theorem exec_doWhile (b : Stmt) (c : Expr) (f : Nat) (σ : State) :
    exec Γ (.doWhile b c) f σ =
      thenStep (exec Γ b f σ) fun σ' => loopN (evalB Γ c) (fun f σ => exec Γ b f σ) f σ' := rfl
theorem exec_memcpy (d s : Nat) (n : Expr) (f : Nat) (σ : State) :
    exec Γ (.memcpy d s n) f σ = (eval Γ σ n).bind fun nv =>
      (memcpyCells σ.mem (Γ.getD d none) (Γ.getD s none) nv).bind fun m => .ok (.norm, { σ with mem := m }) :=
  execK_memcpy _ Γ d s n f σ
theorem exec_memset (d : Nat) (t : Ty) (v n : Expr) (f : Nat) (σ : State) :
    exec Γ (.memset d t v n) f σ = (eval Γ σ v).bind fun vv => (eval Γ σ n).bind fun nv =>
      (memsetCells σ.mem (Γ.getD d none) t vv nv).bind fun m => .ok (.norm, { σ with mem := m }) :=
  execK_memset _ Γ d t v n f σ

/-- the loop part of a `for` statement, as an opaque constant for `simp` (so that the symbolic execution of the
    `init` part does not descend into the loop body under its binders); unfold it with `forLoop_def`. -/
def forLoop (Γ : List Ptr) (c : Expr) (inc b : Stmt) (f : Nat) (σ1 : State) : Out :=
  loopN (evalB Γ c) (fun f σ => thenStep (exec Γ b f σ) fun σ' => exec Γ inc f σ') f σ1

theorem forLoop_def (Γ : List Ptr) (c : Expr) (inc b : Stmt) (f : Nat) (σ1 : State) :
    forLoop Γ c inc b f σ1 =
      loopN (evalB Γ c) (fun f σ => thenStep (exec Γ b f σ) fun σ' => exec Γ inc f σ') f σ1 := rfl

theorem exec_for_eq (i : Stmt) (c : Expr) (inc b : Stmt) (f : Nat) (σ : State) :
    exec Γ (.for i c inc b) f σ = seqK (exec Γ i f σ) (forLoop Γ c inc b f) := rfl

/-- sequencing when the first statement completes normally -/
theorem exec_seq_of_norm {a b : Stmt} {f : Nat} {σ σ' : State} (h : exec Γ a f σ = .ok (.norm, σ')) :
    exec Γ (.seq a b) f σ = exec Γ b f σ' := by
  rw [exec_seq, h, seqK_norm]

/-- `if (c) a;` in front of `rest`, once the test is evaluated: `rest` stays a closed term while `a` runs -/
theorem exec_if_seq (c : Expr) (a rest : Stmt) (f : Nat) (σ : State) (b : Bool) (hc : evalB Γ c σ = .ok b) :
    exec Γ (.seq (.ite c a .skip) rest) f σ
      = if b then seqK (exec Γ a f σ) (exec Γ rest f) else exec Γ rest f σ := by
  rw [exec_seq, exec_ite, hc]
  cases b <;> rfl

theorem eval_lit (σ : State) (v : Int) : eval Γ σ (.lit v) = .ok v := rfl
theorem eval_var (σ : State) (x : Nat) : eval Γ σ (.var x) = .ok (lget σ.env x) := rfl
theorem eval_load (σ : State) (p : Nat) (i : Expr) :
    eval Γ σ (.load p i) = (eval Γ σ i).bind fun iv => loadCell σ.mem (Γ.getD p none) iv := rfl
theorem eval_cast (σ : State) (t : Ty) (e : Expr) :
    eval Γ σ (.cast t e) = (eval Γ σ e).bind fun v => .ok (t.wrap v) := rfl
theorem eval_un (σ : State) (op : UnOp) (t : Ty) (e : Expr) :
    eval Γ σ (.un op t e) = (eval Γ σ e).bind fun v => evalUn op t v := rfl
theorem eval_bin (σ : State) (op : BinOp) (t : Ty) (a b : Expr) :
    eval Γ σ (.bin op t a b) = (eval Γ σ a).bind fun x => (eval Γ σ b).bind fun y => evalBin op t x y := rfl
theorem eval_cond (σ : State) (c a b : Expr) :
    eval Γ σ (.cond c a b) = (eval Γ σ c).bind fun cv => if cv ≠ 0 then eval Γ σ a else eval Γ σ b := rfl
theorem eval_land (σ : State) (a b : Expr) :
    eval Γ σ (.land a b) = (eval Γ σ a).bind fun x =>
      if x = 0 then .ok 0 else (eval Γ σ b).bind fun y => .ok (if y = 0 then 0 else 1) := rfl
theorem eval_lor (σ : State) (a b : Expr) :
    eval Γ σ (.lor a b) = (eval Γ σ a).bind fun x =>
      if x ≠ 0 then .ok 1 else (eval Γ σ b).bind fun y => .ok (if y = 0 then 0 else 1) := rfl
theorem eval_isNull (σ : State) (p : Nat) :
    eval Γ σ (.isNull p) = .ok (if (Γ.getD p none).isNone then 1 else 0) := rfl

end eqs

theorem eval_pload (Γ : List Ptr) (σ : State) (b : PBase) (o : Expr) :
    eval Γ σ (.pload b o) = (eval Γ σ o).bind fun v => (ptrAt Γ σ.env b v).bind fun p => loadCell σ.mem p 0 := rfl
theorem exec_pstore (Γ : List Ptr) (b : PBase) (o e : Expr) (f : Nat) (σ : State) :
    exec Γ (.pstore b o e) f σ = (eval Γ σ o).bind fun ov => (eval Γ σ e).bind fun v =>
      (ptrAt Γ σ.env b ov).bind fun p => (storeCell σ.mem p 0 v).bind fun m => .ok (.norm, { σ with mem := m }) := rfl

/-! ### loops

One induction on `loopN` (`loopN_rule`); the counting loop (`loopN_inv`), the walks of `SrcSim` and the level loop
with `return` are instances of it. -/

/-- `x` ends in some state, and `Q` holds of how it ended (`.norm`, `.ret` for `return`, `.cont` for `continue`)
    and of that state.  `Post x P` is `Ends x fun fl σ => fl = .norm ∧ P σ`. -/
@[reducible] def Ends (x : Out) (Q : Flow → State → Prop) : Prop := ∃ fl σ', x = .ok (fl, σ') ∧ Q fl σ'

theorem Post.ends {x : Out} {P : State → Prop} {Q : Flow → State → Prop} (h : Post x P)
    (hQ : ∀ σ, P σ → Q .norm σ) : Ends x Q := by
  obtain ⟨σ, e, hP⟩ := h
  exact ⟨.norm, σ, e, hQ σ hP⟩

theorem Ends.post {x : Out} {P : State → Prop} (h : Ends x fun fl σ => fl = .norm ∧ P σ) : Post x P := by
  obtain ⟨_, σ, e, rfl, hP⟩ := h
  exact ⟨σ, e, hP⟩

theorem Ends.memOf {x : Out} {M : Mem} (h : Ends x fun _ σ => σ.mem = M) : memOf x = .ok M := by
  obtain ⟨_, σ, rfl, hM⟩ := h
  exact congrArg R.ok hM

theorem loopN_of_false (c : State → R Bool) (step : Nat → State → Out) (f : Nat) (σ : State)
    (hc : c σ = .ok false) : loopN c step f σ = .ok (.norm, σ) := by
  cases f <;> simp only [loopN, hc]

/-- `I r σ`: σ can be the state at the loop head with rank `r`, a bound on the rounds to go (a rank and not a counter,
    so that the number of rounds may depend on the data; a counter `k` running up to `hi` has rank `hi - k`).
    `Q fl σ`: the loop may end in σ with `fl`, which is `.norm` when the test fails and `.ret` when the body returns.
    Each round either leaves by the test or runs the step with at least `fb` units of fuel, and the step either
    returns or, normally or by `continue`, reaches a loop head of smaller rank. -/
theorem loopN_rule (c : State → R Bool) (step : Nat → State → Out) (I : Nat → State → Prop)
    (Q : Flow → State → Prop) (fb : Nat)
    (h : ∀ r σ, I r σ → (c σ = .ok false ∧ Q .norm σ) ∨
      (c σ = .ok true ∧ ∃ r', r' < r ∧ ∀ f, fb ≤ f →
        Ends (step f σ) fun fl σ' => if fl = .ret then Q .ret σ' else I r' σ')) :
    ∀ r σ f, I r σ → r + fb ≤ f → Ends (loopN c step f σ) Q := by
  intro r
  induction r using Nat.strongRecOn with
  | ind r ih =>
    intro σ f hI hf
    rcases h r σ hI with ⟨hc, hQ⟩ | ⟨hc, r', hr, hs⟩
    · exact ⟨.norm, σ, loopN_of_false _ _ _ _ hc, hQ⟩
    · obtain ⟨f', rfl⟩ : ∃ f', f = f' + 1 := ⟨f - 1, by omega⟩
      obtain ⟨fl, σ1, h1, hq⟩ := hs f' (by omega)
      cases fl with
      | ret => exact ⟨.ret, σ1, by simp only [loopN, hc, h1], hq⟩
      | _ =>
        obtain ⟨fl2, σ2, h2, hq2⟩ := ih r' hr σ1 f' hq (by omega)
        exact ⟨fl2, σ2, by simp only [loopN, hc, h1]; exact h2, hq2⟩

/-- The counting loop.  `Inv k σ`: σ can be the state at the loop head when the counter is `k`.  A family of exact
    states `S k` is the invariant `σ = S k`. -/
theorem loopN_inv (c : State → R Bool) (step : Nat → State → Out) (Inv : Nat → State → Prop) (lo hi fb : Nat)
    (hlh : lo ≤ hi)
    (hstep : ∀ k σ, lo ≤ k → k < hi → Inv k σ → c σ = .ok true ∧ ∀ f, fb ≤ f → Post (step f σ) (Inv (k + 1)))
    (hx : ∀ σ, Inv hi σ → c σ = .ok false) :
    ∀ σ, Inv lo σ → ∀ f, (hi - lo) + fb ≤ f → Post (loopN c step f σ) (Inv hi) := by
  intro σ h0 f hf
  refine Ends.post (loopN_rule c step (fun r σ => ∃ k, lo ≤ k ∧ k + r = hi ∧ Inv k σ) _ fb ?_
    (hi - lo) σ f ⟨lo, Nat.le_refl _, Nat.add_sub_cancel' hlh, h0⟩ hf)
  rintro r σ ⟨k, h1, h2, hI⟩
  cases r with
  | zero =>
    subst h2
    exact .inl ⟨hx σ hI, rfl, hI⟩
  | succ r =>
    obtain ⟨hc, hs⟩ := hstep k σ h1 (by omega) hI
    exact .inr ⟨hc, r, Nat.lt_succ_self r, fun f hf =>
      (hs f hf).ends fun σ1 hI1 => ⟨k + 1, Nat.le_succ_of_le h1, by omega, hI1⟩⟩

/-- the `for` statement: `init` establishes `Inv lo`; `body; inc` leads from `Inv k` to `Inv (k + 1)` -/
theorem execK_for_inv (K : ExtSem) (Γ : List Ptr) (init : Stmt) (c : Expr) (inc body : Stmt) (σ0 : State)
    (Inv : Nat → State → Prop) (lo hi fb : Nat) (hlh : lo ≤ hi)
    (hi0 : ∀ f, Post (execK K Γ init f σ0) (Inv lo))
    (hstep : ∀ k σ, lo ≤ k → k < hi → Inv k σ → evalB Γ c σ = .ok true ∧
      ∀ f, fb ≤ f → Post (thenStep (execK K Γ body f σ) (fun σ' => execK K Γ inc f σ')) (Inv (k + 1)))
    (hx : ∀ σ, Inv hi σ → evalB Γ c σ = .ok false) :
    ∀ f, (hi - lo) + fb ≤ f → Post (execK K Γ (.for init c inc body) f σ0) (Inv hi) := by
  intro f hf
  obtain ⟨σ1, h1, hI1⟩ := hi0 f
  rw [execK_for_def, h1]
  exact loopN_inv (evalB Γ c) _ Inv lo hi fb hlh hstep hx σ1 hI1 f hf

theorem exec_for_inv (Γ : List Ptr) (init : Stmt) (c : Expr) (inc body : Stmt) (σ0 σ1 : State)
    (Inv : Nat → State → Prop) (lo hi fb : Nat) (hlh : lo ≤ hi)
    (hi0 : ∀ f, exec Γ init f σ0 = .ok (.norm, σ1)) (h1 : Inv lo σ1)
    (hstep : ∀ k σ, lo ≤ k → k < hi → Inv k σ → evalB Γ c σ = .ok true ∧
      ∀ f, fb ≤ f → ∃ σ', thenStep (exec Γ body f σ) (fun σ' => exec Γ inc f σ') = .ok (.norm, σ') ∧ Inv (k + 1) σ')
    (hx : ∀ σ, Inv hi σ → evalB Γ c σ = .ok false) :
    ∀ f, (hi - lo) + fb ≤ f → ∃ σ', exec Γ (.for init c inc body) f σ0 = .ok (.norm, σ') ∧ Inv hi σ' :=
  execK_for_inv _ Γ init c inc body σ0 Inv lo hi fb hlh (fun f => ⟨σ1, hi0 f, h1⟩) hstep hx

/-- the `for` statement with a family of exact states: `init` establishes `S lo`; `body; inc` takes `S k` to
    `S (k+1)`. -/
theorem exec_for_range (Γ : List Ptr) (init : Stmt) (c : Expr) (inc body : Stmt) (σ0 : State)
    (S : Nat → State) (lo hi fb : Nat) (hlh : lo ≤ hi)
    (hi0 : ∀ f, exec Γ init f σ0 = .ok (.norm, S lo))
    (hc : ∀ k, lo ≤ k → k < hi → evalB Γ c (S k) = .ok true)
    (hs : ∀ k, lo ≤ k → k < hi → ∀ f, fb ≤ f →
      thenStep (exec Γ body f (S k)) (fun σ' => exec Γ inc f σ') = .ok (.norm, S (k + 1)))
    (hx : evalB Γ c (S hi) = .ok false) :
    ∀ f, (hi - lo) + fb ≤ f → exec Γ (.for init c inc body) f σ0 = .ok (.norm, S hi) := by
  intro f hf
  obtain ⟨_, h, rfl⟩ := exec_for_inv Γ init c inc body σ0 (S lo) (fun k σ => σ = S k) lo hi fb hlh hi0 rfl
    (fun k σ h1 h2 hσ => by subst hσ; exact ⟨hc k h1 h2, fun f hf => ⟨_, hs k h1 h2 f hf, rfl⟩⟩)
    (fun σ hσ => by subst hσ; exact hx) f hf
  exact h

/-- `while` loop with a counter-indexed family of states -/
theorem exec_while_range (Γ : List Ptr) (c : Expr) (body : Stmt)
    (S : Nat → State) (lo hi fb : Nat) (hlh : lo ≤ hi)
    (hc : ∀ k, lo ≤ k → k < hi → evalB Γ c (S k) = .ok true)
    (hs : ∀ k, lo ≤ k → k < hi → ∀ f, fb ≤ f → exec Γ body f (S k) = .ok (.norm, S (k + 1)))
    (hx : evalB Γ c (S hi) = .ok false) :
    ∀ f, (hi - lo) + fb ≤ f → exec Γ (.while c body) f (S lo) = .ok (.norm, S hi) := by
  intro f hf
  obtain ⟨_, h, rfl⟩ := loopN_inv (evalB Γ c) (fun f σ => exec Γ body f σ) (fun k σ => σ = S k) lo hi fb hlh
    (fun k σ h1 h2 hσ => by subst hσ; exact ⟨hc k h1 h2, fun f hf => ⟨_, hs k h1 h2 f hf, rfl⟩⟩)
    (fun σ hσ => by subst hσ; exact hx) (S lo) rfl f hf
  rw [exec_while]
  exact h

/-- out of fuel is the only way a counting loop can fail when given too little fuel: with `n` iterations to
    go and no fuel left the result is `Err.fuel` (shows the fuel bound of `loopN_inv` is tight for `fb = 0`). -/
theorem loopN_fuel_tight (c : State → R Bool) (step : Nat → State → Out) (S : Nat → State) (n : Nat)
    (hc : ∀ k, k < n → c (S k) = .ok true)
    (hs : ∀ k, k < n → ∀ f, step f (S k) = .ok (.norm, S (k + 1))) :
    ∀ f, f < n → loopN c step f (S 0) = .err .fuel := by
  suffices h : ∀ f j, j + f < n → loopN c step f (S j) = .err .fuel by
    intro f hf
    exact h f 0 (by omega)
  intro f
  induction f with
  | zero => intro j hj; simp [loopN, hc j (by omega)]
  | succ f ih =>
    intro j hj
    simp only [loopN, hc j (by omega), hs j (by omega) f]
    exact ih (j + 1) (by omega)

/-! ### call / pointer expressions -/
theorem callRet_eq (σ : State) (x : Out) :
    callRet σ x = (memOf x).bind fun m => .ok (.norm, { σ with mem := m }) := by
  cases x with
  | err e => rfl
  | ok r => obtain ⟨fl, σ'⟩ := r; rfl

/-- a call of a translated function is `runK` on the caller's memory -/
theorem execK_call_run (K : ExtSem) (Γ : List Ptr) (fn : Fn) (sargs : List Expr) (pargs : List (PBase × Expr)) (f : Nat)
    (σ : State) :
    execK K Γ (.call fn.body fn.nslots sargs pargs) f σ = (evalList Γ σ sargs).bind fun vs =>
      (evalPtrs Γ σ pargs).bind fun ps =>
        (runK K f fn vs ps σ.mem).bind fun m => .ok (.norm, { σ with mem := m }) := by
  show (evalList Γ σ sargs).bind (fun vs => (evalPtrs Γ σ pargs).bind fun ps =>
      callRet σ (execK K ps fn.body f { env := vs ++ List.replicate (fn.nslots - vs.length) 0, mem := σ.mem })) = _
  simp only [callRet_eq]
  rfl

theorem exec_call_run (Γ : List Ptr) (fn : Fn) (sargs : List Expr) (pargs : List (PBase × Expr)) (f : Nat)
    (σ : State) :
    exec Γ (.call fn.body fn.nslots sargs pargs) f σ = (evalList Γ σ sargs).bind fun vs =>
      (evalPtrs Γ σ pargs).bind fun ps =>
        (run f fn vs ps σ.mem).bind fun m => .ok (.norm, { σ with mem := m }) :=
  execK_call_run _ Γ fn sargs pargs f σ

theorem evalList_nil (Γ : List Ptr) (σ : State) : evalList Γ σ [] = .ok [] := rfl
theorem evalList_cons (Γ : List Ptr) (σ : State) (e : Expr) (es : List Expr) :
    evalList Γ σ (e :: es) = (eval Γ σ e).bind fun v => (evalList Γ σ es).bind fun vs => .ok (v :: vs) := rfl
theorem evalPtrs_nil (Γ : List Ptr) (σ : State) : evalPtrs Γ σ [] = .ok [] := rfl
theorem evalPtrs_cons (Γ : List Ptr) (σ : State) (b : PBase) (o : Expr) (ps : List (PBase × Expr)) :
    evalPtrs Γ σ ((b, o) :: ps) = (eval Γ σ o).bind fun v => (ptrAt Γ σ.env b v).bind fun p =>
      (evalPtrs Γ σ ps).bind fun qs => .ok (p :: qs) := rfl
theorem exec_passign (Γ : List Ptr) (s : Nat) (b : PBase) (o : Expr) (f : Nat) (σ : State) :
    exec Γ (.passign s b o) f σ = (eval Γ σ o).bind fun v => (ptrAt Γ σ.env b v).bind fun p =>
      .ok (.norm, { σ with env := encPtr σ.env s p }) :=
  execK_passign _ Γ s b o f σ
theorem eval_ptrEq (Γ : List Ptr) (σ : State) (b1 b2 : PBase) (o1 o2 : Expr) :
    eval Γ σ (.ptrEq b1 o1 b2 o2) = (eval Γ σ o1).bind fun v1 => (eval Γ σ o2).bind fun v2 =>
      (ptrAt Γ σ.env b1 v1).bind fun p1 => (ptrAt Γ σ.env b2 v2).bind fun p2 => .ok (b2i (p1 = p2)) := rfl


end Spq.CIR
