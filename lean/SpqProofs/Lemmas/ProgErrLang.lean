/-
  C16, binary64 side: the hypotheses of the binary64 refinement theorem over the program language `Prog.OpD` of
  `Spq/Prog.lean`: the record `dftOpsSound_f64`, the static dataflow analysis of raw transforms (`Tag`, `tagStep`,
  `SingleProductDepth`), the per-call numeric budget `PreF` on the exact state and the refinement relation `RE`;
  numeric budget + dataflow condition = the precondition `Prog.PreD` of the instance (`preD_of_preF`).
-/
import SpqProofs.Lemmas.ProgErrStep
import SpqProofs.Lemmas.ProgErrOps
namespace Spq.ProgErr
open Spq Spq.Module Spq.Prog Spq.Closed Spq.VmpErr

section
open Spq.ProdErr Spq.Conv
variable {K : Type} [Field K] [LinearOrder K] [IsStrictOrderedRing K]

theorem fromLocal_f64 (M : F64Mod K) (x y : Array Int) (h : ∀ t, t < M.N → x.getD t 0 = y.getD t 0) :
    M.parts.fromZnx x = M.parts.fromZnx y := by
  have hnn := M.ok.cfg.nn
  have hm : M.c.nn / 2 = 2 ^ M.k := by rw [hnn]; exact two_mul_pow_half M.k
  have hpos : 0 < 2 ^ M.k := Nat.two_pow_pos M.k
  apply Array.ext_getElem?
  intro i
  by_cases hi : i < 2 * 2 ^ M.k
  · show (if M.c.fromBnd50 then fromZnx64Bnd50 (M.c.nn / 2) x else fromZnx64Ref (M.c.nn / 2) x)[i]? =
      (if M.c.fromBnd50 then fromZnx64Bnd50 (M.c.nn / 2) y else fromZnx64Ref (M.c.nn / 2) y)[i]?
    rw [hm]
    cases hfb : M.c.fromBnd50 with
    | false =>
      simp only [Bool.false_eq_true, if_false]
      unfold fromZnx64Ref
      rw [scalarLoop_getElem? _ _ i hi, scalarLoop_getElem? _ _ i hi, h i hi]
    | true =>
      have hdiv := two_mul_pow_mod_four M.k (M.ok.cfg.fromBnd50 hfb)
      simp only [if_true]
      unfold fromZnx64Bnd50
      rw [chunks4_getElem? _ (2 ^ M.k) i hpos hdiv hi, chunks4_getElem? _ (2 ^ M.k) i hpos hdiv hi, h i hi]
  · have s1 := fromZnx_size M.c M.k hnn M.ok.cfg.fromBnd50 x
    have s2 := fromZnx_size M.c M.k hnn M.ok.cfg.fromBnd50 y
    rw [Array.getElem?_eq_none (by rw [s1]; omega), Array.getElem?_eq_none (by rw [s2]; omega)]

theorem limbExact_congr (M : F64Mod K) (P P' : Val) (sz : ℕ) (d : Array ℕ)
    (h : ∀ i t, i < sz → t < M.N → P.coef i t = P'.coef i t) (hl : LimbExact M P sz d) : LimbExact M P' sz d := by
  intro i hi
  rw [hl i hi]
  exact polyArr_congr _ _ _ (fun t ht => h i t hi ht)

/-- the canonical form of a prepared scalar -/
abbrev spOf (M : F64Mod K) (sp : Array Int) : Array Int := polyArr M.N fun t => sp.getD t 0

/-- **`DftOpsSound` for the binary64 module** `Cfg.parts c`.  `RepV = LimbExact` (inverse transform + rounding of every limb
    is the exact limb), `RepS` / `RepM` = "bit for bit the prepared exact operand"; budgets `RtBudget` per transformed limb,
    `ProdBudget` per product, `VmpBudget` per vector-matrix product; `vmp_apply_dft_to_dft` additionally requires its vector
    operand to be tagged as a RAW transform with enough input limbs — then it is bit for bit `vmp_apply_dft` (`vmpDD_eq2`)
    and C02Err applies. -/
def dftOpsSound_f64 (M : F64Mod K) : DftOpsSound M.parts M.N where
  nn_eq := M.nn
  RepV := LimbExact M
  RepS sp s := s = svpPrepare M.parts (spOf M sp)
  RepM Mv nrows ncols pm := pm = vmpPrepare M.parts (matOf M Mv nrows ncols) nrows ncols
  dft_budget rsz asz f := ∀ i, i < asz → i < rsz → RtBudget M (polyArr M.N (f i))
  svp_prepare_budget _ := True
  svp_budget rsz asz f sp := ∀ i, i < asz → i < rsz → ProdBudget M (polyArr M.N (f i)) (spOf M sp)
  vmp_prepare_budget _ _ _ := True
  vmp_budget rsz asz f Mv nrows ncols := VmpBudget M (matOf M Mv nrows ncols) nrows ncols (flatOf M.N asz f) asz rsz
  vmp_dd_budget rsz raw P asz Mv nrows ncols := ∃ az, raw = some az ∧ min nrows asz ≤ az ∧
    VmpBudget M (matOf M Mv nrows ncols) nrows ncols (flatOf M.N asz fun i t => P.coef i t) asz rsz
  idft_budget _ _ := True
  small_product_budget fa fb := ProdBudget M (polyArr M.N fa) (polyArr M.N fb)
  dft_exact := fun x asz asl rsz f _ hag hb => dft_sound M x asz asl rsz f hag hb
  svp_prepare_exact := fun x f hx _ => by
    show svpPrepare M.parts x = svpPrepare M.parts (spOf M _)
    unfold svpPrepare
    rw [fromLocal_f64 M x (spOf M (Array.ofFn (n := M.N) fun t => f t.val)) (fun t ht => by
      rw [hx t ht, getD_polyArr _ _ _ ht]
      exact (getD_polyArr M.N f t ht).symm)]
  svp_exact := fun x asz asl rsz f sp s _ hag hs hb => by
    rw [show s = svpPrepare M.parts (spOf M sp) from hs]
    refine limbExact_congr M _ _ rsz _ ?_ (svp_sound M x asz asl rsz f hag (spOf M sp) hb)
    intro i t hi ht
    rw [coef_mk _ _ _ _ _ hi ht, coef_mk _ _ _ _ _ hi ht]
    exact polyMul_congr _ _ _ _ _ (fun _ _ => rfl) (fun u hu => getD_polyArr _ _ _ hu) t ht
  vmp_prepare_exact := fun x nrows ncols f hag _ => vmpPrepare_matOf M x nrows ncols f hag
  vmp_exact := fun x asz asl rsz f Mv pm nrows ncols _ hag hM hb => by
    rw [show pm = vmpPrepare M.parts (matOf M Mv nrows ncols) nrows ncols from hM]
    exact vmp_sound M x asz asl rsz f hag Mv nrows ncols hb
  vmp_dd_exact := fun P asz rsz d Mv pm nrows ncols raw _ hprov hM hb => by
    obtain ⟨az, hraw, hrow, hv⟩ := hb
    rw [show pm = vmpPrepare M.parts (matOf M Mv nrows ncols) nrows ncols from hM, hprov az hraw,
      vmpDD_eq2 M rsz asz az _ _ nrows ncols hrow]
    exact vmp_sound_canon M asz rsz (fun i t => P.coef i t) Mv nrows ncols hv
  dft_idft_exact := fun P sz rsz d h _ i t hi ht => idft_of_limbExact M P sz rsz d h i t hi ht
  small_product_exact := fun a b fa fb h1 h2 hb t ht => by
    have e : smallProduct M.parts a b = smallProduct M.parts (polyArr M.N fa) (polyArr M.N fb) := by
      unfold smallProduct
      rw [fromLocal_f64 M a (polyArr M.N fa) (fun u hu => by rw [h1 u hu, getD_polyArr _ _ _ hu]),
        fromLocal_f64 M b (polyArr M.N fb) (fun u hu => by rw [h2 u hu, getD_polyArr _ _ _ hu])]
    rw [e, small_sound M fa fb hb, getD_polyArr _ _ _ ht]

end

/-- `tg v = some asz`: the last write to the `VEC_ZNX_DFT` variable `v` was `vec_znx_dft(v, a)` with `a.size = asz` -/
abbrev Tag := DVar → Option ℕ

def tagStep : OpD → Tag → Tag
  | .dft d a, tg => upd tg d (some a.size)
  | .svp d _ _, tg => upd tg d none
  | .vmp d _ _, tg => upd tg d none
  | .vmpDD d _ _, tg => upd tg d none
  | _, tg => tg

theorem raw_astepD (nn : ℕ) (op : OpD) (a : AState) : (astepD nn op a).raw = tagStep op a.raw := by
  cases op <;> rfl

/-- the dataflow condition of one call: `vmp_apply_dft_to_dft` reads a RAW transform (not a product), all of whose
    rows used (`min nrows a.size`) are transforms of input limbs (not the zero padding of `vec_znx_dft`) -/
def opSPD : OpD → Tag → Prop
  | .vmpDD _ a m, tg => ∃ asz, tg a = some asz ∧ min m.nrows a.size ≤ asz
  | _, _ => True

/-- **`SingleProductDepth ops tg`** (decidable): along the program every DFT-space product takes
    integer vectors or raw transforms as its vector operand — no product of products -/
def SingleProductDepth : List OpD → Tag → Prop
  | [], _ => True
  | o :: ops, tg => opSPD o tg ∧ SingleProductDepth ops (tagStep o tg)

instance (o : OpD) (tg : Tag) : Decidable (opSPD o tg) :=
  match o with
  | .vmpDD _ a m =>
    match e : tg a with
    | some asz => decidable_of_iff (min m.nrows a.size ≤ asz)
        ⟨fun h => ⟨asz, e, h⟩, fun ⟨_, e', h⟩ => by rw [e] at e'; cases e'; exact h⟩
    | none => isFalse fun ⟨_, e', _⟩ => by rw [e] at e'; cases e'
  | .coeff _ | .dft _ _ | .svpPrepare _ _ | .svp _ _ _ | .vmpPrepare _ _ | .vmp _ _ _ | .idft _ _
  | .smallProduct _ _ _ => isTrue trivial

instance SingleProductDepth.dec : (ops : List OpD) → (tg : Tag) → Decidable (SingleProductDepth ops tg)
  | [], _ => isTrue trivial
  | o :: ops, tg => @instDecidableAnd _ _ _ (SingleProductDepth.dec ops (tagStep o tg))

/-- no DFT variable holds a raw transform (initial state) -/
def noTag : Tag := fun _ => none

def notDD : OpD → Bool
  | .vmpDD _ _ _ => false
  | _ => true

theorem spd_of_notDD : ∀ (ops : List OpD) (tg : Tag), ops.all notDD = true → SingleProductDepth ops tg
  | [], _, _ => trivial
  | o :: ops, tg, h => by
    simp only [List.all_cons, Bool.and_eq_true] at h
    refine ⟨?_, spd_of_notDD ops _ h.2⟩
    cases o <;> first | trivial | (exact absurd h.1 (by simp [notDD]))

variable {K : Type} [Field K] [LinearOrder K] [IsStrictOrderedRing K] {hsz : ℕ} {vars : List Var}

/-- limb `i` of variable `a` in the exact environment, as an array of `N` integers -/
abbrev limbArr (N : ℕ) (env : Env) (a : Var) (i : ℕ) : Array Int := polyArr N (fun t => (env a).coef i t)
/-- the `a.size` limbs of variable `a`, flat with stride `N` -/
abbrev vecArr (N : ℕ) (env : Env) (a : Var) : Array Int := flatOf N a.size (fun i t => (env a).coef i t)

/-- **`PreF M vars op s`: well-formedness and NUMERIC precision budget of one call on the exact state `s`** — for every
    call except `vmpDD` it is `Prog.PreD` of the binary64 instance `dftOpsSound_f64 M`:
    coefficient-space calls: C16's `OpPre` (operands declared, int64 range, `normalize` range);
    `dft d a`: every limb that is transformed (`i < min a.size d.size`) satisfies the round-trip budget `RtBudget`;
    `svp d k a`: every product `a_i ⊛ s_k` (`i < min a.size d.size`) satisfies `ProdBudget`;
    `vmp d a m` / `vmpDD d a m`: `VmpBudget` for the `d.size` result limbs (vector = the integer limbs of `a`, resp. the
    integer limbs the transform `a` stands for); `vmpDD` also requires `d ≠ a` (the C function is not in-place safe); `smallProduct`: `ProdBudget` of limb 0 of the operands;
    `svp_prepare`, `vmp_prepare`, `idft`: shape conditions only — their rounding is paid for in the budget of the
    product / transform that produced or consumes the object.
    For `vmpDD` the precondition of the instance additionally contains the dataflow condition `opSPD` (the operand is
    tagged as a raw transform); `PreF` leaves it out, it is the static hypothesis `SingleProductDepth`. -/
def PreF (M : F64Mod K) (vars : List Var) : OpD → AState → Prop
  | .vmpDD d a m, s => d ≠ a ∧ ∃ P Mv, s.dvec a = some P ∧ s.pmat m = some Mv ∧
      VmpBudget M (matOf M Mv m.nrows m.ncols) m.nrows m.ncols (flatOf M.N a.size fun i t => P.coef i t) a.size d.size
  | op, s => PreD (dftOpsSound_f64 M) vars op s

/-- `PreF` under the name the property text uses for it -/
abbrev OpBudget (M : F64Mod K) (vars : List Var) (o : OpD) (s : AState) : Prop := PreF M vars o s

theorem preD_of_preF (M : F64Mod K) (op : OpD) (a : AState) (h : PreF M vars op a) (hs : opSPD op a.raw) :
    PreD (dftOpsSound_f64 M) vars op a := by
  cases op with
  | vmpDD d x m =>
    obtain ⟨hne, P, Mv, hP, hm, hb⟩ := h
    obtain ⟨az, ht, hr⟩ := hs
    exact ⟨hne, P, Mv, hP, hm, az, ht, hr, hb⟩
  | _ => exact h

theorem preF_of_preD (M : F64Mod K) (op : OpD) (a : AState) (h : PreD (dftOpsSound_f64 M) vars op a) :
    PreF M vars op a ∧ opSPD op a.raw := by
  cases op with
  | vmpDD d x m =>
    obtain ⟨hne, P, Mv, hP, hm, az, ht, hr, hb⟩ := h
    exact ⟨⟨hne, P, Mv, hP, hm, hb⟩, az, ht, hr⟩
  | _ => exact ⟨h, trivial⟩

/-- **`RE M hsz vars a s`** = `Prog.RD (dftOpsSound_f64 M)`: the binary64 state `s` represents the exact state `a`:
    * heap: every coefficient of every declared variable holds the exact integer (`Prog.R`);
    * `VEC_ZNX_DFT` objects: `LimbExact` — the inverse transform + rounding of every limb is the exact limb;
    * `SVP_PPOL` / `VMP_PMAT` objects: bit for bit `svp_prepare` / `vmp_prepare_contiguous` of the exact operand;
    * raw transforms (`a.raw v = some asz`): the object is, bit for bit, `vec_znx_dft` of the exact limbs. -/
abbrev RE (M : F64Mod K) (hsz : ℕ) (vars : List Var) (a : AState) (s : CState ℕ) : Prop :=
  RD (dftOpsSound_f64 M) hsz vars a s

theorem RE_init (M : F64Mod K) (env : Env) (s : CState ℕ) (hR : R M.N hsz vars env s.heap) :
    RE M hsz vars ⟨env, fun _ => none, fun _ => none, fun _ => none, fun _ => none⟩ s :=
  RD_init (dftOpsSound_f64 M) env s hR

end Spq.ProgErr
