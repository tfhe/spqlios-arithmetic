/-
  Loop structure of the vector functions: a scalar loop and a `w`-lane SIMD loop both compute the lane
  function at every index they cover.
-/
import Spq.Conv
import SpqProofs.Lemmas.NatBasic
import Mathlib.Tactic.Ring
import Mathlib.Tactic.Linarith
import Mathlib.Tactic.IntervalCases

namespace Spq.Conv

theorem scalarLoop_size {α : Type} (n : Nat) (f : Nat → α) : (scalarLoop n f).size = n := by
  unfold scalarLoop; simp

theorem scalarLoop_getElem? {α : Type} (n : Nat) (f : Nat → α) (i : Nat) (h : i < n) :
    (scalarLoop n f)[i]? = some (f i) := by
  unfold scalarLoop; simp [h]

theorem chunks_size {α : Type} (w : Nat) (f : Nat → α) (n : Nat) : (chunks w f n).size = w * n := by
  induction n with
  | zero => simp [chunks]
  | succ k ih => simp [chunks, ih]; ring

theorem chunks_getElem? {α : Type} (w : Nat) (f : Nat → α) (n i : Nat) (h : i < w * n) :
    (chunks w f n)[i]? = some (f i) := by
  induction n with
  | zero => simp at h
  | succ k ih =>
    unfold chunks
    rw [Array.getElem?_append, chunks_size]
    by_cases hlt : i < w * k
    · simp only [hlt, if_true]; exact ih hlt
    · simp only [hlt, if_false]
      have hj : i - w * k < w := by
        have : w * (k + 1) = w * k + w := by ring
        omega
      rw [Array.getElem?_ofFn]
      simp only [hj, dite_true]
      congr 2; omega

theorem doWhileIters_mul (n w : Nat) (hn : 0 < n) (hdiv : n % w = 0) : w * doWhileIters n w = n :=
  mul_doWhile_count n w (Nat.dvd_of_mod_eq_zero hdiv) hn

theorem chunksA_size {α : Type} (w : Nat) (g : Nat → Array α) (hg : ∀ k, (g k).size = w) (n : Nat) :
    (chunksA g n).size = w * n := by
  induction n with
  | zero => simp [chunksA]
  | succ k ih => simp [chunksA, ih, hg]; ring

theorem chunksA_getElem? {α : Type} (w : Nat) (g : Nat → Array α) (hg : ∀ k, (g k).size = w) (n k t : Nat)
    (hk : k < n) (ht : t < w) : (chunksA g n)[w * k + t]? = (g k)[t]? := by
  induction n with
  | zero => omega
  | succ n ih =>
    unfold chunksA
    rw [Array.getElem?_append, chunksA_size w g hg]
    by_cases hlt : k < n
    · have : w * k + t < w * n := by
        have : w * (k + 1) ≤ w * n := Nat.mul_le_mul_left _ hlt
        have : w * (k + 1) = w * k + w := by ring
        omega
      simp only [this, if_true]; exact ih hlt
    · have hkn : k = n := by omega
      subst hkn
      have : ¬ (w * k + t < w * k) := by omega
      simp only [this, if_false]
      congr 1; omega

/-- Reading a lane out of a register, or a cell out of an array, that is written out cell by cell: the eight cases
    are gone through here, over cell functions, so that the shuffle networks below never case-split their own terms. -/
theorem V8.get_mk (u : Nat → Nat) (t : Nat) (ht : t < 8) :
    (V8.mk (u 0) (u 1) (u 2) (u 3) (u 4) (u 5) (u 6) (u 7)).get t = u t := by
  interval_cases t <;> rfl

theorem interleave16_getElem? {α : Type} (u v : Nat → α) (t : Nat) (ht : t < 8) :
    #[u 0, v 0, u 1, v 1, u 2, v 2, u 3, v 3, u 4, v 4, u 5, v 5, u 6, v 6, u 7, v 7][2 * t]? = some (u t) ∧
    #[u 0, v 0, u 1, v 1, u 2, v 2, u 3, v 3, u 4, v 4, u 5, v 5, u 6, v 6, u 7, v 7][2 * t + 1]? = some (v t) := by
  interval_cases t <;> exact ⟨rfl, rfl⟩

/-- what one output double of `cplx_from_any_fma` is, as a function of the uint32 pattern of the input -/
def fromAnyWord (C R w : Nat) : Nat := F64.sub ((w + 2147483648) % 4294967296 + 4294967296 * C) R

theorem cplxFromAnyLane_eq (C R : Nat) (x : Int) : cplxFromAnyLane C R x = fromAnyWord C R (u32 x) := rfl

theorem addS_eq (re : V8) : V8.addEpi32 re (V8.splat 2147483648) =
   ⟨(re.l0 + 2147483648) % 4294967296, (re.l1 + 2147483648) % 4294967296, (re.l2 + 2147483648) % 4294967296,
    (re.l3 + 2147483648) % 4294967296, (re.l4 + 2147483648) % 4294967296, (re.l5 + 2147483648) % 4294967296,
    (re.l6 + 2147483648) % 4294967296, (re.l7 + 2147483648) % 4294967296⟩ := rfl
theorem shuf_lo (rea ima : V8) :
    V8.perm20 (V8.unpackloEpi32 rea ima) (V8.unpackhiEpi32 rea ima) =
      ⟨rea.l0, ima.l0, rea.l1, ima.l1, rea.l2, ima.l2, rea.l3, ima.l3⟩ := rfl
theorem shuf_hi (rea ima : V8) :
    V8.perm31 (V8.unpackloEpi32 rea ima) (V8.unpackhiEpi32 rea ima) =
      ⟨rea.l4, ima.l4, rea.l5, ima.l5, rea.l6, ima.l6, rea.l7, ima.l7⟩ := rfl

/-- the unpack / permute2x128 network interleaves real and imaginary parts: complex `t` = (re lane `t`, im lane `t`) -/
theorem cplxFromAnyIter_eq (C R : Nat) (re im : V8) :
    cplxFromAnyIter C R re im =
      #[fromAnyWord C R re.l0, fromAnyWord C R im.l0, fromAnyWord C R re.l1, fromAnyWord C R im.l1,
        fromAnyWord C R re.l2, fromAnyWord C R im.l2, fromAnyWord C R re.l3, fromAnyWord C R im.l3,
        fromAnyWord C R re.l4, fromAnyWord C R im.l4, fromAnyWord C R re.l5, fromAnyWord C R im.l5,
        fromAnyWord C R re.l6, fromAnyWord C R im.l6, fromAnyWord C R re.l7, fromAnyWord C R im.l7] := by
  unfold cplxFromAnyIter
  simp only [addS_eq, shuf_lo, shuf_hi]
  simp only [V8.splat, V8.q, fromAnyWord]

theorem cplxFromAnyIter_size (C R : Nat) (re im : V8) : (cplxFromAnyIter C R re im).size = 16 := by
  rw [cplxFromAnyIter_eq]; rfl

theorem loadI32x8_get (x : Array Int) (off t : Nat) (ht : t < 8) :
    (loadI32x8 x off).get t = u32 (x.getD (off + t) 0) :=
  V8.get_mk (fun t => u32 (x.getD (off + t) 0)) t ht

theorem cplxFromAnyAvx_getElem? (C R m : Nat) (x : Array Int) (hm : m % 8 = 0) (s : Nat) (hs : s < m) :
    (cplxFromAnyAvx C R m x)[2 * s]? = some (cplxFromAnyLane C R (x.getD s 0)) ∧
    (cplxFromAnyAvx C R m x)[2 * s + 1]? = some (cplxFromAnyLane C R (x.getD (m + s) 0)) := by
  unfold cplxFromAnyAvx
  have hk : s / 8 < m / 8 := by omega
  have ht : s % 8 < 8 := by omega
  have hre := loadI32x8_get x (8 * (s / 8)) _ ht
  have him := loadI32x8_get x (m + 8 * (s / 8)) _ ht
  rw [show 8 * (s / 8) + s % 8 = s by omega] at hre
  rw [show m + 8 * (s / 8) + s % 8 = m + s by omega] at him
  rw [cplxFromAnyLane_eq, cplxFromAnyLane_eq, ← hre, ← him,
    show 2 * s = 16 * (s / 8) + 2 * (s % 8) by omega, Nat.add_assoc,
    chunksA_getElem? 16 _ (fun k => cplxFromAnyIter_size C R _ _) (m / 8) (s / 8) (2 * (s % 8)) hk (by omega),
    chunksA_getElem? 16 _ (fun k => cplxFromAnyIter_size C R _ _) (m / 8) (s / 8) (2 * (s % 8) + 1) hk (by omega),
    cplxFromAnyIter_eq]
  exact interleave16_getElem? (fun t => fromAnyWord C R ((loadI32x8 x (8 * (s / 8))).get t))
    (fun t => fromAnyWord C R ((loadI32x8 x (m + 8 * (s / 8))).get t)) _ ht

theorem mixq_eq (p q : Nat) : mixq p q = 4294967296 * (q % 4294967296) + p % 4294967296 := by
  unfold mixq
  have h1 : p &&& 4294967295 = p % 4294967296 := by
    have := Nat.and_two_pow_sub_one_eq_mod p 32
    norm_num at this; exact this
  have h2 : (q * 4294967296) % 18446744073709551616 = 4294967296 * (q % 4294967296) := by omega
  rw [h1, h2, Nat.or_comm]
  have h3 := Nat.two_pow_add_eq_or_of_lt (i := 32) (b := p % 4294967296) (by norm_num; omega) (q % 4294967296)
  norm_num at h3
  exact h3.symm

theorem mixq_lo (p q : Nat) : mixq p q % 4294967296 = p % 4294967296 := by rw [mixq_eq]; omega
theorem mixq_hi (p q : Nat) : mixq p q / 4294967296 % 4294967296 = q % 4294967296 := by rw [mixq_eq]; omega

theorem ofQ_eq (q0 q1 q2 q3 : Nat) : V8.ofQ q0 q1 q2 q3 =
    ⟨q0 % 4294967296, q0 / 4294967296 % 4294967296, q1 % 4294967296, q1 / 4294967296 % 4294967296,
     q2 % 4294967296, q2 / 4294967296 % 4294967296, q3 % 4294967296, q3 / 4294967296 % 4294967296⟩ := rfl
theorem xor_splat (a : V8) (c : Nat) : V8.xor a (V8.splat c) =
    ⟨a.l0 ^^^ c, a.l1 ^^^ c, a.l2 ^^^ c, a.l3 ^^^ c, a.l4 ^^^ c, a.l5 ^^^ c, a.l6 ^^^ c, a.l7 ^^^ c⟩ := rfl
theorem permute_idx (a : V8) : V8.permutevar a ⟨0, 4, 1, 5, 2, 6, 3, 7⟩ = ⟨a.l0, a.l4, a.l1, a.l5, a.l2, a.l6, a.l3, a.l7⟩ := rfl
theorem unpacklo64 (a b : V8) : V8.unpackloEpi64 a b = ⟨a.l0, a.l1, b.l0, b.l1, a.l4, a.l5, b.l4, b.l5⟩ := rfl
theorem unpackhi64 (a b : V8) : V8.unpackhiEpi64 a b = ⟨a.l2, a.l3, b.l2, b.l3, a.l6, a.l7, b.l6, b.l7⟩ := rfl

/-- what one output word of `cplx_to_tnx32_avx2_fma` is, as a function of the input double -/
def toTnx32Word (R p : Nat) : Nat := (F64.add p R % 4294967296) ^^^ 2147483648

theorem cplxToTnx32AvxLane_eq (R p : Nat) : cplxToTnx32AvxLane R p = s32 (toTnx32Word R p) := rfl

/-- and/slli/or, xor, unpack_epi64 and permutevar8x32 de-interleave: `re` register = words of the doubles
    `0,2,…,14` (real parts), `im` register = words of the doubles `1,3,…,15` -/
theorem cplxToTnx32Iter_eq (R : Nat) (d : Nat → Nat) :
    cplxToTnx32Iter R d =
      (⟨toTnx32Word R (d 0), toTnx32Word R (d 2), toTnx32Word R (d 4), toTnx32Word R (d 6),
        toTnx32Word R (d 8), toTnx32Word R (d 10), toTnx32Word R (d 12), toTnx32Word R (d 14)⟩,
       ⟨toTnx32Word R (d 1), toTnx32Word R (d 3), toTnx32Word R (d 5), toTnx32Word R (d 7),
        toTnx32Word R (d 9), toTnx32Word R (d 11), toTnx32Word R (d 13), toTnx32Word R (d 15)⟩) := by
  unfold cplxToTnx32Iter
  simp only [ofQ_eq, xor_splat, unpacklo64, unpackhi64, permute_idx, mixq_lo, mixq_hi, toTnx32Word]

theorem V8_toArray_getElem? (a : V8) (t : Nat) (ht : t < 8) : a.toArray[t]? = some (a.get t) := by
  interval_cases t <;> rfl

theorem V8_toArray_size (a : V8) : a.toArray.size = 8 := rfl

theorem cplxToTnx32Avx_getElem? (m d : Nat) (x : Array Nat) (hm : m % 8 = 0) (s : Nat) (hs : s < m) :
    (cplxToTnx32Avx m d x)[s]? = some (cplxToTnx32AvxLane (toTnx32R d) (x.getD (2 * s) 0)) ∧
    (cplxToTnx32Avx m d x)[m + s]? = some (cplxToTnx32AvxLane (toTnx32R d) (x.getD (2 * s + 1) 0)) := by
  unfold cplxToTnx32Avx
  simp only []
  have hk : s / 8 < m / 8 := by omega
  have ht : s % 8 < 8 := by omega
  have hidx : s = 8 * (s / 8) + s % 8 := by omega
  set R := toTnx32R d
  have hsz1 : (chunksA (fun i => (cplxToTnx32Iter R (fun t => x.getD (16 * i + t) 0)).1.toArray) (m / 8)).size = m := by
    rw [chunksA_size 8 _ (fun k => V8_toArray_size _)]; omega
  have h3 : m + s - m = s := by omega
  have hnot : ¬ (m + s < m) := by omega
  have e1 := chunksA_getElem? 8 (fun i => (cplxToTnx32Iter R (fun t => x.getD (16 * i + t) 0)).1.toArray)
    (fun k => V8_toArray_size _) (m / 8) (s / 8) (s % 8) hk ht
  have e2 := chunksA_getElem? 8 (fun i => (cplxToTnx32Iter R (fun t => x.getD (16 * i + t) 0)).2.toArray)
    (fun k => V8_toArray_size _) (m / 8) (s / 8) (s % 8) hk ht
  rw [← hidx] at e1 e2
  rw [cplxToTnx32AvxLane_eq, cplxToTnx32AvxLane_eq, Array.getElem?_map, Array.getElem?_map, Array.getElem?_append,
    Array.getElem?_append, hsz1, if_pos hs, if_neg hnot, h3, e1, e2,
    V8_toArray_getElem? _ _ ht, V8_toArray_getElem? _ _ ht, cplxToTnx32Iter_eq,
    show 2 * s = 16 * (s / 8) + 2 * (s % 8) by omega]
  -- the two registers hold the even and the odd doubles of the iteration
  exact ⟨congrArg _ (congrArg some (V8.get_mk (fun t => toTnx32Word R (x.getD (16 * (s / 8) + 2 * t) 0)) _ ht)),
    congrArg _ (congrArg some (V8.get_mk (fun t => toTnx32Word R (x.getD (16 * (s / 8) + (2 * t + 1)) 0)) _ ht))⟩

theorem cplxToTnx32Avx_size (m d : Nat) (x : Array Nat) (hm : m % 8 = 0) : (cplxToTnx32Avx m d x).size = 2 * m := by
  unfold cplxToTnx32Avx
  simp only [Array.size_map, Array.size_append]
  rw [chunksA_size 8 _ (fun k => V8_toArray_size _), chunksA_size 8 _ (fun k => V8_toArray_size _)]
  omega

theorem cplxFromAnyAvx_size (C R m : Nat) (x : Array Int) (hm : m % 8 = 0) : (cplxFromAnyAvx C R m x).size = 2 * m := by
  unfold cplxFromAnyAvx
  rw [chunksA_size 16 _ (fun k => cplxFromAnyIter_size C R _ _)]
  omega

theorem cplxFromRef_getElem? (f : Int → Nat) (m : Nat) (x : Array Int) (s : Nat) (hs : s < m) :
    (cplxFromRef f m x)[2 * s]? = some (f (x.getD s 0)) ∧
    (cplxFromRef f m x)[2 * s + 1]? = some (f (x.getD (m + s) 0)) := by
  unfold cplxFromRef
  constructor
  · rw [scalarLoop_getElem? _ _ _ (by omega)]
    have h1 : (2 * s % 2 == 0) = true := by simp
    have h2 : 2 * s / 2 = s := by omega
    simp only [h1, if_true, h2]
  · rw [scalarLoop_getElem? _ _ _ (by omega)]
    have h1 : ((2 * s + 1) % 2 == 0) = false := by
      have : (2 * s + 1) % 2 = 1 := by omega
      rw [this]; rfl
    have h2 : (2 * s + 1) / 2 = s := by omega
    simp only [h1, Bool.false_eq_true, if_false, h2]

theorem cplxToTnx32Ref_getElem? (m d : Nat) (x : Array Nat) (s : Nat) (hs : s < m) :
    (cplxToTnx32Ref m d x)[s]? = some (cplxToTnx32RefLane (toTnx32Factor d) (x.getD (2 * s) 0)) ∧
    (cplxToTnx32Ref m d x)[m + s]? = some (cplxToTnx32RefLane (toTnx32Factor d) (x.getD (2 * s + 1) 0)) := by
  unfold cplxToTnx32Ref
  simp only []
  constructor
  · rw [scalarLoop_getElem? _ _ _ (by omega)]
    simp only [hs, if_true]
  · rw [scalarLoop_getElem? _ _ _ (by omega)]
    have : ¬ (m + s < m) := by omega
    have h2 : m + s - m = s := by omega
    simp only [this, if_false, h2]

theorem chunks4_getElem? {α : Type} (f : Nat → α) (m i : Nat) (hm : 0 < m) (hdiv : (2 * m) % 4 = 0) (hi : i < 2 * m) :
    (chunks 4 f (doWhileIters (2 * m) 4))[i]? = some (f i) :=
  chunks_getElem? 4 f _ i (by rw [doWhileIters_mul (2 * m) 4 (by omega) hdiv]; exact hi)

theorem chunks4_size {α : Type} (f : Nat → α) (m : Nat) (hm : 0 < m) (hdiv : (2 * m) % 4 = 0) :
    (chunks 4 f (doWhileIters (2 * m) 4)).size = 2 * m := by
  rw [chunks_size, doWhileIters_mul (2 * m) 4 (by omega) hdiv]

/-- the 8-lane loop of `reim_to_tnx_avx` over `2m` elements, `8 ∣ 2m` -/
theorem chunks8_getElem? {α : Type} (f : Nat → α) (m i : Nat) (hdiv : (2 * m) % 8 = 0) (hi : i < 2 * m) :
    (chunks 8 f ((2 * m + 7) / 8))[i]? = some (f i) :=
  chunks_getElem? 8 f _ i (by omega)

theorem chunks8_size {α : Type} (f : Nat → α) (m : Nat) (hdiv : (2 * m) % 8 = 0) :
    (chunks 8 f ((2 * m + 7) / 8)).size = 2 * m := by
  rw [chunks_size]; omega

end Spq.Conv
