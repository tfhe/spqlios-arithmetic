/-
  `znx_normalize`: the six loops of the C function (selected by which of `out`, `carry_in`, `carry_out` are
  null) against `Coeffs.normCoef`, run over an abstract sequence of memories (`Fills`, `StoresTo`, `Ahead` of
  `Lemmas/SrcFill.lean`): one lemma per choice of what is stored, with or without `carry_in`.  `Lemmas/SrcNormKern.lean`
  puts them on windows.
-/
import Gen.CSrc
import Spq.Coeffs
import SpqProofs.Lemmas.SrcInv
namespace Spq.CIR
open Spq

theorem znxNormalize_fst (nn k : Nat) (inp : Array Int) (cin : Option (Array Int)) :
    (Coeffs.znxNormalize nn k inp cin).1
      = Array.ofFn (n := nn) fun j => (Coeffs.normCoef k (inp.getD j.val 0) (cin.map fun c => c.getD j.val 0)).1 :=
  Array.map_ofFn ..

theorem znxNormalize_snd (nn k : Nat) (inp : Array Int) (cin : Option (Array Int)) :
    (Coeffs.znxNormalize nn k inp cin).2
      = Array.ofFn (n := nn) fun j => (Coeffs.normCoef k (inp.getD j.val 0) (cin.map fun c => c.getD j.val 0)).2 :=
  Array.map_ofFn ..

@[simp] theorem size_znxNormalize_fst (nn k : Nat) (inp : Array Int) (cin : Option (Array Int)) :
    (Coeffs.znxNormalize nn k inp cin).1.size = nn := by rw [znxNormalize_fst, Array.size_ofFn]

@[simp] theorem size_znxNormalize_snd (nn k : Nat) (inp : Array Int) (cin : Option (Array Int)) :
    (Coeffs.znxNormalize nn k inp cin).2.size = nn := by rw [znxNormalize_snd, Array.size_ofFn]

/-- `64 - base_k` in uint64 -/
theorem sub64 (k : Nat) (hk : k ≤ 64) :
    ((64 : Int) % 18446744073709551616 - (k : Int)) % 18446744073709551616 = ((64 - k : Nat) : Int) := by
  omega

/-- reduce the null-pointer tests of the branch selection -/
macro "cir_branch" : tactic =>
  `(tactic| simp only [Option.isNone_some, Option.isNone_none, Bool.false_eq_true, ↓reduceIte, Int.reduceEq, ne_eq,
    not_true_eq_false, not_false_eq_true, decide_true, decide_false, R.bind_ok])

/-- what the loops of `znx_normalize` need to know about the environment (33 slots; slot 0 = nn, 1 = base_k) -/
def NKeep (nn k : Nat) (env : List Int) : Prop :=
  env.length = 33 ∧ lget env 0 = (nn : Int) ∧ lget env 1 = (k : Int)

theorem NKeep.lset {nn k : Nat} {env : List Int} (h : NKeep nn k env) {js : Nat} (hj : 2 ≤ js) (v : Int) :
    NKeep nn k (lset env js v) :=
  ⟨by rw [length_lset]; exact h.1, by rw [lget_lset_ne _ _ _ _ (by omega)]; exact h.2.1,
    by rw [lget_lset_ne _ _ _ _ (by omega)]; exact h.2.2⟩

/-- a loop of `znx_normalize`: counter in slot `js`, bound in slot 0, the body run over an abstract environment -/
theorem norm_for {Γ : List Ptr} {js : Nat} {body : Stmt} {env0 : List Int} (M : Nat → Mem) (nn k : Nat)
    (hnn : nn < 18446744073709551616) (h0 : NKeep nn k env0) (hj2 : 2 ≤ js) (hj33 : js < 33)
    (hbody : ∀ env j, j < nn → NKeep nn k env → lget env js = (j : Int) → ∀ f,
      ∃ env', exec Γ body f ⟨env, M j⟩ = .ok (.norm, ⟨env', M (j + 1)⟩) ∧ NKeep nn k env' ∧ lget env' js = (j : Int)) :
    ∀ f, nn ≤ f →
      memOf (exec Γ (.for (.assign js (.cast .u64 (.lit 0))) (.bin .lt .u64 (.var js) (.var 0))
          (.assign js (.bin .add .u64 (.var js) (.lit 1))) body) f ⟨env0, M 0⟩) = .ok (M nn) :=
  fun f hf => body_for Γ js (.cast .u64 (.lit 0)) (.var 0) body env0 (M 0) M (NKeep nn k) 0 nn rfl (Nat.zero_le _) hnn (h0.lset hj2 _)
    (fun _ v h => h.lset hj2 v) (fun _ h => h.1 ▸ hj33) rfl (fun _ _ h => congrArg R.ok h.2.1)
    (fun env j _ hj => hbody env j hj) f (by omega)

/- evaluate slot reads over the abstract environment (`hl h0 h1 hjs` as introduced in the proofs below) -/
set_option hygiene false in
macro "env_simp" : tactic =>
  `(tactic| simp only [lget_lset, length_lset, hl, h0, h1, hjs, Nat.reduceEqDiff, Nat.reduceLT, ↓reduceIte])

/- run the straight-line body in one pass: statements and operators (the list of `cir_simp`), slot reads over the
   abstract environment, the load of `in[j]` (`hA`), the shifts by `64 - base_k` / `base_k` -/
set_option hygiene false in
macro "norm_steps" : tactic =>
  `(tactic| simp only [exec_seq, exec_assign, exec_store, seqK_norm, eval_var, eval_load, eval_cast, eval_bin, eval_lit,
    R.bind_ok, evalBin_sub_u64, evalBin_add_i64, evalBin_sub_i64, wrap_u64, List.getD_cons_zero, List.getD_cons_succ,
    lget_lset, length_lset, hl, h0, h1, hjs, Nat.reduceEqDiff, Nat.reduceLT, ↓reduceIte,
    hA j j (Nat.le_refl j) hj, sub64 k (by omega), evalBin_shl_i64 _ (64 - k) (by omega),
    evalBin_shr_i64 _ (64 - k) (by omega), evalBin_shr_i64 _ k (by omega)])

section shapes
variable (nn : Nat) (hnn : nn < 18446744073709551616) (k : Nat) (hk1 : 1 ≤ k) (hk2 : k ≤ 63) (M : Nat → Mem)
  (pin : Nat × Nat) (A : Nat → Int) (hA : Ahead M (some pin) A nn)
include hnn hk1 hk2 hA

/-- `out` only: `out[i] = get_base_k_digit(in[i], base_k)` -/
theorem znx_normalize_out (p : Nat × Nat)
    (hF : Fills M (some p) (fun j => (Coeffs.normCoef k (A j) none).1) nn) :
    ∀ fuel, nn ≤ fuel →
      run fuel Gen.CSrc.znx_normalize [(nn : Int), (k : Int)] [some p, none, some pin, none] (M 0) = .ok (M nn) := by
  intro fuel hf
  cir_enter Gen.CSrc.znx_normalize
  cir_simp
  cir_branch
  refine norm_for M nn k hnn ⟨rfl, rfl, rfl⟩ (by decide) (by decide) ?_ fuel hf
  intro env j hj ⟨hl, h0, h1⟩ hjs f
  norm_steps
  rw [hF.store hj (by rfl)]; cir_simp
  refine ⟨_, rfl, ⟨?_, ?_, ?_⟩, ?_⟩ <;> env_simp

/-- `out` and `carry_in` (carry dropped) -/
theorem znx_normalize_out_cin (p : Nat × Nat) (pci : Nat × Nat) (C : Nat → Int) (hC : Ahead M (some pci) C nn)
    (hF : Fills M (some p) (fun j => (Coeffs.normCoef k (A j) (some (C j))).1) nn) :
    ∀ fuel, nn ≤ fuel →
      run fuel Gen.CSrc.znx_normalize [(nn : Int), (k : Int)] [some p, none, some pin, some pci] (M 0) = .ok (M nn) := by
  intro fuel hf
  cir_enter Gen.CSrc.znx_normalize
  cir_simp
  cir_branch
  refine norm_for M nn k hnn ⟨rfl, rfl, rfl⟩ (by decide) (by decide) ?_ fuel hf
  intro env j hj ⟨hl, h0, h1⟩ hjs f
  norm_steps
  rw [hC j j (Nat.le_refl j) hj]
  norm_steps
  rw [hF.store hj (by rfl)]; cir_simp
  refine ⟨_, rfl, ⟨?_, ?_, ?_⟩, ?_⟩ <;> env_simp

/-- `carry_out` only -/
theorem znx_normalize_cout (p : Nat × Nat)
    (hF : Fills M (some p) (fun j => (Coeffs.normCoef k (A j) none).2) nn) :
    ∀ fuel, nn ≤ fuel →
      run fuel Gen.CSrc.znx_normalize [(nn : Int), (k : Int)] [none, some p, some pin, none] (M 0) = .ok (M nn) := by
  intro fuel hf
  cir_enter Gen.CSrc.znx_normalize
  cir_simp
  cir_branch
  refine norm_for M nn k hnn ⟨rfl, rfl, rfl⟩ (by decide) (by decide) ?_ fuel hf
  intro env j hj ⟨hl, h0, h1⟩ hjs f
  norm_steps
  rw [hF.store hj (by rfl)]; cir_simp
  refine ⟨_, rfl, ⟨?_, ?_, ?_⟩, ?_⟩ <;> env_simp

/-- `carry_out` and `carry_in` -/
theorem znx_normalize_cout_cin (p : Nat × Nat) (pci : Nat × Nat) (C : Nat → Int) (hC : Ahead M (some pci) C nn)
    (hF : Fills M (some p) (fun j => (Coeffs.normCoef k (A j) (some (C j))).2) nn) :
    ∀ fuel, nn ≤ fuel →
      run fuel Gen.CSrc.znx_normalize [(nn : Int), (k : Int)] [none, some p, some pin, some pci] (M 0) = .ok (M nn) := by
  intro fuel hf
  cir_enter Gen.CSrc.znx_normalize
  cir_simp
  cir_branch
  refine norm_for M nn k hnn ⟨rfl, rfl, rfl⟩ (by decide) (by decide) ?_ fuel hf
  intro env j hj ⟨hl, h0, h1⟩ hjs f
  norm_steps
  rw [hC j j (Nat.le_refl j) hj]
  norm_steps
  rw [hF.store hj (by rfl)]; cir_simp
  refine ⟨_, rfl, ⟨?_, ?_, ?_⟩, ?_⟩ <;> env_simp

/-- `out` and `carry_out` -/
theorem znx_normalize_out_cout (po pc : Nat × Nat) (M' : Nat → Mem)
    (hy : StoresTo M M' (some po) (fun j => (Coeffs.normCoef k (A j) none).1) nn)
    (hc : StoresTo M' (fun j => M (j + 1)) (some pc) (fun j => (Coeffs.normCoef k (A j) none).2) nn) :
    ∀ fuel, nn ≤ fuel →
      run fuel Gen.CSrc.znx_normalize [(nn : Int), (k : Int)] [some po, some pc, some pin, none] (M 0) = .ok (M nn) := by
  intro fuel hf
  cir_enter Gen.CSrc.znx_normalize
  cir_simp
  cir_branch
  refine norm_for M nn k hnn ⟨rfl, rfl, rfl⟩ (by decide) (by decide) ?_ fuel hf
  intro env j hj ⟨hl, h0, h1⟩ hjs f
  norm_steps
  rw [hy.store hj (by rfl)]; cir_simp; env_simp
  rw [hc.store hj (by rfl)]; cir_simp
  refine ⟨_, rfl, ⟨?_, ?_, ?_⟩, ?_⟩ <;> env_simp

/-- all of `out`, `carry_out`, `carry_in` -/
theorem znx_normalize_out_cout_cin (po pc : Nat × Nat) (pci : Nat × Nat) (C : Nat → Int) (hC : Ahead M (some pci) C nn) (M' : Nat → Mem)
    (hy : StoresTo M M' (some po) (fun j => (Coeffs.normCoef k (A j) (some (C j))).1) nn)
    (hc : StoresTo M' (fun j => M (j + 1)) (some pc) (fun j => (Coeffs.normCoef k (A j) (some (C j))).2) nn) :
    ∀ fuel, nn ≤ fuel →
      run fuel Gen.CSrc.znx_normalize [(nn : Int), (k : Int)] [some po, some pc, some pin, some pci] (M 0) = .ok (M nn) := by
  intro fuel hf
  cir_enter Gen.CSrc.znx_normalize
  cir_simp
  cir_branch
  refine norm_for M nn k hnn ⟨rfl, rfl, rfl⟩ (by decide) (by decide) ?_ fuel hf
  intro env j hj ⟨hl, h0, h1⟩ hjs f
  norm_steps
  rw [hC j j (Nat.le_refl j) hj]
  norm_steps
  rw [hy.store hj (by rfl)]; cir_simp; env_simp
  rw [hc.store hj (by rfl)]; cir_simp
  refine ⟨_, rfl, ⟨?_, ?_, ?_⟩, ?_⟩ <;> env_simp

end shapes

end Spq.CIR
