/-
  Bridge, array side: the `Ops`-parametrised specification formulas of `Spq.Rq` (`rotCoeff`, `mulXpCoeff`,
  `autVal`), instantiated with the operations of a commutative ring, are the function-level formulas
  `rot`, `mulxp` of `BridgeRot.lean`; coefficient arrays as functions.
-/
import SpqProofs.Lemmas.BridgeAut

namespace Spq.Bridge
open Polynomial Finset Spq.Rq

variable {R : Type} [CommRing R]

/-- the `Ops` record of a ring -/
def ringOps (R : Type) [CommRing R] : Ops R :=
  { zero := 0, neg := Neg.neg, add := (· + ·), sub := (· - ·) }

/-- a coefficient array read as a function (zero outside) -/
def ofArr (a : Array R) : Nat → R := fun i => a.getD i 0

theorem rotCoeff_ringOps (n : Nat) (p : Int) (a : Array R) (k : Nat) :
    rotCoeff (ringOps R) n p a k = rot n p (ofArr a) k := rfl

theorem mulXpCoeff_ringOps (n : Nat) (p : Int) (a : Array R) (k : Nat) :
    mulXpCoeff (ringOps R) n p a k = mulxp n p (ofArr a) k := rfl

theorem autVal_ringOps (n : Nat) (p : Int) (a : Array R) (i : Nat) :
    autVal (ringOps R) n p a i = if autExp n p i < n then ofArr a i else - ofArr a i := rfl

end Spq.Bridge
