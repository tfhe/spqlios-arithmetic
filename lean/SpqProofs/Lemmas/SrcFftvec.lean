/-
  Helper lemmas of `Properties/SrcFftvec.lean` (source tie of `reim_fftvec_mul_ref` / `reim_fftvec_addmul_ref`,
  spqlios/reim/reim_fftvec_addmul_ref.c).

  * `f64Arith`: the arithmetic record of the polymorphic kernels of `Spq/Reim4.lean` on binary64 patterns stored
    as `Int` (the cells of `CIR.Mem`): `add/sub/mul` are the interpreter's `fadd/fsub/fmul`.
  * `lanes` (the shape of every reference kernel: lane `k` rewrites cells `p k` and `q k`): size, untouched cells,
    one more lane.
  * `load_part` / `load_self` / `store_self`: accesses in the memory `mem[r := A]` of a loop state; `lanes_for`: a loop
    whose iteration `k` is lane `k`; `fftvec_for`: the loop of the two kernels, with the temporaries `re`, `im` they
    share evaluated and the two stores, in which they differ, as a parameter.
  * `patBuf`, `reimFftvec{Mul,Addmul}Ref_patBuf`: on buffers of patterns the `f64Arith` instance is the `F64.arith` one.
-/
import Gen.CSrc
import Spq.Reim4
import SpqProofs.Lemmas.SrcInv
import SpqProofs.Lemmas.SrcFuel
import SpqProofs.Lemmas.Reim4Base
namespace Spq.CIR
open Spq Spq.Reim4

/-- binary64 arithmetic on patterns stored as `Int` (what the interpreter computes) -/
def f64Arith : RArith Int :=
  { zero := 0, add := fadd, sub := fsub, mul := fmul,
    fma := fun x y z => (F64.fma x.toNat y.toNat z.toNat : Nat),
    fms := fun x y z => (F64.fms x.toNat y.toNat z.toNat : Nat) }

theorem f64Arith_add_cast (x y : Nat) : f64Arith.add (x : Int) (y : Int) = ((F64.arith.add x y : Nat) : Int) := by
  simp [f64Arith, fadd, F64.arith]
theorem f64Arith_sub_cast (x y : Nat) : f64Arith.sub (x : Int) (y : Int) = ((F64.arith.sub x y : Nat) : Int) := by
  simp [f64Arith, fsub, F64.arith]
theorem f64Arith_mul_cast (x y : Nat) : f64Arith.mul (x : Int) (y : Int) = ((F64.arith.mul x y : Nat) : Int) := by
  simp [f64Arith, fmul, F64.arith]

theorem evalBin_mul_f64 (x y : Int) : evalBin .mul .f64 x y = .ok (fmul x y) := rfl

/-! ### `lanes` -/
section
variable {α : Type}

theorem lanes_succ (z : α) (n : Nat) (p q : Nat → Nat) (P Q : Nat → α → α) (dst : Array α) :
    lanes z (n + 1) p q P Q dst =
      ((lanes z n p q P Q dst).setIfInBounds (p n) (P n ((lanes z n p q P Q dst).getD (p n) z))).setIfInBounds (q n)
        (Q n (((lanes z n p q P Q dst).setIfInBounds (p n) (P n ((lanes z n p q P Q dst).getD (p n) z))).getD (q n) z)) := by
  simp only [lanes, Nat.fold_succ]

theorem lanes_zero (z : α) (p q : Nat → Nat) (P Q : Nat → α → α) (dst : Array α) : lanes z 0 p q P Q dst = dst := by
  simp only [lanes, Nat.fold_zero]

/-- a cell no lane `< n` writes is the original one -/
theorem getD_lanes_untouched (z : α) (n : Nat) (p q : Nat → Nat) (P Q : Nat → α → α) (dst : Array α) (j : Nat)
    (h : ∀ i, i < n → p i ≠ j ∧ q i ≠ j) : (lanes z n p q P Q dst).getD j z = dst.getD j z := by
  induction n with
  | zero => rw [lanes_zero]
  | succ n ih =>
    rw [lanes_succ, getD_setIfInBounds_ne _ _ _ (h n (Nat.lt_succ_self n)).2,
      getD_setIfInBounds_ne _ _ _ (h n (Nat.lt_succ_self n)).1]
    exact ih fun i hi => h i (Nat.lt_succ_of_lt hi)
end

/-! ### memory `mem[r := A]` where `A` agrees with the original buffer on the cells about to be read -/

theorem load_part (mem : Mem) (r x : Nat) (A : Array Int) (j : Nat) (hA : A.size = (buf mem r).size)
    (hj : j < (buf mem x).size) (hAj : A.getD j 0 = (buf mem r).getD j 0) :
    loadCell (mem.setIfInBounds r A) (some (x, 0)) (j : Int) = .ok ((buf mem x).getD j 0) := by
  by_cases hx : x = r
  · subst hx
    have hr : x < mem.size := lt_size_of_buf_size_pos mem x (by omega)
    rw [load0 _ _ _ (by rw [size_buf_set _ _ _ _ hA]; exact hj), buf_set_self _ _ _ hr, hAj]
  · exact load_other mem r x A j hx hj

theorem load_self (mem : Mem) (r : Nat) (A : Array Int) (j : Nat) (hA : A.size = (buf mem r).size)
    (hj : j < (buf mem r).size) :
    loadCell (mem.setIfInBounds r A) (some (r, 0)) (j : Int) = .ok (A.getD j 0) := by
  have hr : r < mem.size := lt_size_of_buf_size_pos mem r (by omega)
  rw [load0 _ _ _ (by rw [size_buf_set _ _ _ _ hA]; exact hj), buf_set_self _ _ _ hr]

theorem store_self (mem : Mem) (r : Nat) (A : Array Int) (j : Nat) (v : Int) (hA : A.size = (buf mem r).size)
    (hj : j < (buf mem r).size) :
    storeCell (mem.setIfInBounds r A) (some (r, 0)) (j : Int) v = .ok (mem.setIfInBounds r (A.setIfInBounds j v)) := by
  have hr : r < mem.size := lt_size_of_buf_size_pos mem r (by omega)
  rw [store0 _ _ _ _ (by rw [size_buf_set _ _ _ _ hA]; exact hj), buf_set_self _ _ _ hr, set_set]

/-- A kernel loop `for (i = 0; i < m; ++i) body` (bound in slot 0, counter in slot 1, two more locals) whose iteration `k`
    performs lane `k` of `lanes` on the cells `k`, `k + m` of buffer `r`.  The body is run on `mem[r := A]` for an arbitrary
    `A` that still holds the original cells `k` and `k + m`: with `load_part` this covers every aliasing of `r` with the
    source buffers. -/
theorem lanes_for (Γ : List Ptr) (e0 : Expr) (body : Stmt) (mem : Mem) (r m : Nat) (hm : 2 * m < 18446744073709551616)
    (P Q : Nat → Int → Int) (x1 x2 x3 : Int)
    (he0 : eval Γ ⟨[(m : Int), x1, x2, x3], mem⟩ e0 = .ok ((0 : Nat) : Int))
    (hbody : ∀ k, k < m → ∀ A : Array Int, A.size = (buf mem r).size → A.getD k 0 = (buf mem r).getD k 0 →
      A.getD (k + m) 0 = (buf mem r).getD (k + m) 0 → ∀ x2 x3 f, ∃ y2 y3,
        exec Γ body f ⟨[(m : Int), (k : Int), x2, x3], mem.setIfInBounds r A⟩
          = .ok (.norm, ⟨[(m : Int), (k : Int), y2, y3], mem.setIfInBounds r
              ((A.setIfInBounds k (P k (A.getD k 0))).setIfInBounds (k + m)
                (Q k ((A.setIfInBounds k (P k (A.getD k 0))).getD (k + m) 0)))⟩)) :
    ∀ f, m ≤ f →
      memOf (exec Γ (.for (.assign 1 e0) (.bin .lt .u64 (.var 1) (.var 0))
          (.assign 1 (.bin .add .u64 (.var 1) (.lit 1))) body) f ⟨[(m : Int), x1, x2, x3], mem⟩)
        = .ok (mem.setIfInBounds r (lanes (0 : Int) m (fun i => i) (fun i => i + m) P Q (buf mem r))) := by
  intro f hf
  refine body_for _ 1 _ _ _ _ mem
    (fun k => mem.setIfInBounds r (lanes (0 : Int) k (fun i => i) (fun i => i + m) P Q (buf mem r)))
    (fun env => env.length = 4 ∧ lget env 0 = (m : Int)) 0 m ?hm0 (Nat.zero_le _) (by omega) ?hK0 ?hKjs ?hKlen he0 ?hhiE
    ?hbody f (by omega)
  case hm0 => rw [lanes_zero, set_buf_self]
  case hK0 => exact ⟨rfl, rfl⟩
  case hKjs =>
    intro env v ⟨h1, h2⟩
    exact ⟨by rw [length_lset]; exact h1, by rw [lget_lset_ne _ _ _ _ (by decide)]; exact h2⟩
  case hKlen => intro env ⟨h1, _⟩; omega
  case hhiE => intro env k ⟨_, h2⟩; rw [eval_var]; exact congrArg R.ok h2
  case hbody =>
    intro env k _ hk ⟨hlen, h0⟩ h1 f
    match env, hlen with
    | [x0, x1, x2, x3], _ =>
    simp only [lget_zero, lget_succ] at h0 h1
    subst h0 h1
    obtain ⟨y2, y3, h⟩ := hbody k hk _ (lanes_size (0 : Int) k (fun i => i) (fun i => i + m) P Q (buf mem r))
      (getD_lanes_untouched (0 : Int) k (fun i => i) (fun i => i + m) P Q (buf mem r) k
        (fun i hi => ⟨by show i ≠ k; omega, by show i + m ≠ k; omega⟩))
      (getD_lanes_untouched (0 : Int) k (fun i => i) (fun i => i + m) P Q (buf mem r) (k + m)
        (fun i hi => ⟨by show i ≠ k + m; omega, by show i + m ≠ k + m; omega⟩)) x2 x3 f
    exact ⟨_, by rw [h, lanes_succ], ⟨rfl, rfl⟩, rfl⟩

/-- the index `i + m` of the imaginary cell of lane `i`, in `uint64_t` -/
theorem lane_idx_wrap (k m : Nat) (hm : 2 * m < 18446744073709551616) (hk : k < m) :
    ((k : Int) + (m : Int)) % 18446744073709551616 = ((k + m : Nat) : Int) := by
  omega

/-- The loop of the two product kernels: lane `i` computes `re = a[i]*b[i] - a[i+m]*b[i+m]; im = a[i]*b[i+m] + a[i+m]*b[i];`
    (the four loads see the original cells whatever `r` coincides with) and then runs `stores`, which puts `G re old`,
    `G im old` into the cells `i`, `i + m` of `r`, whatever values `re`, `im` are. -/
theorem fftvec_for (mem : Mem) (pp : Ptr) (r a b m : Nat) (hm : 2 * m < 18446744073709551616)
    (ha : (buf mem a).size = 2 * m) (hb : (buf mem b).size = 2 * m) (G : Int → Int → Int) (stores : Stmt) (x1 x2 x3 : Int)
    (hst : ∀ k, k < m → ∀ A : Array Int, A.size = (buf mem r).size → ∀ (re im : Int) f,
      exec [pp, some (r, 0), some (a, 0), some (b, 0)] stores f ⟨[(m : Int), (k : Int), re, im], mem.setIfInBounds r A⟩
        = .ok (.norm, ⟨[(m : Int), (k : Int), re, im], mem.setIfInBounds r
            ((A.setIfInBounds k (G re (A.getD k 0))).setIfInBounds (k + m)
              (G im ((A.setIfInBounds k (G re (A.getD k 0))).getD (k + m) 0)))⟩)) :
    ∀ f, m ≤ f →
      memOf (exec [pp, some (r, 0), some (a, 0), some (b, 0)]
        (.for (.assign 1 (.cast .u64 (.lit 0))) (.bin .lt .u64 (.var 1) (.var 0))
          (.assign 1 (.bin .add .u64 (.var 1) (.lit 1)))
          (.seq (.assign 2 (.bin .sub .f64 (.bin .mul .f64 (.load 2 (.var 1)) (.load 3 (.var 1)))
              (.bin .mul .f64 (.load 2 (.bin .add .u64 (.var 1) (.var 0))) (.load 3 (.bin .add .u64 (.var 1) (.var 0))))))
            (.seq (.assign 3 (.bin .add .f64 (.bin .mul .f64 (.load 2 (.var 1)) (.load 3 (.bin .add .u64 (.var 1) (.var 0))))
                (.bin .mul .f64 (.load 2 (.bin .add .u64 (.var 1) (.var 0))) (.load 3 (.var 1)))))
              stores))) f ⟨[(m : Int), x1, x2, x3], mem⟩)
        = .ok (mem.setIfInBounds r (lanes (0 : Int) m (fun i => i) (fun i => i + m)
            (fun i => G (reRef f64Arith ((buf mem a).getD i 0) ((buf mem a).getD (i + m) 0) ((buf mem b).getD i 0)
              ((buf mem b).getD (i + m) 0)))
            (fun i => G (imRef f64Arith ((buf mem a).getD i 0) ((buf mem a).getD (i + m) 0) ((buf mem b).getD i 0)
              ((buf mem b).getD (i + m) 0))) (buf mem r))) := by
  refine lanes_for _ _ _ mem r m hm _ _ x1 x2 x3 rfl ?_
  intro k hk A hAs hAk hAkm x2 x3 f
  have h1 : k < 2 * m := by omega
  have h2 : k + m < 2 * m := by omega
  refine ⟨?re, ?im, ?h⟩
  case h =>
    simp only [lane_idx_wrap k m hm hk, exec_seq, exec_assign, seqK_norm, eval_bin, eval_load, eval_var, lget_zero,
      lget_succ, R.bind_ok, evalBin_add_u64, List.getD_cons_zero, List.getD_cons_succ,
      load_part mem r a A k hAs (ha ▸ h1) hAk, load_part mem r a A (k + m) hAs (ha ▸ h2) hAkm,
      load_part mem r b A k hAs (hb ▸ h1) hAk, load_part mem r b A (k + m) hAs (hb ▸ h2) hAkm,
      evalBin_mul_f64, evalBin_sub_f64, evalBin_add_f64, lset_zero, lset_succ]
    exact hst k hk A hAs _ _ f

/-- `precomp->m`: cell 1 of the precomputation object -/
theorem eval_precomp_m (Γ : List Ptr) (env : List Int) (mem : Mem) (p : Nat) (hΓ : Γ.getD 0 none = some (p, 0))
    (hp : 1 < (buf mem p).size) :
    eval Γ ⟨env, mem⟩ (.pload (.param 0) (.lit 1)) = .ok ((buf mem p).getD 1 0) := by
  have h := loadCell_nat mem p 1 0 (by omega)
  simp only [eval, R.bind_ok, ptrAt, hΓ]
  simpa using h

/-! ### buffers of binary64 patterns: the `Int` instance of the model is the `F64.arith` instance -/

theorem map_lanes {α β : Type} (f : α → β) (z : α) (n : Nat) (p q : Nat → Nat) (P Q : Nat → α → α) (P' Q' : Nat → β → β)
    (hP : ∀ k x, P' k (f x) = f (P k x)) (hQ : ∀ k x, Q' k (f x) = f (Q k x)) (dst : Array α) :
    lanes (f z) n p q P' Q' (dst.map f) = (lanes z n p q P Q dst).map f := by
  induction n with
  | zero => rw [lanes_zero, lanes_zero]
  | succ n ih =>
    rw [lanes_succ, lanes_succ, ih, getD_map, hP, ← Array.map_setIfInBounds, getD_map, hQ, ← Array.map_setIfInBounds]

/-- patterns (naturals) as memory cells -/
def patBuf (a : Array Nat) : Array Int := a.map fun (x : Nat) => (x : Int)

theorem getD_patBuf (a : Array Nat) (i : Nat) : (patBuf a).getD i 0 = ((a.getD i 0 : Nat) : Int) :=
  getD_map (fun (x : Nat) => (x : Int)) a i 0

theorem reRef_cast (a b c d : Nat) : reRef f64Arith (a : Int) (b : Int) (c : Int) (d : Int) = ((reRef F64.arith a b c d : Nat) : Int) := by
  simp only [reRef, f64Arith_mul_cast, f64Arith_sub_cast]
theorem imRef_cast (a b c d : Nat) : imRef f64Arith (a : Int) (b : Int) (c : Int) (d : Int) = ((imRef F64.arith a b c d : Nat) : Int) := by
  simp only [imRef, f64Arith_mul_cast, f64Arith_add_cast]

/-- on buffers holding binary64 patterns the `Int` instance of the model is the `F64.arith` instance (the object the
    driver family `r4` runs against the compiled code) -/
theorem reimFftvecMulRef_patBuf (m : Nat) (R A B : Array Nat) :
    reimFftvecMulRef f64Arith m (patBuf R) (patBuf A) (patBuf B) = patBuf (reimFftvecMulRef F64.arith m R A B) := by
  unfold reimFftvecMulRef patBuf
  exact map_lanes (fun (x : Nat) => (x : Int)) 0 m (fun i => i) (fun i => i + m)
    (fun i _ => reRef F64.arith (A.getD i 0) (A.getD (i + m) 0) (B.getD i 0) (B.getD (i + m) 0))
    (fun i _ => imRef F64.arith (A.getD i 0) (A.getD (i + m) 0) (B.getD i 0) (B.getD (i + m) 0)) _ _
    (fun k x => by
      show reRef f64Arith _ _ _ _ = _
      rw [show f64Arith.zero = ((0 : Nat) : Int) from rfl, getD_map, getD_map, getD_map, getD_map, reRef_cast])
    (fun k x => by
      show imRef f64Arith _ _ _ _ = _
      rw [show f64Arith.zero = ((0 : Nat) : Int) from rfl, getD_map, getD_map, getD_map, getD_map, imRef_cast]) R

theorem reimFftvecAddmulRef_patBuf (m : Nat) (R A B : Array Nat) :
    reimFftvecAddmulRef f64Arith m (patBuf R) (patBuf A) (patBuf B) = patBuf (reimFftvecAddmulRef F64.arith m R A B) := by
  unfold reimFftvecAddmulRef patBuf
  exact map_lanes (fun (x : Nat) => (x : Int)) 0 m (fun i => i) (fun i => i + m)
    (fun i old => F64.arith.add old (reRef F64.arith (A.getD i 0) (A.getD (i + m) 0) (B.getD i 0) (B.getD (i + m) 0)))
    (fun i old => F64.arith.add old (imRef F64.arith (A.getD i 0) (A.getD (i + m) 0) (B.getD i 0) (B.getD (i + m) 0))) _ _
    (fun k x => by
      show f64Arith.add _ (reRef f64Arith _ _ _ _) = _
      rw [show f64Arith.zero = ((0 : Nat) : Int) from rfl, getD_map, getD_map, getD_map, getD_map, reRef_cast,
        f64Arith_add_cast])
    (fun k x => by
      show f64Arith.add _ (imRef f64Arith _ _ _ _) = _
      rw [show f64Arith.zero = ((0 : Nat) : Int) from rfl, getD_map, getD_map, getD_map, getD_map, imRef_cast,
        f64Arith_add_cast]) R

end Spq.CIR
