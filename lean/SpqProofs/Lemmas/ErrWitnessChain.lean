/-
  Helper lemmas for Properties/ErrWitness2.lean: a product fed into a product at N = 8 over ℝ:
  (exA8 ⊛ exB8) ⊛ exC8 through svp-product → vmp_apply_dft_to_dft → idft, with the library's real m = 4 tables; every
  budget of C16Err2 (`SvpLimbBudget`, `VmpDDBudget` incl. the accumulation flags on the concrete operand,
  `IdftLimbBudget`) discharged.
-/
import SpqProofs.Lemmas.ProgErr2Bnd
import SpqProofs.Lemmas.ProgErr2Vmp
import SpqProofs.Lemmas.ErrWitnessProg
import SpqProofs.Lemmas.ErrWitnessVmpInst
namespace Spq.ErrWitnessChain
open Finset Spq Spq.Module Spq.Fft Spq.Fft.Alg Spq.Fft.SchedN Spq.FftErr Spq.F64 Spq.Reim4 Spq.ProdErr Spq.Conv Spq.VmpErr
  Spq.ErrWitness Spq.ProgErr Spq.ProgErr2 Spq.Prog Spq.Closed

attribute [local irreducible] reimFftA reimIfftA vmpApplyDftToDft vmpPrepare

def P0 : Array Int := #[0, -94, 111, 114, -131, -22, 147, -54]
def Q0 : Array Int := #[-827, 70, 1045, -132, -1179, 1222, 29, -644]
def PV : Val := #[P0]
def MV : Val := #[exC8]

theorem P0_eq : nmul libMod8.N exA8 exB8 = P0 := ex_nmul
theorem polyP : polyArr libMod8.N (PV.coef 0) = P0 := by decide +kernel
theorem matEq : matOf libMod8 MV 1 1 = exC8 := by decide +kernel
theorem entC : matEntry exC8 1 libMod8.N 0 0 = exC8 := by decide +kernel
theorem limbI : dlimb exI8 0 libMod8.N = exI8 := by rw [exI8_val]; decide +kernel

/-- the radius δ0 = svpDelta with which the svp output satisfies the metric invariant
    (`ErrWitness2.witness_metric_rep_first_product_k2`) -/
noncomputable def d0 : ℝ := svpDelta libMod8 exA8 exB8 14 16

theorem svpB : SvpLimbBudget libMod8 exA8 exB8 d0 :=
  ⟨exA8_box, exB8_box, MulOk.of_pipe libPipeOk, 14, 16, by norm_num, by norm_num, exA8_n2, exB8_n2,
    exB8_nl, le_refl _⟩

theorem d0_nonneg : 0 ≤ d0 := svpDelta_nonneg libMod8 exA8 exB8 14 16 (by norm_num) (by norm_num)

theorem P0_n2 : n2sq ℝ P0 libMod8.N ≤ (277:ℝ) ^ 2 := by
  show ∑ t ∈ range (2 * 2 ^ 2), _ ≤ _
  rw [n2sq_intCast, show (∑ t ∈ range (2 * 2 ^ 2), P0.getD t 0 ^ 2 : ℤ) = 76323 by decide +kernel]
  norm_num

theorem flagsD : ∀ p, p < libMod8.N → vmpFlagD libC8 exC8 1 1 exI8 1 1 (0 * libMod8.N + p) := by
  intro p hp
  exact vmp_flagD_of_bool libC8 2 (le_refl 2) cN sN cNi sNi libVCfgOk exC8 1 1 exI8 1 1 0 p (by decide) hp
    (by
      have hall : (List.range (2 * 2 ^ 2)).all (fun p => vmpFlagBD libC8 exC8 1 1 exI8 1 1 (0 * (2 * 2 ^ 2) + p)) = true := by
        rw [exI8_val]; decide +kernel
      exact all_range hall p hp)

noncomputable def d1 : ℕ → ℝ := fun j =>
  colDelta libMod8 exC8 1 (min 1 1) (fun i => polyArr libMod8.N (PV.coef i)) j (fun _ => d0) (fun _ => 277) (fun _ => 15)

theorem vmpB : VmpDDBudget libMod8 (matOf libMod8 MV 1 1) 1 1 (fun i => polyArr libMod8.N (PV.coef i)) exI8 1 1
    (fun _ => d0) d1 := by
  rw [matEq]
  refine ⟨?_, ?_⟩
  · intro i j hi hj
    have : i = 0 := by omega
    have : j = 0 := by omega
    subst_vars
    rw [entC]; exact exC8_box
  · intro j hj _
    obtain rfl : j = 0 := Nat.lt_one_iff.1 hj
    refine ⟨?_, flagsD, fun _ => 277, fun _ => 15, fun _ _ => by norm_num, fun _ _ => by norm_num, ?_, ?_, le_refl _⟩
    · intro i hi
      obtain rfl : i = 0 := Nat.lt_one_iff.1 hi
      rw [entC]; exact lib_okC
    · intro i hi
      obtain rfl : i = 0 := Nat.lt_one_iff.1 hi
      show n2sq ℝ (polyArr libMod8.N (PV.coef 0)) libMod8.N ≤ _
      rw [polyP]; exact P0_n2
    · intro i hi
      obtain rfl : i = 0 := Nat.lt_one_iff.1 hi
      rw [entC]; exact exC8_n2

theorem d1_nonneg : ∀ j, j < 1 → 0 ≤ d1 j := fun j _ =>
  colDelta_nonneg libMod8 exC8 1 (min 1 1) _ j _ _ _ (fun _ _ => d0_nonneg) (fun _ _ => by norm_num) (fun _ _ => by norm_num)

noncomputable def RV : Val := Val.mk libMod8.N 1 (Prog.vmpVal libMod8.N 1 (zext 1 fun i t => PV.coef i t) MV 1 1)
def R1 : Array ℕ := vmpApplyDftToDft (Cfg.parts libC8) 1 exI8 1 (vmpPrepare (Cfg.parts libC8) exC8 1 1) 1 1

theorem R1_eq : vmpApplyDftToDft libMod8.parts 1 exI8 1 (vmpPrepare libMod8.parts (matOf libMod8 MV 1 1) 1 1) 1 1 = R1 := by
  rw [matEq]; rfl
/-- the second-level product, evaluated once -/
theorem R1_val : R1 = #[4629829488480368043, 13866374824995988166, 13882340550288457324, 13850047057146945312,
    4645178041275554625, 13876395011721573528, 13881936535023447937, 13875300188687771231] := by
  unfold R1; rw [exI8_val]; decide +kernel
theorem limbR : dlimb R1 0 libMod8.N = R1 := by rw [R1_val]; decide +kernel
theorem polyQ : polyArr libMod8.N ((Val.mk libMod8.N 1 (Prog.vmpVal libMod8.N 1 (zext 1 fun i t => PV.coef i t) MV 1 1)).coef 0) = Q0 := by
  decide +kernel

theorem invOkR : InvOk libC8 2 cNi sNi R1 := by
  rw [R1_val]
  exact ifft_flags_of_all (ifamOf libC8.ifftFma) (ifamOf_ok _) 2 cNi sNi _ rfl (by decide +kernel)

theorem Q0_n2 : n2sq ℝ Q0 libMod8.N ≤ (2258:ℝ) ^ 2 := by
  show ∑ t ∈ range (2 * 2 ^ 2), _ ≤ _
  rw [n2sq_intCast, show (∑ t ∈ range (2 * 2 ^ 2), Q0.getD t 0 ^ 2 : ℤ) = 5097180 by decide +kernel]
  norm_num

theorem P0_n1 : n1 ℝ P0 libMod8.N = 673 := by
  show ∑ t ∈ range (2 * 2 ^ 2), _ = _
  rw [n1_intCast, show (∑ t ∈ range (2 * 2 ^ 2), |P0.getD t 0| : ℤ) = 673 by decide +kernel]
  norm_num
theorem C8_n1 : n1 ℝ exC8 libMod8.N = 36 := exC8_n1
theorem A8_n1 : n1 ℝ exA8 libMod8.N = 31 := exA8_n1
theorem B8_n1 : n1 ℝ exB8 libMod8.N = 37 := exB8_n1

theorem d0_le : d0 ≤ ((12 * ((2:ℕ) + 1 : ℚ) * u64 : ℚ) : ℝ) * (31 * 16 + 14 * 37) := by
  have h := invBudget_svp_le16 libMod8 exA8 exB8 14 16 (by norm_num) (by norm_num)
  rw [A8_n1, B8_n1] at h
  have hS : (0:ℝ) ≤ (31 * 16 + 14 * 37) / 2 := by norm_num
  have : d0 ≤ invBudget libMod8 ((31 * 16 + 14 * 37) / 2) d0 := by
    unfold invBudget
    have := eps_nonneg (K := ℝ) libMod8.k
    have := d0_nonneg
    nlinarith
  exact le_trans this h

theorem d1_le : d1 0 ≤ 1 / 2 ^ 20 := by
  have h := colDelta_le16 libMod8 exC8 1 (min 1 1) (fun i => polyArr libMod8.N (PV.coef i)) 0
    (fun _ => d0) (fun _ => 277) (fun _ => 15) (by decide) (fun _ _ => d0_nonneg) (fun _ _ => by norm_num)
    (fun _ _ => by norm_num)
    (by intro i hi
        obtain rfl : i = 0 := Nat.lt_one_iff.1 hi
        rw [entC, C8_n1]; norm_num)
  refine le_trans h ?_
  rw [show min 1 1 = 1 from rfl, sum_range_one, entC, C8_n1]
  rw [polyP, P0_n1]
  have hk : libMod8.k = 2 := rfl
  rw [hk]
  have hd := d0_le
  have h0 := d0_nonneg
  unfold u64 at hd ⊢
  push_cast at hd ⊢
  norm_num at hd ⊢
  nlinarith

theorem idftB : IdftLimbBudget libMod8 (dlimb R1 0 libMod8.N) Q0 (d1 0) := by
  rw [limbR]
  have h1 := d1_le
  have h0 := d1_nonneg 0 (by norm_num)
  have hE : invBudget libMod8 2258 (d1 0) < 1 / 2 := by
    unfold invBudget
    have he := eps_le16 (K := ℝ) libMod8.k libMod8.hk
    have he0 := eps_nonneg (K := ℝ) libMod8.k
    have hk : libMod8.k = 2 := rfl
    rw [hk] at he he0 ⊢
    unfold u64 at he
    push_cast at he
    norm_num at he h1
    nlinarith
  exact ⟨invOkR, 2258, by norm_num, Q0_n2, dom_of_box libMod8 _ _ 2258 (by norm_num) Q0_n2 (by norm_num) hE, hE⟩

theorem chain_eval : libMod8.parts.toZnx (libMod8.parts.ifft (dlimb R1 0 libMod8.N)) = Q0 := by
  rw [limbR, R1_val]; decide +kernel
theorem Q0_eval : nmul 8 (nmul 8 exA8 exB8) exC8 = Q0 := by
  rw [show nmul 8 exA8 exB8 = nmul (2 * 2 ^ 2) exA8 exB8 from rfl, ex_nmul]; decide +kernel

example : libMod8.parts.toZnx (libMod8.parts.ifft (dlimb R1 0 libMod8.N)) = Q0 := chain_eval
example : nmul 8 (nmul 8 exA8 exB8) exC8 = Q0 := Q0_eval

end Spq.ErrWitnessChain
