/-
  Closing C01/C02/C16 over the real FFT network: `ExactDft (exactParts rt fl) rt.z` — H1–H4 hold for the
  module whose `fft` / `ifft` are the network, with the evaluation points `z_j = ζ^(1 + 4·brev_k j)`.
-/
import SpqProofs.Lemmas.ClosedDft
namespace Spq.Closed
open Finset Spq Spq.Fft Spq.Fft.Alg

variable {R : Type} [CommRing R] {k : ℕ} (rt : RootData R k) (fl : Flags)

theorem exactDft_of_network : Module.ExactDft (exactParts rt fl) rt.z where
  fromZnx_size := by intro x _; simp [exactParts]
  fromZnx_get := by
    intro x _ t ht
    exact getD_ofFn (fun i : Fin (2 * 2 ^ k) => ((x.getD i 0 : Int) : R)) 0 t ht
  hz := by intro j _; rw [exactParts_m]; exact z_pow_m rt j
  fft_size := by intro d hd; exact netFft_size rt fl.fftFma d hd
  fft_eval := by
    intro d hd j hj
    rw [exactParts_m] at hj ⊢
    exact netFft_eval rt fl.fftFma d hd j hj
  ifft_size := by
    intro d hd
    exact netIfft_size rt fl.ifftFma _ (netFft_size rt fl.fftFma d hd)
  ifft_fft := by
    intro d hd t ht
    rw [exactParts_m]
    exact netIfft_netFft rt fl.fftFma fl.ifftFma d hd t ht
  toZnx_round := by
    intro d cs hd hcs h
    rw [exactParts_nn] at hd hcs h
    rw [exactParts_m] at h
    show (Array.ofFn (n := 2 * 2 ^ k) fun i => rt.rd (d.getD i.val 0)) = cs
    apply ext_getD 0 (by simp [hcs])
    intro t h1
    have ht : t < 2 * 2 ^ k := by simpa using h1
    rw [getD_ofFn _ 0 t ht, h t ht, rt.hrd]
    rfl

end Spq.Closed
