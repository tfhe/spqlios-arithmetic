/-
  "Blind writers": a function on arrays that only stores values which do not depend on the array.
  The functional models of `vmp_prepare` / `vmp_apply_dft_to_dft` fill a zero-initialised array; the C code fills
  whatever the result region holds.  `Agree S F Fe` relates a functional filler `F` (on `Array α`) and a raw
  filler `Fe` (on the cells `Array γ`, storing encoded values): on the cells in `S` the outcome of `Fe` is the
  encoded outcome of `F` whatever the two arrays held before, outside `S` nothing changes.  `Agree.final` is the
  relation `PRep` (ModHeapRefine) between the two outcomes, which the heap theorems establish loop by loop without
  a raw filler.
-/
import SpqProofs.Lemmas.ModHeapKern2
namespace Spq.ModuleHeap
open Spq Heap Module Reim4
variable {γ α : Type}

structure Agree (enc : α → γ) (S : Nat → Prop) (F : Array α → Array α) (Fe : Array γ → Array γ) : Prop where
  sizeF : ∀ R, (F R).size = R.size
  sizeE : ∀ G, (Fe G).size = G.size
  inS : ∀ (R : Array α) (G : Array γ), R.size = G.size → ∀ x, S x → (Fe G)[x]? = ((F R).map enc)[x]?
  outE : ∀ G x, ¬ S x → (Fe G)[x]? = G[x]?
  outF : ∀ R x, ¬ S x → (F R)[x]? = R[x]?

theorem Agree.final {enc : α → γ} {S : Nat → Prop} {F : Array α → Array α} {Fe : Array γ → Array γ}
    (a : Agree enc S F Fe) (N : Nat) (z : α) (G : Array γ) (hG : G.size = N) (x : Nat) :
    (S x → (Fe G)[x]? = ((F (Array.replicate N z)).map enc)[x]?) ∧
    (¬ S x → (Fe G)[x]? = G[x]? ∧ (F (Array.replicate N z))[x]? = (Array.replicate N z)[x]?) :=
  ⟨fun q => a.inS _ G (by simp [hG]) x q, fun q => ⟨a.outE G x q, a.outF _ x q⟩⟩

end Spq.ModuleHeap
