/-
  No-overflow from a magnitude box: the pointwise product.  Products of two bounded data cells on the bound arithmetic
  (`bd_mul`, `bd_fma`: no twiddle, so the bound is `U1·U2·κ`),
  and `mul_no_ovf`: operands bounded by `Ua`, `Ub` with `4·Ua·Ub < 2^1023` ⇒ the underflow-only flags of
  `reim_fftvec_mul` imply the full flags, and the outputs are finite and bounded by `4·Ua·Ub`.
-/
import SpqProofs.Lemmas.VmpErrOvf4
import SpqProofs.Lemmas.ProdErrPipe
namespace Spq.VmpErr
open Spq Spq.F64 Spq.Fft Spq.Fft.Alg Spq.Fft.RelN Spq.FftErr Spq.Reim4 Spq.ProdErr Spq.Module

theorem bd_mul {U1 U2 V : ℚ} {x y : ℚ × Prop} (hx : Bd U1 x) (hy : Bd U2 y) (hlt : U1 * U2 < Tov)
    (hV : U1 * U2 * (9 / 8) ≤ V) : Bd V (arithB.mul x y) := by
  obtain ⟨p1, n1, b1⟩ := hx
  obtain ⟨p2, n2, b2⟩ := hy
  have h1 : x.1 * y.1 ≤ U1 * U2 := mul_le_mul b1 b2 n2 (le_trans n1 b1)
  refine ⟨⟨p1, p2, lt_of_le_of_lt h1 hlt⟩, mul_nonneg (mul_nonneg n1 n2) (le_of_lt kap_pos), ?_⟩
  show x.1 * y.1 * kap ≤ V
  exact le_trans (mul_le_mul_of_nonneg_right h1 (le_of_lt kap_pos))
    (scale_le (mul_nonneg (le_trans n1 b1) (le_trans n2 b2)) hV)

theorem bd_fma {U1 U2 U3 V : ℚ} {x y z : ℚ × Prop} (hx : Bd U1 x) (hy : Bd U2 y) (hz : Bd U3 z)
    (hlt : U1 * U2 + U3 < Tov) (hV : (U1 * U2 + U3) * (9 / 8) ≤ V) :
    Bd V (arithB.fma x y z) ∧ Bd V (arithB.fms x y z) := by
  obtain ⟨p1, n1, b1⟩ := hx
  obtain ⟨p2, n2, b2⟩ := hy
  obtain ⟨p3, n3, b3⟩ := hz
  have h1 : x.1 * y.1 ≤ U1 * U2 := mul_le_mul b1 b2 n2 (le_trans n1 b1)
  have h0 : 0 ≤ U1 * U2 + U3 := add_nonneg (mul_nonneg (le_trans n1 b1) (le_trans n2 b2)) (le_trans n3 b3)
  have a1 : Bd V (((x.1 * y.1 + z.1) * kap, x.2 ∧ y.2 ∧ z.2 ∧ x.1 * y.1 + z.1 < Tov) : ℚ × Prop) := by
    refine ⟨⟨p1, p2, p3, by linarith⟩, mul_nonneg (add_nonneg (mul_nonneg n1 n2) n3) (le_of_lt kap_pos), ?_⟩
    show (x.1 * y.1 + z.1) * kap ≤ V
    exact le_trans (mul_le_mul_of_nonneg_right (add_le_add h1 b3) (le_of_lt kap_pos)) (scale_le h0 hV)
  exact ⟨a1, a1⟩

theorem cell_bd (fma : Bool) (Ua Ub : ℚ) (hUa : 0 ≤ Ua) (hUb : 0 ≤ Ub) (hT : 3 * (Ua * Ub) < Tov)
    (x y u v : ℚ × Prop) (hx : Bd Ua x) (hy : Bd Ua y) (hu : Bd Ub u) (hv : Bd Ub v) :
    Bd (3 * (Ua * Ub)) (cellRe arithB fma x y u v) ∧ Bd (3 * (Ua * Ub)) (cellIm arithB fma x y u v) := by
  have hP : 0 ≤ Ua * Ub := mul_nonneg hUa hUb
  cases fma with
  | false =>
    simp only [cellRe, cellIm, Bool.false_eq_true, if_false, reRef, imRef]
    have m1 := bd_mul (V := 9 / 8 * (Ua * Ub)) hx hu (by linarith) (by linarith)
    have m2 := bd_mul (V := 9 / 8 * (Ua * Ub)) hy hv (by linarith) (by linarith)
    have m3 := bd_mul (V := 9 / 8 * (Ua * Ub)) hx hv (by linarith) (by linarith)
    have m4 := bd_mul (V := 9 / 8 * (Ua * Ub)) hy hu (by linarith) (by linarith)
    exact ⟨bd_sub m1 m2 (by linarith) (by linarith), bd_add m3 m4 (by linarith) (by linarith)⟩
  | true =>
    simp only [cellRe, cellIm, if_true]
    have m1 := bd_mul (V := 9 / 8 * (Ua * Ub)) hy hv (by linarith) (by linarith)
    have m2 := bd_mul (V := 9 / 8 * (Ua * Ub)) hx hv (by linarith) (by linarith)
    exact ⟨(bd_fma hx hu m1 (by linarith) (by linarith)).2, (bd_fma hy hu m2 (by linarith) (by linarith)).1⟩

theorem lift_getD (x : Array ℕ) (i : ℕ) : (x.map lift).getD i (lift 0) = lift (x.getD i 0) := getD_map lift x i 0

/-- for ANY term `f` of four cells that respects simulations; used at `cellRe fma`, `cellIm fma` -/
theorem term_no_ovf (f : ∀ {α : Type}, RArith α → α → α → α → α → α)
    (hsim : ∀ {α β : Type} {R : α → β → Prop} {ar : RArith α} {br : RArith β}, RArith.Sim R ar br →
      ∀ {x x' y y' u u' v v'}, R x x' → R y y' → R u u' → R v v' → R (f ar x y u v) (f br x' y' u' v'))
    (Ua Ub V : ℚ) (hUa : 0 ≤ Ua) (hUb : 0 ≤ Ub)
    (hbd : Bd V (f arithB (Ua, True) (Ua, True) (Ub, True) (Ub, True)))
    (x y u v : ℕ) (hx : |val x| ≤ Ua) (hy : |val y| ≤ Ua) (hu : |val u| ≤ Ub) (hv : |val v| ≤ Ub)
    (hf : (f arithU (lift x) (lift y) (lift u) (lift v)).2) :
    (f arithOk (lift x) (lift y) (lift u) (lift v)).2 ∧ Fin64 (f F64.arith x y u v) ∧ |val (f F64.arith x y u v)| ≤ V :=
  flag_of_bound
    (hsim arithOk_sim_arith (x := lift x) (y := lift y) (u := lift u) (v := lift v) rfl rfl rfl rfl)
    (hsim simO (rlO_lift x Ua hUa (fun _ => hx)) (rlO_lift y Ua hUa (fun _ => hy)) (rlO_lift u Ub hUb (fun _ => hu))
      (rlO_lift v Ub hUb (fun _ => hv)))
    (hsim (arithU.prod_fst arithB) (x := (lift x, (Ua, True))) (y := (lift y, (Ua, True))) (u := (lift u, (Ub, True)))
      (v := (lift v, (Ub, True))) rfl rfl rfl rfl)
    (hsim (arithU.prod_snd arithB) (x := (lift x, (Ua, True))) (y := (lift y, (Ua, True))) (u := (lift u, (Ub, True)))
      (v := (lift v, (Ub, True))) rfl rfl rfl rfl)
    hbd hf

theorem mul_no_ovf (fma : Bool) (m : ℕ) (hm : fma = true → m % 4 = 0) (a b : Array ℕ) (Ua Ub : ℚ) (hUa : 0 ≤ Ua)
    (hUb : 0 ≤ Ub) (ha : ∀ p, p < 2 * m → |val (a.getD p 0)| ≤ Ua) (hb : ∀ p, p < 2 * m → |val (b.getD p 0)| ≤ Ub)
    (hT : 4 * (Ua * Ub) < Tov)
    (hokU : ∀ p, p < 2 * m → ((mulA arithU fma m (a.map lift) (b.map lift)).getD p arithU.zero).2) :
    ∀ p, p < 2 * m →
      ((mulA arithOk fma m (a.map lift) (b.map lift)).getD p arithOk.zero).2 ∧
      Fin64 ((mulA F64.arith fma m a b).getD p 0) ∧ |val ((mulA F64.arith fma m a b).getD p 0)| ≤ 4 * (Ua * Ub) := by
  have hP : 0 ≤ Ua * Ub := mul_nonneg hUa hUb
  have bdA : Bd Ua ((Ua, True) : ℚ × Prop) := ⟨trivial, hUa, le_refl _⟩
  have bdB : Bd Ub ((Ub, True) : ℚ × Prop) := ⟨trivial, hUb, le_refl _⟩
  obtain ⟨k1, k2⟩ := cell_bd fma Ua Ub hUa hUb (by linarith) _ _ _ _ bdA bdA bdB bdB
  have h34 : 3 * (Ua * Ub) ≤ 4 * (Ua * Ub) := by linarith
  have z1 : arithOk.zero = lift 0 := rfl
  have z2 : arithU.zero = lift 0 := rfl
  have z3 : F64.arith.zero = 0 := rfl
  intro p hp
  obtain ⟨j, hj, hpj⟩ : ∃ j, j < m ∧ (p = j ∨ p = j + m) := by
    by_cases hlt : p < m
    · exact ⟨p, hlt, Or.inl rfl⟩
    · exact ⟨p - m, by omega, Or.inr (by omega)⟩
  obtain ⟨c1, c2⟩ := (mulA_cells arithOk fma m hm (a.map lift) (b.map lift)).2 j hj
  obtain ⟨d1, d2⟩ := (mulA_cells arithU fma m hm (a.map lift) (b.map lift)).2 j hj
  obtain ⟨e1, e2⟩ := (mulA_cells F64.arith fma m hm a b).2 j hj
  rw [z1] at c1 c2
  rw [z2] at d1 d2
  rw [z3] at e1 e2
  simp only [lift_getD] at c1 c2 d1 d2
  have hf := hokU p hp
  rcases hpj with rfl | rfl
  · rw [z2, d1] at hf
    rw [z1, c1, e1]
    exact term_no_ovf (fun ar => cellRe ar fma) (fun h => cellRe_sim h fma) Ua Ub _ hUa hUb (k1.mono h34) _ _ _ _
      (ha p (by omega)) (ha (p + m) (by omega)) (hb p (by omega)) (hb (p + m) (by omega)) hf
  · rw [z2, d2] at hf
    rw [z1, c2, e2]
    exact term_no_ovf (fun ar => cellIm ar fma) (fun h => cellIm_sim h fma) Ua Ub _ hUa hUb (k2.mono h34) _ _ _ _
      (ha j (by omega)) (ha (j + m) (by omega)) (hb j (by omega)) (hb (j + m) (by omega)) hf

end Spq.VmpErr
