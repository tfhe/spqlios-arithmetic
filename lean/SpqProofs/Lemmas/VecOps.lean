/-
  The vec_znx operations as instances of one reference call: `runNF` is one pass over the output limbs with a per-limb
  kernel `Kern`, and `runNF_post` gives, for every kernel with `KernOK`, what C08 / C13 / C18 / C11 say about a call.
  Each operation enters through one equation `VecZnx.op … h = runNF … h` and one `KernOK` fact.  (`normalize` is no `runNF`:
  limb `i` needs the carry of the limbs after it; its normal form is in `NormHeap`.)
-/
import SpqProofs.Lemmas.VecGeneric
import SpqProofs.Lemmas.CoeffSizes
import Spq.VecZnx
namespace Spq.C08
open Spq Heap
variable {α : Type}

theorem _root_.Spq.Heap.StepNF.of_eq {f : Heap α → Heap α} {r : Nat} {G G' : Array α → Array α} {B B' : Nat → Bool}
    (h : StepNF f r G B) (hG : G = G') (hB : B = B') : StepNF f r G' B' := by
  subst hG hB; exact h

/-- the declared extent of one operand (`n` limbs of `nn` cells at `off`, stride `sl`) lies inside a heap of `sz` cells -/
def InBounds (nn sz : Nat) (off n sl : Nat) : Prop := ∀ i, i < n → off + i * sl + nn ≤ sz

def Frame (nn res rsz rsl : Nat) (m m' : Array α) : Prop :=
  ∀ x, (∀ i, i < rsz → x < res + i * rsl ∨ res + i * rsl + nn ≤ x) → m'[x]? = m[x]?

@[simp] theorem size_cadd (o : Ops α) (nn : Nat) (x y : Array α) : (Coeffs.add o nn x y).size = nn := by simp [Coeffs.add]
@[simp] theorem size_csub (o : Ops α) (nn : Nat) (x y : Array α) : (Coeffs.sub o nn x y).size = nn := by simp [Coeffs.sub]
@[simp] theorem size_cneg (o : Ops α) (nn : Nat) (x : Array α) : (Coeffs.negate o nn x).size = nn := by simp [Coeffs.negate]
@[simp] theorem size_ccopy (o : Ops α) (nn : Nat) (x : Array α) : (Coeffs.copy o nn x).size = nn := by simp [Coeffs.copy]
@[simp] theorem size_czero (o : Ops α) (nn : Nat) : (Coeffs.zero o nn).size = nn := by simp [Coeffs.zero]

theorem all_range_true (n : Nat) (B : Nat → Bool) (h : ∀ i, i < n → B i = true) :
    (List.range' 0 n).all B = true := by
  rw [List.all_eq_true]
  intro i hi
  rw [List.mem_range'_1] at hi
  exact h i (by omega)

/-- the source vector `(a, asz, asl)` is separate from the output: each of its limbs is disjoint
    from every output limb (the right disjunct of `SrcOK`) -/
def Sep (nn res rsz rsl a asz asl : Nat) : Prop :=
  ∀ i j, i < asz → j < rsz → a + i * asl + nn ≤ res + j * rsl ∨ res + j * rsl + nn ≤ a + i * asl

theorem Sep.srcOK {nn res rsz rsl a asz asl : Nat} (h : Sep nn res rsz rsl a asz asl) :
    SrcOK nn res rsz rsl a asz asl := Or.inr h

/-- the limbs an operation with `rsz` output limbs can read from `(a, asz, asl)` on heap `m` hold
    the same data as those of `(a', asz, asl')` on heap `m2` -/
def SameSrc (d : α) (nn rsz : Nat) (m : Array α) (a asz asl : Nat) (m2 : Array α) (a' asl' : Nat) : Prop :=
  ∀ i c, i < asz → i < rsz → c < nn → m.getD (a + i * asl + c) d = m2.getD (a' + i * asl' + c) d

theorem SameSrc.readLimb {d : α} {nn rsz : Nat} {h h2 : Heap α} {a asz asl a' asl' : Nat}
    (hs : SameSrc d nn rsz h.mem a asz asl h2.mem a' asl') (i : Nat) (hi : i < asz) (hr : i < rsz) :
    h.readLimb d (a + i * asl) nn = h2.readLimb d (a' + i * asl') nn :=
  readLimb_eq_of_getD h h2 d _ _ nn (fun c hc => hs i c hi hr hc)

theorem frame_src {nn res rsz rsl : Nat} {m m' : Array α} (hf : Frame nn res rsz rsl m m')
    {a asz asl : Nat} (hsep : Sep nn res rsz rsl a asz asl) (i c : Nat) (hi : i < asz) (hc : c < nn) :
    m'[a + i * asl + c]? = m[a + i * asl + c]? := by
  apply hf
  intro j hj
  have := hsep i j hi hj
  omega

theorem frame_extent {nn res rsz rsl : Nat} {m m' : Array α} (hf : Frame nn res rsz rsl m m')
    (lo hi : Nat) (hd : ∀ j, j < rsz → hi ≤ res + j * rsl ∨ res + j * rsl + nn ≤ lo)
    (x : Nat) (h1 : lo ≤ x) (h2 : x < hi) : m'[x]? = m[x]? := by
  apply hf
  intro j hj
  have := hd j hj
  omega

def addB (nn res rsl a asz asl b bsz bsl : Nat) (i sz : Nat) : Bool :=
  if i < asz ∧ i < bsz then decide (a + i * asl + nn ≤ sz) && decide (b + i * bsl + nn ≤ sz) && decide (res + i * rsl + nn ≤ sz)
  else if i < bsz then decide (b + i * bsl + nn ≤ sz) && decide (res + i * rsl + nn ≤ sz)
  else if i < asz then decide (a + i * asl + nn ≤ sz) && decide (res + i * rsl + nn ≤ sz)
  else decide (res + i * rsl + nn ≤ sz)

theorem addB_true (nn sz res rsz rsl a asz asl b bsz bsl : Nat)
    (hres : InBounds nn sz res rsz rsl)
    (ha : InBounds nn sz a (min asz rsz) asl) (hb : InBounds nn sz b (min bsz rsz) bsl) :
    (List.range' 0 rsz).all (fun i => addB nn res rsl a asz asl b bsz bsl i sz) = true := by
  apply all_range_true
  intro i hi
  have r1 := hres i hi
  unfold addB
  split
  · rename_i c; have := ha i (by omega); have := hb i (by omega); simp; omega
  · split
    · have := hb i (by omega); simp; omega
    · split
      · have := ha i (by omega); simp; omega
      · simp; omega

theorem heap_eq {h : Heap α} {m : Array α} {k : Bool} (e : h.mem = m ∧ h.ok = k) : h = ⟨m, k⟩ := by
  cases h; obtain ⟨rfl, rfl⟩ := e; rfl

/-- per-limb kernel: limb index, limb of `a`, limb of `b`, prior content of the output limb -/
abbrev Kern (α : Type) := Nat → Array α → Array α → Array α → Array α

def nfLimb (d : α) (nn : Nat) (K : Kern α) (res rsl a asl b bsl : Nat) (i : Nat) (m : Array α) : Array α :=
  K i (readLimb ⟨m, true⟩ d (a + i * asl) nn) (readLimb ⟨m, true⟩ d (b + i * bsl) nn)
    (readLimb ⟨m, true⟩ d (res + i * rsl) nn)

/-- the reference call: one pass over the `rsz` output limbs.  A one-source call is `bsz = 0`. -/
def runNF (d : α) (nn : Nat) (K : Kern α) (res rsz rsl a asz asl b bsz bsl : Nat) (h : Heap α) : Heap α :=
  ⟨(List.range' 0 rsz).foldl (fun m i => writeArr m (res + i * rsl) (nfLimb d nn K res rsl a asl b bsl i m)) h.mem,
   h.ok && (List.range' 0 rsz).all (fun i => addB nn res rsl a asz asl b bsz bsl i h.mem.size)⟩

structure KernOK (nn asz bsz : Nat) (K : Kern α) : Prop where
  size : ∀ i x y z, x.size = nn → y.size = nn → z.size = nn → (K i x y z).size = nn
  noA : ∀ i, asz ≤ i → ∀ x x' y z, K i x y z = K i x' y z
  noB : ∀ i, bsz ≤ i → ∀ x y y' z, K i x y z = K i x y' z

structure NFPost (nn : Nat) (h h' : Heap α) (V : Nat → Array α) (res rsz rsl a asz asl b bsz bsl : Nat) : Prop where
  size : h'.mem.size = h.mem.size
  frame : Frame nn res rsz rsl h.mem h'.mem
  ok : InBounds nn h.mem.size res rsz rsl → InBounds nn h.mem.size a (min asz rsz) asl →
    InBounds nn h.mem.size b (min bsz rsz) bsl → h'.ok = h.ok
  val : nn ≤ rsl → InBounds nn h.mem.size res rsz rsl → SrcOK nn res rsz rsl a asz asl →
    SrcOK nn res rsz rsl b bsz bsl → ∀ i c, i < rsz → c < nn → h'.mem[res + i * rsl + c]? = (V i)[c]?

theorem runNF_post {d : α} {nn : Nat} {K : Kern α} {res rsz rsl a asz asl b bsz bsl : Nat}
    (hK : KernOK nn asz bsz K) (h : Heap α) :
    NFPost nn h (runNF d nn K res rsz rsl a asz asl b bsz bsl h)
      (fun i => nfLimb d nn K res rsl a asl b bsl i h.mem) res rsz rsl a asz asl b bsz bsl := by
  have hsz : ∀ i m, (nfLimb d nn K res rsl a asl b bsl i m).size = nn := fun i m =>
    hK.size _ _ _ _ (size_readLimb ..) (size_readLimb ..) (size_readLimb ..)
  refine ⟨size_foldl_writeArr _ _ _ _, ?_, ?_, ?_⟩
  · intro x hx
    apply foldl_writeArr_frame nn (fun i => res + i * rsl) _ hsz
    intro i hi
    rw [List.mem_range'_1] at hi
    exact hx i (by omega)
  · intro hres ha hb
    show (h.ok && _) = h.ok
    rw [addB_true nn h.mem.size res rsz rsl a asz asl b bsz bsl hres ha hb, Bool.and_true]
  · intro hsl hres ha hb
    exact (vec_generic' nn res rsz rsl a asz asl b bsz bsl d K hK.size hK.noA hK.noB h.mem hsl hres ha hb).2.1

/-- the three clauses of a specification (`C08.VecPost`), the limb values renamed by `hv` -/
theorem NFPost.post {nn : Nat} {h h' : Heap α} {V : Nat → Array α} {res rsz rsl a asz asl b bsz bsl : Nat}
    (P : NFPost nn h h' V res rsz rsl a asz asl b bsz bsl) (hsl : nn ≤ rsl) (hres : InBounds nn h.mem.size res rsz rsl)
    (ha : SrcOK nn res rsz rsl a asz asl) (hb : SrcOK nn res rsz rsl b bsz bsl) {val : Nat → Nat → Option α}
    (hv : ∀ i c, i < rsz → c < nn → (V i)[c]? = val i c) :
    h'.mem.size = h.mem.size ∧ (∀ i c, i < rsz → c < nn → h'.mem[res + i * rsl + c]? = val i c) ∧
      Frame nn res rsz rsl h.mem h'.mem :=
  ⟨P.size, fun i c hi hc => (P.val hsl hres ha hb i c hi hc).trans (hv i c hi hc), P.frame⟩

theorem NFPost.footprint {nn : Nat} {h h' : Heap α} {V : Nat → Array α} {res rsz rsl a asz asl b bsz bsl : Nat}
    (P : NFPost nn h h' V res rsz rsl a asz asl b bsz bsl) :
    h'.mem.size = h.mem.size ∧ Frame nn res rsz rsl h.mem h'.mem := ⟨P.size, P.frame⟩

/-- `hKK`: the kernels agree whatever the prior content of the output (in-place versus out-of-place kernel) -/
theorem runNF_indep (d : α) (nn : Nat) (K K' : Kern α) (h h2 : Heap α)
    (res rsz rsl a asz asl b bsz bsl res' rsl' a' asl' b' bsl' : Nat)
    (hK : KernOK nn asz bsz K) (hK' : KernOK nn asz bsz K')
    (hKK : ∀ i x y z z', x.size = nn → y.size = nn → z.size = nn → z'.size = nn → K i x y z = K' i x y z')
    (hsl : nn ≤ rsl) (hres : InBounds nn h.mem.size res rsz rsl)
    (ha : SrcOK nn res rsz rsl a asz asl) (hb : SrcOK nn res rsz rsl b bsz bsl)
    (hsl' : nn ≤ rsl') (hres' : InBounds nn h2.mem.size res' rsz rsl')
    (ha' : SrcOK nn res' rsz rsl' a' asz asl') (hb' : SrcOK nn res' rsz rsl' b' bsz bsl')
    (sa : SameSrc d nn rsz h.mem a asz asl h2.mem a' asl')
    (sb : SameSrc d nn rsz h.mem b bsz bsl h2.mem b' bsl') :
    ∀ i c, i < rsz → c < nn →
      (runNF d nn K res rsz rsl a asz asl b bsz bsl h).mem[res + i * rsl + c]? =
      (runNF d nn K' res' rsz rsl' a' asz asl' b' bsz bsl' h2).mem[res' + i * rsl' + c]? := by
  intro i c hi hc
  rw [(runNF_post hK h).val hsl hres ha hb i c hi hc, (runNF_post hK' h2).val hsl' hres' ha' hb' i c hi hc]
  congr 1
  unfold nfLimb
  -- the limb of `a`: the same data if `i < asz`, ignored otherwise; likewise `b`
  have ea : ∀ y z, K i (readLimb ⟨h.mem, true⟩ d (a + i * asl) nn) y z
      = K i (readLimb ⟨h2.mem, true⟩ d (a' + i * asl') nn) y z := fun y z => by
    by_cases h1 : i < asz
    · rw [SameSrc.readLimb (h := ⟨h.mem, true⟩) (h2 := ⟨h2.mem, true⟩) sa i h1 hi]
    · exact hK.noA i (by omega) _ _ _ _
  have eb : ∀ x z, K i x (readLimb ⟨h.mem, true⟩ d (b + i * bsl) nn) z
      = K i x (readLimb ⟨h2.mem, true⟩ d (b' + i * bsl') nn) z := fun x z => by
    by_cases h1 : i < bsz
    · rw [SameSrc.readLimb (h := ⟨h.mem, true⟩) (h2 := ⟨h2.mem, true⟩) sb i h1 hi]
    · exact hK.noB i (by omega) _ _ _ _
  rw [ea, eb]
  exact hKK i _ _ _ _ (size_readLimb ..) (size_readLimb ..) (size_readLimb ..) (size_readLimb ..)

theorem runNF_size0 (d : α) (nn : Nat) (K : Kern α) (res rsl a asz asl b bsz bsl : Nat) (h : Heap α) :
    runNF d nn K res 0 rsl a asz asl b bsz bsl h = h := by
  cases h; simp [runNF]

/-! ### Storing loops: limb `i` of the output becomes a given `v i`, nothing is read

    As a `runNF` both sources are the output itself with no limb (`asz = bsz = 0`).  `VecZnx.zero`, the
    zero extension of `normalize` and `Prog.storeVec` are such loops. -/

def constK (v : Nat → Array α) : Kern α := fun i _ _ _ => v i

theorem kernOK_const (nn : Nat) (v : Nat → Array α) (hv : ∀ i, (v i).size = nn) : KernOK nn 0 0 (constK v) :=
  ⟨fun i _ _ _ _ _ _ => hv i, fun _ _ _ _ _ _ => rfl, fun _ _ _ _ _ _ => rfl⟩

theorem store_runNF (d : α) (nn : Nat) (v : Nat → Array α) (hv : ∀ i, (v i).size = nn) (h : Heap α) (res n rsl : Nat) :
    forLimbs 0 n (fun i => limb0 (v i) (res + i * rsl)) h = runNF d nn (constK v) res n rsl res 0 rsl res 0 rsl h := by
  refine heap_eq ?_
  have := forLimbs_nf 0 n (fun i => limb0 (v i) (res + i * rsl)) (fun i => res + i * rsl)
    (nfLimb d nn (constK v) res rsl res rsl res rsl) (addB nn res rsl res 0 rsl res 0 rsl)
    (fun i _ _ => (stepNF_limb0 (v i) _).of_eq rfl (by funext sz; simp [addB, hv i])) h
  simpa using this

theorem store_post (d : α) (nn : Nat) (v : Nat → Array α) (hv : ∀ i, (v i).size = nn) (h : Heap α) (res n rsl : Nat)
    (hsl : nn ≤ rsl) (hres : InBounds nn h.mem.size res n rsl) :
    let h' := forLimbs 0 n (fun i => limb0 (v i) (res + i * rsl)) h
    h'.mem.size = h.mem.size ∧ h'.ok = h.ok ∧
    (∀ i c, i < n → c < nn → h'.mem[res + i * rsl + c]? = (v i)[c]?) ∧ Frame nn res n rsl h.mem h'.mem := by
  intro h'
  have P := runNF_post (d := d) (res := res) (rsz := n) (rsl := rsl) (a := res) (asl := rsl) (b := res) (bsl := rsl)
    (kernOK_const nn v hv) h
  rw [← store_runNF d nn v hv] at P
  exact ⟨P.size, P.ok hres (fun i hi => by omega) (fun i hi => by omega),
    P.val hsl hres (Or.inl ⟨rfl, rfl⟩) (Or.inl ⟨rfl, rfl⟩), P.frame⟩

/-- the loop shape of `vec_znx_add` / `vec_znx_sub`: `k2` on the limbs both sources have, `kb` (resp. `ka`) on
    the further limbs of `b` (resp. `a`), then zero-extension -/
def twoSrc (o : Ops α) (nn : Nat) (k2 : Array α → Array α → Array α) (kb ka : Array α → Array α)
    (h : Heap α) (res rsz rsl a asz asl b bsz bsl : Nat) : Heap α :=
  if asz ≤ bsz then
    h |> forLimbs 0 (min rsz asz) (fun i => limb2 o.zero nn k2 (res + i * rsl) (a + i * asl) (b + i * bsl))
      |> forLimbs (min rsz asz) (min rsz bsz) (fun i => limb1 o.zero nn kb (res + i * rsl) (b + i * bsl))
      |> forLimbs (min rsz bsz) rsz (fun i => limb0 (Coeffs.zero o nn) (res + i * rsl))
  else
    h |> forLimbs 0 (min rsz bsz) (fun i => limb2 o.zero nn k2 (res + i * rsl) (a + i * asl) (b + i * bsl))
      |> forLimbs (min rsz bsz) (min rsz asz) (fun i => limb1 o.zero nn ka (res + i * rsl) (a + i * asl))
      |> forLimbs (min rsz asz) rsz (fun i => limb0 (Coeffs.zero o nn) (res + i * rsl))

def twoK (o : Ops α) (nn : Nat) (k2 : Array α → Array α → Array α) (kb ka : Array α → Array α) (asz bsz : Nat) :
    Kern α := fun i x y _z =>
  if i < asz ∧ i < bsz then k2 x y
  else if i < bsz then kb y
  else if i < asz then ka x
  else Coeffs.zero o nn

theorem kernOK_twoK (o : Ops α) (nn : Nat) (k2 : Array α → Array α → Array α) (kb ka : Array α → Array α)
    (hk2 : ∀ x y, (k2 x y).size = nn) (hkb : ∀ x, (kb x).size = nn) (hka : ∀ x, (ka x).size = nn) (asz bsz : Nat) :
    KernOK nn asz bsz (twoK o nn k2 kb ka asz bsz) where
  size i x y z _ _ _ := by
    unfold twoK; repeat' split
    · exact hk2 x y
    · exact hkb y
    · exact hka x
    · simp
  noA i hi x x' y z := by
    have c : ¬ i < asz := by omega
    simp [twoK, c]
  noB i hi x y y' z := by
    have c : ¬ i < bsz := by omega
    simp [twoK, c]

theorem twoSrc_runNF (o : Ops α) (nn : Nat) (k2 : Array α → Array α → Array α) (kb ka : Array α → Array α)
    (hk2 : ∀ x y, (k2 x y).size = nn) (hkb : ∀ x, (kb x).size = nn) (hka : ∀ x, (ka x).size = nn)
    (h : Heap α) (res rsz rsl a asz asl b bsz bsl : Nat) :
    twoSrc o nn k2 kb ka h res rsz rsl a asz asl b bsz bsl =
      runNF o.zero nn (twoK o nn k2 kb ka asz bsz) res rsz rsl a asz asl b bsz bsl h := by
  refine heap_eq ?_
  -- the four kinds of limb, each a step of the reference call
  have s2 : ∀ i, i < asz → i < bsz →
      StepNF (limb2 o.zero nn k2 (res + i * rsl) (a + i * asl) (b + i * bsl)) (res + i * rsl)
        (nfLimb o.zero nn (twoK o nn k2 kb ka asz bsz) res rsl a asl b bsl i) (addB nn res rsl a asz asl b bsz bsl i) :=
    fun i c1 c2 => (stepNF_limb2 o.zero nn k2 hk2 _ _ _).of_eq
      (by funext m; simp [nfLimb, twoK, c1, c2]) (by funext sz; simp [addB, c1, c2])
  have sb : ∀ i, ¬ i < asz → i < bsz →
      StepNF (limb1 o.zero nn kb (res + i * rsl) (b + i * bsl)) (res + i * rsl)
        (nfLimb o.zero nn (twoK o nn k2 kb ka asz bsz) res rsl a asl b bsl i) (addB nn res rsl a asz asl b bsz bsl i) :=
    fun i c1 c2 => (stepNF_limb1 o.zero nn kb (fun x _ => hkb x) _ _).of_eq
      (by funext m; simp [nfLimb, twoK, c1, c2]) (by funext sz; simp [addB, c1, c2])
  have sa : ∀ i, i < asz → ¬ i < bsz →
      StepNF (limb1 o.zero nn ka (res + i * rsl) (a + i * asl)) (res + i * rsl)
        (nfLimb o.zero nn (twoK o nn k2 kb ka asz bsz) res rsl a asl b bsl i) (addB nn res rsl a asz asl b bsz bsl i) :=
    fun i c1 c2 => (stepNF_limb1 o.zero nn ka (fun x _ => hka x) _ _).of_eq
      (by funext m; simp [nfLimb, twoK, c1, c2]) (by funext sz; simp [addB, c1, c2])
  have s0 : ∀ i, ¬ i < asz → ¬ i < bsz →
      StepNF (limb0 (Coeffs.zero o nn) (res + i * rsl)) (res + i * rsl)
        (nfLimb o.zero nn (twoK o nn k2 kb ka asz bsz) res rsl a asl b bsl i) (addB nn res rsl a asz asl b bsz bsl i) :=
    fun i c1 c2 => (stepNF_limb0 (Coeffs.zero o nn) _).of_eq
      (by funext m; simp [nfLimb, twoK, c1, c2]) (by funext sz; simp [addB, c1, c2])
  unfold twoSrc
  split
  · exact three_phase _ _ _ (min rsz asz) (min rsz bsz) rsz (by omega) (by omega) (fun i => res + i * rsl) _ _
      (fun i _ => s2 i (by omega) (by omega)) (fun i _ _ => sb i (by omega) (by omega))
      (fun i _ _ => s0 i (by omega) (by omega)) h
  · exact three_phase _ _ _ (min rsz bsz) (min rsz asz) rsz (by omega) (by omega) (fun i => res + i * rsl) _ _
      (fun i _ => s2 i (by omega) (by omega)) (fun i _ _ => sa i (by omega) (by omega))
      (fun i _ _ => s0 i (by omega) (by omega)) h

abbrev addK (o : Ops α) (nn asz bsz : Nat) : Kern α :=
  twoK o nn (Coeffs.add o nn) (Coeffs.copy o nn) (Coeffs.copy o nn) asz bsz

abbrev subK (o : Ops α) (nn asz bsz : Nat) : Kern α :=
  twoK o nn (Coeffs.sub o nn) (Coeffs.negate o nn) (Coeffs.copy o nn) asz bsz

theorem kernOK_add (o : Ops α) (nn asz bsz : Nat) : KernOK nn asz bsz (addK o nn asz bsz) :=
  kernOK_twoK o nn _ _ _ (by simp) (by simp) (by simp) asz bsz

theorem kernOK_sub (o : Ops α) (nn asz bsz : Nat) : KernOK nn asz bsz (subK o nn asz bsz) :=
  kernOK_twoK o nn _ _ _ (by simp) (by simp) (by simp) asz bsz

theorem add_runNF (o : Ops α) (nn : Nat) (h : Heap α) (res rsz rsl a asz asl b bsz bsl : Nat) :
    VecZnx.add o nn h res rsz rsl a asz asl b bsz bsl =
      runNF o.zero nn (addK o nn asz bsz) res rsz rsl a asz asl b bsz bsl h :=
  twoSrc_runNF o nn _ _ _ (by simp) (by simp) (by simp) h res rsz rsl a asz asl b bsz bsl

theorem sub_runNF (o : Ops α) (nn : Nat) (h : Heap α) (res rsz rsl a asz asl b bsz bsl : Nat) :
    VecZnx.sub o nn h res rsz rsl a asz asl b bsz bsl =
      runNF o.zero nn (subK o nn asz bsz) res rsz rsl a asz asl b bsz bsl h :=
  twoSrc_runNF o nn _ _ _ (by simp) (by simp) (by simp) h res rsz rsl a asz asl b bsz bsl

/-- value of output coefficient `(i, c)` of a two-source call whose kernels act coefficient by coefficient
    (`C08.addVal`, `C08.subVal` are instances by `rfl`) -/
def twoVal (o : Ops α) (f2 : α → α → α) (fb fa : α → α) (m : Array α) (a asz asl b bsz bsl i c : Nat) : α :=
  if i < asz ∧ i < bsz then f2 (m.getD (a + i * asl + c) o.zero) (m.getD (b + i * bsl + c) o.zero)
  else if i < bsz then fb (m.getD (b + i * bsl + c) o.zero)
  else if i < asz then fa (m.getD (a + i * asl + c) o.zero)
  else o.zero

theorem nfLimb_pw (o : Ops α) (nn : Nat) (f2 : α → α → α) (fb fa : α → α) (m : Array α)
    (res rsl a asz asl b bsz bsl i c : Nat) (hc : c < nn) :
    (nfLimb o.zero nn (twoK o nn
        (fun x y => Array.ofFn (n := nn) fun j => f2 (x.getD j o.zero) (y.getD j o.zero))
        (fun y => Array.ofFn (n := nn) fun j => fb (y.getD j o.zero))
        (fun x => Array.ofFn (n := nn) fun j => fa (x.getD j o.zero)) asz bsz) res rsl a asl b bsl i m)[c]? =
      some (twoVal o f2 fb fa m a asz asl b bsz bsl i c) := by
  unfold nfLimb twoK twoVal
  split
  · simp [hc, readLimb, Nat.add_assoc]
  · split
    · simp [hc, readLimb, Nat.add_assoc]
    · split
      · simp [hc, readLimb, Nat.add_assoc]
      · simp [Coeffs.zero, hc]

/-! ### one-source operations: `k` on the first `min rsz asz` limbs, then zero-extension.
    The per-limb kernel `k i x z` receives the source limb `x` and the prior content `z` of the
    output limb.  As a `runNF` the second source is the output itself with no limb (`bsz = 0`). -/

def oneK (o : Ops α) (nn : Nat) (k : Nat → Array α → Array α → Array α) (asz : Nat) : Kern α := fun i x _y z =>
  if i < asz then k i x z else Coeffs.zero o nn

theorem kernOK_oneK (o : Ops α) (nn : Nat) (k : Nat → Array α → Array α → Array α)
    (hk : ∀ i x z, x.size = nn → z.size = nn → (k i x z).size = nn) (asz : Nat) :
    KernOK nn asz 0 (oneK o nn k asz) where
  size i x y z hx _ hz := by
    unfold oneK; split
    · exact hk i x z hx hz
    · simp
  noA i hi x x' y z := by
    have c : ¬ i < asz := by omega
    simp [oneK, c]
  noB _ _ _ _ _ _ := rfl

theorem oneSrc_runNF (o : Ops α) (nn : Nat) (f : Nat → Heap α → Heap α)
    (k : Nat → Array α → Array α → Array α) (h : Heap α) (res rsz rsl a asz asl : Nat)
    (hf : ∀ i, i < min rsz asz → StepNF (f i) (res + i * rsl)
      (fun m => k i (readLimb ⟨m, true⟩ o.zero (a + i * asl) nn) (readLimb ⟨m, true⟩ o.zero (res + i * rsl) nn))
      (fun sz => decide (a + i * asl + nn ≤ sz) && decide (res + i * rsl + nn ≤ sz))) :
    forLimbs (min rsz asz) rsz (fun i => limb0 (Coeffs.zero o nn) (res + i * rsl)) (forLimbs 0 (min rsz asz) f h) =
      runNF o.zero nn (oneK o nn k asz) res rsz rsl a asz asl res 0 rsl h := by
  refine heap_eq ?_
  apply two_phase _ _ (min rsz asz) rsz (by omega) (fun i => res + i * rsl)
    (nfLimb o.zero nn (oneK o nn k asz) res rsl a asl res rsl) (addB nn res rsl a asz asl res 0 rsl)
  · intro i hi
    have c1 : i < asz := by omega
    exact (hf i hi).of_eq (by funext m; simp [nfLimb, oneK, c1]) (by funext sz; simp [addB, c1])
  · intro i h1 h2
    have c1 : ¬ i < asz := by omega
    exact (stepNF_limb0 (Coeffs.zero o nn) _).of_eq
      (by funext m; simp [nfLimb, oneK, c1]) (by funext sz; simp [addB, c1])

/-- value of output coefficient `(i, c)` of a one-source call whose kernel acts coefficient by coefficient
    (`C08.copyVal`, `C08.negVal` are instances by `rfl`) -/
theorem nfLimb_pw1 (o : Ops α) (nn : Nat) (f : α → α) (m : Array α) (res rsl a asz asl b bsl i c : Nat) (hc : c < nn) :
    (nfLimb o.zero nn (oneK o nn (fun _ x _ => Array.ofFn (n := nn) fun j => f (x.getD j o.zero)) asz)
        res rsl a asl b bsl i m)[c]? =
      some (if i < asz then f (m.getD (a + i * asl + c) o.zero) else o.zero) := by
  unfold nfLimb oneK
  split
  · simp [hc, readLimb, Nat.add_assoc]
  · simp [Coeffs.zero, hc]

theorem zero_runNF (o : Ops α) (nn : Nat) (h : Heap α) (res rsz rsl : Nat) :
    VecZnx.zero o nn h res rsz rsl =
      runNF o.zero nn (constK fun _ => Coeffs.zero o nn) res rsz rsl res 0 rsl res 0 rsl h :=
  store_runNF o.zero nn _ (fun _ => by simp) h res rsz rsl

theorem kernOK_zero (o : Ops α) (nn : Nat) : KernOK nn 0 0 (constK fun _ => Coeffs.zero o nn) :=
  kernOK_const nn _ (fun _ => by simp)

abbrev copyK (o : Ops α) (nn asz : Nat) : Kern α := oneK o nn (fun _ x _ => Coeffs.copy o nn x) asz

abbrev negK (o : Ops α) (nn asz : Nat) : Kern α := oneK o nn (fun _ x _ => Coeffs.negate o nn x) asz

theorem kernOK_copy (o : Ops α) (nn asz : Nat) : KernOK nn asz 0 (copyK o nn asz) :=
  kernOK_oneK o nn _ (fun _ _ _ _ _ => by simp) asz

theorem kernOK_neg (o : Ops α) (nn asz : Nat) : KernOK nn asz 0 (negK o nn asz) :=
  kernOK_oneK o nn _ (fun _ _ _ _ _ => by simp) asz

theorem copy_runNF (o : Ops α) (nn : Nat) (h : Heap α) (res rsz rsl a asz asl : Nat) :
    VecZnx.copy o nn h res rsz rsl a asz asl = runNF o.zero nn (copyK o nn asz) res rsz rsl a asz asl res 0 rsl h :=
  oneSrc_runNF o nn _ (fun _ x _ => Coeffs.copy o nn x) h res rsz rsl a asz asl
    (fun _ _ => stepNF_limb1 o.zero nn (Coeffs.copy o nn) (fun _ _ => by simp) _ _)

theorem negate_runNF (o : Ops α) (nn : Nat) (h : Heap α) (res rsz rsl a asz asl : Nat) :
    VecZnx.negate o nn h res rsz rsl a asz asl = runNF o.zero nn (negK o nn asz) res rsz rsl a asz asl res 0 rsl h :=
  oneSrc_runNF o nn _ (fun _ x _ => Coeffs.negate o nn x) h res rsz rsl a asz asl
    (fun _ _ => stepNF_limb1 o.zero nn (Coeffs.negate o nn) (fun _ _ => by simp) _ _)

/-! ### rotate, automorphism: the kernel is selected per limb by the pointer-equality test -/

/-- the kernel `vec_znx_rotate_ref` applies to limb `i` -/
def rotKer (o : Ops α) (nn : Nat) (p : Int) (res rsl a asl : Nat) (i : Nat) (x _z : Array α) : Array α :=
  if res + i * rsl = a + i * asl then Coeffs.rotateInplace o nn p x else Coeffs.rotate o nn p x

/-- the kernel `vec_znx_automorphism_ref` applies to limb `i` (`z`: prior content of the output limb) -/
def autKer (o : Ops α) (nn : Nat) (p : Int) (res rsl a asl : Nat) (i : Nat) (x z : Array α) : Array α :=
  if res + i * rsl = a + i * asl then Coeffs.automorphismInplace o nn p x else Coeffs.automorphism o nn p x z

theorem kernOK_rot (o : Ops α) (nn : Nat) (p : Int) (res rsl a asl asz : Nat) :
    KernOK nn asz 0 (oneK o nn (rotKer o nn p res rsl a asl) asz) :=
  kernOK_oneK o nn _ (fun i x z hx _ => by unfold rotKer; split <;> simp [hx]) asz

theorem kernOK_aut (o : Ops α) (nn : Nat) (p : Int) (res rsl a asl asz : Nat) :
    KernOK nn asz 0 (oneK o nn (autKer o nn p res rsl a asl) asz) :=
  kernOK_oneK o nn _ (fun i x z hx hz => by unfold autKer; split <;> simp [hx, hz]) asz

theorem rotate_runNF (o : Ops α) (nn : Nat) (p : Int) (h : Heap α) (res rsz rsl a asz asl : Nat) :
    VecZnx.rotate o nn p h res rsz rsl a asz asl =
      runNF o.zero nn (oneK o nn (rotKer o nn p res rsl a asl) asz) res rsz rsl a asz asl res 0 rsl h := by
  apply oneSrc_runNF o nn _ (rotKer o nn p res rsl a asl) h res rsz rsl a asz asl
  intro i _
  by_cases heq : res + i * rsl = a + i * asl
  · simp only [if_pos heq]
    refine (stepNF_limb1 o.zero nn (Coeffs.rotateInplace o nn p) (by intro x hx; simp [hx]) _ _).of_eq ?_ ?_
    · funext m; simp only [rotKer, if_pos heq]; rw [heq]
    · funext sz; rw [heq]
  · simp only [if_neg heq]
    refine (stepNF_limb1 o.zero nn (Coeffs.rotate o nn p) (fun _ _ => by simp) _ _).of_eq ?_ rfl
    funext m; simp only [rotKer, if_neg heq]

theorem automorphism_runNF (o : Ops α) (nn : Nat) (p : Int) (h : Heap α) (res rsz rsl a asz asl : Nat) :
    VecZnx.automorphism o nn p h res rsz rsl a asz asl =
      runNF o.zero nn (oneK o nn (autKer o nn p res rsl a asl) asz) res rsz rsl a asz asl res 0 rsl h := by
  apply oneSrc_runNF o nn _ (autKer o nn p res rsl a asl) h res rsz rsl a asz asl
  intro i _
  by_cases heq : res + i * rsl = a + i * asl
  · simp only [if_pos heq]
    refine (stepNF_limb1 o.zero nn (Coeffs.automorphismInplace o nn p) (by intro x hx; simp [hx]) _ _).of_eq ?_ ?_
    · funext m; simp only [autKer, if_pos heq]; rw [heq]
    · funext sz; rw [heq]
  · simp only [if_neg heq]
    refine (stepNF_limb1_dep o.zero nn (fun x z => Coeffs.automorphism o nn p x z)
      (by intro x z _ hz; simp [hz]) _ _).of_eq ?_ rfl
    funext m; simp only [autKer, if_neg heq]

end Spq.C08
