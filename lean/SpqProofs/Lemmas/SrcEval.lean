/-
  Evaluation lemmas for the operators of `Spq.CIR` at the types that occur in the coefficient kernels, the
  state-shaped load/store lemmas used inside loops, pointer expressions, and the simp set `cir_simp` of the symbolic
  execution.
-/
import Spq.CIR
import SpqProofs.Lemmas.SrcLoop
import SpqProofs.Lemmas.SrcMem
namespace Spq.CIR

/-! ### operators -/
theorem evalBin_add_u64 (x y : Int) : evalBin .add .u64 x y = .ok ((x + y) % 18446744073709551616) := rfl
theorem evalBin_sub_u64 (x y : Int) : evalBin .sub .u64 x y = .ok ((x - y) % 18446744073709551616) := rfl
theorem evalBin_mul_u64 (x y : Int) : evalBin .mul .u64 x y = .ok ((x * y) % 18446744073709551616) := rfl
theorem evalBin_band_u64 (x y : Int) : evalBin .band .u64 x y = .ok ((x.toNat &&& y.toNat : Nat) : Int) := rfl
theorem evalBin_lt_u64 (x y : Int) : evalBin .lt .u64 x y = .ok (b2i (decide (x < y))) := rfl
theorem evalBin_le_u64 (x y : Int) : evalBin .le .u64 x y = .ok (b2i (decide (x ≤ y))) := rfl
theorem evalBin_ge_u64 (x y : Int) : evalBin .ge .u64 x y = .ok (b2i (decide (x ≥ y))) := rfl
theorem evalBin_gt_u64 (x y : Int) : evalBin .gt .u64 x y = .ok (b2i (decide (x > y))) := rfl
theorem evalBin_ge_i64 (x y : Int) : evalBin .ge .i64 x y = .ok (b2i (decide (x ≥ y))) := rfl
theorem evalBin_ne_u64 (x y : Int) : evalBin .ne .u64 x y = .ok (b2i (decide (x ≠ y))) := rfl
theorem evalBin_eq_u64 (x y : Int) : evalBin .eq .u64 x y = .ok (b2i (decide (x = y))) := rfl
theorem evalBin_add_i64 (x y : Int) : evalBin .add .i64 x y = .ok (addS x y) := rfl
theorem evalBin_sub_i64 (x y : Int) : evalBin .sub .i64 x y = .ok (subS x y) := rfl
theorem evalUn_neg_i64 (x : Int) : evalUn .neg .i64 x = .ok (negS x) := rfl
theorem evalBin_add_f64 (x y : Int) : evalBin .add .f64 x y = .ok (fadd x y) := rfl
theorem evalBin_sub_f64 (x y : Int) : evalBin .sub .f64 x y = .ok (fsub x y) := rfl
theorem evalUn_neg_f64 (x : Int) : evalUn .neg .f64 x = .ok (fneg x) := rfl
theorem evalUn_lnot (t : Ty) (x : Int) : evalUn .lnot t x = .ok (if x = 0 then 1 else 0) := rfl
theorem evalBin_shl_i64 (x : Int) (s : Nat) (h : s < 64) : evalBin .shl .i64 x (s : Int) = .ok (shlS x s) := by
  have h1 : (0 : Int) ≤ (s : Int) ∧ (s : Int) < ((Ty.bits .i64 : Nat) : Int) := by
    simp only [Ty.bits]; omega
  simp only [evalBin, h1, and_self, if_true, Int.toNat_natCast]
  rfl
theorem evalBin_shr_i64 (x : Int) (s : Nat) (h : s < 64) : evalBin .shr .i64 x (s : Int) = .ok (sarS x s) := by
  have h1 : (0 : Int) ≤ (s : Int) ∧ (s : Int) < ((Ty.bits .i64 : Nat) : Int) := by
    simp only [Ty.bits]; omega
  simp only [evalBin, h1, and_self, if_true, Int.toNat_natCast]
  rfl
theorem evalBin_mod_u64 (x y : Int) : evalBin .mod .u64 x y = if y = 0 then .err .ub else .ok (x % y) := rfl
theorem evalBin_shl_u64 (x y : Int) :
    evalBin .shl .u64 x y = if 0 ≤ y ∧ y < 64 then .ok ((x * (2:Int) ^ y.toNat) % 18446744073709551616) else .err .ub := rfl
theorem evalBin_shr_u64 (x y : Int) :
    evalBin .shr .u64 x y = if 0 ≤ y ∧ y < 64 then .ok (x / (2:Int) ^ y.toNat) else .err .ub := rfl
theorem wrap_u64 (x : Int) : Ty.wrap .u64 x = x % 18446744073709551616 := rfl
theorem wrap_i64 (x : Int) : Ty.wrap .i64 x = wrapS x := rfl

theorem evalB_def (Γ : List Ptr) (c : Expr) (σ : State) :
    evalB Γ c σ = (eval Γ σ c).bind fun v => .ok (decide (v ≠ 0)) := rfl

theorem decide_b2i_ne_zero (b : Bool) : decide (b2i b ≠ 0) = b := by
  cases b <;> simp [b2i]

/-- the test of `c ? a : b` / of a loop on a comparison result, for any `Decidable` instance -/
theorem ite_b2i_ne_zero {β : Type} (q : Prop) [inst : Decidable q] (x y : β) :
    (if b2i (@decide q inst) ≠ 0 then x else y) = if q then x else y := by
  by_cases h : q <;> simp [b2i, h]

theorem ok_decide_true {p : Prop} [Decidable p] (h : p) : (R.ok (decide p) : R Bool) = .ok true := by
  simp [h]
theorem ok_decide_false {p : Prop} [Decidable p] (h : ¬ p) : (R.ok (decide p) : R Bool) = .ok false := by
  simp [h]

theorem ok_decide_congr {p q : Prop} [Decidable p] [Decidable q] (h : p ↔ q) :
    (R.ok (decide p) : R Bool) = .ok (decide q) := by
  rw [decide_eq_decide.mpr h]
theorem memOf_ok (fl : Flow) (σ : State) : memOf (.ok (fl, σ)) = .ok σ.mem := rfl
theorem thenStep_norm (σ : State) (k : State → Out) : thenStep (.ok (.norm, σ)) k = k σ := rfl
theorem thenStep_ret (σ : State) (k : State → Out) : thenStep (.ok (.ret, σ)) k = .ok (.ret, σ) := rfl
theorem thenStep_cont (σ : State) (k : State → Out) : thenStep (.ok (.cont, σ)) k = k σ := rfl
theorem exec_ret (Γ : List Ptr) (f : Nat) (σ : State) : exec Γ .ret f σ = .ok (.ret, σ) := execK_ret _ Γ f σ
theorem exec_cont (Γ : List Ptr) (f : Nat) (σ : State) : exec Γ .cont f σ = .ok (.cont, σ) := execK_cont _ Γ f σ
theorem thenStep_err (e : Err) (k : State → Out) : thenStep (.err e) k = .err e := rfl

theorem lget_zero (x : Int) (xs : List Int) : lget (x :: xs) 0 = x := rfl
theorem lget_succ (x : Int) (xs : List Int) (n : Nat) : lget (x :: xs) (n + 1) = lget xs n := rfl
theorem lset_zero (x v : Int) (xs : List Int) : lset (x :: xs) 0 v = v :: xs := rfl
theorem lset_succ (x v : Int) (xs : List Int) (n : Nat) : lset (x :: xs) (n + 1) v = x :: lset xs n v := rfl

/-! ### slots of an abstract environment -/
theorem lget_lset_self : ∀ (env : List Int) (x : Nat) (v : Int), x < env.length → lget (lset env x v) x = v
  | [], _, _, h => by simp at h
  | _ :: _, 0, _, _ => rfl
  | _ :: xs, n + 1, v, h => by
    simp only [lset, lget]
    exact lget_lset_self xs n v (by simpa using h)

theorem lset_lset : ∀ (env : List Int) (x : Nat) (v w : Int), lset (lset env x v) x w = lset env x w
  | [], _, _, _ => rfl
  | _ :: _, 0, _, _ => rfl
  | _ :: xs, n + 1, v, w => by
    simp only [lset]
    rw [lset_lset xs n v w]

theorem length_lset : ∀ (env : List Int) (x : Nat) (v : Int), (lset env x v).length = env.length
  | [], _, _ => rfl
  | _ :: _, 0, _ => rfl
  | _ :: xs, n + 1, v => by simp only [lset, List.length_cons, length_lset xs n v]

theorem lget_lset_ne : ∀ (env : List Int) (x y : Nat) (v : Int), x ≠ y → lget (lset env x v) y = lget env y
  | [], _, _, _, _ => rfl
  | _ :: _, 0, 0, _, h => absurd rfl h
  | _ :: _, 0, _ + 1, _, _ => rfl
  | _ :: _, _ + 1, 0, _, _ => rfl
  | _ :: xs, x + 1, y + 1, v, h => by
    simp only [lset, lget]
    exact lget_lset_ne xs x y v (by omega)

theorem lget_lset (env : List Int) (x y : Nat) (v : Int) :
    lget (lset env x v) y = if x = y then (if x < env.length then v else lget env y) else lget env y := by
  by_cases h : x = y
  · subst h
    by_cases hl : x < env.length
    · simp [lget_lset_self env x v hl, hl]
    · simp only [if_true, hl, if_false]
      -- out of range: lset does nothing
      have : ∀ (env : List Int) (x : Nat), ¬ x < env.length → lset env x v = env := by
        intro env
        induction env with
        | nil => intro x _; rfl
        | cons e es ih =>
          intro x hx
          cases x with
          | zero => simp at hx
          | succ x => simp only [lset]; rw [ih x (by simpa using hx)]
      rw [this env x hl]
  · simp [h, lget_lset_ne env x y v h]

theorem lset_comm : ∀ (env : List Int) (x y : Nat) (v w : Int), x ≠ y →
    lset (lset env x v) y w = lset (lset env y w) x v
  | [], _, _, _, _, _ => rfl
  | _ :: _, 0, 0, _, _, h => absurd rfl h
  | _ :: _, 0, _ + 1, _, _, _ => rfl
  | _ :: _, _ + 1, 0, _, _, _ => rfl
  | _ :: xs, x + 1, y + 1, v, w, h => by
    simp only [lset]
    rw [lset_comm xs x y v w (fun e => h (congrArg (· + 1) e))]

theorem lset_lget : ∀ (env : List Int) (x : Nat), lset env x (lget env x) = env
  | [], _ => rfl
  | _ :: _, 0 => rfl
  | _ :: xs, x + 1 => by
    simp only [lset, lget]
    rw [lset_lget xs x]

/-! ### loads and stores at offset 0 in the loop states -/
theorem load0 (m : Mem) (b i : Nat) (h : i < (buf m b).size) :
    loadCell m (some (b, 0)) (i : Int) = .ok ((buf m b).getD i 0) := by
  have := loadCell_nat m b 0 i (by omega)
  simpa using this

theorem store0 (m : Mem) (b i : Nat) (v : Int) (h : i < (buf m b).size) :
    storeCell m (some (b, 0)) (i : Int) v = .ok (m.setIfInBounds b ((buf m b).setIfInBounds i v)) := by
  have := storeCell_nat m b 0 i v (by omega)
  simpa using this

/-- load of a not-yet-written cell (index `≥ k`) of any buffer, aliased with the result buffer or not -/
theorem load_fill (m : Mem) (r b : Nat) (g : Nat → Int) (k i : Nat) (h : i < (buf m b).size) (hk : k ≤ i) :
    loadCell (m.setIfInBounds r (fillTo (buf m r) g k)) (some (b, 0)) (i : Int) = .ok ((buf m b).getD i 0) := by
  rw [load0 _ _ _ (by rw [size_buf_set _ _ _ _ (size_fillTo _ _ _)]; exact h), getD_buf_fill_ge m r b g k i hk]

/-- load from a buffer different from the result buffer -/
theorem load_other (m : Mem) (r b : Nat) (x : Array Int) (i : Nat) (hb : b ≠ r) (h : i < (buf m b).size) :
    loadCell (m.setIfInBounds r x) (some (b, 0)) (i : Int) = .ok ((buf m b).getD i 0) := by
  rw [load0 _ _ _ (by rw [buf_set_ne m r b x hb]; exact h), buf_set_ne m r b x hb]

/-- the store of iteration `k` of a loop that fills the result buffer in index order -/
theorem store_fill (m : Mem) (r : Nat) (g : Nat → Int) (k : Nat) (v : Int) (h : k < (buf m r).size)
    (hv : v = g k) :
    storeCell (m.setIfInBounds r (fillTo (buf m r) g k)) (some (r, 0)) (k : Int) v
      = .ok (m.setIfInBounds r (fillTo (buf m r) g (k + 1))) := by
  have hr : r < m.size := lt_size_of_buf_size_pos m r (by omega)
  rw [store0 _ _ _ _ (by rw [size_buf_set _ _ _ _ (size_fillTo _ _ _)]; exact h), buf_set_self m r _ hr,
    fillTo_step _ _ _ _ hv, set_set]

/-- a completely filled result buffer -/
theorem fillTo_all (arr : Array Int) (g : Nat → Int) (n : Nat) (h : arr.size = n) :
    fillTo arr g n = Array.ofFn (n := n) fun i => g i.val := by
  subst h
  exact fillTo_full arr g _ (Nat.le_refl _)

theorem set_fill_zero (m : Mem) (r : Nat) (g : Nat → Int) : m.setIfInBounds r (fillTo (buf m r) g 0) = m := by
  rw [fillTo_zero, set_buf_self]

/-! ### pointer expressions: a parameter or a pointer local holding `(b, o)`, plus `k` cells.  The offset is any `v`
    with `v = k`, so that the lemmas rewrite whatever form the index expression has evaluated to. -/
theorem ptrAt_param_off (Γ : List Ptr) (env : List Int) (i b o : Nat) (v : Int) (k : Nat) (hv : v = (k : Int))
    (hΓ : Γ.getD i none = some (b, o)) : ptrAt Γ env (.param i) v = .ok (some (b, o + k)) := by
  subst hv
  have h : (0 : Int) ≤ (o : Int) + (k : Int) := by omega
  have e : ((o : Int) + (k : Int)).toNat = o + k := by omega
  simp only [ptrAt, hΓ, h, if_true, e]

theorem ptrAt_pvar_off (Γ : List Ptr) (env : List Int) (s b o k : Nat) (v : Int) (hv : v = (k : Int))
    (h1 : lget env s = (b : Int)) (h2 : lget env (s + 1) = (o : Int)) :
    ptrAt Γ env (.pvar s) v = .ok (some (b, o + k)) := by
  subst hv
  have h : (0 : Int) ≤ (o : Int) + (k : Int) := by omega
  have e : ((o : Int) + (k : Int)).toNat = o + k := by omega
  have hn : ¬ ((b : Int) < 0) := by omega
  simp only [ptrAt, decPtr, h1, h2, hn, if_false, Int.toNat_natCast, h, if_true, e]

/-- The simp set of the symbolic execution: unfold one statement / expression constructor at a time.  The statements
    without sub-statements are unfolded for any `K`; `.seq`, `.ite` and calls only for `exec`, in the `exec` form that
    later `rw`s expect.  `cir_simp [l, …]` puts further rewrite rules
    into the same pass (pointer facts, `encPtr_some`), so that the environment is a list literal before a condition
    is evaluated on it. -/
syntax "cir_simp" (" [" Lean.Parser.Tactic.simpLemma,* "]")? : tactic
macro_rules
  | `(tactic| cir_simp) => `(tactic| cir_simp [])
  | `(tactic| cir_simp [$ts,*]) =>
    `(tactic| simp only [execK_skip, execK_assign, execK_store, exec_seq, exec_ite, execK_memcpy, execK_memset,
      exec_call_run, execK_passign, eval_ptrEq, evalList_nil, evalList_cons, evalPtrs_nil, evalPtrs_cons,
      eval_lit, eval_var, eval_load, eval_cast, eval_un, eval_bin, eval_cond, eval_land, eval_lor, eval_isNull,
      evalB_def, evalUn_lnot,
      R.bind_ok, R.bind_err, thenStep_norm, thenStep_err, thenStep_ret, thenStep_cont, execK_ret, execK_cont, seqK_norm, seqK_err, seqK_ret, seqK_cont,
      evalBin_add_u64, evalBin_sub_u64, evalBin_mul_u64, evalBin_band_u64, evalBin_lt_u64, evalBin_le_u64, evalBin_ge_u64, evalBin_gt_u64, evalBin_ge_i64, evalBin_ne_u64,
      evalBin_eq_u64, evalBin_add_i64, evalBin_sub_i64, evalUn_neg_i64, evalBin_add_f64, evalBin_sub_f64,
      evalUn_neg_f64, wrap_u64, wrap_i64, decide_b2i_ne_zero, ite_b2i_ne_zero,
      lget_zero, lget_succ, lset_zero, lset_succ, List.getD_cons_zero, List.getD_cons_succ, $ts,*])

/-! ### `f64Ops` is `F64.ops` (the binary64 model of `Spq/F64.lean`) on patterns stored as `Int` -/
theorem f64Ops_neg_cast (x : Nat) : f64Ops.neg (x : Int) = ((F64.ops.neg x : Nat) : Int) := by
  simp [f64Ops, fneg, F64.ops]
theorem f64Ops_add_cast (x y : Nat) : f64Ops.add (x : Int) (y : Int) = ((F64.ops.add x y : Nat) : Int) := by
  simp [f64Ops, fadd, F64.ops]
theorem f64Ops_sub_cast (x y : Nat) : f64Ops.sub (x : Int) (y : Int) = ((F64.ops.sub x y : Nat) : Int) := by
  simp [f64Ops, fsub, F64.ops]
theorem f64Ops_zero_cast : f64Ops.zero = ((F64.ops.zero : Nat) : Int) := rfl

/-- unfold `run` on a generated function: exposes `exec Γ body fuel ⟨initial slots, mem⟩` -/
macro "cir_enter" fn:ident : tactic =>
  `(tactic| simp only [run, $fn:ident, List.length_cons, List.length_nil, List.replicate, List.cons_append,
      List.nil_append, Nat.reduceSub, Nat.reduceAdd])

end Spq.CIR
