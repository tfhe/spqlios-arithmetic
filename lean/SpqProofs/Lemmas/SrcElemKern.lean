/-
  The element-wise reference kernels `znx_add / sub / negate / copy / zero_i64_ref` on windows: every pointer is
  `(buffer, offset)`, the result window holds the model's result on the source windows afterwards.  A source window
  lies in another buffer than the result window, or is identical to it or disjoint from it.  The theorems of
  `Properties/SrcElem.lean` (whole buffers, any aliasing) and the arena forms of `Lemmas/SrcVecKern.lean` (all windows
  in one buffer) are these at two choices of the arguments.
-/
import Gen.CSrc
import Spq.Coeffs
import SpqProofs.Lemmas.SrcWmem
namespace Spq.CIR
open Spq

section
variable (nn : Nat) (mem : Mem) (r ro a ao : Nat) (hr : ro + nn ≤ (buf mem r).size)
  (ha : ao + nn ≤ (buf mem a).size) (hda : a = r → SameOrDisj nn ro ao)
include hr ha hda

theorem znx_negate_i64_ref_windows (hnn : nn < 18446744073709551616) :
    ∀ fuel, nn ≤ fuel →
      run fuel Gen.CSrc.znx_negate_i64_ref [(nn : Int)] [some (r, ro), some (a, ao)] mem
        = .ok (wset mem r ro (Coeffs.negate i64Ops nn (win (buf mem a) ao nn))) := by
  intro fuel hf
  let g : Nat → Int := fun i => negS ((win (buf mem a) ao nn).getD i 0)
  have hA := ahead_wmem mem r nn ro g a ao ha hda
  cir_enter Gen.CSrc.znx_negate_i64_ref
  conv => lhs; rw [← wmem_zero mem r ro g]
  rw [fill_for_mem [some (r, ro), some (a, ao)] 0 1 _ _ _ _ (wmem mem r ro g) g 0 nn (fills_wmem mem r nn ro g hr)
    (Nat.zero_le _) hnn (by simp) rfl (fun _ _ _ => rfl) (fun k _ hk => by cir_simp; rw [hA k k (Nat.le_refl _) hk]; rfl) fuel
    (by omega), wmem_all]
  rfl

variable (b bo : Nat) (hb : bo + nn ≤ (buf mem b).size) (hdb : b = r → SameOrDisj nn ro bo)
include hb hdb

theorem znx_add_i64_ref_windows (hnn : nn < 18446744073709551616) :
    ∀ fuel, nn ≤ fuel →
      run fuel Gen.CSrc.znx_add_i64_ref [(nn : Int)] [some (r, ro), some (a, ao), some (b, bo)] mem
        = .ok (wset mem r ro (Coeffs.add i64Ops nn (win (buf mem a) ao nn) (win (buf mem b) bo nn))) := by
  intro fuel hf
  let g : Nat → Int := fun i => addS ((win (buf mem a) ao nn).getD i 0) ((win (buf mem b) bo nn).getD i 0)
  have hA := ahead_wmem mem r nn ro g a ao ha hda
  have hB := ahead_wmem mem r nn ro g b bo hb hdb
  cir_enter Gen.CSrc.znx_add_i64_ref
  conv => lhs; rw [← wmem_zero mem r ro g]
  rw [fill_for_mem [some (r, ro), some (a, ao), some (b, bo)] 0 1 _ _ _ _ (wmem mem r ro g) g 0 nn
    (fills_wmem mem r nn ro g hr) (Nat.zero_le _) hnn (by simp) rfl (fun _ _ _ => rfl) (fun k _ hk => by
      cir_simp
      rw [hA k k (Nat.le_refl _) hk]; cir_simp
      rw [hB k k (Nat.le_refl _) hk]; rfl) fuel (by omega), wmem_all]
  rfl

theorem znx_sub_i64_ref_windows (hnn : nn < 18446744073709551616) :
    ∀ fuel, nn ≤ fuel →
      run fuel Gen.CSrc.znx_sub_i64_ref [(nn : Int)] [some (r, ro), some (a, ao), some (b, bo)] mem
        = .ok (wset mem r ro (Coeffs.sub i64Ops nn (win (buf mem a) ao nn) (win (buf mem b) bo nn))) := by
  intro fuel hf
  let g : Nat → Int := fun i => subS ((win (buf mem a) ao nn).getD i 0) ((win (buf mem b) bo nn).getD i 0)
  have hA := ahead_wmem mem r nn ro g a ao ha hda
  have hB := ahead_wmem mem r nn ro g b bo hb hdb
  cir_enter Gen.CSrc.znx_sub_i64_ref
  conv => lhs; rw [← wmem_zero mem r ro g]
  rw [fill_for_mem [some (r, ro), some (a, ao), some (b, bo)] 0 1 _ _ _ _ (wmem mem r ro g) g 0 nn
    (fills_wmem mem r nn ro g hr) (Nat.zero_le _) hnn (by simp) rfl (fun _ _ _ => rfl) (fun k _ hk => by
      cir_simp
      rw [hA k k (Nat.le_refl _) hk]; cir_simp
      rw [hB k k (Nat.le_refl _) hk]; rfl) fuel (by omega), wmem_all]
  rfl
end

/-! ### `memcpy` / `memset` bodies.  The byte count `nn * sizeof(int64_t)` is computed in `uint64_t`: for `nn ≥ 2^61`
    the product wraps and the C code copies fewer cells. -/

theorem znx_copy_i64_ref_windows (nn : Nat) (hnn : nn < 2305843009213693952) (mem : Mem) (r ro a ao : Nat)
    (hr : ro + nn ≤ (buf mem r).size) (ha : ao + nn ≤ (buf mem a).size) (hda : a = r → SameOrDisj nn ro ao) :
    ∀ fuel, run fuel Gen.CSrc.znx_copy_i64_ref [(nn : Int)] [some (r, ro), some (a, ao)] mem
      = .ok (wset mem r ro (Coeffs.copy i64Ops nn (win (buf mem a) ao nn))) := by
  intro fuel
  have e : ((nn : Int) * 8) % 18446744073709551616 = ((8 * nn : Nat) : Int) := by omega
  cir_enter Gen.CSrc.znx_copy_i64_ref
  cir_simp
  rw [e, memcpy_wmem mem r ro a ao nn hr ha hda, wmem_all]
  exact congrArg (fun Y => R.ok (wset mem r ro Y))
    (congrArg Array.ofFn (funext fun i => (getD_win _ ao nn i i.isLt).symm))

theorem znx_zero_i64_ref_window (nn : Nat) (hnn : nn < 2305843009213693952) (mem : Mem) (r ro : Nat)
    (hr : ro + nn ≤ (buf mem r).size) :
    ∀ fuel, run fuel Gen.CSrc.znx_zero_i64_ref [(nn : Int)] [some (r, ro)] mem
      = .ok (wset mem r ro (Coeffs.zero i64Ops nn)) := by
  intro fuel
  have e : ((nn : Int) * 8) % 18446744073709551616 = ((8 * nn : Nat) : Int) := by omega
  cir_enter Gen.CSrc.znx_zero_i64_ref
  cir_simp
  rw [e, memset_wmem mem r ro nn .i64 rfl 0 hr, wmem_all, memsetPattern_i64_zero]
  rfl

end Spq.CIR
