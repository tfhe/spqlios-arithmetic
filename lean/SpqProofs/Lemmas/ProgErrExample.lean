/-
  C16, binary64 side: a concrete instance of every hypothesis of the program-level theorems.
  `N = 2` (`k = 0`), `K = ℚ`, `ζ = i`, the all-reference module `exC` (`ProdErrExample.lean`), a heap of 8 cells,
  `x = 1 + 2X`, `y = 3 + 4X`, and the program
      P0 := svp_prepare(y);  D0 := svp_apply_dft(P0, x);  z := idft(D0);            -- prepare → apply → idft
      M0 := vmp_prepare(y);  D1 := dft(x);  D2 := vmp_apply_dft_to_dft(D1, M0);     -- dft → vmp (dft_to_dft) → idft
      w := idft(D2);  D3 := vmp_apply_dft(x, M0);  w := idft(D3);                   -- prepare → apply → idft
      w := idft(D1);                                                                 -- pure round trip dft → idft
      z := z + x.
-/
import SpqProofs.Lemmas.ProgErrMod
import SpqProofs.Lemmas.VmpErrExample
namespace Spq.ProgErr
open Finset Spq Spq.Module Spq.Fft Spq.Fft.Alg Spq.Fft.SimP Spq.Fft.LevelN Spq.Fft.SchedN Spq.Fft.RelN Spq.FftErr Spq.F64
  Spq.Reim4 Spq.Conv Spq.ProdErr Spq.VmpErr Spq.Prog Spq.Closed

def exMod : F64Mod ℚ where
  c := exC
  k := 0
  hk := by omega
  cN := z0
  sN := z0
  cNi := z0
  sNi := z0
  ok := exVCfgOk
  ζ := Ic
  ζi := -Ic
  hζ := by simp [nsq, Ic]
  hI := by simp
  hinv := by rw [mul_neg, Ic_sq, neg_neg]
  hcs := fun ℓ d b h => by omega
  hcsi := fun ℓ d b h => by omega

def exX : Var := ⟨0, 1, 2⟩
def exY : Var := ⟨2, 1, 2⟩
def exZ : Var := ⟨4, 1, 2⟩
def exW : Var := ⟨6, 1, 2⟩
def exVars : List Var := [exX, exY, exZ, exW]
def exHeap : Heap Int := ⟨#[1, 2, 3, 4, 0, 0, 0, 0], true⟩
def exEnv : Env := fun v => readVar 2 exHeap v
def exD0 : DVar := ⟨0, 1⟩
def exD1 : DVar := ⟨1, 1⟩
def exD2 : DVar := ⟨2, 1⟩
def exD3 : DVar := ⟨3, 1⟩
def exM0 : MVar := ⟨0, 1, 1⟩
def exA : AState := ⟨exEnv, fun _ => none, fun _ => none, fun _ => none, fun _ => none⟩
def exS : CState ℕ := ⟨exHeap, fun _ => #[], fun _ => #[], fun _ => #[]⟩

def exProg : List OpD :=
  [.svpPrepare 0 exY, .svp exD0 0 exX, .idft exZ exD0,
   .vmpPrepare exM0 exY, .dft exD1 exX, .vmpDD exD2 exD1 exM0, .idft exW exD2,
   .vmp exD3 exX exM0, .idft exW exD3, .idft exW exD1,
   .coeff (.add exZ exZ exX)]

theorem ex_okRI : InvOk exC 0 z0 z0 (stF exC 0 z0 z0 #[1, 2]) := by
  unfold InvOk
  intro p hp
  rw [exFA]
  have : p = 0 ∨ p = 1 := by omega
  rcases this with rfl | rfl <;> simp [reimIfftA, ifftRI, joinRI, splitRI, lift] <;> decide

theorem box12 : Box 0 #[1, 2] := by
  intro i hi
  have : i = 0 ∨ i = 1 := by omega
  rcases this with rfl | rfl <;> decide

theorem box34 : Box 0 #[3, 4] := by
  intro i hi
  have : i = 0 ∨ i = 1 := by omega
  rcases this with rfl | rfl <;> decide

theorem n2_12 : n2sq ℚ #[1, 2] 2 ≤ 3 ^ 2 := (n2sq_pair ℚ 1 2).trans_le (by norm_num)
theorem n2_34 : n2sq ℚ #[3, 4] 2 ≤ 5 ^ 2 := (n2sq_pair ℚ 3 4).trans_le (by norm_num)
theorem n1_34 : (5 : ℚ) ≤ n1 ℚ #[3, 4] 2 := le_of_le_of_eq (by norm_num) (n1_pair ℚ 3 4).symm

/-- the round-trip budget of `1 + 2X` (`na = 3 ≥ √5`) -/
theorem exRtBudget : RtBudget exMod #[1, 2] := by
  refine ⟨box12, ⟨ex_okA, ex_okRI⟩, 3, by norm_num, n2_12, ?_⟩
  · show ((17 * ((0 : ℕ) + 1 : ℚ) * u64 : ℚ) : ℚ) * 3 < 1 / 2
    unfold u64; norm_num

/-- the product budget of `(1 + 2X)·(3 + 4X)` (`na = 3`, `nb = 5`) -/
theorem exProdBudget : ProdBudget exMod #[1, 2] #[3, 4] := by
  refine ⟨box12, box34, exPipeOk, 3, 5, by norm_num, by norm_num, n2_12, n2_34, n1_34, ?_⟩
  show ((12 * ((0 : ℕ) + 1 : ℚ) * u64 : ℚ) : ℚ) * (n1 ℚ #[1, 2] 2 * _ + _ * n1 ℚ #[3, 4] 2) < _
  rw [n1_pair, n1_pair]
  unfold u64; norm_num

end Spq.ProgErr
