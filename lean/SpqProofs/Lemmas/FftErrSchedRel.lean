/-
  C06.4: relational transfer for the structural networks: if two arithmetics are related operation by operation
  (`ASim`), so are the butterflies of `Spq/Fft/Core.lean` (forward and inverse), the per-block butterflies `gNet`, and
  the networks `VN` (induction on the levels) and `VNI` (by `LevelN.Chain.rel`).
-/
import SpqProofs.Lemmas.FftSchedTop

namespace Spq.Fft.RelN
open Spq.Fft Spq.Fft.Alg Spq.Fft.SimP Spq.Fft.LevelN Spq.Fft.SchedN

variable {α β : Type}

structure ASim (Rl : α → β → Prop) (A : Arith α) (B : Arith β) : Prop where
  add : ∀ {a a' b b'}, Rl a a' → Rl b b' → Rl (A.add a b) (B.add a' b')
  sub : ∀ {a a' b b'}, Rl a a' → Rl b b' → Rl (A.sub a b) (B.sub a' b')
  mul : ∀ {a a' b b'}, Rl a a' → Rl b b' → Rl (A.mul a b) (B.mul a' b')
  neg : ∀ {a a'}, Rl a a' → Rl (A.neg a) (B.neg a')
  fma : ∀ {a a' b b' c c'}, Rl a a' → Rl b b' → Rl c c' → Rl (A.fma a b c) (B.fma a' b' c')
  fms : ∀ {a a' b b' c c'}, Rl a a' → Rl b b' → Rl c c' → Rl (A.fms a b c) (B.fms a' b' c')

def R2 (Rl : α → β → Prop) (u : α × α) (u' : β × β) : Prop := Rl u.1 u'.1 ∧ Rl u.2 u'.2

def BfSim (Rl : α → β → Prop) (f : Bf α) (f' : Bf β) : Prop :=
  ∀ {ra ra' ia ia' rb rb' ib ib' wr wr' wi wi'}, Rl ra ra' → Rl ia ia' → Rl rb rb' → Rl ib ib' → Rl wr wr' → Rl wi wi' →
    Rl (f ra ia rb ib wr wi).1 (f' ra' ia' rb' ib' wr' wi').1 ∧
    Rl (f ra ia rb ib wr wi).2.1 (f' ra' ia' rb' ib' wr' wi').2.1 ∧
    Rl (f ra ia rb ib wr wi).2.2.1 (f' ra' ia' rb' ib' wr' wi').2.2.1 ∧
    Rl (f ra ia rb ib wr wi).2.2.2 (f' ra' ia' rb' ib' wr' wi').2.2.2

variable {Rl : α → β → Prop} {A : Arith α} {B : Arith β}

theorem ctRef_sim (h : ASim Rl A B) : BfSim Rl (ctRef A) (ctRef B) := by
  intro ra ra' ia ia' rb rb' ib ib' wr wr' wi wi' h1 h2 h3 h4 h5 h6
  have nr := h.sub (h.mul h3 h5) (h.mul h4 h6)
  have ni := h.add (h.mul h3 h6) (h.mul h4 h5)
  exact ⟨h.add h1 nr, h.add h2 ni, h.sub h1 nr, h.sub h2 ni⟩

theorem citRef_sim (h : ASim Rl A B) : BfSim Rl (citRef A) (citRef B) := by
  intro ra ra' ia ia' rb rb' ib ib' wr wr' wi wi' h1 h2 h3 h4 h5 h6
  have nr := h.sub (h.mul (h.neg h3) h6) (h.mul h4 h5)
  have ni := h.sub (h.mul h3 h5) (h.mul h4 h6)
  exact ⟨h.add h1 nr, h.add h2 ni, h.sub h1 nr, h.sub h2 ni⟩

theorem ctFma_sim (h : ASim Rl A B) : BfSim Rl (ctFma A) (ctFma B) := by
  intro ra ra' ia ia' rb rb' ib ib' wr wr' wi wi' h1 h2 h3 h4 h5 h6
  have nr := h.fms h3 h5 (h.mul h4 h6)
  have ni := h.fma h4 h5 (h.mul h3 h6)
  exact ⟨h.add h1 nr, h.add h2 ni, h.sub h1 nr, h.sub h2 ni⟩

theorem citFmaB_sim (h : ASim Rl A B) : BfSim Rl (citFmaB A) (citFmaB B) := by
  intro ra ra' ia ia' rb rb' ib ib' wr wr' wi wi' h1 h2 h3 h4 h5 h6
  have tr := h.fma h6 h3 (h.mul h5 h4)
  have ti := h.fms h6 h4 (h.mul h5 h3)
  exact ⟨h.sub h1 tr, h.sub h2 ti, h.add h1 tr, h.add h2 ti⟩

theorem citFmaN_sim (h : ASim Rl A B) : BfSim Rl (citFmaN A) (citFmaN B) := by
  intro ra ra' ia ia' rb rb' ib ib' wr wr' wi wi' h1 h2 h3 h4 h5 h6
  exact ctFma_sim h h1 h2 h3 h4 (h.neg h6) h5

structure FlavSim (Rl : α → β → Prop) (F : Flav α) (F' : Flav β) : Prop where
  ct : BfSim Rl F.ct F'.ct
  cit : BfSim Rl F.cit F'.cit
  ctS : BfSim Rl F.ctS F'.ctS
  citS : BfSim Rl F.citS F'.citS
  ct2 : BfSim Rl F.ct2 F'.ct2

theorem fwdRef_sim (h : ASim Rl A B) : FlavSim Rl (fwdRef A) (fwdRef B) :=
  ⟨ctRef_sim h, citRef_sim h, ctRef_sim h, citRef_sim h, ctRef_sim h⟩
theorem fwdFma_sim (h : ASim Rl A B) : FlavSim Rl (fwdFma A) (fwdFma B) :=
  ⟨ctFma_sim h, citFmaB_sim h, ctFma_sim h, citFmaN_sim h, ctRef_sim h⟩

theorem bfV_sim {f : Bf α} {f' : Bf β} (hf : BfSim Rl f f') {wr wi : α} {wr' wi' : β} (h5 : Rl wr wr') (h6 : Rl wi wi')
    {u v : α × α} {u' v' : β × β} (hu : R2 Rl u u') (hv : R2 Rl v v') :
    R2 Rl (bfV f wr wi u v).1 (bfV f' wr' wi' u' v').1 ∧ R2 Rl (bfV f wr wi u v).2 (bfV f' wr' wi' u' v').2 := by
  obtain ⟨a1, a2, a3, a4⟩ := hf hu.1 hu.2 hv.1 hv.2 h5 h6
  exact ⟨⟨a1, a2⟩, ⟨a3, a4⟩⟩

theorem gNet_sim {F : Flav α} {F' : Flav β} (hF : FlavSim Rl F F') (c s : ℕ → α) (c' s' : ℕ → β)
    (hc : ∀ e, Rl (c e) (c' e)) (hs : ∀ e, Rl (s e) (s' e)) (k ℓ d b : ℕ)
    {u v : α × α} {u' v' : β × β} (hu : R2 Rl u u') (hv : R2 Rl v v') :
    R2 Rl (gNet F c s k ℓ d b u v).1 (gNet F' c' s' k ℓ d b u' v').1 ∧
    R2 Rl (gNet F c s k ℓ d b u v).2 (gNet F' c' s' k ℓ d b u' v').2 := by
  unfold gNet
  have hct : BfSim Rl (ctK F k) (ctK F' k) := by unfold ctK; split <;> [exact hF.ct2; (split <;> [exact hF.ctS; exact hF.ct])]
  have hcit : BfSim Rl (citK F k) (citK F' k) := by unfold citK; split <;> [exact hF.citS; exact hF.cit]
  split
  · exact bfV_sim hcit (hc _) (hs _) hu hv
  · exact bfV_sim hct (hc _) (hs _) hu hv

theorem VN_rel {γ δ : Type} (Q : γ → δ → Prop) (g : ℕ → ℕ → ℕ → γ → γ → γ × γ) (g' : ℕ → ℕ → ℕ → δ → δ → δ × δ)
    (hg : ∀ ℓ d b u u' v v', Q u u' → Q v v' → Q (g ℓ d b u v).1 (g' ℓ d b u' v').1 ∧ Q (g ℓ d b u v).2 (g' ℓ d b u' v').2)
    (a : ℕ → γ) (a' : ℕ → δ) (ha : ∀ p, Q (a p) (a' p)) : ∀ ℓ d p, Q (VN g a ℓ d p) (VN g' a' ℓ d p) := by
  intro ℓ
  induction ℓ with
  | zero => intro d p; exact ha p
  | succ ℓ ih =>
    intro d p
    rw [VN, VN]
    split
    · exact (hg _ _ _ _ _ _ _ (ih _ _) (ih _ _)).1
    · exact (hg _ _ _ _ _ _ _ (ih _ _) (ih _ _)).2

theorem ictRef_sim (h : ASim Rl A B) : BfSim Rl (ictRef A) (ictRef B) := by
  intro ra ra' ia ia' rb rb' ib ib' wr wr' wi wi' h1 h2 h3 h4 h5 h6
  have rd := h.sub h1 h3
  have id := h.sub h2 h4
  exact ⟨h.add h1 h3, h.add h2 h4, h.sub (h.mul rd h5) (h.mul id h6), h.add (h.mul rd h6) (h.mul id h5)⟩

theorem icitRef_sim (h : ASim Rl A B) : BfSim Rl (icitRef A) (icitRef B) := by
  intro ra ra' ia ia' rb rb' ib ib' wr wr' wi wi' h1 h2 h3 h4 h5 h6
  have rd := h.sub h1 h3
  have id := h.sub h2 h4
  exact ⟨h.add h1 h3, h.add h2 h4, h.add (h.mul rd h6) (h.mul id h5), h.add (h.mul (h.neg rd) h5) (h.mul id h6)⟩

theorem ictFma_sim (h : ASim Rl A B) : BfSim Rl (ictFma A) (ictFma B) := by
  intro ra ra' ia ia' rb rb' ib ib' wr wr' wi wi' h1 h2 h3 h4 h5 h6
  have rd := h.sub h1 h3
  have id := h.sub h2 h4
  exact ⟨h.add h1 h3, h.add h2 h4, h.fms rd h5 (h.mul id h6), h.fma id h5 (h.mul rd h6)⟩

theorem icitFmaB_sim (h : ASim Rl A B) : BfSim Rl (icitFmaB A) (icitFmaB B) := by
  intro ra ra' ia ia' rb rb' ib ib' wr wr' wi wi' h1 h2 h3 h4 h5 h6
  have rd := h.sub h1 h3
  have id := h.sub h2 h4
  exact ⟨h.add h1 h3, h.add h2 h4, h.fma h6 rd (h.mul h5 id), h.fms h6 id (h.mul h5 rd)⟩

theorem icitFmaN_sim (h : ASim Rl A B) : BfSim Rl (icitFmaN A) (icitFmaN B) := by
  intro ra ra' ia ia' rb rb' ib ib' wr wr' wi wi' h1 h2 h3 h4 h5 h6
  exact ictFma_sim h h1 h2 h3 h4 h6 (h.neg h5)

theorem invRef_sim (h : ASim Rl A B) : FlavSim Rl (invRef A) (invRef B) :=
  ⟨ictRef_sim h, icitRef_sim h, ictRef_sim h, icitRef_sim h, ictRef_sim h⟩
theorem invFma_sim (h : ASim Rl A B) : FlavSim Rl (invFma A) (invFma B) :=
  ⟨ictFma_sim h, icitFmaB_sim h, ictFma_sim h, icitFmaN_sim h, ictRef_sim h⟩

theorem VNI_rel_on {γ δ : Type} (Q : γ → δ → Prop) (g : ℕ → ℕ → ℕ → γ → γ → γ × γ) (g' : ℕ → ℕ → ℕ → δ → δ → δ × δ)
    (hg : ∀ ℓ d b u u' v v', Q u u' → Q v v' → Q (g ℓ d b u v).1 (g' ℓ d b u' v').1 ∧ Q (g ℓ d b u v).2 (g' ℓ d b u' v').2)
    (k : ℕ) (y : ℕ → γ) (y' : ℕ → δ) (hy : ∀ p, p < 2 ^ k → Q (y p) (y' p)) :
    ∀ n p, n ≤ k → p < 2 ^ k → Q (VNI k g y n p) (VNI k g' y' n p) := fun n p hn hp =>
  Chain.rel (lvI_sum k) (fun _ => Q) g g' (fun _ ℓ d b u u' v v' _ => hg ℓ d b u u' v v') (VNI_chain k g y)
    (VNI_chain k g' y') hy n hn p hp

end Spq.Fft.RelN
