/-
  Bridge between the two specifications of the negacyclic product: `Spq.nmulF` / `nmul` / `isum` (C01/C02:
  double `Finset` sum with the wrap-around sign) and `Spq.Prog.polyMul` / `vmpVal` (C16: single `sumTo`).
-/
import SpqProofs.Lemmas.ModuleSpec
import SpqProofs.Lemmas.ProgSim
import SpqProofs.Lemmas.ProgOps
import SpqProofs.Lemmas.FftAlgSum
namespace Spq.Closed
open Finset Spq

def polyArr (nn : ℕ) (f : ℕ → ℤ) : Array Int := Array.ofFn (n := nn) fun t => f t.val

@[simp] theorem size_polyArr (nn : ℕ) (f : ℕ → ℤ) : (polyArr nn f).size = nn := by simp [polyArr]

theorem getD_polyArr (nn : ℕ) (f : ℕ → ℤ) (t : ℕ) (ht : t < nn) : (polyArr nn f).getD t 0 = f t := by
  simp [polyArr, Array.getD_eq_getD_getElem?, ht]

theorem icoef_polyArr (nn : ℕ) (f : ℕ → ℤ) (t : ℕ) (ht : t < nn) : icoef (polyArr nn f) t = f t :=
  getD_polyArr nn f t ht

theorem progSumTo_eq_sum (n : ℕ) (f : ℕ → ℤ) : Prog.sumTo n f = ∑ i ∈ range n, f i := by
  rw [Prog.sumTo_eq_alg, Fft.Alg.sumTo_eq_sum]

theorem nmulF_eq_polyMul (N : ℕ) (a b : ℕ → ℤ) (k : ℕ) (hk : k < N) : nmulF N a b k = Prog.polyMul N a b k := by
  unfold nmulF Prog.polyMul
  rw [progSumTo_eq_sum]
  apply sum_congr rfl
  intro i hi
  have hi := mem_range.1 hi
  by_cases h : i ≤ k
  · rw [if_pos h, sum_eq_single (k - i)]
    · have h1 : i + (k - i) = k := by omega
      have h2 : ¬ (i + (k - i) = k + N) := by omega
      rw [if_pos h1, if_neg h2, sub_zero]
    · intro j hj hne
      have hj := mem_range.1 hj
      have h1 : ¬ (i + j = k) := by omega
      have h2 : ¬ (i + j = k + N) := by omega
      rw [if_neg h1, if_neg h2, sub_zero]
    · intro hn; exact absurd (mem_range.2 (by omega)) hn
  · rw [if_neg h, sum_eq_single (k + N - i)]
    · have h1 : ¬ (i + (k + N - i) = k) := by omega
      have h2 : i + (k + N - i) = k + N := by omega
      rw [if_neg h1, if_pos h2, zero_sub]
    · intro j hj hne
      have hj := mem_range.1 hj
      have h1 : ¬ (i + j = k) := by omega
      have h2 : ¬ (i + j = k + N) := by omega
      rw [if_neg h1, if_neg h2, sub_zero]
    · intro hn; exact absurd (mem_range.2 (by omega)) hn

theorem polyMul_congr (N : ℕ) (a a' b b' : ℕ → ℤ) (ha : ∀ t, t < N → a t = a' t) (hb : ∀ t, t < N → b t = b' t)
    (k : ℕ) (hk : k < N) : Prog.polyMul N a b k = Prog.polyMul N a' b' k := by
  unfold Prog.polyMul
  rw [progSumTo_eq_sum, progSumTo_eq_sum]
  apply sum_congr rfl
  intro i hi
  have hi := mem_range.1 hi
  by_cases h : i ≤ k
  · rw [if_pos h, if_pos h, ha i hi, hb (k - i) (by omega)]
  · rw [if_neg h, if_neg h, ha i hi, hb (k + N - i) (by omega)]

theorem polyMul_zero_left (N : ℕ) (b : ℕ → ℤ) (k : ℕ) : Prog.polyMul N (fun _ => 0) b k = 0 := by
  unfold Prog.polyMul
  rw [progSumTo_eq_sum]
  apply sum_eq_zero
  intro i _
  split <;> simp

theorem getD_nmul (N : ℕ) (a b : Array Int) (fa fb : ℕ → ℤ) (ha : ∀ t, t < N → a.getD t 0 = fa t)
    (hb : ∀ t, t < N → b.getD t 0 = fb t) (t : ℕ) (ht : t < N) :
    (nmul N a b).getD t 0 = Prog.polyMul N fa fb t := by
  have := icoef_nmul N a b t ht
  unfold icoef at this
  rw [this, nmulF_eq_polyMul N _ _ t ht]
  exact polyMul_congr N _ _ _ _ ha hb t ht

theorem getD_isum (N n : ℕ) (f : ℕ → Array Int) (t : ℕ) (ht : t < N) :
    (isum N n f).getD t 0 = Prog.sumTo n (fun i => (f i).getD t 0) := by
  have := icoef_isum N n f t ht
  unfold icoef at this
  rw [this, progSumTo_eq_sum]

theorem progSumTo_congr (n : ℕ) (f g : ℕ → ℤ) (h : ∀ i, i < n → f i = g i) : Prog.sumTo n f = Prog.sumTo n g := by
  rw [Prog.sumTo_eq_alg]; exact Fft.Alg.sumTo_congr h

end Spq.Closed
