/-
  The CRT lift `q120_b_to_znx128_simple`: under the decidable predicate `crtOK` on the primes and
  the CRT constants, the result is THE centered representative modulo `Q = q0·q1·q2·q3`
  (congruent to each lane modulo its prime, in `[-(Q-1)/2, (Q-1)/2]`, unique), and no `__int128`
  operation overflows.
-/
import SpqProofs.Lemmas.Q120Conv
import Mathlib.Data.Int.ModEq
import Mathlib.Data.Nat.GCD.Basic
namespace Spq.Q120

/-- product of the three primes other than `k`, as a natural number -/
def qmN (p : Q120Params) (k : Nat) : Nat :=
  match k with
  | 0 => p.q 1 * p.q 2 * p.q 3
  | 1 => p.q 0 * p.q 2 * p.q 3
  | 2 => p.q 0 * p.q 1 * p.q 3
  | _ => p.q 0 * p.q 1 * p.q 2

def bigQN (p : Q120Params) : Nat := p.q 0 * p.q 1 * p.q 2 * p.q 3

/-- what the proof of the CRT lift needs from the constants -/
def crtOK (p : Q120Params) : Bool :=
  ((List.range 4).all fun k =>
    decide (1 < p.q k) && decide (p.q k < 4294967296) && decide (p.crt k < 4294967296)
    && decide ((p.crt k * qmN p k) % p.q k = 1))
  && decide (bigQN p % 2 = 1)
  && decide (bigQN p < 42535295865117307932921825928971026432)   -- 2^125: four terms < Q fit an __int128

theorem crtOK_lane (p : Q120Params) (ok : crtOK p = true) (k : Nat) (hk : k < 4) :
    1 < p.q k ∧ p.q k < 4294967296 ∧ p.crt k < 4294967296 ∧ (p.crt k * qmN p k) % p.q k = 1 := by
  simp only [crtOK, Bool.and_eq_true, decide_eq_true_eq, List.all_eq_true, List.mem_range] at ok
  exact ⟨(ok.1.1 k hk).1.1.1, (ok.1.1 k hk).1.1.2, (ok.1.1 k hk).1.2, (ok.1.1 k hk).2⟩

theorem crtOK_Q (p : Q120Params) (ok : crtOK p = true) :
    bigQN p % 2 = 1 ∧ bigQN p < 42535295865117307932921825928971026432 := by
  simp only [crtOK, Bool.and_eq_true, decide_eq_true_eq] at ok
  exact ⟨ok.1.2, ok.2⟩

theorem wrapS128_eq (z : Int) (h1 : -170141183460469231731687303715884105728 ≤ z)
    (h2 : z < 170141183460469231731687303715884105728) : wrapS128 z = z := by
  unfold wrapS128; omega

theorem mulS128_nat (a b : Nat) (h : a * b < 42535295865117307932921825928971026432) :
    mulS128 (a : Int) (b : Int) = ((a * b : Nat) : Int) := by
  unfold mulS128
  have h' : ((a * b : Nat) : Int) < ((42535295865117307932921825928971026432 : Nat) : Int) := Int.ofNat_lt.mpr h
  have nn : (0 : Int) ≤ ((a * b : Nat) : Int) := Int.natCast_nonneg _
  rw [Int.natCast_mul] at h' nn ⊢
  rw [wrapS128_eq] <;> omega

theorem mul3S128 (a b c : Nat) (hc : 0 < c) (hlt : a * b * c < 42535295865117307932921825928971026432) :
    mulS128 (mulS128 (a : Int) (b : Int)) (c : Int) = ((a * b * c : Nat) : Int) := by
  have l1 : a * b ≤ a * b * c := Nat.le_mul_of_pos_right _ hc
  rw [mulS128_nat a b (by omega), mulS128_nat (a * b) c hlt]

/-- one CRT term: no uint64 / `__int128` overflow, and the term is `< q·(a·b·c) = Q` -/
theorem crtTerm_eq (q crt a b c x : Nat) (hq : 1 < q) (hq2 : q < 4294967296) (hc : crt < 4294967296)
    (ha : 0 < a) (hb : 0 < b) (hcc : 0 < c) (hQ : q * (a * b * c) < 42535295865117307932921825928971026432) :
    crtTerm q crt (mulS128 (mulS128 (a : Int) (b : Int)) (c : Int)) x
      = ((((x % q) * crt) % q * (a * b * c) : Nat) : Int)
    ∧ ((x % q) * crt) % q * (a * b * c) < q * (a * b * c) := by
  have pos : 0 < a * b * c := Nat.mul_pos (Nat.mul_pos ha hb) hcc
  have le : a * b * c ≤ q * (a * b * c) := Nat.le_mul_of_pos_left _ (by omega)
  have lx : x % q < q := Nat.mod_lt _ (by omega)
  have lu : ((x % q) * crt) % q < q := Nat.mod_lt _ (by omega)
  have b64 := mul_le_max32_sq (x % q) crt (by omega) hc
  have lt : ((x % q) * crt) % q * (a * b * c) < q * (a * b * c) := Nat.mul_lt_mul_of_pos_right lu pos
  refine ⟨?_, lt⟩
  unfold crtTerm
  rw [mul64_eq _ _ (by omega), mul3S128 a b c hcc (by omega)]
  exact mulS128_nat _ _ (by omega)

def crtU (p : Q120Params) (k x : Nat) : Nat := ((x % p.q k) * p.crt k) % p.q k

/-- the exact value accumulated in `tmp` -/
def crtSum (p : Q120Params) (x0 x1 x2 x3 : Nat) : Nat :=
  crtU p 0 x0 * (p.q 1 * p.q 2 * p.q 3) + crtU p 1 x1 * (p.q 0 * p.q 2 * p.q 3)
  + crtU p 2 x2 * (p.q 0 * p.q 1 * p.q 3) + crtU p 3 x3 * (p.q 0 * p.q 1 * p.q 2)

/-- `Q` of the function is the exact product -/
theorem bigQ_eq (p : Q120Params) (ok : crtOK p = true) : bigQ p = (bigQN p : Int) := by
  obtain ⟨_, hQ⟩ := crtOK_Q p ok
  have h2 := (crtOK_lane p ok 2 (by decide)).1
  have h3 := (crtOK_lane p ok 3 (by decide)).1
  unfold bigQ
  unfold bigQN at hQ ⊢
  have l1 : p.q 0 * p.q 1 * p.q 2 ≤ p.q 0 * p.q 1 * p.q 2 * p.q 3 := Nat.le_mul_of_pos_right _ (by omega)
  rw [mul3S128 _ _ _ (by omega) (by omega), mulS128_nat _ _ hQ]

theorem addS128_nat (a b : Nat) (h : a + b < 170141183460469231731687303715884105728) :
    addS128 (a : Int) (b : Int) = ((a + b : Nat) : Int) := by
  unfold addS128; rw [wrapS128_eq] <;> omega

/-- the four `tmp +=` do not overflow -/
theorem sum4_eq (T0 T1 T2 T3 Q : Nat) (l0 : T0 < Q) (l1 : T1 < Q) (l2 : T2 < Q) (l3 : T3 < Q)
    (hQ : Q < 42535295865117307932921825928971026432) :
    addS128 (addS128 (addS128 (addS128 0 (T0 : Int)) (T1 : Int)) (T2 : Int)) (T3 : Int)
      = ((T0 + T1 + T2 + T3 : Nat) : Int) := by
  have s1 : addS128 0 (T0 : Int) = ((T0 : Nat) : Int) := by
    have := addS128_nat 0 T0 (by omega)
    simpa using this
  rw [s1, addS128_nat T0 T1 (by omega), addS128_nat (T0 + T1) T2 (by omega),
    addS128_nat (T0 + T1 + T2) T3 (by omega)]

/-- `tmp %= Q; res = (tmp >= (Q+1)/2) ? tmp - Q : tmp` on a non-negative `tmp` -/
theorem center_eq (S Q : Nat) (hpos : 0 < Q) (hQ : Q < 42535295865117307932921825928971026432) :
    (if Int.tmod (S : Int) (Q : Int) ≥ Int.tdiv (addS128 (Q : Int) 1) 2
      then wrapS128 (Int.tmod (S : Int) (Q : Int) - (Q : Int)) else Int.tmod (S : Int) (Q : Int))
    = if (Q + 1) / 2 ≤ S % Q then ((S % Q : Nat) : Int) - (Q : Int) else ((S % Q : Nat) : Int) := by
  have hmod := Nat.mod_lt S hpos
  have s5 : addS128 (Q : Int) 1 = (Q : Int) + 1 := by unfold addS128; rw [wrapS128_eq] <;> omega
  rw [s5, Int.tmod_eq_emod_of_nonneg (Int.natCast_nonneg _), Int.tdiv_eq_ediv_of_nonneg (by omega),
    ← Int.natCast_mod]
  generalize S % Q = r at *
  by_cases hc : (Q + 1) / 2 ≤ r
  · rw [if_pos hc, if_pos (by omega), wrapS128_eq] <;> omega
  · rw [if_neg hc, if_neg (by omega)]

/-- **no `__int128` overflow**: the function returns the centered lift of `crtSum mod Q` -/
theorem bToZnx128_eq (p : Q120Params) (ok : crtOK p = true) (x0 x1 x2 x3 : Nat) :
    bToZnx128 p x0 x1 x2 x3 =
      if (bigQN p + 1) / 2 ≤ crtSum p x0 x1 x2 x3 % bigQN p
      then ((crtSum p x0 x1 x2 x3 % bigQN p : Nat) : Int) - (bigQN p : Int)
      else ((crtSum p x0 x1 x2 x3 % bigQN p : Nat) : Int) := by
  obtain ⟨_, hQ⟩ := crtOK_Q p ok
  obtain ⟨a0, a0', c0, _⟩ := crtOK_lane p ok 0 (by decide)
  obtain ⟨a1, a1', c1, _⟩ := crtOK_lane p ok 1 (by decide)
  obtain ⟨a2, a2', c2, _⟩ := crtOK_lane p ok 2 (by decide)
  obtain ⟨a3, a3', c3, _⟩ := crtOK_lane p ok 3 (by decide)
  have p0 : 0 < p.q 0 := Nat.lt_trans Nat.zero_lt_one a0
  have p1 : 0 < p.q 1 := Nat.lt_trans Nat.zero_lt_one a1
  have p2 : 0 < p.q 2 := Nat.lt_trans Nat.zero_lt_one a2
  have p3 : 0 < p.q 3 := Nat.lt_trans Nat.zero_lt_one a3
  have Q0 : p.q 0 * (p.q 1 * p.q 2 * p.q 3) = bigQN p := by unfold bigQN; ring
  have Q1 : p.q 1 * (p.q 0 * p.q 2 * p.q 3) = bigQN p := by unfold bigQN; ring
  have Q2 : p.q 2 * (p.q 0 * p.q 1 * p.q 3) = bigQN p := by unfold bigQN; ring
  have Q3 : p.q 3 * (p.q 0 * p.q 1 * p.q 2) = bigQN p := by unfold bigQN; ring
  obtain ⟨e0, l0⟩ := crtTerm_eq (p.q 0) (p.crt 0) (p.q 1) (p.q 2) (p.q 3) x0 a0 a0' c0 p1 p2 p3
    (by rw [Q0]; exact hQ)
  obtain ⟨e1, l1⟩ := crtTerm_eq (p.q 1) (p.crt 1) (p.q 0) (p.q 2) (p.q 3) x1 a1 a1' c1 p0 p2 p3
    (by rw [Q1]; exact hQ)
  obtain ⟨e2, l2⟩ := crtTerm_eq (p.q 2) (p.crt 2) (p.q 0) (p.q 1) (p.q 3) x2 a2 a2' c2 p0 p1 p3
    (by rw [Q2]; exact hQ)
  obtain ⟨e3, l3⟩ := crtTerm_eq (p.q 3) (p.crt 3) (p.q 0) (p.q 1) (p.q 2) x3 a3 a3' c3 p0 p1 p2
    (by rw [Q3]; exact hQ)
  rw [Q0] at l0; rw [Q1] at l1; rw [Q2] at l2; rw [Q3] at l3
  have hpos : 0 < bigQN p := Nat.lt_of_le_of_lt (Nat.zero_le _) l0
  unfold bToZnx128 qm0 qm1 qm2 qm3
  rw [e0, e1, e2, e3, bigQ_eq p ok]
  simp only []
  rw [sum4_eq _ _ _ _ (bigQN p) l0 l1 l2 l3 hQ]
  exact center_eq _ (bigQN p) hpos hQ

/-- lane `k` of a 4-lane element -/
def sel4 (x0 x1 x2 x3 : Nat) (k : Nat) : Nat :=
  match k with
  | 0 => x0
  | 1 => x1
  | 2 => x2
  | _ => x3

theorem crtU_mul_mod (q c m x : Nat) (h : (c * m) % q = 1) : (((x % q) * c) % q * m) % q = x % q := by
  rw [Nat.mod_mul_mod, Nat.mul_assoc, Nat.mul_mod, h, Nat.mod_mod, Nat.mul_one, Nat.mod_mod]

theorem crtSum_mod (p : Q120Params) (ok : crtOK p = true) (x0 x1 x2 x3 : Nat) (k : Nat) (hk : k < 4) :
    crtSum p x0 x1 x2 x3 % p.q k = sel4 x0 x1 x2 x3 k % p.q k := by
  have h := (crtOK_lane p ok k hk).2.2.2
  have hk' : k = 0 ∨ k = 1 ∨ k = 2 ∨ k = 3 := by omega
  rcases hk' with rfl | rfl | rfl | rfl
  · have e : crtSum p x0 x1 x2 x3 = crtU p 0 x0 * (p.q 1 * p.q 2 * p.q 3)
        + p.q 0 * (crtU p 1 x1 * (p.q 2 * p.q 3) + crtU p 2 x2 * (p.q 1 * p.q 3) + crtU p 3 x3 * (p.q 1 * p.q 2)) := by
      unfold crtSum; ring
    rw [e, Nat.add_mul_mod_self_left]
    exact crtU_mul_mod _ _ _ _ h
  · have e : crtSum p x0 x1 x2 x3 = crtU p 1 x1 * (p.q 0 * p.q 2 * p.q 3)
        + p.q 1 * (crtU p 0 x0 * (p.q 2 * p.q 3) + crtU p 2 x2 * (p.q 0 * p.q 3) + crtU p 3 x3 * (p.q 0 * p.q 2)) := by
      unfold crtSum; ring
    rw [e, Nat.add_mul_mod_self_left]
    exact crtU_mul_mod _ _ _ _ h
  · have e : crtSum p x0 x1 x2 x3 = crtU p 2 x2 * (p.q 0 * p.q 1 * p.q 3)
        + p.q 2 * (crtU p 0 x0 * (p.q 1 * p.q 3) + crtU p 1 x1 * (p.q 0 * p.q 3) + crtU p 3 x3 * (p.q 0 * p.q 1)) := by
      unfold crtSum; ring
    rw [e, Nat.add_mul_mod_self_left]
    exact crtU_mul_mod _ _ _ _ h
  · have e : crtSum p x0 x1 x2 x3 = crtU p 3 x3 * (p.q 0 * p.q 1 * p.q 2)
        + p.q 3 * (crtU p 0 x0 * (p.q 1 * p.q 2) + crtU p 1 x1 * (p.q 0 * p.q 2) + crtU p 2 x2 * (p.q 0 * p.q 1)) := by
      unfold crtSum; ring
    rw [e, Nat.add_mul_mod_self_left]
    exact crtU_mul_mod _ _ _ _ h

theorem q_dvd_bigQN (p : Q120Params) (k : Nat) (hk : k < 4) : p.q k ∣ bigQN p := by
  have hk' : k = 0 ∨ k = 1 ∨ k = 2 ∨ k = 3 := by omega
  unfold bigQN
  rcases hk' with rfl | rfl | rfl | rfl
  · exact ⟨p.q 1 * p.q 2 * p.q 3, by ring⟩
  · exact ⟨p.q 0 * p.q 2 * p.q 3, by ring⟩
  · exact ⟨p.q 0 * p.q 1 * p.q 3, by ring⟩
  · exact ⟨p.q 0 * p.q 1 * p.q 2, by ring⟩

/-- centered lift of a residue `r < Q`, `Q` odd -/
def centerN (r Q : Nat) : Int := if (Q + 1) / 2 ≤ r then (r : Int) - (Q : Int) else (r : Int)

theorem centerN_bounds (r Q : Nat) (hodd : Q % 2 = 1) (hr : r < Q) :
    -(((Q : Int) - 1) / 2) ≤ centerN r Q ∧ centerN r Q ≤ ((Q : Int) - 1) / 2 := by
  unfold centerN
  split <;> omega

theorem centerN_mod (r Q q : Nat) (hd : q ∣ Q) : centerN r Q % (q : Int) = ((r % q : Nat) : Int) := by
  obtain ⟨m, rfl⟩ := hd
  unfold centerN
  split
  · rw [Int.natCast_mul, Int.sub_mul_emod_self_left, Int.natCast_mod]
  · rw [Int.natCast_mod]

theorem bToZnx128_mod (p : Q120Params) (ok : crtOK p = true) (x0 x1 x2 x3 : Nat) (k : Nat) (hk : k < 4) :
    bToZnx128 p x0 x1 x2 x3 % (p.q k : Int) = ((sel4 x0 x1 x2 x3 k % p.q k : Nat) : Int) := by
  rw [bToZnx128_eq p ok]
  have := centerN_mod (crtSum p x0 x1 x2 x3 % bigQN p) (bigQN p) (p.q k) (q_dvd_bigQN p k hk)
  unfold centerN at this
  rw [this, Nat.mod_mod_of_dvd _ (q_dvd_bigQN p k hk), crtSum_mod p ok x0 x1 x2 x3 k hk]

theorem bToZnx128_centered (p : Q120Params) (ok : crtOK p = true) (x0 x1 x2 x3 : Nat) :
    -(((bigQN p : Int) - 1) / 2) ≤ bToZnx128 p x0 x1 x2 x3
    ∧ bToZnx128 p x0 x1 x2 x3 ≤ ((bigQN p : Int) - 1) / 2 := by
  obtain ⟨hodd, hQ⟩ := crtOK_Q p ok
  have hpos : 0 < bigQN p := by
    rcases Nat.eq_zero_or_pos (bigQN p) with h | h
    · rw [h] at hodd; exact absurd hodd (by decide)
    · exact h
  rw [bToZnx128_eq p ok]
  exact centerN_bounds _ _ hodd (Nat.mod_lt _ hpos)

theorem coprime_of_mul_mod_one (a b n : Nat) (h : (a * b) % n = 1) : Nat.Coprime b n := by
  have g1 : Nat.gcd b n ∣ a * b := Dvd.dvd.mul_left (Nat.gcd_dvd_left b n) a
  have g2 : Nat.gcd b n ∣ n := Nat.gcd_dvd_right b n
  have : Nat.gcd b n ∣ (a * b) % n := (Nat.dvd_mod_iff g2).mpr g1
  rw [h] at this
  exact Nat.eq_one_of_dvd_one this

/-- the CRT identities force the primes to be pairwise coprime -/
theorem crtOK_coprime (p : Q120Params) (ok : crtOK p = true) :
    Nat.Coprime (p.q 0) (p.q 1) ∧ Nat.Coprime (p.q 0 * p.q 1) (p.q 2)
    ∧ Nat.Coprime (p.q 0 * p.q 1 * p.q 2) (p.q 3) := by
  have c1 : Nat.Coprime (p.q 0 * p.q 2 * p.q 3) (p.q 1) :=
    coprime_of_mul_mod_one _ _ _ (crtOK_lane p ok 1 (by decide)).2.2.2
  have c2 : Nat.Coprime (p.q 0 * p.q 1 * p.q 3) (p.q 2) :=
    coprime_of_mul_mod_one _ _ _ (crtOK_lane p ok 2 (by decide)).2.2.2
  have c3 : Nat.Coprime (p.q 0 * p.q 1 * p.q 2) (p.q 3) :=
    coprime_of_mul_mod_one _ _ _ (crtOK_lane p ok 3 (by decide)).2.2.2
  refine ⟨?_, ?_, c3⟩
  · exact Nat.Coprime.coprime_mul_right (Nat.Coprime.coprime_mul_right c1)
  · exact Nat.Coprime.coprime_mul_right c2

theorem centered_unique (p : Q120Params) (ok : crtOK p = true) (r r' : Int)
    (hr : -(((bigQN p : Int) - 1) / 2) ≤ r ∧ r ≤ ((bigQN p : Int) - 1) / 2)
    (hr' : -(((bigQN p : Int) - 1) / 2) ≤ r' ∧ r' ≤ ((bigQN p : Int) - 1) / 2)
    (hc : ∀ k, k < 4 → r % (p.q k : Int) = r' % (p.q k : Int)) : r = r' := by
  obtain ⟨c01, c012, c0123⟩ := crtOK_coprime p ok
  have dv : ∀ k, k < 4 → p.q k ∣ (r - r').natAbs := fun k hk =>
    Int.natCast_dvd.mp (Int.ModEq.dvd (hc k hk).symm)
  have d01 := Nat.Coprime.mul_dvd_of_dvd_of_dvd c01 (dv 0 (by decide)) (dv 1 (by decide))
  have d012 := Nat.Coprime.mul_dvd_of_dvd_of_dvd c012 d01 (dv 2 (by decide))
  have d0123 : bigQN p ∣ (r - r').natAbs := Nat.Coprime.mul_dvd_of_dvd_of_dvd c0123 d012 (dv 3 (by decide))
  generalize bigQN p = Q at *
  have lt : (r - r').natAbs < Q ∨ Q = 0 := by omega
  rcases lt with lt | rfl
  · have z := Nat.eq_zero_of_dvd_of_lt d0123 lt
    omega
  · omega

theorem lift_eq (p : Q120Params) (ok : crtOK p = true) (c0 c1 c2 c3 : Nat) (z : Int)
    (hz : -(((bigQN p : Int) - 1) / 2) ≤ z ∧ z ≤ ((bigQN p : Int) - 1) / 2)
    (hc : ∀ j, j < 4 → ((sel4 c0 c1 c2 c3 j : Nat) : Int) % (p.q j : Int) = z % (p.q j : Int)) :
    bToZnx128 p c0 c1 c2 c3 = z := by
  apply centered_unique p ok _ z (bToZnx128_centered p ok _ _ _ _) hz
  intro k hk
  rw [bToZnx128_mod p ok _ _ _ _ k hk, Int.natCast_mod]
  exact hc k hk

/-- **round trip** `int64 → b → int128` is the identity on ALL int64 values (needs `Q > 2^64`) -/
theorem znx_roundtrip_gen (p : Q120Params) (ok : crtOK p = true) (hbig : 18446744073709551616 < bigQN p)
    (x : Int) (hx : IsI64 x) :
    bToZnx128 p (bFromZnx64Lane (p.q 0) x) (bFromZnx64Lane (p.q 1) x) (bFromZnx64Lane (p.q 2) x)
      (bFromZnx64Lane (p.q 3) x) = x := by
  apply lift_eq p ok _ _ _ _ x (by unfold IsI64 at hx; generalize bigQN p = Q at *; omega)
  intro k hk
  obtain ⟨hq1, hq2, _, _⟩ := crtOK_lane p ok k hk
  have hk' : k = 0 ∨ k = 1 ∨ k = 2 ∨ k = 3 := by omega
  rcases hk' with rfl | rfl | rfl | rfl <;>
    exact (bFromZnx64Lane_spec (p.q _) x (by omega) (by omega) hx).2

end Spq.Q120
