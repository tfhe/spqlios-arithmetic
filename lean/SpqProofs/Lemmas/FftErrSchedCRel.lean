/-
  C06.4: relational transfer for the cplx butterflies and the per-block butterflies `gNetC`.
-/
import SpqProofs.Lemmas.FftErrSchedRel
import SpqProofs.Lemmas.FftSchedCFwd
import SpqProofs.Lemmas.FftErrSchedCBf
namespace Spq.Fft.RelN
open Spq.Fft Spq.Fft.Alg Spq.Fft.SimP Spq.Fft.LevelN Spq.Fft.SchedN Spq.Fft.SchedC Spq.FftErr

variable {α β : Type} {Rl : α → β → Prop} {A : Arith α} {B : Arith β}

def Bf4Sim (Rl : α → β → Prop) (f : Bf4 α) (f' : Bf4 β) : Prop :=
  ∀ {nwr nwr' nwi nwi'}, Rl nwr nwr' → Rl nwi nwi' →
    BfSim Rl (fun ra ia rb ib w1 w2 => f ra ia rb ib w1 w2 nwr nwi) (fun ra ia rb ib w1 w2 => f' ra ia rb ib w1 w2 nwr' nwi')

structure CFlavSim (Rl : α → β → Prop) (F : CFlav α) (F' : CFlav β) : Prop where
  ctTop : BfSim Rl F.ctTop F'.ctTop
  ctOdd : BfSim Rl F.ctOdd F'.ctOdd
  last : Bf4Sim Rl F.last F'.last
  big : FlavSim Rl F.big F'.big

theorem ofBf_sim {f : Bf α} {f' : Bf β} (h : BfSim Rl f f') : Bf4Sim Rl (ofBf f) (ofBf f') := by
  intro nwr nwr' nwi nwi' _ _ ra ra' ia ia' rb rb' ib ib' wr wr' wi wi' h1 h2 h3 h4 h5 h6
  exact h h1 h2 h3 h4 h5 h6

theorem ctFmaC_sim (h : ASim Rl A B) {z : α} {z' : β} (hz : Rl z z') : BfSim Rl (ctFmaC A z) (ctFmaC B z') := by
  intro ra ra' ia ia' rb rb' ib ib' wr wr' wi wi' h1 h2 h3 h4 h5 h6
  have nr := h.fma h4 (h.sub hz h6) (h.mul h3 h5)
  have ni := h.fma h3 (h.add hz h6) (h.mul h4 h5)
  exact ⟨h.add h1 nr, h.add h2 ni, h.sub h1 nr, h.sub h2 ni⟩

theorem ctFmaZ_sim (h : ASim Rl A B) : BfSim Rl (ctFmaZ A) (ctFmaZ B) := by
  intro ra ra' ia ia' rb rb' ib ib' wr wr' wi wi' h1 h2 h3 h4 h5 h6
  have nr := h.fma h4 (h.neg h6) (h.mul h3 h5)
  have ni := h.fma h3 h6 (h.mul h4 h5)
  exact ⟨h.add h1 nr, h.add h2 ni, h.sub h1 nr, h.sub h2 ni⟩

theorem ictFmaC_sim (h : ASim Rl A B) {z : α} {z' : β} (hz : Rl z z') : BfSim Rl (ictFmaC A z) (ictFmaC B z') := by
  intro ra ra' ia ia' rb rb' ib ib' wr wr' wi wi' h1 h2 h3 h4 h5 h6
  have rd := h.sub h1 h3
  have id := h.sub h2 h4
  exact ⟨h.add h1 h3, h.add h2 h4, h.fma id (h.sub hz h6) (h.mul rd h5), h.fma rd (h.add hz h6) (h.mul id h5)⟩

theorem ictFmaZ_sim (h : ASim Rl A B) : BfSim Rl (ictFmaZ A) (ictFmaZ B) := by
  intro ra ra' ia ia' rb rb' ib ib' wr wr' wi wi' h1 h2 h3 h4 h5 h6
  have rd := h.sub h1 h3
  have id := h.sub h2 h4
  exact ⟨h.add h1 h3, h.add h2 h4, h.fma id (h.neg h6) (h.mul rd h5), h.fma rd h6 (h.mul id h5)⟩

theorem lastFma_sim (h : ASim Rl A B) : Bf4Sim Rl (lastFma A) (lastFma B) := by
  intro nwr nwr' nwi nwi' h7 h8 ra ra' ia ia' rb rb' ib ib' wr wr' wi wi' h1 h2 h3 h4 h5 h6
  exact ⟨h.add h1 (h.fms h3 h5 (h.mul h4 h6)), h.add h2 (h.fma h4 h5 (h.mul h3 h6)),
    h.add h1 (h.fms h3 h7 (h.mul h4 h8)), h.add h2 (h.fma h4 h7 (h.mul h3 h8))⟩

/-- `cfwdFma` / `cinvFma` with the exact negation explicit -/
def cfwdFmaZ (A : Arith α) : CFlav α := ⟨ctFmaZ A, true, ctFma A, true, lastFma A, fwdFma A⟩
def cinvFmaZ (A : Arith α) : CFlav α := ⟨ictFmaZ A, true, ictFmaZ A, false, ofBf (ictFma A), invFma A⟩

theorem cfwdRef_sim (h : ASim Rl A B) : CFlavSim Rl (cfwdRef A) (cfwdRef B) :=
  ⟨ctRef_sim h, ctRef_sim h, ofBf_sim (ctRef_sim h), fwdRef_sim h⟩
theorem cfwdFma_sim (h : ASim Rl A B) {z : α} {z' : β} (hz : Rl z z') : CFlavSim Rl (cfwdFma A z) (cfwdFma B z') :=
  ⟨ctFmaC_sim h hz, ctFma_sim h, lastFma_sim h, fwdFma_sim h⟩
theorem cfwdFmaZ_sim (h : ASim Rl A B) : CFlavSim Rl (cfwdFmaZ A) (cfwdFmaZ B) :=
  ⟨ctFmaZ_sim h, ctFma_sim h, lastFma_sim h, fwdFma_sim h⟩
theorem cinvRef_sim (h : ASim Rl A B) : CFlavSim Rl (cinvRef A) (cinvRef B) :=
  ⟨ictRef_sim h, ictRef_sim h, ofBf_sim (ictRef_sim h), invRef_sim h⟩
theorem cinvFma_sim (h : ASim Rl A B) {z : α} {z' : β} (hz : Rl z z') : CFlavSim Rl (cinvFma A z) (cinvFma B z') :=
  ⟨ictFmaC_sim h hz, ictFmaC_sim h hz, ofBf_sim (ictFma_sim h), invFma_sim h⟩
theorem cinvFmaZ_sim (h : ASim Rl A B) : CFlavSim Rl (cinvFmaZ A) (cinvFmaZ B) :=
  ⟨ictFmaZ_sim h, ictFmaZ_sim h, ofBf_sim (ictFma_sim h), invFma_sim h⟩

theorem lastV_sim {f : Bf4 α} {f' : Bf4 β} (hf : Bf4Sim Rl f f') {wr wi nwr nwi : α} {wr' wi' nwr' nwi' : β}
    (h5 : Rl wr wr') (h6 : Rl wi wi') (h7 : Rl nwr nwr') (h8 : Rl nwi nwi')
    {u v : α × α} {u' v' : β × β} (hu : R2 Rl u u') (hv : R2 Rl v v') :
    R2 Rl (lastV f wr wi nwr nwi u v).1 (lastV f' wr' wi' nwr' nwi' u' v').1 ∧
    R2 Rl (lastV f wr wi nwr nwi u v).2 (lastV f' wr' wi' nwr' nwi' u' v').2 :=
  bfV_sim (hf h7 h8) h5 h6 hu hv

theorem gNetC_sim {F : CFlav α} {F' : CFlav β} (hF : CFlavSim Rl F F') (c s ns nc : ℕ → α) (c' s' ns' nc' : ℕ → β)
    (hc : ∀ e, Rl (c e) (c' e)) (hs : ∀ e, Rl (s e) (s' e)) (hns : ∀ e, Rl (ns e) (ns' e))
    (hnc : ∀ e, Rl (nc e) (nc' e)) (k ℓ d b : ℕ)
    {u v : α × α} {u' v' : β × β} (hu : R2 Rl u u') (hv : R2 Rl v v') :
    R2 Rl (gNetC F c s ns nc k ℓ d b u v).1 (gNetC F' c' s' ns' nc' k ℓ d b u' v').1 ∧
    R2 Rl (gNetC F c s ns nc k ℓ d b u v).2 (gNetC F' c' s' ns' nc' k ℓ d b u' v').2 :=
  gNetC_pick k ℓ d b
    (fun g => R2 Rl (g F c s ns nc u v).1 (g F' c' s' ns' nc' u' v').1 ∧
      R2 Rl (g F c s ns nc u v).2 (g F' c' s' ns' nc' u' v').2)
    (fun _ => lastV_sim hF.last (hc _) (hs _) (hnc _) (hns _) hu hv) (bfV_sim hF.ctTop (hc _) (hs _) hu hv)
    (bfV_sim hF.ctOdd (hc _) (hs _) hu hv) (gNet_sim hF.big c s c' s' hc hs k ℓ d b hu hv)

end Spq.Fft.RelN
