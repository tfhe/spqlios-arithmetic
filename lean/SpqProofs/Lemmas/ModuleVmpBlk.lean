/-
  The loops of `Spq.Module.vmpApplyDftToDft` with their pieces under names (`nn ≥ 8`: the extracted block, the matrix
  slice of a column (pair), the block save, one iteration of the block loop; `nn < 8`: the `mul` / `addmul` chain of
  a column).  The layout theorems (`ModuleVmpLoop`, `ModuleVmpSmall`) and the heap refinement (`ModHeapApply*`) both
  speak about the model through these, and about the cells the loops write through `saveCells / blkCells / bigCells`:
  the block saves of all blocks and columns are the first `col_max` limbs (`bigCells_iff`).
-/
import Spq.ModuleHeap
import SpqProofs.Lemmas.Tiles
namespace Spq.ModuleHeap
open Spq Reim4
variable {α : Type}

/-- the extracted block `blk` of the first `rowMax` limbs of `adft` -/
def extOf (c : Module.Parts α) (rowMax blk : Nat) (adft : Array α) : Array α :=
  extract1blkFromContiguousReimRef c.ar.zero c.m rowMax blk (Array.replicate (8 * rowMax) c.ar.zero) adft

end Spq.ModuleHeap

namespace Spq.Module
open Spq
variable {α : Type}

/-- `mat_blk_start + col_offset`, `w·nrows` cells -/
def gCol (P : Array α) (nrows ncols blk col w : Nat) : Array α :=
  P.extract (blk * (8 * nrows * ncols) + col * (8 * nrows)) (blk * (8 * nrows * ncols) + col * (8 * nrows) + w * nrows)

/-- `reim4_save_1blk_to_reim(m, blk, vec_output + col*nn, o8)` as the model writes it -/
def gSave (m nn blk : Nat) (res : Array α) (col : Nat) (o8 : Array α) : Array α :=
  writeAt (writeAt res (col * nn + 4 * blk) (o8.extract 0 4)) (col * nn + m + 4 * blk) (o8.extract 4 8)

/-- one iteration of the block loop, for `rowMax` usable rows and `colMax` computed columns -/
def gBlkBody (c : Parts α) (rowMax colMax : Nat) (adft pmat : Array α) (nrows ncols : Nat) (res : Array α) (blk : Nat) :
    Array α :=
  let ext := ModuleHeap.extOf c rowMax blk adft
  let res := (List.range (colMax / 2)).foldl (fun res t =>
    let out := ModuleHeap.prod2 c rowMax ext (gCol pmat nrows ncols blk (2 * t) 16)
    gSave c.m c.nn blk (gSave c.m c.nn blk res (2 * t) (out.extract 0 8)) (2 * t + 1) (out.extract 8 16)) res
  if colMax % 2 == 1 then
    let last := colMax - 1
    let out := if ncols == colMax then ModuleHeap.prod1 c rowMax ext (gCol pmat nrows ncols blk last 8)
      else ModuleHeap.prod2 c rowMax ext (gCol pmat nrows ncols blk last 16)
    gSave c.m c.nn blk res last (out.extract 0 8)
  else res

theorem vmpApply_eq_gblk (c : Parts α) (h8 : 8 ≤ c.nn) (rsz : Nat) (adft : Array α) (asz : Nat) (pmat : Array α)
    (nrows ncols : Nat) :
    vmpApplyDftToDft c rsz adft asz pmat nrows ncols =
      (List.range (c.m / 4)).foldl (gBlkBody c (min nrows asz) (min ncols rsz) adft pmat nrows ncols)
        (Array.replicate (rsz * c.nn) c.ar.zero) := by
  unfold vmpApplyDftToDft
  simp only [ge_iff_le, h8, if_true]
  rfl

end Spq.Module

namespace Spq.VmpErr
open Spq Spq.Module

/-- `reim_fftvec_mul` of row 0, then `reim_fftvec_addmul` of the rows `1 .. n-1` (as `vmp_apply_dft_to_dft` runs
    them for `nn < 8`, `n = row_max ≥ 1`) -/
def smallChain {α : Type} (c : Parts α) (n : Nat) (A B : Nat → Array α) : Array α :=
  (List.range (n - 1)).foldl (fun r k => addmul c r (A (k + 1)) (B (k + 1))) (mul c (A 0) (B 0))

end Spq.VmpErr

namespace Spq.ModuleHeap
open Spq Heap

def saveCells (m nn blk col x : Nat) : Prop := In (col * nn + 4 * blk) 4 x ∨ In (col * nn + m + 4 * blk) 4 x

def blkCells (m nn colMax blk x : Nat) : Prop :=
  (∃ t, t < colMax / 2 ∧ (saveCells m nn blk (2 * t) x ∨ saveCells m nn blk (2 * t + 1) x)) ∨
  ((colMax % 2 == 1) = true ∧ saveCells m nn blk (colMax - 1) x)

def bigCells (m nn colMax x : Nat) : Prop := ∃ blk, blk < m / 4 ∧ blkCells m nn colMax blk x

theorem pairs_tail_iff (S : Nat → Prop) (n : Nat) :
    ((∃ t, t < n / 2 ∧ (S (2 * t) ∨ S (2 * t + 1))) ∨ ((n % 2 == 1) = true ∧ S (n - 1))) ↔ ∃ c, c < n ∧ S c := by
  constructor
  · rintro (⟨t, ht, h | h⟩ | ⟨ho, h⟩)
    · exact ⟨2 * t, by omega, h⟩
    · exact ⟨2 * t + 1, by omega, h⟩
    · have : n % 2 = 1 := by simpa using ho
      exact ⟨n - 1, by omega, h⟩
  · rintro ⟨c, hc, h⟩
    by_cases hp : c < 2 * (n / 2)
    · refine Or.inl ⟨c / 2, by omega, ?_⟩
      rcases Nat.mod_two_eq_zero_or_one c with q | q
      · exact Or.inl ((by omega : c = 2 * (c / 2)) ▸ h)
      · exact Or.inr ((by omega : c = 2 * (c / 2) + 1) ▸ h)
    · have e : c = n - 1 := by omega
      exact Or.inr ⟨by simp; omega, e ▸ h⟩

theorem limb_tile (m nn col x : Nat) (hnn : nn = 2 * m) (hm4 : m % 4 = 0) :
    (∃ blk, blk < m / 4 ∧ saveCells m nn blk col x) ↔ In (col * nn) nn x := by
  unfold saveCells In
  constructor
  · rintro ⟨blk, hb, h⟩; omega
  · intro h
    by_cases hlo : x < col * nn + m
    · exact ⟨(x - col * nn) / 4, by omega, Or.inl (by omega)⟩
    · exact ⟨(x - col * nn - m) / 4, by omega, Or.inr (by omega)⟩

theorem smallCells_iff (nn colMax x : Nat) : (∃ col, col < colMax ∧ In (col * nn) nn x) ↔ x < colMax * nn := by
  rcases Nat.eq_zero_or_pos nn with rfl | hw
  · exact ⟨fun ⟨_, _, q⟩ => absurd q.2 (Nat.not_lt.2 q.1), fun q => absurd q (Nat.not_lt_zero x)⟩
  · simpa only [Nat.mul_comm] using (Module.Tiles.range colMax).cover nn hw x

theorem bigCells_iff (m nn colMax : Nat) (hnn : nn = 2 * m) (hm4 : m % 4 = 0) (x : Nat) :
    bigCells m nn colMax x ↔ x < colMax * nn := by
  rw [← smallCells_iff nn colMax x]
  unfold bigCells blkCells
  constructor
  · rintro ⟨blk, hb, h⟩
    obtain ⟨c, hc, s⟩ := (pairs_tail_iff (fun c => saveCells m nn blk c x) colMax).1 h
    exact ⟨c, hc, (limb_tile m nn c x hnn hm4).1 ⟨blk, hb, s⟩⟩
  · rintro ⟨c, hc, h⟩
    obtain ⟨blk, hb, s⟩ := (limb_tile m nn c x hnn hm4).2 h
    exact ⟨blk, hb, (pairs_tail_iff (fun c => saveCells m nn blk c x) colMax).2 ⟨c, hc, s⟩⟩

end Spq.ModuleHeap
