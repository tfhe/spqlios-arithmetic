/-
  C05 helper lemmas, integer level: the shift pair `(x << (64-k)) >> (64-k)` on wrapped int64 is the
  balanced residue mod 2^k, `(x - digit) >> k` is the exact quotient, and one step of
  `znx_normalize` (`Coeffs.normCoef`) is an exact balanced div/mod of `x + cin`.
-/
import Spq.Coeffs
import SpqProofs.Lemmas.MachBasic
import Mathlib.Tactic.Ring
import Mathlib.Tactic.Linarith
namespace Spq.Norm
open Spq Coeffs

/-- balanced residue of `x` modulo `2^k`: the representative in `[-2^(k-1), 2^(k-1))` (floor mod) -/
def balDigit (k : Nat) (x : Int) : Int := (x + 2 ^ (k - 1)) % 2 ^ k - 2 ^ (k - 1)
/-- the matching exact quotient `(x - balDigit k x) / 2^k` (see `balCarry_eq`) -/
def balCarry (k : Nat) (x : Int) : Int := (x + 2 ^ (k - 1)) / 2 ^ k

theorem pow_split (k : Nat) (hk : 1 ≤ k) : (2 : Int) ^ k = 2 * 2 ^ (k - 1) := by
  obtain ⟨j, rfl⟩ : ∃ j, k = j + 1 := ⟨k - 1, by omega⟩
  rw [Nat.add_sub_cancel, pow_succ]; ring

theorem bal_decomp (k : Nat) (x : Int) : x = balDigit k x + balCarry k x * 2 ^ k := by
  unfold balDigit balCarry
  have := Int.emod_add_mul_ediv (x + 2 ^ (k - 1)) (2 ^ k)
  linarith

theorem bal_range (k : Nat) (hk : 1 ≤ k) (x : Int) :
    -2 ^ (k - 1) ≤ balDigit k x ∧ balDigit k x < 2 ^ (k - 1) := by
  unfold balDigit
  have hP : (0 : Int) < 2 ^ k := by positivity
  have h1 := Int.emod_nonneg (x + 2 ^ (k - 1)) (ne_of_gt hP)
  have h2 := Int.emod_lt_of_pos (x + 2 ^ (k - 1)) hP
  have := pow_split k hk
  constructor <;> linarith

theorem balCarry_eq (k : Nat) (x : Int) : balCarry k x = (x - balDigit k x) / 2 ^ k := by
  have hP : (0 : Int) < 2 ^ k := by positivity
  have h := bal_decomp k x
  have : x - balDigit k x = balCarry k x * 2 ^ k := by linarith
  rw [this, Int.mul_ediv_cancel _ (ne_of_gt hP)]

theorem balDigit_emod (k : Nat) (x : Int) : (x - balDigit k x) % 2 ^ k = 0 := by
  have h := bal_decomp k x
  have : x - balDigit k x = balCarry k x * 2 ^ k := by linarith
  rw [this, Int.mul_emod_left]

theorem balDigit_add_mul (k : Nat) (x q : Int) : balDigit k (x + q * 2 ^ k) = balDigit k x := by
  unfold balDigit
  rw [show x + q * 2 ^ k + 2 ^ (k - 1) = x + 2 ^ (k - 1) + q * 2 ^ k by ring, Int.add_mul_emod_self_right]

theorem balCarry_add_mul (k : Nat) (x q : Int) : balCarry k (x + q * 2 ^ k) = balCarry k x + q := by
  unfold balCarry
  have hP : (0 : Int) < 2 ^ k := by positivity
  rw [show x + q * 2 ^ k + 2 ^ (k - 1) = x + 2 ^ (k - 1) + q * 2 ^ k by ring,
    Int.add_mul_ediv_right _ _ (ne_of_gt hP)]

theorem balDigit_unique (k : Nat) (hk : 1 ≤ k) (x d : Int) (h1 : -2 ^ (k - 1) ≤ d) (h2 : d < 2 ^ (k - 1))
    (hc : (x - d) % 2 ^ k = 0) : d = balDigit k x := by
  obtain ⟨t, ht⟩ := Int.dvd_of_emod_eq_zero hc
  have e : x = d + t * 2 ^ k := by linarith
  rw [e, balDigit_add_mul]
  unfold balDigit
  have := pow_split k hk
  rw [Int.emod_eq_of_lt (by linarith) (by linarith)]
  ring

theorem pow_mul_64 (k : Nat) (hk : k ≤ 64) : (2 : Int) ^ k * 2 ^ (64 - k) = 18446744073709551616 := by
  rw [← pow_add, show k + (64 - k) = 64 by omega]; norm_num

theorem pow_mul_63 (k : Nat) (hk : k ≤ 63) : (2 : Int) ^ k * 2 ^ (63 - k) = 9223372036854775808 := by
  rw [← pow_add, show k + (63 - k) = 63 by omega]; norm_num

/-- `get_base_k_digit` is the balanced residue, for *every* int64 `x` (indeed every
    integer) and every `1 ≤ k ≤ 64` -/
theorem digit_spec (k : Nat) (hk : 1 ≤ k) (hk' : k ≤ 64) (x : Int) : digit x k = balDigit k x := by
  have hPS := pow_mul_64 k hk'
  have hHS : (2 : Int) ^ (k - 1) * 2 ^ (64 - k) = 9223372036854775808 := by
    rw [← pow_add, show k - 1 + (64 - k) = 63 by omega]; norm_num
  have hS : (0 : Int) < 2 ^ (64 - k) := by positivity
  obtain ⟨h1, h2⟩ := bal_range k hk x
  have hd := bal_decomp k x
  have hsp := pow_split k hk
  unfold digit sarS shlS wrapS
  generalize balDigit k x = d at *
  generalize balCarry k x = q at *
  generalize (2 : Int) ^ (64 - k) = S at *
  generalize (2 : Int) ^ (k - 1) = H at *
  generalize (2 : Int) ^ k = P at *
  have e : x * S + 9223372036854775808 = (d * S + 9223372036854775808) + q * 18446744073709551616 := by
    have : q * P * S = q * 18446744073709551616 := by rw [mul_assoc, hPS]
    rw [hd]; linarith [this, add_mul d (q * P) S]
  have h0 : 0 ≤ d * S + 9223372036854775808 := by
    have : 0 ≤ (d + H) * S := mul_nonneg (by linarith) (le_of_lt hS)
    linarith [add_mul d H S]
  have hlt : d * S + 9223372036854775808 < 18446744073709551616 := by
    have : (d + H) * S < P * S := mul_lt_mul_of_pos_right (by linarith) hS
    linarith [add_mul d H S]
  rw [e, Int.add_mul_emod_self_right, Int.emod_eq_of_lt h0 hlt,
    show d * S + 9223372036854775808 - 9223372036854775808 = d * S by ring,
    Int.mul_ediv_cancel _ (ne_of_gt hS)]

/-- no wrap in `x - digit`, and `(x - digit) >> k` is the exact quotient.  The bound `hx2` is needed:
    for `x ≥ 2^63 - 2^(k-1)` the difference `x - digit` reaches `2^63` and wraps. -/
theorem carry_spec (k : Nat) (hk : 1 ≤ k) (hk' : k ≤ 63) (x : Int)
    (hx1 : -9223372036854775808 ≤ x) (hx2 : x < 9223372036854775808 - 2 ^ (k - 1)) :
    carry x (digit x k) k = balCarry k x := by
  rw [digit_spec k hk (by omega)]
  have hPM := pow_mul_63 k hk'
  have hP : (0 : Int) < 2 ^ k := by positivity
  obtain ⟨h1, h2⟩ := bal_range k hk x
  have hd := bal_decomp k x
  have hsp := pow_split k hk
  unfold carry sarS subS
  generalize balDigit k x = d at *
  generalize balCarry k x = q at *
  generalize (2 : Int) ^ (63 - k) = M at *
  generalize (2 : Int) ^ (k - 1) = H at *
  generalize (2 : Int) ^ k = P at *
  have e : x - d = q * P := by linarith
  have hlo : -9223372036854775808 ≤ q * P := by
    by_contra hcon
    have hq : q ≤ -M - 1 := by
      by_contra h'
      have : (-M) * P ≤ q * P := mul_le_mul_of_nonneg_right (by linarith) (le_of_lt hP)
      linarith [neg_mul M P, mul_comm M P]
    have : q * P ≤ (-M - 1) * P := mul_le_mul_of_nonneg_right hq (le_of_lt hP)
    linarith [sub_mul (-M) 1 P, neg_mul M P, mul_comm M P]
  rw [e, wrapS_id _ hlo (by linarith), Int.mul_ediv_cancel _ (ne_of_gt hP)]

theorem normCoef_none (k : Nat) (hk : 1 ≤ k) (hk' : k ≤ 63) (x : Int)
    (hx1 : -9223372036854775808 ≤ x) (hx2 : x < 9223372036854775808 - 2 ^ (k - 1)) :
    normCoef k x none = (balDigit k x, balCarry k x) := by
  simp only [normCoef]
  rw [carry_spec k hk hk' x hx1 hx2, digit_spec k hk (by omega)]

theorem normCoef_some (k : Nat) (hk : 1 ≤ k) (hk' : k ≤ 63) (x c : Int)
    (hx1 : -9223372036854775808 ≤ x) (hx2 : x < 9223372036854775808 - 2 ^ (k - 1))
    (hc1 : -9223372036854775808 + 2 ^ (k - 1) ≤ c) (hc2 : c ≤ 9223372036854775808 - 2 ^ k) :
    normCoef k x (some c) = (balDigit k (x + c), balCarry k (x + c)) := by
  simp only [normCoef]
  rw [carry_spec k hk hk' x hx1 hx2, digit_spec k hk (by omega) x]
  obtain ⟨h1, h2⟩ := bal_range k hk x
  have hsp := pow_split k hk
  have hdc : addS (balDigit k x) c = balDigit k x + c := by
    unfold addS; apply wrapS_id <;> linarith
  rw [hdc, carry_spec k hk hk' _ (by linarith) (by linarith), digit_spec k hk (by omega)]
  have hd := bal_decomp k x
  have e : x + c = balDigit k x + c + balCarry k x * 2 ^ k := by linarith
  have ed : balDigit k (x + c) = balDigit k (balDigit k x + c) := by rw [e, balDigit_add_mul]
  have ec : balCarry k (x + c) = balCarry k (balDigit k x + c) + balCarry k x := by
    rw [e, balCarry_add_mul]
  rw [← ed]
  congr 1
  -- the sum of the two partial carries does not wrap
  have hP : (0 : Int) < 2 ^ k := by positivity
  have hPM := pow_mul_63 k hk'
  obtain ⟨g1, g2⟩ := bal_range k hk (x + c)
  have gd := bal_decomp k (x + c)
  have hM : (1 : Int) ≤ 2 ^ (k - 1) := by
    have : (0 : Int) < 2 ^ (k - 1) := by positivity
    linarith
  unfold addS
  rw [show balCarry k x + balCarry k (balDigit k x + c) = balCarry k (x + c) by rw [ec]; ring]
  generalize balDigit k (x + c) = y at *
  generalize balCarry k (x + c) = Q at *
  generalize (2 : Int) ^ (63 - k) = M at *
  generalize (2 : Int) ^ (k - 1) = H at *
  generalize (2 : Int) ^ k = P at *
  have hQP : Q * P = x + c - y := by linarith
  have hup : Q < 9223372036854775808 := by
    by_contra hcon
    have : (9223372036854775808 : Int) * P ≤ Q * P :=
      mul_le_mul_of_nonneg_right (by linarith) (le_of_lt hP)
    linarith
  have hlo : -9223372036854775808 ≤ Q := by
    by_contra hcon
    have : Q * P ≤ (-9223372036854775808 : Int) * P :=
      mul_le_mul_of_nonneg_right (by linarith) (le_of_lt hP)
    linarith
  exact wrapS_id _ hlo hup

end Spq.Norm
