/-
  The reference kernels `cplx_twiddle_fft_ref` / `cplx_bitwiddle_fft_ref` are passes of butterflies over an interleaved
  array.  Seen as a sequence of pairs (`pairView`) a butterfly of the array code is the butterfly `G` of
  `Lemmas/FftView.lean`, so the passes are that file's loops `loop1`, `loop2`, `loop3` and have its closed form `twG`,
  for any arithmetic and any twiddle function.
-/
import SpqProofs.Lemmas.CoverCplx
import SpqProofs.Lemmas.FftView
namespace Spq
namespace Cover
open Reim4
variable {α : Type}

theorem butterfly_size (ar : RArith α) (T : α → α → α × α) (d : Array α) (ia ib : Nat) :
    (butterfly ar T d ia ib).size = d.size := by
  simp [butterfly]

theorem butterfly_getD (ar : RArith α) (T : α → α → α × α) (d : Array α) (ia ib x : Nat) :
    (butterfly ar T d ia ib).getD x ar.zero =
      if ia + 1 = x ∧ x < d.size then ar.add (d.getD (ia + 1) ar.zero) (T (d.getD ib ar.zero) (d.getD (ib + 1) ar.zero)).2
      else if ia = x ∧ x < d.size then ar.add (d.getD ia ar.zero) (T (d.getD ib ar.zero) (d.getD (ib + 1) ar.zero)).1
      else if ib + 1 = x ∧ x < d.size then ar.sub (d.getD (ia + 1) ar.zero) (T (d.getD ib ar.zero) (d.getD (ib + 1) ar.zero)).2
      else if ib = x ∧ x < d.size then ar.sub (d.getD ia ar.zero) (T (d.getD ib ar.zero) (d.getD (ib + 1) ar.zero)).1
      else d.getD x ar.zero := by
  simp only [butterfly, getD_setIfInBounds, Array.size_setIfInBounds]

theorem butterfly_frame (ar : RArith α) (T : α → α → α × α) (d : Array α) (ia ib x : Nat)
    (hx : x ≠ ia ∧ x ≠ ia + 1 ∧ x ≠ ib ∧ x ≠ ib + 1) :
    (butterfly ar T d ia ib).getD x ar.zero = d.getD x ar.zero := by
  rw [butterfly_getD, if_neg (by omega), if_neg (by omega), if_neg (by omega), if_neg (by omega)]

theorem butterfly_vals (ar : RArith α) (T : α → α → α × α) (d : Array α) (ia ib : Nat)
    (hne : ia + 2 ≤ ib ∨ ib + 2 ≤ ia) (ha : ia + 2 ≤ d.size) (hb : ib + 2 ≤ d.size) :
    let t := T (d.getD ib ar.zero) (d.getD (ib + 1) ar.zero)
    (butterfly ar T d ia ib).getD ia ar.zero = ar.add (d.getD ia ar.zero) t.1 ∧
    (butterfly ar T d ia ib).getD (ia + 1) ar.zero = ar.add (d.getD (ia + 1) ar.zero) t.2 ∧
    (butterfly ar T d ia ib).getD ib ar.zero = ar.sub (d.getD ia ar.zero) t.1 ∧
    (butterfly ar T d ia ib).getD (ib + 1) ar.zero = ar.sub (d.getD (ia + 1) ar.zero) t.2 := by
  intro t
  refine ⟨?_, ?_, ?_, ?_⟩
  · rw [butterfly_getD]
    have h1 : ¬ (ia + 1 = ia ∧ ia < d.size) := by omega
    have h2 : ia = ia ∧ ia < d.size := by omega
    rw [if_neg h1, if_pos h2]
  · rw [butterfly_getD]
    have h1 : ia + 1 = ia + 1 ∧ ia + 1 < d.size := by omega
    rw [if_pos h1]
  · rw [butterfly_getD]
    have h1 : ¬ (ia + 1 = ib ∧ ib < d.size) := by omega
    have h2 : ¬ (ia = ib ∧ ib < d.size) := by omega
    have h3 : ¬ (ib + 1 = ib ∧ ib < d.size) := by omega
    have h4 : ib = ib ∧ ib < d.size := by omega
    rw [if_neg h1, if_neg h2, if_neg h3, if_pos h4]
  · rw [butterfly_getD]
    have h1 : ¬ (ia + 1 = ib + 1 ∧ ib + 1 < d.size) := by omega
    have h2 : ¬ (ia = ib + 1 ∧ ib + 1 < d.size) := by omega
    have h3 : ib + 1 = ib + 1 ∧ ib + 1 < d.size := by omega
    rw [if_neg h1, if_neg h2, if_pos h3]

section view
open Spq.Fft Spq.Fft.View

def pairView (z : α) (d : Array α) : Nat → α × α := fun p => (d.getD (2 * p) z, d.getD (2 * p + 1) z)

theorem getD_pairView (z : α) (d : Array α) (x : Nat) :
    d.getD x z = if x % 2 = 0 then (pairView z d (x / 2)).1 else (pairView z d (x / 2)).2 := by
  unfold pairView
  split
  · congr 1; omega
  · congr 1; omega

/-- the two outputs of `butterfly ar T` as functions of its two input pairs -/
def bfLo (ar : RArith α) (T : α → α → α × α) (u w : α × α) : α × α := (ar.add u.1 (T w.1 w.2).1, ar.add u.2 (T w.1 w.2).2)
def bfHi (ar : RArith α) (T : α → α → α × α) (u w : α × α) : α × α := (ar.sub u.1 (T w.1 w.2).1, ar.sub u.2 (T w.1 w.2).2)

theorem butterfly_view (ar : RArith α) (T : α → α → α × α) (d : Array α) (a b : Nat) (hab : a ≠ b)
    (ha : 2 * a + 2 ≤ d.size) (hb : 2 * b + 2 ≤ d.size) :
    pairView ar.zero (butterfly ar T d (2 * a) (2 * b)) = G (bfLo ar T) (bfHi ar T) a b (pairView ar.zero d) := by
  obtain ⟨v1, v2, v3, v4⟩ := butterfly_vals ar T d (2 * a) (2 * b) (by omega) ha hb
  funext p
  unfold G
  by_cases h1 : p = a
  · subst h1; rw [if_pos rfl]; simp only [pairView, bfLo, v1, v2]
  · rw [if_neg h1]
    by_cases h2 : p = b
    · subst h2; rw [if_pos rfl]; simp only [pairView, bfHi, v3, v4]
    · rw [if_neg h2]
      simp only [pairView, butterfly_frame ar T d (2 * a) (2 * b) (2 * p) (by omega),
        butterfly_frame ar T d (2 * a) (2 * b) (2 * p + 1) (by omega)]

theorem butterfly2_view (ar : RArith α) (T T' : α → α → α × α) (d : Array α) (a b a' b' : Nat) (hab : a ≠ b) (hab' : a' ≠ b')
    (ha : 2 * a + 2 ≤ d.size) (hb : 2 * b + 2 ≤ d.size) (ha' : 2 * a' + 2 ≤ d.size) (hb' : 2 * b' + 2 ≤ d.size) :
    pairView ar.zero (butterfly ar T' (butterfly ar T d (2 * a) (2 * b)) (2 * a') (2 * b')) =
      G (bfLo ar T') (bfHi ar T') a' b' (G (bfLo ar T) (bfHi ar T) a b (pairView ar.zero d)) := by
  rw [butterfly_view ar T' _ a' b' hab' (by rw [butterfly_size]; exact ha') (by rw [butterfly_size]; exact hb'),
    butterfly_view ar T d a b hab ha hb]

theorem fold_eq_iterFrom {σ : Type} (f : Nat → σ → σ) (n : Nat) (s : σ) :
    Nat.fold n (fun i _ s => f i s) s = iterFrom f n 0 s := by
  induction n with
  | zero => rfl
  | succ n ih => rw [Nat.fold_succ, iterFrom_succ_last, Nat.zero_add, ih]

/-- the pass of `cplx_twiddle_fft_ref`: `h` butterflies between the slices at `oa` and `oa + h` -/
theorem level1_view (ar : RArith α) (T : α → α → α × α) (h oa : Nat) (d : Array α) (hs : 2 * (oa + 2 * h) ≤ d.size) :
    pairView ar.zero (Nat.fold h (fun i _ d => butterfly ar T d (2 * (oa + i)) (2 * (oa + h + i))) d) =
      twG (bfLo ar T) (bfHi ar T) h oa (pairView ar.zero d) ∧
    (Nat.fold h (fun i _ d => butterfly ar T d (2 * (oa + i)) (2 * (oa + h + i))) d).size = d.size := by
  rw [fold_eq_iterFrom (fun i d => butterfly ar T d (2 * (oa + i)) (2 * (oa + h + i)))]
  have := iterFrom_sim (pairView ar.zero) (fun r : Array α => r.size = d.size)
    (fun i d => butterfly ar T d (2 * (oa + i)) (2 * (oa + h + i)))
    (fun i x => G (bfLo ar T) (bfHi ar T) (oa + i) (oa + h + i) x) h 0
    (fun j s _ hj hsz => ⟨butterfly_view ar T s _ _ (by omega) (by omega) (by omega), by rw [butterfly_size, hsz]⟩) d rfl
  rw [loop1] at this
  exact this

/-- the two loops of `cplx_bitwiddle_fft_ref` on the four slices of length `h` at `off`: one level of distance `2h`
    with `T0`, then the two halves of the level of distance `h` with `T1` and `T1'` -/
theorem bitw_view (ar : RArith α) (T0 T1 T1' : α → α → α × α) (h off : Nat) (d : Array α) (hs : 2 * (off + 4 * h) ≤ d.size) :
    let l1 := Nat.fold h (fun i _ d => butterfly ar T0 (butterfly ar T0 d (2 * (off + i)) (2 * (off + 2 * h + i)))
      (2 * (off + h + i)) (2 * (off + 3 * h + i))) d
    let l2 := Nat.fold h (fun i _ d => butterfly ar T1' (butterfly ar T1 d (2 * (off + i)) (2 * (off + h + i)))
      (2 * (off + 2 * h + i)) (2 * (off + 3 * h + i))) l1
    pairView ar.zero l2 = twG (bfLo ar T1') (bfHi ar T1') h (off + 2 * h) (twG (bfLo ar T1) (bfHi ar T1) h off
      (twG (bfLo ar T0) (bfHi ar T0) (2 * h) off (pairView ar.zero d))) ∧ l2.size = d.size := by
  intro l1 l2
  have s1 := iterFrom_sim (pairView ar.zero) (fun r : Array α => r.size = d.size)
    (fun i d => butterfly ar T0 (butterfly ar T0 d (2 * (off + i)) (2 * (off + 2 * h + i))) (2 * (off + h + i)) (2 * (off + 3 * h + i)))
    (fun i x => G (bfLo ar T0) (bfHi ar T0) (off + h + i) (off + 3 * h + i) (G (bfLo ar T0) (bfHi ar T0) (off + i) (off + 2 * h + i) x)) h 0
    (fun j s _ hj hsz => ⟨butterfly2_view ar T0 T0 s _ _ _ _ (by omega) (by omega) (by omega) (by omega) (by omega) (by omega),
      by rw [butterfly_size, butterfly_size, hsz]⟩) d rfl
  rw [loop2, ← fold_eq_iterFrom (fun i d => butterfly ar T0 (butterfly ar T0 d (2 * (off + i)) (2 * (off + 2 * h + i)))
    (2 * (off + h + i)) (2 * (off + 3 * h + i)))] at s1
  have s2 := iterFrom_sim (pairView ar.zero) (fun r : Array α => r.size = d.size)
    (fun i d => butterfly ar T1' (butterfly ar T1 d (2 * (off + i)) (2 * (off + h + i))) (2 * (off + 2 * h + i)) (2 * (off + 3 * h + i)))
    (fun i x => G (bfLo ar T1') (bfHi ar T1') (off + 2 * h + i) (off + 3 * h + i) (G (bfLo ar T1) (bfHi ar T1) (off + i) (off + h + i) x)) h 0
    (fun j s _ hj hsz => ⟨butterfly2_view ar T1 T1' s _ _ _ _ (by omega) (by omega) (by omega) (by omega) (by omega) (by omega),
      by rw [butterfly_size, butterfly_size, hsz]⟩) l1 s1.2
  rw [loop3, ← fold_eq_iterFrom (fun i d => butterfly ar T1' (butterfly ar T1 d (2 * (off + i)) (2 * (off + h + i)))
    (2 * (off + 2 * h + i)) (2 * (off + 3 * h + i))), s1.1] at s2
  exact s2

/-- column `i` of the closed form of `bitw_view`: each of its four cells goes through one butterfly of the first level and
    one of the second -/
theorem twG_radix4 {β : Type} (φ0 ψ0 φ1 ψ1 φ1' ψ1' : β → β → β) (h off i : Nat) (hi : i < h) (x : Nat → β) :
    let y := twG φ1' ψ1' h (off + 2 * h) (twG φ1 ψ1 h off (twG φ0 ψ0 (2 * h) off x))
    let A := φ0 (x (off + i)) (x (off + 2 * h + i))
    let B := φ0 (x (off + h + i)) (x (off + 3 * h + i))
    let C := ψ0 (x (off + i)) (x (off + 2 * h + i))
    let D := ψ0 (x (off + h + i)) (x (off + 3 * h + i))
    y (off + i) = φ1 A B ∧ y (off + h + i) = ψ1 A B ∧ y (off + 2 * h + i) = φ1' C D ∧ y (off + 3 * h + i) = ψ1' C D := by
  intro y A B C D
  -- first level: columns `i` and `h + i` of the level of distance `2h`
  obtain ⟨wA, wC⟩ := twG_col φ0 ψ0 (2 * h) off i (by omega) x
  obtain ⟨wB, wD⟩ := twG_col φ0 ψ0 (2 * h) off (h + i) (by omega) x
  have e3 : off + 2 * h + h + i = off + 3 * h + i := by omega
  simp only [← Nat.add_assoc, e3] at wB wD
  -- second level: column `i` of the two halves
  obtain ⟨z0, z1⟩ := twG_col φ1 ψ1 h off i hi (twG φ0 ψ0 (2 * h) off x)
  obtain ⟨y2, y3⟩ := twG_col φ1' ψ1' h (off + 2 * h) i hi (twG φ1 ψ1 h off (twG φ0 ψ0 (2 * h) off x))
  rw [e3] at y2 y3
  refine ⟨?_, ?_, ?_, ?_⟩
  · show twG _ _ _ _ _ _ = _
    rw [twG_out φ1' ψ1' h (off + 2 * h) _ (off + i) (by omega), z0, wA, wB]
  · show twG _ _ _ _ _ _ = _
    rw [twG_out φ1' ψ1' h (off + 2 * h) _ (off + h + i) (by omega), z1, wA, wB]
  · show twG _ _ _ _ _ _ = _
    rw [y2, twG_out φ1 ψ1 h off _ (off + 2 * h + i) (by omega), twG_out φ1 ψ1 h off _ (off + 3 * h + i) (by omega), wC, wD]
  · show twG _ _ _ _ _ _ = _
    rw [y3, twG_out φ1 ψ1 h off _ (off + 2 * h + i) (by omega), twG_out φ1 ψ1 h off _ (off + 3 * h + i) (by omega), wC, wD]

end view

section ring
variable {R : Type} [CommRing R]

/-- the radix-4 step of the reference code on one column: twiddles `w0` (first level), `w1` and `i·w1` (second) -/
def bitwRefCx (w0 w1 A B C D : Cx R) : Cx R × Cx R × Cx R × Cx R :=
  let A1 := A + w0 * C
  let C1 := A - w0 * C
  let B1 := B + w0 * D
  let D1 := B - w0 * D
  (A1 + w1 * B1, A1 - w1 * B1, C1 + Cx.mulI w1 * D1, C1 - Cx.mulI w1 * D1)

theorem cxAt_pairView (d : Array R) (p : Nat) : cxAt d (2 * p) = ⟨(pairView 0 d p).1, (pairView 0 d p).2⟩ := rfl

end ring

end Cover
end Spq
