/-
  One call of a program, simulated once: `step_refines` for coefficient-space calls (`Prog.Op`) against `Prog.R`;
  `stepG_refines` for mixed programs (`Prog.OpD`) over `OpsSoundG c nn Γ`, which is `Prog.DftOpsSound` with a ghost
  annotation `γ : Γ` per `VEC_ZNX_DFT` object and consumer budgets (`vmpDD`, `idft`) that may read the concrete operand.
  The provenance of raw transforms (last conjunct of `Prog.RD`) is kept apart: `Prov` is an invariant of every module
  by itself (`prov_step`), and an instance that needs it asks for it in its `vmp_dd_budget`.
-/
import SpqProofs.Lemmas.ProgRaw
namespace Spq.Prog
open Spq Heap Spq.C08

variable {α : Type} {nn hsz : Nat} {vars : List Var}

theorem step_refines (wf : WF nn hsz vars) (op : Op) (env : Env) (h : Heap Int)
    (hpre : OpPre nn vars op env) (hR : R nn hsz vars env h) :
    R nn hsz vars (astep nn op env) (cstep nn op h) := by
  obtain ⟨⟨hd, hs, hok⟩, hfit, hin⟩ := hpre
  have hst := wf.stride op.dst hd
  have hres := inBounds_of_R wf hR op.dst hd _ (Nat.le_refl _)
  have src := fun a (ha : a ∈ vars) => srcOK_of_wf wf op.dst a hd ha
  have inb := fun a (ha : a ∈ vars) => inBounds_of_R wf hR a ha _ (Nat.min_le_left a.size op.dst.size)
  cases op with
  | add d a b =>
    have ha : a ∈ vars := hs a (by simp [Op.srcs])
    have hb : b ∈ vars := hs b (by simp [Op.srcs])
    exact R_post wf hR (.add d a b) hd (add_spec i64Ops nn h _ _ _ _ _ _ _ _ _ hst hres (src a ha) (src b hb))
      (add_no_fault i64Ops nn h _ _ _ _ _ _ _ _ _ hres (inb a ha) (inb b hb))
      fun i c hi hc => congrArg some (addVal_abs hR a b ha hb i c hc (hfit i c hi hc))
  | sub d a b =>
    have ha : a ∈ vars := hs a (by simp [Op.srcs])
    have hb : b ∈ vars := hs b (by simp [Op.srcs])
    exact R_post wf hR (.sub d a b) hd (sub_spec i64Ops nn h _ _ _ _ _ _ _ _ _ hst hres (src a ha) (src b hb))
      (sub_no_fault i64Ops nn h _ _ _ _ _ _ _ _ _ hres (inb a ha) (inb b hb))
      fun i c hi hc => congrArg some (subVal_abs hR a b ha hb i c hc (hfit i c hi hc))
  | negate d a =>
    have ha : a ∈ vars := hs a (by simp [Op.srcs])
    exact R_post wf hR (.negate d a) hd (negate_spec i64Ops nn h _ _ _ _ _ _ hst hres (src a ha))
      (negate_no_fault i64Ops nn h _ _ _ _ _ _ hres (inb a ha))
      fun i c hi hc => congrArg some (negVal_abs hR a ha i c hc (hfit i c hi hc))
  | copy d a =>
    have ha : a ∈ vars := hs a (by simp [Op.srcs])
    exact R_post wf hR (.copy d a) hd (copy_spec i64Ops nn h _ _ _ _ _ _ hst hres (src a ha))
      (copy_no_fault i64Ops nn h _ _ _ _ _ _ hres (inb a ha))
      fun i c _ hc => congrArg some (copyVal_abs hR a ha i c hc)
  | rotate p d a =>
    have ha : a ∈ vars := hs a (by simp [Op.srcs])
    have hn : 0 < nn := by obtain ⟨t, rfl⟩ := wf.pow2; exact Nat.pow_pos (by omega)
    exact R_post wf hR (.rotate p d a) hd (rotate_spec i64Ops nn p h _ _ _ _ _ _ hst hres (src a ha))
      (rotate_no_fault i64Ops nn p h _ _ _ _ _ _ hres (inb a ha))
      fun i c hi hc => rotLimb_abs hn hR p d a ha i c hc (hfit i c hi hc)
  | automorphism p d a =>
    obtain ⟨hp, hfuel⟩ := hok
    have ha : a ∈ vars := hs a (by simp [Op.srcs])
    refine R_post wf hR (.automorphism p d a) hd (automorphism_spec i64Ops nn p h _ _ _ _ _ _ hst hres (src a ha))
      (automorphism_no_fault i64Ops nn p h _ _ _ _ _ _ hres (inb a ha)) fun i c hi hc => ?_
    obtain ⟨t, rfl⟩ := wf.pow2
    refine autLimb_abs t hR p hp d a ha i c (fun hia e => ?_) hc (hfit i c hi hc)
    by_cases hda : d = a
    · have := hfuel hda
      exact (Nat.pow_le_pow_iff_right (by omega : 1 < 2)).1 (by simpa using this)
    · have hn : 0 < 2 ^ t := Nat.pow_pos (by omega)
      have := wf.disj d hd a ha hda i i hi hia
      omega
  | normalize k d a =>
    obtain ⟨hk1, hk2⟩ := hok
    have ha : a ∈ vars := hs a (by simp [Op.srcs])
    exact R_post wf hR (.normalize k d a) hd
      (C05.normalize_spec nn k hk1 hk2 h _ _ _ _ _ _ hst hres (src a ha)
        fun i c hi hc => by rw [getD_of_R hR a ha i c hi hc]; exact hin i c hi hc)
      (C05.normalize_no_fault nn k h _ _ _ _ _ _ hst hres (src a ha) (inBounds_of_R wf hR a ha _ (Nat.le_refl _)))
      fun i c _ hc => congrArg some (digitCell_abs hR k d a ha i c hc)

structure OpsSoundG (c : Module.Parts α) (nn : Nat) (Γ : Type) where
  RepV : Γ → Val → Nat → Array α → Prop
  RepS : Array Int → Array α → Prop
  RepM : Val → Nat → Nat → Array α → Prop
  dft_budget : Γ → Nat → Nat → (Nat → Nat → Int) → Prop
  svp_prepare_budget : (Nat → Int) → Prop
  svp_budget : Γ → Nat → Nat → (Nat → Nat → Int) → Array Int → Prop
  vmp_prepare_budget : Nat → Nat → (Nat → Nat → Int) → Prop
  vmp_budget : Γ → Nat → Nat → (Nat → Nat → Int) → Val → Nat → Nat → Prop
  /-- annotation and content of the operand, annotation claimed for the result, static tag of the operand -/
  vmp_dd_budget : Γ → Array α → Γ → Nat → Option Nat → Val → Nat → Val → Nat → Nat → Prop
  /-- annotation and content of the operand, its abstract value and limb count, limb count of the destination -/
  idft_budget : Γ → Array α → Val → Nat → Nat → Prop
  small_product_budget : (Nat → Int) → (Nat → Int) → Prop
  dft_exact : ∀ (γ : Γ) (x : Array Int) (asz asl rsz : Nat) (f : Nat → Nat → Int), nn ≤ asl → Agree nn x asz asl f →
    dft_budget γ rsz asz f → RepV γ (Val.mk nn rsz (zext asz f)) rsz (Module.vecDft c rsz x asz asl)
  svp_prepare_exact : ∀ (x : Array Int) (f : Nat → Int), (∀ t, t < nn → x.getD t 0 = f t) →
    svp_prepare_budget f → RepS (Array.ofFn (n := nn) fun t => f t.val) (Module.svpPrepare c x)
  svp_exact : ∀ (γ : Γ) (x : Array Int) (asz asl rsz : Nat) (f : Nat → Nat → Int) (sp : Array Int) (s : Array α),
    nn ≤ asl → Agree nn x asz asl f → RepS sp s → svp_budget γ rsz asz f sp →
    RepV γ (Val.mk nn rsz fun i c => polyMul nn (zext asz f i) (fun t => sp.getD t 0) c) rsz
      (Module.svpApply c rsz s x asz asl)
  vmp_prepare_exact : ∀ (x : Array Int) (nrows ncols : Nat) (f : Nat → Nat → Int),
    Agree nn x (nrows * ncols) nn f → vmp_prepare_budget nrows ncols f →
    RepM (Val.mk nn (nrows * ncols) f) nrows ncols (Module.vmpPrepare c x nrows ncols)
  vmp_exact : ∀ (γ : Γ) (x : Array Int) (asz asl rsz : Nat) (f : Nat → Nat → Int) (M : Val) (pm : Array α)
    (nrows ncols : Nat), nn ≤ asl → Agree nn x asz asl f → RepM M nrows ncols pm →
    vmp_budget γ rsz asz f M nrows ncols →
    RepV γ (Val.mk nn rsz (vmpVal nn asz (zext asz f) M nrows ncols)) rsz
      (Module.vmpApplyDft c rsz x asz asl pm nrows ncols)
  vmp_dd_exact : ∀ (γ γ' : Γ) (P : Val) (asz rsz : Nat) (d : Array α) (M : Val) (pm : Array α) (nrows ncols : Nat)
    (raw : Option Nat), RepV γ P asz d → RepM M nrows ncols pm → vmp_dd_budget γ d γ' rsz raw P asz M nrows ncols →
    RepV γ' (Val.mk nn rsz (vmpVal nn asz (zext asz fun i t => P.coef i t) M nrows ncols)) rsz
      (Module.vmpApplyDftToDft c rsz d asz pm nrows ncols)
  dft_idft_exact : ∀ (γ : Γ) (P : Val) (sz rsz : Nat) (d : Array α), RepV γ P sz d → idft_budget γ d P sz rsz →
    ∀ i t, i < rsz → t < nn →
      (Module.vecIdft c rsz d sz).getD (i * nn + t) 0 = zext sz (fun i t => P.coef i t) i t
  small_product_exact : ∀ (a b : Array Int) (fa fb : Nat → Int), (∀ t, t < nn → a.getD t 0 = fa t) →
    (∀ t, t < nn → b.getD t 0 = fb t) → small_product_budget fa fb →
    ∀ t, t < nn → (Module.smallProduct c a b).getD t 0 = polyMul nn fa fb t

variable {Γ : Type}

def gstep (o : OpD) (g : DVar → Γ) (γ : Γ) : DVar → Γ :=
  match o with
  | .dft d _ => upd g d γ
  | .svp d _ _ => upd g d γ
  | .vmp d _ _ => upd g d γ
  | .vmpDD d _ _ => upd g d γ
  | _ => g

/-- `PreD` over the annotated interface; `γ` is the annotation claimed for the result.  No `d ≠ x` for `vmpDD`: `cstepD`
    computes the result from the old content, the simulation does not need it. -/
def PreG {c : Module.Parts α} (S : OpsSoundG c nn Γ) (vars : List Var) (op : OpD) (a : AState) (g : DVar → Γ)
    (s : CState α) (γ : Γ) : Prop :=
  match op with
  | .coeff op => OpPre nn vars op a.env
  | .dft d x => x ∈ vars ∧ S.dft_budget γ d.size x.size (fun i t => (a.env x).coef i t)
  | .svpPrepare _ x => x ∈ vars ∧ 0 < x.size ∧ S.svp_prepare_budget (fun t => (a.env x).coef 0 t)
  | .svp d k x => x ∈ vars ∧ ∃ sp, a.ppol k = some sp ∧ S.svp_budget γ d.size x.size (fun i t => (a.env x).coef i t) sp
  | .vmpPrepare m x => x ∈ vars ∧ x.stride = nn ∧ x.size = m.nrows * m.ncols ∧
      S.vmp_prepare_budget m.nrows m.ncols (fun i t => (a.env x).coef i t)
  | .vmp d x m => x ∈ vars ∧ ∃ M, a.pmat m = some M ∧
      S.vmp_budget γ d.size x.size (fun i t => (a.env x).coef i t) M m.nrows m.ncols
  | .vmpDD d x m => ∃ P M, a.dvec x = some P ∧ a.pmat m = some M ∧
      S.vmp_dd_budget (g x) (s.dvec x) γ d.size (a.raw x) P x.size M m.nrows m.ncols
  | .idft d x => d ∈ vars ∧ ∃ P, a.dvec x = some P ∧ S.idft_budget (g x) (s.dvec x) P x.size d.size
  | .smallProduct d x y => d ∈ vars ∧ x ∈ vars ∧ y ∈ vars ∧ d.size = 1 ∧ 0 < x.size ∧ 0 < y.size ∧
      S.small_product_budget (fun t => (a.env x).coef 0 t) (fun t => (a.env y).coef 0 t)

/-- `RD` without the provenance conjunct; an object is represented at its annotation `g v` -/
def RG {c : Module.Parts α} (S : OpsSoundG c nn Γ) (hsz : Nat) (vars : List Var)
    (a : AState) (g : DVar → Γ) (s : CState α) : Prop :=
  R nn hsz vars a.env s.heap ∧
  (∀ v P, a.dvec v = some P → S.RepV (g v) P v.size (s.dvec v)) ∧
  (∀ k sp, a.ppol k = some sp → S.RepS sp (s.ppol k)) ∧
  (∀ m M, a.pmat m = some M → S.RepM M m.nrows m.ncols (s.pmat m))

theorem stepG_refines {c : Module.Parts α} (S : OpsSoundG c nn Γ) (wf : WF nn hsz vars)
    (op : OpD) (a : AState) (g : DVar → Γ) (s : CState α) (γ : Γ)
    (hpre : PreG S vars op a g s γ) (hR : RG S hsz vars a g s) :
    RG S hsz vars (astepD nn op a) (gstep op g γ) (cstepD c nn op s) := by
  obtain ⟨r1, r2, r3, r4⟩ := hR
  have wr := fun (d : DVar) (P0 : Val) (x0 : Array α) (h0 : S.RepV γ P0 d.size x0) =>
    upd_rel (fun (v : DVar) (γ : Γ) (P : Val) (y : Array α) => S.RepV γ P v.size y) r2 d P0 x0 γ h0
  cases op with
  | coeff op => exact ⟨step_refines wf op a.env s.heap hpre r1, r2, r3, r4⟩
  | dft d x =>
    obtain ⟨hx, hb⟩ := hpre
    exact ⟨r1, wr d _ _ (S.dft_exact γ _ _ _ _ _ (wf.stride x hx) (flat_agree wf r1 x hx) hb), r3, r4⟩
  | svpPrepare k x =>
    obtain ⟨hx, h0, hb⟩ := hpre
    refine ⟨r1, r2, upd_rel (fun (_ : Nat) (_ : Unit) (sp : Array Int) (y : Array α) => S.RepS sp y) (e := fun _ => ())
      r3 k _ _ () ?_, r4⟩
    have := S.svp_prepare_exact _ _ (fun t ht => flat_limb0 wf r1 x hx h0 t ht) hb
    simpa [Prog.ext, h0] using this
  | svp d k x =>
    obtain ⟨hx, sp, hk, hb⟩ := hpre
    refine ⟨r1, ?_, r3, r4⟩
    simp only [astepD, cstepD, gstep, hk, Option.getD_some]
    exact wr d _ _ (S.svp_exact γ _ _ _ _ _ sp _ (wf.stride x hx) (flat_agree wf r1 x hx) (r3 k sp hk) hb)
  | vmpPrepare m x =>
    obtain ⟨hx, hst, hsz', hb⟩ := hpre
    refine ⟨r1, r2, r3, upd_rel (fun (m : MVar) (_ : Unit) (Mv : Val) (y : Array α) => S.RepM Mv m.nrows m.ncols y)
      (e := fun _ => ()) r4 m _ _ () ?_⟩
    have ag := flat_agree wf r1 x hx
    rw [hst, hsz'] at ag
    rw [mk_ext_eq a.env x _ (Nat.le_of_eq hsz'.symm)]
    exact S.vmp_prepare_exact _ _ _ _ ag hb
  | vmp d x m =>
    obtain ⟨hx, M, hm, hb⟩ := hpre
    refine ⟨r1, ?_, r3, r4⟩
    simp only [astepD, cstepD, gstep, hm, Option.getD_some]
    exact wr d _ _
      (S.vmp_exact γ _ _ _ d.size _ M _ m.nrows m.ncols (wf.stride x hx) (flat_agree wf r1 x hx) (r4 m M hm) hb)
  | vmpDD d x m =>
    obtain ⟨P, M, hP, hm, hb⟩ := hpre
    refine ⟨r1, ?_, r3, r4⟩
    simp only [astepD, cstepD, gstep, hP, hm, Option.getD_some]
    exact wr d _ _
      (S.vmp_dd_exact (g x) γ P x.size d.size (s.dvec x) M _ m.nrows m.ncols (a.raw x) (r2 x P hP) (r4 m M hm) hb)
  | idft d x =>
    obtain ⟨hd, P, hP, hb⟩ := hpre
    refine ⟨?_, r2, r3, r4⟩
    simp only [astepD, cstepD, hP, Option.getD_some]
    exact R_storeVec wf r1 d hd _ _ (S.dft_idft_exact (g x) P x.size d.size (s.dvec x) (r2 x P hP) hb)
  | smallProduct d x y =>
    obtain ⟨hd, hx, hy, hd1, hx0, hy0, hb⟩ := hpre
    refine ⟨?_, r2, r3, r4⟩
    simp only [astepD, cstepD]
    refine R_storeVec wf r1 d hd _ _ (fun i t hi ht => ?_)
    obtain rfl : i = 0 := by omega
    rw [Nat.zero_mul, Nat.zero_add, S.small_product_exact _ _ _ _ (fun t ht => flat_limb0 wf r1 x hx hx0 t ht)
      (fun t ht => flat_limb0 wf r1 y hy hy0 t ht) hb t ht,
      funext fun t => (ext_of_lt a.env x 0 t hx0), funext fun t => (ext_of_lt a.env y 0 t hy0)]

/-- a tagged `VEC_ZNX_DFT` object is, bit for bit, `vec_znx_dft` of its exact limbs (the last conjunct of `RD`) -/
def Prov (c : Module.Parts α) (nn : Nat) (a : AState) (s : CState α) : Prop :=
  ∀ v az, a.raw v = some az → ∃ P, a.dvec v = some P ∧
    s.dvec v = Module.vecDft c v.size (flatOf nn v.size fun i t => P.coef i t) (min az v.size) nn

/-- every call of every module keeps it: `dft` establishes it, the products clear the tag -/
theorem prov_step (c : Module.Parts α) (hnn : c.nn = nn) (wf : WF nn hsz vars) (op : OpD) (a : AState) (s : CState α)
    (hx : ∀ d x, op = .dft d x → x ∈ vars) (r1 : R nn hsz vars a.env s.heap) (r5 : Prov c nn a s) :
    Prov c nn (astepD nn op a) (cstepD c nn op s) := by
  have clear : ∀ (d : DVar) (P0 : Val) (x0 : Array α) (v : DVar) (az : Nat),
      upd a.raw d none v = some az → ∃ P, upd a.dvec d (some P0) v = some P ∧
        upd s.dvec d x0 v = Module.vecDft c v.size (flatOf nn v.size fun i t => P.coef i t) (min az v.size) nn := by
    intro d P0 x0 v az hv
    by_cases e : v = d
    · subst e
      rw [upd_same] at hv
      cases hv
    · rw [upd_other _ _ _ _ e] at hv
      rw [upd_other _ _ _ _ e, upd_other _ _ _ _ e]
      exact r5 v az hv
  cases op with
  | dft d x =>
    intro v az hv
    by_cases e : v = d
    · subst e
      simp only [astepD, cstepD, upd_same] at hv ⊢
      cases hv
      exact ⟨_, rfl, vecDft_raw c nn hnn v.size _ x.size x.stride _ (flat_agree wf r1 x (hx _ _ rfl))⟩
    · simp only [astepD, cstepD, upd_other _ _ _ _ e] at hv ⊢
      exact r5 v az hv
  | svp d k x => exact clear d _ _
  | vmp d x m => exact clear d _ _
  | vmpDD d x m => exact clear d _ _
  | _ => exact r5

/-- no annotation, budgets blind to the operand, except that `vmpDD` asks for the provenance of a tagged operand -/
def OpsSoundG.ofSound {c : Module.Parts α} (S : DftOpsSound c nn) : OpsSoundG c nn Unit where
  RepV _ := S.RepV
  RepS := S.RepS
  RepM := S.RepM
  dft_budget _ := S.dft_budget
  svp_prepare_budget := S.svp_prepare_budget
  svp_budget _ := S.svp_budget
  vmp_prepare_budget := S.vmp_prepare_budget
  vmp_budget _ := S.vmp_budget
  vmp_dd_budget _ d _ rsz raw P asz M nrows ncols :=
    (∀ az, raw = some az → d = Module.vecDft c asz (flatOf nn asz fun i t => P.coef i t) (min az asz) nn) ∧
    S.vmp_dd_budget rsz raw P asz M nrows ncols
  idft_budget _ _ P sz _ := S.idft_budget P sz
  small_product_budget := S.small_product_budget
  dft_exact _ := S.dft_exact
  svp_prepare_exact := S.svp_prepare_exact
  svp_exact _ := S.svp_exact
  vmp_prepare_exact := S.vmp_prepare_exact
  vmp_exact _ := S.vmp_exact
  vmp_dd_exact _ _ P asz rsz d M pm nrows ncols raw hP hM hb :=
    S.vmp_dd_exact P asz rsz d M pm nrows ncols raw hP hb.1 hM hb.2
  dft_idft_exact _ P sz rsz d hP hb := S.dft_idft_exact P sz rsz d hP hb
  small_product_exact := S.small_product_exact

theorem preG_of_preD {c : Module.Parts α} (S : DftOpsSound c nn) (op : OpD) (a : AState) (s : CState α)
    (hpre : PreD S vars op a) (r5 : Prov c nn a s) : PreG (OpsSoundG.ofSound S) vars op a (fun _ => ()) s () := by
  cases op with
  | vmpDD d x m =>
    obtain ⟨-, P, M, hP, hm, hb⟩ := hpre
    refine ⟨P, M, hP, hm, fun az haz => ?_, hb⟩
    obtain ⟨P', hP', hd⟩ := r5 x az haz
    rw [hP] at hP'
    cases hP'
    exact hd
  | _ => exact hpre

end Spq.Prog
