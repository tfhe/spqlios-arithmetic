/-
  Non-vacuity witness (`k = 2`, `m = 4`, `N = 8`): the STORED twiddle tables and their accuracy.

  The binary64 patterns below are what `new_reim_fft_precomp(4)` / `new_reim_ifft_precomp(4)` of the library store
  (read from the running library; the same eight patterns open the `m = 8` tables):
     forward  `[cos(π/4), sin(π/4), cos(π/8), sin(π/8)]`   = `[pC4, pS4, pC8, pS8]`
     inverse  `[cos(π/8), −sin(π/8), cos(π/4), −sin(π/4)]` = `[pC8, pNS8, pC4, pNS4]`.
  Measured distance from the exact values, in units of `u = 2^-53`:
     `pC4: +0.435`, `pS4: −0.565` (NOT the correctly rounded `√2/2`: the library evaluates `sin(2π·0.125)`),
     `pC8: −0.159`, `pS8: +0.091`.   Proved here: every component is within `1u`, hence every stored pair is within
  `√2·u < 3.5u` of `ζ^e` as a complex number — `hcs`/`hcsi` in exactly the form required by C06Err/C01Err/C02Err/C16Err.

  The network of `m = 4` uses the exponents `twE 0 1 0 = 2`, `twE 1 0 0 = 1`, `twE 1 0 1 = 5`.  Exponent `5` is NOT in the
  table (`reimFftEnts 4` holds exponents 2 and 1 only): the kernel runs the `i·ω` butterfly with the entry of exponent 1.
  The theorems nevertheless ask `hcs` for it; it is satisfied by the virtual entry `(cN 5, sN 5) = (−sN 1, cN 1)`.
-/
import SpqProofs.Lemmas.ErrWitnessRoot
namespace Spq.ErrWitness
open Spq.Fft Spq.Fft.Alg Spq.Fft.SchedN Spq.FftErr Spq.F64

def pC4 : ℕ := 4604544271217802189   -- 0.70710678118654757
def pS4 : ℕ := 4604544271217802188   -- 0.70710678118654746
def pC8 : ℕ := 4606496786581982534   -- 0.92387953251128674
def pS8 : ℕ := 4600565431771507043   -- 0.38268343236508978
def pNS8 : ℕ := 13823937468626282851 -- −0.38268343236508978
def pNS4 : ℕ := 13827916308072577996 -- −0.70710678118654746
def pNC8 : ℕ := 13829868823436758342 -- −0.92387953251128674 (virtual: exponent 5 of the inverse table)

/-- forward table, by exponent -/
def cN (e : ℕ) : ℕ := if e = 1 then pC8 else if e = 2 then pC4 else if e = 5 then pNS8 else 0
def sN (e : ℕ) : ℕ := if e = 1 then pS8 else if e = 2 then pS4 else if e = 5 then pC8 else 0
/-- inverse table, by exponent (kind 2 entries, `−sin`, are read through `sNi`) -/
def cNi (e : ℕ) : ℕ := if e = 1 then pC8 else if e = 2 then pC4 else if e = 5 then pNS8 else 0
def sNi (e : ℕ) : ℕ := if e = 1 then pNS8 else if e = 2 then pNS4 else if e = 5 then pNC8 else 0

/-- the table the theorems talk about IS the table the library stores for `m = 4` (forward) -/
theorem tabF_lib : ((reimFftEnts (2 ^ 2)).map (valP cN sN)).toArray =
    #[4604544271217802189, 4604544271217802188, 4606496786581982534, 4600565431771507043] := by decide

/-- … and inverse -/
theorem tabI_lib : ((reimIfftEnts (2 ^ 2)).map (valP cNi sNi)).toArray =
    #[4606496786581982534, 13823937468626282851, 4604544271217802189, 13827916308072577996] := by decide

theorem val_pos_pat (b m : ℕ) (e : ℤ) (h : decode b = ⟨false, m, e⟩) : val b = (m : ℚ) * 2 ^ e := by
  rw [val_of_decode h]; simp [sv, sI]

theorem val_neg_pat (b m : ℕ) (e : ℤ) (h : decode b = ⟨true, m, e⟩) : val b = -((m : ℚ) * 2 ^ e) := by
  rw [val_of_decode h]; simp [sv, sI]

theorem val_pC4 : val pC4 = 6369051672525773 / 9007199254740992 := by
  rw [val_pos_pat pC4 6369051672525773 (-53) rfl]; norm_num
theorem val_pS4 : val pS4 = 6369051672525772 / 9007199254740992 := by
  rw [val_pos_pat pS4 6369051672525772 (-53) rfl]; norm_num
theorem val_pC8 : val pC8 = 8321567036706118 / 9007199254740992 := by
  rw [val_pos_pat pC8 8321567036706118 (-53) rfl]; norm_num
theorem val_pS8 : val pS8 = 6893811853601123 / 18014398509481984 := by
  rw [val_pos_pat pS8 6893811853601123 (-54) rfl]; norm_num
theorem val_pNS8 : val pNS8 = -(6893811853601123 / 18014398509481984) := by
  rw [val_neg_pat pNS8 6893811853601123 (-54) rfl]; norm_num
theorem val_pNS4 : val pNS4 = -(6369051672525772 / 9007199254740992) := by
  rw [val_neg_pat pNS4 6369051672525772 (-53) rfl]; norm_num
theorem val_pNC8 : val pNC8 = -(8321567036706118 / 9007199254740992) := by
  rw [val_neg_pat pNC8 8321567036706118 (-53) rfl]; norm_num

theorem close_of_encl {p : ℕ} {q : ℚ} {x lo hi : ℝ} (hv : val p = q) (h : lo ≤ x ∧ x ≤ hi)
    (h1 : (q : ℝ) - 1 / 9007199254740992 ≤ lo) (h2 : hi ≤ (q : ℝ) + 1 / 9007199254740992) :
    |((val p : ℚ) : ℝ) - x| ≤ 1 / 9007199254740992 := by
  rw [hv, abs_le]; constructor <;> linarith [h.1, h.2]

theorem half_sqrt2_encl :
    (6369051672525772 / 9007199254740992 : ℝ) ≤ √2 / 2 ∧ √2 / 2 ≤ 6369051672525773 / 9007199254740992 :=
  cs4_encl _ _ (by norm_num) (by norm_num) (by norm_num)

theorem close_C8 : |(((val pC8 : ℚ)) : ℝ) - Real.cos (Real.pi / 8)| ≤ 1 / 9007199254740992 :=
  close_of_encl val_pC8 (cos8_encl (8321567036706117 / 9007199254740992) (8321567036706119 / 9007199254740992)
    (by norm_num) (by norm_num) (by norm_num) (by norm_num)) (by norm_num) (by norm_num)

theorem close_S8 : |(((val pS8 : ℚ)) : ℝ) - Real.sin (Real.pi / 8)| ≤ 1 / 9007199254740992 :=
  close_of_encl val_pS8 (sin8_encl (6893811853601121 / 18014398509481984) (6893811853601125 / 18014398509481984)
    (by norm_num) (by norm_num) (by norm_num) (by norm_num)) (by norm_num) (by norm_num)

theorem close_C4 : |(((val pC4 : ℚ)) : ℝ) - Real.cos (Real.pi / 4)| ≤ 1 / 9007199254740992 := by
  rw [Real.cos_pi_div_four]
  exact close_of_encl val_pC4 half_sqrt2_encl (by norm_num) (by norm_num)

theorem close_S4 : |(((val pS4 : ℚ)) : ℝ) - Real.sin (Real.pi / 4)| ≤ 1 / 9007199254740992 := by
  rw [Real.sin_pi_div_four]
  exact close_of_encl val_pS4 half_sqrt2_encl (by norm_num) (by norm_num)

theorem close_neg {a b : ℕ} {q : ℚ} {x : ℝ} (ha : val a = q) (hb : val b = -q)
    (h : |((val a : ℚ) : ℝ) - x| ≤ 1 / 9007199254740992) : |((val b : ℚ) : ℝ) - -x| ≤ 1 / 9007199254740992 := by
  rw [hb, ← ha, ← abs_neg]
  refine le_of_eq_of_le (congrArg _ ?_) h
  push_cast; ring

/-- two components within `1u` ⇒ the pair is within `3.5u` as a complex number (`2 ≤ 12.25`) -/
theorem pair_close (C S c s : ℝ) (hc : |C - c| ≤ 1 / 9007199254740992) (hs : |S - s| ≤ 1 / 9007199254740992) :
    nsq (toC (C, S) - (⟨c, s⟩ : Cplx ℝ)) ≤ (((7 / 2 * u64 : ℚ)) : ℝ) ^ 2 := by
  have hu : (((7 / 2 * u64 : ℚ)) : ℝ) = 7 / 2 * (1 / 9007199254740992) := by
    unfold u64; push_cast; norm_num
  rw [hu]
  simp only [nsq, toC, QuadraticAlgebra.re_sub, QuadraticAlgebra.im_sub]
  have h1 : (C - c) ^ 2 ≤ (1 / 9007199254740992) ^ 2 := by
    rw [← sq_abs]; exact pow_le_pow_left₀ (abs_nonneg _) hc 2
  have h2 : (S - s) ^ 2 ≤ (1 / 9007199254740992) ^ 2 := by
    rw [← sq_abs]; exact pow_le_pow_left₀ (abs_nonneg _) hs 2
  exact (add_le_add h1 h2).trans (by norm_num)

theorem tw1 : nsq (toC (((val (cN 1) : ℚ) : ℝ), ((val (sN 1) : ℚ) : ℝ)) - zeta ^ 1) ≤ (((7 / 2 * u64 : ℚ)) : ℝ) ^ 2 := by
  rw [zeta_pow1]; exact pair_close _ _ _ _ close_C8 close_S8
theorem tw2 : nsq (toC (((val (cN 2) : ℚ) : ℝ), ((val (sN 2) : ℚ) : ℝ)) - zeta ^ 2) ≤ (((7 / 2 * u64 : ℚ)) : ℝ) ^ 2 := by
  rw [zeta_pow2]; exact pair_close _ _ _ _ close_C4 close_S4
theorem tw5 : nsq (toC (((val (cN 5) : ℚ) : ℝ), ((val (sN 5) : ℚ) : ℝ)) - zeta ^ 5) ≤ (((7 / 2 * u64 : ℚ)) : ℝ) ^ 2 := by
  rw [zeta_pow5]; exact pair_close _ _ _ _ (close_neg val_pS8 val_pNS8 close_S8) close_C8

theorem twE_cases (ℓ d b : ℕ) (h : ℓ + d + 1 = 2) (hb : b < 2 ^ ℓ) : twE ℓ d b = 2 ∨ twE ℓ d b = 1 ∨ twE ℓ d b = 5 := by
  obtain rfl | rfl : ℓ = 0 ∨ ℓ = 1 := by omega
  · obtain rfl : d = 1 := by omega
    obtain rfl : b = 0 := by simpa using hb
    left; decide
  · obtain rfl : d = 0 := by omega
    obtain rfl | rfl : b = 0 ∨ b = 1 := by norm_num at hb; omega
    · right; left; decide
    · right; right; decide

/-- **`hcs`** for the stored forward table of `m = 4`, in the form the theorems require -/
theorem hcs4 : ∀ ℓ d b, ℓ + d + 1 = 2 → b < 2 ^ ℓ →
    nsq (toC (((val (cN (twE ℓ d b)) : ℚ) : ℝ), ((val (sN (twE ℓ d b)) : ℚ) : ℝ)) - zeta ^ twE ℓ d b) ≤
      (((7 / 2 * u64 : ℚ)) : ℝ) ^ 2 := by
  intro ℓ d b h hb
  rcases twE_cases ℓ d b h hb with e | e | e <;> rw [e]
  exacts [tw2, tw1, tw5]

theorem conj_close {c s ci si : ℕ} (hc : ci = c) (hs : val si = -val s) (z : Cplx ℝ) (B : ℝ)
    (h : nsq (toC (((val c : ℚ) : ℝ), ((val s : ℚ) : ℝ)) - z) ≤ B) :
    nsq (toC (((val ci : ℚ) : ℝ), ((val si : ℚ) : ℝ)) - ⟨z.re, -z.im⟩) ≤ B := by
  refine le_of_eq_of_le ?_ h
  simp only [nsq, toC, QuadraticAlgebra.re_sub, QuadraticAlgebra.im_sub, hc, hs]
  push_cast; ring

theorem val_sNi (e : ℕ) : val (sNi e) = -val (sN e) := by
  unfold sNi sN
  split_ifs
  · rw [val_pNS8, val_pS8]
  · rw [val_pNS4, val_pS4]
  · rw [val_pNC8, val_pC8]
  · rw [val_zero, neg_zero]

/-- **`hcsi`** for the stored inverse table of `m = 4`: `hcs4`, conjugated -/
theorem hcsi4 : ∀ ℓ d b, ℓ + d + 1 = 2 → b < 2 ^ ℓ →
    nsq (toC (((val (cNi (twE ℓ d b)) : ℚ) : ℝ), ((val (sNi (twE ℓ d b)) : ℚ) : ℝ)) - zetai ^ twE ℓ d b) ≤
      (((7 / 2 * u64 : ℚ)) : ℝ) ^ 2 := by
  intro ℓ d b h hb
  rw [zetai_pow]
  exact conj_close rfl (val_sNi _) _ _ (hcs4 ℓ d b h hb)

end Spq.ErrWitness
