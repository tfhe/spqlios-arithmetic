/-
  C02 rounding budget, assembly per output column: `vmp_exact_col` (`Esum < 1/2` ⇒ the computed column is exact),
  `vmp_zero_col` (columns beyond the matrix, beyond the DFT vector, or — `nn < 8` — without a usable row are exactly
  zero).
-/
import SpqProofs.Lemmas.VmpErrZero
namespace Spq.VmpErr
open Finset Spq Spq.Module Spq.Fft Spq.Fft.Alg Spq.FftErr Spq.F64 Spq.Reim4 Spq.ProdErr Spq.C06Err Spq.Conv
variable {K : Type} [Field K] [LinearOrder K] [IsStrictOrderedRing K]

theorem vmp_exact_col (c : Cfg) (k : ℕ) (hk : k ≤ 16) (cN sN cNi sNi : ℕ → ℕ) (h : VCfgOk c k cN sN cNi sNi)
    (ζ ζi : Cplx K) (hζ : nsq ζ = 1) (hI : ζ ^ 2 ^ k = Ic) (hinv : ζ * ζi = 1)
    (hcs : ∀ ℓ d b, ℓ + d + 1 = k → b < 2 ^ ℓ →
      nsq (toC (((val (cN (twE ℓ d b)) : ℚ) : K), ((val (sN (twE ℓ d b)) : ℚ) : K)) - ζ ^ twE ℓ d b) ≤
        (((7 / 2 * u64 : ℚ)) : K) ^ 2)
    (hcsi : ∀ ℓ d b, ℓ + d + 1 = k → b < 2 ^ ℓ →
      nsq (toC (((val (cNi (twE ℓ d b)) : ℚ) : K), ((val (sNi (twE ℓ d b)) : ℚ) : K)) - ζi ^ twE ℓ d b) ≤
        (((7 / 2 * u64 : ℚ)) : K) ^ 2)
    (mat : Array Int) (nrows ncols : ℕ) (a : Array Int) (asz asl rsz rsz2 : ℕ)
    (hn : 2 * min nrows asz + 2 ≤ 67108864)
    (hA : ∀ i, i < min nrows asz → Box k (limbOf a i asl (2 * 2 ^ k)))
    (hM : ∀ i j, i < nrows → j < ncols → Box k (matEntry mat ncols (2 * 2 ^ k) i j))
    (j : ℕ) (hj : j < min ncols rsz) (hj2 : j < rsz2) (hpos : k < 2 → 0 < min nrows asz)
    (hok : VmpOk c k cN sN cNi sNi mat nrows ncols a asz asl rsz j)
    (na nb : ℕ → K) (hna0 : ∀ i, i < min nrows asz → 0 ≤ na i) (hnb0 : ∀ i, i < min nrows asz → 0 ≤ nb i)
    (hna : ∀ i, i < min nrows asz → n2sq K (limbOf a i asl (2 * 2 ^ k)) (2 * 2 ^ k) ≤ na i ^ 2)
    (hnb : ∀ i, i < min nrows asz → n2sq K (matEntry mat ncols (2 * 2 ^ k) i j) (2 * 2 ^ k) ≤ nb i ^ 2)
    (hnl : ∀ i, i < min nrows asz → nb i ≤ n1 K (matEntry mat ncols (2 * 2 ^ k) i j) (2 * 2 ^ k))
    (hE : Esum K k mat nrows ncols a asz asl j na nb < 1 / 2) :
    dlimb (vecIdft (Cfg.parts c) rsz2 (vmpRes c mat nrows ncols a asz asl rsz) rsz) j (2 * 2 ^ k) =
      colSpec k mat nrows ncols a asz asl j := by
  obtain ⟨hcb, hout⟩ := col_out ⟨c, k, cN, sN, cNi, sNi, h.cfg, ζ, ζi, hζ, hI, hinv, hcs, hcsi⟩ (by show k ≤ 961; omega) h
    mat nrows ncols a asz asl rsz rsz2 hA hM j hj hj2 hpos hok na nb (fun i hi => ⟨hna0 i hi, hna i hi⟩)
    (fun i hi => ⟨hnb0 i hi, hnb i hi⟩) hnl
  have hle := vbudget_le (K := K) k hk mat nrows ncols a asz asl j hn na nb hna0 hnb0
  have hdom : VOutDom K c k mat nrows ncols a asz asl j na nb := fun t ht =>
    dom_of_small _ ((12 * (k + 1 : ℚ) + 2 * (min nrows asz : ℕ) + 3) * u64)
      (by have := coef12_le k (2 * (min nrows asz : ℕ) + 3) (by positivity); linarith) _ _ _
      (sumS_nonneg k mat nrows ncols a asz asl j na nb hna0 hnb0) (hcb t ht) hle hE
  have hjr : j < rsz := lt_of_lt_of_le hj (Nat.min_le_right _ _)
  apply array_eq_of_cells (2 * 2 ^ k)
  · rw [idft_limb c k h.cfg.nn h.cfg.toVar rsz2 _ rsz j hj2, if_pos hjr]
    exact toZnx_size c k h.cfg.nn h.cfg.toVar _
  · unfold colSpec; exact size_isum _ _ _
  · intro t ht
    obtain ⟨r, h1, h2⟩ := hout hdom t ht
    refine ⟨r, h1, int_eq_of_lt_one (K := K) r _ ?_⟩
    linarith

theorem vmp_zero_col (c : Cfg) (k : ℕ) (hk : k ≤ 961) (cN sN cNi sNi : ℕ → ℕ) (h : VCfgOk c k cN sN cNi sNi)
    (mat : Array Int) (nrows ncols : ℕ) (a : Array Int) (asz asl rsz rsz2 : ℕ)
    (hM : ∀ i j, i < nrows → j < ncols → Box k (matEntry mat ncols (2 * 2 ^ k) i j))
    (j : ℕ) (hj2 : j < rsz2) (hz : min ncols rsz ≤ j ∨ (k < 2 ∧ min nrows asz = 0)) :
    dlimb (vecIdft (Cfg.parts c) rsz2 (vmpRes c mat nrows ncols a asz asl rsz) rsz) j (2 * 2 ^ k) =
      Array.replicate (2 * 2 ^ k) 0 := by
  have hnn : (Cfg.parts c).nn = 2 * 2 ^ k := h.cfg.nn
  rw [idft_limb c k h.cfg.nn h.cfg.toVar rsz2 _ rsz j hj2]
  by_cases hjr : j < rsz
  · rw [if_pos hjr]
    have hsz := vmpRes_size c k cN sN cNi sNi h mat nrows ncols a asz asl rsz hM
    apply zero_col_out c k hk cN sN cNi sNi h.cfg _ (dlimb_size _ j _ rsz hsz hjr)
    intro p hp
    rw [dlimb_get 0 _ j (2 * 2 ^ k) p hp]
    obtain ⟨_, _, z1, z2⟩ := vmp_layout_g (Cfg.parts c) (p_hnn c k cN sN cNi sNi h) (p_hblk c k cN sN cNi sNi h)
      (p_hsm c k cN sN cNi sNi h) mat nrows ncols rsz asz (vecDft (Cfg.parts c) (min nrows asz) a asz asl)
      (fun _ => matDft_size c k cN sN cNi sNi h mat nrows ncols hM)
    rcases hz with hz | ⟨hk2, hz⟩
    · have := z1 j p hz
      rw [hnn] at this
      exact this
    · have h8 : (Cfg.parts c).nn < 8 := by
        rw [hnn]
        have : k = 0 ∨ k = 1 := by omega
        rcases this with rfl | rfl <;> norm_num
      exact z2 h8 hz _
  · rw [if_neg hjr]

end Spq.VmpErr
