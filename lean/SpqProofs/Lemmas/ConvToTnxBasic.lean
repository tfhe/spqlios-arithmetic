/-
  `reim_to_tnx_basic_ref`: `ri = x/d; r = ri - rint(ri)`.  The subtraction `y - rint(y)` is exact for every
  double `y` (`sub_rint_exact`), so `r = x/d − n` exactly whenever the quotient `x/d` is exact (it is unless it
  underflows: `toScaled_div_pow2`).
-/
import SpqProofs.Lemmas.ConvToZnx

namespace Spq.Conv
open Spq.F64

theorem sub_rint_exact {y : Nat} (hy64 : y < 18446744073709551616) :
    ∃ n : Int, toScaled (F64.sub y (rint y)) = toScaled y - n * 2 ^ 1074 ∧
      2 * |toScaled (F64.sub y (rint y))| ≤ 2 ^ 1074 := by
  obtain ⟨s, m, e, hy, hm, he0, -⟩ := exists_decode y
  have hys : toScaled y = sI s m * 2 ^ ((e + 1074).toNat) := toScaled_of_decode' hy
  rcases Int.lt_or_le e 0 with hneg | hnn
  · -- `rint y = ±q`, `q = rne m kk`; the difference `±(m − q·2^kk)·2^e` is a multiple of the unit of `y` not above `|y|`
    obtain ⟨kk, hkk⟩ : ∃ kk : Nat, (kk : Int) = -e := ⟨(-e).toNat, by omega⟩
    have hkk' : (-e).toNat = kk := by omega
    obtain ⟨a, ha⟩ : ∃ a : Nat, (a : Int) = e + 1074 := ⟨(e + 1074).toNat, by omega⟩
    have ha' : (e + 1074).toNat = a := by omega
    have key : ∀ n, kk + a = n → (2 : Int) ^ n = 2 ^ kk * 2 ^ a := fun n hn => by rw [← hn, pow_add]
    have h1074 := key 1074 (by omega)
    have hPa : (0 : Int) < 2 ^ a := by positivity
    obtain ⟨hr64, hr⟩ := toScaled_rint_neg hy hneg hm
    rw [hkk'] at hr
    rw [ha'] at hys
    have hD : toScaled y - toScaled (rint y) = (sI s m - sI s (rne m kk * 2 ^ kk)) * 2 ^ a := by
      rw [hys, hr, h1074, ← sI_mul_pow]; ring
    have habs : |sI s m - sI s (rne m kk * 2 ^ kk)| = |(m : Int) - (rne m kk : Int) * 2 ^ kk| := by
      have := sI_mul_sub s m (rne m kk * 2 ^ kk) 1 1
      simpa using this
    have hw : (sI s m - sI s (rne m kk * 2 ^ kk)).natAbs < 9007199254740992 := by
      have := rne_dist_le m kk
      rw [← habs, Int.abs_eq_natAbs] at this
      omega
    have hex := toScaled_sub_exact y (rint y) hr64 (hD ▸ Rep64.mul_pow hw a (by omega))
    refine ⟨sI s (rne m kk), by rw [hex, hr], ?_⟩
    rw [hex, hD, abs_mul, abs_of_pos hPa, habs, h1074, ← mul_assoc]
    rw [abs_sub_comm]
    exact mul_le_mul_of_nonneg_right (rne_err_abs m kk) hPa.le
  · -- y is an integer: rint y = y, y - y = 0
    rw [rint_of_decode_nonneg hy hnn, toScaled_sub_exact y y hy64 (by rw [sub_self]; exact Rep64.of_small (by norm_num)),
      sub_self]
    refine ⟨sI s m * 2 ^ e.toNat, ?_, by rw [abs_zero, mul_zero]; positivity⟩
    rw [hys]
    have : (e + 1074).toNat = e.toNat + 1074 := by omega
    rw [this, pow_add]
    generalize (2 : Int) ^ 1074 = P
    ring

/-- division by `2^j` is exact when the quotient neither underflows (`x = 0` or `|x/d| ≥ 2^-1022`) nor reaches `2^1000` -/
theorem toScaled_div_pow2 (j : Int) (hj1 : -1022 ≤ j) (hj2 : j ≤ 1023) (x : Nat)
    (hnz : toScaled x = 0 ∨ toScaled (pow2 j) ≤ |toScaled x| * 2 ^ 1022)
    (hup : |toScaled x| < 2 ^ 1000 * toScaled (pow2 j)) :
    F64.div x (pow2 j) < 18446744073709551616 ∧
      toScaled (F64.div x (pow2 j)) * toScaled (pow2 j) = toScaled x * 2 ^ 1074 := by
  obtain ⟨sx, mx, ex, hx, hmx, he0, he1⟩ := exists_decode x
  have hd := decode_pow2 j hj1 hj2
  obtain ⟨a, ha⟩ : ∃ a : Nat, (a : Int) = ex + 1074 := ⟨(ex + 1074).toNat, by omega⟩
  obtain ⟨b, hb⟩ : ∃ b : Nat, (b : Int) = j + 1074 := ⟨(j + 1074).toNat, by omega⟩
  have hxs : toScaled x = sI sx mx * 2 ^ a := by rw [toScaled_of_decode' hx]; congr 2; omega
  have hds : toScaled (pow2 j) = 2 ^ b := by rw [toScaled_pow2 j hj1 hj2]; congr 1; omega
  by_cases hm0 : mx = 0
  · subst hm0
    have hri : F64.div x (pow2 j) = sgn sx := by
      unfold F64.div
      simp only [hx, hd]
      have h1 : ((4503599627370496 : Nat) == 0) = false := by rfl
      have hs : (sx != false) = sx := by cases sx <;> rfl
      rw [h1, hs]
      simp only [Bool.false_eq_true, if_false, beq_self_eq_true, if_true]
      rfl
    rw [hri]
    refine ⟨by cases sx <;> simp [sgn], ?_⟩
    rw [toScaled_sgn, hxs, sI_zero, zero_mul, zero_mul, zero_mul]
  · have hxabs : |toScaled x| = ((mx * 2 ^ a : Nat) : Int) := by rw [hxs, sI_mul_pow, abs_sI]
    have hmpos : 0 < mx := Nat.pos_of_ne_zero hm0
    -- the quotient `mx·2^(ex−j)` is a multiple of `2^-1074` below `2^1024`
    have h0 : b ≤ a + 1074 := by
      rcases hnz with h | hge
      · rw [h, abs_zero] at hxabs
        have : 0 < mx * 2 ^ a := by positivity
        omega
      · rw [hds, hxabs] at hge
        have h1 : 2 ^ b ≤ mx * 2 ^ a * 2 ^ 1022 := by exact_mod_cast hge
        have h2 : mx * 2 ^ a * 2 ^ 1022 < 2 ^ 53 * 2 ^ a * 2 ^ 1022 :=
          Nat.mul_lt_mul_of_pos_right (Nat.mul_lt_mul_of_pos_right (by norm_num; exact hmx) (by positivity)) (by positivity)
        rw [← pow_add, ← pow_add] at h2
        have := pow2_lt_imp (lt_of_le_of_lt h1 h2)
        omega
    have h1 : a ≤ b + 971 := by
      rcases Int.lt_or_le (-1074) ex with hex | hex
      · have hmn : 4503599627370496 ≤ mx := by have := decode_m_ge_of_e x (by rw [hx]; exact hex); rwa [hx] at this
        rw [hds, hxabs] at hup
        have h1 : mx * 2 ^ a < 2 ^ 1000 * 2 ^ b := by exact_mod_cast hup
        have h2 : 2 ^ 52 * 2 ^ a ≤ mx * 2 ^ a := Nat.mul_le_mul_right _ (by norm_num; exact hmn)
        rw [← pow_add] at h1 h2
        have := pow2_lt_imp (lt_of_le_of_lt h2 h1)
        omega
      · omega
    obtain ⟨c, hc⟩ : ∃ c : Nat, c + b = a + 1074 := ⟨a + 1074 - b, by omega⟩
    have hval : toScaled (F64.div x (pow2 j)) = sI sx mx * 2 ^ c := by
      rw [div_pow2_of_decode hx hd hm0, toScaled_pack_scaled sx mx 59 _ hmx (by push_cast; omega) (by push_cast; omega)]
      have : (ex - (j - 52) - 111 + ((59 : Nat) : Int) + 1074).toNat = c := by push_cast; omega
      rw [this]
    refine ⟨by rw [div_pow2_of_decode hx hd hm0]; exact pack_lt _ _ _, ?_⟩
    rw [hval, hxs, hds, mul_assoc, mul_assoc, ← pow_add, ← pow_add, hc]

/-- `reim_to_tnx_basic_ref`, one lane, when the quotient `x/d` does not underflow (`x = 0` or `|x/d| ≥ 2^-1022`) and
    `|x/d| < 2^1000`: `r = x/d − n` *exactly* for an integer `n`, and `|r| ≤ 1/2`
    (`rs·ds = (xs − n·ds)·2^1074` on the values scaled by 2^1074). -/
theorem toTnxBasicLane_spec (j : Int) (hj1 : -1022 ≤ j) (hj2 : j ≤ 1023) (x : Nat)
    (hnz : toScaled x = 0 ∨ toScaled (pow2 j) ≤ |toScaled x| * 2 ^ 1022)
    (hup : |toScaled x| < 2 ^ 1000 * toScaled (pow2 j)) :
    ∃ n : Int, toScaled (toTnxBasicLane (pow2 j) x) * toScaled (pow2 j) = (toScaled x - n * toScaled (pow2 j)) * 2 ^ 1074 ∧
      2 * |toScaled (toTnxBasicLane (pow2 j) x)| ≤ 2 ^ 1074 := by
  obtain ⟨h64, hq⟩ := toScaled_div_pow2 j hj1 hj2 x hnz hup
  unfold toTnxBasicLane
  simp only []
  obtain ⟨n, hn1, hn2⟩ := sub_rint_exact h64
  refine ⟨n, ?_, hn2⟩
  rw [hn1, sub_mul, hq]
  generalize (2 : Int) ^ 1074 = P
  ring

end Spq.Conv
