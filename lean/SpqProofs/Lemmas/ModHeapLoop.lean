/-
  The limb loop of the heap-level module model (one `nn`-cell window of the result per iteration, possibly some
  extra cells `J i` elsewhere), and "a region is known when each of its limbs is known".
-/
import SpqProofs.Lemmas.ModHeapKern
namespace Spq.ModuleHeap
open Spq Heap Module Reim4
variable {γ α : Type}

theorem limbLoop (nn res n : Nat) (body : Nat → Heap γ → Heap γ) (h : Heap γ) (d : γ) (V : Nat → Array γ)
    (J : Nat → Nat → Prop)
    (hJ : ∀ i j x, j < i → i < n → J i x → ¬ In (res + j * nn) nn x)
    (hstep : ∀ i g, i < n → Fr (fun x => In res (i * nn) x ∨ ∃ j, j < i ∧ J j x) h g →
      Fr (fun x => In (res + i * nn) nn x ∨ J i x) g (body i g) ∧ (body i g).readLimb d (res + i * nn) nn = V i) :
    Fr (fun x => In res (n * nn) x ∨ ∃ j, j < n ∧ J j x) h (loop n body h) ∧
    ∀ i, i < n → (loop n body h).readLimb d (res + i * nn) nn = V i := by
  apply loop_inv (fun i g => Fr (fun x => In res (i * nn) x ∨ ∃ j, j < i ∧ J j x) h g ∧
      ∀ j, j < i → g.readLimb d (res + j * nn) nn = V j)
  · exact ⟨(Fr.refl _ h), fun j hj => by omega⟩
  · intro i g hi ⟨f, hv⟩
    obtain ⟨f1, v1⟩ := hstep i g hi f
    refine ⟨(f.trans f1).mono ?_, ?_⟩
    · intro x hx
      rw [Nat.succ_mul]
      rcases hx with (hx | ⟨j, hj, hx⟩) | hx | hx
      · left; unfold In at *; omega
      · right; exact ⟨j, by omega, hx⟩
      · left; unfold In at *; omega
      · right; exact ⟨i, by omega, hx⟩
    · intro j hj
      by_cases e : j = i
      · subst e; exact v1
      · have hlt : j < i := by omega
        rw [readLimb_of_fr f1 d _ _ ?_]
        · exact hv j hlt
        · intro x hx hw
          rcases hw with hw | hw
          · have := mul_step j i nn hlt
            unfold In at *; omega
          · exact hJ i j x hlt hi hw hx

theorem limbs_ext {β : Type} (A B : Array β) (n w : Nat) (hA : A.size = n * w) (hB : B.size = n * w)
    (hl : ∀ i, i < n → A.extract (i * w) (i * w + w) = B.extract (i * w) (i * w + w)) : A = B := by
  apply Array.ext
  · rw [hA, hB]
  · intro x h1 h2
    have hw : 0 < w := by
      rcases Nat.eq_zero_or_pos w with e | e
      · subst e; simp at hA; omega
      · exact e
    have hi : x / w < n := by
      rw [Nat.div_lt_iff_lt_mul hw]; omega
    have hk : x % w < w := Nat.mod_lt _ hw
    have hx : x / w * w + x % w = x := by rw [Nat.mul_comm]; exact Nat.div_add_mod x w
    have hs := mul_step (x / w) n w hi
    have := congrArg (fun (a : Array β) => a[x % w]?) (hl (x / w) hi)
    simp only [Array.getElem?_extract] at this
    rw [if_pos (by omega), if_pos (by omega), hx] at this
    rw [Array.getElem?_eq_getElem h1, Array.getElem?_eq_getElem h2] at this
    exact Option.some.inj this

theorem region_of_limbs (g : Heap γ) (d : γ) (res n w : Nat) (X : Array γ) (hX : X.size = n * w)
    (hl : ∀ i, i < n → g.readLimb d (res + i * w) w = X.extract (i * w) (i * w + w)) :
    g.readLimb d res (n * w) = X := by
  apply limbs_ext _ _ n w (by simp) hX
  intro i hi
  rw [readLimb_extract _ _ _ _ _ _ (mul_step i n w hi)]
  exact hl i hi

theorem extract_replicate {β : Type} (n s k : Nat) (z : β) (h : s + k ≤ n) :
    (Array.replicate n z).extract s (s + k) = Array.replicate k z := by
  apply Array.ext
  · simp; omega
  · intro i h1 h2
    simp

theorem sub_mul_add (i s n : Nat) (h : s ≤ i) : s * n + (i - s) * n = i * n := by
  rw [← Nat.add_mul]; congr 1; omega

/-- the result region of a limb-vector entry point: `smin` computed limbs followed by a zeroed tail -/
theorem region_assemble (g g' : Heap γ) (d : γ) (res rsz smin nn : Nat) (hsm : smin ≤ rsz) (V : Nat → Array γ) (zc : γ)
    (X : Array γ) (hX : X.size = rsz * nn)
    (hv : ∀ i, i < smin → g.readLimb d (res + i * nn) nn = V i)
    (fz : Fr (In (res + smin * nn) ((rsz - smin) * nn)) g g')
    (vz : g'.readLimb d (res + smin * nn) ((rsz - smin) * nn) = Array.replicate ((rsz - smin) * nn) zc)
    (hX1 : ∀ i, i < smin → X.extract (i * nn) (i * nn + nn) = V i)
    (hX2 : ∀ i, smin ≤ i → i < rsz → X.extract (i * nn) (i * nn + nn) = Array.replicate nn zc) :
    g'.readLimb d res (rsz * nn) = X := by
  apply region_of_limbs g' d res rsz nn X hX
  intro i hi
  by_cases hlt : i < smin
  · rw [hX1 i hlt, ← hv i hlt]
    apply readLimb_of_fr fz
    intro x hx hw
    have := mul_step i smin nn hlt
    unfold In at *; omega
  · have hge : smin ≤ i := by omega
    rw [hX2 i hge hi]
    have e := sub_mul_add i smin nn hge
    have e2 := sub_mul_add rsz smin nn hsm
    have hs := mul_step (i - smin) (rsz - smin) nn (by omega)
    have := readLimb_extract g' d (res + smin * nn) ((rsz - smin) * nn) ((i - smin) * nn) nn hs
    rw [vz, extract_replicate _ _ _ _ hs] at this
    rw [this]
    congr 1; omega

/-- the shape in which the property theorems are stated: flag, size, frame, content of the result region -/
theorem final_form {W : Nat → Prop} {h g : Heap γ} (f : Fr W h g) (d : γ) (p n : Nat) (X : Array γ)
    (hb : p + n ≤ h.mem.size) (v : g.readLimb d p n = X) :
    g.ok = h.ok ∧ g.mem.size = h.mem.size ∧ (∀ x, ¬ W x → g.mem[x]? = h.mem[x]?) ∧ g.mem.extract p (p + n) = X := by
  refine ⟨f.ok, f.size, f.out, ?_⟩
  rw [← v, readLimb_eq_extract _ _ _ _ (by rw [f.size]; exact hb)]

end Spq.ModuleHeap
