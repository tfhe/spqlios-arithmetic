/-
  The AVX kernels `znx_add/sub/negate_i64_avx` write their result in index order, one cell (`nn = 1`), one
  `__m128i` (`nn = 2`) or `nn / 4` times one `__m256i`.  They are run here over a sequence of memories `M k`
  ("cells `[0, k)` of the result are written") of which only two facts are used (`Lemmas/SrcFill.lean`): a store of
  `g k` at cell `k` leads from `M k` to `M (k + 1)` (`Fills`), and a source cell at or after `k` still has its
  original value in `M k` (`Ahead`).  At the memories `wmem` (`Lemmas/SrcWmem.lean`) this gives the kernels on windows
  (`*_windows`), of which whole buffers with any aliasing (`Properties/SrcAvx.lean`) and windows of one arena that are
  identical or disjoint (as `vec_znx_add_avx` … call the kernels: the lemmas `arena_*_avx` at the end, with the
  conclusions of `arena_add / arena_sub / arena_negate` of `Lemmas/SrcVecKern.lean`) are instances.
-/
import Gen.CSrc
import Spq.Coeffs
import SpqProofs.Lemmas.SrcAvx
import SpqProofs.Lemmas.SrcArena
import SpqProofs.Lemmas.SrcFuel
namespace Spq.CIR
open Spq

section lanes
variable {M : Nat → Mem} {n : Nat}

theorem loadLanes_ahead {pa : Ptr} {A : Nat → Int} (h : Ahead M pa A n) (k : Nat) :
    ∀ w i, k ≤ i → i + w ≤ n → loadLanes (M k) pa i w = .ok ((List.range w).map fun j => A (i + j)) := by
  intro w
  induction w with
  | zero => intro i _ _; rfl
  | succ w ih =>
    intro i hk hi
    rw [loadLanes_succ, h k i hk (by omega), R.bind_ok, ih (i + 1) (by omega) (by omega), R.bind_ok]
    congr 1
    rw [List.range_succ_eq_map, List.map_cons, List.map_map]
    congr 1
    apply List.map_congr_left
    intro j _
    simp only [Function.comp, Nat.succ_eq_add_one]
    congr 1
    omega

theorem storeLanes_fills {pr : Ptr} {g : Nat → Int} (h : Fills M pr g n) :
    ∀ w k, k + w ≤ n → storeLanes (M k) pr k ((List.range w).map fun j => g (k + j)) = .ok (M (k + w)) := by
  intro w
  induction w with
  | zero => intro k _; rfl
  | succ w ih =>
    intro k hk
    rw [List.range_succ_eq_map, List.map_cons, List.map_map, storeLanes_cons, Nat.add_zero, h k (by omega), R.bind_ok,
      show k + (w + 1) = k + 1 + w by omega, ← ih (k + 1) (by omega)]
    congr 1
    apply List.map_congr_left
    intro j _
    simp only [Function.comp, Nat.succ_eq_add_one]
    congr 1
    omega
end lanes

theorem loadLanes_off (m : Mem) (b o d w : Nat) :
    loadLanes m (some (b, o + d)) 0 w = loadLanes m (some (b, o)) d w := by
  rw [loadLanes_shift, loadLanes_shift m b o]
  rfl

theorem storeLanes_off (m : Mem) (b o d : Nat) (vs : List Int) :
    storeLanes m (some (b, o + d)) 0 vs = storeLanes m (some (b, o)) d vs := by
  rw [storeLanes_shift, storeLanes_shift b o]
  rfl

theorem zipLanes_map (f : Int → Int → Int) (F G : Nat → Int) :
    ∀ l : List Nat, zipLanes f (l.map F) (l.map G) = .ok (l.map fun j => f (F j) (G j))
  | [] => rfl
  | j :: l => by rw [List.map_cons, List.map_cons, zipLanes_cons, zipLanes_map f F G l]; rfl

/-! ### vector expressions and the vector store on these memories; lanes are always `(List.range w).map _` -/
section evalV
variable {Γ : List Ptr} {σ : State} {M : Nat → Mem} {b o n k w : Nat}

theorem evalV_vload_ahead {A : Nat → Int} (h : Ahead M (some (b, o)) A n) (hm : σ.mem = M k) {pb : PBase} (i : Nat)
    (hp : ptrAt Γ σ.env pb 0 = .ok (some (b, o + i))) (hk : k ≤ i) (hi : i + w ≤ n) :
    evalV Γ σ (.vload w pb (.lit 0)) = .ok ((List.range w).map fun j => A (i + j)) := by
  rw [evalV_vload, eval_lit, R.bind_ok, hp, R.bind_ok, loadLanes_off, hm, loadLanes_ahead h k w i hk hi]

theorem evalV_vadd_map {x y : VExpr} {F G : Nat → Int} (hx : evalV Γ σ x = .ok ((List.range w).map F))
    (hy : evalV Γ σ y = .ok ((List.range w).map G)) :
    evalV Γ σ (.vadd x y) = .ok ((List.range w).map fun j => addS (F j) (G j)) := by
  rw [evalV_vadd, hx, R.bind_ok, hy, R.bind_ok, zipLanes_map]

theorem evalV_vsub_map {x y : VExpr} {F G : Nat → Int} (hx : evalV Γ σ x = .ok ((List.range w).map F))
    (hy : evalV Γ σ y = .ok ((List.range w).map G)) :
    evalV Γ σ (.vsub x y) = .ok ((List.range w).map fun j => subS (F j) (G j)) := by
  rw [evalV_vsub, hx, R.bind_ok, hy, R.bind_ok, zipLanes_map]

theorem evalV_vset1_zero : evalV Γ σ (.vset1 w (.cast .i64 (.lit 0))) = .ok ((List.range w).map fun _ => 0) := by
  rw [evalV_vset1, eval_cast, eval_lit, R.bind_ok, R.bind_ok, wrapS_wrap_zero, List.map_const', List.length_range]

theorem exec_vstore_fills {g : Nat → Int} (h : Fills M (some (b, o)) g n) (hm : σ.mem = M k) {pb : PBase}
    {ve : VExpr} (hp : ptrAt Γ σ.env pb 0 = .ok (some (b, o + k)))
    (hv : evalV Γ σ ve = .ok ((List.range w).map fun j => g (k + j))) (hk : k + w ≤ n) (f : Nat) :
    exec Γ (.vstore w pb (.lit 0) ve) f σ = .ok (.norm, ⟨σ.env, M (k + w)⟩) := by
  rw [exec_vstore, eval_lit, R.bind_ok, hp, R.bind_ok, hv, R.bind_ok,
    if_pos (by rw [List.length_map, List.length_range]), storeLanes_off, hm, storeLanes_fills h w k hk]
  rfl
end evalV

/-- `p = param + e` -/
theorem exec_passign_param (Γ : List Ptr) (s i b o d : Nat) (e : Expr) (env : List Int) (m : Mem) (f : Nat)
    (hΓ : Γ.getD i none = some (b, o)) (he : eval Γ ⟨env, m⟩ e = .ok (d : Int)) :
    exec Γ (.passign s (.param i) e) f ⟨env, m⟩
      = .ok (.norm, ⟨lset (lset env s (b : Int)) (s + 1) ((o + d : Nat) : Int), m⟩) := by
  rw [exec_passign, he, R.bind_ok, ptrAt_param_off Γ env i b o d d rfl hΓ, R.bind_ok, encPtr_some]

/-- `do { store w lanes at rr; inc } while (rr < rrend)`: `q` turns fill `w * q` cells; `env k` are the slots
    at the head of turn `k` (the pointer locals advanced `k` times by `inc`) -/
theorem vfill_doWhile {Γ : List Ptr} {sr se : Nat} {ve : VExpr} {inc : Stmt} (env : Nat → List Int)
    {M : Nat → Mem} {b o w : Nat} {g : Nat → Int} (q : Nat) (h : Fills M (some (b, o)) g (w * q)) (hw : 0 < w)
    (hq : 0 < q) (hsr : ∀ k, ptrAt Γ (env k) (.pvar sr) 0 = .ok (some (b, o + w * k)))
    (hse : ∀ k, ptrAt Γ (env k) (.pvar se) 0 = .ok (some (b, o + w * q)))
    (hve : ∀ k, k < q → evalV Γ ⟨env k, M (w * k)⟩ ve = .ok ((List.range w).map fun j => g (w * k + j)))
    (hinc : ∀ k m f, exec Γ inc f ⟨env k, m⟩ = .ok (.norm, ⟨env (k + 1), m⟩)) :
    ∀ f, q ≤ f + 1 →
      exec Γ (.doWhile (.seq (.vstore w (.pvar sr) (.lit 0) ve) inc)
          (.ptrLt (.pvar sr) (.lit 0) (.pvar se) (.lit 0))) f ⟨env 0, M 0⟩
        = .ok (.norm, ⟨env q, M (w * q)⟩) := by
  intro f hf
  refine post_in (fun y => y = .ok (.norm, ⟨env q, M (w * q)⟩))
    (doWhile_rel Γ _ _ (fun k σ => σ = (⟨env k, M (w * k)⟩ : State)) (fun k => k + 1) (fun k => decide (q ≤ k))
      (fun m k => k + m = q) (fun m k h _ => by omega) ?hbody ?hcond q 0 _ f (by omega) rfl
      (termA_count q q 0 hq (by omega)) hf) ?fin
  case fin =>
    rintro σ' rfl
    rw [walkA_count q q 0 hq (by omega)]
  case hbody =>
    rintro m k σ f hG rfl
    refine ⟨_, ?_, rfl⟩
    rw [exec_seq, exec_vstore_fills h rfl (hsr k) (hve k (by omega))
      (by rw [← Nat.mul_succ]; exact Nat.mul_le_mul_left w (by omega)) f, seqK_norm, hinc k _ f, Nat.mul_succ]
  case hcond =>
    rintro k σ rfl
    rw [evalB_def, eval_ptrLt, eval_lit, R.bind_ok, R.bind_ok, hsr k, R.bind_ok, hse k, R.bind_ok, ptrLtVal_same,
      R.bind_ok, decide_b2i_ne_zero]
    congr 1
    have e : (o + w * k < o + w * q) ↔ ¬ q ≤ k := by
      rw [Nat.add_lt_add_iff_left, Nat.mul_lt_mul_left hw, Nat.not_le]
    simp only [e, decide_not]

/-- the three paths of the kernels: `nn = 1` scalar, `nn = 2` one `__m128i`, otherwise `big` -/
theorem exec_avx_dispatch {Γ : List Ptr} {sn rp : Nat} {sE : Expr} {v2 : VExpr} {big : Stmt} {env : List Int}
    {M : Nat → Mem} {b o nn : Nat} {g : Nat → Int} (h : Fills M (some (b, o)) g nn) (hn : lget env sn = (nn : Int))
    (hΓ : Γ.getD rp none = some (b, o)) (hacc : nn = 1 ∨ nn = 2 ∨ (4 ≤ nn ∧ nn % 4 = 0)) (f : Nat)
    (h1 : eval Γ ⟨env, M 0⟩ sE = .ok (g 0))
    (h2 : 2 ≤ nn → evalV Γ ⟨env, M 0⟩ v2 = .ok ((List.range 2).map fun j => g (0 + j)))
    (hbig : ∀ q, nn = 4 * q → 0 < q → memOf (exec Γ big f ⟨env, M 0⟩) = .ok (M nn)) :
    memOf (exec Γ (.ite (.bin .le .u64 (.var sn) (.cast .u64 (.lit 2)))
        (.ite (.bin .eq .u64 (.var sn) (.cast .u64 (.lit 1))) (.store rp (.lit 0) sE)
          (.vstore 2 (.param rp) (.lit 0) v2)) big) f ⟨env, M 0⟩) = .ok (M nn) := by
  have c1 : decide ((nn : Int) ≤ 2 % 18446744073709551616) = decide (nn ≤ 2) := decide_eq_decide.mpr (by omega)
  have c2 : decide ((nn : Int) = 1 % 18446744073709551616) = decide (nn = 1) := decide_eq_decide.mpr (by omega)
  cir_simp
  simp only [hn, c1, c2]
  rcases hacc with hc | hc | hc
  · rw [decide_eq_true (by omega), if_pos rfl, decide_eq_true hc, if_pos rfl, h1, R.bind_ok, hΓ,
      show storeCell (M 0) (some (b, o)) 0 (g 0) = .ok (M 1) from h 0 (by omega), hc]
    rfl
  · rw [decide_eq_true (by omega), if_pos rfl, decide_eq_false (by omega), if_neg Bool.false_ne_true,
      exec_vstore_fills h rfl (ptrAt_param_zero Γ env rp b o hΓ) (h2 (by omega)) (by omega) f, hc]
    rfl
  · rw [decide_eq_false (by omega), if_neg Bool.false_ne_true]
    exact hbig (nn / 4) (by omega) (by omega)

section kernels
variable (nn : Nat) (hacc : nn = 1 ∨ nn = 2 ∨ (4 ≤ nn ∧ nn % 4 = 0)) (M : Nat → Mem) (br ro ba ao : Nat)
  (A : Nat → Int) (hA : Ahead M (some (ba, ao)) A nn)
include hacc hA

theorem znx_add_i64_avx_fills (bb bo : Nat) (B : Nat → Int) (hB : Ahead M (some (bb, bo)) B nn)
    (hF : Fills M (some (br, ro)) (fun i => addS (A i) (B i)) nn) :
    ∀ fuel, nn ≤ fuel →
      run fuel Gen.CSrc.znx_add_i64_avx [(nn : Int)] [some (br, ro), some (ba, ao), some (bb, bo)] (M 0)
        = .ok (M nn) := by
  intro fuel hf
  cir_enter Gen.CSrc.znx_add_i64_avx
  refine exec_avx_dispatch hF rfl rfl hacc fuel ?h1 ?h2 ?hbig
  case h1 =>
    cir_simp
    rw [show loadCell (M 0) (some (ba, ao)) 0 = .ok (A 0) from hA 0 0 (Nat.le_refl 0) (by omega),
      show loadCell (M 0) (some (bb, bo)) 0 = .ok (B 0) from hB 0 0 (Nat.le_refl 0) (by omega)]
    rfl
  case h2 =>
    intro h2
    exact evalV_vadd_map (evalV_vload_ahead hA rfl 0 (ptrAt_param_zero _ _ 1 ba ao rfl) (Nat.le_refl 0) h2)
      (evalV_vload_ahead hB rfl 0 (ptrAt_param_zero _ _ 2 bb bo rfl) (Nat.le_refl 0) h2)
  case hbig =>
    intro q hq hq0
    subst hq
    rw [exec_seq, exec_passign_param _ 1 1 ba ao 0 _ _ _ _ rfl rfl, seqK_norm,
      exec_seq, exec_passign_param _ 3 2 bb bo 0 _ _ _ _ rfl rfl, seqK_norm,
      exec_seq, exec_passign_param _ 5 0 br ro 0 _ _ _ _ rfl rfl, seqK_norm,
      exec_seq, exec_passign_param _ 7 0 br ro (4 * q) _ _ _ _ rfl rfl, seqK_norm]
    refine congrArg memOf (vfill_doWhile (fun k => [((4 * q : Nat) : Int), (ba : Int), ((ao + 4 * k : Nat) : Int),
      (bb : Int), ((bo + 4 * k : Nat) : Int), (br : Int), ((ro + 4 * k : Nat) : Int), (br : Int),
      ((ro + 4 * q : Nat) : Int)]) q hF (by decide) hq0 (fun k => ptrAt_pvar _ _ 5 br _ rfl rfl)
      (fun k => ptrAt_pvar _ _ 7 br _ rfl rfl)
      (fun k hk => evalV_vadd_map
        (evalV_vload_ahead hA rfl (4 * k) (ptrAt_pvar _ _ 1 ba _ rfl rfl) (Nat.le_refl _) (by omega))
        (evalV_vload_ahead hB rfl (4 * k) (ptrAt_pvar _ _ 3 bb _ rfl rfl) (Nat.le_refl _) (by omega)))
      ?hinc fuel (by omega))
    -- the `++ptr` on concrete pointer locals, by evaluation: in whatever order the source has them
    intro k m f
    rfl
theorem znx_sub_i64_avx_fills (bb bo : Nat) (B : Nat → Int) (hB : Ahead M (some (bb, bo)) B nn)
    (hF : Fills M (some (br, ro)) (fun i => subS (A i) (B i)) nn) :
    ∀ fuel, nn ≤ fuel →
      run fuel Gen.CSrc.znx_sub_i64_avx [(nn : Int)] [some (br, ro), some (ba, ao), some (bb, bo)] (M 0)
        = .ok (M nn) := by
  intro fuel hf
  cir_enter Gen.CSrc.znx_sub_i64_avx
  refine exec_avx_dispatch hF rfl rfl hacc fuel ?h1 ?h2 ?hbig
  case h1 =>
    cir_simp
    rw [show loadCell (M 0) (some (ba, ao)) 0 = .ok (A 0) from hA 0 0 (Nat.le_refl 0) (by omega),
      show loadCell (M 0) (some (bb, bo)) 0 = .ok (B 0) from hB 0 0 (Nat.le_refl 0) (by omega)]
    rfl
  case h2 =>
    intro h2
    exact evalV_vsub_map (evalV_vload_ahead hA rfl 0 (ptrAt_param_zero _ _ 1 ba ao rfl) (Nat.le_refl 0) h2)
      (evalV_vload_ahead hB rfl 0 (ptrAt_param_zero _ _ 2 bb bo rfl) (Nat.le_refl 0) h2)
  case hbig =>
    intro q hq hq0
    subst hq
    rw [exec_seq, exec_passign_param _ 1 1 ba ao 0 _ _ _ _ rfl rfl, seqK_norm,
      exec_seq, exec_passign_param _ 3 2 bb bo 0 _ _ _ _ rfl rfl, seqK_norm,
      exec_seq, exec_passign_param _ 5 0 br ro 0 _ _ _ _ rfl rfl, seqK_norm,
      exec_seq, exec_passign_param _ 7 0 br ro (4 * q) _ _ _ _ rfl rfl, seqK_norm]
    refine congrArg memOf (vfill_doWhile (fun k => [((4 * q : Nat) : Int), (ba : Int), ((ao + 4 * k : Nat) : Int),
      (bb : Int), ((bo + 4 * k : Nat) : Int), (br : Int), ((ro + 4 * k : Nat) : Int), (br : Int),
      ((ro + 4 * q : Nat) : Int)]) q hF (by decide) hq0 (fun k => ptrAt_pvar _ _ 5 br _ rfl rfl)
      (fun k => ptrAt_pvar _ _ 7 br _ rfl rfl)
      (fun k hk => evalV_vsub_map
        (evalV_vload_ahead hA rfl (4 * k) (ptrAt_pvar _ _ 1 ba _ rfl rfl) (Nat.le_refl _) (by omega))
        (evalV_vload_ahead hB rfl (4 * k) (ptrAt_pvar _ _ 3 bb _ rfl rfl) (Nat.le_refl _) (by omega)))
      ?hinc fuel (by omega))
    -- the `++ptr` on concrete pointer locals, by evaluation: in whatever order the source has them
    intro k m f
    rfl
theorem znx_negate_i64_avx_fills (hF : Fills M (some (br, ro)) (fun i => negS (A i)) nn) :
    ∀ fuel, nn ≤ fuel →
      run fuel Gen.CSrc.znx_negate_i64_avx [(nn : Int)] [some (br, ro), some (ba, ao)] (M 0) = .ok (M nn) := by
  intro fuel hf
  -- the vector code computes `0 - a`
  have hF' : Fills M (some (br, ro)) (fun i => subS 0 (A i)) nn := by
    simpa only [subS_zero_left] using hF
  cir_enter Gen.CSrc.znx_negate_i64_avx
  refine exec_avx_dispatch hF' rfl rfl hacc fuel ?h1 ?h2 ?hbig
  case h1 =>
    cir_simp
    rw [show loadCell (M 0) (some (ba, ao)) 0 = .ok (A 0) from hA 0 0 (Nat.le_refl 0) (by omega), subS_zero_left]
    rfl
  case h2 =>
    intro h2
    exact evalV_vsub_map evalV_vset1_zero
      (evalV_vload_ahead hA rfl 0 (ptrAt_param_zero _ _ 1 ba ao rfl) (Nat.le_refl 0) h2)
  case hbig =>
    intro q hq hq0
    subst hq
    rw [exec_seq, exec_passign_param _ 1 1 ba ao 0 _ _ _ _ rfl rfl, seqK_norm,
      exec_seq, exec_passign_param _ 3 0 br ro 0 _ _ _ _ rfl rfl, seqK_norm,
      exec_seq, exec_passign_param _ 5 0 br ro (4 * q) _ _ _ _ rfl rfl, seqK_norm]
    refine congrArg memOf (vfill_doWhile (fun k => [((4 * q : Nat) : Int), (ba : Int), ((ao + 4 * k : Nat) : Int),
      (br : Int), ((ro + 4 * k : Nat) : Int), (br : Int), ((ro + 4 * q : Nat) : Int)]) q hF' (by decide) hq0
      (fun k => ptrAt_pvar _ _ 3 br _ rfl rfl) (fun k => ptrAt_pvar _ _ 5 br _ rfl rfl)
      (fun k hk => evalV_vsub_map evalV_vset1_zero
        (evalV_vload_ahead hA rfl (4 * k) (ptrAt_pvar _ _ 1 ba _ rfl rfl) (Nat.le_refl _) (by omega)))
      ?hinc fuel (by omega))
    -- the `++ptr` on concrete pointer locals, by evaluation: in whatever order the source has them
    intro k m f
    rfl
end kernels

/-! ### the kernels on windows (`Lemmas/SrcWmem.lean`), and with every window in one arena buffer -/
section windows
variable (nn : Nat) (hacc : nn = 1 ∨ nn = 2 ∨ (4 ≤ nn ∧ nn % 4 = 0)) (mem : Mem) (r ro a ao : Nat)
  (hr : ro + nn ≤ (buf mem r).size) (ha : ao + nn ≤ (buf mem a).size) (hda : a = r → SameOrDisj nn ro ao)
include hacc hr ha hda

theorem znx_negate_i64_avx_windows :
    ∀ fuel, nn ≤ fuel →
      run fuel Gen.CSrc.znx_negate_i64_avx [(nn : Int)] [some (r, ro), some (a, ao)] mem
        = .ok (wset mem r ro (Coeffs.negate i64Ops nn (win (buf mem a) ao nn))) := by
  intro fuel hf
  have h := znx_negate_i64_avx_fills nn hacc _ r ro a ao _ (ahead_wmem mem r nn ro _ a ao ha hda)
    (fills_wmem mem r nn ro _ hr) fuel hf
  rwa [wmem_zero, wmem_all] at h

variable (b bo : Nat) (hb : bo + nn ≤ (buf mem b).size) (hdb : b = r → SameOrDisj nn ro bo)
include hb hdb

theorem znx_add_i64_avx_windows :
    ∀ fuel, nn ≤ fuel →
      run fuel Gen.CSrc.znx_add_i64_avx [(nn : Int)] [some (r, ro), some (a, ao), some (b, bo)] mem
        = .ok (wset mem r ro (Coeffs.add i64Ops nn (win (buf mem a) ao nn) (win (buf mem b) bo nn))) := by
  intro fuel hf
  have h := znx_add_i64_avx_fills nn hacc _ r ro a ao _ (ahead_wmem mem r nn ro _ a ao ha hda) b bo _
    (ahead_wmem mem r nn ro _ b bo hb hdb) (fills_wmem mem r nn ro _ hr) fuel hf
  rwa [wmem_zero, wmem_all] at h

theorem znx_sub_i64_avx_windows :
    ∀ fuel, nn ≤ fuel →
      run fuel Gen.CSrc.znx_sub_i64_avx [(nn : Int)] [some (r, ro), some (a, ao), some (b, bo)] mem
        = .ok (wset mem r ro (Coeffs.sub i64Ops nn (win (buf mem a) ao nn) (win (buf mem b) bo nn))) := by
  intro fuel hf
  have h := znx_sub_i64_avx_fills nn hacc _ r ro a ao _ (ahead_wmem mem r nn ro _ a ao ha hda) b bo _
    (ahead_wmem mem r nn ro _ b bo hb hdb) (fills_wmem mem r nn ro _ hr) fuel hf
  rwa [wmem_zero, wmem_all] at h
end windows

section
variable (m0 : Mem) (B : Nat) (hB : B < m0.size) (X : Array Int) (nn : Nat)
include hB

theorem arena_add_avx (hnn : nn < 18446744073709551616) (ro ao bo : Nat) (hr : ro + nn ≤ X.size)
    (ha : ao + nn ≤ X.size) (hb : bo + nn ≤ X.size) (hda : SameOrDisj nn ro ao) (hdb : SameOrDisj nn ro bo)
    (hacc : nn = 1 ∨ nn = 2 ∨ (4 ≤ nn ∧ nn % 4 = 0)) :
    ∀ fuel, nn ≤ fuel →
      run fuel Gen.CSrc.znx_add_i64_avx [(nn : Int)] [some (B, ro), some (B, ao), some (B, bo)]
          (m0.setIfInBounds B X)
        = .ok (m0.setIfInBounds B (Heap.writeArr X ro (Coeffs.add i64Ops nn (win X ao nn) (win X bo nn)))) := by
  intro fuel hf
  have hX := buf_set_self m0 B X hB
  have h := znx_add_i64_avx_windows nn hacc (m0.setIfInBounds B X) B ro B ao (hX.symm ▸ hr) (hX.symm ▸ ha)
    (fun _ => hda) B bo (hX.symm ▸ hb) (fun _ => hdb) fuel hf
  rwa [hX, wset_arena m0 B hB] at h

theorem arena_sub_avx (hnn : nn < 18446744073709551616) (ro ao bo : Nat) (hr : ro + nn ≤ X.size)
    (ha : ao + nn ≤ X.size) (hb : bo + nn ≤ X.size) (hda : SameOrDisj nn ro ao) (hdb : SameOrDisj nn ro bo)
    (hacc : nn = 1 ∨ nn = 2 ∨ (4 ≤ nn ∧ nn % 4 = 0)) :
    ∀ fuel, nn ≤ fuel →
      run fuel Gen.CSrc.znx_sub_i64_avx [(nn : Int)] [some (B, ro), some (B, ao), some (B, bo)]
          (m0.setIfInBounds B X)
        = .ok (m0.setIfInBounds B (Heap.writeArr X ro (Coeffs.sub i64Ops nn (win X ao nn) (win X bo nn)))) := by
  intro fuel hf
  have hX := buf_set_self m0 B X hB
  have h := znx_sub_i64_avx_windows nn hacc (m0.setIfInBounds B X) B ro B ao (hX.symm ▸ hr) (hX.symm ▸ ha)
    (fun _ => hda) B bo (hX.symm ▸ hb) (fun _ => hdb) fuel hf
  rwa [hX, wset_arena m0 B hB] at h

theorem arena_negate_avx (hnn : nn < 18446744073709551616) (ro ao : Nat) (hr : ro + nn ≤ X.size)
    (ha : ao + nn ≤ X.size) (hda : SameOrDisj nn ro ao) (hacc : nn = 1 ∨ nn = 2 ∨ (4 ≤ nn ∧ nn % 4 = 0)) :
    ∀ fuel, nn ≤ fuel →
      run fuel Gen.CSrc.znx_negate_i64_avx [(nn : Int)] [some (B, ro), some (B, ao)] (m0.setIfInBounds B X)
        = .ok (m0.setIfInBounds B (Heap.writeArr X ro (Coeffs.negate i64Ops nn (win X ao nn)))) := by
  intro fuel hf
  have hX := buf_set_self m0 B X hB
  have h := znx_negate_i64_avx_windows nn hacc (m0.setIfInBounds B X) B ro B ao (hX.symm ▸ hr) (hX.symm ▸ ha)
    (fun _ => hda) fuel hf
  rwa [hX, wset_arena m0 B hB] at h
end

end Spq.CIR
