/-
  C02 rounding budget: binary64 instance of the accumulation recurrences.  Flagged run (`arithOk`) ⇒ the
  bit-level result is finite and its value is the result of the guarded rational arithmetic `arG` (standard model,
  `u = 2^-53`), hence a perturbed sum with `G = (1+u)^(2n+2)`: `dot_f64` on raw patterns for all four orders,
  `lane_err` on the lane data of the reim4 kernels, `kern_transfer` for the cells of the kernels themselves.
-/
import SpqProofs.Lemmas.VmpErrDotErr
import SpqProofs.Lemmas.VmpErrKern
import SpqProofs.Lemmas.F64StdDot
set_option linter.unusedSectionVars false
namespace Spq.VmpErr
open Finset Spq Spq.Reim4 Spq.F64

/-- the accumulation constant: `γ(n) = (1+u)^(2n+2) − 1 ≈ (2n+2)·u`, `u = 2^-53` -/
def gamD (n : ℕ) : ℚ := (1 + u64) ^ (2 * n + 2) - 1

theorem gamD_nonneg (n : ℕ) : 0 ≤ gamD n := by
  unfold gamD
  have : (1 : ℚ) ≤ (1 + u64) ^ (2 * n + 2) := one_le_pow₀ (by have := u64_pos; linarith)
  linarith

/-- transfer of one accumulated complex: flags ⇒ finite, and values computed by `arG` on the values -/
theorem dot_transfer (Kd : DotK) (a b c d : ℕ → ℕ × Prop) (a' b' c' d' : ℕ → ℕ) (aq bq cq dq : ℕ → ℚ)
    (ha : ∀ i, (a i).1 = a' i) (hb : ∀ i, (b i).1 = b' i) (hc : ∀ i, (c i).1 = c' i) (hd : ∀ i, (d i).1 = d' i)
    (qa : ∀ i, RelQ (a i) (aq i)) (qb : ∀ i, RelQ (b i) (bq i)) (qc : ∀ i, RelQ (c i) (cq i)) (qd : ∀ i, RelQ (d i) (dq i))
    (n : ℕ) :
    ((dotRe arithOk Kd a b c d n).2 →
      Fin64 (dotRe F64.arith Kd a' b' c' d' n) ∧ val (dotRe F64.arith Kd a' b' c' d' n) = dotRe arG Kd aq bq cq dq n) ∧
    ((dotIm arithOk Kd a b c d n).2 →
      Fin64 (dotIm F64.arith Kd a' b' c' d' n) ∧ val (dotIm F64.arith Kd a' b' c' d' n) = dotIm arG Kd aq bq cq dq n) := by
  obtain ⟨s1, t1⟩ := dot_sim arithOk_sim_arith Kd a b c d a' b' c' d' ha hb hc hd n
  obtain ⟨s2, t2⟩ := dot_sim arithOk_sim_arG Kd a b c d aq bq cq dq qa qb qc qd n
  constructor
  · intro hf
    generalize dotRe arithOk Kd a b c d n = X at s1 s2 hf
    obtain ⟨h1, h2⟩ := s2 hf
    rw [s1] at h1 h2
    exact ⟨h1, h2⟩
  · intro hf
    generalize dotIm arithOk Kd a b c d n = X at t1 t2 hf
    obtain ⟨h1, h2⟩ := t2 hf
    rw [t1] at h1 h2
    exact ⟨h1, h2⟩

theorem dot_psum_arG (Kd : DotK) (a b c d : ℕ → ℚ) (n : ℕ) (hn : Kd = .sm → 1 ≤ n) :
    PSum n (xRe a b c d) (mRe a b c d) (1 + gamD n) (dotRe arG Kd a b c d n) ∧
    PSum n (xIm a b c d) (mIm a b c d) (1 + gamD n) (dotIm arG Kd a b c d n) := by
  have := dot_psum arG u64 arG_stdModel a b c d Kd n hn
  unfold gamD
  rw [show (1 : ℚ) + ((1 + u64) ^ (2 * n + 2) - 1) = (1 + u64) ^ (2 * n + 2) by ring]
  exact this

theorem dot_f64 (Kd : DotK) (n : ℕ) (hn : Kd = .sm → 1 ≤ n) (a b c d : ℕ → ℕ) :
    ((dotRe arithOk Kd (fun i => lift (a i)) (fun i => lift (b i)) (fun i => lift (c i)) (fun i => lift (d i)) n).2 →
      Fin64 (dotRe F64.arith Kd a b c d n) ∧
      PSum n (xRe (fun i => val (a i)) (fun i => val (b i)) (fun i => val (c i)) (fun i => val (d i)))
        (mRe (fun i => val (a i)) (fun i => val (b i)) (fun i => val (c i)) (fun i => val (d i))) (1 + gamD n)
        (val (dotRe F64.arith Kd a b c d n))) ∧
    ((dotIm arithOk Kd (fun i => lift (a i)) (fun i => lift (b i)) (fun i => lift (c i)) (fun i => lift (d i)) n).2 →
      Fin64 (dotIm F64.arith Kd a b c d n) ∧
      PSum n (xIm (fun i => val (a i)) (fun i => val (b i)) (fun i => val (c i)) (fun i => val (d i)))
        (mIm (fun i => val (a i)) (fun i => val (b i)) (fun i => val (c i)) (fun i => val (d i))) (1 + gamD n)
        (val (dotIm F64.arith Kd a b c d n))) := by
  have rq : ∀ x : ℕ, RelQ (lift x) (val x) := fun x hx => ⟨hx, rfl⟩
  obtain ⟨t1, t2⟩ := dot_transfer Kd (fun i => lift (a i)) (fun i => lift (b i)) (fun i => lift (c i)) (fun i => lift (d i))
    a b c d (fun i => val (a i)) (fun i => val (b i)) (fun i => val (c i)) (fun i => val (d i))
    (fun _ => rfl) (fun _ => rfl) (fun _ => rfl) (fun _ => rfl) (fun _ => rq _) (fun _ => rq _) (fun _ => rq _)
    (fun _ => rq _) n
  obtain ⟨p1, p2⟩ := dot_psum_arG Kd (fun i => val (a i)) (fun i => val (b i)) (fun i => val (c i)) (fun i => val (d i)) n hn
  exact ⟨fun hf => ⟨(t1 hf).1, by rw [(t1 hf).2]; exact p1⟩, fun hf => ⟨(t2 hf).1, by rw [(t2 hf).2]; exact p2⟩⟩

theorem getD_map_lift (x : Array ℕ) (i : ℕ) : (x.map lift).getD i arithOk.zero = lift (x.getD i 0) :=
  getD_map lift x i 0

theorem rel1_lift (x : Array ℕ) (i : ℕ) : ((x.map lift).getD i arithOk.zero).1 = x.getD i 0 := lift_rel_arith x i

def qRe (u : Array ℕ) (k : ℕ) : ℕ → ℚ := fun i => val (u.getD (8 * i + k) 0)
def qIm (u : Array ℕ) (k : ℕ) : ℕ → ℚ := fun i => val (u.getD (8 * i + k + 4) 0)
def qvRe (v : Array ℕ) (w o k : ℕ) : ℕ → ℚ := fun i => val (v.getD (w * i + o + k) 0)
def qvIm (v : Array ℕ) (w o k : ℕ) : ℕ → ℚ := fun i => val (v.getD (w * i + o + k + 4) 0)

/-- one accumulated complex of lane data: flagged recurrences ⇒ finite results within `γ(n)·Σ|·|` of the exact sums
    (forward form) — and the backward form `PSum` for the composition -/
theorem lane_err (Kd : DotK) (n : ℕ) (hn : Kd = .sm → 1 ≤ n) (u v : Array ℕ) (w o k : ℕ) :
    ((dotRe arithOk Kd (uRe arithOk.zero (u.map lift) k) (uIm arithOk.zero (u.map lift) k)
        (vRe arithOk.zero (v.map lift) w o k) (vIm arithOk.zero (v.map lift) w o k) n).2 →
      Fin64 (dotRe F64.arith Kd (uRe 0 u k) (uIm 0 u k) (vRe 0 v w o k) (vIm 0 v w o k) n) ∧
      PSum n (xRe (qRe u k) (qIm u k) (qvRe v w o k) (qvIm v w o k)) (mRe (qRe u k) (qIm u k) (qvRe v w o k) (qvIm v w o k))
        (1 + gamD n) (val (dotRe F64.arith Kd (uRe 0 u k) (uIm 0 u k) (vRe 0 v w o k) (vIm 0 v w o k) n))) ∧
    ((dotIm arithOk Kd (uRe arithOk.zero (u.map lift) k) (uIm arithOk.zero (u.map lift) k)
        (vRe arithOk.zero (v.map lift) w o k) (vIm arithOk.zero (v.map lift) w o k) n).2 →
      Fin64 (dotIm F64.arith Kd (uRe 0 u k) (uIm 0 u k) (vRe 0 v w o k) (vIm 0 v w o k) n) ∧
      PSum n (xIm (qRe u k) (qIm u k) (qvRe v w o k) (qvIm v w o k)) (mIm (qRe u k) (qIm u k) (qvRe v w o k) (qvIm v w o k))
        (1 + gamD n) (val (dotIm F64.arith Kd (uRe 0 u k) (uIm 0 u k) (vRe 0 v w o k) (vIm 0 v w o k) n))) := by
  have e1 : uRe arithOk.zero (u.map lift) k = fun i => lift (uRe 0 u k i) := funext fun _ => getD_map_lift _ _
  have e2 : uIm arithOk.zero (u.map lift) k = fun i => lift (uIm 0 u k i) := funext fun _ => getD_map_lift _ _
  have e3 : vRe arithOk.zero (v.map lift) w o k = fun i => lift (vRe 0 v w o k i) := funext fun _ => getD_map_lift _ _
  have e4 : vIm arithOk.zero (v.map lift) w o k = fun i => lift (vIm 0 v w o k i) := funext fun _ => getD_map_lift _ _
  rw [e1, e2, e3, e4]
  exact dot_f64 Kd n hn (uRe 0 u k) (uIm 0 u k) (vRe 0 v w o k) (vIm 0 v w o k)

/-- the cells of a flagged kernel run: the flag of a cell ⇒ the bit-level cell is finite and its value is the cell of
    the run on the guarded rationals (lane `k` of the column at offset `o`, as in `kern_cells`) -/
theorem kern_transfer (Kn : Kern) (n : ℕ) (dst u v : Array ℕ) (hb : Kn.w ≤ dst.size) (o : ℕ)
    (ho : o = 0 ∨ (o = 8 ∧ Kn.w = 16)) (k : ℕ) (hk : k < 4) :
    (Ok ((Kn.run arithOk n (dst.map lift) (u.map lift) (v.map lift)).getD (o + k) (lift 0)) →
      Fin64 ((Kn.run F64.arith n dst u v).getD (o + k) 0) ∧
      val ((Kn.run F64.arith n dst u v).getD (o + k) 0) =
        (Kn.run arG n (dst.map val) (u.map val) (v.map val)).getD (o + k) 0) ∧
    (Ok ((Kn.run arithOk n (dst.map lift) (u.map lift) (v.map lift)).getD (o + k + 4) (lift 0)) →
      Fin64 ((Kn.run F64.arith n dst u v).getD (o + k + 4) 0) ∧
      val ((Kn.run F64.arith n dst u v).getD (o + k + 4) 0) =
        (Kn.run arG n (dst.map val) (u.map val) (v.map val)).getD (o + k + 4) 0) := by
  obtain ⟨o1, o2⟩ := kern_cells arithOk Kn n (dst.map lift) (u.map lift) (v.map lift)
    (by rw [Array.size_map]; exact hb) o ho k hk
  obtain ⟨a1, a2⟩ := kern_cells F64.arith Kn n dst u v hb o ho k hk
  obtain ⟨g1, g2⟩ := kern_cells arG Kn n (dst.map val) (u.map val) (v.map val) (by rw [Array.size_map]; exact hb) o ho k hk
  obtain ⟨t1, t2⟩ := dot_transfer Kn.dk _ _ _ _ _ _ _ _ _ _ _ _
    (fun _ => lift_rel_arith u _) (fun _ => lift_rel_arith u _) (fun _ => lift_rel_arith v _) (fun _ => lift_rel_arith v _)
    (fun _ => lift_rel_arG u _) (fun _ => lift_rel_arG u _) (fun _ => lift_rel_arG v _) (fun _ => lift_rel_arG v _) n
  change (Ok (Array.getD _ (o + k) arithOk.zero) →
      Fin64 (Array.getD _ (o + k) F64.arith.zero) ∧ val (Array.getD _ (o + k) F64.arith.zero) = Array.getD _ (o + k) arG.zero) ∧
    (Ok (Array.getD _ (o + k + 4) arithOk.zero) → Fin64 (Array.getD _ (o + k + 4) F64.arith.zero) ∧
      val (Array.getD _ (o + k + 4) F64.arith.zero) = Array.getD _ (o + k + 4) arG.zero)
  rw [o1, o2, a1, a2, g1, g2]
  exact ⟨fun h => t1 h.ok, fun h => t2 h.ok⟩

theorem pow_le_quad (u : ℚ) (hu : 0 ≤ u) (p : ℕ) (h : (p : ℚ) * u ≤ 1) : (1 + u) ^ p ≤ 1 + p * u + (p * u) ^ 2 := by
  induction p with
  | zero => simp
  | succ p ih =>
    have hp : (p : ℚ) * u ≤ 1 := by
      push_cast at h
      linarith
    have i := ih hp
    have h0 : (0 : ℚ) ≤ p := Nat.cast_nonneg p
    have h1 : (0 : ℚ) ≤ 1 + u := by linarith
    have h2 := mul_le_mul_of_nonneg_right i h1
    rw [pow_succ]
    push_cast
    have key : (p : ℚ) ^ 2 * u ^ 3 ≤ ((p : ℚ) + 1) * u ^ 2 := by
      have a1 : (p : ℚ) * ((p : ℚ) * u) ≤ (p : ℚ) * 1 := mul_le_mul_of_nonneg_left hp h0
      have a2 : (0 : ℚ) ≤ u ^ 2 := by positivity
      linarith [mul_le_mul_of_nonneg_right a1 a2]
    linarith

/-- `γ(n) ≤ (2n+3)·2^-53` for `2n + 2 ≤ 2^26` -/
theorem gamD_le_lin (n : ℕ) (hn : 2 * n + 2 ≤ 67108864) : gamD n ≤ (2 * (n : ℚ) + 3) * u64 := by
  unfold gamD
  have hu : (0 : ℚ) ≤ u64 := le_of_lt u64_pos
  have hu' : u64 = 1 / 9007199254740992 := by unfold u64; norm_num
  have hp : ((2 * n + 2 : ℕ) : ℚ) ≤ 67108864 := by exact_mod_cast hn
  have hp0 : (0 : ℚ) ≤ ((2 * n + 2 : ℕ) : ℚ) := Nat.cast_nonneg _
  have h1 : ((2 * n + 2 : ℕ) : ℚ) * u64 ≤ 1 := by rw [hu']; linarith
  have h := pow_le_quad u64 hu (2 * n + 2) h1
  have h2 : (((2 * n + 2 : ℕ) : ℚ) * u64) ^ 2 ≤ u64 := by
    rw [hu']
    have : ((2 * n + 2 : ℕ) : ℚ) ^ 2 ≤ 67108864 ^ 2 := pow_le_pow_left₀ hp0 hp 2
    rw [mul_pow]
    linarith
  have e : ((2 * n + 2 : ℕ) : ℚ) = 2 * (n : ℚ) + 2 := by push_cast; ring
  rw [e] at h h2
  linarith

end Spq.VmpErr
