/-
  NTT part of C04 (q120 lazy arithmetic never wraps).  `cert_current`: the certificate evaluated by the kernel on the
  metadata EXTRACTED from the live precomp objects (`Gen.Q120Meta`), input bound 2^64 (any 64-bit lane), every
  n = 2^k, k = 1..16, every lane, forward and inverse.  `laneSpec_cur`: consequently, for the real metadata and the
  model-generated tables, the two drivers are the exact transform pair on residues (`LaneSpec`), on every 64-bit
  input and for every `k = 0..16`.
-/
import Gen.Q120Meta
import SpqProofs.Lemmas.NttLane

namespace Spq.Q120Ntt

/-- what one lane of a precomp object consists of -/
structure LaneMeta where
  q : Nat
  Ω : Nat
  levels : Array Level
  R : Reduc

/-- lane `j` of a dumped level record `[bs, half_bs, mask, reduce, q2bs0, q2bs1, q2bs2, q2bs3]` -/
def levelOfRaw (j : Nat) (r : List Nat) : Level :=
  { bs := r.getD 0 0, h := r.getD 1 0, mask := r.getD 2 0, reduce := r.getD 3 0 != 0, q2bs := r.getD (4 + j) 0 }

/-- lane `j` of a dumped reduction record `[h, mask, cst0, cst1, cst2, cst3]` -/
def reducOfRaw (j : Nat) (r : List Nat) : Reduc :=
  { h := r.getD 0 0, mask := r.getD 1 0, cst := r.getD (2 + j) 0 }

def laneMeta (lv : List (List (List Nat))) (red : List (List Nat)) (k j : Nat) : LaneMeta :=
  { q := Gen.Q120Meta.primes.getD j 0, Ω := Gen.Q120Meta.omegas.getD j 0,
    levels := ((lv.getD k []).map (levelOfRaw j)).toArray, R := reducOfRaw j (red.getD k []) }

end Spq.Q120Ntt

/-- lane `j` of the live forward precomp object for `n = 2^k` -/
def Gen.nttMeta (k j : Nat) : Spq.Q120Ntt.LaneMeta :=
  Spq.Q120Ntt.laneMeta Gen.Q120Meta.nttLevels Gen.Q120Meta.nttReduc k j
/-- lane `j` of the live inverse precomp object for `n = 2^k` -/
def Gen.inttMeta (k j : Nat) : Spq.Q120Ntt.LaneMeta :=
  Spq.Q120Ntt.laneMeta Gen.Q120Meta.inttLevels Gen.Q120Meta.inttReduc k j

namespace Spq.Q120Ntt

/-- the certificate accepts every 64-bit input and the outputs are 64-bit words -/
def certBound (q : Nat) (R : Reduc) (ds : List LDesc) : Bool :=
  decide (1 < q) && match certOK q R ds W64 with
    | some B' => decide (B' ≤ W64)
    | none => false

def certFwdOK (M : LaneMeta) (k : Nat) : Bool := certBound M.q M.R (fwdDescs k M.levels)
def certInvOK (M : LaneMeta) (k : Nat) : Bool := certBound M.q M.R (invDescs k M.levels)

/-- the roots the tables are built from: `omega_n * omega_n^-1 = 1`, `n * n^-1 = 1` (mod q), as computed by
    the model of `modq_pow` -/
def rootsOK (M : LaneMeta) (k : Nat) : Bool :=
  decide ((omegaN M.q M.Ω k * modqPow (omegaN M.q M.Ω k) (-1) M.q) % M.q = 1) &&
  decide ((2 ^ k % M.q * modqPow (2 ^ k) (-1) M.q) % M.q = 1)

/-- `omega_n` is a primitive `2n`-th root of unity: `omega_n^n = -1 (mod q)` (by `k` modular squarings) -/
def primOK (M : LaneMeta) (k : Nat) : Bool := decide (sqPow M.q (omegaN M.q M.Ω k) k = M.q - 1)

def certAll : Bool :=
  (List.range' 1 16).all fun k => (List.range 4).all fun j =>
    certFwdOK (Gen.nttMeta k j) k && certInvOK (Gen.inttMeta k j) k &&
    rootsOK (Gen.nttMeta k j) k && decide ((Gen.inttMeta k j).q = (Gen.nttMeta k j).q) &&
    decide ((Gen.inttMeta k j).Ω = (Gen.nttMeta k j).Ω) && primOK (Gen.nttMeta k j) k

theorem certAll_true : certAll = true := by decide +kernel

/-- **cert_current**: exact interval arithmetic on the metadata extracted from the real precomp objects
    accepts any 64-bit lane content, for every `n = 2^k`, `k = 1..16`, every lane, forward and inverse. -/
theorem cert_current (k j : Nat) (hk1 : 1 ≤ k) (hk : k ≤ 16) (hj : j < 4) :
    certFwdOK (Gen.nttMeta k j) k = true ∧ certInvOK (Gen.inttMeta k j) k = true ∧
    rootsOK (Gen.nttMeta k j) k = true ∧ (Gen.inttMeta k j).q = (Gen.nttMeta k j).q ∧
    (Gen.inttMeta k j).Ω = (Gen.nttMeta k j).Ω ∧ primOK (Gen.nttMeta k j) k = true := by
  have h := certAll_true
  simp only [certAll, List.all_eq_true, Bool.and_eq_true, decide_eq_true_eq] at h
  obtain ⟨⟨⟨⟨⟨h1, h2⟩, h3⟩, h4⟩, h5⟩, h6⟩ := h k (List.mem_range'_1.2 ⟨hk1, by omega⟩) j (by simpa using hj)
  exact ⟨h1, h2, h3, h4, h5, h6⟩

theorem certBound_spec {q : Nat} {R : Reduc} {ds : List LDesc} (h : certBound q R ds = true) :
    1 < q ∧ ∃ B', certOK q R ds W64 = some B' ∧ B' ≤ W64 := by
  simp only [certBound, Bool.and_eq_true, decide_eq_true_eq] at h
  refine ⟨h.1, ?_⟩
  cases hc : certOK q R ds W64 with
  | none => rw [hc] at h; simp at h
  | some B' => rw [hc] at h; exact ⟨B', rfl, by simpa using h.2⟩

theorem RunsChain.words {q k : Nat} {R : Reduc} {F : Array Nat → Array Nat} {ls : List (LStep q)}
    (hF : RunsChain (2 ^ k) R F ls)
    (hstep : ∀ s ∈ ls, s.d.nn ∣ 2 ^ k ∧ TwSpec q s.d.L.h (twCount s.d (2 ^ k)) s.tw s.τ)
    (hc : certBound q R (ls.map (·.d)) = true) (x : Array Nat) (hx : Words k x) :
    safeAll (2 ^ k) R ls (rd x) ∧ Words k (F x) ∧ ∀ i < 2 ^ k, res q (F x) i = exAll ls (res q x) i := by
  obtain ⟨_, B', hB, hle⟩ := certBound_spec hc
  obtain ⟨h1, h2, h3⟩ := hF.refines hstep hB x hx.1 hx.2
  exact ⟨h2, ⟨h1, fun i hi => lt_of_lt_of_le (h3 i hi).1 hle⟩, fun i hi => (h3 i hi).2⟩

theorem laneSpec_of_cert (q Ω k : Nat) (hk : k ≠ 0) (levF levI : Array Level) (RF RI : Reduc)
    (hcF : certBound q RF (fwdDescs k levF) = true) (hcI : certBound q RI (invDescs k levI) = true)
    (hroot : (omegaN q Ω k * modqPow (omegaN q Ω k) (-1) q) % q = 1)
    (hninv : (2 ^ k % q * modqPow (2 ^ k) (-1) q) % q = 1)
    (hprim : sqPow q (omegaN q Ω k) k = q - 1) :
    LaneSpec q k ((omegaN q Ω k : Nat) : ZMod q) ((modqPow (omegaN q Ω k) (-1) q : Nat) : ZMod q)
      ((modqPow (2 ^ k) (-1) q : Nat) : ZMod q)
      (nttLane k levF RF (tableFwd q Ω k levF)) (inttLane k levI RI (tableInv q Ω k levI)) := by
  have hq := (certBound_spec hcF).1
  have hwv : ((omegaN q Ω k : Nat) : ZMod q) * ((modqPow (omegaN q Ω k) (-1) q : Nat) : ZMod q) = 1 := by
    rw [← Nat.cast_mul]; exact cast_one_of_mod hq hroot
  have hn : (2 : ZMod q) ^ k * ((modqPow (2 ^ k) (-1) q : Nat) : ZMod q) = 1 := by
    have := cast_one_of_mod hq hninv
    rw [Nat.cast_mul, ZMod.natCast_mod, Nat.cast_pow] at this
    simpa using this
  refine ⟨fun x hx => ?_, fun x hx => ?_, hwv, hn, cast_neg_one_of_sqPow hq hprim⟩
  · have h := ((runsChain_nttLane k hk levF RF _ _).words (stepOK_fwdLSteps q Ω k hq levF)
      (by rw [fwdLSteps_descs]; exact hcF) x hx).2
    simpa only [exAll_fwdLSteps] using h
  · have h := ((runsChain_inttLane k hk levI RI _ _ _).words (stepOK_invLSteps q Ω k hq levI)
      (by rw [invLSteps_descs]; exact hcI) x hx).2
    simpa only [exAll_invLSteps] using h

/-- `n = 1` is outside `certAll`; there the roots alone matter (`OMEGA_j^(2^16) = -1`) -/
theorem roots0 (j : Nat) (hj : j < 4) :
    1 < (Gen.nttMeta 0 j).q ∧ rootsOK (Gen.nttMeta 0 j) 0 = true ∧ primOK (Gen.nttMeta 0 j) 0 = true := by
  have : j = 0 ∨ j = 1 ∨ j = 2 ∨ j = 3 := by omega
  rcases this with rfl | rfl | rfl | rfl <;> decide +kernel

/-- **the live lanes**: for every `n = 2^k`, `0 ≤ k ≤ 16`, and every lane, the two drivers on the real metadata and
    the model's tables are the exact transform pair on residues, on all 64-bit words.  `(Gen.inttMeta k j).q` and
    `.Ω` are `(Gen.nttMeta k j).q` and `.Ω` by `rfl` (`laneMeta` reads both from the same lists). -/
theorem laneSpec_cur (k j : Nat) (hk : k ≤ 16) (hj : j < 4) :
    LaneSpec (Gen.nttMeta k j).q k
      ((omegaN (Gen.nttMeta k j).q (Gen.nttMeta k j).Ω k : Nat) : ZMod (Gen.nttMeta k j).q)
      ((modqPow (omegaN (Gen.nttMeta k j).q (Gen.nttMeta k j).Ω k) (-1) (Gen.nttMeta k j).q : Nat) : ZMod (Gen.nttMeta k j).q)
      ((modqPow (2 ^ k) (-1) (Gen.nttMeta k j).q : Nat) : ZMod (Gen.nttMeta k j).q)
      (nttLane k (Gen.nttMeta k j).levels (Gen.nttMeta k j).R
        (tableFwd (Gen.nttMeta k j).q (Gen.nttMeta k j).Ω k (Gen.nttMeta k j).levels))
      (inttLane k (Gen.inttMeta k j).levels (Gen.inttMeta k j).R
        (tableInv (Gen.inttMeta k j).q (Gen.inttMeta k j).Ω k (Gen.inttMeta k j).levels)) := by
  rcases Nat.eq_zero_or_pos k with rfl | hpos
  · obtain ⟨hq, cR, cP⟩ := roots0 j hj
    simp only [rootsOK, Bool.and_eq_true, decide_eq_true_eq] at cR
    simp only [primOK, decide_eq_true_eq] at cP
    have hwv := cast_one_of_mod hq cR.1
    have hn := cast_one_of_mod hq cR.2
    rw [Nat.cast_mul] at hwv
    rw [Nat.cast_mul, ZMod.natCast_mod, Nat.cast_pow] at hn
    exact laneSpec_zero _ _ _ hwv (by simpa using hn) (cast_neg_one_of_sqPow hq cP) _ _ _ _ _ _
  · obtain ⟨cF, cI, cR, _, _, cP⟩ := cert_current k j hpos hk hj
    simp only [rootsOK, Bool.and_eq_true, decide_eq_true_eq] at cR
    simp only [primOK, decide_eq_true_eq] at cP
    exact laneSpec_of_cert _ _ k (by omega) _ _ _ _ cF cI cR.1 cR.2 cP

/-! ### the hypotheses are satisfiable -/

/-- `level_sound`'s hypothesis holds for a real level: n = 16, lane 0, the folding level (`reduce = 1`; the reduction record `M.R` has `h = 47`)
    accepts every 64-bit input -/
example :
    let M := Gen.nttMeta 4 0
    (M.levels.getD 2 default).reduce = true ∧
    (levelOK M.q M.R ⟨.fwd, 8, M.levels.getD 2 default⟩ W64).isSome = true := by decide +kernel

/-- … and the check is sharp: the same level without its modular folding is rejected -/
example :
    let M := Gen.nttMeta 4 0
    levelOK M.q M.R ⟨.fwd, 8, { M.levels.getD 2 default with reduce := false }⟩ W64 = none := by decide +kernel

/-- `cert_sound`'s hypothesis holds for the whole real inverse transform of size 65536, lane 3 -/
example : (certOK (Gen.inttMeta 16 3).q (Gen.inttMeta 16 3).R (invDescs 16 (Gen.inttMeta 16 3).levels) W64).isSome = true := by
  decide +kernel

end Spq.Q120Ntt
