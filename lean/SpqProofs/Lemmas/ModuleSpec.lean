/-
  Specification side of C01 / C02 (module-level FFT64 pipelines in exact arithmetic): `Cx R` as a commutative ring
  (the instance extends the additive structure of `Reim4Cx`), evaluation `evalF` and the negacyclic product `nmulF`
  (coefficient formula; `nmul` on arrays), and the hypotheses `ExactArith`, `ExactDft` of the exact-arithmetic theorems.
-/
import Spq.Module
import SpqProofs.Lemmas.Reim4Cx
import Mathlib.Algebra.BigOperators.Ring.Finset
import Mathlib.Algebra.BigOperators.Intervals
import Mathlib.Tactic.Ring
import Mathlib.Tactic.LinearCombination
namespace Spq
open Finset

namespace Cx
variable {R : Type} [CommRing R]

instance : One (Cx R) := ⟨⟨1, 0⟩⟩
instance : Neg (Cx R) := ⟨fun x => ⟨-x.re, -x.im⟩⟩
@[simp] theorem one_re : (1 : Cx R).re = 1 := rfl
@[simp] theorem one_im : (1 : Cx R).im = 0 := rfl
@[simp] theorem neg_re (x : Cx R) : (-x).re = -x.re := rfl
@[simp] theorem neg_im (x : Cx R) : (-x).im = -x.im := rfl

/-- `Cx R` is a commutative ring; `+`, `*`, `0` and `nsmul` are those of `Reim4Cx` -/
instance instCommRing : CommRing (Cx R) :=
  { (inferInstance : AddCommMonoid (Cx R)) with
    mul := (· * ·)
    one := 1
    neg := Neg.neg
    zsmul := zsmulRec
    left_distrib := by intro a b c; ext <;> simp <;> ring
    right_distrib := by intro a b c; ext <;> simp <;> ring
    zero_mul := by intro a; ext <;> simp
    mul_zero := by intro a; ext <;> simp
    mul_assoc := by intro a b c; ext <;> simp <;> ring
    one_mul := by intro a; ext <;> simp
    mul_one := by intro a; ext <;> simp
    neg_add_cancel := by intro a; ext <;> simp
    mul_comm := by intro a b; ext <;> simp <;> ring }

/-- the embedding of the "real" ring -/
def ofRe : R →+* Cx R where
  toFun r := ⟨r, 0⟩
  map_one' := rfl
  map_mul' := by intro a b; ext <;> simp
  map_zero' := rfl
  map_add' := by intro a b; ext <;> simp

/-- the imaginary unit -/
def I : Cx R := ⟨0, 1⟩

@[simp] theorem ofRe_re (r : R) : (ofRe r).re = r := rfl
@[simp] theorem ofRe_im (r : R) : (ofRe r).im = 0 := rfl
@[simp] theorem I_re : (I : Cx R).re = 0 := rfl
@[simp] theorem I_im : (I : Cx R).im = 1 := rfl

theorem I_mul_I : (I : Cx R) * I = -1 := by ext <;> simp

theorem eq_ofRe_add (x : Cx R) : x = ofRe x.re + I * ofRe x.im := by ext <;> simp

end Cx

theorem cx_eq {R : Type} [CommRing R] (a : Array R) (i j : Nat) :
    cx a i j = Cx.ofRe (a.getD i 0) + Cx.I * Cx.ofRe (a.getD j 0) := Cx.eq_ofRe_add _

section spec
variable {K : Type} [CommRing K]

/-- `Σ_{k<N} a_k z^k` -/
def evalF (N : Nat) (a : Nat → K) (z : K) : K := ∑ k ∈ range N, a k * z ^ k

/-- coefficient `k` of `a·b mod X^N + 1`: `Σ_{i+j=k} a_i b_j − Σ_{i+j=k+N} a_i b_j` (`i, j < N`) -/
def nmulF (N : Nat) (a b : Nat → K) (k : Nat) : K :=
  ∑ i ∈ range N, ∑ j ∈ range N,
    ((if i + j = k then a i * b j else 0) - (if i + j = k + N then a i * b j else 0))

theorem eval_term (N i j : Nat) (hi : i < N) (hj : j < N) (x z : K) (hz : z ^ N = -1) :
    ∑ k ∈ range N, ((if i + j = k then x else 0) - (if i + j = k + N then x else 0)) * z ^ k = x * z ^ (i + j) := by
  by_cases h : i + j < N
  · rw [sum_eq_single (i + j)]
    · have : ¬ (i + j = i + j + N) := by omega
      rw [if_pos rfl, if_neg this]; ring
    · intro k _ hk
      have h1 : ¬ (i + j = k) := fun e => hk e.symm
      have h2 : ¬ (i + j = k + N) := by omega
      simp [h1, h2]
    · intro h'; exact absurd (mem_range.2 h) h'
  · rw [sum_eq_single (i + j - N)]
    · have h1 : ¬ (i + j = i + j - N) := by omega
      have h2 : i + j = i + j - N + N := by omega
      have h3 : z ^ (i + j) = z ^ (i + j - N) * z ^ N := by rw [← pow_add, ← h2]
      rw [if_neg h1, if_pos h2, h3, hz]; ring
    · intro k hk hk'
      have := mem_range.1 hk
      have h1 : ¬ (i + j = k) := by omega
      have h2 : ¬ (i + j = k + N) := by omega
      simp [h1, h2]
    · intro h'; exact absurd (mem_range.2 (by omega)) h'

theorem eval_nmulF (N : Nat) (a b : Nat → K) (z : K) (hz : z ^ N = -1) :
    evalF N (nmulF N a b) z = evalF N a z * evalF N b z := by
  unfold evalF nmulF
  rw [sum_mul_sum]
  simp only [sum_mul]
  rw [sum_comm]
  apply sum_congr rfl
  intro i hi
  rw [sum_comm]
  apply sum_congr rfl
  intro j hj
  have e := eval_term N i j (mem_range.1 hi) (mem_range.1 hj) (a i * b j) z hz
  rw [e, pow_add]; ring

theorem reim_evalF (m : Nat) (a : Nat → K) (z i : K) (hz : z ^ m = i) :
    evalF (2 * m) a z = ∑ k ∈ range m, (a k + i * a (k + m)) * z ^ k := by
  unfold evalF
  have e : 2 * m = m + m := by omega
  rw [e, sum_range_add, ← sum_add_distrib]
  apply sum_congr rfl
  intro k _
  rw [Nat.add_comm m k, pow_add, hz]; ring

theorem map_nmulF {L : Type} [CommRing L] (f : K →+* L) (N : Nat) (a b : Nat → K) (k : Nat) :
    f (nmulF N a b k) = nmulF N (fun i => f (a i)) (fun i => f (b i)) k := by
  unfold nmulF
  rw [map_sum]
  apply sum_congr rfl; intro i _
  rw [map_sum]
  apply sum_congr rfl; intro j _
  rw [map_sub]
  congr 1
  · split <;> simp
  · split <;> simp

end spec

/-- coefficient `k` of an integer array (0 outside) -/
def icoef (a : Array Int) (k : Nat) : Int := a.getD k 0

/-- the negacyclic product of two integer arrays of `N` coefficients, as an array of `N` integers -/
def nmul (N : Nat) (a b : Array Int) : Array Int :=
  Array.ofFn (n := N) (fun k => nmulF N (icoef a) (icoef b) k.val)

/-- sum of integer arrays of `N` coefficients (`Σ_{i<n} f i`) -/
def isum (N n : Nat) (f : Nat → Array Int) : Array Int :=
  Array.ofFn (n := N) (fun k => ∑ i ∈ range n, icoef (f i) k.val)

@[simp] theorem size_nmul (N : Nat) (a b : Array Int) : (nmul N a b).size = N := by simp [nmul]
@[simp] theorem size_isum (N n : Nat) (f : Nat → Array Int) : (isum N n f).size = N := by simp [isum]

theorem icoef_nmul (N : Nat) (a b : Array Int) (k : Nat) (hk : k < N) :
    icoef (nmul N a b) k = nmulF N (icoef a) (icoef b) k := by
  simp [icoef, nmul, Array.getD_eq_getD_getElem?, hk]

theorem icoef_isum (N n : Nat) (f : Nat → Array Int) (k : Nat) (hk : k < N) :
    icoef (isum N n f) k = ∑ i ∈ range n, icoef (f i) k := by
  simp [icoef, isum, Array.getD_eq_getD_getElem?, hk]

namespace Module
variable {R : Type} [CommRing R]

/-- the module computes in the exact arithmetic of the commutative ring `R`; `nn = 2m ≥ 2`; the
    dispatch invariants of the library: the reim4 layout is used only when `4 ∣ m`, the FMA pointwise
    kernels are installed only when `m ≥ 4` is a power of two (`reim_fftvec_{mul,addmul}_fma` loop by 4) -/
structure ExactArith (c : Parts R) : Prop where
  har : c.ar = RArith.ofRing R
  hnn : c.nn = 2 * c.m
  hm : 0 < c.m
  hblk : 8 ≤ c.nn → c.m % 4 = 0
  hmul : c.mulFma = true → c.m % 4 = 0
  haddmul : c.addmulFma = true → c.m % 4 = 0

/-- H1–H4: what the conversions (C14) and the FFT (C06) contribute, with abstract evaluation points `z` -/
structure ExactDft (c : Parts R) (z : Nat → Cx R) : Prop where
  /-- H1: `fromZnx` is the exact embedding, cell by cell (so complex `j` is `x_j + i·x_{j+m}`) -/
  fromZnx_size : ∀ x : Array Int, x.size = c.nn → (c.fromZnx x).size = c.nn
  fromZnx_get : ∀ x : Array Int, x.size = c.nn → ∀ k, k < c.nn → (c.fromZnx x).getD k 0 = ((icoef x k : Int) : R)
  /-- H2: `fft` evaluates the `m` complex coefficients at the points `z_j`, `z_j^m = i` -/
  hz : ∀ j, j < c.m → z j ^ c.m = Cx.I
  fft_size : ∀ d : Array R, d.size = c.nn → (c.fft d).size = c.nn
  fft_eval : ∀ d : Array R, d.size = c.nn → ∀ j, j < c.m →
    cx (c.fft d) j (j + c.m) = ∑ k ∈ range c.m, cx d k (k + c.m) * z j ^ k
  /-- H3: `ifft` is a left inverse of `fft` up to the factor `m` -/
  ifft_size : ∀ d : Array R, d.size = c.nn → (c.ifft (c.fft d)).size = c.nn
  ifft_fft : ∀ d : Array R, d.size = c.nn → ∀ t, t < c.nn → (c.ifft (c.fft d)).getD t 0 = (c.m : R) * d.getD t 0
  /-- H4: `toZnx` divides exact multiples of `m` and returns the integers -/
  toZnx_round : ∀ (d : Array R) (cs : Array Int), d.size = c.nn → cs.size = c.nn →
    (∀ t, t < c.nn → d.getD t 0 = (c.m : R) * ((icoef cs t : Int) : R)) → c.toZnx d = cs

end Module

end Spq
