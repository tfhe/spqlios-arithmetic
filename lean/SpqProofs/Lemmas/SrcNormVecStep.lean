/-
  `vec_znx_normalize_base2k_ref`: the loop bodies of the generated term (referred to through accessors, not
  restated) take the arena of model state `nT d` to the arena of `nT (d+1)`; `d` counts the limbs processed so
  far, the limb index is `asz - 1 - d`.
-/
import Gen.CSrc
import SpqProofs.Lemmas.SrcNormVec
import SpqProofs.Lemmas.SrcVec
import SpqProofs.Lemmas.SrcVecKern
namespace Spq.CIR
open Spq Spq.Norm

def sFst : Stmt → Stmt | .seq a _ => a | s => s
def sSnd : Stmt → Stmt | .seq _ b => b | s => s
def sForBody : Stmt → Stmt | .for _ _ _ b => b | s => s

/-- `for (; i >= res_size; --i) {…} ; for (; i >= 1; --i) {…} ; znx_normalize(…last…) ; for (…zero…)` -/
def normTail : Stmt := sSnd (sSnd (sSnd (sSnd (sSnd (sSnd Gen.CSrc.vec_znx_normalize_base2k_ref.body)))))
def normFor1 : Stmt := sFst normTail
def normFor2 : Stmt := sFst (sSnd normTail)
def normLast : Stmt := sFst (sSnd (sSnd normTail))
def normFor4 : Stmt := sSnd (sSnd (sSnd normTail))

/-- model state after `d` limbs -/
def nT (nn k res rsz rsl a asz asl : Nat) (X : Array Int) (d : Nat) : NState :=
  seqD (nstep nn k res rsz rsl a asl) (asz - 1) (⟨X, true⟩, none) d

/-- slots of the wrapper: `cout` = scratch, `cin` = null before the first limb, then the scratch -/
def nEnv (nn k rsz rsl asz asl B t d : Nat) (i : Int) : List Int :=
  [(nn : Int), (k : Int), (rsz : Int), (rsl : Int), (asz : Int), (asl : Int), (nn : Int), 0, (B : Int), (t : Int),
    if d = 0 then -1 else (B : Int), if d = 0 then 0 else (t : Int), i, 0]

theorem nT_succ (nn k res rsz rsl a asz asl : Nat) (X : Array Int) (d : Nat) :
    nT nn k res rsz rsl a asz asl X (d + 1)
      = nstep nn k res rsz rsl a asl (nT nn k res rsz rsl a asz asl X d) (asz - 1 - d) := rfl

theorem nT_inv (nn k res rsz rsl a asz asl : Nat) (X : Array Int) (d : Nat) :
    NInv nn X.size (nT nn k res rsz rsl a asz asl X d) :=
  seqD_inv nn X.size _ (fun st i h => nstep_inv nn k res rsz rsl a asl X.size st i h) _ _
    ⟨rfl, fun c h => by cases h⟩ d

theorem nT_snd_zero (nn k res rsz rsl a asz asl : Nat) (X : Array Int) :
    (nT nn k res rsz rsl a asz asl X 0).2 = none := rfl

theorem ptrAt_pvar_null (Γ : List Ptr) (env : List Int) (s : Nat) (v : Int) (h : lget env s = -1) :
    ptrAt Γ env (.pvar s) v = .ok none := by
  simp [ptrAt, decPtr, h]

theorem idx_wrap (i s : Nat) (hi : i < 18446744073709551616) (h : i * s < 18446744073709551616) :
    ((i : Int) % 18446744073709551616 * (s : Int)) % 18446744073709551616 = ((i * s : Nat) : Int) := by
  have e : (i : Int) % 18446744073709551616 = (i : Int) := Int.emod_eq_of_lt (by omega) (by omega)
  rw [e]
  exact mul_wrap i s h

/-- the arena after the last limb (`carry_out = NULL`): the scratch keeps the carry of the previous limb -/
def lastArena (t : Nat) (prev next : NState) : Array Int := scr t (next.1, prev.2)
theorem lastArena_some (t : Nat) (prev next : NState) (c : Array Int) (h : prev.2 = some c) :
    lastArena t prev next = Heap.writeArr next.1.mem t c := scr_some t (next.1, prev.2) c h
theorem lastArena_none (t : Nat) (prev next : NState) (h : prev.2 = none) :
    lastArena t prev next = next.1.mem := scr_none t (next.1, prev.2) h

section step
variable (nn k rsz rsl asz asl res a t : Nat) (m0 : Mem) (B : Nat) (hB : B < m0.size) (X : Array Int)
include hB

theorem norm_step1 (hnn : nn < 18446744073709551616) (hk1 : 1 ≤ k) (hk2 : k ≤ 63)
    (hasz : asz < 9223372036854775808) (hX : X.size < 18446744073709551616)
    (hTa : ∀ i, i < asz → a + i * asl + nn ≤ t ∨ t + nn ≤ a + i * asl) (hT : t + nn ≤ X.size)
    (d : Nat) (hd : d < asz) (hge : rsz ≤ asz - 1 - d)
    (hok : (nT nn k res rsz rsl a asz asl X (d + 1)).1.ok = true) (f : Nat) (hf : nn ≤ f) :
    exec [some (B, res), some (B, a), some (B, t)] (sForBody normFor1) f
        ⟨nEnv nn k rsz rsl asz asl B t d ((asz - 1 - d : Nat) : Int),
          m0.setIfInBounds B (scr t (nT nn k res rsz rsl a asz asl X d))⟩
      = .ok (.norm, ⟨nEnv nn k rsz rsl asz asl B t (d + 1) ((asz - 1 - d : Nat) : Int),
          m0.setIfInBounds B (scr t (nT nn k res rsz rsl a asz asl X (d + 1)))⟩) := by
  have hinv := nT_inv nn k res rsz rsl a asz asl X d
  rw [nT_succ] at hok ⊢
  obtain ⟨_, hab, _⟩ := nstep_ok _ _ _ _ _ _ _ _ _ hok
  rw [hinv.size] at hab
  have hi64 : asz - 1 - d < 18446744073709551616 := by omega
  have hmul : (asz - 1 - d) * asl < 18446744073709551616 := by omega
  have hat := hTa (asz - 1 - d) (by omega)
  have hsz : (scr t (nT nn k res rsz rsl a asz asl X d)).size = X.size := by rw [size_scr, hinv.size]
  show exec _ (.seq _ _) f _ = _
  rcases d with _ | d'
  · -- first limb: no carry in
    simp only [nEnv, if_pos (rfl : (0 : Nat) = 0), if_neg (Nat.add_one_ne_zero 0)]
    cir_simp
    rw [ptrAt_null, ptrAt_pvar _ _ 8 B t rfl rfl, idx_wrap _ _ hi64 hmul,
      ptrAt_param _ _ 1 B a ((asz - 1 - 0) * asl) rfl, ptrAt_pvar_null _ _ 10 0 rfl]
    cir_simp
    rw [arena_norm_cout m0 B hB _ nn hnn k hk1 hk2 (a + (asz - 1 - 0) * asl) t (by rw [hsz]; exact hab)
      (by rw [hsz]; exact hT) hat f hf]
    cir_simp
    rw [scr_step_ge_none nn k res rsz rsl a asl t _ _ (by omega) rfl, ptrAt_pvar _ _ 8 B t rfl rfl]
    cir_simp
    rfl
  · -- carry in = the scratch
    obtain ⟨c, h2⟩ : ∃ c, (nT nn k res rsz rsl a asz asl X (d' + 1)).2 = some c :=
      ⟨_, by rw [nT_succ]; exact nstep_snd _ _ _ _ _ _ _ _ _⟩
    simp only [nEnv, if_neg (Nat.add_one_ne_zero d'), if_neg (Nat.add_one_ne_zero (d' + 1))]
    cir_simp
    rw [ptrAt_null, ptrAt_pvar _ _ 8 B t rfl rfl, idx_wrap _ _ hi64 hmul,
      ptrAt_param _ _ 1 B a ((asz - 1 - (d' + 1)) * asl) rfl, ptrAt_pvar _ _ 10 B t rfl rfl]
    cir_simp
    rw [arena_norm_cout_cin m0 B hB _ nn hnn k hk1 hk2 (a + (asz - 1 - (d' + 1)) * asl) t (by rw [hsz]; exact hab)
      (by rw [hsz]; exact hT) hat f hf]
    cir_simp
    rw [scr_step_ge_some nn k res rsz rsl a asl t X.size _ hinv _ (by omega) c h2 hat hT,
      ptrAt_pvar _ _ 8 B t rfl rfl]
    cir_simp
    rfl
theorem norm_step2 (hnn : nn < 18446744073709551616) (hk1 : 1 ≤ k) (hk2 : k ≤ 63)
    (hasz : asz < 9223372036854775808) (hX : X.size < 18446744073709551616)
    (hA : ∀ i, i < min rsz asz → SameOrDisj nn (res + i * rsl) (a + i * asl))
    (hTr : ∀ i, i < rsz → res + i * rsl + nn ≤ t ∨ t + nn ≤ res + i * rsl)
    (hTa : ∀ i, i < asz → a + i * asl + nn ≤ t ∨ t + nn ≤ a + i * asl) (hT : t + nn ≤ X.size)
    (d : Nat) (hd : d < asz) (hlt : asz - 1 - d < rsz)
    (hok : (nT nn k res rsz rsl a asz asl X (d + 1)).1.ok = true) (f : Nat) (hf : nn ≤ f) :
    exec [some (B, res), some (B, a), some (B, t)] (sForBody normFor2) f
        ⟨nEnv nn k rsz rsl asz asl B t d ((asz - 1 - d : Nat) : Int),
          m0.setIfInBounds B (scr t (nT nn k res rsz rsl a asz asl X d))⟩
      = .ok (.norm, ⟨nEnv nn k rsz rsl asz asl B t (d + 1) ((asz - 1 - d : Nat) : Int),
          m0.setIfInBounds B (scr t (nT nn k res rsz rsl a asz asl X (d + 1)))⟩) := by
  have hinv := nT_inv nn k res rsz rsl a asz asl X d
  rw [nT_succ] at hok ⊢
  obtain ⟨_, hab, hrb⟩ := nstep_ok _ _ _ _ _ _ _ _ _ hok
  have hrb := hrb hlt
  rw [hinv.size] at hab hrb
  have hi64 : asz - 1 - d < 18446744073709551616 := by omega
  have hmul : (asz - 1 - d) * asl < 18446744073709551616 := by omega
  have hmulr : (asz - 1 - d) * rsl < 18446744073709551616 := by omega
  have hat := hTa (asz - 1 - d) (by omega)
  have hrt := hTr (asz - 1 - d) hlt
  have hda := hA (asz - 1 - d) (by omega)
  have hsz : (scr t (nT nn k res rsz rsl a asz asl X d)).size = X.size := by rw [size_scr, hinv.size]
  show exec _ (.seq _ _) f _ = _
  rcases d with _ | d'
  · simp only [nEnv, if_pos (rfl : (0 : Nat) = 0), if_neg (Nat.add_one_ne_zero 0)]
    cir_simp
    rw [idx_wrap _ _ hi64 hmulr, ptrAt_param _ _ 0 B res ((asz - 1 - 0) * rsl) rfl, ptrAt_pvar _ _ 8 B t rfl rfl,
      idx_wrap _ _ hi64 hmul, ptrAt_param _ _ 1 B a ((asz - 1 - 0) * asl) rfl, ptrAt_pvar_null _ _ 10 0 rfl]
    cir_simp
    rw [arena_norm_out_cout m0 B hB _ nn hnn k hk1 hk2 (res + (asz - 1 - 0) * rsl) (a + (asz - 1 - 0) * asl) t
      (by rw [hsz]; exact hrb) (by rw [hsz]; exact hab) (by rw [hsz]; exact hT) hda hrt hat f hf]
    cir_simp
    rw [scr_step_lt_none nn k res rsz rsl a asl t _ _ hlt rfl, ptrAt_pvar _ _ 8 B t rfl rfl]
    cir_simp
    rfl
  · obtain ⟨c, h2⟩ : ∃ c, (nT nn k res rsz rsl a asz asl X (d' + 1)).2 = some c :=
      ⟨_, by rw [nT_succ]; exact nstep_snd _ _ _ _ _ _ _ _ _⟩
    simp only [nEnv, if_neg (Nat.add_one_ne_zero d'), if_neg (Nat.add_one_ne_zero (d' + 1))]
    cir_simp
    rw [idx_wrap _ _ hi64 hmulr, ptrAt_param _ _ 0 B res ((asz - 1 - (d' + 1)) * rsl) rfl,
      ptrAt_pvar _ _ 8 B t rfl rfl, idx_wrap _ _ hi64 hmul,
      ptrAt_param _ _ 1 B a ((asz - 1 - (d' + 1)) * asl) rfl, ptrAt_pvar _ _ 10 B t rfl rfl]
    cir_simp
    rw [arena_norm_out_cout_cin m0 B hB _ nn hnn k hk1 hk2 (res + (asz - 1 - (d' + 1)) * rsl)
      (a + (asz - 1 - (d' + 1)) * asl) t (by rw [hsz]; exact hrb) (by rw [hsz]; exact hab) (by rw [hsz]; exact hT)
      hda hrt hat f hf]
    cir_simp
    rw [scr_step_lt_some nn k res rsz rsl a asl t X.size _ hinv _ hlt c h2 hat hrt hT,
      ptrAt_pvar _ _ 8 B t rfl rfl]
    cir_simp
    rfl

theorem norm_last (hnn : nn < 18446744073709551616) (hk1 : 1 ≤ k) (hk2 : k ≤ 63)
    (hrsz : 0 < rsz) (hasz : 0 < asz)
    (hA : ∀ i, i < min rsz asz → SameOrDisj nn (res + i * rsl) (a + i * asl))
    (hTr : ∀ i, i < rsz → res + i * rsl + nn ≤ t ∨ t + nn ≤ res + i * rsl)
    (hTa : ∀ i, i < asz → a + i * asl + nn ≤ t ∨ t + nn ≤ a + i * asl) (hT : t + nn ≤ X.size)
    (hok : (nT nn k res rsz rsl a asz asl X asz).1.ok = true) (f : Nat) (hf : nn ≤ f) :
    exec [some (B, res), some (B, a), some (B, t)] normLast f
        ⟨nEnv nn k rsz rsl asz asl B t (asz - 1) 0,
          m0.setIfInBounds B (scr t (nT nn k res rsz rsl a asz asl X (asz - 1)))⟩
      = .ok (.norm, ⟨nEnv nn k rsz rsl asz asl B t (asz - 1) 0,
          m0.setIfInBounds B (lastArena t (nT nn k res rsz rsl a asz asl X (asz - 1))
            (nT nn k res rsz rsl a asz asl X asz))⟩) := by
  obtain ⟨d, rfl⟩ : ∃ d, asz = d + 1 := ⟨asz - 1, by omega⟩
  have hinv := nT_inv nn k res rsz rsl a (d + 1) asl X d
  simp only [Nat.add_sub_cancel] at hinv ⊢
  rw [nT_succ] at hok ⊢
  simp only [Nat.add_sub_cancel, Nat.sub_self] at hok ⊢
  obtain ⟨_, hab0, hrb0⟩ := nstep_ok _ _ _ _ _ _ _ _ _ hok
  have hrb1 := hrb0 hrsz
  rw [hinv.size] at hab0 hrb1
  have hab : a + 0 + nn ≤ X.size := by simpa using hab0
  have hrb : res + 0 + nn ≤ X.size := by simpa using hrb1
  clear hab0 hrb0 hrb1
  have hat : a + 0 + nn ≤ t ∨ t + nn ≤ a + 0 := by simpa using hTa 0 (by omega)
  have hrt : res + 0 + nn ≤ t ∨ t + nn ≤ res + 0 := by simpa using hTr 0 hrsz
  have hda : SameOrDisj nn (res + 0) (a + 0) := by simpa using hA 0 (by omega)
  have hsz : (scr t (nT nn k res rsz rsl a (d + 1) asl X d)).size = X.size := by rw [size_scr, hinv.size]
  show exec _ (.call _ _ _ _) f _ = _
  rcases d with _ | d'
  · simp only [nEnv, if_pos (rfl : (0 : Nat) = 0)]
    cir_simp
    rw [show (0 : Int) = ((0 : Nat) : Int) from rfl, ptrAt_param _ _ 0 B res 0 rfl, ptrAt_null,
      ptrAt_param _ _ 1 B a 0 rfl, ptrAt_pvar_null _ _ 10 _ rfl]
    cir_simp
    rw [arena_norm_out m0 B hB _ nn hnn k hk1 hk2 (res + 0) (a + 0) t (by rw [hsz]; exact hrb)
      (by rw [hsz]; exact hab) (by rw [hsz]; exact hT) hda hrt hat f hf]
    cir_simp
    have := scr_last_none nn k res rsz rsl a asl t (nT nn k res rsz rsl a (0 + 1) asl X 0) 0 hrsz rfl
    simp only [Nat.zero_mul] at this
    rw [this]
    rfl
  · obtain ⟨c, h2⟩ : ∃ c, (nT nn k res rsz rsl a (d' + 1 + 1) asl X (d' + 1)).2 = some c :=
      ⟨_, by rw [nT_succ]; exact nstep_snd _ _ _ _ _ _ _ _ _⟩
    simp only [nEnv, if_neg (Nat.add_one_ne_zero d')]
    cir_simp
    rw [ptrAt_null, ptrAt_pvar _ _ 10 B t rfl rfl, show (0 : Int) = ((0 : Nat) : Int) from rfl,
      ptrAt_param _ _ 0 B res 0 rfl, ptrAt_param _ _ 1 B a 0 rfl]
    cir_simp
    rw [arena_norm_out_cin m0 B hB _ nn hnn k hk1 hk2 (res + 0) (a + 0) t (by rw [hsz]; exact hrb)
      (by rw [hsz]; exact hab) (by rw [hsz]; exact hT) hda hrt hat f hf]
    cir_simp
    have hat' : a + 0 * asl + nn ≤ t ∨ t + nn ≤ a + 0 * asl := by simpa using hat
    have hrt' : res + 0 * rsl + nn ≤ t ∨ t + nn ≤ res + 0 * rsl := by simpa using hrt
    have := scr_last_some nn k res rsz rsl a asl t X.size (nT nn k res rsz rsl a (d' + 1 + 1) asl X (d' + 1)) hinv 0
      hrsz c h2 hat' hrt' hT
    simp only [Nat.zero_mul] at this
    rw [this]
    rw [lastArena_some t _ _ c h2]
end step
end Spq.CIR
