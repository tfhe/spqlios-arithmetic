/-
  No-overflow from a magnitude box: the level networks and the reim transforms.  The per-block butterfly on the bound
  arithmetic (`8^ℓ·U₀` after `ℓ` levels), hence the bound for any `Net` (`net_bd`).  If the inputs are finite doubles
  bounded by `U₀`, the stored twiddles are finite and bounded by 1, and `8^k·U₀ < 2^1023`, then the UNDERFLOW-only
  flags of the flagged run imply the full flags (`aOk`: no overflow, no underflow), and every output is a finite
  double bounded by `8^k·U₀`.  Proved once (`xform_no_ovf`) for a transform given by an `XformOK`: the run on the
  product arithmetic `aUB` is related (`xform_rel`) to the four runs it abstracts.
-/
import SpqProofs.Lemmas.VmpErrOvf2
import SpqProofs.Lemmas.FftErrSchedIXfer
namespace Spq.VmpErr
open Spq Spq.F64 Spq.Fft Spq.Fft.Alg Spq.Fft.RelN Spq.Fft.SimP Spq.Fft.LevelN Spq.Fft.SchedN Spq.Fft.Sim Spq.FftErr

def Bd2 (U : ℚ) (u : (ℚ × Prop) × (ℚ × Prop)) : Prop := Bd U u.1 ∧ Bd U u.2

theorem bfV_bd {f : Bf (ℚ × Prop)} (hf : BfBd f) {wr wi : ℚ × Prop} (h5 : Bd 1 wr) (h6 : Bd 1 wi) {U : ℚ} (hU : 0 ≤ U)
    (hT : 8 * U < Tov) {u v : (ℚ × Prop) × (ℚ × Prop)} (hu : Bd2 U u) (hv : Bd2 U v) :
    Bd2 (8 * U) (bfV f wr wi u v).1 ∧ Bd2 (8 * U) (bfV f wr wi u v).2 := by
  obtain ⟨a1, a2, a3, a4⟩ := hf U hU hT u.1 u.2 v.1 v.2 wr wi hu.1 hu.2 hv.1 hv.2 h5 h6
  exact ⟨⟨a1, a2⟩, ⟨a3, a4⟩⟩

theorem gNet_bd {F : Flav (ℚ × Prop)} (hF : FlavBd F) (c s : ℕ → ℚ × Prop) (hc : ∀ e, Bd 1 (c e)) (hs : ∀ e, Bd 1 (s e))
    (k ℓ d b : ℕ) {U : ℚ} (hU : 0 ≤ U) (hT : 8 * U < Tov) {u v : (ℚ × Prop) × (ℚ × Prop)} (hu : Bd2 U u) (hv : Bd2 U v) :
    Bd2 (8 * U) (gNet F c s k ℓ d b u v).1 ∧ Bd2 (8 * U) (gNet F c s k ℓ d b u v).2 := by
  unfold gNet
  have hct : BfBd (ctK F k) := by unfold ctK; split <;> [exact hF.ct2; (split <;> [exact hF.ctS; exact hF.ct])]
  have hcit : BfBd (citK F k) := by unfold citK; split <;> [exact hF.citS; exact hF.cit]
  split
  · exact bfV_bd hcit (hc _) (hs _) hU hT hu hv
  · exact bfV_bd hct (hc _) (hs _) hU hT hu hv

theorem pow8_mono {U0 : ℚ} (hU0 : 0 ≤ U0) {a b : ℕ} (h : a ≤ b) : (8 : ℚ) ^ a * U0 ≤ 8 ^ b * U0 :=
  mul_le_mul_of_nonneg_right (pow_le_pow_right₀ (by norm_num) h) hU0

theorem gNet_step {F : Flav (ℚ × Prop)} (hF : FlavBd F) (k : ℕ) (U0 : ℚ) (hU0 : 0 ≤ U0) (hT : 8 ^ k * U0 < Tov)
    (n ℓ d b : ℕ) (hn : n < k) {u v : (ℚ × Prop) × (ℚ × Prop)} (hu : Bd2 (8 ^ n * U0) u) (hv : Bd2 (8 ^ n * U0) v) :
    Bd2 (8 ^ (n + 1) * U0) (gNet F (fun _ => (1, True)) (fun _ => (1, True)) k ℓ d b u v).1 ∧
    Bd2 (8 ^ (n + 1) * U0) (gNet F (fun _ => (1, True)) (fun _ => (1, True)) k ℓ d b u v).2 := by
  have one : Bd 1 ((1, True) : ℚ × Prop) := ⟨trivial, by norm_num, le_refl _⟩
  have h8 : (8 : ℚ) ^ (n + 1) * U0 = 8 * (8 ^ n * U0) := by rw [pow_succ]; ring
  have hlt : 8 * ((8 : ℚ) ^ n * U0) < Tov := by
    rw [← h8]; exact lt_of_le_of_lt (pow8_mono hU0 (by omega)) hT
  rw [h8]
  exact gNet_bd hF _ _ (fun _ => one) (fun _ => one) k ℓ d b (by positivity) hlt hu hv

theorem net_bd {k : ℕ} {N : ∀ {γ : Type}, (ℕ → ℕ → ℕ → γ → γ → γ × γ) → (ℕ → γ) → ℕ → γ} (hN : Net k N)
    {F : Flav (ℚ × Prop)} (hF : FlavBd F) (U0 : ℚ) (hU0 : 0 ≤ U0) (hT : 8 ^ k * U0 < Tov)
    (a : ℕ → (ℚ × Prop) × (ℚ × Prop)) (ha : ∀ p, p < 2 ^ k → Bd2 (8 ^ 0 * U0) (a p)) (p : ℕ) (hp : p < 2 ^ k) :
    Bd2 (8 ^ k * U0) (N (gNet F (fun _ => (1, True)) (fun _ => (1, True)) k) a p) :=
  hN.rel (fun n u (_ : Unit) => Bd2 (8 ^ n * U0) u) _ (fun _ _ _ _ _ => ((), ()))
    (fun n ℓ d b _ _ _ _ hn hu hv => gNet_step hF k U0 hU0 hT n ℓ d b hn hu hv) a (fun _ => ()) ha p hp

/-- the stored twiddles are finite doubles of magnitude at most 1 (true of `cos` / `sin` tables) -/
def TabOk (cN sN : ℕ → ℕ) : Prop :=
  ∀ e, (Fin64 (cN e) ∧ |val (cN e)| ≤ 1) ∧ (Fin64 (sN e) ∧ |val (sN e)| ≤ 1)

theorem rlO_lift (b : ℕ) (B : ℚ) (hB : 0 ≤ B) (hb : Fin64 b → |val b| ≤ B) : RlO (lift b) (lift b, (B, True)) :=
  ⟨rfl, hB, fun hu _ => ⟨hu, hu, hb hu⟩⟩

/-- the four runs of one cell put together: `X` full flags, `b` bit level, `Z` on the product arithmetic with
    projections `Y` (underflow-only flags) and `W` (bounds) -/
theorem flag_of_bound {X : ℕ × Prop} {b : ℕ} {Z : (ℕ × Prop) × (ℚ × Prop)} {Y : ℕ × Prop} {W : ℚ × Prop} {V : ℚ}
    (r0 : X.1 = b) (r1 : RlO X Z) (r2 : Z.1 = Y) (r3 : Z.2 = W) (bd : Bd V W) (hf : Y.2) :
    X.2 ∧ Fin64 b ∧ |val b| ≤ V := by
  subst r0 r2 r3
  obtain ⟨x1, x2, x3⟩ := r1.2.2 hf bd.1
  exact ⟨x1, x2, le_trans x3 bd.2.2⟩

theorem xform_bd {k : ℕ} {ents : List Ent} {T : ∀ {R : Type} [Inhabited R], Flav R → ℕ → Array R → RI R → RI R}
    {N : ∀ {γ : Type}, (ℕ → ℕ → ℕ → γ → γ → γ × γ) → (ℕ → γ) → ℕ → γ} (hX : XformOK k ents T N)
    {F : Flav (ℚ × Prop)} (hF : FlavBd F) (cN sN : ℕ → ℕ) (data : Array ℕ) (hdata : data.size = 2 * 2 ^ k)
    (U0 : ℚ) (hU0 : 0 ≤ U0) (hT : 8 ^ k * U0 < Tov) :
    ∀ p, p < 2 * 2 ^ k → Bd (8 ^ k * U0)
      ((joinRI (T F (2 ^ k) (((ents.map (valP cN sN)).toArray).map fun _ => ((1 : ℚ), True))
        (splitRI (2 ^ k) (data.map fun _ => (U0, True)))))[p]!) := by
  have hd' : (data.map fun _ => (U0, True)).size = 2 * 2 ^ k := by rw [Array.size_map]; exact hdata
  rw [table_map (fun _ => ((1 : ℚ), True)) cN sN]
  obtain ⟨inp, c⟩ := hX.cells F (fun _ => ((1 : ℚ), True)) (fun _ => ((1 : ℚ), True)) (data.map fun _ => (U0, True)) hd'
  have bd := net_bd hX.net hF U0 hU0 hT (prs (splitRI (2 ^ k) (data.map fun _ => (U0, True))))
    (fun q hq => by
      rw [inp q hq, getElem!_map _ data q (by omega), getElem!_map _ data (2 ^ k + q) (by omega), pow_zero, one_mul]
      exact ⟨⟨trivial, hU0, le_refl _⟩, ⟨trivial, hU0, le_refl _⟩⟩)
  refine halves (fun j hj => ?_) (fun j hj => ?_)
  · rw [(c j hj).1]; exact (bd j hj).1
  · rw [(c j hj).2]; exact (bd j hj).2

theorem xform_no_ovf {k : ℕ} {ents : List Ent} {T : ∀ {R : Type} [Inhabited R], Flav R → ℕ → Array R → RI R → RI R}
    {N : ∀ {γ : Type}, (ℕ → ℕ → ℕ → γ → γ → γ × γ) → (ℕ → γ) → ℕ → γ} (hX : XformOK k ents T N)
    (Fam : ∀ {α : Type}, Arith α → Flav α) (hFam : FamOK Fam) (hBd : FlavBd (Fam aB))
    (cN sN : ℕ → ℕ) (htab : TabOk cN sN) (data : Array ℕ) (hdata : data.size = 2 * 2 ^ k) (U0 : ℚ) (hU0 : 0 ≤ U0)
    (hd : ∀ p, p < 2 * 2 ^ k → |val data[p]!| ≤ U0) (hT : 8 ^ k * U0 < Tov)
    (hokU : ∀ p, p < 2 * 2 ^ k →
      ((joinRI (T (Fam aU) (2 ^ k) (((ents.map (valP cN sN)).toArray).map lift) (splitRI (2 ^ k) (data.map lift))))[p]!).2) :
    ∀ p, p < 2 * 2 ^ k →
      ((joinRI (T (Fam aOk) (2 ^ k) (((ents.map (valP cN sN)).toArray).map lift) (splitRI (2 ^ k) (data.map lift))))[p]!).2 ∧
      Fin64 ((joinRI (T (Fam f64) (2 ^ k) (ents.map (valP cN sN)).toArray (splitRI (2 ^ k) data)))[p]!) ∧
      |val ((joinRI (T (Fam f64) (2 ^ k) (ents.map (valP cN sN)).toArray (splitRI (2 ^ k) data)))[p]!)| ≤ 8 ^ k * U0 := by
  intro p hp
  -- the run on `aUB` (twiddles bounded by 1, data by `U₀`) against: full flags, its two projections; full flags against bits
  have r0 := xform_rel hX Fam hFam aOk_sim_f64 lift lift id id cN sN (fun _ => ⟨rfl, rfl⟩) data hdata (fun _ _ => rfl) p hp
  have r1 := xform_rel hX Fam hFam asimO lift lift (fun b => (lift b, ((1 : ℚ), True))) (fun b => (lift b, (U0, True))) cN sN
    (fun e => ⟨rlO_lift _ 1 zero_le_one (fun _ => (htab e).1.2), rlO_lift _ 1 zero_le_one (fun _ => (htab e).2.2)⟩)
    data hdata (fun i hi => rlO_lift _ U0 hU0 (fun _ => hd i hi)) p hp
  have r2 := xform_rel hX Fam hFam asim_fst (fun b => (lift b, ((1 : ℚ), True))) (fun b => (lift b, (U0, True))) lift lift
    cN sN (fun _ => ⟨rfl, rfl⟩) data hdata (fun _ _ => rfl) p hp
  have r3 := xform_rel hX Fam hFam asim_snd (fun b => (lift b, ((1 : ℚ), True))) (fun b => (lift b, (U0, True)))
    (fun _ => ((1 : ℚ), True)) (fun _ => (U0, True)) cN sN (fun _ => ⟨rfl, rfl⟩) data hdata (fun _ _ => rfl) p hp
  rw [Array.map_id, Array.map_id] at r0
  exact flag_of_bound r0 r1 r2 r3 (xform_bd hX hBd cN sN data hdata U0 hU0 hT p hp) (hokU p hp)

theorem fft_no_ovf (Fam : ∀ {α : Type}, Arith α → Flav α) (hFam : FamOK Fam) (hBd : FlavBd (Fam aB)) (k : ℕ)
    (cN sN : ℕ → ℕ) (htab : TabOk cN sN) (data : Array ℕ) (hdata : data.size = 2 * 2 ^ k) (U0 : ℚ) (hU0 : 0 ≤ U0)
    (hd : ∀ p, p < 2 * 2 ^ k → |val data[p]!| ≤ U0) (hT : 8 ^ k * U0 < Tov)
    (hokU : ∀ p, p < 2 * 2 ^ k →
      ((reimFftA (Fam aU) (2 ^ k) ((((reimFftEnts (2 ^ k)).map (valP cN sN)).toArray).map lift) (data.map lift))[p]!).2) :
    ∀ p, p < 2 * 2 ^ k →
      ((reimFftA (Fam aOk) (2 ^ k) ((((reimFftEnts (2 ^ k)).map (valP cN sN)).toArray).map lift) (data.map lift))[p]!).2 ∧
      Fin64 ((reimFftA (Fam f64) (2 ^ k) ((reimFftEnts (2 ^ k)).map (valP cN sN)).toArray data)[p]!) ∧
      |val ((reimFftA (Fam f64) (2 ^ k) ((reimFftEnts (2 ^ k)).map (valP cN sN)).toArray data)[p]!)| ≤ 8 ^ k * U0 :=
  xform_no_ovf (xformF k) Fam hFam hBd cN sN htab data hdata U0 hU0 hd hT hokU

theorem ifft_no_ovf (Fam : ∀ {α : Type}, Arith α → Flav α) (hFam : FamOK Fam) (hBd : FlavBd (Fam aB)) (k : ℕ)
    (cN sN : ℕ → ℕ) (htab : TabOk cN sN) (data : Array ℕ) (hdata : data.size = 2 * 2 ^ k) (U0 : ℚ) (hU0 : 0 ≤ U0)
    (hd : ∀ p, p < 2 * 2 ^ k → |val data[p]!| ≤ U0) (hT : 8 ^ k * U0 < Tov)
    (hokU : ∀ p, p < 2 * 2 ^ k →
      ((reimIfftA (Fam aU) (2 ^ k) ((((reimIfftEnts (2 ^ k)).map (valP cN sN)).toArray).map lift) (data.map lift))[p]!).2) :
    ∀ p, p < 2 * 2 ^ k →
      ((reimIfftA (Fam aOk) (2 ^ k) ((((reimIfftEnts (2 ^ k)).map (valP cN sN)).toArray).map lift) (data.map lift))[p]!).2 ∧
      Fin64 ((reimIfftA (Fam f64) (2 ^ k) ((reimIfftEnts (2 ^ k)).map (valP cN sN)).toArray data)[p]!) ∧
      |val ((reimIfftA (Fam f64) (2 ^ k) ((reimIfftEnts (2 ^ k)).map (valP cN sN)).toArray data)[p]!)| ≤ 8 ^ k * U0 :=
  xform_no_ovf (xformI k) Fam hFam hBd cN sN htab data hdata U0 hU0 hd hT hokU

end Spq.VmpErr
