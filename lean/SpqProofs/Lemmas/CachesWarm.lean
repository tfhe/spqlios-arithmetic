/-
  The warm-up protocol of the `*_simple` convenience functions (for C12Warm).  For a cache keyed by the dimension alone
  (`DimOnly`: one slot per `m`, no guard parameter) a filled slot is never written again, so `Warm s st D` (the slots of
  the dimensions in `D` are filled, each with a table built for that dimension) is preserved by every step and makes every
  later call with a dimension in `D`, whatever its other arguments, a no-op on the cache state.  Then threads whose atomic
  actions are such calls, on a shared or per-thread cache state, with the one-step facts `Sched.indep` asks for.
-/
import SpqProofs.Lemmas.Caches
import SpqProofs.Lemmas.Interleave
namespace Spq.Caches

/-- a cache whose key is the dimension alone: one slot per `m`, no re-initialisation guard -/
def DimOnly (s : Spec) : Prop := s.slotByM = true ∧ s.guard = []

/-- the slot used for dimension `m` -/
def slotOfM (s : Spec) (m : Int) : Nat := if s.slotByM then ilog2 m else 0

theorem slotOf_eq (s : Spec) (c : Call) : slotOf s c = slotOfM s (c.get "m") := rfl

/-- the slots of the dimensions in `D` are filled, each with a table built for that dimension -/
def Warm (s : Spec) (st : State) (D : List Int) : Prop :=
  ∀ m ∈ D, ∃ e, st (slotOfM s m) = some e ∧ e.get "m" = m

/-- the slot a step writes (`none`: the step writes nothing) — see `C12Warm.written_is_sound` -/
def written (s : Spec) (st : State) (c : Call) : Option Nat :=
  if (step s st c).2.2 then some (slotOf s c) else none

theorem sameKey_dimOnly (s : Spec) (h : DimOnly s) (e c : Call) : sameKey s e c = true := by
  simp [sameKey, h.2]

theorem step_filled (s : Spec) (h : DimOnly s) (st : State) (c : Call) (k : Nat) (e : Call)
    (hk : st k = some e) : (step s st c).1 k = some e := by
  rcases step_cases s st c with ⟨_, _, _, hs⟩ | ⟨hn, hs⟩
  · rw [hs]; exact hk
  · rw [hs]
    have : k ≠ slotOf s c := fun q => hn e (q ▸ hk) (sameKey_dimOnly s h e c)
    simp [this, hk]

theorem run_filled (s : Spec) (h : DimOnly s) (k : Nat) (e : Call) : ∀ (hist : List Call) (st : State),
    st k = some e → run s st hist k = some e := by
  intro hist
  induction hist with
  | nil => intro st hk; exact hk
  | cons c cs ih =>
    intro st hk
    simp only [run, List.foldl_cons]
    exact ih _ (step_filled s h st c k e hk)

theorem warm_step (s : Spec) (h : DimOnly s) (st : State) (D : List Int) (c : Call) (hw : Warm s st D) :
    Warm s (step s st c).1 D := fun m hm =>
  let ⟨e, he, hem⟩ := hw m hm
  ⟨e, step_filled s h st c _ e he, hem⟩

theorem warm_run (s : Spec) (h : DimOnly s) (D : List Int) (hist : List Call) (st : State) (hw : Warm s st D) :
    Warm s (run s st hist) D := fun m hm =>
  let ⟨e, he, hem⟩ := hw m hm
  ⟨e, run_filled s h _ e hist st he, hem⟩

theorem run_append (s : Spec) (st : State) (a b : List Call) : run s st (a ++ b) = run s (run s st a) b := by
  simp [run, List.foldl_append]

theorem step_warms (s : Spec) (h : DimOnly s) (st : State) (hinv : Inv s st) (c : Call) (hc : Pow2M c) :
    ∃ e, (step s st c).1 (slotOf s c) = some e ∧ e.get "m" = c.get "m" := by
  obtain ⟨e, he, _⟩ := step_then_warm s st c
  obtain ⟨hslot, hpe⟩ := step_inv s st c hinv hc _ e he
  exact ⟨e, he, pow2_slot_inj s h.1 e c hpe hc hslot⟩

theorem warm_of_history (s : Spec) (h : DimOnly s) (D : List Int) (hist : List Call) (st : State)
    (hinv : Inv s st) (hp : ∀ c ∈ hist, Pow2M c) (hcov : ∀ m ∈ D, ∃ c ∈ hist, c.get "m" = m) :
    Warm s (run s st hist) D := by
  intro m hm
  obtain ⟨c, hc, hcm⟩ := hcov m hm
  obtain ⟨pre, post, rfl⟩ := List.append_of_mem hc
  have hpre : Inv s (run s st pre) := run_inv s pre (fun c' hc' => hp c' (by simp [hc'])) st hinv
  obtain ⟨e, he, hem⟩ := step_warms s h _ hpre c (hp c hc)
  refine ⟨e, ?_, hem.trans hcm⟩
  rw [run_append]
  simp only [run, List.foldl_cons]
  rw [slotOf_eq, hcm] at he
  exact run_filled s h _ e post _ he

theorem step_of_warm (s : Spec) (h : DimOnly s) (st : State) (D : List Int) (hw : Warm s st D)
    (c : Call) (hc : c.get "m" ∈ D) :
    ∃ e, st (slotOf s c) = some e ∧ e.get "m" = c.get "m" ∧ step s st c = (st, e, false) := by
  obtain ⟨e, he, hem⟩ := hw _ hc
  rw [← slotOf_eq] at he
  exact ⟨e, he, hem, step_warm s st c e he (sameKey_dimOnly s h e c)⟩

theorem run_of_warm (s : Spec) (h : DimOnly s) (st : State) (D : List Int) (hw : Warm s st D) :
    ∀ cs : List Call, (∀ c ∈ cs, c.get "m" ∈ D) →
      run s st cs = st ∧ rebuilds s st cs = List.replicate cs.length false := by
  intro cs
  induction cs with
  | nil => intro _; exact ⟨rfl, rfl⟩
  | cons c cs ih =>
    intro hc
    obtain ⟨e, _, _, hst⟩ := step_of_warm s h st D hw c (hc c (by simp))
    obtain ⟨h1, h2⟩ := ih (fun c' hc' => hc c' (by simp [hc']))
    constructor
    · simp only [run, List.foldl_cons, hst]; exact h1
    · simp only [rebuilds, hst, List.length_cons, List.replicate_succ, h2]

/-! ### threads whose atomic actions are convenience calls (sequentially consistent interleavings)

  Same shape as `Spq.Globals` (`Prog/Conf/stepThread/runSched/runSolo`), but an action is a whole
  call of the cache state machine — executed by the real `step`, which writes a slot when it has to —
  and the cache state is either the one shared object (`tls = false`) or one object per thread
  (`tls = true`, the C `__thread` qualifier). -/

/-- what a call observes: the arguments the table it used was built with, and whether it built it now -/
abbrev Obs := Call × Bool

/-- a deterministic thread: its next call (all arguments) is a function of what it observed so far -/
abbrev CProg := List Obs → Option Call

structure CConf where
  shared : State
  priv : Nat → State
  hist : Nat → List Obs

/-- the cache object thread `t` works on -/
def cacheOf (tls : Bool) (c : CConf) (t : Nat) : State := if tls then c.priv t else c.shared

def stepThread (tls : Bool) (s : Spec) (progs : Nat → CProg) (c : CConf) (t : Nat) : CConf :=
  match progs t (c.hist t) with
  | none => c
  | some call =>
    let r := step s (cacheOf tls c t) call
    { shared := if tls then c.shared else r.1
      priv := fun u => if u = t then (if tls then r.1 else c.priv u) else c.priv u
      hist := fun u => if u = t then c.hist t ++ [(r.2.1, r.2.2)] else c.hist u }

def runSched (tls : Bool) (s : Spec) (progs : Nat → CProg) (c : CConf) (sched : List Nat) : CConf :=
  sched.foldl (stepThread tls s progs) c

def runSolo (tls : Bool) (s : Spec) (progs : Nat → CProg) (c : CConf) (t n : Nat) : CConf :=
  runSched tls s progs c (List.replicate n t)

/-- every call any thread can ever issue has its dimension in `D` (all other arguments are free and may
    depend on what the thread has observed) -/
def CallsIn (progs : Nat → CProg) (D : List Int) : Prop := ∀ t h call, progs t h = some call → call.get "m" ∈ D

theorem stepThread_hist_other (tls : Bool) (s : Spec) (progs : Nat → CProg) (c : CConf) (t u : Nat) (h : u ≠ t) :
    (stepThread tls s progs c t).hist u = c.hist u := by
  unfold stepThread
  split <;> simp [h]

theorem stepThread_tls (s : Spec) (progs : Nat → CProg) (c : CConf) (t : Nat) :
    (stepThread true s progs c t).shared = c.shared ∧
    ∀ u, u ≠ t → (stepThread true s progs c t).priv u = c.priv u := by
  unfold stepThread
  split
  · exact ⟨rfl, fun _ _ => rfl⟩
  · exact ⟨rfl, fun u hu => by simp [hu]⟩

theorem stepThread_congr (tls : Bool) (s : Spec) (progs : Nat → CProg) (c c' : CConf) (t : Nat)
    (h : (cacheOf tls c t, c.hist t) = (cacheOf tls c' t, c'.hist t)) :
    (cacheOf tls (stepThread tls s progs c t) t, (stepThread tls s progs c t).hist t) =
      (cacheOf tls (stepThread tls s progs c' t) t, (stepThread tls s progs c' t).hist t) := by
  obtain ⟨hs, hh⟩ := Prod.mk.inj h
  unfold stepThread
  rw [hh]
  split
  · exact h
  · cases tls <;> simp_all [cacheOf]

theorem stepThread_shared_warm (s : Spec) (h : DimOnly s) (progs : Nat → CProg) (D : List Int)
    (hin : CallsIn progs D) (c : CConf) (hw : Warm s c.shared D) (t : Nat) :
    (stepThread false s progs c t).shared = c.shared := by
  unfold stepThread
  split
  · rfl
  · rename_i call hcall
    obtain ⟨e, _, _, hst⟩ := step_of_warm s h c.shared D hw call (hin t _ call hcall)
    simp [cacheOf, hst]

/-! ### data of the examples of `Properties/C12Warm.lean` -/

/-- warm-up calls for D = {8, 16} … -/
def warmupCalls : List Call := [[("m", 8), ("data", 4096), ("log2bound", 10)], [("m", 16), ("data", 8192), ("log2bound", 10)]]
/-- … then m = 8 with other arguments, then m = 16 with other arguments -/
def laterCalls : List Call := [[("m", 8), ("data", 12288), ("log2bound", 40)], [("m", 16), ("log2bound", 50)]]

theorem warmupCalls_pow2 : ∀ c ∈ warmupCalls, Pow2M c := by
  intro c hc
  simp only [warmupCalls, List.mem_cons, List.not_mem_nil, or_false] at hc
  rcases hc with rfl | rfl
  · exact ⟨3, by decide +kernel⟩
  · exact ⟨4, by decide +kernel⟩

end Spq.Caches
