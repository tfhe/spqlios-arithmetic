/-
  Arena forms of the automorphism kernels (out of place and in place), for `vec_znx_automorphism_ref`:
  `znx_automorphism_cells` and `src_automorphism_inplace` at `cells_window`.
-/
import SpqProofs.Lemmas.SrcVecKern
import SpqProofs.Lemmas.SrcAutLevel
namespace Spq.CIR
open Spq

section
variable (m0 : Mem) (B : Nat) (hB : B < m0.size) (X : Array Int) (nn : Nat)
include hB

theorem arena_automorphism (t : Nat) (ht : t ≤ 63) (hnn : nn = 2 ^ t) (p : Int) (ro ao : Nat)
    (hr : ro + nn ≤ X.size) (ha : ao + nn ≤ X.size) (hd : ro + nn ≤ ao ∨ ao + nn ≤ ro) :
    ∀ fuel, nn ≤ fuel →
      run fuel Gen.CSrc.znx_automorphism_i64 [(nn : Int), p] [some (B, ro), some (B, ao)] (m0.setIfInBounds B X)
        = .ok (m0.setIfInBounds B
            (Heap.writeArr X ro (Coeffs.automorphism i64Ops nn p (win X ao nn) (win X ro nn)))) := by
  intro fuel hf
  conv => lhs; rw [← writeArr_win_self X ro nn hr]
  exact znx_automorphism_cells t ht nn hnn p (cells_window m0 B hB X ro nn hr) (win X ao nn)
    (fun Y k hY hk => load_window_disj m0 B hB X ro ao nn ha hd Y k hY hk) (win X ro nn) (size_win X ro nn) fuel hf

theorem arena_automorphism_inplace (t : Nat) (ht : t ≤ 62) (hnn : nn = 2 ^ t) (p : Int) (hp : p % 2 = 1)
    (ro : Nat) (hr : ro + nn ≤ X.size) :
    ∀ fuel, 3 * nn + 64 ≤ fuel →
      run fuel Gen.CSrc.znx_automorphism_inplace_i64 [(nn : Int), p] [some (B, ro)] (m0.setIfInBounds B X)
        = .ok (m0.setIfInBounds B
            (Heap.writeArr X ro (Coeffs.automorphismInplace i64Ops nn p (win X ro nn)))) := by
  intro fuel hf
  conv => lhs; rw [← writeArr_win_self X ro nn hr]
  exact src_automorphism_inplace elem_i64 _ rfl rfl t ht nn hnn p hp (cells_window m0 B hB X ro nn hr) (win X ro nn)
    (size_win X ro nn) fuel hf

end
end Spq.CIR
