/-
  Non-vacuity witness: from the Boolean flags of an evaluated run to the propositional flags that the
  rounding theorems take as hypotheses (forward / inverse reim transform, pointwise product; every `k`, every input),
  so that `decide +kernel` on the Boolean run discharges the hypothesis.
-/
import SpqProofs.Lemmas.ErrWitnessFlags
namespace Spq.ErrWitness
open Spq.Fft Spq.Fft.Alg Spq.Fft.RelN Spq.Fft.SimP Spq.Fft.LevelN Spq.Fft.SchedN Spq.Fft.Sim Spq.FftErr Spq.F64 Spq.ProdErr
  Spq.Reim4

theorem famOf_ok (fma : Bool) : FamOK (famOf fma) := by
  cases fma
  · exact famRef
  · exact famFma

theorem ifamOf_ok (fma : Bool) : FamOK (ifamOf fma) := by
  cases fma
  · exact famIRef
  · exact famIFma

theorem fft_flags_of_bool (Fam : ∀ {α : Type}, Arith α → Flav α) (hFam : FamOK Fam) (k : ℕ) (cN sN : ℕ → ℕ)
    (data : Array ℕ) (hdata : data.size = 2 * 2 ^ k) (p : ℕ) (hp : p < 2 * 2 ^ k)
    (hb : ((reimFftA (Fam aOkB) (2 ^ k) ((((reimFftEnts (2 ^ k)).map (valP cN sN)).toArray).map liftB)
      (data.map liftB))[p]!).2 = true) :
    ((reimFftA (Fam aOk) (2 ^ k) ((((reimFftEnts (2 ^ k)).map (valP cN sN)).toArray).map lift) (data.map lift))[p]!).2 :=
  (xform_rel (xformF k) Fam hFam aOkB_sim liftB liftB lift lift cN sN (fun _ => ⟨RB_lift _, RB_lift _⟩) data hdata
    (fun _ _ => RB_lift _) p hp).2 hb

theorem ifft_flags_of_bool (Fam : ∀ {α : Type}, Arith α → Flav α) (hFam : FamOK Fam) (k : ℕ) (cN sN : ℕ → ℕ)
    (data : Array ℕ) (hdata : data.size = 2 * 2 ^ k) (p : ℕ) (hp : p < 2 * 2 ^ k)
    (hb : ((reimIfftA (Fam aOkB) (2 ^ k) ((((reimIfftEnts (2 ^ k)).map (valP cN sN)).toArray).map liftB)
      (data.map liftB))[p]!).2 = true) :
    ((reimIfftA (Fam aOk) (2 ^ k) ((((reimIfftEnts (2 ^ k)).map (valP cN sN)).toArray).map lift) (data.map lift))[p]!).2 :=
  (xform_rel (xformI k) Fam hFam aOkB_sim liftB liftB lift lift cN sN (fun _ => ⟨RB_lift _, RB_lift _⟩) data hdata
    (fun _ _ => RB_lift _) p hp).2 hb

theorem getD_RB (a : Array ℕ) (i : ℕ) : RB ((a.map liftB).getD i arithOkB.zero) ((a.map lift).getD i arithOk.zero) := by
  show RB ((a.map liftB).getD i (liftB 0)) ((a.map lift).getD i (lift 0))
  rw [getD_map, getD_map]; exact RB_lift _

/-- pointwise product (`reim_fftvec_mul`, either kernel) -/
theorem mul_flags_of_bool (fma : Bool) (m : ℕ) (hm : fma = true → m % 4 = 0) (a b : Array ℕ) (p : ℕ) (hp : p < 2 * m)
    (hb : ((mulA arithOkB fma m (a.map liftB) (b.map liftB)).getD p arithOkB.zero).2 = true) :
    ((mulA arithOk fma m (a.map lift) (b.map lift)).getD p arithOk.zero).2 := by
  have c1 := (mulA_cells arithOkB fma m hm (a.map liftB) (b.map liftB)).2
  have c2 := (mulA_cells arithOk fma m hm (a.map lift) (b.map lift)).2
  have hre : ∀ {x x' y y' u u' v v'}, RB x x' → RB y y' → RB u u' → RB v v' →
      RB (cellRe arithOkB fma x y u v) (cellRe arithOk fma x' y' u' v') := by
    intro x x' y y' u u' v v' hx hy hu hv
    unfold cellRe reRef
    cases fma
    · exact arithOkB_sim.sub (arithOkB_sim.mul hx hu) (arithOkB_sim.mul hy hv)
    · exact arithOkB_sim.fms hx hu (arithOkB_sim.mul hy hv)
  have him : ∀ {x x' y y' u u' v v'}, RB x x' → RB y y' → RB u u' → RB v v' →
      RB (cellIm arithOkB fma x y u v) (cellIm arithOk fma x' y' u' v') := by
    intro x x' y y' u u' v v' hx hy hu hv
    unfold cellIm imRef
    cases fma
    · exact arithOkB_sim.add (arithOkB_sim.mul hx hv) (arithOkB_sim.mul hy hu)
    · exact arithOkB_sim.fma hy hu (arithOkB_sim.mul hx hv)
  by_cases h : p < m
  · rw [(c1 p h).1] at hb
    rw [(c2 p h).1]
    exact (hre (getD_RB a p) (getD_RB a (p + m)) (getD_RB b p) (getD_RB b (p + m))).2 hb
  · obtain ⟨j, rfl⟩ : ∃ j, p = j + m := ⟨p - m, by omega⟩
    have hj : j < m := by omega
    rw [(c1 j hj).2] at hb
    rw [(c2 j hj).2]
    exact (him (getD_RB a j) (getD_RB a (j + m)) (getD_RB b j) (getD_RB b (j + m))).2 hb

def fwdFlagsB (Fam : ∀ {α : Type}, Arith α → Flav α) (k : ℕ) (cN sN : ℕ → ℕ) (data : Array ℕ) : Bool :=
  (List.range (2 * 2 ^ k)).all fun p =>
    ((reimFftA (Fam aOkB) (2 ^ k) ((((reimFftEnts (2 ^ k)).map (valP cN sN)).toArray).map liftB) (data.map liftB))[p]!).2

def invFlagsB (Fam : ∀ {α : Type}, Arith α → Flav α) (k : ℕ) (cN sN : ℕ → ℕ) (data : Array ℕ) : Bool :=
  (List.range (2 * 2 ^ k)).all fun p =>
    ((reimIfftA (Fam aOkB) (2 ^ k) ((((reimIfftEnts (2 ^ k)).map (valP cN sN)).toArray).map liftB) (data.map liftB))[p]!).2

def mulFlagsB (fma : Bool) (m : ℕ) (a b : Array ℕ) : Bool :=
  (List.range (2 * m)).all fun p => ((mulA arithOkB fma m (a.map liftB) (b.map liftB)).getD p arithOkB.zero).2

theorem fft_flags_of_all (Fam : ∀ {α : Type}, Arith α → Flav α) (hFam : FamOK Fam) (k : ℕ) (cN sN : ℕ → ℕ)
    (data : Array ℕ) (hdata : data.size = 2 * 2 ^ k) (h : fwdFlagsB Fam k cN sN data = true) :
    ∀ p, p < 2 * 2 ^ k →
      ((reimFftA (Fam aOk) (2 ^ k) ((((reimFftEnts (2 ^ k)).map (valP cN sN)).toArray).map lift) (data.map lift))[p]!).2 :=
  fun p hp => fft_flags_of_bool Fam hFam k cN sN data hdata p hp (all_range h p hp)

theorem ifft_flags_of_all (Fam : ∀ {α : Type}, Arith α → Flav α) (hFam : FamOK Fam) (k : ℕ) (cN sN : ℕ → ℕ)
    (data : Array ℕ) (hdata : data.size = 2 * 2 ^ k) (h : invFlagsB Fam k cN sN data = true) :
    ∀ p, p < 2 * 2 ^ k →
      ((reimIfftA (Fam aOk) (2 ^ k) ((((reimIfftEnts (2 ^ k)).map (valP cN sN)).toArray).map lift) (data.map lift))[p]!).2 :=
  fun p hp => ifft_flags_of_bool Fam hFam k cN sN data hdata p hp (all_range h p hp)

theorem mul_flags_of_all (fma : Bool) (m : ℕ) (hm : fma = true → m % 4 = 0) (a b : Array ℕ)
    (h : mulFlagsB fma m a b = true) :
    ∀ p, p < 2 * m → ((mulA arithOk fma m (a.map lift) (b.map lift)).getD p arithOk.zero).2 :=
  fun p hp => mul_flags_of_bool fma m hm a b p hp (all_range h p hp)

end Spq.ErrWitness
