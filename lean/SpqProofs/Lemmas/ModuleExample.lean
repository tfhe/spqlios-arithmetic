/-
  Sanity instances for the hypotheses of C01 / C02.
  * `gaussParts`: `R = ℤ`, `nn = 2` (`m = 1`): one Gaussian integer `x_0 + i·x_1`, the single evaluation point is
    `z_0 = i` (`z_0^1 = i`), so `fft = ifft = id`, the conversions are the identity.  H1–H4 hold.
  * `idParts nn`: `R = ℤ`, any `nn`, `fft = fromZnx = id`: satisfies `ExactArith` whenever `nn = 2m`, `4 ∣ m` for
    `nn ≥ 8` (used for the layout theorem, which is independent of what `fft` computes).
-/
import SpqProofs.Lemmas.ModuleVec
namespace Spq.Module
open Finset Spq

def idParts (nn : Nat) (fma avx : Bool) : Parts Int :=
  { nn := nn, ar := RArith.ofRing Int, fromZnx := fun x => x, fft := fun d => d, ifft := fun d => d,
    toZnx := fun d => d, mulFma := fma, addmulFma := fma, vmpAvx := avx }

def gaussParts : Parts Int := idParts 2 false false

theorem idParts_exactArith (m : Nat) (hm : 0 < m) (h4 : m % 4 = 0 ∨ m < 4) (fma avx : Bool) (hf : fma = true → m % 4 = 0) :
    ExactArith (idParts (2 * m) fma avx) := by
  have e : (idParts (2 * m) fma avx).m = m := by simp [Parts.m, idParts]
  refine ⟨rfl, by rw [e]; rfl, by rw [e]; exact hm, ?_, ?_, ?_⟩
  · intro h; rw [e]; simp only [idParts] at h; omega
  · intro h; rw [e]; exact hf h
  · intro h; rw [e]; exact hf h

theorem gauss_exactArith : ExactArith gaussParts :=
  idParts_exactArith 1 (by omega) (Or.inr (by omega)) false false (by intro h; cases h)

theorem gauss_exactDft : ExactDft gaussParts (fun _ => Cx.I) := by
  have e : gaussParts.m = 1 := rfl
  have en : gaussParts.nn = 2 := rfl
  refine ⟨fun x hx => hx, ?_, ?_, fun d hd => hd, ?_, fun d hd => hd, ?_, ?_⟩
  · intro x _ k _
    simp [gaussParts, idParts, icoef]
  · intro j _
    rw [e, pow_one]
  · intro d _ j hj
    rw [e] at hj ⊢
    have : j = 0 := by omega
    subst this
    rw [sum_range_one, pow_zero, mul_one]
    rfl
  · intro d _ t _
    rw [e]
    simp [gaussParts, idParts]
  · intro d cs hd hcs h
    rw [en] at hd hcs h
    rw [e] at h
    show d = cs
    apply ext_getD 0 (by rw [hd, hcs])
    intro t _
    by_cases ht : t < 2
    · have := h t ht
      simpa [icoef] using this
    · rw [getD_of_size_le _ _ _ (by omega), getD_of_size_le _ _ _ (by omega)]

end Spq.Module
