/-
  C06, table layer: the exact table (`Ent` ↦ ring element).
-/
import SpqProofs.Lemmas.FftTw
namespace Spq.Fft.Tab
open Spq.Fft

variable {R : Type} [CommRing R] [Inhabited R]

/-- exact value of a table entry, given `c e = cos(2πe/U)`, `s e = sin(2πe/U)` -/
def val (c s : ℕ → R) (x : Ent) : R :=
  if x.kind = 0 then c x.e else if x.kind = 1 then s x.e else if x.kind = 2 then - s x.e else - c x.e

end Spq.Fft.Tab
