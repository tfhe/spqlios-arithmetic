/-
  Exact-arithmetic characterisation of the whole-vector multiply / multiply-accumulate kernels: the reference loops on
  any scalar layout, the FMA loops on any split layout, the cplx SIMD loop.  The three layouts (reim4 blocks, split
  reim, interleaved cplx) are put in by the theorems of C17.
-/
import SpqProofs.Lemmas.Reim4Arith
import SpqProofs.Lemmas.Reim4Layout
namespace Spq.Reim4
variable {R : Type} [CommRing R]

/-- cells `(re, im)` of evaluation `i` in the reim4 layout: block `i/4`, lane `i%4` -/
def idxReim4 (i : Nat) : Nat × Nat := (8 * (i / 4) + i % 4, 8 * (i / 4) + i % 4 + 4)
/-- … in the split (reim) layout of `m` complexes -/
def idxReim (m i : Nat) : Nat × Nat := (i, i + m)
/-- … in the interleaved (cplx) layout -/
def idxCplx (i : Nat) : Nat × Nat := (2 * i, 2 * i + 1)

/-- evaluation `i` of a vector stored with layout `idx` -/
def ev (idx : Nat → Nat × Nat) (a : Array R) (i : Nat) : Cx R := cx a (idx i).1 (idx i).2

/-- `res` is `r` with evaluation `i < m` replaced by `val i`, nothing else changed (`2m` cells) -/
def Pointwise (idx : Nat → Nat × Nat) (m : Nat) (r res : Array R) (val : Nat → Cx R) : Prop :=
  res.size = r.size ∧ (∀ i, i < m → ev idx res i = val i) ∧ (∀ x, 2 * m ≤ x → res.getD x 0 = r.getD x 0)

def Covers (idx : Nat → Nat × Nat) (m : Nat) : Prop :=
  ∀ x, x < 2 * m → ∃ i, i < m ∧ (x = (idx i).1 ∨ x = (idx i).2)

theorem covers_reim4 (m : Nat) (hm : m % 4 = 0) : Covers idxReim4 m := by
  intro x hx
  by_cases h : x % 8 < 4
  · exact ⟨4 * (x / 8) + x % 8, by omega, Or.inl (by simp only [idxReim4]; omega)⟩
  · exact ⟨4 * (x / 8) + (x % 8 - 4), by omega, Or.inr (by simp only [idxReim4]; omega)⟩

theorem covers_reim (m : Nat) : Covers (idxReim m) m := by
  intro x hx
  by_cases h : x < m
  · exact ⟨x, h, Or.inl rfl⟩
  · exact ⟨x - m, by omega, Or.inr (by simp only [idxReim]; omega)⟩

theorem covers_cplx (m : Nat) : Covers idxCplx m := by
  intro x hx
  by_cases h : x % 2 = 0
  · exact ⟨x / 2, by omega, Or.inl (by simp only [idxCplx]; omega)⟩
  · exact ⟨x / 2, by omega, Or.inr (by simp only [idxCplx]; omega)⟩

theorem Pointwise.unique {idx : Nat → Nat × Nat} {m : Nat} {r res res' : Array R} {val : Nat → Cx R}
    (hc : Covers idx m) (h : Pointwise idx m r res val) (h' : Pointwise idx m r res' val) : res = res' := by
  obtain ⟨s, v, f⟩ := h
  obtain ⟨s', v', f'⟩ := h'
  apply ext_getD 0 (by rw [s, s'])
  intro x _
  by_cases hx : x < 2 * m
  · obtain ⟨i, hi, hxi⟩ := hc x hx
    have e : ev idx res i = ev idx res' i := by rw [v i hi, v' i hi]
    rcases hxi with hxi | hxi
    · have := congrArg Cx.re e
      simp only [ev, cx_re] at this
      rw [hxi]; exact this
    · have := congrArg Cx.im e
      simp only [ev, cx_im] at this
      rw [hxi]; exact this
  · rw [f x (by omega), f' x (by omega)]

theorem eq_of_blocks (nb : Nat) (res res' : Array R) (hs : res.size = res'.size)
    (hv : ∀ t k, t < nb → k < 4 → cx res (8 * t + k) (8 * t + k + 4) = cx res' (8 * t + k) (8 * t + k + 4))
    (hf : ∀ x, 8 * nb ≤ x → res.getD x 0 = res'.getD x 0) : res = res' :=
  Pointwise.unique (r := res') (val := ev idxReim4 res') (covers_reim4 (4 * nb) (Nat.mul_mod_right 4 nb))
    ⟨hs, fun i hi => hv (i / 4) (i % 4) (by omega) (Nat.mod_lt _ (by decide)), fun x hx => hf x (by omega)⟩
    ⟨rfl, fun _ _ => rfl, fun _ _ => rfl⟩

/-! A kernel is a loop (`lanes`, also block by block; `mapV4x2`; `mapV4`) whose step acts on each complex of the layout
  separately; the loop is then the pointwise map, and a kernel's specification is the identity for one scalar step or
  one register.  For the reference kernels that identity is definitional: `reRef`, `imRef` on the cells of `a`, `b`
  unfold to the components of the product in `Cx`. -/

/-- the complexes `i < m` of the layout occupy `2m` distinct cells below `2m` -/
structure ScalarLayout (idx : Nat → Nat × Nat) (m : Nat) : Prop where
  inj1 : ∀ k k', k < m → k' < m → k ≠ k' → (idx k).1 ≠ (idx k').1
  inj2 : ∀ k k', k < m → k' < m → k ≠ k' → (idx k).2 ≠ (idx k').2
  ne : ∀ k k', k < m → k' < m → (idx k).1 ≠ (idx k').2
  lt : ∀ k, k < m → (idx k).1 < 2 * m ∧ (idx k).2 < 2 * m

theorem scalarLayout_reim (m : Nat) : ScalarLayout (idxReim m) m where
  inj1 := by intro k k' _ _ h; exact h
  inj2 := by intro k k' _ _ _; simp only [idxReim]; omega
  ne := by intro k k' _ _; simp only [idxReim]; omega
  lt := by intro k _; simp only [idxReim]; omega

theorem scalarLayout_cplx (m : Nat) : ScalarLayout idxCplx m where
  inj1 := by intro k k' _ _ _; simp only [idxCplx]; omega
  inj2 := by intro k k' _ _ _; simp only [idxCplx]; omega
  ne := by intro k k' _ _; simp only [idxCplx]; omega
  lt := by intro k _; simp only [idxCplx]; omega

theorem lanes_pointwise (idx : Nat → Nat × Nat) (m : Nat) (L : ScalarLayout idx m) (P Q : Nat → R → R) (r : Array R)
    (hb : 2 * m ≤ r.size) :
    Pointwise idx m r (lanes (0 : R) m (fun i => (idx i).1) (fun i => (idx i).2) P Q r)
      (fun i => ⟨P i (ev idx r i).re, Q i (ev idx r i).im⟩) := by
  obtain ⟨s1, s2, s3⟩ := lanes_spec (0 : R) m (fun i => (idx i).1) (fun i => (idx i).2) P Q r L.inj1 L.inj2 L.ne
    (fun k hk => by have := L.lt k hk; omega)
  refine ⟨s1, fun i hi => ?_, fun x hx => s3 x (fun k hk => by have := L.lt k hk; omega)⟩
  obtain ⟨e1, e2⟩ := s2 i hi
  ext
  · exact e1
  · exact e2

theorem blocks_lanes_pointwise (m : Nat) (hm : m % 4 = 0) (P Q : Nat → Nat → R → R) (r : Array R) (hb : 2 * m ≤ r.size) :
    Pointwise idxReim4 m r
      (Nat.fold (m / 4) (fun j _ r => lanes (0 : R) 4 (fun i => 8 * j + i) (fun i => 8 * j + i + 4) (P j) (Q j) r) r)
      (fun i => ⟨P (i / 4) (i % 4) (ev idxReim4 r i).re, Q (i / 4) (i % 4) (ev idxReim4 r i).im⟩) := by
  obtain ⟨s1, s2, s3⟩ := blocks_lanes_spec (0 : R) (m / 4) P Q r (by omega)
  refine ⟨s1, fun i hi => ?_, fun x hx => s3 x (by omega)⟩
  obtain ⟨e1, e2⟩ := s2 (i / 4) (i % 4) (by omega) (by omega)
  ext
  · exact e1
  · exact e2

/-- lane `l` of a (re, im) register pair as a complex -/
def lanePair (v w : V4 R) (l : Nat) : Cx R := ⟨v.lane l, w.lane l⟩

/-- a layout whose complexes `4j .. 4j+3` sit in the register pair at `(p j, q j)` -/
structure SplitLayout (idx : Nat → Nat × Nat) (n : Nat) (p q : Nat → Nat) : Prop where
  cell : ∀ j l, l < 4 → idx (4 * j + l) = (p j + l, q j + l)
  hp : ∀ j j', j < n → j' < n → j ≠ j' → p j + 4 ≤ p j' ∨ p j' + 4 ≤ p j
  hq : ∀ j j', j < n → j' < n → j ≠ j' → q j + 4 ≤ q j' ∨ q j' + 4 ≤ q j
  hpq : ∀ j j', j < n → j' < n → p j + 4 ≤ q j' ∨ q j' + 4 ≤ p j
  lt : ∀ j, j < n → p j + 4 ≤ 8 * n ∧ q j + 4 ≤ 8 * n

theorem splitLayout_reim4 (n : Nat) : SplitLayout idxReim4 n (fun j => 8 * j) (fun j => 8 * j + 4) where
  cell := fun j l hl => by simp only [idxReim4]; congr 1 <;> omega
  hp := by intro j j' _ _ _; omega
  hq := by intro j j' _ _ _; omega
  hpq := by intro j j' _ _; omega
  lt := by intro j _; omega

theorem splitLayout_reim (m : Nat) (hm : m % 4 = 0) :
    SplitLayout (idxReim m) (m / 4) (fun j => 4 * j) (fun j => m + 4 * j) where
  cell := fun j l hl => by simp only [idxReim]; congr 1; omega
  hp := by intro j j' _ _ _; omega
  hq := by intro j j' _ _ _; omega
  hpq := by intro j j' _ _; omega
  lt := by intro j _; omega

theorem lanePair_load {idx : Nat → Nat × Nat} {n : Nat} {p q : Nat → Nat} (L : SplitLayout idx n p q) (x : Array R)
    (j l : Nat) (hl : l < 4) : lanePair (V4.load 0 x (p j)) (V4.load 0 x (q j)) l = ev idx x (4 * j + l) := by
  simp only [lanePair, ev, L.cell j l hl, V4.lane_load _ _ _ _ hl]; rfl

theorem mapV4x2_pointwise {idx : Nat → Nat × Nat} {n : Nat} {p q : Nat → Nat} (L : SplitLayout idx n p q)
    (F : Nat → V4 R → V4 R → V4 R × V4 R) (G : Nat → Cx R → Cx R) (r : Array R) (hb : 8 * n ≤ r.size)
    (hF : ∀ j l, l < 4 → ∀ v w, lanePair (F j v w).1 (F j v w).2 l = G (4 * j + l) (lanePair v w l)) :
    Pointwise idx (4 * n) r (mapV4x2 (0 : R) n p q F r) (fun i => G i (ev idx r i)) := by
  obtain ⟨s1, s2, s3⟩ := mapV4x2_spec (0 : R) n p q F r L.hp L.hq L.hpq (fun j hj => by have := L.lt j hj; omega)
  refine ⟨s1, ?_, fun x hx => s3 x (fun j hj => by have := L.lt j hj; omega)⟩
  intro i hi
  have hl : i % 4 < 4 := by omega
  have qi : 4 * (i / 4) + i % 4 = i := by omega
  obtain ⟨e1, e2⟩ := s2 (i / 4) (by omega) (i % 4) hl
  have h := hF (i / 4) (i % 4) hl (V4.load 0 r (p (i / 4))) (V4.load 0 r (q (i / 4)))
  rw [lanePair_load L r _ _ hl, qi] at h
  show ev idx _ i = G i (ev idx r i)
  rw [← h]
  have hc := L.cell (i / 4) (i % 4) hl
  rw [qi] at hc
  ext
  · simp only [ev, hc, cx_re, lanePair]; exact e1
  · simp only [ev, hc, cx_im, lanePair]; exact e2

/-- complex `e` of a register of two interleaved complexes: lanes `2e`, `2e+1` -/
def pairOf (v : V4 R) (e : Nat) : Cx R := ⟨v.lane (2 * e), v.lane (2 * e + 1)⟩

theorem pairOf_load (x : Array R) (p q e : Nat) (he : e < 2) (hq : q = p + 2 * e) :
    pairOf (V4.load 0 x p) e = cx x q (q + 1) := by
  subst hq
  unfold pairOf
  rw [V4.lane_load _ _ _ _ (by omega), V4.lane_load _ _ _ _ (by omega)]
  rfl

theorem pairOf_load_cplx (x : Array R) (j e : Nat) (he : e < 2) :
    pairOf (V4.load 0 x (4 * j)) e = ev idxCplx x (2 * j + e) :=
  pairOf_load x (4 * j) (2 * (2 * j + e)) e he (by omega)

theorem pairOf_add (x y : V4 R) (e : Nat) : pairOf (V4.add (RArith.ofRing R) x y) e = pairOf x e + pairOf y e := by
  ext <;> simp [pairOf, V4.add, V4.lane_map2]

theorem mapV4_pointwise (n : Nat) (F : Nat → V4 R → V4 R) (G : Nat → Cx R → Cx R) (r : Array R) (hb : 4 * n ≤ r.size)
    (hF : ∀ j e, e < 2 → ∀ v, pairOf (F j v) e = G (2 * j + e) (pairOf v e)) :
    Pointwise idxCplx (2 * n) r (mapV4 (0 : R) n (fun j => 4 * j) F r) (fun i => G i (ev idxCplx r i)) := by
  obtain ⟨s1, s2, _, s3⟩ := mapV4_contig (0 : R) n F r hb
  refine ⟨s1, ?_, fun x hx => s3 x (by omega)⟩
  intro i hi
  obtain ⟨j, e, he, rfl⟩ : ∃ j e, e < 2 ∧ i = 2 * j + e := ⟨i / 2, i % 2, Nat.mod_lt _ (by decide), (Nat.div_add_mod i 2).symm⟩
  have h := hF j e he (V4.load 0 r (4 * j))
  rw [pairOf_load_cplx _ _ _ he] at h
  show ev idxCplx _ _ = G _ (ev idxCplx r _)
  rw [← h]
  have e0 := s2 j (by omega) (2 * e) (by omega)
  have e1 := s2 j (by omega) (2 * e + 1) (by omega)
  rw [show 4 * j + 2 * e = 2 * (2 * j + e) by omega] at e0
  rw [show 4 * j + (2 * e + 1) = 2 * (2 * j + e) + 1 by omega] at e1
  ext
  · exact e0
  · exact e1

theorem lanePair_mulFmaV (a_r a_i b_r b_i : V4 R) (l : Nat) :
    lanePair (mulFmaV (RArith.ofRing R) a_r a_i b_r b_i).1 (mulFmaV (RArith.ofRing R) a_r a_i b_r b_i).2 l =
      lanePair a_r a_i l * lanePair b_r b_i l := by
  ext
  · simp only [lanePair, Cx.mul_re, mulFmaV, V4.fmsub, V4.mul, V4.lane_map3, V4.lane_map2, ofRing_fms, ofRing_mul]
  · simp only [lanePair, Cx.mul_im, mulFmaV, V4.fmadd, V4.mul, V4.lane_map3, V4.lane_map2, ofRing_fma, ofRing_mul]
    ring

theorem lanePair_addmulFmaV (rr ri a_r a_i b_r b_i : V4 R) (l : Nat) :
    lanePair (addmulFmaV (RArith.ofRing R) rr ri a_r a_i b_r b_i).1 (addmulFmaV (RArith.ofRing R) rr ri a_r a_i b_r b_i).2 l =
      lanePair rr ri l + lanePair a_r a_i l * lanePair b_r b_i l := by
  ext
  · simp only [lanePair, Cx.add_re, Cx.mul_re, addmulFmaV, V4.fmsub, V4.lane_map3, ofRing_fms]
    ring
  · simp only [lanePair, Cx.add_im, Cx.mul_im, addmulFmaV, V4.fmadd, V4.lane_map3, ofRing_fma]
    ring

theorem pairOf_cplxMulV (x y : V4 R) (e : Nat) (he : e < 2) :
    pairOf (cplxMulV (RArith.ofRing R) x y) e = pairOf x e * pairOf y e := by
  rcases e with _ | _ | e
  · rfl
  · rfl
  · omega

theorem pairOf_cplxAddmulV (rri x y : V4 R) (e : Nat) (he : e < 2) :
    pairOf (cplxAddmulV (RArith.ofRing R) rri x y) e = pairOf rri e + pairOf x e * pairOf y e := by
  rcases e with _ | _ | e
  · ext
    · show x.x0 * y.x0 - (x.x1 * y.x1 - rri.x0) = rri.x0 + (x.x0 * y.x0 - x.x1 * y.x1); ring
    · show x.x0 * y.x1 + (x.x1 * y.x0 + rri.x1) = rri.x1 + (x.x0 * y.x1 + x.x1 * y.x0); ring
  · ext
    · show x.x2 * y.x2 - (x.x3 * y.x3 - rri.x2) = rri.x2 + (x.x2 * y.x2 - x.x3 * y.x3); ring
    · show x.x2 * y.x3 + (x.x3 * y.x2 + rri.x3) = rri.x3 + (x.x2 * y.x3 + x.x3 * y.x2); ring
  · omega

/-- the reference multiply on any scalar layout.  The kernels are stated against this and not against `lanes_pointwise`
    with `P`, `Q` left to unification: with metavariables on one side the unifier unfolds `lanes` there before it
    unfolds the kernel, and compares the two loop bodies cell by cell. -/
theorem mulRef_pointwise {idx : Nat → Nat × Nat} {m : Nat} (L : ScalarLayout idx m) (r a b : Array R) (hb : 2 * m ≤ r.size) :
    Pointwise idx m r (lanes (0 : R) m (fun i => (idx i).1) (fun i => (idx i).2)
      (fun i _ => reRef (RArith.ofRing R) (a.getD (idx i).1 0) (a.getD (idx i).2 0) (b.getD (idx i).1 0) (b.getD (idx i).2 0))
      (fun i _ => imRef (RArith.ofRing R) (a.getD (idx i).1 0) (a.getD (idx i).2 0) (b.getD (idx i).1 0) (b.getD (idx i).2 0)) r)
      (fun i => ev idx a i * ev idx b i) :=
  lanes_pointwise idx m L _ _ r hb

theorem addmulRef_pointwise {idx : Nat → Nat × Nat} {m : Nat} (L : ScalarLayout idx m) (r a b : Array R) (hb : 2 * m ≤ r.size) :
    Pointwise idx m r (lanes (0 : R) m (fun i => (idx i).1) (fun i => (idx i).2)
      (fun i old => (RArith.ofRing R).add old
        (reRef (RArith.ofRing R) (a.getD (idx i).1 0) (a.getD (idx i).2 0) (b.getD (idx i).1 0) (b.getD (idx i).2 0)))
      (fun i old => (RArith.ofRing R).add old
        (imRef (RArith.ofRing R) (a.getD (idx i).1 0) (a.getD (idx i).2 0) (b.getD (idx i).1 0) (b.getD (idx i).2 0))) r)
      (fun i => ev idx r i + ev idx a i * ev idx b i) :=
  lanes_pointwise idx m L _ _ r hb

theorem mulFma_pointwise {idx : Nat → Nat × Nat} {n : Nat} {p q : Nat → Nat} (L : SplitLayout idx n p q)
    (r a b : Array R) (hb : 8 * n ≤ r.size) :
    Pointwise idx (4 * n) r (mapV4x2 (0 : R) n p q
      (fun j _ _ => mulFmaV (RArith.ofRing R) (V4.load 0 a (p j)) (V4.load 0 a (q j)) (V4.load 0 b (p j)) (V4.load 0 b (q j))) r)
      (fun i => ev idx a i * ev idx b i) :=
  mapV4x2_pointwise L _ (fun i _ => ev idx a i * ev idx b i) r hb
    (fun j l hl v w => by rw [lanePair_mulFmaV, lanePair_load L a j l hl, lanePair_load L b j l hl])

theorem addmulFma_pointwise {idx : Nat → Nat × Nat} {n : Nat} {p q : Nat → Nat} (L : SplitLayout idx n p q)
    (r a b : Array R) (hb : 8 * n ≤ r.size) :
    Pointwise idx (4 * n) r (mapV4x2 (0 : R) n p q
      (fun j rr ri => addmulFmaV (RArith.ofRing R) rr ri (V4.load 0 a (p j)) (V4.load 0 a (q j)) (V4.load 0 b (p j)) (V4.load 0 b (q j))) r)
      (fun i => ev idx r i + ev idx a i * ev idx b i) :=
  mapV4x2_pointwise L _ (fun i x => x + ev idx a i * ev idx b i) r hb
    (fun j l hl v w => by rw [lanePair_addmulFmaV, lanePair_load L a j l hl, lanePair_load L b j l hl])

theorem cplxFftvecAddmulSimd_spec (vecs iters m : Nat) (h : 2 * (vecs * iters) = m) (r a b : Array R) (hr : 2 * m ≤ r.size) :
    Pointwise idxCplx m r (cplxFftvecAddmulSimd (RArith.ofRing R) vecs iters r a b)
      (fun i => ev idxCplx r i + ev idxCplx a i * ev idxCplx b i) := by
  subst h
  exact mapV4_pointwise (vecs * iters)
    (fun j rri => cplxAddmulV (RArith.ofRing R) rri (V4.load 0 a (4 * j)) (V4.load 0 b (4 * j)))
    (fun i x => x + ev idxCplx a i * ev idxCplx b i) r (by omega)
    (fun j e he v => by rw [pairOf_cplxAddmulV _ _ _ _ he, pairOf_load_cplx _ _ _ he, pairOf_load_cplx _ _ _ he])

end Spq.Reim4
