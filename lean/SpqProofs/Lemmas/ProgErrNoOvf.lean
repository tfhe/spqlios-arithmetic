/-
  C16, binary64 side: the flag hypotheses inside the budgets reduce to their UNDERFLOW half (C02Err item 4): with the
  coefficient box and stored twiddles that are finite doubles of magnitude `≤ 1` (`TabOk`), the underflow-only flags
  (`RtOkU`, `PipeOkU`, `VmpOkU`) imply the full flags used by `RtBudget`, `ProdBudget`, `VmpBudget`.
-/
import SpqProofs.Lemmas.ProgErrMod
import SpqProofs.Lemmas.VmpErrOvf12
set_option linter.unusedSectionVars false
namespace Spq.ProgErr
open Finset Spq Spq.Module Spq.Fft Spq.Fft.Alg Spq.Fft.SimP Spq.Fft.LevelN Spq.Fft.SchedN Spq.Fft.RelN Spq.FftErr Spq.F64
  Spq.Reim4 Spq.ProdErr Spq.VmpErr Spq.Conv
variable {K : Type} [Field K] [LinearOrder K] [IsStrictOrderedRing K]

/-- underflow-only flags of the round trip -/
structure RtOkU (c : Cfg) (k : ℕ) (cN sN cNi sNi : ℕ → ℕ) (a : Array Int) : Prop where
  okF : FwdOkU c k cN sN a
  okI : ∀ p, p < 2 * 2 ^ k →
    ((reimIfftA (ifamOf c.ifftFma aU) (2 ^ k) ((((reimIfftEnts (2 ^ k)).map (valP cNi sNi)).toArray).map lift)
      ((stF c k cN sN a).map lift))[p]!).2

/-- round trip: the underflow-only flags imply the full flags, since no exact intermediate exceeds `2^(50+6k)` -/
theorem rt_no_ovf (c : Cfg) (k : ℕ) (hk : k ≤ 100) (cN sN cNi sNi : ℕ → ℕ) (h : CfgOk c k cN sN cNi sNi)
    (htab : TabOk cN sN) (htabi : TabOk cNi sNi) (a : Array Int) (ha : Box k a) (hok : RtOkU c k cN sN cNi sNi a) :
    RtOk c k cN sN cNi sNi a := by
  obtain ⟨fa, ma⟩ := mag_fwd c k (by omega) cN sN cNi sNi h htab a ha hok.okF
  exact ⟨fa, (mag_ifft c k cNi sNi htabi _ _ ma (by omega) hok.okI).1⟩

theorem rtBudget_of_noovf (M : F64Mod K) (htab : TabOk M.cN M.sN) (htabi : TabOk M.cNi M.sNi) (a : Array Int)
    (hbox : Box M.k a) (hok : RtOkU M.c M.k M.cN M.sN M.cNi M.sNi a)
    (hn : ∃ na : K, 0 ≤ na ∧ n2sq K a M.N ≤ na ^ 2 ∧ ((17 * (M.k + 1 : ℚ) * u64 : ℚ) : K) * na < 1 / 2) :
    RtBudget M a :=
  ⟨hbox, rt_no_ovf M.c M.k (by have := M.hk; omega) M.cN M.sN M.cNi M.sNi M.ok.cfg htab htabi a hbox hok, hn⟩

theorem prodBudget_of_noovf (M : F64Mod K) (htab : TabOk M.cN M.sN) (htabi : TabOk M.cNi M.sNi) (a b : Array Int)
    (ha : Box M.k a) (hb : Box M.k b) (hok : PipeOkU M.c M.k M.cN M.sN M.cNi M.sNi a b)
    (hn : ∃ na nb : K, 0 ≤ na ∧ 0 ≤ nb ∧ n2sq K a M.N ≤ na ^ 2 ∧ n2sq K b M.N ≤ nb ^ 2 ∧ nb ≤ n1 K b M.N ∧
      ((12 * (M.k + 1 : ℚ) * u64 : ℚ) : K) * (n1 K a M.N * nb + na * n1 K b M.N) < 1 / 2) :
    ProdBudget M a b :=
  ⟨ha, hb, pipe_no_ovf M.c M.k (by have := M.hk; omega) M.cN M.sN M.cNi M.sNi M.ok.cfg htab htabi a b ha hb hok, hn⟩

/-- the column budget with underflow-only flags -/
def VmpColBudgetU (M : F64Mod K) (mat : Array Int) (nrows ncols : ℕ) (a : Array Int) (asz rsz j : ℕ) : Prop :=
  VmpOkU M.c M.k M.cN M.sN M.cNi M.sNi mat nrows ncols a asz M.N rsz j ∧
  ∃ na nb : ℕ → K, (∀ i, i < min nrows asz → 0 ≤ na i) ∧ (∀ i, i < min nrows asz → 0 ≤ nb i) ∧
    (∀ i, i < min nrows asz → n2sq K (limbOf a i M.N M.N) M.N ≤ na i ^ 2) ∧
    (∀ i, i < min nrows asz → n2sq K (matEntry mat ncols M.N i j) M.N ≤ nb i ^ 2) ∧
    (∀ i, i < min nrows asz → nb i ≤ n1 K (matEntry mat ncols M.N i j) M.N) ∧
    Esum K M.k mat nrows ncols a asz M.N j na nb < 1 / 2

theorem vmpBudget_of_noovf (M : F64Mod K) (htab : TabOk M.cN M.sN) (htabi : TabOk M.cNi M.sNi) (mat : Array Int)
    (nrows ncols : ℕ) (a : Array Int) (asz rsz : ℕ) (hn : 2 * min nrows asz + 2 ≤ 67108864)
    (hA : ∀ i, i < min nrows asz → Box M.k (limbOf a i M.N M.N))
    (hM : ∀ i j, i < nrows → j < ncols → Box M.k (matEntry mat ncols M.N i j))
    (hcol : ∀ j, j < min ncols rsz → (M.k < 2 → 0 < min nrows asz) → VmpColBudgetU M mat nrows ncols a asz rsz j) :
    VmpBudget M mat nrows ncols a asz rsz := by
  refine ⟨hn, hA, hM, fun j hj hpos => ?_⟩
  obtain ⟨hok, rest⟩ := hcol j hj hpos
  exact ⟨vmp_no_ovf M.c M.k (by have := M.hk; omega) M.cN M.sN M.cNi M.sNi M.ok htab htabi mat nrows ncols a asz M.N rsz
    hn hA hM j hj hpos hok, rest⟩

end Spq.ProgErr
