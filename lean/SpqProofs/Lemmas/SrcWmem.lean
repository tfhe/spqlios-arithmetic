/-
  Windows of a buffer.  `win X o n` reads one, `wset m b ro Y` is the memory `m` with one replaced by `Y` (through the
  model's `Heap.writeArr`), `SameOrDisj` is how two of them may lie in one buffer.
  `wmem m b ro g k`: the memory `m` with the cells `[ro, ro + k)` of buffer `b` holding `g 0 … g (k - 1)`, i.e. `wset`
  at the first `k` values of `g` (`wmem_all`): the memories a loop passes through that writes a window in index order.
  A whole buffer (`ro = 0`, `wset_whole`) and a window of an arena (`m = m0[B := X]`, `wset_arena`) are the same thing
  at two arguments, and so is every aliasing the element-wise kernels allow: a source window in another buffer, or in
  the same buffer and identical to or disjoint from the result window.  Two results written in lock step are `wmem` of
  `wmem`.  A kernel that fills a window is proved once against these memories; `Fills` / `StoresTo` / `Ahead`
  (`Lemmas/SrcFill.lean`) are what the loop rules ask of them.
-/
import Spq.Heap
import SpqProofs.Lemmas.Heap
import SpqProofs.Lemmas.SrcFuel
import SpqProofs.Lemmas.SrcFill
import SpqProofs.Lemmas.ArrayBasic
namespace Spq.CIR
open Spq

/-- the `nn` cells of `X` at offset `o` -/
def win (X : Array Int) (o nn : Nat) : Array Int := (⟨X, true⟩ : Heap Int).readLimb 0 o nn

@[simp] theorem size_win (X : Array Int) (o nn : Nat) : (win X o nn).size = nn := by simp [win]

theorem getD_win (X : Array Int) (o nn c : Nat) (hc : c < nn) : (win X o nn).getD c 0 = X.getD (o + c) 0 := by
  simp [win, Heap.readLimb, Array.getD, hc]

theorem getD_writeArr (X : Array Int) (o : Nat) (Y : Array Int) (x : Nat) :
    (Heap.writeArr X o Y).getD x 0 = if o ≤ x ∧ x < o + Y.size ∧ x < X.size then Y.getD (x - o) 0 else X.getD x 0 := by
  have h := Heap.getElem?_writeArr X o Y x
  have e : ∀ (A : Array Int) (i : Nat), A.getD i 0 = (A[i]?).getD 0 := by
    intro A i; simp [Array.getD]
    by_cases hi : i < A.size <;> simp [hi]
  rw [e, h]
  split
  · rw [e]
  · rw [e]

/-- "identical or disjoint" windows -/
def SameOrDisj (nn ro ao : Nat) : Prop := ao = ro ∨ ro + nn ≤ ao ∨ ao + nn ≤ ro

/-- `X` with the cells `[ro, ro + k)` replaced by `g 0 … g (k-1)`: `writeArr` of the first `k` values of `g` -/
def wfill (X : Array Int) (ro : Nat) (g : Nat → Int) (k : Nat) : Array Int :=
  Heap.writeArr X ro (Array.ofFn (n := k) fun i => g i.val)

@[simp] theorem size_wfill (X : Array Int) (ro : Nat) (g : Nat → Int) (k : Nat) : (wfill X ro g k).size = X.size :=
  Heap.size_writeArr ..

theorem getD_wfill (X : Array Int) (ro : Nat) (g : Nat → Int) (k x : Nat) :
    (wfill X ro g k).getD x 0 = if ro ≤ x ∧ x < ro + k ∧ x < X.size then g (x - ro) else X.getD x 0 := by
  rw [wfill, getD_writeArr, Array.size_ofFn]
  by_cases h : ro ≤ x ∧ x < ro + k ∧ x < X.size
  · rw [if_pos h, if_pos h, getD_ofFn _ _ _ (by omega)]
  · rw [if_neg h, if_neg h]

theorem wfill_zero (X : Array Int) (ro : Nat) (g : Nat → Int) : wfill X ro g 0 = X := by
  apply ext_getD 0 (by simp)
  intro i _
  rw [getD_wfill, if_neg (by omega)]

theorem wfill_step (X : Array Int) (ro : Nat) (g : Nat → Int) (k : Nat) (v : Int) (hv : v = g k) :
    (wfill X ro g k).setIfInBounds (ro + k) v = wfill X ro g (k + 1) := by
  subst hv
  apply ext_getD 0 (by simp)
  intro i hi
  simp only [Array.size_setIfInBounds, size_wfill] at hi
  rw [getD_setIfInBounds, getD_wfill, getD_wfill, size_wfill]
  by_cases h : ro + k = i
  · subst h
    rw [if_pos ⟨rfl, hi⟩, if_pos ⟨by omega, by omega, hi⟩]
    congr 1; omega
  · rw [if_neg (fun hh => h hh.1)]
    by_cases h2 : ro ≤ i ∧ i < ro + k ∧ i < X.size
    · rw [if_pos h2, if_pos ⟨h2.1, by omega, h2.2.2⟩]
    · rw [if_neg h2, if_neg (by omega)]

/-- a window that starts at cell 0 and has the size of the buffer is the whole buffer -/
theorem writeArr_whole (X Y : Array Int) (h : Y.size = X.size) : Heap.writeArr X 0 Y = Y := by
  apply ext_getD 0 (by rw [Heap.size_writeArr, h])
  intro i hi
  rw [Heap.size_writeArr] at hi
  rw [getD_writeArr, if_pos ⟨Nat.zero_le _, by omega, hi⟩, Nat.sub_zero]

theorem win_whole (X : Array Int) (n : Nat) (h : X.size = n) : win X 0 n = X := by
  apply ext_getD 0 (by rw [size_win, h])
  intro i hi
  rw [size_win] at hi
  rw [getD_win _ _ _ _ hi, Nat.zero_add]

/-- the memory `m` with the window `[ro, ro + Y.size)` of buffer `b` holding `Y` -/
def wset (m : Mem) (b ro : Nat) (Y : Array Int) : Mem := m.setIfInBounds b (Heap.writeArr (buf m b) ro Y)

theorem wset_whole (m : Mem) (b : Nat) (Y : Array Int) (h : Y.size = (buf m b).size) :
    wset m b 0 Y = m.setIfInBounds b Y := by
  rw [wset, writeArr_whole _ _ h]

theorem buf_wset_ne (m : Mem) (b ro : Nat) (Y : Array Int) (a : Nat) (h : a ≠ b) : buf (wset m b ro Y) a = buf m a :=
  buf_set_ne m b a _ h

/-- a window of buffer `B` of `m0[B := X]`: the family of `cells_window` (`Lemmas/SrcArena.lean`) -/
theorem wset_arena (m0 : Mem) (B : Nat) (hB : B < m0.size) (X : Array Int) (ro : Nat) (Y : Array Int) :
    wset (m0.setIfInBounds B X) B ro Y = m0.setIfInBounds B (Heap.writeArr X ro Y) := by
  rw [wset, buf_set_self m0 B X hB, set_set]

def wmem (m : Mem) (b ro : Nat) (g : Nat → Int) (k : Nat) : Mem := m.setIfInBounds b (wfill (buf m b) ro g k)

theorem wmem_zero (m : Mem) (b ro : Nat) (g : Nat → Int) : wmem m b ro g 0 = m := by
  rw [wmem, wfill_zero, set_buf_self]

/-- `wmem` is `wset` at the values written so far -/
theorem wmem_all (m : Mem) (b ro n : Nat) (g : Nat → Int) :
    wmem m b ro g n = wset m b ro (Array.ofFn (n := n) fun i => g i.val) := rfl

section
variable (m : Mem) (b ro : Nat) (g : Nat → Int) (k : Nat)

@[simp] theorem size_wmem : (wmem m b ro g k).size = m.size := by simp [wmem]

theorem size_buf_wmem (a : Nat) : (buf (wmem m b ro g k) a).size = (buf m a).size :=
  size_buf_set m b a _ (size_wfill _ _ _ _)

/-- every cell of every buffer of `wmem m b ro g k` -/
theorem getD_buf_wmem (a x : Nat) :
    (buf (wmem m b ro g k) a).getD x 0
      = if a = b ∧ ro ≤ x ∧ x < ro + k ∧ x < (buf m b).size then g (x - ro) else (buf m a).getD x 0 := by
  by_cases hab : a = b
  · subst hab
    by_cases hs : a < m.size
    · rw [wmem, buf_set_self m a _ hs, getD_wfill]
      simp only [true_and]
    · have e : buf m a = #[] := buf_of_ge m a (by omega)
      rw [buf_of_ge _ a (by rw [size_wmem]; omega), e, if_neg (by simp)]
  · rw [wmem, buf_set_ne m b a _ hab, if_neg (fun h => hab h.1)]

/-- the store of round `k` of a loop that writes the window in index order -/
theorem store_wmem (h : ro + k < (buf m b).size) :
    storeCell (wmem m b ro g k) (some (b, ro)) (k : Int) (g k) = .ok (wmem m b ro g (k + 1)) := by
  have hb : b < m.size := lt_size_of_buf_size_pos m b (by omega)
  rw [storeCell_nat _ _ _ _ _ (by rw [size_buf_wmem]; exact h), wmem, buf_set_self m b _ hb, wfill_step _ _ _ _ _ rfl,
    set_set]
  rfl
end

/-- two windows that lie in different buffers or do not meet can be written in either order -/
theorem wmem_comm (m : Mem) (o oo : Nat) (gy : Nat → Int) (ky c co : Nat) (gc : Nat → Int) (kc : Nat)
    (hd : c = o → oo + ky ≤ co ∨ co + kc ≤ oo) :
    wmem (wmem m o oo gy ky) c co gc kc = wmem (wmem m c co gc kc) o oo gy ky := by
  refine Array.ext (by simp) fun a h1 h2 => ?_
  rw [← buf_eq_getElem _ a h1, ← buf_eq_getElem _ a h2]
  refine ext_getD 0 (by simp only [size_buf_wmem]) fun x _ => ?_
  simp only [getD_buf_wmem, size_buf_wmem]
  by_cases hc : a = c ∧ co ≤ x ∧ x < co + kc ∧ x < (buf m c).size
  · rw [if_pos hc, if_neg (by omega), if_pos hc]
  · rw [if_neg hc, if_neg hc]

section
variable (m : Mem) (b : Nat) (n ro : Nat) (g : Nat → Int)

theorem fills_wmem (hr : ro + n ≤ (buf m b).size) : Fills (wmem m b ro g) (some (b, ro)) g n :=
  fun k hk => store_wmem m b ro g k (by omega)

/-- a source window in another buffer, or in the same buffer and identical to or disjoint from the result window:
    an identical one is read ahead of the writes, the others are never written -/
theorem ahead_wmem (a ao : Nat) (ha : ao + n ≤ (buf m a).size) (hd : a = b → SameOrDisj n ro ao) :
    Ahead (wmem m b ro g) (some (a, ao)) (fun i => (win (buf m a) ao n).getD i 0) n := by
  intro k i hk hi
  unfold SameOrDisj at hd
  rw [loadCell_nat _ _ _ _ (by rw [size_buf_wmem]; omega), getD_buf_wmem, if_neg (by omega)]
  exact congrArg R.ok (getD_win _ _ _ _ hi).symm
end

/-! ### two result windows `(o, oo)`, `(c, co)`, in different buffers or disjoint, written in lock step -/
section two
variable (m : Mem) (o oo c co n : Nat) (gy gc : Nat → Int)

theorem storesTo_wmem2_fst (hoc : c = o → oo + n ≤ co ∨ co + n ≤ oo) (ho : oo + n ≤ (buf m o).size) :
    StoresTo (fun k => wmem (wmem m o oo gy k) c co gc k) (fun k => wmem (wmem m o oo gy (k + 1)) c co gc k)
      (some (o, oo)) gy n := by
  intro k hk
  show storeCell (wmem (wmem m o oo gy k) c co gc k) _ _ _ = .ok (wmem (wmem m o oo gy (k + 1)) c co gc k)
  rw [wmem_comm m o oo gy k c co gc k (by omega), wmem_comm m o oo gy (k + 1) c co gc k (by omega),
    store_wmem _ o oo gy k (by rw [size_buf_wmem]; omega)]

theorem storesTo_wmem2_snd (hc : co + n ≤ (buf m c).size) :
    StoresTo (fun k => wmem (wmem m o oo gy (k + 1)) c co gc k)
      (fun k => wmem (wmem m o oo gy (k + 1)) c co gc (k + 1)) (some (c, co)) gc n :=
  fun k hk => store_wmem _ c co gc k (by rw [size_buf_wmem]; omega)

/-- a window that is, for each of the two result windows, in another buffer or identical to it or disjoint from it -/
theorem ahead_wmem2 (a ao : Nat) (ha : ao + n ≤ (buf m a).size) (h1 : a = o → SameOrDisj n oo ao)
    (h2 : a = c → SameOrDisj n co ao) :
    Ahead (fun k => wmem (wmem m o oo gy k) c co gc k) (some (a, ao)) (fun i => (win (buf m a) ao n).getD i 0) n := by
  intro k i hk hi
  unfold SameOrDisj at h1
  -- the outer window by `ahead_wmem` over the inner memory, whose cell is then the original one
  refine (ahead_wmem (wmem m o oo gy k) c n co gc a ao (by rw [size_buf_wmem]; exact ha) h2 k i hk hi).trans ?_
  show R.ok ((win _ ao n).getD i 0) = R.ok ((win _ ao n).getD i 0)
  rw [getD_win _ _ _ _ hi, getD_win _ _ _ _ hi, getD_buf_wmem, if_neg (by omega)]
end two

theorem wmem2_zero (m : Mem) (o oo c co : Nat) (gy gc : Nat → Int) : wmem (wmem m o oo gy 0) c co gc 0 = m := by
  rw [wmem_zero, wmem_zero]

/-! ### `memcpy` / `memset` of `n` cells write a window -/
theorem getD_blit (src dst : Array Int) (os od c j : Nat) :
    (blit src os dst od c).getD j 0 =
      if od ≤ j ∧ j < od + c ∧ j < dst.size then src.getD (os + (j - od)) 0 else dst.getD j 0 := by
  by_cases hj : j < dst.size
  · by_cases h1 : od ≤ j ∧ j < od + c <;> simp [blit, Array.getD, hj, h1]
  · simp [blit, Array.getD, hj]

theorem getD_fill (dst : Array Int) (od c : Nat) (v : Int) (j : Nat) :
    (fill dst od c v).getD j 0 = if od ≤ j ∧ j < od + c ∧ j < dst.size then v else dst.getD j 0 := by
  by_cases hj : j < dst.size
  · by_cases h1 : od ≤ j ∧ j < od + c <;> simp [fill, Array.getD, hj, h1]
  · simp [fill, Array.getD, hj]

@[simp] theorem size_blit (src dst : Array Int) (os od c : Nat) : (blit src os dst od c).size = dst.size := by
  simp [blit]
@[simp] theorem size_fill (dst : Array Int) (od c : Nat) (v : Int) : (fill dst od c v).size = dst.size := by
  simp [fill]

/-- a byte count `8 * n` is a count of `n` whole cells -/
theorem bytes_cells (n : Nat) :
    ¬ (((8 * n : Nat) : Int) < 0 ∨ ((8 * n : Nat) : Int) % 8 ≠ 0) ∧ (((8 * n : Nat) : Int) / 8).toNat = n := by
  omega

theorem memcpy_wmem (m : Mem) (bd od bs os n : Nat) (hd : od + n ≤ (buf m bd).size) (hs : os + n ≤ (buf m bs).size)
    (hdj : bs = bd → SameOrDisj n od os) :
    memcpyCells m (some (bd, od)) (some (bs, os)) ((8 * n : Nat) : Int)
      = .ok (wmem m bd od (fun j => (buf m bs).getD (os + j) 0) n) := by
  have h3 : ¬ (bd = bs ∧ od ≠ os ∧ od < os + n ∧ os < od + n) := fun ⟨e, hne, h4, h5⟩ =>
    (hdj e.symm).elim (fun h => hne h.symm) fun h => h.elim (fun h => Nat.not_lt_of_le h h5) fun h => Nat.not_lt_of_le h h4
  rw [memcpyCells, if_neg (bytes_cells n).1]
  simp only [(bytes_cells n).2]
  rw [if_pos ⟨hd, hs⟩, if_neg h3]
  exact congrArg (fun A => R.ok (m.setIfInBounds bd A))
    (ext_getD 0 (by simp) fun x _ => by rw [getD_blit, getD_wfill])

theorem memset_wmem (m : Mem) (bd od n : Nat) (ty : Ty) (hty : ty.bits = 64) (v : Int)
    (hd : od + n ≤ (buf m bd).size) :
    memsetCells m (some (bd, od)) ty v ((8 * n : Nat) : Int) = .ok (wmem m bd od (fun _ => memsetPattern ty v) n) := by
  have h1 : ¬ (((8 * n : Nat) : Int) < 0 ∨ ((8 * n : Nat) : Int) % 8 ≠ 0 ∨ ty.bits ≠ 64) := fun h =>
    h.elim (fun h => (bytes_cells n).1 (.inl h)) fun h => h.elim (fun h => (bytes_cells n).1 (.inr h)) fun h => h hty
  rw [memsetCells, if_neg h1]
  simp only [(bytes_cells n).2]
  rw [if_pos hd]
  exact congrArg (fun A => R.ok (m.setIfInBounds bd A))
    (ext_getD 0 (by simp) fun x _ => by rw [getD_fill, getD_wfill])

end Spq.CIR
