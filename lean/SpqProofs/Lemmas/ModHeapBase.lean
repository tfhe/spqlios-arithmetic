/-
  Base lemmas for the heap-level module model (`Spq.ModuleHeap`): frames, read-after-write, the
  specification of every kernel call, range loops with an invariant.
-/
import SpqProofs.Lemmas.Window
import SpqProofs.Lemmas.ModuleArr
import Spq.ModuleHeap
namespace Spq.ModuleHeap
open Spq Heap Module Reim4
variable {γ α : Type}

/-- `g` is `h` except possibly for the cells in `W`: same arena size, same `ok` flag -/
structure Fr (W : Nat → Prop) (h g : Heap γ) : Prop where
  size : g.mem.size = h.mem.size
  ok : g.ok = h.ok
  out : ∀ x, ¬ W x → g.mem[x]? = h.mem[x]?

theorem Fr.refl (W : Nat → Prop) (h : Heap γ) : Fr W h h := ⟨rfl, rfl, fun _ _ => rfl⟩

theorem Fr.trans {W W' : Nat → Prop} {h g k : Heap γ} (a : Fr W h g) (b : Fr W' g k) :
    Fr (fun x => W x ∨ W' x) h k :=
  ⟨b.size.trans a.size, b.ok.trans a.ok, fun x hx => by
    rw [b.out x (fun q => hx (Or.inr q)), a.out x (fun q => hx (Or.inl q))]⟩

theorem Fr.mono {W W' : Nat → Prop} {h g : Heap γ} (a : Fr W h g) (hw : ∀ x, W x → W' x) : Fr W' h g :=
  ⟨a.size, a.ok, fun x hx => a.out x (fun q => hx (hw x q))⟩

theorem Fr.trans' {W : Nat → Prop} {h g k : Heap γ} (a : Fr W h g) (b : Fr W g k) : Fr W h k :=
  (a.trans b).mono (fun _ q => q.elim id id)

theorem Fr.step {W : Nat → Prop} {p n : Nat} {h g g' : Heap γ} (F : Fr W h g) (f : Fr (In p n) g g')
    (s : ∀ x, In p n x → W x) : Fr W h g' := F.trans' (f.mono s)

theorem readLimb_of_fr {W : Nat → Prop} {h g : Heap γ} (f : Fr W h g) (d : γ) (p n : Nat)
    (hd : ∀ x, In p n x → ¬ W x) : g.readLimb d p n = h.readLimb d p n :=
  readLimb_congr g h d p n (fun x h1 h2 => f.out x (hd x ⟨h1, h2⟩))

theorem Fr.keeps {p n q m : Nat} {g g' : Heap γ} (f : Fr (In p n) g g') (d : Dj q m p n) {dd : γ} {V : Array γ}
    (v : g.readLimb dd q m = V) : g'.readLimb dd q m = V := (readLimb_of_fr f dd q m d.not_mem).trans v

theorem readLimb_eq_extract (h : Heap γ) (d : γ) (p n : Nat) (hb : p + n ≤ h.mem.size) :
    h.readLimb d p n = h.mem.extract p (p + n) := by
  apply Array.ext
  · simp; omega
  · intro i h1 h2
    simp only [size_readLimb] at h1
    simp only [readLimb, Array.getElem_ofFn, Array.getElem_extract, Array.getD_eq_getD_getElem?]
    rw [Array.getElem?_eq_getElem (by omega)]; rfl

theorem readLimb_extract (h : Heap γ) (d : γ) (p n i k : Nat) (hk : i + k ≤ n) :
    (h.readLimb d p n).extract i (i + k) = h.readLimb d (p + i) k := by
  apply Array.ext
  · simp; omega
  · intro j h1 h2
    simp only [size_readLimb] at h2
    simp only [readLimb, Array.getElem_extract, Array.getElem_ofFn]
    congr 1; omega

theorem readLimb_writeLimb_same (h : Heap γ) (d : γ) (off : Nat) (l : Array γ) (hb : off + l.size ≤ h.mem.size) :
    (h.writeLimb off l).readLimb d off l.size = l := by
  apply Array.ext
  · simp
  · intro i h1 h2
    simp only [readLimb, Array.getElem_ofFn, writeLimb, Array.getD_eq_getD_getElem?]
    rw [getElem?_writeArr_of_in _ _ _ _ h2 hb, Array.getElem?_eq_getElem h2]; rfl

theorem fr_writeLimb (h : Heap γ) (off : Nat) (l : Array γ) (hb : off + l.size ≤ h.mem.size) :
    Fr (In off l.size) h (h.writeLimb off l) := by
  refine ⟨by simp [writeLimb], by simp [writeLimb, hb], ?_⟩
  intro x hx
  simp only [writeLimb]
  apply getElem?_writeArr_of_out
  unfold In at hx; omega

/-- a heap that differs from `h` in the `ok` flag only, the flag being unchanged under the side conditions -/
theorem wr_spec (h h1 : Heap γ) (d : γ) (p n : Nat) (l : Array γ) (hm : h1.mem = h.mem) (ho : h1.ok = h.ok)
    (hl : l.size = n) (hb : p + n ≤ h.mem.size) :
    Fr (In p n) h (h1.writeLimb p l) ∧ (h1.writeLimb p l).readLimb d p n = l := by
  subst hl
  have e : h1 = h := by cases h1; cases h; simp_all
  subst e
  exact ⟨fr_writeLimb _ p l hb, readLimb_writeLimb_same _ d p l hb⟩

@[simp] theorem tch_mem (off n : Nat) (h : Heap γ) : (tch off n h).mem = h.mem := rfl
@[simp] theorem guard_mem (b : Bool) (h : Heap γ) : (guard b h).mem = h.mem := rfl
@[simp] theorem scr_mem (tb rel n : Nat) (h : Heap γ) : (scr tb rel n h).mem = h.mem := rfl
theorem tch_ok (off n : Nat) (h : Heap γ) (hb : off + n ≤ h.mem.size) : (tch off n h).ok = h.ok := by
  simp [tch, touch, hb]
theorem guard_ok (b : Bool) (h : Heap γ) (hb : b = true) : (guard b h).ok = h.ok := by
  simp [guard, hb]
theorem scr_ok (tb rel n : Nat) (h : Heap γ) (hb : 8 * (rel + n) ≤ tb) : (scr tb rel n h).ok = h.ok := by
  simp [scr, guard, hb]

theorem fr_scr (tb rel n : Nat) (h : Heap γ) (hb : 8 * (rel + n) ≤ tb) : Fr (fun _ => False) h (scr tb rel n h) :=
  ⟨rfl, scr_ok tb rel n h hb, fun _ _ => rfl⟩

theorem scr_eq (tb rel n : Nat) (h : Heap γ) (hb : 8 * (rel + n) ≤ tb) : scr tb rel n h = h := by
  cases h; simp [scr, guard, hb]

theorem disj_of (p np q nq : Nat) (h : p + np ≤ q ∨ q + nq ≤ p) : disj p np q nq = true := by
  simp [disj]; omega
theorem sameOrDisj_same (p n : Nat) : sameOrDisj p p n = true := by simp [sameOrDisj]
theorem sameOrDisj_of (p q n : Nat) (h : p + n ≤ q ∨ q + n ≤ p) : sameOrDisj p q n = true := by
  simp [sameOrDisj, disj]; omega

@[simp] theorem size_rdD (cd : Cells γ α) (h : Heap γ) (p n : Nat) : (rdD cd h p n).size = n := by simp [rdD]
@[simp] theorem size_rdI (cd : Cells γ α) (h : Heap γ) (p n : Nat) : (rdI cd h p n).size = n := by simp [rdI]

theorem rdD_of_fr {W : Nat → Prop} {h g : Heap γ} (f : Fr W h g) (cd : Cells γ α) (p n : Nat)
    (hd : ∀ x, In p n x → ¬ W x) : rdD cd g p n = rdD cd h p n := by
  unfold rdD; rw [readLimb_of_fr f _ p n hd]
theorem rdI_of_fr {W : Nat → Prop} {h g : Heap γ} (f : Fr W h g) (cd : Cells γ α) (p n : Nat)
    (hd : ∀ x, In p n x → ¬ W x) : rdI cd g p n = rdI cd h p n := by
  unfold rdI; rw [readLimb_of_fr f _ p n hd]

/-- the codec law the in-place steps rely on: a stored DFT-space value is read back unchanged -/
def RoundTrip (cd : Cells γ α) : Prop := ∀ x, cd.dec (cd.enc x) = x

theorem map_dec_enc (cd : Cells γ α) (hr : RoundTrip cd) (x : Array α) : (x.map cd.enc).map cd.dec = x := by
  rw [Array.map_map]
  have : cd.dec ∘ cd.enc = id := funext hr
  rw [this, Array.map_id]

theorem rdD_of_cells (cd : Cells γ α) (hr : RoundTrip cd) (g : Heap γ) (p n : Nat) (v : Array α)
    (hc : g.readLimb cd.dflt p n = v.map cd.enc) : rdD cd g p n = v := by
  unfold rdD; rw [hc, map_dec_enc cd hr]

theorem loop_inv (P : Nat → Heap γ → Prop) (n : Nat) (body : Nat → Heap γ → Heap γ) (h : Heap γ)
    (h0 : P 0 h) (hs : ∀ i g, i < n → P i g → P (i + 1) (body i g)) : P n (loop n body h) :=
  foldl_range_inv P (fun h i => body i h) n h h0 hs

theorem loop_zero (body : Nat → Heap γ → Heap γ) (h : Heap γ) : loop 0 body h = h := rfl

/-- two folds run side by side: how an invariant of one fold becomes a relation between two -/
theorem foldl_pair {β δ : Type} (f : δ → Nat → δ) (g : β → Nat → β) (l : List Nat) (a : δ) (b : β) :
    l.foldl (fun p i => (f p.1 i, g p.2 i)) (a, b) = (l.foldl f a, l.foldl g b) := by
  induction l generalizing a b with
  | nil => rfl
  | cons x l ih => exact ih _ _

end Spq.ModuleHeap
