/-
  No-overflow from a magnitude box: the accumulation stage of the vector-matrix product.
  `pU c`: the module with underflow-only flags; `cell_no_ovf`: the product is run on the module `pUB` over the product
  arithmetic `arithUB` (flags and bounds), whose cells are related (`cell_sim`) to those of the runs it abstracts; for
  every cell of a computed column, underflow-only flag ⇒ full flag (`vmpFlag`) and value bounded by `32·Ua·Ub·(n+1)`.
-/
import SpqProofs.Lemmas.VmpErrOvf9
import SpqProofs.Lemmas.VmpErrOvf8
import SpqProofs.Lemmas.VmpErrCol
namespace Spq.VmpErr
open Spq Spq.Module Spq.F64 Spq.Reim4 Spq.ProdErr

/-- the module with UNDERFLOW-only flags (prepared matrix = lifted bit-level DFTs of the entries) -/
def pU (c : Cfg) : Parts (ℕ × Prop) :=
  mkParts arithU c.nn c.mulFma c.addmulFma c.vmpAvx (fun x => ((Cfg.parts c).fft ((Cfg.parts c).fromZnx x)).map lift)

/-- the module with underflow-only flags and magnitude bounds (`Ub` for the cells of the prepared matrix) -/
def pUB (c : Cfg) (Ub : ℚ) : Parts ((ℕ × Prop) × (ℚ × Prop)) :=
  mkParts arithUB c.nn c.mulFma c.addmulFma c.vmpAvx
    (fun x => ((Cfg.parts c).fft ((Cfg.parts c).fromZnx x)).map (fun b => (lift b, (Ub, True))))

/-- **underflow-only flag of output cell `p` of the vector-matrix product** (`vmpFlag` with `NoUnd`) -/
def vmpFlagU (c : Cfg) (mat : Array Int) (nrows ncols : ℕ) (a : Array Int) (asz asl rsz p : ℕ) : Prop :=
  ((vmpApplyDftToDft (pU c) rsz ((vecDft (Cfg.parts c) (min nrows asz) a asz asl).map lift) asz
    (vmpPrepare (pU c) mat nrows ncols) nrows ncols).getD p arithU.zero).2

theorem cell_no_ovf (c : Cfg) (k : ℕ) (cN sN cNi sNi : ℕ → ℕ) (h : VCfgOk c k cN sN cNi sNi)
    (mat : Array Int) (nrows ncols : ℕ) (a : Array Int) (asz asl rsz : ℕ)
    (hA : ∀ i, i < min nrows asz → Box k (limbOf a i asl (2 * 2 ^ k)))
    (hM : ∀ i j, i < nrows → j < ncols → Box k (matEntry mat ncols (2 * 2 ^ k) i j))
    (Ua Ub : ℚ) (hUa : 0 ≤ Ua) (hUb : 0 ≤ Ub)
    (bA : ∀ i, i < min nrows asz → ∀ x, x < 2 * 2 ^ k → |val ((stF c k cN sN (limbOf a i asl (2 * 2 ^ k))).getD x 0)| ≤ Ua)
    (hκ : kap ^ (2 * min nrows asz) ≤ 4) (hT : 32 * (Ua * Ub) * (((min nrows asz : ℕ) : ℚ) + 1) < Tov)
    (j t : ℕ) (hj : j < min ncols rsz) (ht : t < 2 ^ k) (hpos : k < 2 → 0 < min nrows asz)
    (bM : ∀ i, i < min nrows asz → ∀ x, x < 2 * 2 ^ k →
      |val ((stF c k cN sN (matEntry mat ncols (2 * 2 ^ k) i j)).getD x 0)| ≤ Ub) :
    (vmpFlagU c mat nrows ncols a asz asl rsz (j * (2 * 2 ^ k) + t) →
      vmpFlag c mat nrows ncols a asz asl rsz (j * (2 * 2 ^ k) + t) ∧
      |val ((vmpRes c mat nrows ncols a asz asl rsz).getD (j * (2 * 2 ^ k) + t) 0)| ≤
        32 * (Ua * Ub) * (((min nrows asz : ℕ) : ℚ) + 1)) ∧
    (vmpFlagU c mat nrows ncols a asz asl rsz (j * (2 * 2 ^ k) + t + 2 ^ k) →
      vmpFlag c mat nrows ncols a asz asl rsz (j * (2 * 2 ^ k) + t + 2 ^ k) ∧
      |val ((vmpRes c mat nrows ncols a asz asl rsz).getD (j * (2 * 2 ^ k) + t + 2 ^ k) 0)| ≤
        32 * (Ua * Ub) * (((min nrows asz : ℕ) : ℚ) + 1)) := by
  have hnn := p_nn c k cN sN cNi sNi h
  have hm := parts_m c k h.cfg.nn
  have hjc : j < ncols := lt_of_lt_of_le hj (Nat.min_le_left _ _)
  have hT0 := matDft_size c k cN sN cNi sNi h mat nrows ncols hM
  have hadsz : (vecDft (Cfg.parts c) (min nrows asz) a asz asl).size = min nrows asz * (2 * 2 ^ k) := by
    obtain ⟨s, _⟩ := vecDft_spec (Cfg.parts c) (min nrows asz) a asz asl (fun i => stF c k cN sN (limbOf a i asl (2 * 2 ^ k)))
      (fun i hi => by rw [if_pos (lt_of_lt_of_le hi (Nat.min_le_right _ _)), parts_fft c k cN sN cNi sNi h.cfg, hnn])
      (fun i hi => by rw [hnn]; exact stF_size c k cN sN cNi sNi h.cfg _ (hA i hi))
    rw [s, hnn]
  have hpos' : (Cfg.parts c).nn < 8 → 0 < min nrows asz := fun h8 => hpos (nn_lt8 c k cN sN cNi sNi h h8)
  have ht' : t < (Cfg.parts c).m := by rw [hm]; exact ht
  have hsm := colKind_sm (Cfg.parts c) ncols rsz j (min nrows asz) hpos'
  have hTmap : ∀ {γ : Type} (f : ℕ → γ) row col, row < nrows → col < ncols →
      ((matDft (Cfg.parts c) mat ncols row col).map f).size = (Cfg.parts c).nn :=
    fun f row col hr hc => by rw [Array.size_map]; exact hT0 row col hr hc
  have gA : ∀ {γ : Type} (f : ℕ → γ) (z : γ) i, i < min nrows asz → ∀ u, u < (Cfg.parts c).nn →
      ((vecDft (Cfg.parts c) (min nrows asz) a asz asl).map f).getD (i * (Cfg.parts c).nn + u) z =
        f ((stF c k cN sN (limbOf a i asl (2 * 2 ^ k))).getD u 0) := by
    intro γ f z i hi u hu
    rw [hnn] at hu ⊢
    have := mul_step i (min nrows asz) (2 * 2 ^ k) hi
    rw [getD_map_lt f _ _ 0 z (by rw [hadsz]; omega),
      vecDft_cell c k cN sN cNi sNi h a asz asl _ (Nat.min_le_right _ _) hA i u hi hu]
  have gM : ∀ {γ : Type} (f : ℕ → γ) (z : γ) i, i < min nrows asz → ∀ u, u < (Cfg.parts c).nn →
      ((matDft (Cfg.parts c) mat ncols i j).map f).getD u z =
        f ((stF c k cN sN (matEntry mat ncols (2 * 2 ^ k) i j)).getD u 0) := by
    intro γ f z i hi u hu
    rw [getD_map_lt f _ u 0 z (by rw [hT0 i j (lt_of_lt_of_le hi (Nat.min_le_left _ _)) hjc]; exact hu),
      matDft_stF c k cN sN cNi sNi h]
  obtain ⟨adft, hadft⟩ : ∃ adft, adft = vecDft (Cfg.parts c) (min nrows asz) a asz asl := ⟨_, rfl⟩
  rw [← hadft] at gA
  -- the cell on four modules: full flags against bits, against the product arithmetic (bounds `Ua`, `Ub` attached to
  -- the data), and the product arithmetic against its first projection
  have r0 := cell_sim (pOk c) (Cfg.parts c) arithOk_sim_arith rfl rfl (p_hnn c k cN sN cNi sNi h)
    (p_hblk c k cN sN cNi sNi h) (p_hsm c k cN sN cNi sNi h) (p_hsm c k cN sN cNi sNi h) mat nrows ncols rsz asz
    (adft.map lift) adft (fun _ => hTmap lift) (fun _ => hT0) j t hj ht' hpos' (fun _ _ _ _ => rel1_lift adft _)
    (fun i _ u _ => rel1_lift (matDft (Cfg.parts c) mat ncols i j) u)
  have r1 := cell_sim (pOk c) (pUB c Ub) simO rfl rfl (p_hnn c k cN sN cNi sNi h)
    (p_hblk c k cN sN cNi sNi h) (p_hsm c k cN sN cNi sNi h) (p_hsm c k cN sN cNi sNi h) mat nrows ncols rsz asz
    (adft.map lift) (adft.map fun b => (lift b, ((Ua, True) : ℚ × Prop))) (fun _ => hTmap lift) (fun _ => hTmap _)
    j t hj ht' hpos'
    (fun i hi u hu => by
      show RlO ((adft.map lift).getD (i * (Cfg.parts c).nn + u) arithOk.zero)
        ((adft.map fun b => (lift b, ((Ua, True) : ℚ × Prop))).getD (i * (Cfg.parts c).nn + u) arithUB.zero)
      rw [gA lift _ i hi u hu, gA _ _ i hi u hu]
      exact rlO_lift _ Ua hUa (fun _ => bA i hi u (by rw [← hnn]; exact hu)))
    (fun i hi u hu => by
      show RlO (((matDft (Cfg.parts c) mat ncols i j).map lift).getD u arithOk.zero)
        (((matDft (Cfg.parts c) mat ncols i j).map fun b => (lift b, ((Ub, True) : ℚ × Prop))).getD u arithUB.zero)
      rw [gM lift _ i hi u hu, gM _ _ i hi u hu]
      exact rlO_lift _ Ub hUb (fun _ => bM i hi u (by rw [← hnn]; exact hu)))
  have r2 := cell_sim (pUB c Ub) (pU c) (arithU.prod_fst arithB) rfl rfl (p_hnn c k cN sN cNi sNi h)
    (p_hblk c k cN sN cNi sNi h) (p_hsm c k cN sN cNi sNi h) (p_hsm c k cN sN cNi sNi h) mat nrows ncols rsz asz
    (adft.map fun b => (lift b, ((Ua, True) : ℚ × Prop))) (adft.map lift) (fun _ => hTmap _) (fun _ => hTmap lift)
    j t hj ht' hpos'
    (fun i hi u hu => by
      show ((adft.map fun b => (lift b, ((Ua, True) : ℚ × Prop))).getD (i * (Cfg.parts c).nn + u) arithUB.zero).1 =
        (adft.map lift).getD (i * (Cfg.parts c).nn + u) arithU.zero
      rw [gA lift _ i hi u hu, gA _ _ i hi u hu])
    (fun i hi u hu => by
      show (((matDft (Cfg.parts c) mat ncols i j).map fun b => (lift b, ((Ub, True) : ℚ × Prop))).getD u arithUB.zero).1 =
        ((matDft (Cfg.parts c) mat ncols i j).map lift).getD u arithU.zero
      rw [gM lift _ i hi u hu, gM _ _ i hi u hu])
  obtain ⟨_, L3, _, _⟩ := vmp_layout_g (pUB c Ub) (p_hnn c k cN sN cNi sNi h) (p_hblk c k cN sN cNi sNi h)
    (p_hsm c k cN sN cNi sNi h) mat nrows ncols rsz asz (adft.map fun b => (lift b, ((Ua, True) : ℚ × Prop)))
    (fun _ => hTmap _)
  obtain ⟨c3re, c3im⟩ := L3 j t hj ht' hpos'
  have htm : t + (Cfg.parts c).m < (Cfg.parts c).nn := by rw [hnn, hm]; omega
  have P2 := dot_sim_on (arithU.prod_snd arithB) (colKind (Cfg.parts c) ncols rsz j)
    (aRe arithUB.zero (adft.map fun b => (lift b, ((Ua, True) : ℚ × Prop))) (Cfg.parts c).nn t)
    (aIm arithUB.zero (adft.map fun b => (lift b, ((Ua, True) : ℚ × Prop))) (Cfg.parts c).nn (Cfg.parts c).m t)
    (bRe (pUB c Ub) mat ncols j t) (bIm (pUB c Ub) mat ncols j t)
    (fun _ => ((Ua, True) : ℚ × Prop)) (fun _ => ((Ua, True) : ℚ × Prop)) (fun _ => ((Ub, True) : ℚ × Prop))
    (fun _ => ((Ub, True) : ℚ × Prop)) (min nrows asz) hsm
    (fun i hi => by unfold aRe; rw [gA _ _ i hi t (by omega)])
    (fun i hi => by unfold aIm; rw [Nat.add_assoc, gA _ _ i hi _ htm])
    (fun i hi => by
      show (((matDft (Cfg.parts c) mat ncols i j).map fun b => (lift b, ((Ub, True) : ℚ × Prop))).getD t arithUB.zero).2 = _
      rw [gM _ _ i hi t (by omega)])
    (fun i hi => by
      show (((matDft (Cfg.parts c) mat ncols i j).map fun b => (lift b, ((Ub, True) : ℚ × Prop))).getD
        (t + (Cfg.parts c).m) arithUB.zero).2 = _
      rw [gM _ _ i hi _ htm])
  have bdA : Bd Ua ((Ua, True) : ℚ × Prop) := ⟨trivial, hUa, le_refl _⟩
  have bdB : Bd Ub ((Ub, True) : ℚ × Prop) := ⟨trivial, hUb, le_refl _⟩
  obtain ⟨B1, B2⟩ := dot_bd (fun _ => ((Ua, True) : ℚ × Prop)) (fun _ => ((Ua, True) : ℚ × Prop))
    (fun _ => ((Ub, True) : ℚ × Prop)) (fun _ => ((Ub, True) : ℚ × Prop)) Ua Ub hUa hUb (fun _ => bdA) (fun _ => bdA)
    (fun _ => bdB) (fun _ => bdB) (colKind (Cfg.parts c) ncols rsz j) (min nrows asz) hsm hκ hT
  have e3re := congrArg Prod.snd c3re
  have e3im := congrArg Prod.snd c3im
  rw [show (pOk c).nn = 2 * 2 ^ k from hnn, show (pOk c).m = 2 ^ k from hm] at r0 r1
  rw [show (pUB c Ub).nn = 2 * 2 ^ k from hnn] at r2 e3re e3im
  rw [show (pUB c Ub).m = 2 ^ k from hm] at r2 e3im
  subst hadft
  exact ⟨fun hf => by
      obtain ⟨x1, _, x3⟩ := flag_of_bound r0.1 r1.1 r2.1 (e3re.trans P2.1) B1 hf
      exact ⟨x1, x3⟩,
    fun hf => by
      obtain ⟨x1, _, x3⟩ := flag_of_bound r0.2 r1.2 r2.2 (e3im.trans P2.2) B2 hf
      exact ⟨x1, x3⟩⟩

end Spq.VmpErr
