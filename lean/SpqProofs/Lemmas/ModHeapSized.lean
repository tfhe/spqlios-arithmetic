/-
  `Sized (Cfg.parts cfg)`: the parts of the library's FFT64 module (bit-exact models of `reim_from_znx64`,
  `reim_fft`, `reim_ifft`, `reim_to_znx64` in the variant the module installed) map `nn`-cell limbs to `nn`-cell
  limbs, whatever the twiddle tables hold — provided `nn = 2m` and, when a 4-lane AVX conversion is installed,
  `4 | nn` (the do-while loops of `reim_from_znx64_bnd50_fma` / `reim_to_znx64_avx2_*` always run a whole number of
  4-lane iterations, at least one; the module installs them for `m ≥ 8` only).
-/
import SpqProofs.Lemmas.ModHeapKern
import SpqProofs.Lemmas.ConvVec
namespace Spq.ModuleHeap
open Spq Fft
variable {α : Type}

/-- Everything the transforms do to a state is `bf` under `iterFrom`, `ite` and `let`, and `bf` stores into cells that
exist or does nothing: so `sizes (f s) = sizes s` for each `f` of the model, whatever the tables and the flavour. -/
def sizes (s : RI α) : Nat × Nat := (s.re.size, s.im.size)

theorem iterFrom_inv {σ : Type} (P : σ → Prop) (f : Nat → σ → σ) (hf : ∀ i s, P s → P (f i s)) :
    ∀ (c i : Nat) (s : σ), P s → P (iterFrom f c i s)
  | 0, _, _, h => h
  | c + 1, i, s, h => iterFrom_inv P f hf c (i + 1) (f i s) (hf i s h)

theorem sizes_iter (f : Nat → RI α → RI α) (hf : ∀ i s, sizes (f i s) = sizes s) (c i : Nat) (s : RI α) :
    sizes (iterFrom f c i s) = sizes s :=
  iterFrom_inv (fun t => sizes t = sizes s) f (fun i t h => (hf i t).trans h) c i s rfl

theorem sizes_iter2 (f : Nat → RI α × Nat → RI α × Nat) (hf : ∀ i st, sizes (f i st).1 = sizes st.1) (c i : Nat)
    (st : RI α × Nat) : sizes (iterFrom f c i st).1 = sizes st.1 :=
  iterFrom_inv (fun t => sizes t.1 = sizes st.1) f (fun i t h => (hf i t).trans h) c i st rfl

theorem sizes_splitRI (m : Nat) (d : Array α) (hd : d.size = 2 * m) : sizes (splitRI m d) = (m, m) := by
  unfold splitRI sizes
  simp only [Array.size_extract]
  congr 1 <;> omega

theorem size_joinRI (s : RI α) : (joinRI s).size = (sizes s).1 + (sizes s).2 := Array.size_append

variable [Inhabited α]

theorem sizes_bf (f : Bf α) (s : RI α) (a b : Nat) (wr wi : α) : sizes (bf f s a b wr wi) = sizes s := by
  unfold bf sizes
  simp only [Array.set!_eq_setIfInBounds, Array.size_setIfInBounds]

variable (F : Flav α) (T : Array α)

theorem sizes_twPass (f : Bf α) (h off : Nat) (wr wi : α) (s : RI α) : sizes (twPass f h off wr wi s) = sizes s := by
  simp only [twPass, sizes_iter, sizes_bf, implies_true]

theorem sizes_fft2 (t off : Nat) (s : RI α) : sizes (fft2 F T t off s) = sizes s := by
  simp only [fft2, sizes_bf]
theorem sizes_fft4 (t off : Nat) (s : RI α) : sizes (fft4 F T t off s) = sizes s := by
  simp only [fft4, sizes_bf]
theorem sizes_fft8 (t off : Nat) (s : RI α) : sizes (fft8 F T t off s) = sizes s := by
  simp only [fft8, sizes_iter, sizes_bf, implies_true]
theorem sizes_fft16K (w : Nat → α × α) (off : Nat) (s : RI α) : sizes (fft16K F w off s) = sizes s := by
  simp only [fft16K, sizes_iter, sizes_bf, implies_true]
theorem sizes_fft16 (t off : Nat) (s : RI α) : sizes (fft16 F T t off s) = sizes s := sizes_fft16K F _ off s
theorem sizes_ifft2 (t off : Nat) (s : RI α) : sizes (ifft2 F T t off s) = sizes s := by
  simp only [ifft2, sizes_bf]
theorem sizes_ifft4 (t off : Nat) (s : RI α) : sizes (ifft4 F T t off s) = sizes s := by
  simp only [ifft4, sizes_bf]
theorem sizes_ifft8 (t off : Nat) (s : RI α) : sizes (ifft8 F T t off s) = sizes s := by
  simp only [ifft8, sizes_iter, sizes_bf, implies_true]
theorem sizes_ifft16K (w : Nat → α × α) (off : Nat) (s : RI α) : sizes (ifft16K F w off s) = sizes s := by
  simp only [ifft16K, sizes_iter, sizes_bf, implies_true]
theorem sizes_ifft16 (t off : Nat) (s : RI α) : sizes (ifft16 F T t off s) = sizes s := sizes_ifft16K F _ off s
theorem sizes_bitwiddle (t h off : Nat) (s : RI α) : sizes (bitwiddle F T t h off s) = sizes s := by
  simp only [bitwiddle, sizes_iter, sizes_bf, implies_true]
theorem sizes_invbitwiddle (t h off : Nat) (s : RI α) : sizes (invbitwiddle F T t h off s) = sizes s := by
  simp only [invbitwiddle, sizes_iter, sizes_bf, implies_true]

theorem sizes_bfsLevels (m off : Nat) :
    ∀ (fuel mm : Nat) (st : RI α × Nat), sizes (bfsLevels F T m off fuel mm st).1 = sizes st.1
  | 0, _, _ => rfl
  | fuel + 1, mm, st => by
    unfold bfsLevels
    split
    · exact (sizes_bfsLevels m off fuel _ _).trans (sizes_iter2 _ (fun i st => sizes_bitwiddle F T _ _ _ _) _ _ _)
    · rfl

theorem sizes_bfs16 (m off : Nat) (st : RI α × Nat) : sizes (bfs16 F T m off st).1 = sizes st.1 := by
  unfold bfs16
  refine (sizes_iter2 _ (fun i st => ?_) _ _ _).trans ((sizes_bfsLevels F T m off _ _ _).trans ?_)
  · exact sizes_fft16 F T _ _ _
  dsimp only
  split
  · exact sizes_twPass ..
  · rfl

theorem sizes_rec16 : ∀ (fuel m off : Nat) (st : RI α × Nat), sizes (rec16 F T fuel m off st).1 = sizes st.1
  | 0, m, off, st => sizes_bfs16 F T m off st
  | fuel + 1, m, off, st => by
    unfold rec16
    split
    · exact sizes_bfs16 F T m off st
    · exact (sizes_rec16 fuel _ _ _).trans ((sizes_rec16 fuel _ _ _).trans (sizes_twPass ..))

/-- every branch of the driver has the sizes of its argument, so which one is taken does not matter (`ite_self`) -/
theorem sizes_fftRI (m : Nat) (s : RI α) : sizes (fftRI F m T s) = sizes s := by
  unfold fftRI
  simp only [apply_ite sizes, sizes_fft2, sizes_fft4, sizes_fft8, sizes_fft16, sizes_bfs16, sizes_rec16, ite_self]

theorem sizes_ibfsLevels (m off : Nat) :
    ∀ (fuel hh : Nat) (st : RI α × Nat), sizes (ibfsLevels F T m off fuel hh st).1 = sizes st.1
  | 0, _, _ => rfl
  | fuel + 1, hh, st => by
    unfold ibfsLevels
    split
    · exact (sizes_ibfsLevels m off fuel _ _).trans (sizes_iter2 _ (fun i st => sizes_invbitwiddle F T _ _ _ _) _ _ _)
    · rfl

theorem sizes_ibfs16 (m off : Nat) (st : RI α × Nat) : sizes (ibfs16 F T m off st).1 = sizes st.1 := by
  have e := (sizes_ibfsLevels F T m off m 16 _).trans
    (sizes_iter2 (fun b (st : RI α × Nat) => (ifft16 F T st.2 (off + 16 * b) st.1, st.2 + 16))
      (fun i st => sizes_ifft16 F T _ _ _) (m / 16) 0 st)
  unfold ibfs16
  dsimp only
  split
  · exact (sizes_twPass ..).trans e
  · exact e

theorem sizes_irec16 : ∀ (fuel m off : Nat) (st : RI α × Nat), sizes (irec16 F T fuel m off st).1 = sizes st.1
  | 0, m, off, st => sizes_ibfs16 F T m off st
  | fuel + 1, m, off, st => by
    unfold irec16
    split
    · exact sizes_ibfs16 F T m off st
    · exact (sizes_twPass ..).trans ((sizes_irec16 fuel _ _ _).trans (sizes_irec16 fuel _ _ _))

theorem sizes_ifftRI (m : Nat) (s : RI α) : sizes (ifftRI F m T s) = sizes s := by
  unfold ifftRI
  simp only [apply_ite sizes, sizes_ifft2, sizes_ifft4, sizes_ifft8, sizes_ifft16, sizes_ibfs16, sizes_irec16, ite_self]

theorem size_reimFftA (m : Nat) (d : Array α) (hd : d.size = 2 * m) : (reimFftA F m T d).size = 2 * m := by
  unfold reimFftA
  rw [size_joinRI, sizes_fftRI, sizes_splitRI m d hd]
  exact (Nat.two_mul m).symm

theorem size_reimIfftA (m : Nat) (d : Array α) (hd : d.size = 2 * m) : (reimIfftA F m T d).size = 2 * m := by
  unfold reimIfftA
  rw [size_joinRI, sizes_ifftRI, sizes_splitRI m d hd]
  exact (Nat.two_mul m).symm

theorem sized_cfg (cfg : Module.Cfg) (hnn : cfg.nn = 2 * (cfg.nn / 2))
    (hv : cfg.fromBnd50 = true ∨ cfg.toVariant ≠ Conv.ToZnx64Variant.ref → cfg.nn % 4 = 0 ∧ 0 < cfg.nn) :
    Sized cfg.parts := by
  refine ⟨?_, ?_, ?_, ?_⟩
  · intro x _
    show (if cfg.fromBnd50 then Conv.fromZnx64Bnd50 (cfg.nn / 2) x else Conv.fromZnx64Ref (cfg.nn / 2) x).size = cfg.nn
    split
    · rename_i hb
      obtain ⟨h4, h0⟩ := hv (Or.inl hb)
      unfold Conv.fromZnx64Bnd50
      rw [Conv.chunks4_size _ _ (by omega) (by omega)]; omega
    · unfold Conv.fromZnx64Ref
      rw [Conv.scalarLoop_size]; omega
  · intro x hx
    exact (size_reimFftA _ cfg.fftT (cfg.nn / 2) x (hx.trans hnn)).trans hnn.symm
  · intro x hx
    exact (size_reimIfftA _ cfg.ifftT (cfg.nn / 2) x (hx.trans hnn)).trans hnn.symm
  · intro x _
    show (Conv.toZnx64 cfg.toVariant (cfg.nn / 2) _ x).size = cfg.nn
    unfold Conv.toZnx64
    split
    · unfold Conv.toZnx64Ref
      simp only
      rw [Conv.scalarLoop_size]; omega
    · rename_i hb
      obtain ⟨h4, h0⟩ := hv (Or.inr (by rw [hb]; decide))
      unfold Conv.toZnx64Bnd50
      simp only
      rw [Conv.chunks4_size _ _ (by omega) (by omega)]; omega
    · rename_i hb
      obtain ⟨h4, h0⟩ := hv (Or.inr (by rw [hb]; decide))
      unfold Conv.toZnx64Bnd63
      simp only
      rw [Conv.chunks4_size _ _ (by omega) (by omega)]; omega

end Spq.ModuleHeap
