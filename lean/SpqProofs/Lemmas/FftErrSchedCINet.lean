/-
  C06.4: the structural inverse cplx network `VNI k (gNetCI F …)` over an ordered field against the exact inverse
  network; relational transfer for `gNetCI`.
-/
import SpqProofs.Lemmas.FftErrSchedCNet
import SpqProofs.Lemmas.FftSchedCInvTop
namespace Spq.Fft.RelN
open Spq.Fft Spq.Fft.Alg Spq.Fft.SimP Spq.Fft.LevelN Spq.Fft.SchedN Spq.Fft.SchedC Spq.FftErr
variable {α β : Type} {Rl : α → β → Prop}

theorem gNetCI_sim {F : CFlav α} {F' : CFlav β} (hF : CFlavSim Rl F F') (c s : ℕ → α) (c' s' : ℕ → β)
    (hc : ∀ e, Rl (c e) (c' e)) (hs : ∀ e, Rl (s e) (s' e)) (k ℓ d b : ℕ)
    {u v : α × α} {u' v' : β × β} (hu : R2 Rl u u') (hv : R2 Rl v v') :
    R2 Rl (gNetCI F c s k ℓ d b u v).1 (gNetCI F' c' s' k ℓ d b u' v').1 ∧
    R2 Rl (gNetCI F c s k ℓ d b u v).2 (gNetCI F' c' s' k ℓ d b u' v').2 :=
  gNetCI_pick k ℓ d b (fun g => R2 Rl (g F c s u v).1 (g F' c' s' u' v').1 ∧ R2 Rl (g F c s u v).2 (g F' c' s' u' v').2)
    (fun _ => lastV_sim hF.last (hc _) (hs _) (hc _) (hs _) hu hv) (bfV_sim hF.ctTop (hc _) (hs _) hu hv)
    (bfV_sim hF.ctOdd (hc _) (hs _) hu hv) (fun _ => bfV_sim hF.big.cit (hc _) (hs _) hu hv)
    (bfV_sim hF.big.ct (hc _) (hs _) hu hv)

end Spq.Fft.RelN

namespace Spq.FftErr
open Finset Spq.Fft Spq.Fft.Alg Spq.Fft.SimP Spq.Fft.LevelN Spq.Fft.SchedN Spq.Fft.SchedC
variable {K : Type} [Field K] [LinearOrder K] [IsStrictOrderedRing K]

structure CInvErrOK (F : CFlav K) (τ η : K) : Prop where
  ctTop : ∀ wh w : Cplx K, nsq w = 1 → nsq (wh - w) ≤ τ ^ 2 → IBfErrAt (fun a b => bfC F.ctTop a b wh) w η
  ctOdd : ∀ wh w : Cplx K, nsq w = 1 → nsq (wh - w) ≤ τ ^ 2 → IBfErrAt (fun a b => bfC F.ctOdd a b wh) w η
  last : ∀ wh w : Cplx K, nsq w = 1 → nsq (wh - w) ≤ τ ^ 2 → IBfErrAt (fun a b => lastC F.last a b wh wh) w η
  big : InvErrOK F.big τ η

theorem cinvRef_errOK (A : Arith K) (u τ : K) (sm : FStd A u) (hτ : 0 ≤ τ) : CInvErrOK (cinvRef A) τ (eta u τ) :=
  ⟨fun wh w => ibutterfly_err_ref A u τ sm hτ wh w, fun wh w => ibutterfly_err_ref A u τ sm hτ wh w,
   fun wh w h1 h2 => ibutterfly_err_last_ref A u τ sm hτ wh wh w h1 h2, invRef_errOK A u τ sm hτ⟩

theorem cinvFmaZ_errOK (A : Arith K) (u τ : K) (sm : FStd A u) (hτ : 0 ≤ τ) :
    CInvErrOK (Spq.Fft.RelN.cinvFmaZ A) τ (eta u τ) :=
  ⟨fun wh w => ibutterfly_err_fmaZ A u τ sm hτ wh w, fun wh w => ibutterfly_err_fmaZ A u τ sm hτ wh w,
   fun wh w h1 h2 => ibutterfly_err_last_fma A u τ sm hτ wh wh w h1 h2, invFma_errOK A u τ sm hτ⟩

variable (F : CFlav K) (c s : ℕ → K) (k : ℕ) (ζi : Cplx K) (τ η : K)

theorem igCC_err (hF : CInvErrOK F τ η) (hζ : nsq ζi = 1) (hI : ζi ^ 2 ^ k = -Ic)
    (hcs : ∀ ℓ d b, ℓ + d + 1 = k → b < 2 ^ ℓ →
      nsq ((⟨c (twE ℓ d b), s (twE ℓ d b)⟩ : Cplx K) - ζi ^ twE ℓ d b) ≤ τ ^ 2)
    (ℓ d b : ℕ) (hk : ℓ + d + 1 = k) (hb : b < 2 ^ ℓ) :
    IBfErrAt (gCof (gNetCI F c s k) ℓ d b) (ζi ^ twE ℓ d b) η := by
  have hw : ∀ e, nsq (ζi ^ e) = 1 := fun e => by rw [nsq_pow, hζ, one_pow]
  have key := gNetCI_cases F c s k ℓ d b hk hb (fun g e => IBfErrAt
      (fun x y => (toC (g (x.re, x.im) (y.re, y.im)).1, toC (g (x.re, x.im) (y.re, y.im)).2)) (ζi ^ e) η)
    (fun _ => hF.last ⟨c (twE ℓ d b), s (twE ℓ d b)⟩ _ (hw _) (hcs ℓ d b hk hb))
    (hF.ctTop ⟨c (twE ℓ d b), s (twE ℓ d b)⟩ _ (hw _) (hcs ℓ d b hk hb))
    (hF.ctOdd ⟨c (twE ℓ d b), s (twE ℓ d b)⟩ _ (hw _) (hcs ℓ d b hk hb))
    (hF.big.ct ⟨c (twE ℓ d b), s (twE ℓ d b)⟩ _ (hw _) (hcs ℓ d b hk hb))
    (fun _ => by
      have := hF.big.cit ⟨c (twE ℓ d (b - 1)), s (twE ℓ d (b - 1))⟩ _ (hw _) (hcs ℓ d (b - 1) hk (by omega))
      rw [← hI, ← pow_add] at this
      exact this)
  exact key

end Spq.FftErr
