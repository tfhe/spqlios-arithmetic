/-
  C06.4 `butterfly_err`: one forward butterfly `(a, b) ↦ (a + ω·b, a − ω·b)` as the butterflies of `Spq/Fft/Core.lean`
  compute it, in an arithmetic with the standard model at unit roundoff `u`, stored twiddle `|ŵ − ω| ≤ τ`, `|ω| = 1`:
      ‖(â', b̂') − (a', b')‖₂ ≤ η·‖(a', b')‖₂,   η = (1+u)(1+ρ) − 1,  ρ = τ + (3/2)·((1+u)² − 1)·(1+τ)
  (to first order `η ≈ τ + 4u`).  Norms are squared (`FftErrNorm`).  The inverse butterflies
  `(a, b) ↦ (a + b, (a − b)·w̄)` have the same constant.
-/
import SpqProofs.Lemmas.FftErrNorm
import SpqProofs.Lemmas.Reim4Err
import Spq.Fft.Core
set_option linter.unusedSectionVars false

namespace Spq.FftErr
open Spq.Fft
variable {K : Type} [Field K] [LinearOrder K] [IsStrictOrderedRing K]

/-- the standard model for the arithmetic record of the FFT butterflies -/
structure FStd (A : Arith K) (u : K) : Prop where
  u_nonneg : 0 ≤ u
  add : ∀ a b, |A.add a b - (a + b)| ≤ u * |a + b|
  sub : ∀ a b, |A.sub a b - (a - b)| ≤ u * |a - b|
  mul : ∀ a b, |A.mul a b - a * b| ≤ u * |a * b|
  fma : ∀ a b c, |A.fma a b c - (a * b + c)| ≤ u * |a * b + c|
  fms : ∀ a b c, |A.fms a b c - (a * b - c)| ≤ u * |a * b - c|
  neg : ∀ a, A.neg a = -a

def gam (u : K) : K := (1 + u) ^ 2 - 1
/-- error of the computed `ω·b` relative to `|b|` -/
def rho (u τ : K) : K := 3 / 2 * gam u * (1 + τ) + τ
def eta (u τ : K) : K := u * (1 + rho u τ) + rho u τ

theorem gam_nonneg {u : K} (hu : 0 ≤ u) : 0 ≤ gam u :=
  sub_nonneg.2 (one_le_pow₀ (le_add_of_nonneg_right hu))
theorem rho_nonneg {u τ : K} (hu : 0 ≤ u) (hτ : 0 ≤ τ) : 0 ≤ rho u τ :=
  add_nonneg (mul_nonneg (mul_nonneg (by norm_num) (gam_nonneg hu)) (add_nonneg zero_le_one hτ)) hτ
theorem eta_nonneg {u τ : K} (hu : 0 ≤ u) (hτ : 0 ≤ τ) : 0 ≤ eta u τ :=
  add_nonneg (mul_nonneg hu (add_nonneg zero_le_one (rho_nonneg hu hτ))) (rho_nonneg hu hτ)

theorem eta_eq (u τ : K) : eta u τ = (1 + u) * (1 + rho u τ) - 1 := by unfold eta; ring

theorem fused_err (u x y P T sg : K) (hu : 0 ≤ u) (hsg : sg = 1 ∨ sg = -1)
    (hP : |P - y| ≤ u * |y|) (hT : |T - (x + sg * P)| ≤ u * |x + sg * P|) :
    |T - (x + sg * y)| ≤ gam u * (|x| + |y|) := by
  have := Reim4.combine_err u (1 + u) x P x y |x| |y| T sg hu hsg
    (by rw [sub_self, abs_zero, add_sub_cancel_left]; exact mul_nonneg hu (abs_nonneg x))
    (by rwa [add_sub_cancel_left]) le_rfl le_rfl hT
  rwa [← sq] at this

section twoTerm
variable {A : Arith K} {u : K} (sm : FStd A u) (p q r s : K)
include sm

theorem FStd.mul_sub_mul : |A.sub (A.mul p q) (A.mul r s) - (p * q - r * s)| ≤ gam u * (|p * q| + |r * s|) := by
  have := (Reim4.term_err u p q r s _ _ (A.sub (A.mul p q) (A.mul r s)) (-1) sm.u_nonneg (Or.inr rfl) (sm.mul p q)
    (sm.mul r s) (by rw [neg_one_mul, ← sub_eq_add_neg]; exact sm.sub _ _)).1
  rwa [neg_one_mul, ← sub_eq_add_neg] at this

theorem FStd.mul_add_mul : |A.add (A.mul p q) (A.mul r s) - (p * q + r * s)| ≤ gam u * (|p * q| + |r * s|) := by
  have := (Reim4.term_err u p q r s _ _ (A.add (A.mul p q) (A.mul r s)) 1 sm.u_nonneg (Or.inl rfl) (sm.mul p q)
    (sm.mul r s) (by rw [one_mul]; exact sm.add _ _)).1
  rwa [one_mul] at this

theorem FStd.fms_mul : |A.fms p q (A.mul r s) - (p * q - r * s)| ≤ gam u * (|p * q| + |r * s|) := by
  have := fused_err u (p * q) (r * s) (A.mul r s) (A.fms p q (A.mul r s)) (-1) sm.u_nonneg (Or.inr rfl) (sm.mul r s)
    (by rw [neg_one_mul, ← sub_eq_add_neg]; exact sm.fms _ _ _)
  rwa [neg_one_mul, ← sub_eq_add_neg] at this

theorem FStd.fma_mul : |A.fma p q (A.mul r s) - (p * q + r * s)| ≤ gam u * (|p * q| + |r * s|) := by
  have := fused_err u (p * q) (r * s) (A.mul r s) (A.fma p q (A.mul r s)) 1 sm.u_nonneg (Or.inl rfl) (sm.mul r s)
    (by rw [one_mul]; exact sm.fma _ _ _)
  rwa [one_mul] at this

end twoTerm

theorem sq_le_of_abs_le (g d a b : K) (h : |d| ≤ g * (|a| + |b|)) : d ^ 2 ≤ g ^ 2 * (2 * (a ^ 2 + b ^ 2)) := by
  have h1 : d ^ 2 ≤ (g * (|a| + |b|)) ^ 2 := sq_abs d ▸ pow_le_pow_left₀ (abs_nonneg _) h 2
  have h2 : (|a| + |b|) ^ 2 ≤ 2 * (a ^ 2 + b ^ 2) := by
    have e : (|a| + |b|) ^ 2 + (|a| - |b|) ^ 2 = 2 * (|a| ^ 2 + |b| ^ 2) := by ring
    rw [sq_abs, sq_abs] at e
    linarith [sq_nonneg (|a| - |b|)]
  rw [mul_pow] at h1
  exact h1.trans (mul_le_mul_of_nonneg_left h2 (sq_nonneg g))

theorem cprod_bound (g dr di x1 x2 y1 y2 : K)
    (hr : |dr| ≤ g * (|x1 * y1| + |x2 * y2|)) (hi : |di| ≤ g * (|x1 * y2| + |x2 * y1|)) :
    dr ^ 2 + di ^ 2 ≤ g ^ 2 * (2 * ((x1 ^ 2 + x2 ^ 2) * (y1 ^ 2 + y2 ^ 2))) :=
  (add_le_add (sq_le_of_abs_le g dr _ _ hr) (sq_le_of_abs_le g di _ _ hi)).trans_eq (by ring)

theorem nsq_comp_err (u : K) (x s : Cplx K) (hr : |x.re - s.re| ≤ u * |s.re|) (hi : |x.im - s.im| ≤ u * |s.im|) :
    nsq (x - s) ≤ u ^ 2 * nsq s := by
  have := nsq_le_of_comp (x - s) hr hi
  rwa [mul_pow, mul_pow, sq_abs, sq_abs, ← mul_add] at this

theorem bfly_norm (a b w : Cplx K) (hw : nsq w = 1) :
    nsq (a + w * b) + nsq (a - w * b) = 2 * nsq a + 2 * nsq b := by
  have h : nsq (w * b) = nsq b := by rw [nsq_mul, hw, one_mul]
  rw [← h]
  simp only [nsq, QuadraticAlgebra.re_add, QuadraticAlgebra.im_add, QuadraticAlgebra.re_sub, QuadraticAlgebra.im_sub]
  ring

/-- a computed complex product `n̂ ≈ z`, each component a two-term product with magnitudes `p₁..p₄`.  The components of
    `z` and the `pᵢ` are left to the caller so that every order and sign convention of the butterflies fits. -/
theorem cmul_err (g : K) (nh z : Cplx K) (zr zi p1 p2 p3 p4 M : K)
    (hr : |nh.re - zr| ≤ g * (|p1| + |p2|)) (hi : |nh.im - zi| ≤ g * (|p3| + |p4|))
    (hzr : z.re = zr) (hzi : z.im = zi) (hM : p1 ^ 2 + p2 ^ 2 + (p3 ^ 2 + p4 ^ 2) = M) :
    nsq (nh - z) ≤ g ^ 2 * (2 * M) := by
  subst hzr hzi hM
  rw [mul_add, mul_add]
  exact add_le_add (sq_le_of_abs_le g _ _ _ hr) (sq_le_of_abs_le g _ _ _ hi)

/-- `hn` is `cmul_err` at `g = γ₂`; the `3/2` of `rho` is `√2` rounded up -/
theorem prod_err (u τ : K) (hu : 0 ≤ u) (hτ : 0 ≤ τ) (b wh w : Cplx K) (hw : nsq w = 1) (hτw : nsq (wh - w) ≤ τ ^ 2)
    (nh : Cplx K) (hn : nsq (nh - wh * b) ≤ gam u ^ 2 * (2 * (nsq wh * nsq b))) :
    nsq (nh - w * b) ≤ rho u τ ^ 2 * nsq b := by
  have hS : 0 ≤ gam u ^ 2 * nsq (wh * b) := mul_nonneg (sq_nonneg _) (nsq_nonneg _)
  exact one_round (w * b) (wh * b) nh τ (3 / 2 * gam u) (nsq b) hτ (mul_nonneg (by norm_num) (gam_nonneg hu))
    (by rw [nsq_mul, hw, one_mul]) (by rw [← sub_mul, nsq_mul]; exact mul_le_mul_of_nonneg_right hτw (nsq_nonneg b))
    (by rw [← nsq_mul] at hn
        rw [show (3 / 2 * gam u) ^ 2 * nsq (wh * b) = gam u ^ 2 * (2 * nsq (wh * b)) + 1 / 4 * (gam u ^ 2 * nsq (wh * b))
          by ring]
        linarith)

/-- two computed products `n̂₁ ≈ ω·b`, `n̂₂ ≈ −ω·b` (one product and its negation, or two products with the table
    entries `ω̂`, `ω̂' ≈ −ω`), each added to `a` with one rounding per component -/
theorem bfly_core (u τ : K) (hu : 0 ≤ u) (hτ : 0 ≤ τ) (a b w : Cplx K) (hw : nsq w = 1) (n1 n2 o1 o2 : Cplx K)
    (h1 : nsq (n1 - w * b) ≤ rho u τ ^ 2 * nsq b) (h2 : nsq (n2 + w * b) ≤ rho u τ ^ 2 * nsq b)
    (e1 : nsq (o1 - (a + n1)) ≤ u ^ 2 * nsq (a + n1)) (e2 : nsq (o2 - (a + n2)) ≤ u ^ 2 * nsq (a + n2)) :
    nsq (o1 - (a + w * b)) + nsq (o2 - (a - w * b)) ≤ eta u τ ^ 2 * (nsq (a + w * b) + nsq (a - w * b)) := by
  refine pair_round (a + w * b) (a - w * b) (a + n1) (a + n2) o1 o2 (rho u τ) u _ (rho_nonneg hu hτ) hu le_rfl ?_
    (by rw [mul_add]; exact add_le_add e1 e2)
  rw [add_sub_add_left_eq_sub, show a + n2 - (a - w * b) = n2 + w * b by ring, bfly_norm a b w hw]
  have := mul_nonneg (sq_nonneg (rho u τ)) (nsq_nonneg a)
  linarith

/-- a butterfly of the model acting on complex numbers (real/imaginary parts passed separately, as in the code) -/
def bfC (f : Bf K) (a b w : Cplx K) : Cplx K × Cplx K :=
  (⟨(f a.re a.im b.re b.im w.re w.im).1, (f a.re a.im b.re b.im w.re w.im).2.1⟩,
   ⟨(f a.re a.im b.re b.im w.re w.im).2.2.1, (f a.re a.im b.re b.im w.re w.im).2.2.2⟩)

/-- `g` computes the butterfly `(a, b) ↦ (a + ω·b, a − ω·b)` with 2-norm relative error `η`:
    `‖g(a,b) − (a', b')‖² ≤ η²·‖(a', b')‖²` -/
def BfErrAt (g : Cplx K → Cplx K → Cplx K × Cplx K) (w : Cplx K) (η : K) : Prop :=
  ∀ a b, nsq ((g a b).1 - (a + w * b)) + nsq ((g a b).2 - (a - w * b)) ≤
    η ^ 2 * (nsq (a + w * b) + nsq (a - w * b))

section flavours
variable {A : Arith K} {u τ : K} (sm : FStd A u)
include sm

theorem FStd.cadd (x y : Cplx K) :
    nsq ((⟨A.add x.re y.re, A.add x.im y.im⟩ : Cplx K) - (x + y)) ≤ u ^ 2 * nsq (x + y) :=
  nsq_comp_err u _ _ (sm.add _ _) (sm.add _ _)

theorem FStd.csub (x y : Cplx K) :
    nsq ((⟨A.sub x.re y.re, A.sub x.im y.im⟩ : Cplx K) - (x - y)) ≤ u ^ 2 * nsq (x - y) :=
  nsq_comp_err u _ _ (sm.sub _ _) (sm.sub _ _)

/-- the product `ŵ·b` as computed by `ctRef` / `ictRef`: mul, mul, sub / add -/
theorem FStd.cmul_ref (b wh : Cplx K) :
    nsq ((⟨A.sub (A.mul b.re wh.re) (A.mul b.im wh.im), A.add (A.mul b.re wh.im) (A.mul b.im wh.re)⟩ : Cplx K) - wh * b)
      ≤ gam u ^ 2 * (2 * (nsq wh * nsq b)) :=
  cmul_err _ _ (wh * b) _ _ _ _ _ _ _ (sm.mul_sub_mul b.re wh.re b.im wh.im) (sm.mul_add_mul b.re wh.im b.im wh.re)
    (by simp only [QuadraticAlgebra.re_mul]; ring) (by simp only [QuadraticAlgebra.im_mul]; ring)
    (by simp only [nsq]; ring)

/-- the product `ŵ·b` as computed by `ctFma` / `ictFma` / `lastFma`: one product rounded, the other fused -/
theorem FStd.cmul_fma (b wh : Cplx K) :
    nsq ((⟨A.fms b.re wh.re (A.mul b.im wh.im), A.fma b.im wh.re (A.mul b.re wh.im)⟩ : Cplx K) - wh * b)
      ≤ gam u ^ 2 * (2 * (nsq wh * nsq b)) :=
  cmul_err _ _ (wh * b) _ _ _ _ _ _ _ (sm.fms_mul b.re wh.re b.im wh.im) (sm.fma_mul b.im wh.re b.re wh.im)
    (by simp only [QuadraticAlgebra.re_mul]; ring) (by simp only [QuadraticAlgebra.im_mul]; ring)
    (by simp only [nsq]; ring)

/-- the product `(i·ŵ)·b` as computed by `citRef` -/
theorem FStd.cmul_cit_ref (b wh : Cplx K) :
    nsq ((⟨A.sub (A.mul (-b.re) wh.im) (A.mul b.im wh.re), A.sub (A.mul b.re wh.re) (A.mul b.im wh.im)⟩ : Cplx K)
        - (⟨-wh.im, wh.re⟩ : Cplx K) * b) ≤ gam u ^ 2 * (2 * (nsq (⟨-wh.im, wh.re⟩ : Cplx K) * nsq b)) :=
  cmul_err _ _ ((⟨-wh.im, wh.re⟩ : Cplx K) * b) _ _ _ _ _ _ _ (sm.mul_sub_mul (-b.re) wh.im b.im wh.re)
    (sm.mul_sub_mul b.re wh.re b.im wh.im) (by simp only [QuadraticAlgebra.re_mul]; ring)
    (by simp only [QuadraticAlgebra.im_mul]; ring) (by simp only [nsq]; ring)

/-- the product `(−i·ŵ)·b` as computed by `citFmaB` (there subtracted from / added to `a`) and `icitFmaB` -/
theorem FStd.cmul_fmaB (b wh : Cplx K) :
    nsq ((⟨A.fma wh.im b.re (A.mul wh.re b.im), A.fms wh.im b.im (A.mul wh.re b.re)⟩ : Cplx K)
        - (⟨wh.im, -wh.re⟩ : Cplx K) * b) ≤ gam u ^ 2 * (2 * (nsq (⟨wh.im, -wh.re⟩ : Cplx K) * nsq b)) :=
  cmul_err _ _ ((⟨wh.im, -wh.re⟩ : Cplx K) * b) _ _ _ _ _ _ _ (sm.fma_mul wh.im b.re wh.re b.im)
    (sm.fms_mul wh.im b.im wh.re b.re) (by simp only [QuadraticAlgebra.re_mul]; ring)
    (by simp only [QuadraticAlgebra.im_mul]; ring) (by simp only [nsq]; ring)

theorem bfly_add_sub (hτ : 0 ≤ τ) (a b wh w nh : Cplx K) (hw : nsq w = 1) (hτw : nsq (wh - w) ≤ τ ^ 2)
    (hn : nsq (nh - wh * b) ≤ gam u ^ 2 * (2 * (nsq wh * nsq b))) :
    nsq ((⟨A.add a.re nh.re, A.add a.im nh.im⟩ : Cplx K) - (a + w * b)) +
        nsq ((⟨A.sub a.re nh.re, A.sub a.im nh.im⟩ : Cplx K) - (a - w * b)) ≤
      eta u τ ^ 2 * (nsq (a + w * b) + nsq (a - w * b)) := by
  have h1 := prod_err u τ sm.u_nonneg hτ b wh w hw hτw nh hn
  refine bfly_core u τ sm.u_nonneg hτ a b w hw nh (-nh) _ _ h1 ?_ (sm.cadd a nh) ?_
  · rwa [neg_add_eq_sub, nsq_sub_comm]
  · rw [← sub_eq_add_neg]; exact sm.csub a nh

end flavours

/-- `butterfly_err`, reference flavour (`reim_ctwiddle`, cplx `ctwiddle`: mul, mul, sub / add, then add / sub) -/
theorem butterfly_err_ref (A : Arith K) (u τ : K) (sm : FStd A u) (hτ : 0 ≤ τ) (wh w : Cplx K)
    (hw : nsq w = 1) (hτw : nsq (wh - w) ≤ τ ^ 2) :
    BfErrAt (fun a b => bfC (ctRef A) a b wh) w (eta u τ) := fun a b =>
  bfly_add_sub sm hτ a b wh w
    ⟨A.sub (A.mul b.re wh.re) (A.mul b.im wh.im), A.add (A.mul b.re wh.im) (A.mul b.im wh.re)⟩ hw hτw (sm.cmul_ref b wh)

/-- `butterfly_err`, FMA flavour (`vmulpd` + `vfmsub231pd` / `vfmadd231pd`, then add / sub) -/
theorem butterfly_err_fma (A : Arith K) (u τ : K) (sm : FStd A u) (hτ : 0 ≤ τ) (wh w : Cplx K)
    (hw : nsq w = 1) (hτw : nsq (wh - w) ≤ τ ^ 2) :
    BfErrAt (fun a b => bfC (ctFma A) a b wh) w (eta u τ) := fun a b =>
  bfly_add_sub sm hτ a b wh w ⟨A.fms b.re wh.re (A.mul b.im wh.im), A.fma b.im wh.re (A.mul b.re wh.im)⟩ hw hτw
    (sm.cmul_fma b wh)

def Ic : Cplx K := ⟨0, 1⟩

theorem Ic_mul (z : Cplx K) : Ic * z = ⟨-z.im, z.re⟩ := by
  ext <;> simp [Ic, QuadraticAlgebra.re_mul, QuadraticAlgebra.im_mul]

theorem nsq_Ic_mul (z : Cplx K) : nsq (Ic * z) = nsq z := by
  rw [Ic_mul]; simp only [nsq]; ring

theorem rot_tw {wh w : Cplx K} {τ : K} (hτw : nsq (wh - w) ≤ τ ^ 2) :
    nsq ((⟨-wh.im, wh.re⟩ : Cplx K) - Ic * w) ≤ τ ^ 2 := by
  rw [← Ic_mul, ← mul_sub, nsq_Ic_mul]; exact hτw

theorem negIc_mul (z : Cplx K) : -Ic * z = ⟨z.im, -z.re⟩ := by
  rw [neg_mul, Ic_mul]; ext <;> simp

theorem nsq_negIc_mul (z : Cplx K) : nsq (-Ic * z) = nsq z := by
  rw [neg_mul, nsq_neg, nsq_Ic_mul]

theorem irot_tw {wh w : Cplx K} {τ : K} (hτw : nsq (wh - w) ≤ τ ^ 2) :
    nsq ((⟨wh.im, -wh.re⟩ : Cplx K) - -Ic * w) ≤ τ ^ 2 := by
  rw [← negIc_mul, ← mul_sub, nsq_negIc_mul]; exact hτw

/-- `reim_citwiddle` / cplx `citwiddle`, reference flavour -/
theorem butterfly_err_cit_ref (A : Arith K) (u τ : K) (sm : FStd A u) (hτ : 0 ≤ τ) (wh w : Cplx K)
    (hw : nsq w = 1) (hτw : nsq (wh - w) ≤ τ ^ 2) :
    BfErrAt (fun a b => bfC (citRef A) a b wh) (Ic * w) (eta u τ) := by
  intro a b
  simp only [bfC, citRef, sm.neg]
  exact bfly_add_sub sm hτ a b ⟨-wh.im, wh.re⟩ (Ic * w)
    ⟨A.sub (A.mul (-b.re) wh.im) (A.mul b.im wh.re), A.sub (A.mul b.re wh.re) (A.mul b.im wh.im)⟩
    (by rw [nsq_Ic_mul]; exact hw) (rot_tw hτw) (sm.cmul_cit_ref b wh)

/-- FMA `i·ω` butterfly, shape N (4/8-point kernels): `ctFma` with the twiddle `(-ωi, ωr)` -/
theorem butterfly_err_cit_fmaN (A : Arith K) (u τ : K) (sm : FStd A u) (hτ : 0 ≤ τ) (wh w : Cplx K)
    (hw : nsq w = 1) (hτw : nsq (wh - w) ≤ τ ^ 2) :
    BfErrAt (fun a b => bfC (citFmaN A) a b wh) (Ic * w) (eta u τ) := by
  intro a b
  have := butterfly_err_fma A u τ sm hτ ⟨-wh.im, wh.re⟩ (Ic * w) (by rw [nsq_Ic_mul]; exact hw) (rot_tw hτw) a b
  simp only [bfC, citFmaN, sm.neg] at this ⊢
  exact this

theorem BfErrAt.swap {g : Cplx K → Cplx K → Cplx K × Cplx K} {w w' : Cplx K} {η : K} (h : BfErrAt g w' η)
    (e : w' = -w) : BfErrAt (fun a b => ((g a b).2, (g a b).1)) w η := by
  subst e
  intro a b
  have e1 : a + -w * b = a - w * b := by rw [neg_mul, sub_eq_add_neg]
  have e2 : a - -w * b = a + w * b := by rw [neg_mul, sub_neg_eq_add]
  have key := h a b
  rw [e1, e2] at key
  rw [add_comm, add_comm (nsq (a + w * b))]
  exact key

/-- FMA `i·ω` butterfly, shape B (bitwiddle passes of `reim_fft_avx2.c` and the assembly leaves):
    `t = ωi·rb + fl(ωr·ib)`, then `ra ∓ t`: `t ≈ −(i·ω̂)·b` is subtracted from / added to `a`, which is the add/sub shape
    at the twiddle `−i·w` with the outputs swapped.  `g` and `w'` are given: left to unification they cost a hundred
    times as much to elaborate. -/
theorem butterfly_err_cit_fmaB (A : Arith K) (u τ : K) (sm : FStd A u) (hτ : 0 ≤ τ) (wh w : Cplx K)
    (hw : nsq w = 1) (hτw : nsq (wh - w) ≤ τ ^ 2) :
    BfErrAt (fun a b => bfC (citFmaB A) a b wh) (Ic * w) (eta u τ) :=
  BfErrAt.swap (g := fun a b => ((bfC (citFmaB A) a b wh).2, (bfC (citFmaB A) a b wh).1)) (w' := -Ic * w)
    (fun a b => bfly_add_sub sm hτ a b ⟨wh.im, -wh.re⟩ (-Ic * w)
      ⟨A.fma wh.im b.re (A.mul wh.re b.im), A.fms wh.im b.im (A.mul wh.re b.re)⟩
      (by rw [nsq_negIc_mul]; exact hw) (irot_tw hτw) (sm.cmul_fmaB b wh)) (neg_mul _ _)

/-- `g` computes the inverse butterfly `(a, b) ↦ (a + b, w·(a − b))` with 2-norm relative error `η` -/
def IBfErrAt (g : Cplx K → Cplx K → Cplx K × Cplx K) (w : Cplx K) (η : K) : Prop :=
  ∀ a b, nsq ((g a b).1 - (a + b)) + nsq ((g a b).2 - w * (a - b)) ≤ η ^ 2 * (nsq (a + b) + nsq (w * (a - b)))

theorem ibfly_core (u τ : K) (hu : 0 ≤ u) (hτ : 0 ≤ τ) (a b w : Cplx K) (hw : nsq w = 1) (o1 d nh : Cplx K)
    (e1 : nsq (o1 - (a + b)) ≤ u ^ 2 * nsq (a + b)) (ed : nsq (d - (a - b)) ≤ u ^ 2 * nsq (a - b))
    (hn : nsq (nh - w * d) ≤ rho u τ ^ 2 * nsq d) :
    nsq (o1 - (a + b)) + nsq (nh - w * (a - b)) ≤ eta u τ ^ 2 * (nsq (a + b) + nsq (w * (a - b))) := by
  have hρ := rho_nonneg hu hτ
  have hwm : ∀ z, nsq (w * z) = nsq z := fun z => by rw [nsq_mul, hw, one_mul]
  have h2 := one_round (w * (a - b)) (w * d) nh u (rho u τ) _ hu hρ le_rfl
    (by rw [← mul_sub, hwm, hwm]; exact ed) (by rw [hwm]; exact hn)
  rw [show rho u τ * (1 + u) + u = eta u τ by unfold eta; ring] at h2
  have hue : u ^ 2 ≤ eta u τ ^ 2 :=
    pow_le_pow_left₀ hu (le_add_of_le_of_nonneg (le_mul_of_one_le_right hu (le_add_of_nonneg_right hρ)) hρ) 2
  rw [mul_add]
  exact add_le_add (e1.trans (mul_le_mul_of_nonneg_right hue (nsq_nonneg _))) h2

theorem ibfly_of_cmul {A : Arith K} {u τ : K} (sm : FStd A u) (hτ : 0 ≤ τ) (a b wh w nh : Cplx K) (hw : nsq w = 1)
    (hτw : nsq (wh - w) ≤ τ ^ 2)
    (hn : nsq (nh - wh * (⟨A.sub a.re b.re, A.sub a.im b.im⟩ : Cplx K)) ≤
      gam u ^ 2 * (2 * (nsq wh * nsq (⟨A.sub a.re b.re, A.sub a.im b.im⟩ : Cplx K)))) :
    nsq ((⟨A.add a.re b.re, A.add a.im b.im⟩ : Cplx K) - (a + b)) + nsq (nh - w * (a - b)) ≤
      eta u τ ^ 2 * (nsq (a + b) + nsq (w * (a - b))) :=
  ibfly_core u τ sm.u_nonneg hτ a b w hw _ _ nh (sm.cadd a b) (sm.csub a b)
    (prod_err u τ sm.u_nonneg hτ _ wh w hw hτw nh hn)

/-- `reim_invctwiddle` / cplx `invctwiddle`, reference flavour -/
theorem ibutterfly_err_ref (A : Arith K) (u τ : K) (sm : FStd A u) (hτ : 0 ≤ τ) (wh w : Cplx K)
    (hw : nsq w = 1) (hτw : nsq (wh - w) ≤ τ ^ 2) :
    IBfErrAt (fun a b => bfC (ictRef A) a b wh) w (eta u τ) := fun a b =>
  ibfly_of_cmul sm hτ a b wh w _ hw hτw (sm.cmul_ref ⟨A.sub a.re b.re, A.sub a.im b.im⟩ wh)

theorem ibutterfly_err_fma (A : Arith K) (u τ : K) (sm : FStd A u) (hτ : 0 ≤ τ) (wh w : Cplx K)
    (hw : nsq w = 1) (hτw : nsq (wh - w) ≤ τ ^ 2) :
    IBfErrAt (fun a b => bfC (ictFma A) a b wh) w (eta u τ) := fun a b =>
  ibfly_of_cmul sm hτ a b wh w _ hw hτw (sm.cmul_fma ⟨A.sub a.re b.re, A.sub a.im b.im⟩ wh)

/-- 4/8-point inverse kernels: `ictFma` with the twiddle `(ωi, −ωr)` -/
theorem ibutterfly_err_cit_fmaN (A : Arith K) (u τ : K) (sm : FStd A u) (hτ : 0 ≤ τ) (wh w : Cplx K)
    (hw : nsq w = 1) (hτw : nsq (wh - w) ≤ τ ^ 2) :
    IBfErrAt (fun a b => bfC (icitFmaN A) a b wh) (-Ic * w) (eta u τ) := by
  intro a b
  have := ibutterfly_err_fma A u τ sm hτ ⟨wh.im, -wh.re⟩ (-Ic * w) (by rw [nsq_negIc_mul]; exact hw) (irot_tw hτw) a b
  simp only [bfC, icitFmaN, sm.neg] at this ⊢
  exact this

/-- the product `(−i·ŵ)·d` as computed by `icitRef` -/
theorem FStd.cmul_icit_ref {A : Arith K} {u : K} (sm : FStd A u) (d wh : Cplx K) :
    nsq ((⟨A.add (A.mul d.re wh.im) (A.mul d.im wh.re), A.add (A.mul (-d.re) wh.re) (A.mul d.im wh.im)⟩ : Cplx K)
        - (⟨wh.im, -wh.re⟩ : Cplx K) * d) ≤ gam u ^ 2 * (2 * (nsq (⟨wh.im, -wh.re⟩ : Cplx K) * nsq d)) :=
  cmul_err _ _ ((⟨wh.im, -wh.re⟩ : Cplx K) * d) _ _ _ _ _ _ _ (sm.mul_add_mul d.re wh.im d.im wh.re)
    (sm.mul_add_mul (-d.re) wh.re d.im wh.im) (by simp only [QuadraticAlgebra.re_mul]; ring)
    (by simp only [QuadraticAlgebra.im_mul]; ring) (by simp only [nsq]; ring)

/-- `reim_invcitwiddle`, reference flavour -/
theorem ibutterfly_err_cit_ref (A : Arith K) (u τ : K) (sm : FStd A u) (hτ : 0 ≤ τ) (wh w : Cplx K)
    (hw : nsq w = 1) (hτw : nsq (wh - w) ≤ τ ^ 2) :
    IBfErrAt (fun a b => bfC (icitRef A) a b wh) (-Ic * w) (eta u τ) := by
  intro a b
  simp only [bfC, icitRef, sm.neg]
  exact ibfly_of_cmul sm hτ a b ⟨wh.im, -wh.re⟩ (-Ic * w) _ (by rw [nsq_negIc_mul]; exact hw) (irot_tw hτw)
    (sm.cmul_icit_ref ⟨A.sub a.re b.re, A.sub a.im b.im⟩ wh)

/-- FMA shape B (`reim_invbitwiddle_ifft_avx2_fma`, assembly leaves): `fma(ωi, rd, fl(ωr·id))`, `fms(ωi, id, fl(ωr·rd))` -/
theorem ibutterfly_err_cit_fmaB (A : Arith K) (u τ : K) (sm : FStd A u) (hτ : 0 ≤ τ) (wh w : Cplx K)
    (hw : nsq w = 1) (hτw : nsq (wh - w) ≤ τ ^ 2) :
    IBfErrAt (fun a b => bfC (icitFmaB A) a b wh) (-Ic * w) (eta u τ) := fun a b =>
  ibfly_of_cmul sm hτ a b ⟨wh.im, -wh.re⟩ (-Ic * w) _ (by rw [nsq_negIc_mul]; exact hw) (irot_tw hτw)
    (sm.cmul_fmaB ⟨A.sub a.re b.re, A.sub a.im b.im⟩ wh)

end Spq.FftErr
