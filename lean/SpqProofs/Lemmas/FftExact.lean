/-
  C06, exact arithmetic: over a commutative ring with `I² = −1` and the exact twiddles in the table, the four drivers
  compute the radix-2 network `V` (forward) resp. undo it (inverse).  The structural theorems (`fftRI_struct`, …) say,
  for any value type, that a driver is the level network `VN` / `VNI` of its per-block butterflies on (re, im) pairs;
  here the pair `u` is read as `u.1 + I·u.2`, every butterfly of an exact implementation is `(u, v) ↦ (u ± W·v)`
  resp. `(u + v, (u − v)·W⁻¹)` with `W` the twiddle of its block, and the relation is carried through the network
  (`VN_V`, `VNI_V` of `FftSchedLevel.lean`).
-/
import SpqProofs.Lemmas.FftSchedCInvTop
import SpqProofs.Lemmas.FftKern
import SpqProofs.Lemmas.FftTable
namespace Spq.Fft.Exact
open Spq.Fft Spq.Fft.Alg Spq.Fft.Level Spq.Fft.Sim Spq.Fft.SimP Spq.Fft.LevelN Spq.Fft.SchedN Spq.Fft.SchedC
open Spq.Fft.Tab Spq.Fft.Tw Spq.Fft.Kern Spq.Fft.CplxFwd Spq.Fft.CplxInv

/-! The exact tables are built with `val`, which stores `cos`, `sin`, `−sin`, `−cos` under the kinds 0 … 3. -/

section tables
variable {R : Type} [CommRing R] (c s : ℕ → R)

theorem val_eq_valQ : val c s = valQ c s (fun e => -s e) (fun e => -c e) := rfl

variable [Inhabited R]

theorem val_fwd (F : Flav R) (k : ℕ) : ReimFrom F c s k (gNet F c s k) (val c s) 0 :=
  ⟨fun _ _ _ _ => rfl, fun _ => rfl, fun _ => rfl⟩

theorem val_inv : InvTab (val c s) c fun e => -s e := ⟨fun _ => rfl, fun _ => rfl⟩

end tables

section realise
variable {R : Type} [CommRing R]

def cx (I : R) (u : R × R) : R := u.1 + I * u.2

theorem cx_bfV {I : R} {f : Bf R} {wr wi : R} {φ ψ : R → R → R} (hf : Realises I f wr wi φ ψ) (u v : R × R) :
    cx I (bfV f wr wi u v).1 = φ (cx I u) (cx I v) ∧ cx I (bfV f wr wi u v).2 = ψ (cx I u) (cx I v) :=
  hf u.1 u.2 v.1 v.2

variable (X : Ctx R) (Y : ICtx R)

theorem fwd_real {f : Bf R} {W : R → R} {e : ℕ}
    (hf : Realises X.I f (X.c e) (X.s e) (fφ (W (X.c e + X.I * X.s e))) (fψ (W (X.c e + X.I * X.s e)))) (u v : R × R) :
    cx X.I (bfV f (X.c e) (X.s e) u v).1 = cx X.I u + W (X.ζ ^ e) * cx X.I v ∧
    cx X.I (bfV f (X.c e) (X.s e) u v).2 = cx X.I u - W (X.ζ ^ e) * cx X.I v := by
  rw [X.hcs] at hf
  exact cx_bfV hf u v

theorem inv_real {f : Bf R} {W : R → R} {e : ℕ}
    (hf : Realises Y.I f (Y.c e) (-Y.s e) iφ (iψ (W (Y.c e + Y.I * -Y.s e)))) (u v : R × R) :
    cx Y.I (bfV f (Y.c e) (-Y.s e) u v).1 = cx Y.I u + cx Y.I v ∧
    cx Y.I (bfV f (Y.c e) (-Y.s e) u v).2 = (cx Y.I u - cx Y.I v) * W (Y.ζi ^ e) := by
  rw [show Y.c e + Y.I * -Y.s e = Y.ζi ^ e by rw [← Y.hcsi]; ring] at hf
  exact cx_bfV hf u v

theorem gNet_real {F : Flav R} (hF : FwdOK X.I F) (ℓ d b : ℕ) (hk : ℓ + d + 1 = X.k) (hb : b < 2 ^ ℓ) (u v : R × R) :
    cx X.I (gNet F X.c X.s X.k ℓ d b u v).1 = cx X.I u + X.ζ ^ twE ℓ d b * cx X.I v ∧
    cx X.I (gNet F X.c X.s X.k ℓ d b u v).2 = cx X.I u - X.ζ ^ twE ℓ d b * cx X.I v := by
  have hct : ∀ wr wi, Realises X.I (ctK F X.k) wr wi (fφ (wr + X.I * wi)) (fψ (wr + X.I * wi)) := by
    unfold ctK; split_ifs <;> [exact hF.ct2; exact hF.ctS; exact hF.ct]
  have hcit : ∀ wr wi, Realises X.I (citK F X.k) wr wi (fφ (X.I * (wr + X.I * wi))) (fψ (X.I * (wr + X.I * wi))) := by
    unfold citK; split <;> [exact hF.citS; exact hF.cit]
  have key := gNet_cases F X.c X.s X.k ℓ d b hk hb
    (fun g e => ∀ u v, cx X.I (g u v).1 = cx X.I u + X.ζ ^ e * cx X.I v ∧ cx X.I (g u v).2 = cx X.I u - X.ζ ^ e * cx X.I v)
    (fwd_real X (W := id) (hct _ _))
    (fun _ => by rw [pow_add, X.hI]; exact fwd_real X (W := (X.I * ·)) (hcit _ _))
  exact key u v

theorem gNetC_real {F : CFlav R} (hF : CFwdOK X.I F) (ℓ d b : ℕ) (hk : ℓ + d + 1 = X.k) (hb : b < 2 ^ ℓ)
    (u v : R × R) :
    cx X.I (gNetC F X.c X.s (fun e => -X.s e) (fun e => -X.c e) X.k ℓ d b u v).1
      = cx X.I u + X.ζ ^ twE ℓ d b * cx X.I v ∧
    cx X.I (gNetC F X.c X.s (fun e => -X.s e) (fun e => -X.c e) X.k ℓ d b u v).2
      = cx X.I u - X.ζ ^ twE ℓ d b * cx X.I v := by
  have key := gNetC_cases F X.c X.s (fun e => -X.s e) (fun e => -X.c e) X.k ℓ d b
    (fun g => ∀ u v, cx X.I (g u v).1 = cx X.I u + X.ζ ^ twE ℓ d b * cx X.I v ∧
      cx X.I (g u v).2 = cx X.I u - X.ζ ^ twE ℓ d b * cx X.I v)
    (fun _ => fwd_real X (W := id) (hF.last _ _)) (fwd_real X (W := id) (hF.ctTop _ _))
    (fwd_real X (W := id) (hF.ctOdd _ _)) (gNet_real X hF.big ℓ d b hk hb)
  exact key u v

theorem gNetI_real {F : Flav R} (hF : InvOK Y.I F) (ℓ d b : ℕ) (hk : ℓ + d + 1 = Y.k) (hb : b < 2 ^ ℓ) :
    ∃ W', Y.ζ ^ twE ℓ d b * W' = 1 ∧ ∀ u v,
      cx Y.I (gNet F Y.c (fun e => -Y.s e) Y.k ℓ d b u v).1 = cx Y.I u + cx Y.I v ∧
      cx Y.I (gNet F Y.c (fun e => -Y.s e) Y.k ℓ d b u v).2 = (cx Y.I u - cx Y.I v) * W' := by
  have hct : ∀ wr wi, Realises Y.I (ctK F Y.k) wr wi iφ (iψ (wr + Y.I * wi)) := by
    unfold ctK; split_ifs <;> [exact hF.ct2; exact hF.ctS; exact hF.ct]
  have hcit : ∀ wr wi, Realises Y.I (citK F Y.k) wr wi iφ (iψ (-Y.I * (wr + Y.I * wi))) := by
    unfold citK; split <;> [exact hF.citS; exact hF.cit]
  have key := gNet_cases F Y.c (fun e => -Y.s e) Y.k ℓ d b hk hb
    (fun g e => ∃ W', Y.ζ ^ e * W' = 1 ∧ ∀ u v,
      cx Y.I (g u v).1 = cx Y.I u + cx Y.I v ∧ cx Y.I (g u v).2 = (cx Y.I u - cx Y.I v) * W')
    ⟨_, Kern.inv_pow Y _, inv_real Y (W := id) (hct _ _)⟩
    (fun _ => ⟨_, Kern.inv_shift Y _, inv_real Y (W := (-Y.I * ·)) (hcit _ _)⟩)
  exact key

theorem gNetCI_real {F : CFlav R} (hF : CInvOK Y.I F) (ℓ d b : ℕ) (hk : ℓ + d + 1 = Y.k) (hb : b < 2 ^ ℓ) :
    ∃ W', Y.ζ ^ twE ℓ d b * W' = 1 ∧ ∀ u v,
      cx Y.I (gNetCI F Y.c (fun e => -Y.s e) Y.k ℓ d b u v).1 = cx Y.I u + cx Y.I v ∧
      cx Y.I (gNetCI F Y.c (fun e => -Y.s e) Y.k ℓ d b u v).2 = (cx Y.I u - cx Y.I v) * W' := by
  have key := gNetCI_cases F Y.c (fun e => -Y.s e) Y.k ℓ d b hk hb
    (fun g e => ∃ W', Y.ζ ^ e * W' = 1 ∧ ∀ u v,
      cx Y.I (g u v).1 = cx Y.I u + cx Y.I v ∧ cx Y.I (g u v).2 = (cx Y.I u - cx Y.I v) * W')
    (fun _ => ⟨_, Kern.inv_pow Y _, inv_real Y (W := id) (hF.last _ _ _ _)⟩)
    ⟨_, Kern.inv_pow Y _, inv_real Y (W := id) (hF.ctTop _ _)⟩
    ⟨_, Kern.inv_pow Y _, inv_real Y (W := id) (hF.ctOdd _ _)⟩
    ⟨_, Kern.inv_pow Y _, inv_real Y (W := id) (hF.big.ct _ _)⟩
    (fun _ => ⟨_, Kern.inv_shift Y _, inv_real Y (W := (-Y.I * ·)) (hF.big.cit _ _)⟩)
  exact key

end realise

section drivers
variable {R : Type} [CommRing R]

variable [Inhabited R] (X : Ctx R) (Y : ICtx R)

theorem fftRI_adv {F : Flav R} (hF : FwdOK X.I F) (s : RI R) (hs : Valid (2 ^ X.k) s) :
    ((∀ p, p < 2 ^ X.k → cxs X.I s p = X.a p) → ∀ p, p < 2 ^ X.k →
      cxs X.I (fftRI F (2 ^ X.k) ((reimFftEnts (2 ^ X.k)).map (val X.c X.s)).toArray s) p = V X.ζ X.a X.k 0 p) ∧
    Valid (2 ^ X.k) (fftRI F (2 ^ X.k) ((reimFftEnts (2 ^ X.k)).map (val X.c X.s)).toArray s) := by
  obtain ⟨st, vo⟩ := fftRI_structV F X.c X.s X.k (val_fwd X.c X.s F X.k) s hs
  refine ⟨fun hx p hp => ?_, vo⟩
  show cx X.I (prs _ p) = _
  rw [st p hp]
  exact VN_V (cx X.I) _ X.k X.ζ (gNet_real X hF) (prs s) X.a hx X.k 0 p rfl hp

theorem cfftRI_adv {F : CFlav R} (hF : CFwdOK X.I F) (s : RI R) (hs : Valid (2 ^ X.k) s) :
    ((∀ p, p < 2 ^ X.k → cxs X.I s p = X.a p) → ∀ p, p < 2 ^ X.k →
      cxs X.I (cfftRI F (2 ^ X.k) ((cplxFftEnts (2 ^ X.k)).map (val X.c X.s)).toArray s) p = V X.ζ X.a X.k 0 p) ∧
    Valid (2 ^ X.k) (cfftRI F (2 ^ X.k) ((cplxFftEnts (2 ^ X.k)).map (val X.c X.s)).toArray s) := by
  rw [val_eq_valQ]
  obtain ⟨st, vo⟩ := cfftRI_struct F X.c X.s (fun e => -X.s e) (fun e => -X.c e) X.k s hs
  refine ⟨fun hx p hp => ?_, vo⟩
  show cx X.I (prs _ p) = _
  rw [st p hp]
  exact VN_V (cx X.I) _ X.k X.ζ (gNetC_real X hF) (prs s) X.a hx X.k 0 p rfl hp

theorem ifftRI_adv {F : Flav R} (hF : InvOK Y.I F) (s : RI R) (hs : Valid (2 ^ Y.k) s) :
    ((∀ q, q < 2 ^ Y.k → cxs Y.I s q = V Y.ζ Y.a Y.k 0 q) → ∀ p, p < 2 ^ Y.k →
      cxs Y.I (ifftRI F (2 ^ Y.k) ((reimIfftEnts (2 ^ Y.k)).map (val Y.c Y.s)).toArray s) p = 2 ^ Y.k * Y.a p) ∧
    Valid (2 ^ Y.k) (ifftRI F (2 ^ Y.k) ((reimIfftEnts (2 ^ Y.k)).map (val Y.c Y.s)).toArray s) := by
  obtain ⟨st, vo⟩ := ifftRI_structV F Y.c (fun e => -Y.s e) Y.k (val_inv Y.c Y.s) s hs
  refine ⟨fun hy p hp => ?_, vo⟩
  show cx Y.I (prs _ p) = _
  rw [st p hp]
  have := VNI_V (cx Y.I) _ Y.k Y.ζ (gNetI_real Y hF) (prs s) Y.a hy Y.k p (Nat.le_refl _) hp
  rwa [Nat.sub_self] at this

theorem cifftRI_adv {F : CFlav R} (hF : CInvOK Y.I F) (s : RI R) (hs : Valid (2 ^ Y.k) s) :
    ((∀ q, q < 2 ^ Y.k → cxs Y.I s q = V Y.ζ Y.a Y.k 0 q) → ∀ p, p < 2 ^ Y.k →
      cxs Y.I (cifftRI F (2 ^ Y.k) ((cplxIfftEnts (2 ^ Y.k)).map (val Y.c Y.s)).toArray s) p = 2 ^ Y.k * Y.a p) ∧
    Valid (2 ^ Y.k) (cifftRI F (2 ^ Y.k) ((cplxIfftEnts (2 ^ Y.k)).map (val Y.c Y.s)).toArray s) := by
  obtain ⟨st, vo⟩ := cifftRI_structV F Y.c (fun e => -Y.s e) Y.k (val_inv Y.c Y.s) hF.lanesOdd s hs
  refine ⟨fun hy p hp => ?_, vo⟩
  show cx Y.I (prs _ p) = _
  rw [st p hp]
  have := VNI_V (cx Y.I) _ Y.k Y.ζ (gNetCI_real Y hF) (prs s) Y.a hy Y.k p (Nat.le_refl _) hp
  rwa [Nat.sub_self] at this

end drivers
end Spq.Fft.Exact
