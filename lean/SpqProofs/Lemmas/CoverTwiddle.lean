/-
  The register operation `twP` of the twiddle and bitwiddle kernels in exact arithmetic: on each of the two complexes
  of a register it is `twPair` of the data, the shuffled data and the two constant registers (`pairOf_twP`); the product
  by a twiddle (`twPair_mul`) and the defect D8 (`twPair_bad`) are values of `twPair`.  Then the loop of
  `cplx_fftvec_twiddle_{fma,avx512}` for any pair shuffle of the data register.
-/
import SpqProofs.Lemmas.CoverCplx
namespace Spq
namespace Cover
open Reim4
variable {R : Type} [CommRing R]

/-- twiddle `e` (`e = 0, 1`) of the `omg` argument: cells `(2e, 2e+1)` -/
def omW (om : Array R) (e : Nat) : Cx R := cxAt om (2 * e)

/-- what `twP` computes on the complex `b` of parity 1 when the pair is not swapped (`shuf9`:
    `cplx_fftvec_twiddle_avx512` before commit 7805316, D8):
    `(b.re·w.re − b.re·w.im, b.im·w.re + b.im·w.im)` -/
def badMul (b w : Cx R) : Cx R := ⟨b.re * w.re - b.re * w.im, b.im * w.re + b.im * w.im⟩

/-- per-complex product of the FMA kernel: `b·ω_e` -/
def twMulFma (om : Array R) (e : Nat) (b : Cx R) : Cx R := b * omW om e
/-- per-complex "product" of `cplx_fftvec_twiddle_avx512` before commit 7805316 (D8) -/
def twMulAvx512 (om : Array R) (e : Nat) (b : Cx R) : Cx R := if e = 0 then b * omW om 0 else badMul b (omW om 1)

theorem pairOf_sub (x y : V4 R) (e : Nat) : pairOf (V4.sub (RArith.ofRing R) x y) e = pairOf x e - pairOf y e := by
  ext <;> simp [pairOf, V4.sub, V4.lane_map2]

theorem omW_eq_pairOf (om : Array R) (e : Nat) (he : e < 2) : omW om e = pairOf (V4.load 0 om 0) e :=
  (pairOf_load om 0 (2 * e) e he (by omega)).symm

/-- what `twP` computes on one complex: `x` the data, `s` the shuffled data, `r`, `i` the two constant registers -/
def twPair (x s r i : Cx R) : Cx R := ⟨x.re * r.re - s.re * i.re, x.im * r.im + s.im * i.im⟩

theorem pairOf_twP (sh : V4 R → V4 R) (v rr ii : V4 R) (e : Nat) (he : e < 2) :
    pairOf (twP (RArith.ofRing R) sh v rr ii) e = twPair (pairOf v e) (pairOf (sh v) e) (pairOf rr e) (pairOf ii e) := by
  rcases e with _ | _ | e
  · rfl
  · rfl
  · omega

theorem twPair_mul (x : Cx R) (r i : R) : twPair x ⟨x.im, x.re⟩ ⟨r, r⟩ ⟨i, i⟩ = x * ⟨r, i⟩ := by
  ext
  · rfl
  · show x.im * r + x.re * i = x.re * i + x.im * r
    ring

theorem twPair_bad (x w : Cx R) : twPair x x ⟨w.re, w.re⟩ ⟨w.im, w.im⟩ = badMul x w := rfl

omit [CommRing R] in
theorem pairOf_shuf5 (v : V4 R) (e : Nat) (he : e < 2) : pairOf (V4.shuf5 v) e = ⟨(pairOf v e).im, (pairOf v e).re⟩ := by
  rcases e with _ | _ | e
  · rfl
  · rfl
  · omega

omit [CommRing R] in
theorem pairOf_shuf0 (v : V4 R) (e : Nat) (he : e < 2) : pairOf (V4.shuf0 v) e = ⟨(pairOf v e).re, (pairOf v e).re⟩ := by
  rcases e with _ | _ | e
  · rfl
  · rfl
  · omega

omit [CommRing R] in
theorem pairOf_shuf15 (v : V4 R) (e : Nat) (he : e < 2) : pairOf (V4.shuf15 v) e = ⟨(pairOf v e).im, (pairOf v e).im⟩ := by
  rcases e with _ | _ | e
  · rfl
  · rfl
  · omega

theorem twP_shuf5_mul (v rr ii : V4 R) (r i : R) (e : Nat) (he : e < 2)
    (hr : pairOf rr e = ⟨r, r⟩) (hi : pairOf ii e = ⟨i, i⟩) :
    pairOf (twP (RArith.ofRing R) V4.shuf5 v rr ii) e = pairOf v e * ⟨r, i⟩ := by
  rw [pairOf_twP _ _ _ _ _ he, pairOf_shuf5 _ _ he, hr, hi, twPair_mul]

theorem twP_shuf5_pair (v o : V4 R) (e : Nat) (he : e < 2) :
    pairOf (twP (RArith.ofRing R) V4.shuf5 v (V4.shuf0 o) (V4.shuf15 o)) e = pairOf v e * pairOf o e :=
  twP_shuf5_mul v _ _ (pairOf o e).re (pairOf o e).im e he (pairOf_shuf0 o e he) (pairOf_shuf15 o e he)

theorem twP_shuf9_pair0 (v o : V4 R) :
    pairOf (twP (RArith.ofRing R) shuf9 v (V4.shuf0 o) (V4.shuf15 o)) 0 = pairOf v 0 * pairOf o 0 :=
  (pairOf_twP shuf9 v _ _ 0 (by decide)).trans (twPair_mul (pairOf v 0) o.x0 o.x1)

theorem twP_shuf9_pair1 (v o : V4 R) :
    pairOf (twP (RArith.ofRing R) shuf9 v (V4.shuf0 o) (V4.shuf15 o)) 1 = badMul (pairOf v 1) (pairOf o 1) :=
  (pairOf_twP shuf9 v _ _ 1 (by decide)).trans (twPair_bad (pairOf v 1) (pairOf o 1))

theorem twiddleSimd_spec (nreg m : Nat) (hm : m = 2 * nreg) (sh : V4 R → V4 R) (a b om : Array R) (Pm : Nat → Cx R → Cx R)
    (ha : 2 * m ≤ a.size) (hb : 2 * m ≤ b.size)
    (hP : ∀ v e, e < 2 →
      pairOf (twP (RArith.ofRing R) sh v (V4.shuf0 (V4.load 0 om 0)) (V4.shuf15 (V4.load 0 om 0))) e = Pm e (pairOf v e)) :
    Pointwise idxCplx m a (cplxFftvecTwiddleSimd (RArith.ofRing R) nreg sh a b om).1
      (fun i => ev idxCplx a i + Pm (i % 2) (ev idxCplx b i)) ∧
    Pointwise idxCplx m b (cplxFftvecTwiddleSimd (RArith.ofRing R) nreg sh a b om).2
      (fun i => ev idxCplx a i - Pm (i % 2) (ev idxCplx b i)) := by
  subst hm
  unfold cplxFftvecTwiddleSimd
  simp only [ofRing_zero]
  constructor
  · exact mapV4_pointwise nreg _ (fun i x => x + Pm (i % 2) (ev idxCplx b i)) a (by omega)
      (fun j e he v => by
        rw [pairOf_add, hP _ _ he, pairOf_load_cplx _ _ _ he, show (2 * j + e) % 2 = e by omega])
  · exact mapV4_pointwise nreg _ (fun i x => ev idxCplx a i - Pm (i % 2) x) b (by omega)
      (fun j e he v => by
        rw [pairOf_sub, hP _ _ he, pairOf_load_cplx _ _ _ he, show (2 * j + e) % 2 = e by omega])

end Cover
end Spq
