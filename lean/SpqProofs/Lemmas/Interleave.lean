/-
  Schedule independence of an interleaved system, once for all thread models.

  A system is a `step : Conf → ι → Conf` (thread `t` does one atomic action) and a `view : Conf → ι → View`
  (all that thread `t` can see or own: the objects it works on and what it has observed so far).  An execution
  under a schedule is `sched.foldl step c`; thread `u` alone for `n` steps is `(List.replicate n u).foldl step c`.
-/
namespace Spq.Sched

variable {ι Conf View : Type}

theorem solo_congr (step : Conf → ι → Conf) (view : Conf → ι → View)
    (hown : ∀ c c' t, view c t = view c' t → view (step c t) t = view (step c' t) t) (t : ι) :
    ∀ (n : Nat) (c c' : Conf), view c t = view c' t →
      view ((List.replicate n t).foldl step c) t = view ((List.replicate n t).foldl step c') t
  | 0, _, _, h => h
  | n + 1, c, c', h => solo_congr step view hown t n _ _ (hown c c' t h)

theorem indep [DecidableEq ι] (step : Conf → ι → Conf) (view : Conf → ι → View) (Good : Conf → Prop)
    (hown : ∀ c c' t, view c t = view c' t → view (step c t) t = view (step c' t) t)
    (hgood : ∀ c t, Good c → Good (step c t))
    (hother : ∀ c t u, Good c → u ≠ t → view (step c t) u = view c u) :
    ∀ (sched : List ι) (c : Conf), Good c →
      Good (sched.foldl step c) ∧
      ∀ u, view (sched.foldl step c) u = view ((List.replicate (sched.count u) u).foldl step c) u
  | [], _, hg => ⟨hg, fun _ => rfl⟩
  | t :: s, c, hg => by
    obtain ⟨h1, h2⟩ := indep step view Good hown hgood hother s (step c t) (hgood c t hg)
    refine ⟨h1, fun u => ?_⟩
    rw [List.foldl_cons, h2 u]
    by_cases h : u = t
    · subst h; rw [List.count_cons_self]; rfl
    · rw [List.count_cons_of_ne (Ne.symm h)]
      exact solo_congr step view hown u _ _ _ (hother c t u hg h)

end Spq.Sched
