/-
  Structural schedule theorem (forward reim), top level: `fftRI F (2^k) T s` = level network `VN (gNet F c s k)`,
  every `k` (`fftRI_struct`); the sizes `m ≤ 16` pass by pass.
-/
import SpqProofs.Lemmas.FftSchedFwd
namespace Spq.Fft.SchedN
open Spq.Fft Spq.Fft.Alg Spq.Fft.View Spq.Fft.Sim Spq.Fft.SimP Spq.Fft.LevelN Spq.Fft.KernN Spq.Fft.Tw

variable {R : Type} [Inhabited R] (F : Flav R) (c s : ℕ → R) (k : ℕ) (a : ℕ → R × R)

section table
variable {v : Ent → R} (hv : ReimFrom F c s k (gNet F c s k) v 0)
include hv

theorem fftRI_bigN (hk : 5 ≤ k) (s0 : RI R) (hs : Valid (2 ^ k) s0) :
    AdvN (gNet F c s k) a (prs s0)
        (prs (fftRI F (2 ^ k) (((reimFftEnts (2 ^ k)).map v).toArray) s0)) 0 k k 0 0 (2 ^ k) ∧
      Valid (2 ^ k) (fftRI F (2 ^ k) (((reimFftEnts (2 ^ k)).map v).toArray) s0) := by
  have h32 : 32 ≤ 2 ^ k := by
    have : 2 ^ 5 ≤ 2 ^ k := Nat.pow_le_pow_right (by omega) hk
    simpa using this
  have hB : Blk k 0 k 0 (2 ^ k) 0 (2 ^ k) := Blk.top rfl
  have hE : reimFftEnts (2 ^ k) = if 2 ^ k ≤ 2048 then rBfs (4 * 2 ^ k) (2 ^ k) (2 ^ k)
      else rRec (4 * 2 ^ k) (2 ^ k) (2 ^ k) (2 ^ k) := by
    unfold reimFftEnts
    rw [if_neg (by omega)]
    rw [show ((2 ^ k == 2) = false) by simp; omega, show ((2 ^ k == 4) = false) by simp; omega,
      show ((2 ^ k == 8) = false) by simp; omega, show ((2 ^ k == 16) = false) by simp; omega]
    simp only [Bool.false_eq_true, ↓reduceIte]
  unfold fftRI
  rw [if_neg (by omega)]
  rw [show ((2 ^ k == 2) = false) by simp; omega, show ((2 ^ k == 4) = false) by simp; omega,
    show ((2 ^ k == 8) = false) by simp; omega, show ((2 ^ k == 16) = false) by simp; omega]
  simp only [Bool.false_eq_true, ↓reduceIte]
  rw [hE]
  by_cases hle : 2 ^ k ≤ 2048
  · rw [if_pos hle, if_pos hle]
    exact (bfs16_runs F c s k a hv hB hk (hB.below (C := 11) (by norm_num) hle) (Or.inr rfl)).run s0 hs
  · rw [if_neg hle, if_neg hle]
    obtain ⟨D1, hD1, h11⟩ := hB.above (C := 11) (by norm_num) hle
    exact (rec16_runs F c s k a hv (2 ^ k) hB (by omega) (Nat.le_refl _)).run s0 hs

omit hv in
theorem gNet_small_ct (hk : k ≤ 3) (hk1 : 2 ≤ k) (ℓ d b : ℕ) (h : clv (k - ℓ) = false ∨ b % 2 = 0) :
    gNet F c s k ℓ d b = bfV F.ctS (c (twE ℓ d b)) (s (twE ℓ d b)) := by
  rw [gNet_ct F c s k ℓ d b h]; unfold ctK; rw [if_neg (by omega), if_pos hk]

omit hv in
theorem gNet_small_cit (hk : k ≤ 3) (ℓ d b : ℕ) (h : clv (k - ℓ) = true) :
    gNet F c s k ℓ d (2 * b + 1) = bfV F.citS (c (twE ℓ d (2 * b))) (s (twE ℓ d (2 * b))) := by
  rw [gNet_cit F c s k ℓ d b h]; unfold citK; rw [if_pos hk]

omit hv in
theorem fftRI_k0N (hk : k = 0) (T : Array R) (s0 : RI R) (hs : Valid (2 ^ k) s0) :
    AdvN (gNet F c s k) a (prs s0) (prs (fftRI F (2 ^ k) T s0)) 0 k k 0 0 (2 ^ k) ∧ Valid (2 ^ k) (fftRI F (2 ^ k) T s0) := by
  subst hk
  simp only [fftRI, pow_zero, Nat.le_refl, ↓reduceIte]
  exact ⟨AdvG.id _ _ _ _, hs⟩

theorem fftRI_k1N (hk : k = 1) (s0 : RI R) (hs : Valid (2 ^ k) s0) :
    AdvN (gNet F c s k) a (prs s0)
        (prs (fftRI F (2 ^ k) (((reimFftEnts (2 ^ k)).map v).toArray) s0)) 0 k k 0 0 (2 ^ k) ∧
      Valid (2 ^ k) (fftRI F (2 ^ k) (((reimFftEnts (2 ^ k)).map v).toArray) s0) := by
  subst hk
  have hT : ((reimFftEnts (2 ^ 1)).map v).toArray = #[c 1, s 1] := by
    simp [reimFftEnts, rFill2, eP, hv.cos, hv.sin]
  rw [hT]
  simp only [fftRI, fft2, Nat.reducePow, Nat.reduceLeDiff, ↓reduceIte, BEq.rfl, Nat.zero_add]
  have := pair1_adv (N := 2) (VN_step (gNet F c s 1) a 0 0) F.ct2 (c 1) (s 1) 0 0 1 rfl rfl (by omega)
    (by rw [gNet_ct F c s 1 0 0 0 (Or.inr rfl)]; rfl) s0 hs
  exact ⟨by simpa using this.1, this.2⟩

theorem fftRI_k2N (hk : k = 2) (s0 : RI R) (hs : Valid (2 ^ k) s0) :
    AdvN (gNet F c s k) a (prs s0)
        (prs (fftRI F (2 ^ k) (((reimFftEnts (2 ^ k)).map v).toArray) s0)) 0 k k 0 0 (2 ^ k) ∧
      Valid (2 ^ k) (fftRI F (2 ^ k) (((reimFftEnts (2 ^ k)).map v).toArray) s0) := by
  subst hk
  have hT : ((reimFftEnts (2 ^ 2)).map v).toArray = #[c 2, s 2, c 1, s 1] := by
    simp [reimFftEnts, rFill4, eP, hv.cos, hv.sin]
  rw [hT]
  simp only [fftRI, fft4, Nat.reducePow, Nat.reduceLeDiff, ↓reduceIte, Nat.zero_add, Nat.reduceBEq,
    Bool.false_eq_true, BEq.rfl]
  have s1 := pair2_adv (N := 4) (VN_step (gNet F c s 2) a 0 1) F.ctS (c 2) (s 2) 0 0 1 2 3 rfl rfl rfl rfl (by omega)
    (by rw [gNet_small_ct F c s 2 (by omega) (by omega) 0 1 0 (Or.inr rfl)]; rfl)
  have s2 := pair1_adv (N := 4) (VN_step (gNet F c s 2) a 1 0) F.ctS (c 1) (s 1) 0 0 1 rfl rfl (by omega)
    (by rw [gNet_small_ct F c s 2 (by omega) (by omega) 1 0 0 (Or.inr rfl)]; rfl)
  have s3 := pair1_adv (N := 4) (VN_step (gNet F c s 2) a 1 0) F.citS (c 1) (s 1) 1 2 3 rfl rfl (by omega)
    (by rw [show (1 : ℕ) = 2 * 0 + 1 by rfl, gNet_small_cit F c s 2 (by omega) 1 0 0 rfl]; rfl)
  have := (s1.seq (s2.par s3)) s0 hs
  exact ⟨by simpa using this.1, this.2⟩

theorem fftRI_k3N (hk : k = 3) (s0 : RI R) (hs : Valid (2 ^ k) s0) :
    AdvN (gNet F c s k) a (prs s0)
        (prs (fftRI F (2 ^ k) (((reimFftEnts (2 ^ k)).map v).toArray) s0)) 0 k k 0 0 (2 ^ k) ∧
      Valid (2 ^ k) (fftRI F (2 ^ k) (((reimFftEnts (2 ^ k)).map v).toArray) s0) := by
  subst hk
  have hT : ((reimFftEnts (2 ^ 3)).map v).toArray = #[c 4, s 4, c 2, s 2, c 1, c 5, s 1, s 5] := by
    simp [reimFftEnts, rFill8, eP, hv.cos, hv.sin]
  rw [hT]
  obtain ⟨T, hTd⟩ : ∃ T : Array R, T = #[c 4, s 4, c 2, s 2, c 1, c 5, s 1, s 5] := ⟨_, rfl⟩
  have t0 : T[0]! = c 4 := by rw [hTd]; rfl
  have t1 : T[0 + 1]! = s 4 := by rw [hTd]; rfl
  have t2 : T[0 + 2]! = c 2 := by rw [hTd]; rfl
  have t3 : T[0 + 3]! = s 2 := by rw [hTd]; rfl
  have t4 : T[0 + 4]! = c 1 := by rw [hTd]; rfl
  have t5 : T[0 + 5]! = c 5 := by rw [hTd]; rfl
  have t6 : T[0 + 6]! = s 1 := by rw [hTd]; rfl
  have t7 : T[0 + 7]! = s 5 := by rw [hTd]; rfl
  rw [← hTd]
  simp only [fftRI, Nat.reducePow, Nat.reduceLeDiff, ↓reduceIte, Nat.reduceBEq, Bool.false_eq_true, BEq.rfl]
  unfold fft8
  have hs8 : Valid 8 s0 := hs
  have s1 := twPass_adv (N := 8) (VN_step (gNet F c s 3) a 0 2) F.ctS 0 0 T[0]! T[0 + 1]! rfl (by omega)
    (by rw [gNet_small_ct F c s 3 (by omega) (by omega) 0 2 0 (Or.inr rfl), t0, t1]; rfl)
  have l1 := VN_step (gNet F c s 3) a 1 1
  have s2 := pair2_adv (N := 8) l1 F.ctS T[0 + 2]! T[0 + 3]! 0 0 (0 + 1) (0 + 2) (0 + 3) rfl rfl rfl rfl (by omega)
    (by rw [gNet_small_ct F c s 3 (by omega) (by omega) 1 1 0 (Or.inr rfl), t2, t3]; rfl)
  have s3 := pair2_adv (N := 8) l1 F.citS T[0 + 2]! T[0 + 3]! 1 (0 + 4) (0 + 5) (0 + 6) (0 + 7) rfl rfl rfl rfl (by omega)
    (by rw [show (1 : ℕ) = 2 * 0 + 1 by rfl, gNet_small_cit F c s 3 (by omega) 1 1 0 rfl, t2, t3]; rfl)
  have l2 := VN_step (gNet F c s 3) a 2 0
  have s4 := pair1_adv (N := 8) l2 F.ctS T[0 + 4]! T[0 + 6]! 0 0 (0 + 1) rfl rfl (by omega)
    (by rw [gNet_small_ct F c s 3 (by omega) (by omega) 2 0 0 (Or.inr rfl), t4, t6]; rfl)
  have s5 := pair1_adv (N := 8) l2 F.citS T[0 + 4]! T[0 + 6]! 1 (0 + 2) (0 + 3) rfl rfl (by omega)
    (by rw [show (1 : ℕ) = 2 * 0 + 1 by rfl, gNet_small_cit F c s 3 (by omega) 2 0 0 rfl, t4, t6]; rfl)
  have s6 := pair1_adv (N := 8) l2 F.ctS T[0 + 5]! T[0 + 7]! 2 (0 + 4) (0 + 5) rfl rfl (by omega)
    (by rw [gNet_small_ct F c s 3 (by omega) (by omega) 2 0 2 (Or.inr rfl), t5, t7]; rfl)
  have s7 := pair1_adv (N := 8) l2 F.citS T[0 + 5]! T[0 + 7]! 3 (0 + 6) (0 + 7) rfl rfl (by omega)
    (by rw [show (3 : ℕ) = 2 * 1 + 1 by rfl, gNet_small_cit F c s 3 (by omega) 2 0 1 rfl, t5, t7]; rfl)
  exact ((s1.seq (s2.par s3)).seq (((s4.par s5).par s6).par s7)) s0 hs8

theorem fftRI_k4N (hk : k = 4) (s0 : RI R) (hs : Valid (2 ^ k) s0) :
    AdvN (gNet F c s k) a (prs s0)
        (prs (fftRI F (2 ^ k) (((reimFftEnts (2 ^ k)).map v).toArray) s0)) 0 k k 0 0 (2 ^ k) ∧
      Valid (2 ^ k) (fftRI F (2 ^ k) (((reimFftEnts (2 ^ k)).map v).toArray) s0) := by
  have hE : reimFftEnts (2 ^ k) = rFill16 (4 * 2 ^ k) 16 := by rw [hk]; rfl
  rw [hE]
  have hseg := SegP.of_toArray ((rFill16 (4 * 2 ^ k) 16).map v)
  obtain ⟨T, hT⟩ : ∃ T, T = ((rFill16 (4 * 2 ^ k) 16).map v).toArray := ⟨_, rfl⟩
  rw [← hT] at hseg ⊢
  have h16 : 2 ^ k = 16 := by rw [hk]; rfl
  rw [h16] at hs ⊢
  simp only [fftRI, Nat.reduceLeDiff, ↓reduceIte, Nat.reduceBEq, Bool.false_eq_true, BEq.rfl]
  subst hk
  exact hv.leaf_step a (reimW16 T 0) 16 (Blk.top h16.symm) s0 hs (Nat.le_refl _) (Nat.zero_le _)
    (hv.leaf_read T 0 _ _ hseg)

theorem fftRI_structV (s0 : RI R) (hs : Valid (2 ^ k) s0) :
    (∀ p, p < 2 ^ k → prs (fftRI F (2 ^ k) (((reimFftEnts (2 ^ k)).map v).toArray) s0) p
      = VN (gNet F c s k) (prs s0) k 0 p) ∧
    Valid (2 ^ k) (fftRI F (2 ^ k) (((reimFftEnts (2 ^ k)).map v).toArray) s0) := by
  have key : AdvN (gNet F c s k) (prs s0) (prs s0)
        (prs (fftRI F (2 ^ k) (((reimFftEnts (2 ^ k)).map v).toArray) s0)) 0 k k 0 0 (2 ^ k) ∧
      Valid (2 ^ k) (fftRI F (2 ^ k) (((reimFftEnts (2 ^ k)).map v).toArray) s0) := by
    by_cases h5 : 5 ≤ k
    · exact fftRI_bigN F c s k _ hv h5 s0 hs
    have : k = 0 ∨ k = 1 ∨ k = 2 ∨ k = 3 ∨ k = 4 := by omega
    rcases this with h | h | h | h | h
    · exact fftRI_k0N F c s k _ h _ s0 hs
    · exact fftRI_k1N F c s k _ hv h s0 hs
    · exact fftRI_k2N F c s k _ hv h s0 hs
    · exact fftRI_k3N F c s k _ hv h s0 hs
    · exact fftRI_k4N F c s k _ hv h s0 hs
  refine ⟨fun p hp => ?_, key.2⟩
  exact key.1.1 (fun q _ _ => rfl) p (Nat.zero_le _) (by omega)

end table

/-- **Structural schedule theorem** (no ring laws): for every value type, every `Flav` of butterfly functions, every
`k`, the forward reim schedule is the level network `VN` with the butterflies `gNet F c s k`. -/
theorem fftRI_struct (s0 : RI R) (hs : Valid (2 ^ k) s0) :
    (∀ p, p < 2 ^ k → prs (fftRI F (2 ^ k) (((reimFftEnts (2 ^ k)).map (valP c s)).toArray) s0) p
      = VN (gNet F c s k) (prs s0) k 0 p) ∧
    Valid (2 ^ k) (fftRI F (2 ^ k) (((reimFftEnts (2 ^ k)).map (valP c s)).toArray) s0) :=
  fftRI_structV F c s k (ReimFrom.refl F c s k) s0 hs

end Spq.Fft.SchedN
