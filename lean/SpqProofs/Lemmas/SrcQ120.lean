/-
  Source tie of the q120 reference arithmetic (`Properties/SrcQ120.lean`): unfolding equations of the IR constructs
  the q120 sources need (loads / stores through any pointer base, uint32 views of 64-bit cells, local arrays held
  in slots, `%`), buffers of uint64 lanes as casts of `Array Nat` (`natBuf`), casts of the wrapping uint64
  operations of `Spq/Q120.lean`.
-/
import SpqProofs.Lemmas.SrcAvx
import SpqProofs.Lemmas.SrcFuel
import Gen.Q120Consts
import Spq.Q120
namespace Spq.CIR
open Spq Spq.Q120

/-! ### unfolding equations -/
theorem eval_pload32 (Γ : List Ptr) (σ : State) (b : PBase) (o : Expr) :
    eval Γ σ (.pload32 b o) = (eval Γ σ o).bind fun v =>
      if v < 0 then .err .oob
      else (ptrAt Γ σ.env b (v / 2)).bind fun p => (loadCell σ.mem p 0).bind fun c => .ok (half32 c (v % 2)) := rfl
theorem eval_avar (Γ : List Ptr) (σ : State) (base len : Nat) (idx : Expr) :
    eval Γ σ (.avar base len idx) = (eval Γ σ idx).bind fun v =>
      if 0 ≤ v ∧ v < (len : Int) then .ok (lget σ.env (base + v.toNat)) else .err .oob := rfl
theorem exec_pstore32 (Γ : List Ptr) (b : PBase) (o e : Expr) (f : Nat) (σ : State) :
    exec Γ (.pstore32 b o e) f σ = (eval Γ σ o).bind fun ov => (eval Γ σ e).bind fun v =>
      if ov < 0 then .err .oob
      else (ptrAt Γ σ.env b (ov / 2)).bind fun p => (loadCell σ.mem p 0).bind fun c =>
        (storeCell σ.mem p 0 (setHalf32 c (ov % 2) v)).bind fun m => .ok (.norm, { σ with mem := m }) := rfl
theorem exec_aset (Γ : List Ptr) (base len : Nat) (idx e : Expr) (f : Nat) (σ : State) :
    exec Γ (.aset base len idx e) f σ = (eval Γ σ idx).bind fun iv => (eval Γ σ e).bind fun v =>
      if 0 ≤ iv ∧ iv < (len : Int) then .ok (.norm, { σ with env := lset σ.env (base + iv.toNat) v })
      else .err .oob := rfl

/-- the symbolic-execution simp set, with the constructs of the q120 sources -/
macro "cirq_simp" : tactic =>
  `(tactic| simp only [exec_skip, exec_assign, exec_store, exec_seq, exec_ite, exec_passign,
      eval_lit, eval_var, eval_load, eval_cast, eval_un, eval_bin, eval_cond, eval_pload, eval_pload32, eval_avar,
      exec_pstore, exec_pstore32, exec_aset, evalB_def,
      R.bind_ok, R.bind_err, thenStep_norm, thenStep_err, seqK_norm, seqK_err,
      evalBin_add_u64, evalBin_sub_u64, evalBin_mul_u64, evalBin_band_u64, evalBin_lt_u64, evalBin_mod_u64,
      evalBin_shl_u64, evalBin_shr_u64, wrap_u64, decide_b2i_ne_zero, ite_b2i_ne_zero,
      lget_zero, lget_succ, lset_zero, lset_succ, List.getD_cons_zero, List.getD_cons_succ])

/-! ### buffers of uint64 lanes -/
def natBuf (a : Array Nat) : Array Int := a.map fun (x : Nat) => (x : Int)

@[simp] theorem size_natBuf (a : Array Nat) : (natBuf a).size = a.size := by simp [natBuf]
theorem getD_natBuf (a : Array Nat) (i : Nat) : (natBuf a).getD i 0 = ((a.getD i 0 : Nat) : Int) := by
  by_cases h : i < a.size <;> simp [natBuf, Array.getD, h]

theorem natBuf_ofFn (n : Nat) (f : Nat → Nat) :
    natBuf (Array.ofFn (n := n) fun i => f i.val) = Array.ofFn (n := n) fun i => ((f i.val : Nat) : Int) := by
  apply Array.ext
  · simp
  · intro i h1 h2; simp [natBuf]

/-! ### accesses through a pointer `(b, o)` with cell index 0 on the `fillMem` states -/
theorem pload_fill (m : Mem) (r b : Nat) (g : Nat → Int) (k o : Nat) (h : o < (buf m b).size) (hk : k ≤ o) :
    loadCell (fillMem m r g k) (some (b, o)) 0 = .ok ((buf m b).getD o 0) := by
  have := loadCell_shift (fillMem m r g k) b o 0
  simp only [Nat.add_zero] at this
  rw [show (0 : Int) = ((0 : Nat) : Int) from rfl, this]
  exact load_fill m r b g k o h hk

theorem pstore_fill (m : Mem) (r : Nat) (g : Nat → Int) (k : Nat) (v : Int) (h : k < (buf m r).size) (hv : v = g k) :
    storeCell (fillMem m r g k) (some (r, k)) 0 v = .ok (fillMem m r g (k + 1)) := by
  have := storeCell_shift (fillMem m r g k) r k 0 v
  simp only [Nat.add_zero] at this
  rw [show (0 : Int) = ((0 : Nat) : Int) from rfl, this]
  exact store_fill m r g k v h hv

/-- pointer local holding `(b, o)`, offset a natural number given as any `Int` expression value -/
theorem ptrAt_pvar_nat (Γ : List Ptr) (env : List Int) (s b o k : Nat) (v : Int) (hv : v = (k : Int))
    (h1 : lget env s = (b : Int)) (h2 : lget env (s + 1) = (o : Int)) :
    ptrAt Γ env (.pvar s) v = .ok (some (b, o + k)) := ptrAt_pvar_off Γ env s b o k v hv h1 h2

/-! ### casts of the wrapping uint64 operations -/
theorem cast_mul64 (a b : Nat) : ((a : Int) * (b : Int)) % 18446744073709551616 = ((mul64 a b : Nat) : Int) := by
  have e : (a : Int) * (b : Int) = ((a * b : Nat) : Int) := by push_cast; rfl
  rw [e]; simp only [mul64]; omega
theorem cast_add64 (a b : Nat) : ((a : Int) + (b : Int)) % 18446744073709551616 = ((add64 a b : Nat) : Int) := by
  simp only [add64]; omega

end Spq.CIR

namespace Spq.CIR
open Spq Spq.Q120
theorem natBuf_eq_ofFn (a : Array Nat) (n : Nat) (g : Nat → Int) (hsz : a.size = n)
    (h : ∀ i, i < n → ((a.getD i 0 : Nat) : Int) = g i) : natBuf a = Array.ofFn (n := n) fun i => g i.val := by
  apply Array.ext
  · simp [hsz]
  · intro i h1 h2
    simp only [size_natBuf] at h1
    have := h i (by omega)
    have e : a.getD i 0 = a[i] := by simp [Array.getD, h1]
    rw [e] at this
    simp [natBuf, this]

/-- a buffer set to the lanes `A` is the buffer filled, cell by cell, with what `A` holds -/
theorem set_natBuf_eq_fillMem (m : Mem) (r : Nat) (A : Array Nat) (n : Nat) (g : Nat → Int)
    (hr : (buf m r).size = n) (hsz : A.size = n) (h : ∀ i, i < n → ((A.getD i 0 : Nat) : Int) = g i) :
    m.setIfInBounds r (natBuf A) = fillMem m r g n := by
  rw [fillMem_all _ _ _ _ hr, natBuf_eq_ofFn A n g hsz h]
end Spq.CIR

namespace Spq.CIR
open Spq Spq.Q120

theorem natBuf_set (a : Array Nat) (i v : Nat) : (natBuf a).setIfInBounds i (v : Int) = natBuf (a.setIfInBounds i v) := by
  simp [natBuf, Array.map_setIfInBounds]

/-- store of a uint64 lane into a buffer that holds `natBuf A` -/
theorem pstore_natBuf (m : Mem) (r : Nat) (A : Array Nat) (o v : Nat) (hr : r < m.size) (h : o < A.size) :
    storeCell (m.setIfInBounds r (natBuf A)) (some (r, o)) 0 (v : Int)
      = .ok (m.setIfInBounds r (natBuf (A.setIfInBounds o v))) := by
  have := storeCell_nat (m.setIfInBounds r (natBuf A)) r o 0 (v : Int)
    (by rw [buf_set_self m r _ hr, size_natBuf]; omega)
  rw [show (0 : Int) = ((0 : Nat) : Int) from rfl, this, buf_set_self m r _ hr, set_set, Nat.add_zero, natBuf_set]

/-- load from a buffer other than the one being rewritten -/
theorem pload_other (m : Mem) (r b : Nat) (x : Array Int) (o : Nat) (hb : b ≠ r) (h : o < (buf m b).size) :
    loadCell (m.setIfInBounds r x) (some (b, o)) 0 = .ok ((buf m b).getD o 0) := by
  have := loadCell_nat (m.setIfInBounds r x) b o 0 (by rw [buf_set_ne m r b x hb]; omega)
  have e : loadCell (m.setIfInBounds r x) (some (b, o)) 0 = loadCell (m.setIfInBounds r x) (some (b, o)) ((0 : Nat) : Int) := rfl
  rw [e, this, buf_set_ne m r b x hb, Nat.add_zero]

end Spq.CIR

namespace Spq.CIR
open Spq Spq.Q120

/-- the macro `Qk = ((1u << 30) - c * (1u << 17) + 1)` of q120_common.h as the translator emits it (type
    `unsigned int`): its value, for the small coefficients `c` of the 30-bit primes -/
theorem eval_qExpr (Γ : List Ptr) (σ : State) (c : Int) (h0 : 0 ≤ c) (h1 : c < 8192) :
    eval Γ σ (.bin .add .u32 (.bin .sub .u32 (.bin .shl .u32 (.lit 1) (.lit 30))
      (.bin .mul .u32 (.cast .u32 (.lit c)) (.bin .shl .u32 (.lit 1) (.lit 17)))) (.cast .u32 (.lit 1)))
      = .ok (1073741825 - c * 131072) := by
  simp only [eval_bin, eval_lit, eval_cast, R.bind_ok, evalBin, Ty.wrap, Ty.bits]
  have e30 : (1 : Int) * 2 ^ (30 : Int).toNat % 4294967296 = 1073741824 := by decide
  have e17 : (1 : Int) * 2 ^ (17 : Int).toNat % 4294967296 = 131072 := by decide
  simp (config := { decide := true }) only [e30, e17, if_true, if_false, R.bind_ok]
  congr 1
  omega

end Spq.CIR

namespace Spq.CIR
open Spq Spq.Q120

/-- `(uint64_t)Qk << 33` -/
theorem eval_qShl33 (Γ : List Ptr) (σ : State) (c : Int) (h0 : 0 ≤ c) (h1 : c < 8192) :
    eval Γ σ (.bin .shl .u64 (.cast .u64 (.bin .add .u32 (.bin .sub .u32 (.bin .shl .u32 (.lit 1) (.lit 30))
      (.bin .mul .u32 (.cast .u32 (.lit c)) (.bin .shl .u32 (.lit 1) (.lit 17)))) (.cast .u32 (.lit 1)))) (.lit 33))
      = .ok ((1073741825 - c * 131072) * 8589934592) := by
  rw [eval_bin, eval_cast, eval_qExpr Γ σ c h0 h1]
  simp only [R.bind_ok, eval_lit, wrap_u64, evalBin_shl_u64]
  have e33 : (2 : Int) ^ (33 : Int).toNat = 8589934592 := by decide
  rw [if_pos (by decide), e33]
  congr 1
  omega

/-- `(uint64_t)Qk` -/
theorem eval_qCast64 (Γ : List Ptr) (σ : State) (c : Int) (h0 : 0 ≤ c) (h1 : c < 8192) :
    eval Γ σ (.cast .u64 (.bin .add .u32 (.bin .sub .u32 (.bin .shl .u32 (.lit 1) (.lit 30))
      (.bin .mul .u32 (.cast .u32 (.lit c)) (.bin .shl .u32 (.lit 1) (.lit 17)))) (.cast .u32 (.lit 1))))
      = .ok (1073741825 - c * 131072) := by
  rw [eval_cast, eval_qExpr Γ σ c h0 h1]
  simp only [R.bind_ok, wrap_u64]
  congr 1
  omega

end Spq.CIR

namespace Spq.CIR
open Spq Spq.Q120

/-! ### product kernels: lane folds, masks and shifts -/
theorem laneTerms_succ (n : Nat) (x y : Array Nat) (sx ox sy oy : Nat) :
    laneTerms (n + 1) x y sx ox sy oy
      = laneTerms n x y sx ox sy oy ++ [(x.getD (sx * n + ox) 0, y.getD (sy * n + oy) 0)] := by
  simp [laneTerms, List.range_succ]

/-- a fold over the terms of a lane, one row on -/
theorem foldl_laneTerms_succ {α : Type} (f : α → Nat × Nat → α) (z : α) (n : Nat) (x y : Array Nat)
    (sx ox sy oy : Nat) : (laneTerms (n + 1) x y sx ox sy oy).foldl f z
      = f ((laneTerms n x y sx ox sy oy).foldl f z) (x.getD (sx * n + ox) 0, y.getD (sy * n + oy) 0) := by
  rw [laneTerms_succ, List.foldl_append, List.foldl_cons, List.foldl_nil]

theorem laneTerms_zero (x y : Array Nat) (sx ox sy oy : Nat) : laneTerms 0 x y sx ox sy oy = [] := rfl

/-- `(1 << h) - 1` on uint64 -/
theorem mask_cast (h : Nat) (hh : h < 64) :
    ((1 * (2 : Int) ^ ((h : Int)).toNat) % 18446744073709551616 - 1 % 18446744073709551616) % 18446744073709551616
      = ((2 ^ h - 1 : Nat) : Int) := by
  have h1 : ((h : Int)).toNat = h := by omega
  have h2 : (2 : Nat) ^ h < 18446744073709551616 := by
    calc (2 : Nat) ^ h < 2 ^ 64 := Nat.pow_lt_pow_right (by decide) hh
      _ = 18446744073709551616 := by decide
  have h3 : 1 ≤ (2 : Nat) ^ h := Nat.one_le_two_pow
  have h4 : ((2 : Int) ^ h) = (((2 : Nat) ^ h : Nat) : Int) := by push_cast; rfl
  rw [h1, h4]
  omega

/-- `t & MASK` -/
theorem band_mask_cast (p h : Nat) :
    ((((p : Int)).toNat &&& (((2 ^ h - 1 : Nat) : Int)).toNat : Nat) : Int) = ((p % 2 ^ h : Nat) : Int) := by
  rw [Int.toNat_natCast, Int.toNat_natCast, Nat.and_two_pow_sub_one_eq_mod]

/-- `t >> H` -/
theorem mask_lt (h : Nat) (hh : h < 64) : (((2 ^ h - 1 : Nat) : Int)) % 18446744073709551616 = ((2 ^ h - 1 : Nat) : Int) := by
  have : (2 : Nat) ^ h < 18446744073709551616 :=
    calc (2 : Nat) ^ h < 2 ^ 64 := Nat.pow_lt_pow_right (by decide) hh
      _ = 18446744073709551616 := by decide
  omega

theorem shr_cast (p h : Nat) : (p : Int) / (2 : Int) ^ ((h : Int)).toNat = ((p / 2 ^ h : Nat) : Int) := by
  have h1 : ((h : Int)).toNat = h := by omega
  rw [h1]; push_cast; rfl

end Spq.CIR

namespace Spq.CIR
open Spq Spq.Q120

/-- load of a uint64 lane from a buffer holding `natBuf A` -/
theorem pload_natBuf (m : Mem) (b : Nat) (A : Array Nat) (o : Nat) (hb : buf m b = natBuf A) (h : o < A.size) :
    loadCell m (some (b, o)) 0 = .ok ((A.getD o 0 : Nat) : Int) := by
  have := loadCell_nat m b o 0 (by rw [hb, size_natBuf]; omega)
  have e : loadCell m (some (b, o)) 0 = loadCell m (some (b, o)) ((0 : Nat) : Int) := rfl
  rw [e, this, hb, Nat.add_zero, getD_natBuf]

end Spq.CIR

namespace Spq.CIR
/-- `x & 0xFFFFFFFF` / `x >> 32` with `H1 = 32`, `MASK1 = (1 << 32) - 1` as the interpreter computes them -/
theorem mask32_val : ((1 * (2 : Int) ^ (32 : Int).toNat) % 18446744073709551616 - 1 % 18446744073709551616)
    % 18446744073709551616 = 4294967295 := by decide
theorem band_mask32 (p : Nat) : ((((p : Int)).toNat &&& (4294967295 : Int).toNat : Nat) : Int)
    = ((p % 4294967296 : Nat) : Int) := by
  have : (4294967295 : Int).toNat = 2 ^ 32 - 1 := by decide
  rw [Int.toNat_natCast, this, Nat.and_two_pow_sub_one_eq_mod]
theorem shr32_cast (p : Nat) : (p : Int) / (2 : Int) ^ (32 : Int).toNat = ((p / 4294967296 : Nat) : Int) := by
  have h1 : (32 : Int).toNat = 32 := by decide
  have h2 : (2 : Int) ^ (32 : Nat) = 4294967296 := by decide
  rw [h1, h2]; omega
end Spq.CIR

namespace Spq.Src
open Spq Spq.CIR Spq.Q120

/-- the precomputation struct `q120_mat1col_product_bbb_precomp` as cells -/
def bbbCells (P : BbbPrecomp) : Array Nat :=
  #[P.h, P.s1h 0, P.s1h 1, P.s1h 2, P.s1h 3, P.s2l 0, P.s2l 1, P.s2l 2, P.s2l 3, P.s2h 0, P.s2h 1, P.s2h 2, P.s2h 3,
    P.s3l 0, P.s3l 1, P.s3l 2, P.s3l 3, P.s3h 0, P.s3h 1, P.s3h 2, P.s3h 3, P.s4l 0, P.s4l 1, P.s4l 2, P.s4l 3,
    P.s4h 0, P.s4h 1, P.s4h 2, P.s4h 3]
def baaCells (P : BaaPrecomp) : Array Nat := #[P.h, P.hpow 0, P.hpow 1, P.hpow 2, P.hpow 3]
def bbcCells (P : BbcPrecomp) : Array Nat :=
  #[P.h, P.s2l 0, P.s2l 1, P.s2l 2, P.s2l 3, P.s2h 0, P.s2h 1, P.s2h 2, P.s2h 3]

theorem getD_bbbCells (P : BbbPrecomp) (j : Nat) (hj : j < 4) :
    (bbbCells P).getD (1 + j) 0 = P.s1h j ∧ (bbbCells P).getD (5 + j) 0 = P.s2l j ∧
    (bbbCells P).getD (9 + j) 0 = P.s2h j ∧ (bbbCells P).getD (13 + j) 0 = P.s3l j ∧
    (bbbCells P).getD (17 + j) 0 = P.s3h j ∧ (bbbCells P).getD (21 + j) 0 = P.s4l j ∧
    (bbbCells P).getD (25 + j) 0 = P.s4h j := by
  have : j = 0 ∨ j = 1 ∨ j = 2 ∨ j = 3 := by omega
  rcases this with rfl | rfl | rfl | rfl <;> exact ⟨rfl, rfl, rfl, rfl, rfl, rfl, rfl⟩

theorem getD_bbcCells (P : BbcPrecomp) (j : Nat) (hj : j < 4) :
    (bbcCells P).getD (1 + j) 0 = P.s2l j ∧ (bbcCells P).getD (5 + j) 0 = P.s2h j := by
  have : j = 0 ∨ j = 1 ∨ j = 2 ∨ j = 3 := by omega
  rcases this with rfl | rfl | rfl | rfl <;> exact ⟨rfl, rfl⟩

end Spq.Src

namespace Spq.CIR
theorem and_mask32 (p : Nat) : p &&& Int.toNat 4294967295 = p % 4294967296 := by
  have : (4294967295 : Int).toNat = 2 ^ 32 - 1 := by decide
  rw [this, Nat.and_two_pow_sub_one_eq_mod]
end Spq.CIR

namespace Spq.CIR
/-! ### uint32 views -/
theorem half32_lo (c : Nat) : half32 (c : Int) 0 = ((c % 4294967296 : Nat) : Int) := by
  simp only [half32, if_true]; omega
theorem half32_hi (c : Nat) (h : c < 18446744073709551616) : half32 (c : Int) 1 = ((c / 4294967296 : Nat) : Int) := by
  have : ((1 : Int) = 0) = False := by decide
  simp only [half32, this, if_false]; omega
theorem even_div2 (m : Nat) : ((2 * m : Nat) : Int) / 2 = (m : Int) := by omega
theorem even_mod2 (m : Nat) : ((2 * m : Nat) : Int) % 2 = 0 := by omega
theorem odd_div2 (m : Nat) : ((2 * m + 1 : Nat) : Int) / 2 = (m : Int) := by omega
theorem odd_mod2 (m : Nat) : ((2 * m + 1 : Nat) : Int) % 2 = 1 := by omega
theorem natCast_not_neg (m : Nat) : ((m : Int) < 0) = False := by
  apply propext; constructor
  · intro h; omega
  · intro h; exact h.elim
end Spq.CIR

namespace Spq.CIR
theorem wrap_lo32 (x : Nat) : ((x % 4294967296 : Nat) : Int) % 18446744073709551616 = ((x % 4294967296 : Nat) : Int) := by
  omega
theorem wrap_hi32 (x : Nat) (h : x < 18446744073709551616) :
    ((x / 4294967296 : Nat) : Int) % 18446744073709551616 = ((x / 4294967296 : Nat) : Int) := by omega
end Spq.CIR

namespace Spq.CIR
open Spq Spq.Q120
/-! ### signed `&` with the sign-bit masks (`q120_b_from_znx64_simple`) -/
theorem evalBin_band_i64 (x y : Int) :
    evalBin .band .i64 x y = .ok (wrapS ((((x % 18446744073709551616).toNat &&& (y % 18446744073709551616).toNat : Nat)) : Int)) := rfl
theorem evalUn_bnot_i64 (x : Int) : evalUn .bnot .i64 x = .ok (wrapS (-x - 1)) := rfl
theorem maskhi_val : wrapS 9223372036854775808 = -9223372036854775808 := by decide
theorem masklo_val : wrapS (-(-9223372036854775808) - 1) = 9223372036854775807 := by decide

theorem and_signbit (n : Nat) (h : n < 18446744073709551616) :
    n &&& 9223372036854775808 = (n / 9223372036854775808) * 9223372036854775808 := by
  have e : (9223372036854775808 : Nat) = 2 ^ 63 := by decide
  rw [e, ← Nat.shiftLeft_eq]
  apply Nat.eq_of_testBit_eq
  intro i
  rw [Nat.testBit_and, Nat.testBit_two_pow, Nat.testBit_shiftLeft, Nat.testBit_div_two_pow]
  by_cases h1 : i = 63
  · subst h1; simp
  · by_cases h2 : i < 63
    · have : ¬ (i ≥ 63) := by omega
      simp [this, Ne.symm h1]
    · have h3 : 64 ≤ i := by omega
      have hlt : n < 2 ^ i := by
        calc n < 2 ^ 64 := by rw [show (2 : Nat) ^ 64 = 18446744073709551616 by decide]; exact h
          _ ≤ 2 ^ i := Nat.pow_le_pow_right (by decide) h3
      have hb : n.testBit i = false := Nat.testBit_lt_two_pow hlt
      have e2 : i - 63 + 63 = i := by omega
      simp [Ne.symm h1, e2, hb]

/-- `(uint64_t)(x & MASK_LO)` -/
theorem znx_lo (x : Int) :
    (wrapS ((((x % 18446744073709551616).toNat &&& ((9223372036854775807 : Int) % 18446744073709551616).toNat : Nat)) : Int))
      % 18446744073709551616 = ((toU x % 9223372036854775808 : Nat) : Int) := by
  have e : ((9223372036854775807 : Int) % 18446744073709551616).toNat = 2 ^ 63 - 1 := by decide
  rw [e, Nat.and_two_pow_sub_one_eq_mod]
  have e2 : (2 : Nat) ^ 63 = 9223372036854775808 := by decide
  rw [e2]
  simp only [toU, wrapS]
  omega

/-- `(uint64_t)(x & MASK_HI)` -/
theorem znx_hi (x : Int) :
    (wrapS ((((x % 18446744073709551616).toNat &&& ((-9223372036854775808 : Int) % 18446744073709551616).toNat : Nat)) : Int))
      % 18446744073709551616 = (((toU x / 9223372036854775808) * 9223372036854775808 : Nat) : Int) := by
  have e : ((-9223372036854775808 : Int) % 18446744073709551616).toNat = 9223372036854775808 := by decide
  have hb : (x % 18446744073709551616).toNat < 18446744073709551616 := by omega
  rw [e, and_signbit _ hb]
  simp only [toU, wrapS]
  omega
end Spq.CIR

namespace Spq.CIR
/-- `xj_lo + (xj_hi ? OQ : 0)` on uint64 -/
theorem znx_lane_val (u oqv : Nat) :
    (((u % 9223372036854775808 : Nat) : Int) + (if (((u / 9223372036854775808) * 9223372036854775808 : Nat) : Int) ≠ 0
        then (oqv : Int) else 0 % 18446744073709551616)) % 18446744073709551616
     = (((u % 9223372036854775808 + if (u / 9223372036854775808 != 0) = true then oqv else 0) % 18446744073709551616 : Nat) : Int) := by
  by_cases hz : u / 9223372036854775808 = 0
  · have e1 : ((u / 9223372036854775808) * 9223372036854775808 : Nat) = 0 := by rw [hz]
    have h2 : (u / 9223372036854775808 != 0) = false := by rw [hz]; rfl
    rw [e1, h2]
    simp only [Int.natCast_zero, ne_eq, not_true_eq_false, if_false, Bool.false_eq_true]
    omega
  · have h1 : (((u / 9223372036854775808) * 9223372036854775808 : Nat) : Int) ≠ 0 := by omega
    have h2 : (u / 9223372036854775808 != 0) = true := by
      rw [bne_iff_ne]; exact hz
    rw [if_pos h1, h2]
    simp only [if_true]
    omega
end Spq.CIR

namespace Spq.Src
open Spq Spq.CIR Spq.Q120
/-- `x & MASK_LO`, `x & MASK_HI` as uint64 -/
def znxLo (v : Int) : Int := ((toU v % 9223372036854775808 : Nat) : Int)
def znxHi (v : Int) : Int := (((toU v / 9223372036854775808) * 9223372036854775808 : Nat) : Int)
/-- slots of `q120_b_from_znx64_simple` -/
def znxEnv (nn r k : Nat) (mh ml o0 o1 o2 o3 l h : Int) : List Int :=
  [(nn : Int), mh, ml, o0, o1, o2, o3, (r : Int), ((0 : Nat) : Int), ((4 * k : Nat) : Int), (k : Int), l, h]
end Spq.Src

namespace Spq.CIR
theorem ite_ok {α : Type} (c : Prop) [Decidable c] (a b : α) :
    (if c then (R.ok a : R α) else R.ok b) = R.ok (if c then a else b) := by
  split <;> rfl
end Spq.CIR

namespace Spq.Src
open Spq Spq.CIR Spq.Q120

/-- one lane store of `q120_b_from_znx64_simple`, the slot contents kept opaque -/
theorem znx_lane (nn r x k : Nat) (mem : Mem) (g : Nat → Int) (hnn : nn < 2305843009213693952) (hr : (buf mem r).size = 4 * nn) (hk : k < nn)
    (o0 o1 o2 o3 l h : Int) (c : Nat) (ci : Int) (hci : ci = (c : Int)) (j : Nat) (hj : j = 4 * k + c) (oc : Int)
    (hc : c < 4) (hoc : lget [o0, o1, o2, o3] c = oc)
    (hg : (l + (if h ≠ 0 then oc else 0 % 18446744073709551616)) % 18446744073709551616 = g j) (f : Nat) :
    exec [some (r, 0), some (x, 0)]
      (.pstore (.pvar 7) (.bin .add .u64 (.var 9) (.cast .u64 (.lit ci)))
        (.bin .add .u64 (.var 11) (.cond (.var 12) (.avar 3 4 (.lit ci)) (.cast .u64 (.lit 0))))) f
      ⟨znxEnv nn r k (-9223372036854775808) 9223372036854775807 o0 o1 o2 o3 l h, fillMem mem r g j⟩
    = .ok (.norm, ⟨znxEnv nn r k (-9223372036854775808) 9223372036854775807 o0 o1 o2 o3 l h, fillMem mem r g (j + 1)⟩) := by
  subst hci
  have hidx : (((4 * k : Nat) : Int) + (c : Int) % 18446744073709551616) % 18446744073709551616
      = ((j : Nat) : Int) := by omega
  have hcc : c = 0 ∨ c = 1 ∨ c = 2 ∨ c = 3 := by omega
  have hguard : (0 : Int) ≤ (c : Int) ∧ (c : Int) < ((4 : Nat) : Int) := by omega
  have hjs : j < (buf mem r).size := by omega
  clear hj
  rcases hcc with rfl | rfl | rfl | rfl
  all_goals (
    simp only [znxEnv]
    simp only [exec_pstore, if_pos hguard, eval_bin, eval_var, eval_cast, eval_lit, eval_cond, eval_avar,
      R.bind_ok, lget_zero, lget_succ, evalBin_add_u64, wrap_u64, hidx, Int.toNat_natCast, Nat.reduceAdd,
      Nat.zero_add, Nat.add_zero]
    simp only [lget_zero, lget_succ] at hoc
    rw [ptrAt_pvar_nat _ _ 7 r 0 _ _ rfl rfl rfl]
    subst hoc
    simp only [R.bind_ok, Nat.zero_add, ite_ok]
    rw [pstore_fill mem r g _ _ hjs hg]
    simp only [R.bind_ok])
end Spq.Src

namespace Spq.CIR
open Spq Spq.Q120
/-! ### uint32 stores: a cell written as two halves (`res_u32[2j] = …; res_u32[2j+1] = …;`) -/
theorem setHalf32_pair (c v0 v1 : Int) :
    setHalf32 (setHalf32 c 0 v0) 1 v1 = v0 % 4294967296 + (v1 % 4294967296) * 4294967296 := by
  have h1 : ((1 : Int) = 0) = False := by decide
  simp only [setHalf32, if_true, h1, if_false]
  omega
theorem half32_setHalf32_lo (c v0 : Int) : half32 (setHalf32 c 0 v0) 0 = v0 % 4294967296 := by
  simp only [setHalf32, half32, if_true]
  omega

/-- load / store of cell `j` of the buffer being rewritten -/
theorem pload_self (m : Mem) (r : Nat) (A : Array Int) (j : Nat) (hr : r < m.size) (hj : j < A.size) :
    loadCell (m.setIfInBounds r A) (some (r, j)) 0 = .ok (A.getD j 0) := by
  have := loadCell_nat (m.setIfInBounds r A) r j 0 (by rw [buf_set_self m r A hr]; omega)
  have e : loadCell (m.setIfInBounds r A) (some (r, j)) 0 = loadCell (m.setIfInBounds r A) (some (r, j)) ((0 : Nat) : Int) := rfl
  rw [e, this, buf_set_self m r A hr, Nat.add_zero]
theorem pstore_self (m : Mem) (r : Nat) (A : Array Int) (j : Nat) (v : Int) (hr : r < m.size) (hj : j < A.size) :
    storeCell (m.setIfInBounds r A) (some (r, j)) 0 v = .ok (m.setIfInBounds r (A.setIfInBounds j v)) := by
  have := storeCell_nat (m.setIfInBounds r A) r j 0 v (by rw [buf_set_self m r A hr]; omega)
  have e : storeCell (m.setIfInBounds r A) (some (r, j)) 0 v = storeCell (m.setIfInBounds r A) (some (r, j)) ((0 : Nat) : Int) v := rfl
  rw [e, this, buf_set_self m r A hr, set_set, Nat.add_zero]

theorem exec_pstore32_pair (Γ : List Ptr) (env : List Int) (s r : Nat) (mem : Mem) (A : Array Int) (j : Nat)
    (i0 e0 i1 e1 : Expr) (v0 v1 : Int) (f : Nat) (hr : r < mem.size) (hj : j < A.size)
    (hp1 : lget env s = (r : Int)) (hp2 : lget env (s + 1) = ((0 : Nat) : Int))
    (hi0 : eval Γ ⟨env, mem.setIfInBounds r A⟩ i0 = .ok ((2 * j : Nat) : Int))
    (he0 : eval Γ ⟨env, mem.setIfInBounds r A⟩ e0 = .ok v0)
    (hi1 : eval Γ ⟨env, mem.setIfInBounds r (A.setIfInBounds j (setHalf32 (A.getD j 0) 0 v0))⟩ i1
      = .ok ((2 * j + 1 : Nat) : Int))
    (he1 : eval Γ ⟨env, mem.setIfInBounds r (A.setIfInBounds j (setHalf32 (A.getD j 0) 0 v0))⟩ e1 = .ok v1) :
    exec Γ (.seq (.pstore32 (.pvar s) i0 e0) (.pstore32 (.pvar s) i1 e1)) f ⟨env, mem.setIfInBounds r A⟩
      = .ok (.norm, ⟨env, mem.setIfInBounds r
          (A.setIfInBounds j (v0 % 4294967296 + (v1 % 4294967296) * 4294967296))⟩) := by
  have hsz : j < (A.setIfInBounds j (setHalf32 (A.getD j 0) 0 v0)).size := by simp; exact hj
  rw [exec_seq, exec_pstore32, hi0, he0]
  simp only [R.bind_ok, natCast_not_neg, if_false, even_div2, even_mod2]
  rw [ptrAt_pvar_nat Γ env s r 0 j _ rfl hp1 hp2]
  simp only [R.bind_ok, Nat.zero_add]
  rw [pload_self mem r A j hr hj]
  simp only [R.bind_ok]
  rw [pstore_self mem r A j _ hr hj]
  simp only [R.bind_ok, seqK_norm]
  rw [exec_pstore32, hi1, he1]
  simp only [R.bind_ok, natCast_not_neg, if_false, odd_div2, odd_mod2]
  rw [ptrAt_pvar_nat Γ env s r 0 j _ rfl hp1 hp2]
  simp only [R.bind_ok, Nat.zero_add]
  rw [pload_self mem r _ j hr hsz]
  simp only [R.bind_ok]
  rw [pstore_self mem r _ j _ hr hsz]
  simp only [R.bind_ok]
  congr 4
  have hg : (A.setIfInBounds j (setHalf32 (A.getD j 0) 0 v0)).getD j 0 = setHalf32 (A.getD j 0) 0 v0 := by
    simp [Array.getD, hj]
  rw [hg, setHalf32_pair]
  simp
end Spq.CIR

namespace Spq.CIR
open Spq Spq.Q120
theorem seqK_assoc (x : Out) (k1 k2 : State → Out) :
    seqK (seqK x k1) k2 = seqK x (fun σ => seqK (k1 σ) k2) := by
  cases x with
  | err e => rfl
  | ok p => obtain ⟨fl, σ⟩ := p; cases fl <;> rfl
theorem exec_seq_assoc (Γ : List Ptr) (a b c : Stmt) (f : Nat) (σ : State) :
    exec Γ (.seq a (.seq b c)) f σ = exec Γ (.seq (.seq a b) c) f σ := by
  simp only [exec_seq, seqK_assoc]
  rfl

/-- the memory between the two half stores into cell `j` of the result buffer -/
def midMem (m : Mem) (r : Nat) (g : Nat → Int) (j : Nat) (v0 : Int) : Mem :=
  m.setIfInBounds r ((fillTo (buf m r) g j).setIfInBounds j (setHalf32 ((buf m r).getD j 0) 0 v0))

theorem size_pos_lt (m : Mem) (r j : Nat) (hj : j < (buf m r).size) : r < m.size := by
  by_cases h : r < m.size
  · exact h
  · simp [buf, Array.getD, h] at hj

theorem pair32_fill (Γ : List Ptr) (env : List Int) (s r : Nat) (mem : Mem) (g : Nat → Int) (j : Nat)
    (i0 e0 i1 e1 : Expr) (v0 v1 : Int) (f : Nat) (hj : j < (buf mem r).size)
    (hp1 : lget env s = (r : Int)) (hp2 : lget env (s + 1) = ((0 : Nat) : Int))
    (hi0 : eval Γ ⟨env, fillMem mem r g j⟩ i0 = .ok ((2 * j : Nat) : Int))
    (he0 : eval Γ ⟨env, fillMem mem r g j⟩ e0 = .ok v0)
    (hi1 : eval Γ ⟨env, midMem mem r g j v0⟩ i1 = .ok ((2 * j + 1 : Nat) : Int))
    (he1 : eval Γ ⟨env, midMem mem r g j v0⟩ e1 = .ok v1)
    (hg : v0 % 4294967296 + (v1 % 4294967296) * 4294967296 = g j) :
    exec Γ (.seq (.pstore32 (.pvar s) i0 e0) (.pstore32 (.pvar s) i1 e1)) f ⟨env, fillMem mem r g j⟩
      = .ok (.norm, ⟨env, fillMem mem r g (j + 1)⟩) := by
  have hr := size_pos_lt mem r j hj
  have hA : (fillTo (buf mem r) g j).getD j 0 = (buf mem r).getD j 0 := by
    rw [getD_fillTo]; simp
  have := exec_pstore32_pair Γ env s r mem (fillTo (buf mem r) g j) j i0 e0 i1 e1 v0 v1 f hr
    (by simpa using hj) hp1 hp2 hi0 he0 (by rw [hA]; exact hi1) (by rw [hA]; exact he1)
  rw [this, hg, fillTo_step _ _ _ _ rfl]

/-- reading cell `j` of any buffer between the two half stores -/
theorem pload_mid (m : Mem) (r b : Nat) (g : Nat → Int) (j : Nat) (v0 : Int)
    (hb : j < (buf m b).size) (hj : j < (buf m r).size) :
    loadCell (midMem m r g j v0) (some (b, j)) 0
      = .ok (if b = r then setHalf32 ((buf m r).getD j 0) 0 v0 else (buf m b).getD j 0) := by
  have hr := size_pos_lt m r j hj
  by_cases h : b = r
  · subst h
    simp only [if_true, midMem]
    rw [pload_self m b _ j hr (by simpa using hj)]
    simp [Array.getD, hj]
  · simp only [h, if_false, midMem]
    exact pload_other m r b _ j h hb

theorem half32_mid_hi (c v : Int) : half32 (setHalf32 c 0 v) 1 = half32 c 1 := by
  have h1 : ((1 : Int) = 0) = False := by decide
  simp only [setHalf32, half32, if_true, h1, if_false]
  omega
theorem half32_mid_hi_ite (p : Prop) [Decidable p] (c c' v : Int) (h : p → c = c') :
    half32 (if p then setHalf32 c 0 v else c') 1 = half32 c' 1 := by
  by_cases hp : p
  · simp only [hp, if_true, half32_mid_hi, h hp]
  · simp only [hp, if_false]
theorem half32_mid_lo_ite (c c' v : Int) : half32 (if True then setHalf32 c 0 v else c') 0 = v % 4294967296 := by
  simp only [if_true, half32_setHalf32_lo]

/-- the two uint32 words of a packed cell -/
theorem half32_pack_lo (a b : Nat) (ha : a < 4294967296) :
    half32 ((a + 4294967296 * b : Nat) : Int) 0 = (a : Int) := by
  rw [half32_lo]; congr 1; omega
theorem half32_pack_hi (a b : Nat) (ha : a < 4294967296) (hb : b < 4294967296) :
    half32 ((a + 4294967296 * b : Nat) : Int) 1 = (b : Int) := by
  rw [half32_hi _ (by omega)]; congr 1; omega
end Spq.CIR

namespace Spq.Src
/-- a uint32 array (layout c) as 64-bit cells, little endian: cell `c` = word `2c` + 2^32 · word `2c+1` -/
def packW (W : Array Nat) : Array Nat :=
  Array.ofFn (n := W.size / 2) fun c => W.getD (2 * c.val) 0 + 4294967296 * W.getD (2 * c.val + 1) 0
theorem size_packW (W : Array Nat) : (packW W).size = W.size / 2 := by simp [packW]
theorem getD_packW (W : Array Nat) (c : Nat) (h : c < W.size / 2) :
    (packW W).getD c 0 = W.getD (2 * c) 0 + 4294967296 * W.getD (2 * c + 1) 0 := by
  simp [packW, Array.getD, h]
end Spq.Src
