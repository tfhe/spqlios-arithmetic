/-
  Non-vacuity witness (C02Err): the accumulation flags of the vector-matrix product (`vmpFlagD` on any DFT-space
  operand; `vmpFlag` = the case of a computed transform) from an evaluated Boolean run (`pOkB`, `vmpFlagBD`; every
  `k ≥ 2`, i.e. the reim4 layout `nn ≥ 8`, every shape): `VmpErr.cell_sim` between the two flagged modules.
-/
import SpqProofs.Lemmas.ErrWitnessXfer
import SpqProofs.Lemmas.VmpErrOvf10
import SpqProofs.Lemmas.ProgErr2Cell
namespace Spq.ErrWitness
open Finset Spq Spq.Module Spq.Fft Spq.Fft.Alg Spq.FftErr Spq.F64 Spq.Reim4 Spq.ProdErr Spq.VmpErr Spq.ProgErr2

/-- the flagged module with Boolean flags (prepared matrix = lifted bit-level DFTs of the entries) -/
def pOkB (c : Cfg) : Parts (ℕ × Bool) :=
  mkParts arithOkB c.nn c.mulFma c.addmulFma c.vmpAvx (fun x => ((Cfg.parts c).fft ((Cfg.parts c).fromZnx x)).map liftB)

/-- Boolean flag of output cell `p` of the vector-matrix product -/
def vmpFlagB (c : Cfg) (mat : Array Int) (nrows ncols : ℕ) (a : Array Int) (asz asl rsz p : ℕ) : Bool :=
  ((vmpApplyDftToDft (pOkB c) rsz ((vecDft (Cfg.parts c) (min nrows asz) a asz asl).map liftB) asz
    (vmpPrepare (pOkB c) mat nrows ncols) nrows ncols).getD p arithOkB.zero).2

theorem matDft_pOkB (c : Cfg) (mat : Array Int) (ncols i j : ℕ) :
    matDft (pOkB c) mat ncols i j = (matDft (Cfg.parts c) mat ncols i j).map liftB := rfl

/-- Boolean flag of output cell `p` of `vmp_apply_dft_to_dft` on an arbitrary DFT-space operand -/
def vmpFlagBD (c : Cfg) (mat : Array Int) (nrows ncols : ℕ) (adft : Array ℕ) (asz rsz p : ℕ) : Bool :=
  ((vmpApplyDftToDft (pOkB c) rsz (adft.map liftB) asz
    (vmpPrepare (pOkB c) mat nrows ncols) nrows ncols).getD p arithOkB.zero).2

theorem vmp_flagD_of_bool (c : Cfg) (k : ℕ) (hk2 : 2 ≤ k) (cN sN cNi sNi : ℕ → ℕ) (h : VCfgOk c k cN sN cNi sNi)
    (mat : Array Int) (nrows ncols : ℕ) (adft : Array ℕ) (asz rsz : ℕ) (j p : ℕ) (hj : j < min ncols rsz)
    (hp : p < 2 * 2 ^ k) (hb : vmpFlagBD c mat nrows ncols adft asz rsz (j * (2 * 2 ^ k) + p) = true) :
    vmpFlagD c mat nrows ncols adft asz rsz (j * (2 * 2 ^ k) + p) := by
  have hnn := p_nn c k cN sN cNi sNi h
  have hm := parts_m c k h.cfg.nn
  have h8 : ¬ (Cfg.parts c).nn < 8 := by
    rw [hnn]
    have : 2 ^ 2 ≤ 2 ^ k := Nat.pow_le_pow_right (by norm_num) hk2
    omega
  have C := fun t (ht : t < 2 ^ k) => cell_sim (pOkB c) (pOk c) arithOkB_sim rfl rfl (p_hnn c k cN sN cNi sNi h)
    (p_hblk c k cN sN cNi sNi h) (p_hsm c k cN sN cNi sNi h) (p_hsm c k cN sN cNi sNi h) mat nrows ncols rsz asz
    (adft.map liftB) (adft.map lift) (fun hlt => absurd hlt h8) (fun hlt => absurd hlt h8) j t hj
    (by show t < (Cfg.parts c).m; rw [hm]; exact ht) (fun hlt => absurd hlt h8) (fun _ _ _ _ => getD_RB adft _)
    (fun i _ u _ => getD_RB (matDft (Cfg.parts c) mat ncols i j) u)
  unfold vmpFlagD
  unfold vmpFlagBD at hb
  by_cases hlt : p < 2 ^ k
  · have := (C p hlt).1.2
    rw [show (pOkB c).nn = 2 * 2 ^ k from hnn] at this
    exact this hb
  · obtain ⟨t, rfl⟩ : ∃ t, p = t + 2 ^ k := ⟨p - 2 ^ k, by omega⟩
    have := (C t (by omega)).2.2
    rw [show (pOkB c).nn = 2 * 2 ^ k from hnn, show (pOkB c).m = 2 ^ k from hm] at this
    rw [← Nat.add_assoc] at hb ⊢
    exact this hb

theorem vmp_flag_of_bool (c : Cfg) (k : ℕ) (hk2 : 2 ≤ k) (cN sN cNi sNi : ℕ → ℕ) (h : VCfgOk c k cN sN cNi sNi)
    (mat : Array Int) (nrows ncols : ℕ) (a : Array Int) (asz asl rsz : ℕ) (j p : ℕ) (hj : j < min ncols rsz)
    (hp : p < 2 * 2 ^ k) (hb : vmpFlagB c mat nrows ncols a asz asl rsz (j * (2 * 2 ^ k) + p) = true) :
    vmpFlag c mat nrows ncols a asz asl rsz (j * (2 * 2 ^ k) + p) :=
  vmp_flagD_of_bool c k hk2 cN sN cNi sNi h mat nrows ncols (vecDft (Cfg.parts c) (min nrows asz) a asz asl) asz rsz j p
    hj hp hb

def vmpFlagsB (c : Cfg) (k : ℕ) (mat : Array Int) (nrows ncols : ℕ) (a : Array Int) (asz asl rsz j : ℕ) : Bool :=
  (List.range (2 * 2 ^ k)).all fun p => vmpFlagB c mat nrows ncols a asz asl rsz (j * (2 * 2 ^ k) + p)

theorem vmp_flags_of_all (c : Cfg) (k : ℕ) (hk2 : 2 ≤ k) (cN sN cNi sNi : ℕ → ℕ) (h : VCfgOk c k cN sN cNi sNi)
    (mat : Array Int) (nrows ncols : ℕ) (a : Array Int) (asz asl rsz : ℕ) (j : ℕ) (hj : j < min ncols rsz)
    (hb : vmpFlagsB c k mat nrows ncols a asz asl rsz j = true) :
    ∀ p, p < 2 * 2 ^ k → vmpFlag c mat nrows ncols a asz asl rsz (j * (2 * 2 ^ k) + p) :=
  fun p hp => vmp_flag_of_bool c k hk2 cN sN cNi sNi h mat nrows ncols a asz asl rsz j p hj hp (all_range hb p hp)

end Spq.ErrWitness
