/-
  For `Properties/BridgeFft.lean`: `toPoly` of sums and of the integer arrays `Spq.nmul`, `Spq.isum`.
-/
import SpqProofs.Lemmas.BridgeArr
import SpqProofs.Lemmas.ClosedPoly

namespace Spq.Bridge
open Polynomial Finset

variable {R : Type} [CommRing R]

theorem toPoly_sum (N n : Nat) (f : Nat → Nat → R) :
    toPoly N (fun k => ∑ i ∈ range n, f i k) = ∑ i ∈ range n, toPoly N (f i) := by
  unfold toPoly
  rw [sum_comm]
  apply sum_congr rfl; intro k _
  rw [map_sum, sum_mul]

theorem ofArr_eq_icoef (a : Array Int) : ofArr a = Spq.icoef a := rfl

theorem toPoly_ofArr_nmul (N : Nat) (a b : Array Int) :
    toPoly N (ofArr (Spq.nmul N a b)) = toPoly N (Spq.nmulF N (ofArr a) (ofArr b)) :=
  toPoly_congr N _ _ (fun k hk => Spq.icoef_nmul N a b k hk)

theorem toPoly_ofArr_isum (N n : Nat) (f : Nat → Array Int) :
    toPoly N (ofArr (Spq.isum N n f)) = ∑ i ∈ range n, toPoly N (ofArr (f i)) := by
  rw [← toPoly_sum]
  exact toPoly_congr N _ _ (fun k hk => Spq.icoef_isum N n f k hk)

end Spq.Bridge
