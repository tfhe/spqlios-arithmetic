/-
  `vec_znx_normalize_base2k_ref` (generated term) on an arena: early returns, carry-only pass, normalising pass,
  last limb, zero extension, against the normal form `normalize_nf` of the heap model (one downward pass with the
  uniform step `nstep`).  Fuel-indexed form; `Properties/SrcVecNorm.lean` states the fuel-independent theorem.
-/
import SpqProofs.Lemmas.SrcNormVecStep
import SpqProofs.Lemmas.SrcVecLoop
import SpqProofs.Lemmas.SrcVecKern
import SpqProofs.Lemmas.SrcFuel
namespace Spq.CIR
open Spq Spq.Heap Spq.Norm

/-- `(int64_t)(n - 1)` for `0 < n < 2^63` -/
theorem wrapS_pred (n : Nat) (h0 : n ≠ 0) (h : n < 9223372036854775808) :
    wrapS (((n : Int) - 1 % 18446744073709551616) % 18446744073709551616) = ((n - 1 : Nat) : Int) := by
  simp only [wrapS]; omega

/-- `i - 1` on `int64_t` for `1 ≤ i < 2^63` -/
theorem subS_one (i : Nat) (h1 : 1 ≤ i) (h2 : i < 9223372036854775808) : subS (i : Int) 1 = ((i - 1 : Nat) : Int) := by
  simp only [subS, wrapS]; omega

/-- `(uint64_t)i >= n` on a counter `i < 2^63` -/
theorem ge_u64_of_le (i n : Nat) (h : n ≤ i) (hi : i < 9223372036854775808) :
    ((i : Nat) : Int) % 18446744073709551616 ≥ (n : Int) := by omega
theorem not_ge_u64_of_lt (i n : Nat) (h : i < n) (hi : i < 9223372036854775808) :
    ¬ ((i : Nat) : Int) % 18446744073709551616 ≥ (n : Int) := by omega

theorem normalize_wrapper_run (nn k rsz rsl asz asl res a t : Nat)
    (hnn : nn < 2305843009213693952) (hk1 : 1 ≤ k) (hk2 : k ≤ 63)
    (hrsz : rsz < 9223372036854775808) (hasz : asz < 9223372036854775808)
    (m0 : Mem) (B : Nat) (hB : B < m0.size) (X : Array Int) (hX : X.size < 18446744073709551616)
    (hA : ∀ i, i < min rsz asz → SameOrDisj nn (res + i * rsl) (a + i * asl))
    (hTr : ∀ i, i < rsz → res + i * rsl + nn ≤ t ∨ t + nn ≤ res + i * rsl)
    (hTa : ∀ i, i < asz → a + i * asl + nn ≤ t ∨ t + nn ≤ a + i * asl)
    (hT : t + nn ≤ X.size)
    (hok : (VecZnx.normalize nn k ⟨X, true⟩ res rsz rsl a asz asl).ok = true) :
    ∀ fuel, asz + rsz + nn ≤ fuel →
      ∃ C : Array Int, C.size = nn ∧
        run fuel Gen.CSrc.vec_znx_normalize_base2k_ref
            [(nn : Int), (k : Int), (rsz : Int), (rsl : Int), (asz : Int), (asl : Int)]
            [some (B, res), some (B, a), some (B, t)] (m0.setIfInBounds B X)
          = .ok (m0.setIfInBounds B
              (Heap.writeArr (VecZnx.normalize nn k ⟨X, true⟩ res rsz rsl a asz asl).mem t C)) := by
  intro fuel hf
  have hnn64 : nn < 18446744073709551616 := Nat.lt_trans hnn (by decide)
  cir_enter Gen.CSrc.vec_znx_normalize_base2k_ref
  cir_simp
  have e0 : (0 : Int) % 18446744073709551616 = 0 := by decide
  simp only [e0]
  by_cases hr0 : rsz = 0
  · -- nothing to write
    subst hr0
    refine ⟨win X t nn, by simp, ?_⟩
    have hd : decide (((0 : Nat) : Int) = 0) = true := by decide
    simp only [hd, if_true]
    cir_simp
    rw [memOf_ok]
    simp only [VecZnx.normalize, if_true]
    rw [writeArr_win_self X t nn hT]
  have hd0 : decide ((rsz : Int) = 0) = false := decide_eq_false (by omega)
  simp only [hd0, Bool.false_eq_true, if_false]
  cir_simp
  simp only [e0]
  by_cases ha0 : asz = 0
  · subst ha0
    have hd : decide (((0 : Nat) : Int) = 0) = true := by decide
    simp only [hd, if_true]
    let F : Nat → Heap Int → Heap Int := fun i => limb0 (Coeffs.zero i64Ops nn) (res + i * rsl)
    have hsz : ∀ k, (forLimbs 0 k F ⟨X, true⟩).mem.size = X.size := fun k =>
      (Src.Good.forLimbs 0 k fun _ => Src.good_limb0 _ _).size _
    have hm : VecZnx.normalize nn k ⟨X, true⟩ res rsz rsl a 0 asl = forLimbs 0 rsz F ⟨X, true⟩ := by
      simp only [VecZnx.normalize, if_neg hr0, if_true]; rfl
    rw [hm] at hok ⊢
    refine ⟨win (forLimbs 0 rsz F ⟨X, true⟩).mem t nn, by simp, ?_⟩
    rw [writeArr_win_self _ t nn (by rw [hsz]; exact hT)]
    rw [for_limb0 m0 B nn res rsl ⟨X, true⟩ 0 rsz 0 hX (Nat.zero_le _) (Nat.lt_trans hrsz (by decide)) _ (size_kzero nn)
      (fun X ro hr f _ => arena_zero m0 B hB X nn hnn ro hr f) hok rfl (fun _ => rfl) (fun _ => rfl) (fun _ => rfl) (fun _ => rfl)
      (fun _ _ => rfl) fuel (fuel_le0 (Nat.le_add_left rsz 0) hf)]
    cir_simp
    rfl
  have hda0 : decide ((asz : Int) = 0) = false := decide_eq_false (by omega)
  simp only [hda0, Bool.false_eq_true, if_false]
  cir_simp
  have pp2 : ∀ env, ptrAt [some (B, res), some (B, a), some (B, t)] env (.param 2) 0 = .ok (some (B, t)) :=
    fun env => by have := ptrAt_param [some (B, res), some (B, a), some (B, t)] env 2 B t 0 rfl; simpa using this
  repeat (first | cir_simp | simp only [pp2, ptrAt_null, encPtr_some, encPtr_none])
  rw [wrapS_pred asz ha0 hasz]
  -- the model: one downward pass with the uniform step
  have hnf := normalize_nf nn k ⟨X, true⟩ res rsz rsl a asz asl hr0 ha0
  rw [foldl_reverse_range', Nat.zero_add] at hnf
  change _ = forLimbs asz rsz _ (nT nn k res rsz rsl a asz asl X asz).1 at hnf
  let F : Nat → Heap Int → Heap Int := fun i => limb0 (Coeffs.zero i64Ops nn) (res + i * rsl)
  have hF : ∀ i, Src.Good (F i) := fun _ => Src.good_limb0 _ _
  rw [hnf] at hok ⊢
  have hokN : (nT nn k res rsz rsl a asz asl X asz).1.ok = true := by
    by_cases hle : asz ≤ rsz
    · have := Src.forLimbs_ok_prefix hF asz _ rsz hle hok asz (Nat.le_refl _) hle
      rwa [Heap.forLimbs_self] at this
    · have e : forLimbs asz rsz F (nT nn k res rsz rsl a asz asl X asz).1 = (nT nn k res rsz rsl a asz asl X asz).1 := by
        simp [forLimbs, show rsz - asz = 0 by omega]
      rw [e] at hok; exact hok
  have hokd : ∀ d, d ≤ asz → (nT nn k res rsz rsl a asz asl X d).1.ok = true :=
    seqD_ok _ (fun st i h => (nstep_ok _ _ _ _ _ _ _ _ _ h).1) _ _ asz hokN
  let S : Nat → State := fun d =>
    ⟨nEnv nn k rsz rsl asz asl B t d ((asz - 1 - d : Nat) : Int),
      m0.setIfInBounds B (scr t (nT nn k res rsz rsl a asz asl X d))⟩
  -- the counter `i = asz - 1 - d`: below `2^63` throughout, at least `rsz` in the first pass and at least 1 in the
  -- second.  What is still left to `omega` gets only the hypotheses it depends on: in the full context each call
  -- costs about 1 M heartbeats.
  have hi63 : ∀ d, asz - 1 - d < 9223372036854775808 := fun d =>
    Nat.lt_of_le_of_lt (Nat.le_trans (Nat.sub_le _ _) (Nat.sub_le _ _)) hasz
  have hi1 : ∀ d, d < asz - rsz → rsz ≤ asz - 1 - d := fun d hd => by clear * - hd; omega
  have hi2 : ∀ d, d < asz - 1 → 1 ≤ asz - 1 - d := fun d hd => by clear * - hd; omega
  -- carry-only pass over the limbs i = asz-1 .. rsz
  rw [exec_for_range _ _ _ _ _ _ S 0 (asz - rsz) nn (Nat.zero_le _) ?hi0 ?hc ?hs ?hx fuel
    (fuel_le (Nat.le_trans (Nat.sub_le asz rsz) (Nat.le_add_right asz rsz)) hf)]
  case hi0 => intro f; rfl
  case hc =>
    intro d _ hd
    simp only [S, nEnv]
    cir_simp
    exact ok_decide_true (ge_u64_of_le _ _ (hi1 d hd) (hi63 d))
  case hx =>
    simp only [S, nEnv]
    cir_simp
    exact ok_decide_false (not_ge_u64_of_lt _ _ (by clear * - hr0; omega) (hi63 _))
  case hs =>
    intro d _ hd f hf'
    refine (congrArg (fun x => thenStep x _) (norm_step1 nn k rsz rsl asz asl res a t m0 B hB X hnn64 hk1 hk2 hasz hX
      hTa hT d (Nat.lt_of_lt_of_le hd (Nat.sub_le _ _)) (hi1 d hd)
      (hokd (d + 1) (Nat.le_trans hd (Nat.sub_le _ _))) f hf')).trans ?_
    simp only [S, nEnv]
    cir_simp
    rw [subS_one _ (Nat.le_trans (Nat.pos_of_ne_zero hr0) (hi1 d hd)) (hi63 d)]
    rfl
  cir_simp
  -- normalising pass over the limbs i = min(rsz, asz)-1 .. 1
  have ew1 : wrapS 1 = 1 := by decide
  rw [exec_for_range _ _ _ _ _ _ S (asz - rsz) (asz - 1) nn (by clear * - hr0; omega) ?hi0 ?hc ?hs ?hx fuel
    (fuel_le (Nat.le_trans (Nat.sub_le asz 1) (Nat.le_add_right asz rsz)) hf)]
  case hi0 => intro f; rfl
  case hc =>
    intro d _ hd
    simp only [S, nEnv]
    cir_simp
    rw [ew1]
    exact ok_decide_true (Int.ofNat_le.mpr (hi2 d hd))
  case hx =>
    simp only [S, nEnv]
    cir_simp
    rw [ew1, Nat.sub_self]
    exact ok_decide_false (by decide)
  case hs =>
    intro d hlo hd f hf'
    refine (congrArg (fun x => thenStep x _) (norm_step2 nn k rsz rsl asz asl res a t m0 B hB X hnn64 hk1 hk2 hasz hX
      hA hTr hTa hT d (Nat.lt_of_lt_of_le hd (Nat.sub_le _ _)) (by clear * - hlo hd hr0; omega)
      (hokd (d + 1) (Nat.le_trans hd (Nat.sub_le _ _))) f hf')).trans ?_
    simp only [S, nEnv]
    cir_simp
    rw [subS_one _ (hi2 d hd) (hi63 d)]
    rfl
  simp only [seqK_norm, exec_seq]
  -- last limb (i = 0): no carry out, the scratch keeps the previous carry
  have hinvN := nT_inv nn k res rsz rsl a asz asl X asz
  have hinvP := nT_inv nn k res rsz rsl a asz asl X (asz - 1)
  obtain ⟨C, hC, hLA⟩ : ∃ C : Array Int, C.size = nn ∧
      lastArena t (nT nn k res rsz rsl a asz asl X (asz - 1)) (nT nn k res rsz rsl a asz asl X asz)
        = writeArr (nT nn k res rsz rsl a asz asl X asz).1.mem t C := by
    cases h2 : (nT nn k res rsz rsl a asz asl X (asz - 1)).2 with
    | none =>
      exact ⟨win (nT nn k res rsz rsl a asz asl X asz).1.mem t nn, by simp, by
        rw [lastArena_none t _ _ h2, writeArr_win_self _ t nn (by rw [hinvN.size]; exact hT)]⟩
    | some c => exact ⟨c, hinvP.csize c h2, lastArena_some t _ _ c h2⟩
  refine ⟨C, hC, ?_⟩
  have hS : S (asz - 1) = ⟨nEnv nn k rsz rsl asz asl B t (asz - 1) 0,
      m0.setIfInBounds B (scr t (nT nn k res rsz rsl a asz asl X (asz - 1)))⟩ := by
    simp only [S]; rw [Nat.sub_self]; rfl
  rw [hS]
  refine (congrArg (fun x => memOf (seqK x _)) (norm_last nn k rsz rsl asz asl res a t m0 B hB X hnn64 hk1 hk2
    (Nat.pos_of_ne_zero hr0) (Nat.pos_of_ne_zero ha0) hA hTr hTa hT hokN fuel (Nat.le_trans (Nat.le_add_left nn _) hf))).trans ?_
  simp only [seqK_norm]
  rw [hLA]
  -- zero extension of the limbs asz .. rsz-1
  by_cases hle : asz ≤ rsz
  · obtain ⟨dd, hdd⟩ : ∃ dd, rsz = asz + dd := ⟨rsz - asz, (Nat.add_sub_of_le hle).symm⟩
    have hzs := forLimbs_zero_scratch nn res rsl t C hC asz (nT nn k res rsz rsl a asz asl X asz).1 dd
      (fun i _ h2 => hTr i (hdd ▸ h2))
    rw [← hdd] at hzs
    change (forLimbs asz rsz F _).mem = writeArr (forLimbs asz rsz F _).mem t C ∧ _ at hzs
    simp only [nEnv]
    rw [for_limb0 m0 B nn res rsl ⟨writeArr (nT nn k res rsz rsl a asz asl X asz).1.mem t C,
        (nT nn k res rsz rsl a asz asl X asz).1.ok⟩ asz rsz 0 (by show (writeArr _ t C).size < _; rw [size_writeArr, hinvN.size]; exact hX) hle (Nat.lt_trans hrsz (by decide)) _
      (size_kzero nn) (fun X ro hr f _ => arena_zero m0 B hB X nn hnn ro hr f) (by rw [hzs.2]; exact hok) rfl
      (fun _ => rfl) (fun _ => rfl) (fun _ => rfl) (fun _ => rfl) (fun _ _ => rfl) fuel (fuel_le0 (Nat.le_add_left rsz asz) hf)]
    rw [memOf_ok, hzs.1]
  · have e : forLimbs asz rsz F (nT nn k res rsz rsl a asz asl X asz).1 = (nT nn k res rsz rsl a asz asl X asz).1 := by
      simp [forLimbs, show rsz - asz = 0 by omega]
    change _ = R.ok (m0.setIfInBounds B (writeArr (forLimbs asz rsz F _).mem t C))
    rw [e]
    simp only [nEnv]
    rw [exec_for_range _ _ _ _ _ _ (fun _ => ⟨lset [(nn : Int), (k : Int), (rsz : Int), (rsl : Int), (asz : Int),
        (asl : Int), (nn : Int), 0, (B : Int), (t : Int), if asz - 1 = 0 then -1 else (B : Int),
        if asz - 1 = 0 then 0 else (t : Int), 0, 0] 13 (asz : Int),
        m0.setIfInBounds B (writeArr (nT nn k res rsz rsl a asz asl X asz).1.mem t C)⟩) 0 0 0 (Nat.le_refl _)
      ?hi0 ?hc ?hs ?hx fuel (Nat.zero_le _)]
    · rfl
    case hi0 => intro f; rfl
    case hc => intro d _ h2; exact absurd h2 (Nat.not_lt_zero d)
    case hs => intro d _ h2; exact absurd h2 (Nat.not_lt_zero d)
    case hx =>
      cir_simp
      exact ok_decide_false (by clear * - hle hasz hrsz; omega)

/-- the scratch content after the run does not depend on the fuel -/
theorem normalize_wrapper_run' (nn k rsz rsl asz asl res a t : Nat)
    (hnn : nn < 2305843009213693952) (hk1 : 1 ≤ k) (hk2 : k ≤ 63)
    (hrsz : rsz < 9223372036854775808) (hasz : asz < 9223372036854775808)
    (m0 : Mem) (B : Nat) (hB : B < m0.size) (X : Array Int) (hX : X.size < 18446744073709551616)
    (hA : ∀ i, i < min rsz asz → SameOrDisj nn (res + i * rsl) (a + i * asl))
    (hTr : ∀ i, i < rsz → res + i * rsl + nn ≤ t ∨ t + nn ≤ res + i * rsl)
    (hTa : ∀ i, i < asz → a + i * asl + nn ≤ t ∨ t + nn ≤ a + i * asl)
    (hT : t + nn ≤ X.size)
    (hok : (VecZnx.normalize nn k ⟨X, true⟩ res rsz rsl a asz asl).ok = true) :
    ∃ C : Array Int, C.size = nn ∧ ∀ fuel, asz + rsz + nn ≤ fuel →
        run fuel Gen.CSrc.vec_znx_normalize_base2k_ref
            [(nn : Int), (k : Int), (rsz : Int), (rsl : Int), (asz : Int), (asl : Int)]
            [some (B, res), some (B, a), some (B, t)] (m0.setIfInBounds B X)
          = .ok (m0.setIfInBounds B
              (Heap.writeArr (VecZnx.normalize nn k ⟨X, true⟩ res rsz rsl a asz asl).mem t C)) := by
  obtain ⟨C, hC, h0⟩ := normalize_wrapper_run nn k rsz rsl asz asl res a t hnn hk1 hk2 hrsz hasz m0 B hB X hX hA hTr
    hTa hT hok (asz + rsz + nn) (Nat.le_refl _)
  refine ⟨C, hC, fun fuel hf => ?_⟩
  rw [run_mono _ _ _ _ (asz + rsz + nn) fuel hf (by rw [h0]; intro h; cases h), h0]
end Spq.CIR
