/-
  The out-of-place automorphism kernels (a scatter loop): the state of the model's fold after `k` steps, the loop
  over the cells of any family of memories (`aut_loop`), and the kernel on such cells at any element type
  (`automorphism_cells`).
-/
import Gen.CSrc
import Spq.Coeffs
import SpqProofs.Lemmas.SrcEval
import SpqProofs.Lemmas.SrcMask
import SpqProofs.Lemmas.SrcRotFill
namespace Spq.CIR

/-- the model's `(a, res)` after `k` iterations of the loop of `Coeffs.automorphism` -/
def autSt (o : Ops Int) (nn : Nat) (p : Int) (inp res0 : Array Int) (k : Nat) : Nat × Array Int :=
  (List.range k).foldl (Coeffs.automStep o nn p inp) (0, res0.setIfInBounds 0 (inp.getD 0 o.zero))

theorem autSt_zero (o : Ops Int) (nn : Nat) (p : Int) (inp res0 : Array Int) :
    autSt o nn p inp res0 0 = (0, res0.setIfInBounds 0 (inp.getD 0 o.zero)) := rfl

theorem autSt_succ (o : Ops Int) (nn : Nat) (p : Int) (inp res0 : Array Int) (k : Nat) :
    autSt o nn p inp res0 (k + 1) = Coeffs.automStep o nn p inp (autSt o nn p inp res0 k) k := by
  unfold autSt
  rw [List.range_succ, List.foldl_append]
  rfl

theorem automorphism_eq_autSt (o : Ops Int) (nn : Nat) (p : Int) (inp res0 : Array Int) :
    Coeffs.automorphism o nn p inp res0 = (autSt o nn p inp res0 (nn - 1)).2 := rfl

theorem autSt_size (o : Ops Int) (nn : Nat) (p : Int) (inp res0 : Array Int) (k : Nat) :
    (autSt o nn p inp res0 k).2.size = res0.size := by
  induction k with
  | zero => simp [autSt_zero]
  | succ k ih =>
    rw [autSt_succ]
    unfold Coeffs.automStep
    simp only
    split <;> simp [ih]

theorem autSt_lt (o : Ops Int) (nn : Nat) (hn : 0 < nn) (p : Int) (inp res0 : Array Int) (k : Nat) :
    (autSt o nn p inp res0 k).1 < 2 * nn := by
  cases k with
  | zero => simp [autSt_zero]; omega
  | succ k =>
    rw [autSt_succ]
    unfold Coeffs.automStep
    exact posMask_lt _ _ (by omega)

/-- `(a + p) & _2mn` with `_2mn` already known to be `2*nn-1` -/
theorem posmask_src2 (t : Nat) (ht : t ≤ 63) (nn : Nat) (hnn : nn = 2 ^ t) (a : Nat) (p : Int) :
    ((((a : Int) + p % 18446744073709551616) % 18446744073709551616).toNat &&& (2 * nn - 1))
      = posMask ((a : Int) + p) (2 * nn) := by
  have h := posmask_src' t ht nn hnn a p
  rw [mask_val nn (hnn ▸ one_le_pow2 t) (hnn ▸ pow_le_p63 t ht)] at h
  exact h

end Spq.CIR

namespace Spq.CIR
open Spq
/-- The scatter loop of the out-of-place automorphism, after the prologue: `a = (a + p) & _2mn`, then `res[a] = E1`
    or `res[a - nn] = E2`.  The int64 and the double kernel differ only in the stored expressions, which are
    variables here: `E1` must read `in[i]`, `E2` its negation at the element type.  The result is written to the cells
    of a family `M`; where the source `inp` lies is the business of `hE1`, `hE2`. -/
theorem aut_loop (o : Ops Int) (ho0 : o.zero = 0) (t : Nat) (ht : t ≤ 63) (nn : Nat) (hnn : nn = 2 ^ t) (p : Int)
    {M : Array Int → Mem} {Γ : List Ptr} (hC : Cells M (Γ.getD 0 none) nn) (inp X0 : Array Int) (hX0 : X0.size = nn)
    (E1 E2 : Expr)
    (hE1 : ∀ (a1 : Int) (k : Nat) X, X.size = nn → k < nn →
      eval Γ ⟨[(nn : Int), p, a1, ((2 * nn - 1 : Nat) : Int), (k : Int)], M X⟩ E1 = .ok (inp.getD k 0))
    (hE2 : ∀ (a1 : Int) (k : Nat) X, X.size = nn → k < nn →
      eval Γ ⟨[(nn : Int), p, a1, ((2 * nn - 1 : Nat) : Int), (k : Int)], M X⟩ E2 = .ok (o.neg (inp.getD k 0))) :
    ∀ fuel, nn ≤ fuel →
      memOf (exec Γ (.for (.assign 4 (.cast .u64 (.lit 1))) (.bin .lt .u64 (.var 4) (.var 0))
        (.assign 4 (.bin .add .u64 (.var 4) (.lit 1)))
        (.seq (.assign 2 (.bin .band .u64 (.bin .add .u64 (.var 2) (.cast .u64 (.var 1))) (.var 3)))
          (.ite (.bin .lt .u64 (.var 2) (.var 0)) (.store 0 (.var 2) E1)
            (.store 0 (.bin .sub .u64 (.var 2) (.var 0)) E2)))) fuel
        ⟨[(nn : Int), p, ((0 : Nat) : Int), ((2 * nn - 1 : Nat) : Int), 0],
          M (X0.setIfInBounds 0 (inp.getD 0 0))⟩)
      = .ok (M (Coeffs.automorphism o nn p inp X0)) := by
  intro fuel hf
  have hn1 : 1 ≤ nn := hnn ▸ one_le_pow2 t
  have hn2 : nn ≤ 9223372036854775808 := hnn ▸ pow_le_p63 t ht
  let st : Nat → Nat × Array Int := autSt o nn p inp X0
  refine Post.memOf _ _ _ (for_count ExtSem.none _ 4 _ _ _ _ (fun k σ => σ =
      ⟨[(nn : Int), p, ((st (k - 1)).1 : Int), ((2 * nn - 1 : Nat) : Int), (k : Int)],
        M (st (k - 1)).2⟩) 1 nn 0 hn1 (by omega) (by rfl) ?h0 ?hjs ?hhi ?hbody fuel (by omega))
    ?fin
  case fin => rintro σ rfl; rfl
  case h0 => simp only [st, Nat.sub_self, autSt_zero, ho0]; rfl
  case hjs => rintro k σ rfl; rfl
  case hhi => rintro k σ _ _ rfl; rfl
  case hbody =>
    rintro k σ hk1 hk rfl f _
    cir_simp
    rw [Int.toNat_natCast, posmask_src2 t ht nn hnn]
    have hst : st (k + 1 - 1) = Coeffs.automStep o nn p inp (st (k - 1)) (k - 1) := by
      have e : k + 1 - 1 = (k - 1) + 1 := by omega
      simp only [st]; rw [e, autSt_succ]
    rw [hst]
    simp only [Coeffs.automStep, Nat.sub_add_cancel hk1, ho0]
    have ha1 : posMask (((st (k - 1)).1 : Int) + p) (2 * nn) < 2 * nn := posMask_lt _ _ (by omega)
    generalize posMask (((st (k - 1)).1 : Int) + p) (2 * nn) = a1 at ha1 ⊢
    have hsz : (st (k - 1)).2.size = nn := by simp only [st]; rw [autSt_size]; exact hX0
    generalize (st (k - 1)).2 = X at hsz ⊢
    clear hf hst
    by_cases hlt : a1 < nn
    · simp only [Int.ofNat_lt, hlt, decide_true, if_true]
      rw [hE1 _ k _ hsz hk]; cir_simp
      rw [hC.store _ _ _ hsz hlt]
      refine ⟨_, rfl, ?_⟩
      exact ⟨rfl, rfl⟩
    · simp only [Int.ofNat_lt, hlt, decide_false, Bool.false_eq_true, if_false, sub_u64_nat a1 nn (by omega) (by omega)]
      rw [hE2 _ k _ hsz hk]; cir_simp
      rw [hC.store _ _ _ hsz (by omega)]
      refine ⟨_, rfl, ?_⟩
      exact ⟨rfl, rfl⟩

/-- the out-of-place automorphism, for a function whose body is the generated `int64_t` one moved to the element type
    `ty` (`Stmt.unAt`; both generated kernels are such functions, by `rfl`), with the result on the cells of any family in
    which the source cells `inp` are never written: the prologue (`res[0] = in[0]`, the mask), then `aut_loop` -/
theorem automorphism_cells {ty : Ty} {o : Ops Int} (ho : ElemOps ty o) (fn : Fn)
    (hfb : fn.body = Gen.CSrc.znx_automorphism_i64.body.unAt ty) (hfs : fn.nslots = 5) (t : Nat) (ht : t ≤ 63)
    (nn : Nat) (hnn : nn = 2 ^ t) (p : Int) {M : Array Int → Mem} {pr pa : Ptr} (hC : Cells M pr nn) (inp : Array Int)
    (hA : ∀ Y k, Y.size = nn → k < nn → loadCell (M Y) pa (k : Int) = .ok (inp.getD k 0)) (X : Array Int)
    (hX : X.size = nn) :
    ∀ fuel, nn ≤ fuel → run fuel fn [(nn : Int), p] [pr, pa] (M X) = .ok (M (Coeffs.automorphism o nn p inp X)) := by
  obtain ⟨name, sc, ps, ns, body, ret⟩ := fn
  subst hfb hfs
  intro fuel hf
  have hn1 : 1 ≤ nn := hnn ▸ one_le_pow2 t
  have hn2 : nn ≤ 9223372036854775808 := hnn ▸ pow_le_p63 t ht
  have hload : ∀ (a1 : Int) (k : Nat) Y, Y.size = nn → k < nn →
      eval [pr, pa] ⟨[(nn : Int), p, a1, ((2 * nn - 1 : Nat) : Int), (k : Int)], M Y⟩ (.load 1 (.var 4))
        = .ok (inp.getD k 0) := fun a1 k Y hY hk => by
    cir_simp
    rw [hA Y k hY hk]
  have hl0 : loadCell (M X) pa 0 = .ok (inp.getD 0 0) := hA X 0 hX hn1
  have hs0 : ∀ v, storeCell (M X) pr 0 v = .ok (M (X.setIfInBounds 0 v)) := fun v => hC.store X 0 v hX hn1
  dsimp only [run, Gen.CSrc.znx_automorphism_i64, Stmt.unAt, Expr.unAt, Ty.elemAt, List.length_cons, List.length_nil,
    List.replicate, List.cons_append, List.nil_append, Nat.reduceSub, Nat.reduceAdd]
  cir_simp
  rw [hl0]; cir_simp
  rw [hs0]; cir_simp
  have ez : (0 : Int) % 18446744073709551616 = ((0 : Nat) : Int) := by decide
  rw [mask_int nn hn1 hn2, ez]
  exact aut_loop _ ho.zero t ht nn hnn p (Γ := [pr, pa]) hC inp X hX _ _ hload
    (fun a1 k Y hY hk => eval_neg_elem ho (hload a1 k Y hY hk)) fuel hf

theorem znx_automorphism_cells (t : Nat) (ht : t ≤ 63) (nn : Nat) (hnn : nn = 2 ^ t) (p : Int) {M : Array Int → Mem}
    {pr pa : Ptr} (hC : Cells M pr nn) (inp : Array Int)
    (hA : ∀ Y k, Y.size = nn → k < nn → loadCell (M Y) pa (k : Int) = .ok (inp.getD k 0)) (X : Array Int)
    (hX : X.size = nn) :
    ∀ fuel, nn ≤ fuel →
      run fuel Gen.CSrc.znx_automorphism_i64 [(nn : Int), p] [pr, pa] (M X)
        = .ok (M (Coeffs.automorphism i64Ops nn p inp X)) :=
  automorphism_cells elem_i64 _ rfl rfl t ht nn hnn p hC inp hA X hX
end Spq.CIR
