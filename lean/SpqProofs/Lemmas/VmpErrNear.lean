/-
  C02 rounding budget: the accumulation of the vector-matrix product inside the invariant of `ProdErrNear`.
  `near_col`: one output column of the binary64 `vmp_apply_dft_to_dft` for an ARBITRARY DFT-space operand `adft` whose
  rows satisfy `Near C (limb_i adft) (P i) (δ i)`: the column is `Near` the exact column `Σ_i P_i ⊛ M[i][j]` with
  `δ = Σ_i rowF μ_n δ_i (ε·nb_i) na_i nb_i ‖P_i‖₁ ‖M_ij‖₁ m`, `μ_n = 3/2·γ(n)` (matrix entries: forward rule; cells:
  `cell_transfer_gen`; rows: Minkowski).  `Size.rows`: the exact side of the accumulation.
-/
import SpqProofs.Lemmas.ProgErr2Cell
set_option linter.unusedSectionVars false
namespace Spq.VmpErr
open Finset Spq Spq.Module Spq.Fft Spq.Fft.Alg Spq.FftErr Spq.F64 Spq.Reim4 Spq.ProdErr Spq.ProgErr2
variable {K : Type} [Field K] [LinearOrder K] [IsStrictOrderedRing K]

def muD (n : ℕ) : ℚ := 3 / 2 * gamD n

theorem muD_nonneg (n : ℕ) : 0 ≤ muD n := by unfold muD; have := gamD_nonneg n; positivity

theorem outC_getD (x : Array ℕ) (k t : ℕ) :
    (outC x k t : Cplx K) = ⟨((val (x.getD t 0) : ℚ) : K), ((val (x.getD (t + 2 ^ k) 0) : ℚ) : K)⟩ := by
  unfold outC toC
  rw [getElem!_nat, getElem!_nat, Nat.add_comm]

theorem _root_.Spq.ProdErr.Size.rows {C : Ctx K} {n : ℕ} {f : ℕ → Array Int} {S : ℕ → K}
    (h : ∀ i, i < n → Size C (f i) (S i)) : Size C (isum C.N n f) (∑ i ∈ range n, S i) := by
  refine Size.of_dft (sum_nonneg (fun i hi => (h i (mem_range.1 hi)).1)) ?_
  have := sum_tri_range (range (2 ^ C.k)) n (fun i j => V C.ζ (pkC (f i) (2 ^ C.k)) C.k 0 j) S (2 ^ C.k)
    (fun i hi => (h i hi).1) (fun i hi => (h i hi).dft)
  refine le_trans (le_of_eq ?_) this
  exact sum_congr rfl (fun j hj => by rw [V_isum C.k C.ζ C.hI n f j (mem_range.1 hj)])

end Spq.VmpErr
namespace Spq.ProgErr2
open Finset Spq Spq.Module Spq.Fft Spq.Fft.Alg Spq.FftErr Spq.F64 Spq.Reim4 Spq.ProdErr Spq.VmpErr
variable {K : Type} [Field K] [LinearOrder K] [IsStrictOrderedRing K]

/-- the exact column `Σ_{i<n} P_i ⊛ M[i][j]` in `ℤ[X]/(X^N + 1)` -/
def colSpecP (N : ℕ) (mat : Array Int) (ncols n : ℕ) (P : ℕ → Array Int) (j : ℕ) : Array Int :=
  isum N n (fun i => nmul N (P i) (matEntry mat ncols N i j))

end Spq.ProgErr2
namespace Spq.VmpErr
open Finset Spq Spq.Module Spq.Fft Spq.Fft.Alg Spq.FftErr Spq.F64 Spq.Reim4 Spq.ProdErr Spq.ProgErr2
variable {K : Type} [Field K] [LinearOrder K] [IsStrictOrderedRing K]

theorem vmpResD_size (c : Cfg) (k : ℕ) (cN sN cNi sNi : ℕ → ℕ) (h : VCfgOk c k cN sN cNi sNi)
    (mat : Array Int) (nrows ncols : ℕ) (adft : Array ℕ) (asz rsz : ℕ)
    (hM : ∀ i j, i < nrows → j < ncols → Box k (matEntry mat ncols (2 * 2 ^ k) i j)) :
    (vmpResD c mat nrows ncols adft asz rsz).size = rsz * (2 * 2 ^ k) := by
  obtain ⟨s, _⟩ := vmp_layout_g (Cfg.parts c) (p_hnn c k cN sN cNi sNi h) (p_hblk c k cN sN cNi sNi h)
    (p_hsm c k cN sN cNi sNi h) mat nrows ncols rsz asz adft
    (fun _ => matDft_size c k cN sN cNi sNi h mat nrows ncols hM)
  rw [p_nn c k cN sN cNi sNi h] at s
  exact s

theorem near_col (C : Ctx K) (h : VCfgOk C.c C.k C.cN C.sN C.cNi C.sNi) (mat : Array Int) (nrows ncols : ℕ)
    (adft : Array ℕ) (asz rsz : ℕ) (P : ℕ → Array Int) (δ : ℕ → K)
    (hrep : ∀ i, i < min nrows asz → Near C (dlimb adft i C.N) (P i) (δ i))
    (hM : ∀ i j, i < nrows → j < ncols → Box C.k (matEntry mat ncols C.N i j))
    (j : ℕ) (hj : j < min ncols rsz) (hpos : C.k < 2 → 0 < min nrows asz)
    (hokB : ∀ i, i < min nrows asz → FwdOk C.c C.k C.cN C.sN (matEntry mat ncols C.N i j))
    (hokD : ∀ p, p < C.N → vmpFlagD C.c mat nrows ncols adft asz rsz (j * C.N + p))
    (na nb : ℕ → K) (hna : ∀ i, i < min nrows asz → Size C (P i) (na i))
    (hnb : ∀ i, i < min nrows asz → Size C (matEntry mat ncols C.N i j) (nb i)) :
    Near C (dlimb (vmpResD C.c mat nrows ncols adft asz rsz) j C.N) (colSpecP C.N mat ncols (min nrows asz) P j)
      (∑ i ∈ range (min nrows asz), rowF ((muD (min nrows asz) : ℚ) : K) (δ i) (eps K C.k * nb i) (na i) (nb i)
        (n1 K (P i) C.N) (n1 K (matEntry mat ncols C.N i j) C.N) (2 ^ C.k)) := by
  obtain ⟨n, hn⟩ : ∃ n, n = min nrows asz := ⟨_, rfl⟩
  rw [← hn] at hrep hna hnb hokB
  have hnr : n ≤ nrows := by rw [hn]; exact Nat.min_le_left _ _
  have hjc : j < ncols := lt_of_lt_of_le hj (Nat.min_le_left _ _)
  have hjr : j < rsz := lt_of_lt_of_le hj (Nat.min_le_right _ _)
  have hδ0 : ∀ i, i < n → 0 ≤ δ i := fun i hi => (hrep i hi).1
  have hk2 : 2 ^ C.k + 2 ^ C.k = 2 * 2 ^ C.k := by ring
  have cells := fun t (ht : t < 2 ^ C.k) => cell_transfer_gen C.c C.k C.cN C.sN C.cNi C.sNi h mat nrows ncols adft asz rsz
    hM j t hj ht hpos
  have hfin : ∀ p, p < C.N → Fin64 ((vmpResD C.c mat nrows ncols adft asz rsz).getD (j * C.N + p) 0) := by
    intro p hp
    have hp' : p < 2 * 2 ^ C.k := hp
    by_cases hlt : p < 2 ^ C.k
    · exact ((cells p hlt).1 (hokD p hp)).1
    · obtain ⟨t, rfl⟩ : ∃ t, p = t + 2 ^ C.k := ⟨p - 2 ^ C.k, by omega⟩
      have := ((cells t (by omega)).2 (by rw [Nat.add_assoc]; exact hokD _ hp)).1
      rw [Nat.add_assoc] at this
      exact this
  have hM0 : (0 : K) ≤ 2 ^ C.k := by positivity
  have hμ : (0 : K) ≤ ((muD n : ℚ) : K) := by exact_mod_cast muD_nonneg n
  refine ⟨?_, ?_, ?_⟩
  · rw [← hn]
    exact sum_nonneg (fun i hi => rowF_nonneg hμ (hδ0 i (mem_range.1 hi))
      (mul_nonneg (eps_nonneg C.k) (hnb i (mem_range.1 hi)).1) (hna i (mem_range.1 hi)).1 (hnb i (mem_range.1 hi)).1
      (n1_nonneg _ _) (n1_nonneg _ _) hM0)
  · intro p hp
    rw [dlimb_get 0 _ j C.N p hp]
    exact hfin p hp
  have hM1 : (1 : K) ≤ 2 ^ C.k := one_le_pow₀ (by norm_num)
  have main := vmp_dft_abs (range (2 ^ C.k)) n
    (fun i t => V C.ζ (pkC (P i) (2 ^ C.k)) C.k 0 t)
    (fun i t => V C.ζ (pkC (matEntry mat ncols C.N i j) (2 ^ C.k)) C.k 0 t)
    (fun i t => outC (dlimb adft i C.N) C.k t)
    (fun i t => outC (stF C.c C.k C.cN C.sN (matEntry mat ncols C.N i j)) C.k t)
    (fun t => outC (dlimb (vmpResD C.c mat nrows ncols adft asz rsz) j C.N) C.k t)
    ((muD n : ℚ) : K) (2 ^ C.k) (2 ^ C.k) δ (fun i => eps K C.k * nb i) na nb
    (fun i => n1 K (P i) C.N) (fun i => n1 K (matEntry mat ncols C.N i j) C.N)
    hμ hM0 hM0 (le_self_pow₀ hM1 (by norm_num)) hδ0 (fun i hi => mul_nonneg (eps_nonneg C.k) (hnb i hi).1)
    (fun i hi => (hna i hi).1) (fun i hi => (hnb i hi).1) (fun i _ => n1_nonneg _ _) (fun i _ => n1_nonneg _ _)
    (fun i hi => (hrep i hi).2.2) (fun i hi => (hna i hi).dft)
    (fun i hi t ht => V_sup C.k C.ζ C.hζ C.hI _ t (mem_range.1 ht))
    (fun i hi => (near_fwd C _ (hM i j (by omega) hjc) (hokB i hi) (nb i) (hnb i hi)).2.2)
    (fun i hi => (hnb i hi).dft)
    (fun i hi t ht => V_sup C.k C.ζ C.hζ C.hI _ t (mem_range.1 ht))
    (by
      intro t ht
      have ht' := mem_range.1 ht
      obtain ⟨_, pr⟩ := (cells t ht').1 (hokD t (by show t < 2 * 2 ^ C.k; omega))
      obtain ⟨_, pi⟩ := (cells t ht').2 (by rw [Nat.add_assoc]; exact hokD _ (by show t + 2 ^ C.k < 2 * 2 ^ C.k; omega))
      rw [← hn] at pr pi
      obtain ⟨dl, d1, d2⟩ := cplx_of_psum (K := K) n (qD adft (2 * 2 ^ C.k) t) (qD adft (2 * 2 ^ C.k) (t + 2 ^ C.k))
        (qM C.c C.k C.cN C.sN mat ncols j t) (qM C.c C.k C.cN C.sN mat ncols j (t + 2 ^ C.k)) (gamD n) _ _ (gamD_nonneg n) pr pi
      have eA : ∀ i, (outC (dlimb adft i C.N) C.k t : Cplx K) =
          ⟨((qD adft (2 * 2 ^ C.k) t i : ℚ) : K), ((qD adft (2 * 2 ^ C.k) (t + 2 ^ C.k) i : ℚ) : K)⟩ := by
        intro i
        rw [outC_getD, dlimb_get 0 adft i C.N t (by show t < 2 * 2 ^ C.k; omega),
          dlimb_get 0 adft i C.N (t + 2 ^ C.k) (by show t + 2 ^ C.k < 2 * 2 ^ C.k; omega)]
        rfl
      refine ⟨dl, fun i hi => ?_, ?_⟩
      · have := d1 i hi
        rw [eA i, outC_getD]
        unfold muD
        exact this
      · rw [outC_getD, dlimb_get 0 _ j (2 * 2 ^ C.k) t (by omega),
          dlimb_get2 0 _ j (2 * 2 ^ C.k) t (2 ^ C.k) (by omega)]
        rw [d2]
        apply sum_congr rfl
        intro i _
        rw [eA i, outC_getD]
        rfl)
  have eP : ∀ t ∈ range (2 ^ C.k), ∑ i ∈ range n, V C.ζ (pkC (P i) (2 ^ C.k)) C.k 0 t *
      V C.ζ (pkC (matEntry mat ncols C.N i j) (2 ^ C.k)) C.k 0 t =
      V C.ζ (pkC (colSpecP C.N mat ncols n P j) (2 ^ C.k)) C.k 0 t := by
    intro t ht
    unfold colSpecP
    rw [V_isum C.k C.ζ C.hI n _ t (mem_range.1 ht)]
    exact sum_congr rfl (fun i _ => V_prod C.k C.ζ C.hI _ _ t (mem_range.1 ht))
  rw [← hn]
  refine le_trans (le_of_eq ?_) main
  exact sum_congr rfl (fun t ht => by rw [eP t ht])

end Spq.VmpErr
