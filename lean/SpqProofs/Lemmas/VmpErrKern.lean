/-
  C02 rounding budget, item 1 at the level of the kernels: the four reim4 dot-product kernels as one family `Kern`,
  and their cells as the scalar recurrences `dotRe / dotIm`, for any arithmetic record.
-/
import SpqProofs.Lemmas.VmpErrCells
namespace Spq.VmpErr
open Spq Spq.Reim4

inductive Kern where
  | ref1 | avx1 | ref2 | avx2

/-- cells per matrix row: one column or a column pair -/
def Kern.w : Kern → ℕ
  | .ref1 => 8 | .avx1 => 8 | .ref2 => 16 | .avx2 => 16
def Kern.dk : Kern → DotK
  | .ref1 => .ref | .avx1 => .av1 | .ref2 => .ref | .avx2 => .av2
/-- the model function (`Spq/Reim4.lean`) -/
def Kern.run {α : Type} (ar : RArith α) : Kern → ℕ → Array α → Array α → Array α → Array α
  | .ref1 => vecMat1colProductRef ar
  | .avx1 => vecMat1colProductAvx2 ar
  | .ref2 => vecMat2colsProductRef ar
  | .avx2 => vecMat2colsProductAvx2 ar

theorem Kern.dk_ne (Kn : Kern) : Kn.dk = .sm → 1 ≤ 0 := by cases Kn <;> intro h <;> cases h

theorem kern_cells {α : Type} (ar : RArith α) (Kn : Kern) (n : ℕ) (dst u v : Array α) (hb : Kn.w ≤ dst.size) (o : ℕ)
    (ho : o = 0 ∨ (o = 8 ∧ Kn.w = 16)) (k : ℕ) (hk : k < 4) :
    (Kn.run ar n dst u v).getD (o + k) ar.zero =
      dotRe ar Kn.dk (uRe ar.zero u k) (uIm ar.zero u k) (vRe ar.zero v Kn.w o k) (vIm ar.zero v Kn.w o k) n ∧
    (Kn.run ar n dst u v).getD (o + k + 4) ar.zero =
      dotIm ar Kn.dk (uRe ar.zero u k) (uIm ar.zero u k) (vRe ar.zero v Kn.w o k) (vIm ar.zero v Kn.w o k) n := by
  cases Kn with
  | ref1 =>
    have ho' : o = 0 := by rcases ho with h | ⟨_, h⟩; exact h; simp [Kern.w] at h
    subst ho'
    obtain ⟨_, r1, r2⟩ := mat1colRef_cells ar n dst u v hb k hk
    rw [Nat.zero_add]
    exact ⟨r1, r2⟩
  | avx1 =>
    have ho' : o = 0 := by rcases ho with h | ⟨_, h⟩; exact h; simp [Kern.w] at h
    subst ho'
    obtain ⟨_, r1, r2⟩ := mat1colAvx2_cells' ar n dst u v hb k hk
    rw [Nat.zero_add]
    exact ⟨r1, r2⟩
  | ref2 =>
    obtain ⟨_, r1, r2, r3, r4⟩ := mat2colsRef_cells ar n dst u v hb k hk
    rcases ho with h | ⟨h, _⟩
    · subst h; rw [Nat.zero_add]; exact ⟨r1, r2⟩
    · subst h; exact ⟨r3, r4⟩
  | avx2 =>
    obtain ⟨_, r1, r2, r3, r4⟩ := mat2colsAvx2_cells ar n dst u v hb k hk
    rcases ho with h | ⟨h, _⟩
    · subst h; rw [Nat.zero_add]; exact ⟨r1, r2⟩
    · subst h; exact ⟨r3, r4⟩

end Spq.VmpErr
