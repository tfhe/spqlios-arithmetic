/-
  In-place automorphism: the level loop `autLevels` reaches the final state for every `nn = 2^t`,
  every odd multiplier, provided the fuel covers the `t` levels.
-/
import SpqProofs.Lemmas.CoeffsAutCases
import SpqProofs.Lemmas.CoeffsAutom
namespace Spq.Rq
open Spq
variable {α : Type}

theorem mod_zero_lt_three (x m : Nat) (h : x % m = 0) (hx : x < 3 * m) : x = 0 ∨ x = m ∨ x = 2 * m := by
  rcases Nat.lt_or_ge x m with c | c
  · left; rwa [Nat.mod_eq_of_lt c] at h
  · right
    rw [Nat.mod_eq_sub_mod c] at h
    rcases mod_zero_lt_two (x - m) m h (by omega) with h' | h' <;> omega

theorem cast_mod_two_mul (N a : Nat) : (((a % (2 * N) : Nat)) : ZMod N) = (a : ZMod N) := by
  rw [ZMod.natCast_eq_natCast_iff', Nat.mod_mod_of_dvd _ ⟨2, by ring⟩]

theorem hne_of_not_c3 (t b pm : Nat) (hb : b < t)
    (h : ¬ ((2 ^ b * pm) % (2 * 2 ^ t) + 2 * 2 ^ t - 2 ^ b) % 2 ^ t = 0) :
    (2 : ZMod (2 ^ t)) ^ b * pm ≠ 2 ^ b := by
  intro e
  apply h
  apply Nat.mod_eq_zero_of_dvd
  rw [← ZMod.natCast_eq_zero_iff]
  have hle : 2 ^ b ≤ 2 ^ t := Nat.pow_le_pow_right (by norm_num) (Nat.le_of_lt hb)
  rw [Nat.cast_sub (by omega), Nat.cast_add, cast_mod_two_mul]
  have h0 : ((2 ^ t : Nat) : ZMod (2 ^ t)) = 0 := ZMod.natCast_self _
  push_cast at h0 ⊢
  linear_combination e + 2 * h0

theorem hne_of_not_c4 (t b pm : Nat)
    (h : ¬ ((2 ^ b * pm) % (2 * 2 ^ t) + 2 ^ b) % 2 ^ t = 0) :
    (2 : ZMod (2 ^ t)) ^ b * pm ≠ -(2 ^ b) := by
  intro e
  apply h
  apply Nat.mod_eq_zero_of_dvd
  rw [← ZMod.natCast_eq_zero_iff]
  rw [Nat.cast_add, cast_mod_two_mul]
  push_cast
  linear_combination e

theorem gap_ge_three (t b pm : Nat) (hpm2 : pm % 2 = 1)
    (hne1 : (2 : ZMod (2 ^ t)) ^ b * pm ≠ 2 ^ b) (hne2 : (2 : ZMod (2 ^ t)) ^ b * pm ≠ -(2 ^ b)) :
    b + 3 ≤ t := by
  by_contra hcon
  have hle : t ≤ b + 2 := by omega
  have h0 : ((2 : ZMod (2 ^ t))) ^ (b + 2) = 0 := by
    have : ((2 ^ (b + 2) : Nat) : ZMod (2 ^ t)) = 0 :=
      (ZMod.natCast_eq_zero_iff _ _).2 (Nat.pow_dvd_pow 2 hle)
    push_cast at this; exact this
  obtain ⟨q, hq⟩ : ∃ q, pm = 4 * q + 1 ∨ pm = 4 * q + 3 := ⟨pm / 4, by omega⟩
  rcases hq with hq | hq
  · apply hne1
    rw [hq]; push_cast
    linear_combination (q : ZMod (2 ^ t)) * h0
  · apply hne2
    rw [hq]; push_cast
    linear_combination ((q : ZMod (2 ^ t)) + 1) * h0

/-- a level either completes the automorphism or advances the invariant -/
theorem levelPass_spec (o : Ops α) (t b pm : Nat) (hb : b < t) (hpm2 : pm % 2 = 1) (x res : Array α)
    (hinv : LevelInv o (2 ^ t) pm b x res) :
    if (levelPass o (2 ^ t) pm (2 ^ b) ((2 ^ b * pm) % (2 * 2 ^ t)) (2 ^ t / 2 ^ (b + 1)) res).2 then
      LevelInv o (2 ^ t) pm (b + 1) x
        (levelPass o (2 ^ t) pm (2 ^ b) ((2 ^ b * pm) % (2 * 2 ^ t)) (2 ^ t / 2 ^ (b + 1)) res).1
    else AutFin o (2 ^ t) pm x
        (levelPass o (2 ^ t) pm (2 ^ b) ((2 ^ b * pm) % (2 * 2 ^ t)) (2 ^ t / 2 ^ (b + 1)) res).1 := by
  have hN : 0 < 2 ^ t := Nat.pow_pos (by norm_num)
  have hB : 0 < 2 ^ b := Nat.pow_pos (by norm_num)
  have hBlt : 2 ^ b < 2 ^ t := Nat.pow_lt_pow_right (by norm_num) hb
  have hvplt : (2 ^ b * pm) % (2 * 2 ^ t) < 2 * 2 ^ t := Nat.mod_lt _ (by omega)
  unfold levelPass
  generalize hvp : (2 ^ b * pm) % (2 * 2 ^ t) = vp at hvplt
  by_cases c1 : vp = 2 ^ b
  · rw [if_pos c1]
    exact case1 o t b pm (Nat.le_of_lt hb) hpm2 (by rw [hvp, c1]) x res hinv
  rw [if_neg c1]
  by_cases c2 : (vp + 2 ^ b) % (2 * 2 ^ t) = 0
  · rw [if_pos c2]
    refine LevelInv.finish o t b pm (Nat.le_of_lt hb) hpm2 x res _ hinv
      (negMirrorPass_moved o t b pm hb ?_ res hinv.1)
    rw [hvp]
    rcases mod_zero_lt_two _ _ c2 (by omega) with h' | h' <;> omega
  rw [if_neg c2]
  by_cases c3 : (vp + 2 * 2 ^ t - 2 ^ b) % 2 ^ t = 0
  · rw [if_pos c3]
    refine case3 o t b pm hb ?_ hpm2 x res hinv
    rw [hvp]
    have e1 : vp + 2 * 2 ^ t - 2 ^ b = (vp + 2 ^ t - 2 ^ b) + 2 ^ t := by omega
    rw [e1, Nat.add_mod_right] at c3
    rcases mod_zero_lt_three _ _ c3 (by omega) with h' | h' | h' <;> omega
  rw [if_neg c3]
  by_cases c4 : (vp + 2 ^ b) % 2 ^ t = 0
  · rw [if_pos c4]
    have hc : (2 ^ b * pm) % (2 * 2 ^ t) + 2 ^ b = 2 ^ t := by
      rw [hvp]
      rcases mod_zero_lt_three _ _ c4 (by omega) with h' | h' | h'
      · omega
      · exact h'
      · exact absurd (by rw [h']; exact Nat.mod_self _) c2
    have hb2 : b + 1 < t := by
      by_contra hcon
      obtain rfl : t = b + 1 := by omega
      rw [hvp] at hc
      have : 2 ^ (b + 1) = 2 * 2 ^ b := by ring
      omega
    exact LevelInv.step o t b pm hb hpm2 x res _ hinv (mirrorPass_moved o t b pm hb2 hc res hinv.1)
  · rw [if_neg c4]
    rw [← hvp] at c3 c4
    have hne1 := hne_of_not_c3 t b pm hb c3
    have hne2 := hne_of_not_c4 t b pm c4
    have hgap := gap_ge_three t b pm hpm2 hne1 hne2
    obtain ⟨n, rfl⟩ : ∃ n, t = b + n + 2 := ⟨t - b - 2, by omega⟩
    have horb' : 2 ^ (b + n + 2) / 2 ^ (b + 1) = 2 * 2 ^ n := by
      have : 2 ^ (b + n + 2) = 2 ^ (b + 1) * (2 * 2 ^ n) := by ring
      rw [this, Nat.mul_div_cancel_left _ (Nat.pow_pos (by norm_num))]
    rw [horb']
    exact LevelInv.step o _ b pm (by omega) hpm2 x res _ hinv
      (autWalkAll_moved o b n pm hpm2 hne1 hne2 res hinv.1)

theorem autLevels_spec (o : Ops α) (t pm : Nat) (hpm2 : pm % 2 = 1) (x : Array α) :
    ∀ (fuel b : Nat) (res : Array α), b ≤ t → t ≤ b + fuel → LevelInv o (2 ^ t) pm b x res →
      AutFin o (2 ^ t) pm x (Coeffs.autLevels o (2 ^ t) pm fuel (2 ^ b) ((2 ^ b * pm) % (2 * 2 ^ t))
        (2 ^ t / 2 ^ (b + 1)) res) := by
  intro fuel
  induction fuel with
  | zero =>
    intro b res hbt hfuel hinv
    obtain rfl : b = t := by omega
    exact LevelInv.fin_of_top o b pm hpm2 x res hinv
  | succ fuel ih =>
    intro b res hbt hfuel hinv
    rcases Nat.lt_or_ge b t with hb | hb
    · have h := levelPass_spec o t b pm hb hpm2 x res hinv
      rw [autLevels_succ _ _ _ _ _ _ _ _ (Nat.pow_lt_pow_right (by norm_num) hb)]
      split_ifs at h ⊢
      · have key := ih (b + 1) _ hb (by omega) h
        have e1 : 2 ^ (b + 1) = 2 * 2 ^ b := by ring
        have e2 : (2 ^ (b + 1) * pm) % (2 * 2 ^ t) = (2 * ((2 ^ b * pm) % (2 * 2 ^ t))) % (2 * 2 ^ t) := by
          rw [Nat.mul_mod_mod]; congr 1; ring
        have e3 : 2 ^ t / 2 ^ (b + 1 + 1) = 2 ^ t / 2 ^ (b + 1) / 2 := by rw [Nat.div_div_eq_div_mul]; rfl
        rw [e2, e3] at key
        rw [← e1]; exact key
      · exact h
    · obtain rfl : b = t := by omega
      unfold Coeffs.autLevels
      rw [if_neg (Nat.lt_irrefl _)]
      exact LevelInv.fin_of_top o b pm hpm2 x res hinv

theorem autExp_eq_E (nn : Nat) (hn : 0 < nn) (p : Int) (i : Nat) :
    autExp nn p i = autE nn (posMask p (2 * nn)) i := by
  have h1 := autExp_cast nn hn p i
  have : ((autE nn (posMask p (2 * nn)) i : Nat) : Int) = ((i : Int) * p) % ((2 * nn : Nat) : Int) := by
    unfold autE
    rw [Int.natCast_mod, Nat.cast_mul, posMask_cast p _ (by omega), Int.mul_emod, Int.emod_emod, ← Int.mul_emod]
  omega

theorem automLevels_fin (o : Ops α) (t fuel : Nat) (ht : t ≤ fuel) (p : Int) (hp : p % 2 = 1) (x : Array α)
    (hx : x.size = 2 ^ t) :
    AutFin o (2 ^ t) (posMask p (2 * 2 ^ t)) x
      (Coeffs.autLevels o (2 ^ t) (posMask p (2 * 2 ^ t)) fuel 1 (posMask p (2 * 2 ^ t)) (2 ^ t / 2) x) := by
  have hN : 0 < 2 ^ t := Nat.pow_pos (by norm_num)
  have h := autLevels_spec o t _ (posMask_odd _ hN p hp) x fuel 0 x (by omega) (by omega)
    ((Moved.refl x hx).congr fun y _ => ⟨fun h => h.elim, fun h => h (Nat.mod_one y)⟩)
  rwa [pow_zero, Nat.one_mul, Nat.mod_eq_of_lt (posMask_lt p _ (by omega)), Nat.zero_add, pow_one] at h

theorem autom_fin (o : Ops α) (t : Nat) (p : Int) (hp : p % 2 = 1) (x x0 : Array α) (hx0 : x0.size = 2 ^ t) :
    AutFin o (2 ^ t) (posMask p (2 * 2 ^ t)) x (Coeffs.automorphism o (2 ^ t) p x x0) := by
  have hN : 0 < 2 ^ t := Nat.pow_pos (by norm_num)
  refine ⟨by rw [Coeffs.size_automorphism, hx0], fun i hi _ => ?_, fun _ _ h => (h trivial).elim⟩
  beta_reduce
  rw [autSigma, autG, ← autExp_eq_E _ hN, autom_scatter o t p hp x x0 hx0 i hi]
  rfl

theorem autSigma_surj (t : Nat) (p : Int) (hp : p % 2 = 1) (k : Nat) (hk : k < 2 ^ t) :
    ∃ y, y < 2 ^ t ∧ autSigma (2 ^ t) (posMask p (2 * 2 ^ t)) y = k := by
  obtain ⟨i, hi, e⟩ := autPos_surj t p hp k hk
  exact ⟨i, hi, by rw [autSigma, ← autExp_eq_E _ (Nat.pow_pos (by norm_num)), e]⟩

end Spq.Rq
