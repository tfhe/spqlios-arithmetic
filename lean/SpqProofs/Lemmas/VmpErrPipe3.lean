/-
  C02 rounding budget: the numbers (`k ≤ 16`, `2n + 2 ≤ 2^26`:  `eB ε μ_n θ ≤ (12(k+1) + 2n + 3)·2^-53`).
-/
import SpqProofs.Lemmas.VmpErrPipe
import SpqProofs.Lemmas.ProdErrBudget
namespace Spq.VmpErr
open Finset Spq Spq.Module Spq.Fft Spq.Fft.Alg Spq.FftErr Spq.F64 Spq.Reim4 Spq.ProdErr Spq.C06Err Spq.Conv
variable {K : Type} [Field K] [LinearOrder K] [IsStrictOrderedRing K]

/-- the relative budget of a column, `k ≤ 16`, `2n + 2 ≤ 2^26`: `12·log2(N)·u` (three transforms + one product, as
    C01Err) `+ (2n + 3)·u` (accumulation over the `n` rows) -/
theorem vbudget16 (k n : ℕ) (hk : k ≤ 16) (hn : 2 * n + 2 ≤ 67108864) :
    eB ((1 + 8 * u64) ^ k - 1) (muD n) (((1 + 8 * u64) ^ k - 1) * 2 ^ k) ≤ (12 * (k + 1 : ℚ) + 2 * n + 3) * u64 := by
  rw [eB_affine _ (muD n) mu64]
  have h1 := budget16 k hk
  have h2 := slope16 k hk
  have h3 := gamD_le_lin n hn
  have h4 : muD n - mu64 ≤ muD n := by have := mu64_nonneg; linarith
  have h5 : 0 ≤ muD n := muD_nonneg n
  have h6 : (0 : ℚ) ≤ (1 + ((1 + 8 * u64) ^ k - 1)) * (1 / 2 + dB ((1 + 8 * u64) ^ k - 1) (((1 + 8 * u64) ^ k - 1) * 2 ^ k)) := by
    have e0 : (0 : ℚ) ≤ (1 + 8 * u64) ^ k - 1 := by
      have : (1 : ℚ) ≤ (1 + 8 * u64) ^ k := one_le_pow₀ (by have := u64_pos; linarith)
      linarith
    have := dB_nonneg e0 (mul_nonneg e0 (by positivity : (0 : ℚ) ≤ 2 ^ k))
    positivity
  have h7 : (1 + ((1 + 8 * u64) ^ k - 1)) * (1 / 2 + dB ((1 + 8 * u64) ^ k - 1) (((1 + 8 * u64) ^ k - 1) * 2 ^ k)) *
      (muD n - mu64) ≤ 2 / 3 * muD n := by
    calc _ ≤ (1 + ((1 + 8 * u64) ^ k - 1)) * (1 / 2 + dB ((1 + 8 * u64) ^ k - 1) (((1 + 8 * u64) ^ k - 1) * 2 ^ k)) * muD n :=
          mul_le_mul_of_nonneg_left h4 h6
      _ ≤ 2 / 3 * muD n := mul_le_mul_of_nonneg_right h2 h5
  have h8 : 2 / 3 * muD n = gamD n := by unfold muD; ring
  linarith

/-- the property's form of the error term of column `j`, with the proved constants -/
def Esum (K : Type) [Field K] [LinearOrder K] (k : ℕ) (mat : Array Int) (nrows ncols : ℕ) (a : Array Int)
    (asz asl j : ℕ) (na nb : ℕ → K) : K :=
  (((12 * (k + 1 : ℚ) + 2 * (min nrows asz : ℕ) + 3) * u64 : ℚ) : K) * sumS K k mat nrows ncols a asz asl j na nb

theorem vbudget_le (k : ℕ) (hk : k ≤ 16) (mat : Array Int) (nrows ncols : ℕ) (a : Array Int) (asz asl j : ℕ)
    (hn : 2 * min nrows asz + 2 ≤ 67108864) (na nb : ℕ → K)
    (hna0 : ∀ i, i < min nrows asz → 0 ≤ na i) (hnb0 : ∀ i, i < min nrows asz → 0 ≤ nb i) :
    vbudget K k mat nrows ncols a asz asl j na nb ≤ Esum K k mat nrows ncols a asz asl j na nb := by
  unfold vbudget Esum
  refine mul_le_mul_of_nonneg_right ?_ (sumS_nonneg k mat nrows ncols a asz asl j na nb hna0 hnb0)
  have := (Rat.cast_le (K := K)).2 (vbudget16 k (min nrows asz) hk hn)
  rw [eB_cast] at this
  rw [eps_cast]
  refine le_trans (le_of_eq ?_) this
  push_cast; ring

end Spq.VmpErr
