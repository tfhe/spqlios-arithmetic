/-
  Non-vacuity witness (C02Err): a `2 × 1` vector-matrix product at `N = 8` (two rows ⇒ a real accumulation,
  1-column AVX2 kernel as installed):  vector limbs `a₀ = exA8`, `a₁ = exB8`, matrix `M₀₀ = exB8`, `M₁₀ = exC8`,
  `exC8 = 1 − 2X + 3X² − 4X³ + 5X⁴ − 6X⁵ + 7X⁶ − 8X⁷`.  The library returns column 0
  `= a₀ ⊛ M₀₀ + a₁ ⊛ M₁₀ = [84, −123, 131, 175, −189, −31, 169, −1]` (`vmp_prepare_contiguous`, `vmp_apply_dft`,
  `vec_znx_idft`).  The evaluations and norms from which `ErrWitnessProp.witness_vmp_ok_k2` (all flags: two limbs, two
  entries, accumulation, inverse, by `decide +kernel`) and `witness_vmp_exact_k2` are assembled.
-/
import SpqProofs.Lemmas.ErrWitnessVmp
import SpqProofs.Lemmas.ErrWitnessInst
import SpqProofs.Lemmas.VmpErrPipe
namespace Spq.ErrWitness
open Finset Spq Spq.Module Spq.Fft Spq.Fft.Alg Spq.Fft.SchedN Spq.FftErr Spq.F64 Spq.ProdErr Spq.Conv Spq.VmpErr

/- elaboration only: keeps the elaborator's `whnf` from evaluating the closed flagged runs (the kernel does, in `decide`) -/
attribute [local irreducible] reimFftA reimIfftA vmpApplyDftToDft vmpPrepare

def exC8 : Array Int := #[1, -2, 3, -4, 5, -6, 7, -8]
/-- two limbs: `exA8`, `exB8` -/
def exVec : Array Int := #[3, -1, 4, 1, -5, 9, 2, -6, 2, 7, -1, 8, 2, -8, 1, 8]
/-- `2 × 1` matrix, row-major: `exB8`, `exC8` -/
def exMat : Array Int := #[2, 7, -1, 8, 2, -8, 1, 8, 1, -2, 3, -4, 5, -6, 7, -8]

theorem forall_lt_two {P : ℕ → Prop} (h0 : P 0) (h1 : P 1) : ∀ i, i < 2 → P i := by
  intro i hi
  obtain rfl | rfl : i = 0 ∨ i = 1 := by omega
  exacts [h0, h1]

theorem limb0 : limbOf exVec 0 8 (2 * 2 ^ 2) = exA8 := by decide +kernel
theorem limb1 : limbOf exVec 1 8 (2 * 2 ^ 2) = exB8 := by decide +kernel
theorem ent00 : matEntry exMat 1 (2 * 2 ^ 2) 0 0 = exB8 := by decide +kernel
theorem ent10 : matEntry exMat 1 (2 * 2 ^ 2) 1 0 = exC8 := by decide +kernel

theorem exC8_box : ∀ i, i < 2 * 2 ^ 2 → -1125899906842624 < exC8.getD i 0 ∧ exC8.getD i 0 < 1125899906842624 := by
  intro i hi
  have hi' : i < 8 := hi
  interval_cases i <;> decide

theorem exC8_n2 : ∑ t ∈ range (2 * 2 ^ 2), ((exC8.getD t 0 : Int) : ℝ) ^ 2 ≤ 15 ^ 2 := by
  rw [n2sq_intCast, show (∑ t ∈ range (2 * 2 ^ 2), exC8.getD t 0 ^ 2 : ℤ) = 204 by decide +kernel]
  norm_num

theorem exC8_n1 : ∑ t ∈ range (2 * 2 ^ 2), |((exC8.getD t 0 : Int) : ℝ)| = 36 := by
  rw [n1_intCast, show (∑ t ∈ range (2 * 2 ^ 2), |exC8.getD t 0| : ℤ) = 36 by decide +kernel]
  norm_num

theorem lib_okC : FwdOk libC8 2 cN sN exC8 :=
  fft_flags_of_all (famOf libC8.fftFma) (famOf_ok _) 2 cN sN ((Cfg.parts libC8).fromZnx exC8) (by decide +kernel)
    (by decide +kernel)

/-- the transformed vector (the two forward transforms side by side) and the DFT-space column of the product,
    evaluated once each (library: `vec_znx_dft`, `vmp_apply_dft_to_dft`) -/
theorem exVecDft_val : vecDft (Cfg.parts libC8) (min 2 2) exVec 2 8 = #[4618410054537187982, 4613614197135054515,
    13843748501720723752, 4622320278076434848, 4618219223757501269, 13843296682171914659, 13849564327500461205,
    4607413680280691344, 4618199171296954568, 13840252134360622766, 4625922732693648645, 13846176622200757016,
    4620400766853824204, 13838976753252924824, 4625116987058513009, 13846237224099603569] := by decide +kernel

theorem exVmpRes_val : vmpRes libC8 exMat 2 1 exVec 2 8 1 = #[4627237349441036192, 4636104708588428440,
    4644827526413457269, 13861948521226621524, 4637350761944480011, 13857358455347880316, 13871604058266447241,
    13865719988555316738] := by
  rw [ProgErr2.vmpRes_eq, exVecDft_val]; decide +kernel

/-- norms per row: `na = (14, 16)`, `nb = (16, 15)` -/
noncomputable def exNa : ℕ → ℝ := fun i => if i = 0 then 14 else 16
noncomputable def exNb : ℕ → ℝ := fun i => if i = 0 then 16 else 15

theorem exNa_nonneg : ∀ i, i < min 2 2 → 0 ≤ exNa i := by
  intro i _; unfold exNa; split <;> norm_num
theorem exNb_nonneg : ∀ i, i < min 2 2 → 0 ≤ exNb i := by
  intro i _; unfold exNb; split <;> norm_num

theorem exVec_box : ∀ i, i < min 2 2 → ∀ t, t < 2 * 2 ^ 2 →
    -1125899906842624 < (limbOf exVec i 8 (2 * 2 ^ 2)).getD t 0 ∧ (limbOf exVec i 8 (2 * 2 ^ 2)).getD t 0 < 1125899906842624 := by
  exact forall_lt_two (by rw [limb0]; exact exA8_box) (by rw [limb1]; exact exB8_box)

theorem exMat_box : ∀ i j, i < 2 → j < 1 → ∀ t, t < 2 * 2 ^ 2 →
    -1125899906842624 < (matEntry exMat 1 (2 * 2 ^ 2) i j).getD t 0 ∧
      (matEntry exMat 1 (2 * 2 ^ 2) i j).getD t 0 < 1125899906842624 := by
  intro i j hi hj
  obtain rfl : j = 0 := by omega
  interval_cases i
  · rw [ent00]; exact exB8_box
  · rw [ent10]; exact exC8_box

theorem exVec_n2 : ∀ i, i < min 2 2 →
    ∑ t ∈ range (2 * 2 ^ 2), (((limbOf exVec i 8 (2 * 2 ^ 2)).getD t 0 : Int) : ℝ) ^ 2 ≤ exNa i ^ 2 := by
  exact forall_lt_two (by rw [limb0]; exact exA8_n2) (by rw [limb1]; exact exB8_n2)

theorem exMat_n2 : ∀ i, i < min 2 2 →
    ∑ t ∈ range (2 * 2 ^ 2), (((matEntry exMat 1 (2 * 2 ^ 2) i 0).getD t 0 : Int) : ℝ) ^ 2 ≤ exNb i ^ 2 := by
  exact forall_lt_two (by rw [ent00]; exact exB8_n2) (by rw [ent10]; exact exC8_n2)

theorem exMat_nl : ∀ i, i < min 2 2 →
    exNb i ≤ ∑ t ∈ range (2 * 2 ^ 2), |(((matEntry exMat 1 (2 * 2 ^ 2) i 0).getD t 0 : Int) : ℝ)| := by
  exact forall_lt_two (by rw [ent00, exB8_n1]; show (16 : ℝ) ≤ 37; norm_num)
    (by rw [ent10, exC8_n1]; show (15 : ℝ) ≤ 36; norm_num)

/-- `E_sum = (12·3 + 2·2 + 3)·2^-53·((31·16 + 14·37) + (37·15 + 16·36)) = 43·2145·2^-53 < 1/2` -/
theorem exVmp_budget : (((12 * ((2 : ℕ) + 1 : ℚ) + 2 * (min 2 2 : ℕ) + 3) * u64 : ℚ) : ℝ) *
    ∑ i ∈ range (min 2 2),
      ((∑ t ∈ range (2 * 2 ^ 2), |(((limbOf exVec i 8 (2 * 2 ^ 2)).getD t 0 : Int) : ℝ)|) * exNb i +
        exNa i * ∑ t ∈ range (2 * 2 ^ 2), |(((matEntry exMat 1 (2 * 2 ^ 2) i 0).getD t 0 : Int) : ℝ)|) < 1 / 2 := by
  rw [show min 2 2 = 2 from rfl, sum_range_succ, sum_range_one, limb0, limb1, ent00, ent10, exA8_n1, exB8_n1, exC8_n1]
  unfold exNa exNb u64
  push_cast
  norm_num

end Spq.ErrWitness
