/-
  Vector level: limbs of `vecDft` seen through `cellsAt`, composition `vecIdft ∘ vecDft`, dependence of `vecIdft` on
  the cells it reads.  Limb level: products of DFT limbs.  Any module that satisfies `ModSpec`.
-/
import SpqProofs.Lemmas.NttModEval
import SpqProofs.Lemmas.NttModInplace

namespace Spq.ModuleNtt
open Spq Spq.Q120 Spq.Q120Ntt

theorem cellsAt_vecDft_data (M : ModPre) (r : Nat) (a : Array Int) (s sl : Nat) (i : Nat) (hi : i < min r s) :
    cellsAt (vecDft M r a s sl) (4 * 2 ^ M.k * i) (4 * 2 ^ M.k) = dftLimb M (limbI64 a (i * sl) (2 ^ M.k)) := by
  apply ext_getD 0
  · rw [size_cellsAt, size_dftLimb]
  · intro c hc
    rw [size_cellsAt] at hc
    rw [getD_cellsAt _ _ _ _ hc, getD_vecDft M r a s sl i c (Nat.lt_of_lt_of_le hi (Nat.min_le_left _ _)) hc, if_pos hi]

theorem cellsAt_vecDft_zero (M : ModPre) (r : Nat) (a : Array Int) (s sl : Nat) (i : Nat) (hi : i < r) (h : ¬ i < min r s)
    (c : Nat) : (cellsAt (vecDft M r a s sl) (4 * 2 ^ M.k * i) (4 * 2 ^ M.k)).getD c 0 = 0 := by
  by_cases hc : c < 4 * 2 ^ M.k
  · rw [getD_cellsAt _ _ _ _ hc, getD_vecDft M r a s sl i c hi hc, if_neg h]
  · exact getD_of_size_le _ _ _ (by rw [size_cellsAt]; omega)

theorem getD_vecIdft_congr (M : ModPre) (r : Nat) (b b' : Array Nat) (s : Nat)
    (h : ∀ c < 4 * 2 ^ M.k * s, b.getD c 0 = b'.getD c 0) (i t : Nat) (hi : i < r) (ht : t < 2 ^ M.k) :
    (vecIdft M r b s).getD (2 ^ M.k * i + t) 0 = (vecIdft M r b' s).getD (2 ^ M.k * i + t) 0 := by
  rw [getD_vecIdft M r b s i t hi ht, getD_vecIdft M r b' s i t hi ht]
  split
  · rename_i him
    have his : i < s := Nat.lt_of_lt_of_le him (Nat.min_le_right _ _)
    rw [cellsAt_congr b b' _ _ (fun c hc => h _ (mul_add_lt his hc))]
  · rfl

variable {M : ModPre} {w v ninv : (j : Nat) → ZMod (M.P.q j)} (S : ModSpec M w v ninv)
include S

theorem ModSpec.getD_vecIdft_vecDft (a : Array Int) (ha : ∀ t, IsI64 (a.getD t 0))
    (aSize dftSize resSize aSl : Nat) (i t : Nat) (hi : i < resSize) (ht : t < 2 ^ M.k) :
    (vecIdft M resSize (vecDft M dftSize a aSize aSl) dftSize).getD (2 ^ M.k * i + t) 0
      = if i < aSize ∧ i < dftSize then a.getD (i * aSl + t) 0 else 0 := by
  rw [getD_vecIdft M resSize (vecDft M dftSize a aSize aSl) dftSize i t hi ht]
  by_cases hd : i < dftSize
  · rw [if_pos (by omega : i < min resSize dftSize)]
    by_cases hs : i < aSize
    · rw [if_pos ⟨hs, hd⟩, cellsAt_vecDft_data M dftSize a aSize aSl i (by omega),
        S.idft_dft_limb _ (isI64_limbI64 a ha _ _) t ht, getD_limbI64 _ _ _ _ ht]
    · rw [if_neg (by omega)]
      exact S.idft_zero_limb _ (by rw [size_cellsAt])
        (cellsAt_vecDft_zero M dftSize a aSize aSl i hd (by omega)) t ht
  · rw [if_neg (by omega), if_neg (by omega)]

/-- **products in DFT space, one limb**: if the limb `pc` (any 64-bit words) is, lane by lane, congruent to the
    product of the DFT limbs of `x` and `y`, then coefficient `t` of its inverse transform is congruent to the
    negacyclic product `x·y mod X^n+1` modulo every prime, lies in the centred range of `Q = q0·q1·q2·q3`, and IS the
    integer coefficient of the product whenever that coefficient is in the centred range -/
theorem ModSpec.idft_prod_limb (x y : Array Int) (hx : ∀ t, IsI64 (x.getD t 0)) (hy : ∀ t, IsI64 (y.getD t 0))
    (pc : Array Nat) (hsz : pc.size = 4 * 2 ^ M.k) (hlt : ∀ i, pc.getD i 0 < W64)
    (hprod : ∀ t < 2 ^ M.k, ∀ j < 4, pc.getD (4 * t + j) 0 % M.P.q j
      = ((dftLimb M x).getD (4 * t + j) 0 * (dftLimb M y).getD (4 * t + j) 0) % M.P.q j)
    (t : Nat) (ht : t < 2 ^ M.k) :
    (∀ j < 4, (idftLimb M pc).getD t 0 % (M.P.q j : Int) = nprodZ (2 ^ M.k) x y t % (M.P.q j : Int))
    ∧ -(((bigQN M.P : Int) - 1) / 2) ≤ (idftLimb M pc).getD t 0
    ∧ (idftLimb M pc).getD t 0 ≤ ((bigQN M.P : Int) - 1) / 2
    ∧ (-(((bigQN M.P : Int) - 1) / 2) ≤ nprodZ (2 ^ M.k) x y t ∧ nprodZ (2 ^ M.k) x y t ≤ ((bigQN M.P : Int) - 1) / 2
        → (idftLimb M pc).getD t 0 = nprodZ (2 ^ M.k) x y t) := by
  have hl : ∀ j < 4, ((rd (inttLane M.k (M.inv j).levels (M.inv j).R (M.inv j).tbl (lane pc j)) t : Nat) : Int)
      % (M.P.q j : Int) = nprodZ (2 ^ M.k) x y t % (M.P.q j : Int) :=
    fun j hj => S.prod_lane j hj x y hx hy pc hsz hlt (fun t ht => hprod t ht j hj) t ht
  obtain ⟨c1, c2⟩ := idftLimb_centered M S.crt pc t ht
  refine ⟨fun j hj => ?_, c1, c2, fun hb => idftLimb_eq M S.crt pc t ht _ hb hl⟩
  rw [← hl j hj]
  exact idftLimb_mod M S.crt pc t ht j hj

end Spq.ModuleNtt
