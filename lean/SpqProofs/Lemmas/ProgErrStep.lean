/-
  C16, binary64 side: `vmp_apply_dft_to_dft` applied to a RAW transform is, bit for bit, `vmp_apply_dft` of the
  integer vector the transform was computed from (`vmpDD_eq2`), provided every row it reads is the transform of an input
  limb (`min nrows dsz ≤ asz`: no zero-padding row of `vec_znx_dft` is read).
-/
import SpqProofs.Lemmas.ProgErrMod
namespace Spq.ProgErr
open Finset Spq Spq.Module Spq.Fft Spq.Fft.Alg Spq.FftErr Spq.F64 Spq.Reim4 Spq.ProdErr Spq.VmpErr Spq.Conv Spq.Prog
  Spq.Closed
variable {K : Type} [Field K] [LinearOrder K] [IsStrictOrderedRing K]

theorem flatOf_congr (N sz : ℕ) (f g : ℕ → ℕ → ℤ) (h : ∀ i t, i < sz → t < N → f i t = g i t) :
    flatOf N sz f = flatOf N sz g := by
  unfold flatOf
  congr 1
  funext j
  have hj : j.val < sz * N := j.isLt
  have hN : 0 < N := by
    rcases Nat.eq_zero_or_pos N with q | q
    · have : sz * N = 0 := by rw [q]; rfl
      omega
    · exact q
  exact h _ _ ((Nat.div_lt_iff_lt_mul hN).2 hj) (Nat.mod_lt _ hN)

/-- **`vmp_apply_dft_to_dft` of a raw transform = `vmp_apply_dft`** in the binary64 module (any prepared matrix `pm`), in
    the provenance form recorded by `Prog.RD`: the raw transform is `vec_znx_dft` of the canonical array of its `dsz`
    abstract limbs `g`, of which the first `min az dsz` were input limbs; the product reads `min nrows dsz ≤ az` rows -/
theorem vmpDD_eq2 (M : F64Mod K) (rsz dsz az : ℕ) (g : ℕ → ℕ → ℤ) (pm : Array ℕ) (nrows ncols : ℕ)
    (hrow : min nrows dsz ≤ az) :
    vmpApplyDftToDft M.parts rsz (vecDft M.parts dsz (flatOf M.N dsz g) (min az dsz) M.N) dsz pm nrows ncols =
      vmpApplyDft M.parts rsz (flatOf M.N dsz g) dsz M.N pm nrows ncols := by
  have hnn := M.nn
  unfold vmpApplyDft
  dsimp only
  have hrd : min nrows dsz ≤ dsz := Nat.min_le_right _ _
  have hag := agree_flatOf M.N dsz g
  obtain ⟨a1, a2⟩ := vecDft_limbs M (flatOf M.N dsz g) (min az dsz) M.N dsz g
    ⟨fun i hi => hag.1 i (by omega), fun i t hi ht => hag.2 i t (by omega) ht⟩
  obtain ⟨b1, b2⟩ := vecDft_limbs M (flatOf M.N dsz g) dsz M.N (min nrows dsz) g hag
  apply vmpApply_congr M.parts (p_hnn M.c M.k M.cN M.sN M.cNi M.sNi M.ok) (p_hblk M.c M.k M.cN M.sN M.cNi M.sNi M.ok)
  · rw [hnn]
    intro x hx
    have hn : 0 < M.N := Nat.pos_of_ne_zero (fun q => by rw [q] at hx; omega)
    have hi : x / M.N < min nrows dsz := (Nat.div_lt_iff_lt_mul hn).2 hx
    have e : x = x / M.N * M.N + x % M.N := by
      rw [Nat.mul_comm]; exact (Nat.div_add_mod x M.N).symm
    have hk : x % M.N < M.N := Nat.mod_lt _ hn
    have g1 := congrArg (fun v => v.getD (x % M.N) M.parts.ar.zero) (a2 (x / M.N) (by omega))
    have g2 := congrArg (fun v => v.getD (x % M.N) M.parts.ar.zero) (b2 (x / M.N) hi)
    simp only [dlimb, getD_extract] at g1 g2
    rw [if_pos (by omega), ← e] at g1 g2
    rw [g1, g2, if_pos (by omega), if_pos (by omega)]
  · rw [hnn, a1]; exact Nat.mul_le_mul_right _ hrd
  · rw [hnn]; exact Nat.le_of_eq b1.symm

end Spq.ProgErr
