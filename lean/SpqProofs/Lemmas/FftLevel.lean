/-
  C06, level layer: what a twiddle pass does to a region that holds the level-`ℓ` values `V ℓ` of the naive network:
  it advances its block by one level, because `V` steps like the structural networks (`V_step`, `LevelN.Step.tw`).
-/
import SpqProofs.Lemmas.FftAlg
import SpqProofs.Lemmas.FftView
import SpqProofs.Lemmas.FftSchedLevel
namespace Spq.Fft.Level
open Spq.Fft Spq.Fft.Alg Spq.Fft.View

variable {R : Type} [CommRing R]

def fφ (W : R) (u v : R) : R := u + W * v
def fψ (W : R) (u v : R) : R := u - W * v
abbrev twF (W : R) (h off : ℕ) (x : ℕ → R) : ℕ → R := twG (fφ W) (fψ W) h off x

variable (ζ : R) (a : ℕ → R)

def Lv (x : ℕ → R) (ℓ d lo hi : ℕ) : Prop := ∀ p, lo ≤ p → p < hi → x p = V ζ a ℓ d p

theorem Lv.mono {x : ℕ → R} {ℓ d lo hi lo' hi' : ℕ} (h : Lv ζ a x ℓ d lo hi) (h1 : lo ≤ lo') (h2 : hi' ≤ hi) :
    Lv ζ a x ℓ d lo' hi' := fun p hp hp' => h p (by omega) (by omega)

theorem Lv.append {x : ℕ → R} {ℓ d lo mid hi : ℕ} (h1 : Lv ζ a x ℓ d lo mid) (h2 : Lv ζ a x ℓ d mid hi) :
    Lv ζ a x ℓ d lo hi := fun p hp hp' => by
  by_cases h : p < mid
  · exact h1 p hp h
  · exact h2 p (by omega) hp'

theorem Lv.congr {x y : ℕ → R} {ℓ d lo hi : ℕ} (h : Lv ζ a x ℓ d lo hi) (hxy : ∀ p, lo ≤ p → p < hi → y p = x p) :
    Lv ζ a y ℓ d lo hi := fun p hp hp' => by rw [hxy p hp hp', h p hp hp']

theorem V_step (ℓ d : ℕ) :
    LevelN.Step (fun b u v => (fφ (ζ ^ twE ℓ d b) u v, fψ (ζ ^ twE ℓ d b) u v)) d (V ζ a ℓ (d + 1)) (V ζ a (ℓ + 1) d) :=
  fun _ => by rw [V]; rfl

theorem tw_level (x : ℕ → R) (ℓ d b off : ℕ) (hoff : off = 2 * 2 ^ d * b)
    (hx : Lv ζ a x ℓ (d + 1) off (off + 2 * 2 ^ d)) :
    Lv ζ a (twF (ζ ^ twE ℓ d b) (2 ^ d) off x) (ℓ + 1) d off (off + 2 * 2 ^ d) :=
  ((V_step ζ a ℓ d).tw x b off hoff _ rfl).1 hx

/-- a twiddle pass inside a region that is swept block by block, left to right: cells left of the block are
already at level `ℓ+1`, the block and the cells right of it are at level `ℓ`; nothing outside the region moves -/
theorem tw_region (x : ℕ → R) (ℓ d b off lo hi : ℕ) (hoff : off = 2 * 2 ^ d * b)
    (hlo : lo ≤ off) (hhi : off + 2 * 2 ^ d ≤ hi)
    (h1 : Lv ζ a x (ℓ + 1) d lo off) (h2 : Lv ζ a x ℓ (d + 1) off hi) :
    Lv ζ a (twF (ζ ^ twE ℓ d b) (2 ^ d) off x) (ℓ + 1) d lo (off + 2 * 2 ^ d) ∧
    Lv ζ a (twF (ζ ^ twE ℓ d b) (2 ^ d) off x) ℓ (d + 1) (off + 2 * 2 ^ d) hi ∧
    (∀ p, p < lo ∨ hi ≤ p → twF (ζ ^ twE ℓ d b) (2 ^ d) off x p = x p) := by
  refine ⟨?_, ?_, ?_⟩
  · apply Lv.append ζ a (mid := off)
    · exact h1.congr ζ a (fun p hp hp' => twG_out _ _ _ _ _ _ (by omega))
    · exact tw_level ζ a x ℓ d b off hoff (h2.mono ζ a (by omega) hhi)
  · exact (h2.mono ζ a (by omega) (by omega)).congr ζ a (fun p hp hp' => twG_out _ _ _ _ _ _ (by omega))
  · intro p hp
    exact twG_out _ _ _ _ _ _ (by omega)

end Spq.Fft.Level
