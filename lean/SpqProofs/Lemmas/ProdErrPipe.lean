/-
  C01 rounding budget: the stages of `fft64_znx_small_single_product` in binary64
  (`stF` = conversion + forward FFT, `stM` = pointwise product, `stI` = inverse FFT), the dispatch conditions
  (`CfgOk`), the stage-wise flag hypothesis (`PipeOk`), and the forward stage in terms of the exact network
  `V ζ (pkC a m)`.
-/
import SpqProofs.Properties.C06Err
import SpqProofs.Lemmas.ProdErrMul
import SpqProofs.Lemmas.ProdErrInv
import SpqProofs.Lemmas.ProdErrExact
import SpqProofs.Lemmas.ProdErrConv
set_option linter.unusedSectionVars false
namespace Spq.ProdErr
open Finset Spq Spq.Module Spq.Fft Spq.Fft.Alg Spq.Fft.SimP Spq.Fft.LevelN Spq.Fft.SchedN Spq.Fft.RelN Spq.FftErr Spq.F64
  Spq.Reim4

/-- the forward table: `reimFftEnts` filled with the stored cos / sin patterns `cN e`, `sN e` -/
def tabF (k : ℕ) (cN sN : ℕ → ℕ) : Array ℕ := ((reimFftEnts (2 ^ k)).map (valP cN sN)).toArray
/-- the inverse table -/
def tabI (k : ℕ) (cNi sNi : ℕ → ℕ) : Array ℕ := ((reimIfftEnts (2 ^ k)).map (valP cNi sNi)).toArray

/-- `Cfg` consistent with the dispatch of the library for `N = 2·2^k`: FMA pointwise kernel only for `m ≥ 4`,
    4-lane conversion kernels only when `4 ∣ 2m` (the library installs them for `m ≥ 8` only), tables as built by
    the table constructors (equal exponents hold equal stored values). -/
structure CfgOk (c : Cfg) (k : ℕ) (cN sN cNi sNi : ℕ → ℕ) : Prop where
  nn : c.nn = 2 * 2 ^ k
  fftT : c.fftT = tabF k cN sN
  ifftT : c.ifftT = tabI k cNi sNi
  mulFma : c.mulFma = true → 2 ≤ k
  fromBnd50 : c.fromBnd50 = true → 1 ≤ k
  toVar : c.toVariant ≠ .ref → 1 ≤ k

/-- stage 1: conversion + forward transform -/
def stF (c : Cfg) (k : ℕ) (cN sN : ℕ → ℕ) (x : Array Int) : Array ℕ :=
  reimFft (if c.fftFma then "fma" else "ref") (2 ^ k) (tabF k cN sN) ((Cfg.parts c).fromZnx x)
/-- stage 2: pointwise product -/
def stM (c : Cfg) (k : ℕ) (cN sN : ℕ → ℕ) (a b : Array Int) : Array ℕ :=
  mulA F64.arith c.mulFma (2 ^ k) (stF c k cN sN a) (stF c k cN sN b)
/-- stage 3: inverse transform -/
def stI (c : Cfg) (k : ℕ) (cN sN cNi sNi : ℕ → ℕ) (a b : Array Int) : Array ℕ :=
  reimIfft (if c.ifftFma then "fma" else "ref") (2 ^ k) (tabI k cNi sNi) (stM c k cN sN a b)

/-- **flags of the flagged run, stage by stage**: every stage is re-run on flagged patterns (`aOk` / `arithOk`),
    starting from the actual binary64 inputs of the stage; the flag of an output says that every operation it depends
    on had finite operands and an exact result that is `0` or in the normal range (no overflow, no underflow). -/
structure PipeOk (c : Cfg) (k : ℕ) (cN sN cNi sNi : ℕ → ℕ) (a b : Array Int) : Prop where
  okA : ∀ p, p < 2 * 2 ^ k →
    ((reimFftA (famOf c.fftFma aOk) (2 ^ k) ((((reimFftEnts (2 ^ k)).map (valP cN sN)).toArray).map lift)
      (((Cfg.parts c).fromZnx a).map lift))[p]!).2
  okB : ∀ p, p < 2 * 2 ^ k →
    ((reimFftA (famOf c.fftFma aOk) (2 ^ k) ((((reimFftEnts (2 ^ k)).map (valP cN sN)).toArray).map lift)
      (((Cfg.parts c).fromZnx b).map lift))[p]!).2
  okM : ∀ p, p < 2 * 2 ^ k →
    ((mulA arithOk c.mulFma (2 ^ k) ((stF c k cN sN a).map lift) ((stF c k cN sN b).map lift)).getD p arithOk.zero).2
  okI : ∀ p, p < 2 * 2 ^ k →
    ((reimIfftA (ifamOf c.ifftFma aOk) (2 ^ k) ((((reimIfftEnts (2 ^ k)).map (valP cNi sNi)).toArray).map lift)
      ((stM c k cN sN a b).map lift))[p]!).2

theorem getElem!_nat (x : Array ℕ) (i : ℕ) : x[i]! = x.getD i 0 := by
  simp only [getElem!_def, Array.getD_eq_getD_getElem?]; rfl

theorem mul_eq_mulA (c : Cfg) (k : ℕ) (hnn : c.nn = 2 * 2 ^ k) (x y : Array ℕ) :
    Module.mul (Cfg.parts c) x y = mulA F64.arith c.mulFma (2 ^ k) x y := by
  have hm : c.nn / 2 = 2 ^ k := by rw [hnn]; exact two_mul_pow_half k
  show (let r := Array.replicate c.nn F64.arith.zero
    if c.mulFma then (reimFftvecMulFma F64.arith (c.nn / 2) r x y).getD r
    else reimFftvecMulRef F64.arith (c.nn / 2) r x y) = _
  rw [hm, hnn]; rfl

theorem parts_fft (c : Cfg) (k : ℕ) (cN sN cNi sNi : ℕ → ℕ) (h : CfgOk c k cN sN cNi sNi) (x : Array Int) :
    (Cfg.parts c).fft ((Cfg.parts c).fromZnx x) = stF c k cN sN x := by
  have hm : c.nn / 2 = 2 ^ k := by rw [h.nn]; exact two_mul_pow_half k
  show reimFft (if c.fftFma then "fma" else "ref") (c.nn / 2) c.fftT _ = _
  rw [hm, h.fftT]; rfl

theorem parts_ifft (c : Cfg) (k : ℕ) (cN sN cNi sNi : ℕ → ℕ) (h : CfgOk c k cN sN cNi sNi) (d : Array ℕ) :
    (Cfg.parts c).ifft d = reimIfft (if c.ifftFma then "fma" else "ref") (2 ^ k) (tabI k cNi sNi) d := by
  have hm : c.nn / 2 = 2 ^ k := by rw [h.nn]; exact two_mul_pow_half k
  show reimIfft (if c.ifftFma then "fma" else "ref") (c.nn / 2) c.ifftT d = _
  rw [hm, h.ifftT]

theorem smallProduct_stages (c : Cfg) (k : ℕ) (cN sN cNi sNi : ℕ → ℕ) (h : CfgOk c k cN sN cNi sNi) (a b : Array Int) :
    smallProduct (Cfg.parts c) a b = (Cfg.parts c).toZnx (stI c k cN sN cNi sNi a b) := by
  unfold smallProduct stI stM
  rw [parts_ifft c k cN sN cNi sNi h, mul_eq_mulA c k h.nn, parts_fft c k cN sN cNi sNi h, parts_fft c k cN sN cNi sNi h]

variable {K : Type} [Field K] [LinearOrder K] [IsStrictOrderedRing K]

theorem two_pow_re (k : ℕ) : ((2 : Cplx K) ^ k).re = 2 ^ k ∧ ((2 : Cplx K) ^ k).im = 0 := by
  induction k with
  | zero => simp [QuadraticAlgebra.re_one, QuadraticAlgebra.im_one]
  | succ k ih =>
    obtain ⟨h1, h2⟩ := ih
    have r2 : (2 : Cplx K).re = 2 := rfl
    have i2 : (2 : Cplx K).im = 0 := rfl
    rw [pow_succ, QuadraticAlgebra.re_mul, QuadraticAlgebra.im_mul, h1, h2, r2, i2, pow_succ]
    constructor <;> ring

theorem two_pow_mul_re (k : ℕ) (γ : Cplx K) : ((2 : Cplx K) ^ k * γ).re = 2 ^ k * γ.re ∧
    ((2 : Cplx K) ^ k * γ).im = 2 ^ k * γ.im := by
  obtain ⟨h1, h2⟩ := two_pow_re (K := K) k
  rw [QuadraticAlgebra.re_mul, QuadraticAlgebra.im_mul, h1, h2]
  constructor <;> ring

theorem inv_root (k : ℕ) (ζ ζi : Cplx K) (hζ : nsq ζ = 1) (hI : ζ ^ 2 ^ k = Ic) (hinv : ζ * ζi = 1) :
    nsq ζi = 1 ∧ ζi ^ 2 ^ k = -Ic := by
  constructor
  · have := congrArg nsq hinv
    rw [nsq_mul, hζ, one_mul, nsq_one] at this
    exact this
  · have h1 : ζ ^ 2 ^ k * ζi ^ 2 ^ k = 1 := by rw [← mul_pow, hinv, one_pow]
    rw [hI] at h1
    have h2 : ζi ^ 2 ^ k = -(Ic * Ic) * ζi ^ 2 ^ k := by rw [Ic_sq]; ring
    rw [h2, show -(Ic * Ic) * ζi ^ 2 ^ k = -Ic * (Ic * ζi ^ 2 ^ k) by ring, h1, mul_one]

theorem exactOut_conv (c : Cfg) (k : ℕ) (hnn : c.nn = 2 * 2 ^ k) (hb : c.fromBnd50 = true → 1 ≤ k)
    (ζ : Cplx K) (hI : ζ ^ 2 ^ k = Ic) (x : Array Int)
    (hx : ∀ i, i < 2 * 2 ^ k → -1125899906842624 < x.getD i 0 ∧ x.getD i 0 < 1125899906842624)
    (j : ℕ) (hj : j < 2 ^ k) :
    exactOut ζ k ((Cfg.parts c).fromZnx x) j = V ζ (pkC x (2 ^ k)) k 0 j := by
  obtain ⟨_, hv⟩ := fromZnx_spec c k hnn hb x hx
  rw [V_top ζ _ k (pow_two_mul_of_I hI) j hj]
  unfold exactOut
  apply sumTo_congr
  intro i hi
  congr 1
  unfold pkC
  rw [getElem!_nat, getElem!_nat, hv i (by omega), hv (2 ^ k + i) (by omega)]
  simp only [Rat.cast_intCast]

theorem fwd_stage (c : Cfg) (k : ℕ) (cN sN cNi sNi : ℕ → ℕ) (h : CfgOk c k cN sN cNi sNi)
    (ζ : Cplx K) (hζ : nsq ζ = 1) (hI : ζ ^ 2 ^ k = Ic)
    (hcs : ∀ ℓ d b, ℓ + d + 1 = k → b < 2 ^ ℓ →
      nsq (toC (((val (cN (twE ℓ d b)) : ℚ) : K), ((val (sN (twE ℓ d b)) : ℚ) : K)) - ζ ^ twE ℓ d b) ≤
        (((7 / 2 * u64 : ℚ)) : K) ^ 2)
    (x : Array Int) (hx : ∀ i, i < 2 * 2 ^ k → -1125899906842624 < x.getD i 0 ∧ x.getD i 0 < 1125899906842624)
    (hok : ∀ p, p < 2 * 2 ^ k →
      ((reimFftA (famOf c.fftFma aOk) (2 ^ k) ((((reimFftEnts (2 ^ k)).map (valP cN sN)).toArray).map lift)
        (((Cfg.parts c).fromZnx x).map lift))[p]!).2) :
    (∀ p, p < 2 * 2 ^ k → Fin64 ((stF c k cN sN x)[p]!)) ∧
    ∑ j ∈ range (2 ^ k), nsq (outC (stF c k cN sN x) k j - V ζ (pkC x (2 ^ k)) k 0 j) ≤
      ((1 + ((8 * u64 : ℚ) : K)) ^ k - 1) ^ 2 * ∑ j ∈ range (2 ^ k), nsq (V ζ (pkC x (2 ^ k)) k 0 j) := by
  obtain ⟨hsz, _⟩ := fromZnx_spec c k h.nn h.fromBnd50 x hx
  obtain ⟨F1, F2⟩ := C06Err.reim_fft_err c.fftFma k ζ hζ hI cN sN hcs _ hsz hok
  refine ⟨F1, ?_⟩
  have eA : ∀ j ∈ range (2 ^ k), V ζ (pkC x (2 ^ k)) k 0 j = exactOut ζ k ((Cfg.parts c).fromZnx x) j :=
    fun j hj => (exactOut_conv c k h.nn h.fromBnd50 ζ hI x hx j (mem_range.1 hj)).symm
  calc _ = ∑ j ∈ range (2 ^ k), nsq (outC (stF c k cN sN x) k j - exactOut ζ k ((Cfg.parts c).fromZnx x) j) :=
        sum_congr rfl (fun j hj => by rw [eA j hj])
    _ ≤ _ := F2
    _ = _ := by congr 1; exact sum_congr rfl (fun j hj => by rw [eA j hj])

end Spq.ProdErr
