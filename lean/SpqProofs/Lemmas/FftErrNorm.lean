/-
  Square-root-free 2-norm calculus for the FFT rounding-error analysis (C06.4): complex numbers over an ordered
  field `K` (`Cplx K`), squared modulus `nsq`, and the triangle inequality in the form
      Σ‖f‖² ≤ α²·Y  →  Σ‖g‖² ≤ β²·Y  →  Σ‖f+g‖² ≤ (α+β)²·Y
  (so that `‖e‖₂ ≤ η·‖x‖₂` is stated as `Σ‖e‖² ≤ η²·Σ‖x‖²` and no square root is needed; `K = ℚ` or `ℝ`).
-/
import Mathlib.Algebra.QuadraticAlgebra.Defs
import Mathlib.Algebra.Order.Field.Basic
import Mathlib.Algebra.Order.Ring.Abs
import Mathlib.Algebra.Order.BigOperators.Group.Finset
import Mathlib.Algebra.BigOperators.Intervals
import Mathlib.Tactic.Ring
import Mathlib.Tactic.Linarith
import Mathlib.Tactic.Positivity

set_option linter.unusedSectionVars false

namespace Spq.FftErr
open Finset
variable {K : Type} [Field K] [LinearOrder K] [IsStrictOrderedRing K]

/-- complex numbers over `K`: `i² = -1` -/
abbrev Cplx (K : Type) [Field K] := QuadraticAlgebra K (-1) 0

def nsq (z : Cplx K) : K := z.re ^ 2 + z.im ^ 2

theorem nsq_nonneg (z : Cplx K) : 0 ≤ nsq z := by unfold nsq; positivity

@[simp] theorem nsq_zero : nsq (0 : Cplx K) = 0 := by simp [nsq]

theorem nsq_neg (z : Cplx K) : nsq (-z) = nsq z := by simp [nsq]

theorem nsq_sub_comm (z w : Cplx K) : nsq (z - w) = nsq (w - z) := by
  rw [← nsq_neg (z - w), neg_sub]

theorem nsq_mul (z w : Cplx K) : nsq (z * w) = nsq z * nsq w := by
  simp only [nsq, QuadraticAlgebra.re_mul, QuadraticAlgebra.im_mul]; ring

theorem nsq_one : nsq (1 : Cplx K) = 1 := by
  simp [nsq, QuadraticAlgebra.re_one, QuadraticAlgebra.im_one]

theorem nsq_pow (z : Cplx K) (n : ℕ) : nsq (z ^ n) = nsq z ^ n := by
  induction n with
  | zero => simp [nsq_one]
  | succ n ih => rw [pow_succ, nsq_mul, ih, pow_succ]

theorem eq_zero_of_nsq {z : Cplx K} (h : nsq z = 0) : z = 0 := by
  obtain ⟨h1, h2⟩ := (add_eq_zero_iff_of_nonneg (sq_nonneg z.re) (sq_nonneg z.im)).1 h
  ext
  · simpa using h1
  · simpa using h2

/-- `(α+β)(β‖x‖² + α‖y‖²) − αβ‖x+y‖² = ‖βx − αy‖² ≥ 0` -/
theorem nsq_add_weighted (x y : Cplx K) (α β : K) :
    α * β * nsq (x + y) ≤ (α + β) * (β * nsq x + α * nsq y) := by
  simp only [nsq, QuadraticAlgebra.re_add, QuadraticAlgebra.im_add]
  have e : (α + β) * (β * (x.re ^ 2 + x.im ^ 2) + α * (y.re ^ 2 + y.im ^ 2))
      - α * β * ((x.re + y.re) ^ 2 + (x.im + y.im) ^ 2) = (β * x.re - α * y.re) ^ 2 + (β * x.im - α * y.im) ^ 2 := by ring
  linarith [sq_nonneg (β * x.re - α * y.re), sq_nonneg (β * x.im - α * y.im)]

theorem sum_tri {ι : Type} (s : Finset ι) (f g : ι → Cplx K) (α β Y : K) (hα : 0 ≤ α) (hβ : 0 ≤ β)
    (hf : ∑ i ∈ s, nsq (f i) ≤ α ^ 2 * Y) (hg : ∑ i ∈ s, nsq (g i) ≤ β ^ 2 * Y) :
    ∑ i ∈ s, nsq (f i + g i) ≤ (α + β) ^ 2 * Y := by
  rcases eq_or_lt_of_le hα with h0 | hαp
  · -- α = 0: f vanishes on s
    subst h0
    have hz : ∑ i ∈ s, nsq (f i) = 0 :=
      le_antisymm (by simpa using hf) (sum_nonneg (fun i _ => nsq_nonneg _))
    have hfi : ∀ i ∈ s, f i = 0 := fun i hi =>
      eq_zero_of_nsq ((sum_eq_zero_iff_of_nonneg (fun i _ => nsq_nonneg _)).1 hz i hi)
    rw [zero_add]
    calc ∑ i ∈ s, nsq (f i + g i) = ∑ i ∈ s, nsq (g i) :=
          sum_congr rfl (fun i hi => by rw [hfi i hi, zero_add])
      _ ≤ _ := hg
  rcases eq_or_lt_of_le hβ with h0 | hβp
  · subst h0
    have hz : ∑ i ∈ s, nsq (g i) = 0 :=
      le_antisymm (by simpa using hg) (sum_nonneg (fun i _ => nsq_nonneg _))
    have hgi : ∀ i ∈ s, g i = 0 := fun i hi =>
      eq_zero_of_nsq ((sum_eq_zero_iff_of_nonneg (fun i _ => nsq_nonneg _)).1 hz i hi)
    rw [add_zero]
    calc ∑ i ∈ s, nsq (f i + g i) = ∑ i ∈ s, nsq (f i) :=
          sum_congr rfl (fun i hi => by rw [hgi i hi, add_zero])
      _ ≤ _ := hf
  have hab : 0 < α * β := mul_pos hαp hβp
  have h1 : α * β * ∑ i ∈ s, nsq (f i + g i) ≤
      (α + β) * (β * ∑ i ∈ s, nsq (f i) + α * ∑ i ∈ s, nsq (g i)) := by
    rw [mul_sum, mul_sum, mul_sum, ← sum_add_distrib, mul_sum]
    exact sum_le_sum (fun i _ => nsq_add_weighted (f i) (g i) α β)
  have h2 : β * ∑ i ∈ s, nsq (f i) ≤ β * (α ^ 2 * Y) := mul_le_mul_of_nonneg_left hf hβ
  have h3 : α * ∑ i ∈ s, nsq (g i) ≤ α * (β ^ 2 * Y) := mul_le_mul_of_nonneg_left hg hα
  have h4 : (α + β) * (β * ∑ i ∈ s, nsq (f i) + α * ∑ i ∈ s, nsq (g i)) ≤
      (α + β) * (β * (α ^ 2 * Y) + α * (β ^ 2 * Y)) :=
    mul_le_mul_of_nonneg_left (by linarith) (by linarith)
  have h5 : (α + β) * (β * (α ^ 2 * Y) + α * (β ^ 2 * Y)) = α * β * ((α + β) ^ 2 * Y) := by ring
  exact le_of_mul_le_mul_left (by linarith) hab

theorem one_tri (x y : Cplx K) (α β Y : K) (hα : 0 ≤ α) (hβ : 0 ≤ β)
    (hf : nsq x ≤ α ^ 2 * Y) (hg : nsq y ≤ β ^ 2 * Y) : nsq (x + y) ≤ (α + β) ^ 2 * Y := by
  have := sum_tri (range 1) (fun _ => x) (fun _ => y) α β Y hα hβ (by simpa using hf) (by simpa using hg)
  simpa using this

/-- composition of relative errors: `‖S − E‖ ≤ α‖E‖` (perturbed operands) and `‖Ô − S‖ ≤ β‖S‖` (rounding of the
    perturbed result) give `‖Ô − E‖ ≤ (β(1+α) + α)‖E‖`.  Every bound of the FFT analysis — butterfly from its
    operations, level from its butterflies, network from its levels — is an instance. -/
theorem sum_round {ι : Type} (s : Finset ι) (E S O : ι → Cplx K) (α β Y : K) (hα : 0 ≤ α) (hβ : 0 ≤ β)
    (hE : ∑ i ∈ s, nsq (E i) ≤ Y) (hSE : ∑ i ∈ s, nsq (S i - E i) ≤ α ^ 2 * Y)
    (hOS : ∑ i ∈ s, nsq (O i - S i) ≤ β ^ 2 * ∑ i ∈ s, nsq (S i)) :
    ∑ i ∈ s, nsq (O i - E i) ≤ (β * (1 + α) + α) ^ 2 * Y := by
  have hS : ∑ i ∈ s, nsq (S i) ≤ (1 + α) ^ 2 * Y := by
    have := sum_tri s E (fun i => S i - E i) 1 α Y zero_le_one hα (by rw [one_pow, one_mul]; exact hE) hSE
    simpa only [add_sub_cancel] using this
  have hOS' : ∑ i ∈ s, nsq (O i - S i) ≤ (β * (1 + α)) ^ 2 * Y := by
    rw [mul_pow, mul_assoc]
    exact hOS.trans (mul_le_mul_of_nonneg_left hS (sq_nonneg β))
  have := sum_tri s (fun i => O i - S i) (fun i => S i - E i) (β * (1 + α)) α Y
    (mul_nonneg hβ (add_nonneg zero_le_one hα)) hα hOS' hSE
  simpa only [sub_add_sub_cancel] using this

theorem pair_round (E1 E2 S1 S2 O1 O2 : Cplx K) (α β Y : K) (hα : 0 ≤ α) (hβ : 0 ≤ β)
    (hE : nsq E1 + nsq E2 ≤ Y) (hSE : nsq (S1 - E1) + nsq (S2 - E2) ≤ α ^ 2 * Y)
    (hOS : nsq (O1 - S1) + nsq (O2 - S2) ≤ β ^ 2 * (nsq S1 + nsq S2)) :
    nsq (O1 - E1) + nsq (O2 - E2) ≤ (β * (1 + α) + α) ^ 2 * Y := by
  have := sum_round (univ : Finset Bool) (fun i => cond i E1 E2) (fun i => cond i S1 S2) (fun i => cond i O1 O2)
    α β Y hα hβ (by rw [Fintype.sum_bool]; exact hE) (by rw [Fintype.sum_bool]; exact hSE)
    (by rw [Fintype.sum_bool, Fintype.sum_bool]; exact hOS)
  rw [Fintype.sum_bool] at this
  exact this

theorem one_round (E S O : Cplx K) (α β Y : K) (hα : 0 ≤ α) (hβ : 0 ≤ β) (hE : nsq E ≤ Y)
    (hSE : nsq (S - E) ≤ α ^ 2 * Y) (hOS : nsq (O - S) ≤ β ^ 2 * nsq S) :
    nsq (O - E) ≤ (β * (1 + α) + α) ^ 2 * Y := by
  have := sum_round (range 1) (fun _ => E) (fun _ => S) (fun _ => O) α β Y hα hβ
    (by rw [sum_range_one]; exact hE) (by rw [sum_range_one]; exact hSE)
    (by rw [sum_range_one, sum_range_one]; exact hOS)
  rw [sum_range_one] at this
  exact this

theorem nsq_le_of_comp (x : Cplx K) {a b : K} (hr : |x.re| ≤ a) (hi : |x.im| ≤ b) : nsq x ≤ a ^ 2 + b ^ 2 :=
  add_le_add (sq_abs x.re ▸ pow_le_pow_left₀ (abs_nonneg _) hr 2) (sq_abs x.im ▸ pow_le_pow_left₀ (abs_nonneg _) hi 2)

end Spq.FftErr
