/-
  Lemmas for the `_simple` conversions of the q120 arithmetic (one prime / one lane at a time) and
  for the block extract / save copies.  `q` is a symbolic prime with the size facts stated as
  hypotheses (discharged on the extracted constants in `Q120ConvGen.lean`).
-/
import SpqProofs.Lemmas.Q120Basic
namespace Spq.Q120

def IsI64 (x : Int) : Prop := -9223372036854775808 ≤ x ∧ x < 9223372036854775808

/-- `q120_b_from_znx64_simple`, one lane: the lane is `x` for `x ≥ 0` and `x + 2^63 + OQ` for `x < 0`
  (an exact integer identity: the 64-bit addition does not wrap), hence congruent to `x` modulo `q`. -/
theorem bFromZnx64Lane_spec (q : Nat) (x : Int) (hq : 0 < q) (hq2 : q ≤ 9223372036854775808) (hx : IsI64 x) :
    ((bFromZnx64Lane q x : Nat) : Int) = x + (if x < 0 then 9223372036854775808 + (oq q : Int) else 0)
    ∧ ((bFromZnx64Lane q x : Nat) : Int) % (q : Int) = x % (q : Int) := by
  obtain ⟨h1, h2⟩ := hx
  have hr : 9223372036854775808 % q < q := Nat.mod_lt _ hq
  have hd := Nat.mod_add_div 9223372036854775808 q
  have e : ((bFromZnx64Lane q x : Nat) : Int)
      = x + (if x < 0 then 9223372036854775808 + (oq q : Int) else 0) := by
    unfold bFromZnx64Lane toU add64 oq
    by_cases hn : x < 0
    · have : ((x % 18446744073709551616).toNat / 9223372036854775808 != 0) = true := by
        simp only [bne_iff_ne, ne_eq]; omega
      simp only [this, if_true, hn]
      omega
    · have : ((x % 18446744073709551616).toNat / 9223372036854775808 != 0) = false := by
        simp only [bne_eq_false_iff_eq]; omega
      simp only [this, hn, Bool.false_eq_true, if_false]
      omega
  refine ⟨e, ?_⟩
  rw [e]
  by_cases hn : x < 0
  · simp only [hn, if_true]
    have : (9223372036854775808 + (oq q : Int)) = (q : Int) * ((9223372036854775808 / q + 1 : Nat) : Int) := by
      unfold oq
      have : ((q * (9223372036854775808 / q + 1) : Nat) : Int) = ((9223372036854775808 + (q - 9223372036854775808 % q) : Nat) : Int) := by
        congr 1
        have : q * (9223372036854775808 / q + 1) = q * (9223372036854775808 / q) + q := by ring
        omega
      push_cast at this ⊢
      omega
    rw [this, Int.add_mul_emod_self_left]
  · simp [hn]

theorem posmod_eq (x q : Int) (hq : 0 < q) (hq2 : q < 4294967296) : posmod x q = x % q := by
  unfold posmod
  have h1 := Int.emod_nonneg x (show q ≠ 0 by omega)
  have h2 := Int.emod_lt_of_pos x hq
  rw [Int.tmod_eq_emod]
  have : (q.natAbs : Int) = q := by omega
  split
  · rw [if_neg (by omega)]
    simp
  · rw [this, if_pos (by omega)]
    unfold wrapS
    omega

/-- the second word of a layout-c pair computed from the first: `((uint64_t)r0 << 32) % q` -/
theorem cWord1_eq (q r0 : Nat) (hq : 0 < q) (hq2 : q < 4294967296) (hr : r0 < q) :
    (mul64 r0 4294967296 % q) % 4294967296 = (r0 * 4294967296) % q := by
  have : r0 * 4294967296 < 18446744073709551616 := by omega
  rw [mul64_eq _ _ this]
  exact Nat.mod_eq_of_lt (Nat.lt_trans (Nat.mod_lt _ hq) hq2)

/-- `q120_c_from_znx64_simple`, one prime: the pair is `(x mod q, (x mod q)·2^32 mod q)`, with the
  mathematical (non-negative) residue of the signed `x` -/
theorem cFromZnx64Lane_spec (q : Nat) (x : Int) (hq : 0 < q) (hq2 : q < 4294967296) :
    cFromZnx64Lane q x = ((x % (q : Int)).toNat, ((x % (q : Int)).toNat * 4294967296) % q)
    ∧ (x % (q : Int)).toNat < q := by
  have h1 := Int.emod_nonneg x (show (q : Int) ≠ 0 by omega)
  have h2 := Int.emod_lt_of_pos x (show (0 : Int) < q by omega)
  have lt : (x % (q : Int)).toNat < q := by omega
  have e0 : (posmod x (q : Int) % 4294967296).toNat = (x % (q : Int)).toNat := by
    rw [posmod_eq x q (by omega) (by omega)]
    congr 1
    omega
  unfold cFromZnx64Lane
  simp only [e0]
  rw [cWord1_eq q _ hq hq2 lt]
  exact ⟨rfl, lt⟩

/-- `q120_c_from_b_simple`, one prime: `(x mod q, (x mod q)·2^32 mod q)` for ANY 64-bit lane `x`
  (non-canonical representatives included) -/
theorem cFromBLane_spec (q x : Nat) (hq : 0 < q) (hq2 : q < 4294967296) :
    cFromBLane q x = (x % q, ((x % q) * 4294967296) % q) := by
  have lt : x % q < q := Nat.mod_lt _ hq
  unfold cFromBLane
  simp only [Nat.mod_eq_of_lt (Nat.lt_trans lt hq2)]
  rw [cWord1_eq q _ hq hq2 lt]

/-- a pair produced by `c_from_b` / `c_from_znx64` is a valid layout-c element in the sense used by
  the b·c products (`bbcVal_valid`): `y1 ≡ y0·2^32 (mod q)` -/
theorem cPair_valid (q r0 : Nat) : ((r0 * 4294967296) % q) % q = (r0 * 4294967296) % q := Nat.mod_mod _ _

/-- `q120_add_bbb_simple`, one lane, any 64-bit operands: the sum of the two operands reduced modulo
  `q·2^33` does not wrap (needs `q ≤ 2^30`) and is congruent to `x + y` -/
theorem addBbbLane_spec (q x y : Nat) (hq : 0 < q) (hq2 : q ≤ 1073741824) :
    addBbbLane q x y = x % (q * 8589934592) + y % (q * 8589934592)
    ∧ x % (q * 8589934592) + y % (q * 8589934592) < 18446744073709551616
    ∧ addBbbLane q x y % q = (x + y) % q := by
  have hm : 0 < q * 8589934592 := by omega
  have l1 := Nat.mod_lt x hm
  have l2 := Nat.mod_lt y hm
  have e : addBbbLane q x y = x % (q * 8589934592) + y % (q * 8589934592) := by
    unfold addBbbLane
    simp only [Nat.mod_eq_of_lt (show q * 8589934592 < 18446744073709551616 by omega)]
    exact add64_eq _ _ (by omega)
  refine ⟨e, by omega, ?_⟩
  rw [e, Nat.add_mod, Nat.mod_mod_of_dvd x (Dvd.intro _ rfl), Nat.mod_mod_of_dvd y (Dvd.intro _ rfl),
    ← Nat.add_mod]

/-- `q120_add_ccc_simple`, one uint32 word: `(x + y) mod q` exactly, for ANY 32-bit words -/
theorem addCccWord_spec (q x y : Nat) (hq : 0 < q) (hq2 : q < 4294967296)
    (hx : x < 4294967296) (hy : y < 4294967296) :
    addCccWord q x y = (x + y) % q ∧ addCccWord q x y < q := by
  have l := Nat.mod_lt (x + y) hq
  have e : addCccWord q x y = (x + y) % q := by
    unfold addCccWord
    rw [add64_eq _ _ (by omega)]
    exact Nat.mod_eq_of_lt (by omega)
  exact ⟨e, by rw [e]; exact l⟩

/-- adding two valid layout-c pairs word by word gives a valid pair of the sum:
  `y1+y1' ≡ (y0+y0')·2^32` -/
theorem addCcc_valid (q a0 a1 b0 b1 : Nat)
    (ha : a1 % q = (a0 * 4294967296) % q) (hb : b1 % q = (b0 * 4294967296) % q) :
    ((a1 + b1) % q) % q = (((a0 + b0) % q) * 4294967296) % q := by
  rw [Nat.mod_mod, Nat.add_mod, ha, hb, ← Nat.add_mod, Nat.mod_mul_mod, Nat.add_mul]

theorem size_foldl_set (f : Nat → Nat) (b n : Nat) (dest : Array Nat) :
    ((List.range n).foldl (fun d i => d.setIfInBounds (b + i) (f i)) dest).size = dest.size :=
  size_foldl_of_step _ (fun _ _ => Array.size_setIfInBounds) _ dest

/-- `for i < n: d[b+i] = f i` (in-bounds writes only) -/
theorem getElem?_foldl_set (f : Nat → Nat) (b n : Nat) (dest : Array Nat) (k : Nat) :
    ((List.range n).foldl (fun d i => d.setIfInBounds (b + i) (f i)) dest)[k]? =
      if b ≤ k ∧ k < b + n ∧ k < dest.size then some (f (k - b)) else dest[k]? := by
  induction n with
  | zero =>
    simp only [List.range_zero, List.foldl_nil]
    rw [if_neg (by omega)]
  | succ n ih =>
    rw [List.range_succ, List.foldl_append]
    simp only [List.foldl_cons, List.foldl_nil, Array.getElem?_setIfInBounds, size_foldl_set, ih]
    by_cases h1 : b + n = k
    · subst h1
      by_cases h2 : b + n < dest.size
      · simp only [h2, if_true]
        rw [if_pos ⟨by omega, by omega, trivial⟩]
        congr 2
        omega
      · simp [h2]
    · simp only [h1, if_false]
      by_cases h3 : b ≤ k ∧ k < b + n ∧ k < dest.size
      · rw [if_pos h3, if_pos (by omega)]
      · rw [if_neg h3, if_neg (by omega)]

theorem getElem?_save1blk (nn blk : Nat) (dest src : Array Nat) (k : Nat) :
    (save1blk nn blk dest src)[k]? =
      if 8 * blk ≤ k ∧ k < 8 * blk + 8 ∧ k < dest.size then some (src.getD (k - 8 * blk) 0) else dest[k]? :=
  getElem?_foldl_set (fun i => src.getD i 0) (8 * blk) 8 dest k

theorem size_save1blk (nn blk : Nat) (dest src : Array Nat) : (save1blk nn blk dest src).size = dest.size :=
  size_foldl_set (fun i => src.getD i 0) (8 * blk) 8 dest

theorem getElem?_extract1blk (nn blk : Nat) (src : Array Nat) (i : Nat) :
    (extract1blk nn blk src)[i]? = if i < 8 then some (src.getD (8 * blk + i) 0) else none := by
  unfold extract1blk
  simp only [Array.getElem?_ofFn]
  split <;> rfl

theorem extract_save (nn blk : Nat) (dest src : Array Nat) (hs : src.size = 8) (hd : 8 * blk + 8 ≤ dest.size) :
    extract1blk nn blk (save1blk nn blk dest src) = src := by
  apply Array.ext_getElem?
  intro i
  rw [getElem?_extract1blk]
  by_cases hi : i < 8
  · simp only [hi, if_true, Array.getD_eq_getD_getElem?, getElem?_save1blk]
    rw [if_pos ⟨by omega, by omega, by omega⟩]
    have : 8 * blk + i - 8 * blk = i := by omega
    simp only [this, Option.getD_some]
    have : i < src.size := by omega
    simp [this]
  · simp only [hi, if_false]
    have : src.size ≤ i := by omega
    simp [this]

theorem save_extract (nn blk : Nat) (dest : Array Nat) :
    save1blk nn blk dest (extract1blk nn blk dest) = dest := by
  apply Array.ext_getElem?
  intro k
  rw [getElem?_save1blk]
  split
  · rename_i h
    have e : (extract1blk nn blk dest).getD (k - 8 * blk) 0 = dest.getD k 0 := by
      simp only [Array.getD_eq_getD_getElem?, getElem?_extract1blk]
      rw [if_pos (by omega)]
      have : 8 * blk + (k - 8 * blk) = k := by omega
      simp [this]
    rw [e]
    have : k < dest.size := h.2.2
    simp [Array.getD_eq_getD_getElem?, this]
  · rfl

theorem save_frame (nn blk : Nat) (dest src : Array Nat) (k : Nat) (hk : ¬ (8 * blk ≤ k ∧ k < 8 * blk + 8)) :
    (save1blk nn blk dest src)[k]? = dest[k]? := by
  rw [getElem?_save1blk, if_neg (by omega)]

/-- the contiguous form extracts block `blk` of each of the `nrows` vectors of pitch `4·nn` -/
theorem extractContiguous_row (nn nrows blk : Nat) (src : Array Nat) (r i : Nat) (hr : r < nrows) (hi : i < 8) :
    (extractContiguous nn nrows blk src).getD (8 * r + i) 0 = src.getD (4 * nn * r + 8 * blk + i) 0 := by
  unfold extractContiguous
  have h : 8 * r + i < 8 * nrows := by omega
  simp only [Array.getD_eq_getD_getElem?, Array.getElem?_ofFn, h, dif_pos, Option.getD_some]
  have e1 : (8 * r + i) / 8 = r := by omega
  have e2 : (8 * r + i) % 8 = i := by omega
  rw [e1, e2]

end Spq.Q120
