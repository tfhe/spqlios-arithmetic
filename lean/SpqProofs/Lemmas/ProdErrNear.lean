/-
  The invariant of the binary64 pipeline in DFT space, and the rules that produce and consume it.  `Ctx K`: what every
  stage assumes.  `Near C d x δ`: the limb `d` consists of finite doubles and `‖val d − DFT x‖₂ ≤ δ·√m`.  `Size C x S2`:
  `‖x‖₂ ≤ S2` on the `N` coefficients, i.e. `‖DFT x‖₂ ≤ S2·√m` (Parseval); only the consumer needs it.  Producers:
  `near_fwd` (`δ = ε·‖a‖₂`), `near_mul` (ANY two limbs, `δ = rowF`; `Size.nmul` on the exact side).  Consumer: `near_out`
  = `inv_near` (cells of the inverse transform within `(ε(S2 + δ) + δ)·m` of `m·γ_i`), then `conv_tail`.
-/
import SpqProofs.Lemmas.ProdErrPipe
namespace Spq.VmpErr
open Spq Spq.Module Spq.Fft Spq.Fft.Alg Spq.Fft.SimP Spq.Fft.LevelN Spq.Fft.SchedN Spq.Fft.RelN Spq.FftErr Spq.F64
  Spq.Reim4 Spq.ProdErr Spq.C06Err

/-- flags of one forward transform (conversion + FFT) of the integer polynomial `x` -/
def FwdOk (c : Cfg) (k : ℕ) (cN sN : ℕ → ℕ) (x : Array Int) : Prop :=
  ∀ p, p < 2 * 2 ^ k →
    ((reimFftA (famOf c.fftFma aOk) (2 ^ k) ((((reimFftEnts (2 ^ k)).map (valP cN sN)).toArray).map lift)
      (((Cfg.parts c).fromZnx x).map lift))[p]!).2

/-- flags of one inverse transform of the DFT-space vector `d` -/
def InvOk (c : Cfg) (k : ℕ) (cNi sNi : ℕ → ℕ) (d : Array ℕ) : Prop :=
  ∀ p, p < 2 * 2 ^ k →
    ((reimIfftA (ifamOf c.ifftFma aOk) (2 ^ k) ((((reimIfftEnts (2 ^ k)).map (valP cNi sNi)).toArray).map lift)
      (d.map lift))[p]!).2

/-- the coefficient box of the property: `|x_t| < 2^50` on the `N` coefficients -/
def Box (k : ℕ) (x : Array Int) : Prop :=
  ∀ i, i < 2 * 2 ^ k → -1125899906842624 < x.getD i 0 ∧ x.getD i 0 < 1125899906842624

end Spq.VmpErr
namespace Spq.ProdErr
open Finset Spq Spq.Module Spq.Fft Spq.Fft.Alg Spq.Fft.SimP Spq.Fft.LevelN Spq.Fft.SchedN Spq.Fft.RelN Spq.FftErr Spq.F64
  Spq.Reim4 Spq.C06Err
variable {K : Type} [Field K] [LinearOrder K] [IsStrictOrderedRing K]

/-- relative 2-norm error of one transform of `2^k` points: `(1 + 8u)^k − 1`, `u = 2^-53` (C06Err) -/
def eps (K : Type) [Field K] (k : ℕ) : K := (1 + ((8 * u64 : ℚ) : K)) ^ k - 1
/-- the 1-norm of the first `N` coefficients -/
def n1 (K : Type) [Field K] [LinearOrder K] (x : Array Int) (N : ℕ) : K := ∑ t ∈ range N, |((x.getD t 0 : Int) : K)|
/-- the squared 2-norm -/
def n2sq (K : Type) [Field K] (x : Array Int) (N : ℕ) : K := ∑ t ∈ range N, ((x.getD t 0 : Int) : K) ^ 2

theorem n1_nonneg (x : Array Int) (N : ℕ) : (0 : K) ≤ n1 K x N := sum_nonneg (fun _ _ => abs_nonneg _)

theorem n2sq_pair (K : Type) [Field K] (a b : Int) : n2sq K #[a, b] 2 = (a : K) ^ 2 + (b : K) ^ 2 := by
  simp [n2sq, sum_range_succ]

theorem n1_pair (K : Type) [Field K] [LinearOrder K] (a b : Int) : n1 K #[a, b] 2 = |(a : K)| + |(b : K)| := by
  simp [n1, sum_range_succ]

theorem eps_nonneg (k : ℕ) : (0 : K) ≤ eps K k := by
  unfold eps
  have h0 : (0 : K) ≤ ((8 * u64 : ℚ) : K) := by
    have : (0 : ℚ) ≤ 8 * u64 := by unfold u64; positivity
    exact_mod_cast this
  have : (1 : K) ≤ (1 + ((8 * u64 : ℚ) : K)) ^ k := one_le_pow₀ (by linarith)
  linarith

theorem mu_nonneg : (0 : K) ≤ ((mu64 : ℚ) : K) := by exact_mod_cast mu64_nonneg

open Spq.VmpErr Spq.ProgErr2

/-- the standing hypotheses of the pipeline for `N = 2·2^k`: a consistent configuration, a root of unity `ζ` with
    `ζ^m = i` and its inverse, and both twiddle tables within `3.5u` of the powers of `ζ`, `ζi` -/
structure Ctx (K : Type) [Field K] [LinearOrder K] [IsStrictOrderedRing K] where
  c : Cfg
  k : ℕ
  cN : ℕ → ℕ
  sN : ℕ → ℕ
  cNi : ℕ → ℕ
  sNi : ℕ → ℕ
  ok : CfgOk c k cN sN cNi sNi
  ζ : Cplx K
  ζi : Cplx K
  hζ : nsq ζ = 1
  hI : ζ ^ 2 ^ k = Ic
  hinv : ζ * ζi = 1
  hcs : ∀ ℓ d b, ℓ + d + 1 = k → b < 2 ^ ℓ →
    nsq (toC (((val (cN (twE ℓ d b)) : ℚ) : K), ((val (sN (twE ℓ d b)) : ℚ) : K)) - ζ ^ twE ℓ d b) ≤
      (((7 / 2 * u64 : ℚ)) : K) ^ 2
  hcsi : ∀ ℓ d b, ℓ + d + 1 = k → b < 2 ^ ℓ →
    nsq (toC (((val (cNi (twE ℓ d b)) : ℚ) : K), ((val (sNi (twE ℓ d b)) : ℚ) : K)) - ζi ^ twE ℓ d b) ≤
      (((7 / 2 * u64 : ℚ)) : K) ^ 2

abbrev Ctx.N (C : Ctx K) : ℕ := 2 * 2 ^ C.k

def Near (C : Ctx K) (d : Array ℕ) (x : Array Int) (δ : K) : Prop :=
  0 ≤ δ ∧ (∀ p, p < C.N → Fin64 (d.getD p 0)) ∧
  ∑ j ∈ range (2 ^ C.k), nsq (outC d C.k j - V C.ζ (pkC x (2 ^ C.k)) C.k 0 j) ≤ δ ^ 2 * 2 ^ C.k

theorem Near.mono {C : Ctx K} {d : Array ℕ} {x : Array Int} {δ δ' : K} (h : Near C d x δ) (hle : δ ≤ δ') :
    Near C d x δ' := by
  obtain ⟨h0, h1, h2⟩ := h
  exact ⟨le_trans h0 hle, h1, le_trans h2 (mul_le_mul_of_nonneg_right (pow_le_pow_left₀ h0 hle 2) (by positivity))⟩

def Size (C : Ctx K) (x : Array Int) (S2 : K) : Prop := 0 ≤ S2 ∧ n2sq K x C.N ≤ S2 ^ 2

theorem Size.dft {C : Ctx K} {x : Array Int} {S2 : K} (h : Size C x S2) :
    ∑ j ∈ range (2 ^ C.k), nsq (V C.ζ (pkC x (2 ^ C.k)) C.k 0 j) ≤ S2 ^ 2 * 2 ^ C.k := by
  rw [V_sum C.k C.ζ C.hζ x, mul_comm]
  exact mul_le_mul_of_nonneg_right h.2 (by positivity)

theorem Size.of_dft {C : Ctx K} {x : Array Int} {S2 : K} (h0 : 0 ≤ S2)
    (h : ∑ j ∈ range (2 ^ C.k), nsq (V C.ζ (pkC x (2 ^ C.k)) C.k 0 j) ≤ S2 ^ 2 * 2 ^ C.k) : Size C x S2 := by
  refine ⟨h0, ?_⟩
  rw [V_sum C.k C.ζ C.hζ x, mul_comm] at h
  exact le_of_mul_le_mul_right h (by positivity)

theorem Size.coord {C : Ctx K} {x : Array Int} {S2 : K} (h : Size C x S2) (t : ℕ) (ht : t < C.N) :
    |((x.getD t 0 : Int) : K)| ≤ S2 :=
  abs_le_of_sq_le_sq (le_trans
    (single_le_sum (f := fun t => ((x.getD t 0 : Int) : K) ^ 2) (fun _ _ => sq_nonneg _) (mem_range.2 ht)) h.2) h.1

theorem near_fwd (C : Ctx K) (a : Array Int) (hbox : Box C.k a) (hok : FwdOk C.c C.k C.cN C.sN a) (na : K)
    (ha : Size C a na) : Near C (stF C.c C.k C.cN C.sN a) a (eps K C.k * na) := by
  obtain ⟨f1, f2⟩ := fwd_stage C.c C.k C.cN C.sN C.cNi C.sNi C.ok C.ζ C.hζ C.hI C.hcs a hbox hok
  refine ⟨mul_nonneg (eps_nonneg C.k) ha.1, fun p hp => by have := f1 p hp; rwa [getElem!_nat] at this,
    le_trans f2 ?_⟩
  rw [mul_pow, mul_assoc]
  exact mul_le_mul_of_nonneg_left ha.dft (sq_nonneg _)

theorem mulA_err (fma : Bool) (k : ℕ) (hfk : fma = true → 2 ≤ k) (a b : Array ℕ)
    (hok : ∀ p, p < 2 * 2 ^ k → ((mulA arithOk fma (2 ^ k) (a.map lift) (b.map lift)).getD p arithOk.zero).2) :
    (∀ p, p < 2 * 2 ^ k → Fin64 ((mulA F64.arith fma (2 ^ k) a b).getD p 0)) ∧
    ∀ j, j < 2 ^ k →
      nsq (outC (mulA F64.arith fma (2 ^ k) a b) k j - outC a k j * outC b k j : Cplx K) ≤
        ((mu64 : ℚ) : K) ^ 2 * (nsq (outC a k j : Cplx K) * nsq (outC b k j : Cplx K)) := by
  have cell := fun j (hj : j < 2 ^ k) => mul_cell_err (K := K) fma (2 ^ k) (fun hf => pow_mod_four k (hfk hf)) a b j hj
    (hok j (by omega)) (hok (j + 2 ^ k) (by omega))
  refine ⟨fun p hp => ?_, fun j hj => ?_⟩
  · by_cases h : p < 2 ^ k
    · exact (cell p h).1
    · have := (cell (p - 2 ^ k) (by omega)).2.1
      rwa [show p - 2 ^ k + 2 ^ k = p by omega] at this
  · rw [outC_eq_cpl, outC_eq_cpl, outC_eq_cpl]
    exact (cell j hj).2.2

theorem near_mul (C : Ctx K) (A B : Array ℕ) (a b : Array Int) (da db na nb : K)
    (hA : Near C A a da) (hB : Near C B b db) (ha : Size C a na) (hb : Size C b nb)
    (hok : ∀ p, p < 2 * 2 ^ C.k →
      ((mulA arithOk C.c.mulFma (2 ^ C.k) (A.map lift) (B.map lift)).getD p arithOk.zero).2) :
    Near C (mulA F64.arith C.c.mulFma (2 ^ C.k) A B) (nmul C.N a b)
      (rowF ((mu64 : ℚ) : K) da db na nb (n1 K a C.N) (n1 K b C.N) (2 ^ C.k)) := by
  obtain ⟨hda, _, eA⟩ := hA
  obtain ⟨hdb, _, eB⟩ := hB
  obtain ⟨m1, m2⟩ := mulA_err (K := K) C.c.mulFma C.k C.ok.mulFma A B hok
  have hM0 : (0 : K) ≤ 2 ^ C.k := by positivity
  have hM1 : (1 : K) ≤ 2 ^ C.k := one_le_pow₀ (by norm_num)
  have r := dft_prod_abs (range (2 ^ C.k)) (fun j => V C.ζ (pkC a (2 ^ C.k)) C.k 0 j)
    (fun j => V C.ζ (pkC b (2 ^ C.k)) C.k 0 j) (fun j => outC A C.k j) (fun j => outC B C.k j)
    (fun j => outC (mulA F64.arith C.c.mulFma (2 ^ C.k) A B) C.k j)
    ((mu64 : ℚ) : K) da db na nb (n1 K a C.N) (n1 K b C.N) (2 ^ C.k) (2 ^ C.k)
    mu_nonneg hda hdb ha.1 hb.1 (n1_nonneg _ _) (n1_nonneg _ _) hM0 hM0 (le_self_pow₀ hM1 (by norm_num))
    eA ha.dft (fun j hj => V_sup C.k C.ζ C.hζ C.hI a j (mem_range.1 hj))
    eB hb.dft (fun j hj => V_sup C.k C.ζ C.hζ C.hI b j (mem_range.1 hj))
    (fun j hj => m2 j (mem_range.1 hj))
  refine ⟨rowF_nonneg mu_nonneg hda hdb ha.1 hb.1 (n1_nonneg _ _) (n1_nonneg _ _) hM0, m1, le_trans (le_of_eq ?_) r⟩
  exact sum_congr rfl (fun j hj => by rw [V_prod C.k C.ζ C.hI a b j (mem_range.1 hj)])

theorem Size.nmul {C : Ctx K} {a b : Array Int} {na nb : K} (ha : Size C a na) (hb : Size C b nb) :
    Size C (nmul C.N a b) ((n1 K a C.N * nb + na * n1 K b C.N) / 2) := by
  have hla : (0 : K) ≤ n1 K a C.N := n1_nonneg _ _
  have hlb : (0 : K) ≤ n1 K b C.N := n1_nonneg _ _
  have h0 : 0 ≤ n1 K a C.N * nb + na * n1 K b C.N := add_nonneg (mul_nonneg hla hb.1) (mul_nonneg ha.1 hlb)
  refine Size.of_dft (by linarith) (le_trans (le_of_eq ?_)
    (dft_prod_size (range (2 ^ C.k)) (fun j => V C.ζ (pkC a (2 ^ C.k)) C.k 0 j)
      (fun j => V C.ζ (pkC b (2 ^ C.k)) C.k 0 j) na nb _ _ (2 ^ C.k) ha.1 hb.1 hla hlb (by positivity) ha.dft
      (fun j hj => V_sup C.k C.ζ C.hζ C.hI a j (mem_range.1 hj)) hb.dft
      (fun j hj => V_sup C.k C.ζ C.hζ C.hI b j (mem_range.1 hj))))
  exact sum_congr rfl (fun j hj => by rw [V_prod C.k C.ζ C.hI a b j (mem_range.1 hj)])

theorem reim_coord (k : ℕ) (x : ℕ → K) (B : K) (hB : 0 ≤ B)
    (h : ∑ p ∈ range (2 ^ k), nsq (toC (x p, x (2 ^ k + p)) : Cplx K) ≤ B ^ 2) (i : ℕ) (hi : i < 2 * 2 ^ k) :
    |x i| ≤ B := by
  by_cases hlt : i < 2 ^ k
  · exact (coord_of_sum (2 ^ k) (fun p => toC (x p, x (2 ^ k + p))) B hB h i hlt).1
  · obtain ⟨p, rfl⟩ : ∃ p, i = 2 ^ k + p := ⟨i - 2 ^ k, by omega⟩
    exact (coord_of_sum (2 ^ k) (fun p => toC (x p, x (2 ^ k + p))) B hB h p (by omega)).2

theorem two_pow_mul_pkC (k : ℕ) (γ : Array Int) (p : ℕ) :
    (2 : Cplx K) ^ k * pkC γ (2 ^ k) p =
      toC (2 ^ k * ((γ.getD p 0 : Int) : K), 2 ^ k * ((γ.getD (2 ^ k + p) 0 : Int) : K)) := by
  apply QuadraticAlgebra.ext
  · exact (two_pow_mul_re k _).1
  · exact (two_pow_mul_re k _).2

theorem inv_near (C : Ctx K) (y : Array ℕ) (hsz : y.size = C.N) (hok : InvOk C.c C.k C.cNi C.sNi y)
    (γ : Array Int) (δ S2 : K) (hy : Near C y γ δ) (hs : Size C γ S2) :
    (∀ i, i < C.N → |((γ.getD i 0 : Int) : K)| ≤ S2) ∧
    ∀ i, i < C.N →
      Fin64 ((reimIfft (if C.c.ifftFma then "fma" else "ref") (2 ^ C.k) (tabI C.k C.cNi C.sNi) y)[i]!) ∧
      |((val ((reimIfft (if C.c.ifftFma then "fma" else "ref") (2 ^ C.k) (tabI C.k C.cNi C.sNi) y)[i]!) : ℚ) : K) -
          2 ^ C.k * ((γ.getD i 0 : Int) : K)| ≤ (eps K C.k * (S2 + δ) + δ) * 2 ^ C.k := by
  obtain ⟨hζi, hIi⟩ := inv_root C.k C.ζ C.ζi C.hζ C.hI C.hinv
  obtain ⟨ch, hch⟩ : ∃ ch, ch = reimIfft (if C.c.ifftFma then "fma" else "ref") (2 ^ C.k) (tabI C.k C.cNi C.sNi) y :=
    ⟨_, rfl⟩
  rw [← hch]
  have FI : (∀ p, p < C.N → Fin64 (ch[p]!)) ∧
      ∑ p ∈ range (2 ^ C.k), nsq (outC ch C.k p - WIk C.k C.ζi (fun q => outC y C.k q) C.k p) ≤
        eps K C.k ^ 2 * ∑ p ∈ range (2 ^ C.k), nsq (WIk C.k C.ζi (fun q => outC y C.k q) C.k p) := by
    rw [hch]; exact reim_ifft_err C.c.ifftFma C.k C.ζi hζi hIi C.cNi C.sNi C.hcsi y hsz hok
  have hS := hs.1
  have hδ := hy.1
  refine ⟨hs.coord, ?_⟩
  have hc := inv_compose C.k C.ζ C.ζi hζi C.hinv (pkC γ (2 ^ C.k)) (fun q => outC y C.k q) (fun p => outC ch C.k p)
    (eps K C.k) δ S2 (2 ^ C.k) rfl (eps_nonneg C.k) hδ hS hy.2.2 hs.dft FI.2
  have e : ∀ p, outC ch C.k p - (2 : Cplx K) ^ C.k * pkC γ (2 ^ C.k) p =
      toC ((fun i => ((val (ch[i]!) : ℚ) : K) - 2 ^ C.k * ((γ.getD i 0 : Int) : K)) p,
        (fun i => ((val (ch[i]!) : ℚ) : K) - 2 ^ C.k * ((γ.getD i 0 : Int) : K)) (2 ^ C.k + p)) := by
    intro p
    rw [two_pow_mul_pkC]
    rfl
  simp only [e] at hc
  have hB0 : 0 ≤ (eps K C.k * (S2 + δ) + δ) * 2 ^ C.k := by
    have := eps_nonneg (K := K) C.k
    positivity
  exact fun i hi => ⟨FI.1 i hi, reim_coord C.k _ _ hB0 hc i hi⟩

theorem conv_tail (c : Cfg) (k : ℕ) (hk : k ≤ 961) (hnn : c.nn = 2 * 2 ^ k) (hv : c.toVariant ≠ .ref → 1 ≤ k)
    (z : Array ℕ) (i : ℕ) (hi : i < 2 * 2 ^ k) (hfin : Fin64 (z[i]!)) (g B : K)
    (herr : |((val (z[i]!) : ℚ) : K) - 2 ^ k * g| ≤ B * 2 ^ k) (hdom : |g| + B < ((Bv c.toVariant : ℚ) : K)) :
    ∃ r : ℤ, ((Cfg.parts c).toZnx z)[i]? = some r ∧ |(r : K) - g| ≤ B + 1 / 2 := by
  have hP : (0 : K) < 2 ^ k := by positivity
  rw [getElem!_nat] at herr hfin
  obtain ⟨x, hx⟩ : ∃ x, x = z.getD i 0 := ⟨_, rfl⟩
  rw [← hx] at herr hfin
  have hdomQ : |val x| < Bv c.toVariant * 2 ^ k := by
    have h1 : |((val x : ℚ) : K)| ≤ 2 ^ k * |g| + B * 2 ^ k := by
      have : ((val x : ℚ) : K) = (((val x : ℚ) : K) - 2 ^ k * g) + 2 ^ k * g := by ring
      rw [this]
      refine le_trans (abs_add_le _ _) ?_
      rw [abs_mul, abs_of_pos hP]
      linarith
    have h2 : |((val x : ℚ) : K)| < ((Bv c.toVariant : ℚ) : K) * 2 ^ k := by
      have := mul_lt_mul_of_pos_right hdom hP
      linarith
    have h3 : ((|val x| : ℚ) : K) < ((Bv c.toVariant * 2 ^ k : ℚ) : K) := by
      push_cast; exact h2
    exact (Rat.cast_lt (K := K)).1 h3
  obtain ⟨r, hr1, hr2⟩ := toZnx_spec c k hk hnn hv z i hi (by rw [← hx]; exact hfin.1) (by rw [← hx]; exact hdomQ)
  rw [← hx] at hr2
  refine ⟨r, hr1, ?_⟩
  have hr3 : |(r : K) * 2 ^ k - ((val x : ℚ) : K)| ≤ 2 ^ k / 2 := by
    have := (Rat.cast_le (K := K)).2 hr2
    push_cast at this
    exact this
  have h4 : |(r : K) - g| * 2 ^ k ≤ (B + 1 / 2) * 2 ^ k := by
    have e : ((r : K) - g) * 2 ^ k = ((r : K) * 2 ^ k - ((val x : ℚ) : K)) + (((val x : ℚ) : K) - 2 ^ k * g) := by ring
    rw [← abs_of_pos hP, ← abs_mul, e, abs_of_pos hP]
    refine le_trans (abs_add_le _ _) ?_
    linarith
  exact le_of_mul_le_mul_right h4 hP

theorem near_out (C : Ctx K) (hk : C.k ≤ 961) (y : Array ℕ) (hsz : y.size = C.N) (hok : InvOk C.c C.k C.cNi C.sNi y)
    (γ : Array Int) (δ S2 B : K) (hy : Near C y γ δ) (hs : Size C γ S2) (hB : eps K C.k * (S2 + δ) + δ = B) :
    (∀ t, t < C.N → |((γ.getD t 0 : Int) : K)| ≤ S2) ∧
    ∀ t, t < C.N → |((γ.getD t 0 : Int) : K)| + B < ((Bv C.c.toVariant : ℚ) : K) → ∃ r : ℤ,
      ((Cfg.parts C.c).toZnx (reimIfft (if C.c.ifftFma then "fma" else "ref") (2 ^ C.k) (tabI C.k C.cNi C.sNi) y))[t]? =
        some r ∧ |(r : K) - ((γ.getD t 0 : Int) : K)| ≤ B + 1 / 2 := by
  subst hB
  obtain ⟨hcb, hinvs⟩ := inv_near C y hsz hok γ δ S2 hy hs
  exact ⟨hcb, fun t ht hdom =>
    conv_tail C.c C.k hk C.ok.nn C.ok.toVar _ t ht (hinvs t ht).1 _ _ (hinvs t ht).2 hdom⟩

end Spq.ProdErr
