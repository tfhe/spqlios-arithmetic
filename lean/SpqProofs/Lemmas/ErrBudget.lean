/-
  The numbers of the binary64 budgets (C01Err, C02Err, C16Err, C16Err2).  They use nothing of the model: ordered-field
  facts about the closed forms `dB fB eB rowD rowF` of `ProdErrCompose`, and the bounds for `k ≤ 16`, evaluated at the
  seventeen `k` (`ε_k = (1+8u)^k − 1`, `u = 2^-53`).  `budget16` (`eB ≤ 12(k+1)u`) is not a consequence of
  `FftErr.bound16` (`ε_k ≤ 8(k+1)u`), whose first order is `12k·u + 3u/2`.  The accumulation side (`gamD`, `muD`) sits in
  `VmpErrF64`, `ProgErr2Bnd`, `VmpErrPipe3`.
-/
import SpqProofs.Lemmas.ProdErrNear
namespace Spq.ProdErr
open Finset Spq Spq.F64 Spq.FftErr Spq.Conv Spq.ProgErr2
variable {K : Type} [Field K] [LinearOrder K] [IsStrictOrderedRing K]

/-- the three terms of the per-row budget: incoming error times the sup-norm of the matrix entry, forward error of the
    matrix entry times the sup-norm of the operand, accumulation term -/
theorem rowF_le (μ δ ε na nb la lb t : K) (hμ : 0 ≤ μ) (hδ : 0 ≤ δ) (hε : 0 ≤ ε) (ht : 0 ≤ t) (hnl : nb ≤ lb) :
    rowF μ δ (ε * nb) na nb la lb t ≤
      (1 + μ) * (1 + ε * t) * δ * lb + (1 + μ) * ε * la * nb + μ * ((la * nb + na * lb) / 2) := by
  -- the difference is the second-order term `(1+μ)·δ·ε·t·(lb − nb)`
  have h : 0 ≤ (1 + μ) * (δ * (ε * t)) * (lb - nb) :=
    mul_nonneg (mul_nonneg (by linarith) (by positivity)) (sub_nonneg.2 hnl)
  have e : (1 + μ) * (1 + ε * t) * δ * lb + (1 + μ) * ε * la * nb + μ * ((la * nb + na * lb) / 2) =
      rowF μ δ (ε * nb) na nb la lb t + (1 + μ) * (δ * (ε * t)) * (lb - nb) := by unfold rowF rowD; ring
  rw [e]
  exact le_add_of_nonneg_right h

theorem rowF_le_mono (μ μ' δ ε ε' na nb la lb t : K) (hμ : 0 ≤ μ) (hδ : 0 ≤ δ) (hε : 0 ≤ ε) (ht : 0 ≤ t)
    (hna : 0 ≤ na) (hnb : 0 ≤ nb) (hla : 0 ≤ la) (hnl : nb ≤ lb) (hμ' : μ ≤ μ') (hε' : ε ≤ ε') :
    rowF μ δ (ε * nb) na nb la lb t ≤
      (1 + μ') * (1 + ε' * t) * δ * lb + (1 + μ') * ε' * la * nb + μ' * ((la * nb + na * lb) / 2) := by
  have hlb : 0 ≤ lb := le_trans hnb hnl
  have hμ0 : 0 ≤ μ' := le_trans hμ hμ'
  refine le_trans (rowF_le μ δ ε na nb la lb t hμ hδ hε ht hnl) ?_
  gcongr

/-- against `rowF_le` at `δ = ε·na` only the second-order term `(1+μ)·ε²·t·la·nb` is added -/
theorem rowF_rel_le (ε μ na nb la lb t : K) (hε : 0 ≤ ε) (hμ : 0 ≤ μ) (hna : 0 ≤ na) (hnb : 0 ≤ nb) (hla : 0 ≤ la)
    (ht : 0 ≤ t) (hnl : nb ≤ lb) :
    rowF μ (ε * na) (ε * nb) na nb la lb t ≤ fB ε μ (ε * t) * (la * nb + na * lb) := by
  have h1 : 0 ≤ (1 + μ) * ε * (ε * t) * (la * nb) := by positivity
  have e : fB ε μ (ε * t) * (la * nb + na * lb) =
      (1 + μ) * (1 + ε * t) * (ε * na) * lb + (1 + μ) * ε * la * nb + μ * ((la * nb + na * lb) / 2) +
        (1 + μ) * ε * (ε * t) * (la * nb) := by unfold fB dB; ring
  rw [e]
  exact le_trans (rowF_le μ (ε * na) ε na nb la lb t hμ (mul_nonneg hε hna) hε ht hnl) (le_add_of_nonneg_right h1)

theorem eB_affine (ε μ μ0 θ : K) : eB ε μ θ = eB ε μ0 θ + (1 + ε) * (1 / 2 + dB ε θ) * (μ - μ0) := by
  unfold eB fB; ring

theorem budget16 (k : ℕ) (hk : k ≤ 16) :
    eB ((1 + 8 * u64) ^ k - 1) mu64 (((1 + 8 * u64) ^ k - 1) * 2 ^ k) ≤ 12 * (k + 1 : ℚ) * u64 := by
  unfold eB fB dB mu64 gam u64
  have h : (2 : ℚ) ^ (-53 : ℤ) = 1 / 9007199254740992 := by norm_num
  rw [h]
  interval_cases k <;> norm_num

theorem eB_cast (ε μ θ : ℚ) : ((eB ε μ θ : ℚ) : K) = eB (ε : K) (μ : K) (θ : K) := by
  unfold eB fB dB; push_cast; ring

theorem eps_cast (k : ℕ) : eps K k = (((1 + 8 * u64) ^ k - 1 : ℚ) : K) := by
  unfold eps; push_cast; ring

theorem budget16K (k : ℕ) (hk : k ≤ 16) :
    eB (eps K k) ((mu64 : ℚ) : K) (eps K k * 2 ^ k) ≤ ((12 * (k + 1 : ℚ) * u64 : ℚ) : K) := by
  have := (Rat.cast_le (K := K)).2 (budget16 k hk)
  rw [eB_cast] at this
  rw [eps_cast]
  refine le_trans (le_of_eq ?_) this
  push_cast; ring

theorem slope16 (k : ℕ) (hk : k ≤ 16) :
    (1 + ((1 + 8 * u64) ^ k - 1)) * (1 / 2 + dB ((1 + 8 * u64) ^ k - 1) (((1 + 8 * u64) ^ k - 1) * 2 ^ k)) ≤ 2 / 3 := by
  unfold dB u64
  have h : (2 : ℚ) ^ (-53 : ℤ) = 1 / 9007199254740992 := by norm_num
  rw [h]
  interval_cases k <;> norm_num

theorem eps_le16 (k : ℕ) (hk : k ≤ 16) : eps K k ≤ ((8 * (k + 1 : ℚ) * u64 : ℚ) : K) := by
  rw [eps_cast]
  exact (Rat.cast_le (K := K)).2 (bound16 k hk)

/-- the relative budget `2ε + ε²` of a round trip (forward error `ε`, inverse error `ε·(1+ε)`) -/
theorem roundtrip16 (k : ℕ) (hk : k ≤ 16) :
    2 * ((1 + 8 * u64) ^ k - 1) + ((1 + 8 * u64) ^ k - 1) ^ 2 ≤ 17 * (k + 1 : ℚ) * u64 := by
  have hb := bound16 k hk
  have h1 : (1 : ℚ) ≤ (1 + 8 * u64) ^ k := one_le_pow₀ (by unfold u64; norm_num)
  have he0 : (0 : ℚ) ≤ (1 + 8 * u64) ^ k - 1 := by linarith
  have hk' : (k : ℚ) ≤ 16 := by exact_mod_cast hk
  have hu : u64 = 1 / 9007199254740992 := by unfold u64; norm_num
  have he8 : (1 + 8 * u64) ^ k - 1 ≤ 1 / 8 := by
    refine le_trans hb ?_
    rw [hu]; linarith
  -- `ε² ≤ ε/8`, so `2ε + ε² ≤ (17/8)·ε ≤ 17(k+1)u`
  have h2 : ((1 + 8 * u64) ^ k - 1) ^ 2 ≤ ((1 + 8 * u64) ^ k - 1) * (1 / 8) := by
    rw [sq]; exact mul_le_mul_of_nonneg_left he8 he0
  linarith

/-- a budget below `1/2` keeps the final conversion in its domain: `S < 2^53/24` -/
theorem small_S (q : ℚ) (hq : 12 * u64 ≤ q) (S : K) (hS : 0 ≤ S) (hE : ((q : ℚ) : K) * S < 1 / 2) :
    S + 1 ≤ 1125899906842624 := by
  have h1 : ((12 * u64 : ℚ) : K) * S < 1 / 2 :=
    lt_of_le_of_lt (mul_le_mul_of_nonneg_right ((Rat.cast_le (K := K)).2 hq) hS) hE
  have hu : ((12 * u64 : ℚ) : K) = 12 / 9007199254740992 := by
    have : (12 * u64 : ℚ) = 12 / 9007199254740992 := by unfold u64; norm_num
    rw [this]; push_cast; rfl
  rw [hu, div_mul_eq_mul_div, div_lt_iff₀ (by norm_num)] at h1
  linarith

theorem Bv_ge (v : ToZnx64Variant) : (1125899906842624 : ℚ) ≤ Bv v := by
  cases v <;> norm_num [Bv]

theorem Bv_geK (v : ToZnx64Variant) : (1125899906842624 : K) ≤ ((Bv v : ℚ) : K) := by
  refine le_trans (le_of_eq ?_) ((Rat.cast_le (K := K)).2 (Bv_ge v)); push_cast; rfl

theorem dom_of_small (v : ToZnx64Variant) (q : ℚ) (hq : 12 * u64 ≤ q) (S g B : K) (hS : 0 ≤ S) (hg : |g| ≤ S / 2)
    (hB : B ≤ ((q : ℚ) : K) * S) (hE : ((q : ℚ) : K) * S < 1 / 2) : |g| + B < ((Bv v : ℚ) : K) := by
  have := small_S q hq S hS hE
  have := Bv_geK (K := K) v
  linarith

theorem coef12_le (k : ℕ) (r : ℚ) (hr : 0 ≤ r) : 12 * u64 ≤ (12 * (k + 1 : ℚ) + r) * u64 := by
  have hu : (0 : ℚ) ≤ u64 := le_of_lt u64_pos
  have := mul_nonneg (Nat.cast_nonneg (α := ℚ) k) hu
  have := mul_nonneg hr hu
  linarith

theorem small_of_budget (k : ℕ) (c : ℚ) (hc : 12 ≤ c) (x : K) (hx0 : 0 ≤ x)
    (h : ((c * (k + 1 : ℚ) * u64 : ℚ) : K) * x < 1 / 2) : x + 1 ≤ 1125899906842624 :=
  small_S (c * (k + 1 : ℚ) * u64)
    (mul_le_mul_of_nonneg_right
      (le_trans hc (le_mul_of_one_le_right (by linarith) (by have := Nat.cast_nonneg (α := ℚ) k; linarith)))
      (le_of_lt u64_pos)) x hx0 h

end Spq.ProdErr
