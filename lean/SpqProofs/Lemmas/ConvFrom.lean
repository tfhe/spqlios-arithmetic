/-
  Integer → double conversions (C14, exactness part): `reim_from_znx64_{ref,bnd50_fma}`,
  `cplx_from_znx32_{ref,avx2_fma}`, `cplx_from_tnx32_{ref,avx2_fma}` at lane level.
-/
import Spq.Conv
import SpqProofs.Lemmas.F64Arith

namespace Spq.Conv
open Spq.F64

theorem D_2P52_eq : D_2P52 = 4841369599423283200 := by decide +kernel
theorem D_3P51_eq : D_3P51 = 4843621399236968448 := by decide +kernel
theorem D_2M32_eq : D_2M32 = 4463067230724161536 := by decide +kernel
theorem ZNX32_R_eq : ZNX32_R = 4841369601570766848 := by decide +kernel
theorem TNX32_R_eq : TNX32_R = 4697254413494910976 := by decide +kernel

theorem decode_pos_pattern (ex fr : Nat) (h1 : 1 ≤ ex) (h2 : ex ≤ 2046) (hfr : fr < 4503599627370496) :
    decode (ex * 4503599627370496 + fr) = ⟨false, fr + 4503599627370496, (ex : Int) - 1075⟩ := by
  have := decode_normal_pattern false ex fr h1 h2 hfr
  simpa [sgn] using this

theorem decode_D_2P52 : decode 4841369599423283200 = ⟨false, 4503599627370496, 0⟩ := by
  have := decode_pos_pattern 1075 0 (by norm_num) (by norm_num) (by norm_num)
  simpa using this
theorem decode_D_3P51 : decode 4843621399236968448 = ⟨false, 6755399441055744, 0⟩ := by
  have := decode_pos_pattern 1075 2251799813685248 (by norm_num) (by norm_num) (by norm_num)
  simpa using this
theorem decode_D_2M32 : decode 4463067230724161536 = ⟨false, 4503599627370496, -84⟩ := by
  have := decode_pos_pattern 991 0 (by norm_num) (by norm_num) (by norm_num)
  simpa using this

theorem or_high (a ex : Nat) (ha : a < 4503599627370496) :
    a ||| (ex * 4503599627370496) = ex * 4503599627370496 + a := by
  have h := Nat.two_pow_add_eq_or_of_lt (i := 52) (b := a) (by norm_num; exact ha) ex
  rw [Nat.or_comm]
  norm_num at h
  rw [Nat.mul_comm ex]; exact h.symm

/-- The inverse of the magic addition: the difference of two patterns with the same exponent field is formed exactly. -/
theorem sub_same_expo (E n r : Nat) (hE1 : 1 ≤ E) (hE2 : E ≤ 2046) (hn : n < 4503599627370496)
    (hr : r < 4503599627370496) :
    F64.sub (E * 4503599627370496 + n) (E * 4503599627370496 + r) =
      packSigned ((n : Int) - r) ((E : Int) - 1075) false := by
  rw [sub_of_decode (by omega : E * 4503599627370496 + r < 18446744073709551616) (decode_pos_pattern E n hE1 hE2 hn)
    (decode_pos_pattern E r hE1 hE2 hr)]
  simp only [min_self, sub_self, Int.toNat_zero, pow_zero, mul_one, sI, Bool.false_eq_true, if_false,
    Bool.not_false, Bool.and_true]
  rw [show ((n + 4503599627370496 : Nat) : Int) - ((r + 4503599627370496 : Nat) : Int) = (n : Int) - r by
    push_cast; ring]

/-- the add-2^51 / or-exponent / subtract-3·2^51 trick computes exactly the cast, on −2^51 ≤ x < 2^51 -/
theorem fromZnx64Bnd50Lane_eq_ofInt (x : Int) (h1 : -2251799813685248 ≤ x) (h2 : x < 2251799813685248) :
    fromZnx64Bnd50Lane x = ofInt x := by
  unfold fromZnx64Bnd50Lane
  have ha : add64 (toU x) 2251799813685248 = (x + 2251799813685248).toNat := by
    unfold add64 toU; omega
  have halt : (x + 2251799813685248).toNat < 4503599627370496 := by omega
  have hor := or_high (x + 2251799813685248).toNat 1075 halt
  have hexp : (expField (1075 * 4503599627370496 + (x + 2251799813685248).toNat) == 2047) = false := by
    unfold expField
    have : (1075 * 4503599627370496 + (x + 2251799813685248).toNat) / 4503599627370496 % 2048 = 1075 := by omega
    rw [this]; rfl
  simp only [ha, D_2P52_eq, D_3P51_eq]
  rw [show (4841369599423283200 : Nat) = 1075 * 4503599627370496 by norm_num, hor, hexp,
    show (4843621399236968448 : Nat) = 1075 * 4503599627370496 + 2251799813685248 by norm_num]
  simp only [Bool.false_eq_true, if_false]
  rw [sub_same_expo 1075 _ _ (by norm_num) (by norm_num) halt (by norm_num),
    show (((x + 2251799813685248).toNat : Nat) : Int) - ((2251799813685248 : Nat) : Int) = x by omega]
  rfl

theorem fromZnx64RefLane_exact (x : Int) (hx : x.natAbs < 9007199254740992) :
    toScaled (fromZnx64RefLane x) = x * 2 ^ 1074 := toScaled_ofInt hx

theorem fromZnx64Bnd50Lane_exact (x : Int) (h1 : -2251799813685248 ≤ x) (h2 : x < 2251799813685248) :
    toScaled (fromZnx64Bnd50Lane x) = x * 2 ^ 1074 := by
  rw [fromZnx64Bnd50Lane_eq_ofInt x h1 h2]; exact toScaled_ofInt (by omega)

theorem u32_add (x : Int) (h1 : -2147483648 ≤ x) (h2 : x < 2147483648) :
    (u32 x + 2147483648) % 4294967296 = (x + 2147483648).toNat := by
  unfold u32; omega

/-- the shuffled-in exponent word `0x43300000` and the subtraction of `2^52 + 2^31` give exactly `(double)x` -/
theorem cplxFromZnx32AvxLane_eq_ofInt (x : Int) (h1 : -2147483648 ≤ x) (h2 : x < 2147483648) :
    cplxFromAnyLane ZNX32_C ZNX32_R x = ofInt x := by
  unfold cplxFromAnyLane
  simp only [u32_add x h1 h2, ZNX32_R_eq]
  rw [show (x + 2147483648).toNat + 4294967296 * ZNX32_C = 1075 * 4503599627370496 + (x + 2147483648).toNat from
      Nat.add_comm _ _,
    show (4841369601570766848 : Nat) = 1075 * 4503599627370496 + 2147483648 by norm_num,
    sub_same_expo 1075 _ _ (by norm_num) (by norm_num) (by omega) (by norm_num),
    show (((x + 2147483648).toNat : Nat) : Int) - ((2147483648 : Nat) : Int) = x by omega]
  rfl

/-- same trick with the exponent word `0x41300000` (unit 2^-32) and `R = 2^20 + 1/2` -/
theorem cplxFromTnx32AvxLane_eq (x : Int) (h1 : -2147483648 ≤ x) (h2 : x < 2147483648) :
    cplxFromAnyLane TNX32_C TNX32_R x = packSigned x (-32) false := by
  unfold cplxFromAnyLane
  simp only [u32_add x h1 h2, TNX32_R_eq]
  rw [show (x + 2147483648).toNat + 4294967296 * TNX32_C = 1043 * 4503599627370496 + (x + 2147483648).toNat from
      Nat.add_comm _ _,
    show (4697254413494910976 : Nat) = 1043 * 4503599627370496 + 2147483648 by norm_num,
    sub_same_expo 1043 _ _ (by norm_num) (by norm_num) (by omega) (by norm_num),
    show (((x + 2147483648).toNat : Nat) : Int) - ((2147483648 : Nat) : Int) = x by omega]
  rfl

theorem cplxFromTnx32RefLane_exact (x : Int) (hx : x.natAbs < 9007199254740992) :
    toScaled (cplxFromTnx32RefLane x) = x * 2 ^ 1042 := by
  unfold cplxFromTnx32RefLane
  rw [D_2M32_eq]
  by_cases hx0 : x = 0
  · subst hx0
    have hd0 : decode 0 = ⟨false, 0, -1074⟩ := decode_sgn false
    rw [ofInt_zero, mul_of_decode hd0 decode_D_2M32, Nat.zero_mul, pack_zero, toScaled_sgn, zero_mul]
  obtain ⟨k, hk, hn1, hn2, hd⟩ := decode_ofInt hx0 hx
  rw [mul_of_decode hd decode_D_2M32]
  have hpw : (4503599627370496 : Nat) = 2 ^ 52 := by norm_num
  rw [hpw]
  have hd2 := decode_pack_exact (decide (x < 0) != false) (x.natAbs * 2 ^ k) 52 (-(k : Int) + -84) 0
    (by simpa using hn1) (by simpa using hn2) (by omega) (by omega)
  rw [toScaled_of_decode' hd2]
  simp only [pow_zero, Nat.mul_one, Nat.cast_zero, sub_zero]
  have hbne : (decide (x < 0) != false) = decide (x < 0) := by cases decide (x < 0) <;> rfl
  rw [hbne, ← sI_mul_pow, sI_decide_natAbs]
  have he : (-(k : Int) + -84 + ((52 : Nat) : Int) + 1074).toNat = 1042 - k := by omega
  rw [he, mul_assoc, ← pow_add]
  congr 2; omega

theorem cplxFromTnx32AvxLane_exact (x : Int) (h1 : -2147483648 ≤ x) (h2 : x < 2147483648) :
    toScaled (cplxFromAnyLane TNX32_C TNX32_R x) = x * 2 ^ 1042 := by
  rw [cplxFromTnx32AvxLane_eq x h1 h2]
  exact toScaled_packSigned_exact x (-32) false (by omega) (by norm_num) (by norm_num)

theorem cplxFromZnx32AvxLane_exact (x : Int) (h1 : -2147483648 ≤ x) (h2 : x < 2147483648) :
    toScaled (cplxFromAnyLane ZNX32_C ZNX32_R x) = x * 2 ^ 1074 := by
  rw [cplxFromZnx32AvxLane_eq_ofInt x h1 h2]; exact toScaled_ofInt (by omega)

end Spq.Conv
