/-
  The do-while of the in-place kernels over an abstract step with carried state (`walkS`), and its
  instance carrying one value (`znx_rotate_inplace_i64`, `rnx_mul_xp_minus_one_inplace`), on arrays.
-/
import SpqProofs.Lemmas.CoeffsMoved
namespace Spq.Rq
open Spq
variable {α S : Type}

/-- `step j t res` = (what is carried on from `σ j`, the array after the writes that belong to `σ j`);
    `c` cells are counted per step; the loop stops on return to `j0` -/
def walkS (σ : Nat → Nat) (step : Nat → S → Array α → S × Array α) (c j0 : Nat) :
    Nat → Nat → S → Array α → Nat → Array α × Nat
  | 0, _, _, res, nb => (res, nb)
  | fuel + 1, j, t, res, nb =>
    if σ j = j0 then ((step j t res).2, nb + c)
    else walkS σ step c j0 fuel (σ j) (step j t res).1 (step j t res).2 (nb + c)

section
variable (σ : Nat → Nat) (j0 L : Nat) (hL : 0 < L) (hret : σ^[L] j0 = j0)
  (hdist : ∀ i j, i < L → j < L → σ^[i] j0 = σ^[j] j0 → i = j)

include hL hret hdist in
theorem cycle_end (s : Nat) (hs : s < L) : σ^[s+1] j0 = j0 ↔ s + 1 = L := by
  refine ⟨fun e => ?_, fun e => by rw [e, hret]⟩
  by_contra hne
  have := hdist (s+1) 0 (by omega) hL e
  omega

include hL hret in
theorem cycle_wrap (i : Nat) (hi : i < L) : ∃ i', i' < L ∧ σ^[i+1] j0 = σ^[i'] j0 := by
  by_cases hl : i + 1 = L
  · exact ⟨0, hL, by rw [hl, hret]; rfl⟩
  · exact ⟨i + 1, by omega, rfl⟩

include hL hret hdist in
/-- the loop, once: an invariant kept by the first `L` steps holds when the walk stops, after exactly `L` steps -/
theorem walkS_spec (step : Nat → S → Array α → S × Array α) (c : Nat) (I : Nat → S → Array α → Prop)
    (hstep : ∀ s t f, s < L → I s t f → I (s+1) (step (σ^[s] j0) t f).1 (step (σ^[s] j0) t f).2) :
    ∀ (r s fuel : Nat) (t : S) (f : Array α) (nb : Nat), s + r = L → 0 < r → r ≤ fuel → I s t f →
      (walkS σ step c j0 fuel (σ^[s] j0) t f nb).2 = nb + c * r ∧
      ∃ t', I L t' (walkS σ step c j0 fuel (σ^[s] j0) t f nb).1 := by
  intro r
  induction r with
  | zero => intro s fuel t f nb _ h0; omega
  | succ r ih =>
    intro s fuel t f nb hs _ hfuel hinv
    obtain ⟨fuel', rfl⟩ : ∃ k, fuel = k + 1 := ⟨fuel - 1, by omega⟩
    have hinv' := hstep s t f (by omega) hinv
    have hend := cycle_end σ j0 L hL hret hdist s (by omega)
    rw [walkS, ← Function.iterate_succ_apply' σ]
    by_cases hlast : s + 1 = L
    · rw [if_pos (hend.2 hlast)]
      obtain rfl : r = 0 := by omega
      exact ⟨by omega, _, hlast ▸ hinv'⟩
    · rw [if_neg (fun e => hlast (hend.1 e))]
      obtain ⟨h1, h2⟩ := ih (s+1) fuel' _ _ (nb + c) (by omega) (by omega) (by omega) hinv'
      exact ⟨by rw [h1, Nat.mul_succ]; omega, h2⟩

end

/-- at each step the cell `σ j` receives `G j t (old content of σ j)` where `t` is the value carried
    from cell `j`; the old content is carried on -/
def stepG (σ : Nat → Nat) (G : Nat → α → α → α) (z : α) (j : Nat) (t : α) (res : Array α) : α × Array α :=
  (res.getD (σ j) z, res.setIfInBounds (σ j) (G j t (res.getD (σ j) z)))

def WalkInv (σ : Nat → Nat) (G : Nat → α → α → α) (z : α) (j0 : Nat) (f0 : Array α) (s : Nat)
    (f : Array α) : Prop :=
  f.size = f0.size ∧
  (∀ i, i < s → f.getD (σ^[i+1] j0) z =
      G (σ^[i] j0) (f0.getD (σ^[i] j0) z) (f0.getD (σ^[i+1] j0) z)) ∧
  (∀ x, (∀ i, i < s → x ≠ σ^[i+1] j0) → f.getD x z = f0.getD x z)

theorem iter_ne (σ : Nat → Nat) (j0 L : Nat) (hL : 0 < L) (hret : σ^[L] j0 = j0)
    (hdist : ∀ i j, i < L → j < L → σ^[i] j0 = σ^[j] j0 → i = j)
    (i s : Nat) (his : i < s) (hs : s < L) : σ^[i+1] j0 ≠ σ^[s+1] j0 := by
  intro e
  by_cases hlast : s + 1 = L
  · have : σ^[i+1] j0 = σ^[0] j0 := by rw [e, hlast, hret]; rfl
    have := hdist (i+1) 0 (by omega) hL this
    omega
  · have := hdist (i+1) (s+1) (by omega) (by omega) e
    omega

theorem walkG_moved (σ : Nat → Nat) (G : Nat → α → α → α) (z : α) (j0 L : Nat) (f0 : Array α)
    (hb : ∀ i, σ^[i] j0 < f0.size) (hL : 0 < L) (hret : σ^[L] j0 = j0)
    (hdist : ∀ i j, i < L → j < L → σ^[i] j0 = σ^[j] j0 → i = j)
    (fuel nb : Nat) (hfuel : L ≤ fuel) (C : Nat → Prop)
    (horb : ∀ y, y < f0.size → (C y ↔ ∃ i, i < L ∧ y = σ^[i] j0)) :
    (walkS σ (stepG σ G z) 1 j0 fuel j0 (f0.getD j0 z) f0 nb).2 = nb + L ∧
    Moved σ G z f0.size C f0 (walkS σ (stepG σ G z) 1 j0 fuel j0 (f0.getD j0 z) f0 nb).1 := by
  obtain ⟨h1, -, -, h2, h3, h4⟩ := walkS_spec σ j0 L hL hret hdist (stepG σ G z) 1
    (fun s t f => t = f0.getD (σ^[s] j0) z ∧ WalkInv σ G z j0 f0 s f) (fun s t f hsL ⟨ht, hsz, hi1, hi2⟩ => by
      have hne := fun i (hi : i < s) => iter_ne σ j0 L hL hret hdist i s hi hsL
      simp only [stepG, ← Function.iterate_succ_apply' σ, ht,
        hi2 _ (fun i hi => (hne i hi).symm)]
      have hinb : σ^[s+1] j0 < f.size := by rw [hsz]; exact hb _
      refine ⟨trivial, by rw [Array.size_setIfInBounds]; exact hsz, fun i hi => ?_, fun x hx => ?_⟩
      · by_cases his : i = s
        · subst his; rw [getD_setIfInBounds, if_pos ⟨rfl, hinb⟩]
        · rw [getD_setIfInBounds_ne _ _ _ (Ne.symm (hne i (by omega)))]
          exact hi1 i (by omega)
      · rw [getD_setIfInBounds_ne _ _ _ (Ne.symm (hx s (by omega)))]
        exact hi2 x (fun i hi => hx i (by omega)))
    L 0 fuel (f0.getD j0 z) f0 nb (by omega) hL hfuel ⟨rfl, rfl, fun i hi => by omega, fun x _ => rfl⟩
  refine ⟨h1.trans (by rw [Nat.one_mul]), h2, fun y hy c => ?_, fun y hy c => h4 y fun i hi e => c ((horb y hy).2 ?_)⟩
  · obtain ⟨i, hi, rfl⟩ := (horb y hy).1 c
    rw [← Function.iterate_succ_apply' σ]
    exact h3 i hi
  · obtain ⟨i', hi', e'⟩ := cycle_wrap σ j0 L hL hret i hi
    exact ⟨i', hi', e.trans e'⟩

end Spq.Rq
