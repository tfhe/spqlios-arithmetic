/-
  Bridge between the closed coefficient formulas used as specifications (`Spq.Q120Ntt.nmul`,
  `Spq.Rq.rotCoeff`, …) and the ring `R[X]/(X^n+1)` built by Mathlib (`AdjoinRoot (X^n+1)`).
  Here: the carrier `Rq R n`, `toPoly`, `mk`, `root`, and the class of a coefficient vector as a sum of
  powers of `root`.
-/
import SpqProofs.Lemmas.NttEval
import Mathlib.RingTheory.AdjoinRoot
import Mathlib.Algebra.Polynomial.BigOperators
import Mathlib.Algebra.Polynomial.Degree.Lemmas

namespace Spq.Bridge
open Polynomial Finset

variable {R : Type} [CommRing R]

/-- the modulus `X^n + 1` -/
noncomputable def modulus (R : Type) [CommRing R] (n : Nat) : R[X] := X ^ n + 1

/-- the ring `R[X]/(X^n+1)` -/
abbrev Rq (R : Type) [CommRing R] (n : Nat) : Type := AdjoinRoot (modulus R n)

/-- the polynomial `Σ_{i<n} a_i X^i` of a coefficient vector (only `a 0 … a (n-1)` are read) -/
noncomputable def toPoly (n : Nat) (a : Nat → R) : R[X] := ∑ i ∈ range n, C (a i) * X ^ i

/-- the quotient map `R[X] → R[X]/(X^n+1)` -/
noncomputable abbrev mk (n : Nat) : R[X] →+* Rq R n := AdjoinRoot.mk (modulus R n)

/-- the class of `X` -/
noncomputable abbrev root (n : Nat) : Rq R n := AdjoinRoot.root (modulus R n)

/-- the embedding of the coefficients -/
noncomputable abbrev of (n : Nat) : R →+* Rq R n := AdjoinRoot.of (modulus R n)

theorem root_pow_n (n : Nat) : (root n : Rq R n) ^ n = -1 := by
  have h : mk n (X ^ n + 1 : R[X]) = 0 := AdjoinRoot.mk_self (f := modulus R n)
  rw [map_add, map_pow, map_one, AdjoinRoot.mk_X] at h
  exact eq_neg_of_add_eq_zero_left h

theorem root_pow_2n (n : Nat) : (root n : Rq R n) ^ (2 * n) = 1 := by
  rw [Nat.mul_comm, pow_mul, root_pow_n]; norm_num

theorem mk_toPoly (n : Nat) (a : Nat → R) :
    mk n (toPoly n a) = ∑ i ∈ range n, of n (a i) * (root n) ^ i := by
  simp only [toPoly, map_sum, map_mul, map_pow, AdjoinRoot.mk_C, AdjoinRoot.mk_X]

theorem toPoly_coeff (n : Nat) (a : Nat → R) (k : Nat) :
    (toPoly n a).coeff k = if k < n then a k else 0 := by
  simp [toPoly]

theorem toPoly_degree_lt (n : Nat) (a : Nat → R) : (toPoly n a).degree < n := by
  rw [degree_lt_iff_coeff_zero]
  intro m hm
  rw [toPoly_coeff, if_neg (by omega)]

theorem toPoly_sub (n : Nat) (a b : Nat → R) :
    toPoly n (fun i => a i - b i) = toPoly n a - toPoly n b := by
  simp only [toPoly, ← sum_sub_distrib, C_sub, sub_mul]

theorem toPoly_add (n : Nat) (a b : Nat → R) :
    toPoly n (fun i => a i + b i) = toPoly n a + toPoly n b := by
  simp only [toPoly, ← sum_add_distrib, C_add, add_mul]

theorem toPoly_neg (n : Nat) (a : Nat → R) :
    toPoly n (fun i => - a i) = - toPoly n a := by
  simp only [toPoly, ← sum_neg_distrib, C_neg, neg_mul]

theorem toPoly_congr (n : Nat) (a b : Nat → R) (h : ∀ i, i < n → a i = b i) :
    toPoly n a = toPoly n b := by
  unfold toPoly
  apply sum_congr rfl
  intro i hi; rw [h i (mem_range.1 hi)]

end Spq.Bridge
