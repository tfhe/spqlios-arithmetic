/-
  The q120 AVX2 product kernels (`Properties/SrcQ120Avx.lean`) as the symbolic executor of `SrcSym.lean` sees them.
  For each kernel: the description `K0` of the head of the row loop, the inputs of row 0 (`start`), of the next row
  (`next`) and the result lanes (`out`) written as the C source computes them, the three runs of the generated term
  (by evaluation), and the facts about the model that the runs leave: the needs are met (bounds) and `start` /
  `next` / `out` compute the model's initial sums, step and reduction (arithmetic).  `Q120Avx` holds what the
  reference kernels share with these: the table behind parameter 0 and what reading it needs.
-/
import Gen.CSrc
import SpqProofs.Lemmas.SrcQ120Avx
import SpqProofs.Lemmas.SrcSym
namespace Spq.Src
open Spq Spq.CIR Spq.Q120

namespace Q120Avx
open Spq.Sym

/-- `_mm256_mul_epu32` -/
def epu32 (a b : SV) : SV := .mul (.land a (.lit 4294967295)) (.land b (.lit 4294967295))

/-- `_mm256_mul_epu32` written with `&`: the product of the low halves does not wrap -/
theorem epu32_eq (a b : Nat) : mul64 (a &&& 4294967295) (b &&& 4294967295) = mulEpu32 a b := by
  have e32 : (4294967295 : Nat) = 2 ^ 32 - 1 := by decide
  rw [e32, Nat.and_two_pow_sub_one_eq_mod, Nat.and_two_pow_sub_one_eq_mod]
  have := Nat.mul_lt_mul'' (Nat.mod_lt a (show 0 < 2 ^ 32 by decide)) (Nat.mod_lt b (show 0 < 2 ^ 32 by decide))
  exact Nat.mod_eq_of_lt (by omega)

/-- in the reductions: `H2 = precomp[0]`, and lane `l` of the table at cell `c` of the precomputation -/
def H2 : SV := .load (.par 0) (.plus (.lit 0) (.lit 0))
def tbl (c l : Nat) : SV := .load (.par 0) (.plus (.lit 0) (.add (.lit c) (.lit l)))

theorem load_natBuf (mem : Mem) (b : Nat) (B : Array Nat) (o : Nat) (hb : buf mem b = natBuf B) (ho : o < B.size) :
    loadCell mem (some (b, o)) 0 = .ok ((((buf mem b).getD o 0).toNat : Nat) : Int) := by
  rw [pload_natBuf mem b B o hb ho, hb, getD_natBuf, Int.toNat_natCast]

theorem toNat_getD_natBuf (mem : Mem) (b : Nat) (B : Array Nat) (o : Nat) (hb : buf mem b = natBuf B) :
    ((buf mem b).getD o 0).toNat = B.getD o 0 := by
  rw [hb, getD_natBuf, Int.toNat_natCast]

/-- the halves of a sum at `H2 = precomp[0]`, in the recombinations -/
def lo2 (a : SV) : SV := .land a (.mask H2)
def hi2 (a : SV) : SV := .shr a H2

/-- what the code around a row loop needs: it shifts by `shifts`, reads the first `n` cells of the table (parameter
    0) and takes the four pointer parameters -/
def needsTbl (shifts : List SV) (n : Nat) : Needs := ⟨shifts, [0, 1, 2, 3], [(.par 0, .lit 0, n)], []⟩

/-- the pointer parameters `precomp`, `res`, `x`, `y` -/
theorem par4 (C : Ctx) (pc r x y : Nat) (hΓ : C.Γ = [some (pc, 0), some (r, 0), some (x, 0), some (y, 0)]) :
    ∀ i ∈ [0, 1, 2, 3], C.Γ.getD i none = some (den C (.par i), 0) := by
  simp only [List.forall_mem_cons, List.not_mem_nil, false_imp_iff, implies_true, and_true, den, hΓ]
  exact ⟨rfl, rfl, rfl, rfl⟩

section
variable (C : Ctx) (pc : Nat) (T : Array Nat) (hM : C.M = fun b o => ((buf C.mem b).getD o 0).toNat)
  (hΓ0 : C.Γ.getD 0 none = some (pc, 0)) (hpc : buf C.mem pc = natBuf T)
include hM hΓ0 hpc

/-- cell `o` of the table, read through parameter 0 -/
theorem den_tcell (o : Nat) : C.M (den C (.par 0)) o = T.getD o 0 := by
  rw [den_par hΓ0, hM]
  exact toNat_getD_natBuf C.mem pc T _ hpc

theorem den_tbl (c l : Nat) : den C (tbl c l) = T.getD (add64 c l) 0 := by
  show C.M (den C (.par 0)) (0 + add64 c l) = _
  rw [Nat.zero_add, den_tcell C pc T hM hΓ0 hpc]

theorem den_H2 : den C H2 = T.getD 0 0 := den_tcell C pc T hM hΓ0 hpc 0
end

section
variable (C : Ctx) (pc r x y : Nat) (T : Array Nat) (hM : C.M = fun b o => ((buf C.mem b).getD o 0).toNat)
  (hΓ : C.Γ = [some (pc, 0), some (r, 0), some (x, 0), some (y, 0)]) (hpc : buf C.mem pc = natBuf T)
include hM hΓ hpc

theorem tbl_met (shifts : List SV) (n : Nat) (hs : ∀ b ∈ shifts, den C b < 64) (hn : n ≤ T.size) :
    (needsTbl shifts n).Met C := by
  have h0 : den C (.par 0) = pc := den_par (by rw [hΓ]; rfl)
  refine ⟨hs, par4 C pc r x y hΓ, fun t ht l hl => ?_, nofun⟩
  cases List.mem_singleton.1 ht
  show loadCell C.mem (some (den C (.par 0), 0 + l)) 0 = .ok ((C.M (den C (.par 0)) (0 + l) : Nat) : Int)
  rw [h0, hM]
  exact load_natBuf C.mem pc T _ hpc (by have : l < n := hl; omega)

/-- in a recombination: its loads are from the table, which is not the buffer written -/
theorem fin_needs (shifts : List SV) (n : Nat) (hrp : r ≠ pc) (hs : ∀ b ∈ shifts, den C b < 64) (hn : n ≤ T.size) :
    ∀ c, (needsTbl shifts n).good c = true → c.holds C (· = r) := by
  refine (tbl_met C pc r x y T hM hΓ hpc shifts n hs hn).goodW _ (fun t ht => ?_) nofun
  cases List.mem_singleton.1 ht
  exact fun e => hrp (e.symm.trans (den_par (by rw [hΓ]; rfl)))
end

end Q120Avx

namespace BaaAvx2
open Spq.Sym Q120Avx

def loop : Stmt := firstFor Gen.CSrc.q120_vec_mat1col_product_baa_avx2.body
def fin : Stmt := afterFor Gen.CSrc.q120_vec_mat1col_product_baa_avx2.body

theorem split : seqDrop 6 Gen.CSrc.q120_vec_mat1col_product_baa_avx2.body
    = .seq (.for (forInit loop) (forTest loop) (forInc loop) (forBody loop)) fin := rfl
/-- the head of the row loop.  Inputs: 0 `ell`, 1 `H`, 2 `MASK`, 3 `acc1[l]`, 4 `acc2[l]`, 5 `x`, 6 the row offset,
    7 `y`, 8 the row counter -/
def K0 : K :=
  [(0, .atom 0 0), (1, .atom 1 0), (2, .atom 2 0), (3, .atom 2 0), (4, .atom 2 0), (5, .atom 2 0),
   (6, .atom 3 0), (7, .atom 3 1), (8, .atom 3 2), (9, .atom 3 3), (10, .atom 4 0), (11, .atom 4 1), (12, .atom 4 2),
   (13, .atom 4 3), (14, .atom 5 0), (15, .atom 6 0), (16, .atom 7 0), (17, .atom 6 0), (18, .atom 8 0)]

/-- one row as the C source has it, lane `l`: `t = mul_epu32(x[l], y[l]); acc1 += t & MASK; acc2 += t >> H` -/
def t (l : Nat) : SV := epu32 (.load (.atom 5 0) (.plus (.atom 6 0) (.lit l))) (.load (.atom 7 0) (.plus (.atom 6 0) (.lit l)))
def next : Nat → Nat → SV
  | 3, l => .add (.atom 3 l) (.land (t l) (.atom 2 0))
  | 4, l => .add (.atom 4 l) (.shr (t l) (.atom 1 0))
  | 6, _ => .plus (.atom 6 0) (.lit 4)
  | 8, _ => .add (.atom 8 0) (.lit 1)
  | i, l => .atom i l

/-- the shifts of a row are by `H`; its loads are `x_ptr[l]` and `y_ptr[l]`, `l < 4` -/
def needsRow : Needs := ⟨[.atom 1 0], [], [(.atom 5 0, .atom 6 0, 4), (.atom 7 0, .atom 6 0, 4)], []⟩

theorem row_runs : runs 39 0 (.seq (forBody loop) (forInc loop)) K0 needsRow.good (renews 4 next K0) = true := by decide +kernel

/-- the inputs of row 0 as the statements before the loop leave them: `H = precomp[0]`, `MASK`, lane sums 0 -/
def start : Nat → Nat → SV
  | 1, _ => H2 | 2, _ => .mask H2 | 3, _ => .lit 0 | 4, _ => .lit 0 | 5, _ => .par 2 | 6, _ => .lit 0 | 7, _ => .par 3
  | 8, _ => .lit 0
  | i, l => .atom i l

theorem pre_runs : runs 39 0 (.seq (seqTake 6 Gen.CSrc.q120_vec_mat1col_product_baa_avx2.body) (forInit loop))
    [(0, .atom 0 0)] (needsTbl [H2] 1).good (renews 4 start K0) = true := by decide +kernel

/-- likewise with `H = 32` (`bbc_avx2`) -/
def start32 : Nat → Nat → SV
  | 1, _ => .lit 32 | 2, _ => .mask (.lit 32)
  | i, l => start i l

/-- the reduction: `H_POW_RED = precomp[1 + l]; res[l] = acc1 + mul_epu32(acc2, H_POW_RED)` -/
def out (l : Nat) : SV := .add (.atom 3 l) (epu32 (.atom 4 l) (.load (.par 0) (.plus (.lit 0) (.add (.lit 1) (.lit l)))))
theorem fin_runs : fills 39 0 fin K0 (needsTbl [] 5).good (.par 1) 0 4 out = true := by decide +kernel


/-- the inputs of `K0` at the head of row `n`, the lane sums being `S` -/
def ctx (Γ : List Ptr) (mem : Mem) (ell h x y n : Nat) (S : Nat → Nat × Nat) : Ctx :=
  ⟨Γ, fun i l => match i with
    | 0 => ell | 1 => h | 2 => 2 ^ h - 1 | 3 => (S l).1 | 4 => (S l).2 | 5 => x | 6 => 4 * n | 7 => y | 8 => n | _ => 0,
   fun b o => ((buf mem b).getD o 0).toNat, mem⟩

section
variable (Γ : List Ptr) (mem : Mem) (ell h x y n : Nat) (S : Nat → Nat × Nat) (X Y : Array Nat)
  (hx : buf mem x = natBuf X) (hy : buf mem y = natBuf Y)
include hx hy

theorem row_needs (hh : h < 64) (hX : 4 * n + 4 ≤ X.size) (hY : 4 * n + 4 ≤ Y.size) :
    needsRow.Met (ctx Γ mem ell h x y n S) := by
  refine ⟨List.forall_mem_cons.2 ⟨hh, nofun⟩, nofun,
    List.forall_mem_cons.2 ⟨fun l hl => ?_, List.forall_mem_cons.2 ⟨fun l hl => ?_, nofun⟩⟩, nofun⟩
  · exact load_natBuf mem x X (4 * n + l) hx (by have : l < 4 := hl; omega)
  · exact load_natBuf mem y Y (4 * n + l) hy (by have : l < 4 := hl; omega)

/-- `next` computes the inputs of the next row: the lane sums advance by `baaAvxStep` -/
theorem row_next (S' : Nat → Nat × Nat)
    (hS : ∀ l, S' l = baaAvxStep (2 ^ h) (S l) (X.getD (4 * n + l) 0, Y.getD (4 * n + l) 0))
    (hn : n + 1 < 18446744073709551616) (i l : Nat) :
    den (ctx Γ mem ell h x y n S) (next i l) = (ctx Γ mem ell h x y (n + 1) S').ρ i l := by
  match i with
  | 0 => rfl | 1 => rfl | 2 => rfl | 5 => rfl | 7 => rfl | _ + 9 => rfl
  | 3 =>
    show add64 (S l).1 (mul64 (((buf mem x).getD (4 * n + l) 0).toNat &&& 4294967295)
      (((buf mem y).getD (4 * n + l) 0).toNat &&& 4294967295) &&& (2 ^ h - 1)) = (S' l).1
    rw [epu32_eq, Nat.and_two_pow_sub_one_eq_mod, toNat_getD_natBuf mem x X _ hx, toNat_getD_natBuf mem y Y _ hy, hS l]
    rfl
  | 4 =>
    show add64 (S l).2 (mul64 (((buf mem x).getD (4 * n + l) 0).toNat &&& 4294967295)
      (((buf mem y).getD (4 * n + l) 0).toNat &&& 4294967295) / 2 ^ h) = (S' l).2
    rw [epu32_eq, toNat_getD_natBuf mem x X _ hx, toNat_getD_natBuf mem y Y _ hy, hS l]
    rfl
  | 6 => show 4 * n + 4 = 4 * (n + 1); omega
  | 8 => show add64 n 1 = n + 1; simp only [add64]; omega
end

theorem start_den (mem : Mem) (ell x y pc r : Nat) (S : Nat → Nat × Nat) (P : BaaPrecomp)
    (hpc : buf mem pc = natBuf (baaCells P)) (hS : ∀ l, S l = (0, 0)) (i l : Nat) :
    den (ctx [some (pc, 0), some (r, 0), some (x, 0), some (y, 0)] mem ell P.h x y 0 S) (start i l) = (ctx [some (pc, 0), some (r, 0), some (x, 0), some (y, 0)] mem ell P.h x y 0 S).ρ i l := by
  have hH := den_H2 (ctx [some (pc, 0), some (r, 0), some (x, 0), some (y, 0)] mem ell P.h x y 0 S) pc (baaCells P) rfl rfl hpc
  match i with
  | 0 => rfl | 5 => rfl | 6 => rfl | 7 => rfl | 8 => rfl | _ + 9 => rfl
  | 1 => exact hH
  | 2 => exact congrArg (2 ^ · - 1) hH
  | 3 => exact congrArg Prod.fst (hS l).symm
  | 4 => exact congrArg Prod.snd (hS l).symm

theorem start32_den (mem : Mem) (ell x y pc r : Nat) (S : Nat → Nat × Nat) (hS : ∀ l, S l = (0, 0)) (i l : Nat) :
    den (ctx [some (pc, 0), some (r, 0), some (x, 0), some (y, 0)] mem ell 32 x y 0 S) (start32 i l) = (ctx [some (pc, 0), some (r, 0), some (x, 0), some (y, 0)] mem ell 32 x y 0 S).ρ i l := by
  match i with
  | 0 => rfl | 1 => rfl | 2 => rfl | 5 => rfl | 6 => rfl | 7 => rfl | 8 => rfl | _ + 9 => rfl
  | 3 => exact congrArg Prod.fst (hS l).symm
  | 4 => exact congrArg Prod.snd (hS l).symm

section
variable (Γ : List Ptr) (mem : Mem) (ell x y n pc : Nat) (S : Nat → Nat × Nat) (P : BaaPrecomp)
  (hΓ : Γ.getD 0 none = some (pc, 0)) (hpc : buf mem pc = natBuf #[P.h, P.hpow 0, P.hpow 1, P.hpow 2, P.hpow 3])
include hΓ

include hpc

/-- `out` is the model's recombination of the lane sums with `H_POW_RED` -/
theorem fin_out (l : Nat) (hl : l < 4) :
    den (ctx Γ mem ell P.h x y n S) (out l) = add64 (S l).1 (mulEpu32 (S l).2 (P.hpow l)) := by
  show add64 (S l).1 (mul64 ((S l).2 &&& 4294967295)
    (((buf mem (den (ctx Γ mem ell P.h x y n S) (.par 0))).getD (0 + add64 1 l) 0).toNat &&& 4294967295)) = _
  rw [epu32_eq, den_par hΓ, hpc, getD_natBuf, Int.toNat_natCast]
  have : l = 0 ∨ l = 1 ∨ l = 2 ∨ l = 3 := by omega
  rcases this with rfl | rfl | rfl | rfl <;> rfl
end

end BaaAvx2

namespace BbbAvx2
open Spq.Sym Q120Avx

def loop : Stmt := firstFor Gen.CSrc.q120_vec_mat1col_product_bbb_avx2.body
def fin : Stmt := afterFor Gen.CSrc.q120_vec_mat1col_product_bbb_avx2.body

theorem split : seqDrop 8 Gen.CSrc.q120_vec_mat1col_product_bbb_avx2.body
    = .seq (.for (forInit loop) (forTest loop) (forInc loop) (forBody loop)) fin := rfl

/-- the head of the row loop.  Inputs: 0 `ell`, 1 `H1`, 2 `MASK1`, 3 … 6 the lane sums `s1[l]` … `s4[l]`, 7 `x`,
    8 `y`, 9 the row offset, 10 the row counter -/
def K0 : K :=
  [(0, .atom 0 0), (1, .atom 1 0), (2, .atom 2 0), (3, .atom 2 0), (4, .atom 2 0), (5, .atom 2 0),
   (6, .atom 3 0), (7, .atom 3 1), (8, .atom 3 2), (9, .atom 3 3), (10, .atom 4 0), (11, .atom 4 1), (12, .atom 4 2),
   (13, .atom 4 3), (14, .atom 5 0), (15, .atom 5 1), (16, .atom 5 2), (17, .atom 5 3), (18, .atom 6 0),
   (19, .atom 6 1), (20, .atom 6 2), (21, .atom 6 3), (22, .atom 7 0), (23, .atom 9 0), (24, .atom 8 0),
   (25, .atom 9 0), (26, .atom 10 0)]

/-- one row as the C source has it, lane `l`: the four products of the halves of `x[l]` and `y[l]`, their halves
    added to the lane sums -/
def lo (a : SV) : SV := .land a (.atom 2 0)
def hi (a : SV) : SV := .shr a (.atom 1 0)
def vX (l : Nat) : SV := .load (.atom 7 0) (.plus (.atom 9 0) (.lit l))
def vY (l : Nat) : SV := .load (.atom 8 0) (.plus (.atom 9 0) (.lit l))
def next : Nat → Nat → SV
  | 3, l => .add (.atom 3 l) (lo (epu32 (lo (vX l)) (lo (vY l))))
  | 4, l => .add (.add (.add (.atom 4 l) (hi (epu32 (lo (vX l)) (lo (vY l))))) (lo (epu32 (lo (vX l)) (hi (vY l)))))
      (lo (epu32 (hi (vX l)) (lo (vY l))))
  | 5, l => .add (.add (.add (.atom 5 l) (hi (epu32 (lo (vX l)) (hi (vY l))))) (hi (epu32 (hi (vX l)) (lo (vY l)))))
      (lo (epu32 (hi (vX l)) (hi (vY l))))
  | 6, l => .add (.atom 6 l) (hi (epu32 (hi (vX l)) (hi (vY l))))
  | 9, _ => .plus (.atom 9 0) (.lit 4)
  | 10, _ => .add (.atom 10 0) (.lit 1)
  | i, l => .atom i l

def needsRow : Needs := ⟨[.atom 1 0], [], [(.atom 7 0, .atom 9 0, 4), (.atom 8 0, .atom 9 0, 4)], []⟩

theorem row_runs : runs 136 0 (.seq (forBody loop) (forInc loop)) K0 needsRow.good (renews 4 next K0) = true := by
  decide +kernel


/-- the inputs of `K0` at the head of row `n`, the lane sums being `S` -/
def ctx (Γ : List Ptr) (mem : Mem) (ell x y n : Nat) (S : Nat → S4) : Ctx :=
  ⟨Γ, fun i l => match i with
    | 0 => ell | 1 => 32 | 2 => 2 ^ 32 - 1 | 3 => (S l).s1 | 4 => (S l).s2 | 5 => (S l).s3 | 6 => (S l).s4 | 7 => x
    | 8 => y | 9 => 4 * n | 10 => n | _ => 0,
   fun b o => ((buf mem b).getD o 0).toNat, mem⟩

section
variable (Γ : List Ptr) (mem : Mem) (ell x y n : Nat) (S : Nat → S4) (X Y : Array Nat)
  (hx : buf mem x = natBuf X) (hy : buf mem y = natBuf Y)
include hx hy

theorem row_needs (hX : 4 * n + 4 ≤ X.size) (hY : 4 * n + 4 ≤ Y.size) : needsRow.Met (ctx Γ mem ell x y n S) := by
  refine ⟨List.forall_mem_cons.2 ⟨(by decide : 32 < 64), nofun⟩, nofun,
    List.forall_mem_cons.2 ⟨fun l hl => ?_, List.forall_mem_cons.2 ⟨fun l hl => ?_, nofun⟩⟩, nofun⟩
  · exact load_natBuf mem x X (4 * n + l) hx (by have : l < 4 := hl; omega)
  · exact load_natBuf mem y Y (4 * n + l) hy (by have : l < 4 := hl; omega)

/-- `next` computes the inputs of the next row: the lane sums advance by `bbbAvxStep` -/
theorem row_next (S' : Nat → S4) (hS : ∀ l, S' l = bbbAvxStep (S l) (X.getD (4 * n + l) 0, Y.getD (4 * n + l) 0))
    (hn : n + 1 < 18446744073709551616) (i l : Nat) :
    den (ctx Γ mem ell x y n S) (next i l) = (ctx Γ mem ell x y (n + 1) S').ρ i l := by
  have e32 : (4294967296 : Nat) = 2 ^ 32 := by decide
  have hX := toNat_getD_natBuf mem x X (4 * n + l) hx
  have hY := toNat_getD_natBuf mem y Y (4 * n + l) hy
  have r1 : (ctx Γ mem ell x y n S).ρ 1 0 = 32 := rfl
  have r2 : (ctx Γ mem ell x y n S).ρ 2 0 = 2 ^ 32 - 1 := rfl
  have r7 : (ctx Γ mem ell x y n S).ρ 7 0 = x := rfl
  have r8 : (ctx Γ mem ell x y n S).ρ 8 0 = y := rfl
  have r9 : (ctx Γ mem ell x y n S).ρ 9 0 = 4 * n := rfl
  have hM : ∀ b o, (ctx Γ mem ell x y n S).M b o = ((buf mem b).getD o 0).toNat := fun _ _ => rfl
  match i with
  | 0 => rfl | 1 => rfl | 2 => rfl | 7 => rfl | 8 => rfl | _ + 11 => rfl
  | 3 =>
    show _ = (S' l).s1
    rw [hS l]
    simp only [next, lo, vX, vY, epu32, den, r2, r7, r8, r9, hM, hX, hY, epu32_eq, Nat.and_two_pow_sub_one_eq_mod,
      bbbAvxStep, e32]
    rfl
  | 4 =>
    show _ = (S' l).s2
    rw [hS l]
    simp only [next, lo, hi, vX, vY, epu32, den, r1, r2, r7, r8, r9, hM, hX, hY, epu32_eq, Nat.and_two_pow_sub_one_eq_mod,
      bbbAvxStep, e32]
    rfl
  | 5 =>
    show _ = (S' l).s3
    rw [hS l]
    simp only [next, lo, hi, vX, vY, epu32, den, r1, r2, r7, r8, r9, hM, hX, hY, epu32_eq, Nat.and_two_pow_sub_one_eq_mod,
      bbbAvxStep, e32]
    rfl
  | 6 =>
    show _ = (S' l).s4
    rw [hS l]
    simp only [next, hi, vX, vY, epu32, den, r1, r7, r8, r9, hM, hX, hY, epu32_eq, bbbAvxStep, e32]
    rfl
  | 9 => show 4 * n + 4 = 4 * (n + 1); omega
  | 10 => show add64 n 1 = n + 1; simp only [add64]; omega
end

/-- the inputs of row 0 as the statements before the loop leave them: `H1 = 32`, `MASK1`, lane sums 0 -/
def start : Nat → Nat → SV
  | 1, _ => .lit 32 | 2, _ => .mask (.lit 32) | 3, _ => .lit 0 | 4, _ => .lit 0 | 5, _ => .lit 0 | 6, _ => .lit 0
  | 7, _ => .par 2 | 8, _ => .par 3 | 9, _ => .lit 0 | 10, _ => .lit 0
  | i, l => .atom i l

theorem pre_runs : runs 136 0 (.seq (seqTake 8 Gen.CSrc.q120_vec_mat1col_product_bbb_avx2.body) (forInit loop))
    [(0, .atom 0 0)] (needsTbl [.lit 32] 0).good (renews 4 start K0) = true := by decide +kernel

theorem start_den (mem : Mem) (ell x y pc r : Nat) (S : Nat → S4) (hS : ∀ l, S l = ⟨0, 0, 0, 0⟩) (i l : Nat) :
    den (ctx [some (pc, 0), some (r, 0), some (x, 0), some (y, 0)] mem ell x y 0 S) (start i l) = (ctx [some (pc, 0), some (r, 0), some (x, 0), some (y, 0)] mem ell x y 0 S).ρ i l := by
  match i with
  | 0 => rfl | 1 => rfl | 2 => rfl | 7 => rfl | 8 => rfl | 9 => rfl | 10 => rfl | _ + 11 => rfl
  | 3 => exact congrArg S4.s1 (hS l).symm
  | 4 => exact congrArg S4.s2 (hS l).symm
  | 5 => exact congrArg S4.s3 (hS l).symm
  | 6 => exact congrArg S4.s4 (hS l).symm

/-- the reduction as the C source has it, lane `l`: `H2 = precomp[0]`, the lane sums split at `H2`, the halves
    multiplied (`_mm256_mul_epu32`) by the seven tables `precomp[c + l]` and added up -/
def out (l : Nat) : SV :=
  .add (.add (.add (.add (.add (.add (.add (lo2 (.atom 3 l)) (epu32 (hi2 (.atom 3 l)) (tbl 1 l)))
    (epu32 (lo2 (.atom 4 l)) (tbl 5 l))) (epu32 (hi2 (.atom 4 l)) (tbl 9 l)))
    (epu32 (lo2 (.atom 5 l)) (tbl 13 l))) (epu32 (hi2 (.atom 5 l)) (tbl 17 l)))
    (epu32 (lo2 (.atom 6 l)) (tbl 21 l))) (epu32 (hi2 (.atom 6 l)) (tbl 25 l))

theorem fin_runs : fills 136 0 fin K0 (needsTbl [H2] 29).good (.par 1) 0 4 out = true := by decide +kernel


section
variable (Γ : List Ptr) (mem : Mem) (ell x y n pc : Nat) (S : Nat → S4) (P : BbbPrecomp)
  (hΓ : Γ.getD 0 none = some (pc, 0)) (hpc : buf mem pc = natBuf (bbbCells P))
include hΓ

include hpc

/-- `out` is the model's reduction `bbbAvxFinal` of the lane sums -/
theorem fin_out (l : Nat) (hl : l < 4) :
    den (ctx Γ mem ell x y n S) (out l) = bbbAvxFinal P l (S l) := by
  have hc : ∀ o, (ctx Γ mem ell x y n S).M (Option.getD ((ctx Γ mem ell x y n S).Γ.getD 0 none) (0, 0)).fst o
      = (bbbCells P).getD o 0 := den_tcell (ctx Γ mem ell x y n S) pc _ rfl hΓ hpc
  have : l = 0 ∨ l = 1 ∨ l = 2 ∨ l = 3 := by omega
  rcases this with rfl | rfl | rfl | rfl <;>
  · simp only [out, lo2, hi2, tbl, H2, epu32, den, epu32_eq, hc, Nat.and_two_pow_sub_one_eq_mod]
    rfl
end

end BbbAvx2

/-! `q120_vec_mat1col_product_bbc_avx2`: the slots of the row loop are those of `baa_avx2` (`BaaAvx2.K0`, `ctx` with
    `H = 32`), and it needs the same of its operands -/
namespace BbcAvx2
open Spq.Sym Q120Avx BaaAvx2

def loop : Stmt := firstFor Gen.CSrc.q120_vec_mat1col_product_bbc_avx2.body
def fin : Stmt := afterFor Gen.CSrc.q120_vec_mat1col_product_bbc_avx2.body

theorem split : seqDrop 6 Gen.CSrc.q120_vec_mat1col_product_bbc_avx2.body
    = .seq (.for (forInit loop) (forTest loop) (forInc loop) (forBody loop)) fin := rfl
/-- one row as the C source has it, lane `l`: the products of the low halves and of the high halves of `x[l]` and
    `y[l]`, their halves added to the two lane sums -/
def lo (a : SV) : SV := .land a (.atom 2 0)
def hi (a : SV) : SV := .shr a (.atom 1 0)
def vX (l : Nat) : SV := .load (.atom 5 0) (.plus (.atom 6 0) (.lit l))
def vY (l : Nat) : SV := .load (.atom 7 0) (.plus (.atom 6 0) (.lit l))
def next : Nat → Nat → SV
  | 3, l => .add (.add (.atom 3 l) (lo (epu32 (lo (vX l)) (lo (vY l))))) (lo (epu32 (hi (vX l)) (hi (vY l))))
  | 4, l => .add (.add (.atom 4 l) (hi (epu32 (lo (vX l)) (lo (vY l))))) (hi (epu32 (hi (vX l)) (hi (vY l))))
  | 6, _ => .plus (.atom 6 0) (.lit 4)
  | 8, _ => .add (.atom 8 0) (.lit 1)
  | i, l => .atom i l

theorem row_runs : runs 76 0 (.seq (forBody loop) (forInc loop)) K0 needsRow.good (renews 4 next K0) = true := by
  decide +kernel

theorem pre_runs : runs 76 0 (.seq (seqTake 6 Gen.CSrc.q120_vec_mat1col_product_bbc_avx2.body) (forInit loop))
    [(0, .atom 0 0)] (needsTbl [.lit 32] 0).good (renews 4 start32 K0) = true := by decide +kernel

/-- the reduction, lane `l`: `H2 = precomp[0]`, `s2` split at `H2`, the halves multiplied by the two tables -/
def out (l : Nat) : SV :=
  .add (.add (.atom 3 l) (epu32 (.land (.atom 4 l) (.mask H2)) (tbl 1 l))) (epu32 (.shr (.atom 4 l) H2) (tbl 5 l))

theorem fin_runs : fills 76 0 fin K0 (needsTbl [H2] 9).good (.par 1) 0 4 out = true := by decide +kernel


section
variable (Γ : List Ptr) (mem : Mem) (ell x y n : Nat) (S : Nat → Nat × Nat) (X Y : Array Nat)
  (hx : buf mem x = natBuf X) (hy : buf mem y = natBuf Y)
include hx hy

/-- `next` computes the inputs of the next row: the lane sums advance by `bbcAvxStep` -/
theorem row_next (S' : Nat → Nat × Nat)
    (hS : ∀ l, S' l = bbcAvxStep (S l) (X.getD (4 * n + l) 0, Y.getD (4 * n + l) 0))
    (hn : n + 1 < 18446744073709551616) (i l : Nat) :
    den (ctx Γ mem ell 32 x y n S) (next i l) = (ctx Γ mem ell 32 x y (n + 1) S').ρ i l := by
  have e32 : (4294967296 : Nat) = 2 ^ 32 := by decide
  have hX := toNat_getD_natBuf mem x X (4 * n + l) hx
  have hY := toNat_getD_natBuf mem y Y (4 * n + l) hy
  have r1 : (ctx Γ mem ell 32 x y n S).ρ 1 0 = 32 := rfl
  have r2 : (ctx Γ mem ell 32 x y n S).ρ 2 0 = 2 ^ 32 - 1 := rfl
  have r5 : (ctx Γ mem ell 32 x y n S).ρ 5 0 = x := rfl
  have r7 : (ctx Γ mem ell 32 x y n S).ρ 7 0 = y := rfl
  have r6 : (ctx Γ mem ell 32 x y n S).ρ 6 0 = 4 * n := rfl
  have hM : ∀ b o, (ctx Γ mem ell 32 x y n S).M b o = ((buf mem b).getD o 0).toNat := fun _ _ => rfl
  match i with
  | 0 => rfl | 1 => rfl | 2 => rfl | 5 => rfl | 7 => rfl | _ + 9 => rfl
  | 3 =>
    show _ = (S' l).1
    rw [hS l]
    simp only [next, lo, hi, vX, vY, epu32, den, r1, r2, r5, r6, r7, hM, hX, hY, epu32_eq,
      Nat.and_two_pow_sub_one_eq_mod, bbcAvxStep, e32]
    rfl
  | 4 =>
    show _ = (S' l).2
    rw [hS l]
    simp only [next, lo, hi, vX, vY, epu32, den, r1, r2, r5, r6, r7, hM, hX, hY, epu32_eq,
      Nat.and_two_pow_sub_one_eq_mod, bbcAvxStep, e32]
    rfl
  | 6 => show 4 * n + 4 = 4 * (n + 1); omega
  | 8 => show add64 n 1 = n + 1; simp only [add64]; omega
end

section
variable (Γ : List Ptr) (mem : Mem) (ell x y n pc : Nat) (S : Nat → Nat × Nat) (P : BbcPrecomp)
  (hΓ : Γ.getD 0 none = some (pc, 0)) (hpc : buf mem pc = natBuf (bbcCells P))
include hΓ

include hpc

/-- `out` is the model's reduction `bbcAvxFinal` of the lane sums -/
theorem fin_out (l : Nat) (hl : l < 4) : den (ctx Γ mem ell 32 x y n S) (out l) = bbcAvxFinal P l (S l) := by
  have hc : ∀ o, (ctx Γ mem ell 32 x y n S).M (Option.getD ((ctx Γ mem ell 32 x y n S).Γ.getD 0 none) (0, 0)).fst o
      = (bbcCells P).getD o 0 := den_tcell (ctx Γ mem ell 32 x y n S) pc _ rfl hΓ hpc
  have : l = 0 ∨ l = 1 ∨ l = 2 ∨ l = 3 := by omega
  rcases this with rfl | rfl | rfl | rfl <;>
  · simp only [out, tbl, H2, epu32, den, epu32_eq, hc, Nat.and_two_pow_sub_one_eq_mod]
    rfl
end

end BbcAvx2

end Spq.Src
