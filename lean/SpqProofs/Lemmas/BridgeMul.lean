/-
  What `mk_toPoly_nmul` (the formula `nmul` is the product of `R[X]/(X^n+1)`) and `mk_toPoly_inj` (a class has at
  most one coefficient vector of length `n`) of `Properties/Bridge.lean` need.
-/
import SpqProofs.Lemmas.BridgeBasic

namespace Spq.Bridge
open Polynomial Finset Spq.Q120Ntt

variable {R : Type} [CommRing R]

theorem map_nmul {S : Type} [CommRing S] (f : R →+* S) (n : Nat) (g h : Nat → R) (i : Nat) :
    f (nmul n g h i) = nmul n (fun k => f (g k)) (fun k => f (h k)) i := by
  simp only [nmul, map_sum]
  apply sum_congr rfl; intro a _
  apply sum_congr rfl; intro b _
  split_ifs <;> simp

theorem modulus_monic (n : Nat) (hn : 0 < n) : (modulus R n).Monic := by
  unfold modulus
  apply monic_X_pow_add
  exact lt_of_le_of_lt degree_one_le (by exact_mod_cast hn)

theorem modulus_degree [Nontrivial R] (n : Nat) (hn : 0 < n) : (modulus R n).degree = n := by
  unfold modulus
  have := degree_X_pow_add_C (R := R) hn 1
  rwa [C_1] at this

theorem eq_zero_of_mk_eq_zero (n : Nat) (hn : 0 < n) (q : R[X]) (hq : q.degree < n)
    (h : mk n q = 0) : q = 0 := by
  rcases subsingleton_or_nontrivial R with hs | hnt
  · exact Subsingleton.elim _ _
  · by_contra hne
    have hd : q.degree < (modulus R n).degree := by rw [modulus_degree n hn]; exact hq
    exact AdjoinRoot.mk_ne_zero_of_degree_lt (modulus_monic n hn) hne hd h

end Spq.Bridge
