/-
  C16, binary64 side: the bundle of module-level hypotheses (`F64Mod`), the per-polynomial BUDGET predicates
  (the hypotheses of the end-to-end binary64 theorems of C01Err / C02Err and of the round trip `ProgErr2.rt_exact`),
  the limbs of `vec_znx_dft` / `svp_apply_dft` on an operand that agrees with the abstract value (`vecDft_limbs`,
  `svpApply_limbs`), the representation invariant of a `VEC_ZNX_DFT` object (`LimbExact`), and row `i` of `vec_znx_idft`.
-/
import SpqProofs.Lemmas.ProgErrRt
import SpqProofs.Lemmas.ProgErrCanon
namespace Spq.ProgErr
open Finset Spq Spq.Module Spq.Fft Spq.Fft.Alg Spq.FftErr Spq.F64 Spq.Reim4 Spq.ProdErr Spq.VmpErr Spq.Conv Spq.Prog
  Spq.Closed

/-- **the binary64 module and what is assumed about it** (exactly the standing hypotheses of C01Err / C02Err):
    `Cfg` consistent with the dispatch for `N = 2·2^k`, `k ≤ 16` (`VCfgOk`: tables = table layout filled with the stored
    patterns, FMA pointwise kernels only for `m ≥ 4`, 4-lane conversions only when `4 ∣ N`), a unit-modulus root `ζ`
    with `ζ^m = i` and its inverse `ζi` in `Cplx K` (`K` an ordered field, e.g. ℝ), both stored tables within
    `3.5·2^-53` of the powers of `ζ` resp. `ζi`. -/
structure F64Mod (K : Type) [Field K] [LinearOrder K] [IsStrictOrderedRing K] where
  c : Cfg
  k : ℕ
  hk : k ≤ 16
  cN : ℕ → ℕ
  sN : ℕ → ℕ
  cNi : ℕ → ℕ
  sNi : ℕ → ℕ
  ok : VCfgOk c k cN sN cNi sNi
  ζ : Cplx K
  ζi : Cplx K
  hζ : nsq ζ = 1
  hI : ζ ^ 2 ^ k = Ic
  hinv : ζ * ζi = 1
  hcs : ∀ ℓ d b, ℓ + d + 1 = k → b < 2 ^ ℓ →
    nsq (toC (((val (cN (twE ℓ d b)) : ℚ) : K), ((val (sN (twE ℓ d b)) : ℚ) : K)) - ζ ^ twE ℓ d b) ≤
      (((7 / 2 * u64 : ℚ)) : K) ^ 2
  hcsi : ∀ ℓ d b, ℓ + d + 1 = k → b < 2 ^ ℓ →
    nsq (toC (((val (cNi (twE ℓ d b)) : ℚ) : K), ((val (sNi (twE ℓ d b)) : ℚ) : K)) - ζi ^ twE ℓ d b) ≤
      (((7 / 2 * u64 : ℚ)) : K) ^ 2

variable {K : Type} [Field K] [LinearOrder K] [IsStrictOrderedRing K]

/-- ring dimension -/
abbrev F64Mod.N (M : F64Mod K) : ℕ := 2 * 2 ^ M.k
/-- the binary64 module the library runs -/
abbrev F64Mod.parts (M : F64Mod K) : Parts ℕ := Cfg.parts M.c

theorem F64Mod.nn (M : F64Mod K) : M.parts.nn = M.N := M.ok.cfg.nn

/-- the module as the context of the DFT-space rules (`ProdErrNear`) -/
def F64Mod.ctx (M : F64Mod K) : Ctx K :=
  ⟨M.c, M.k, M.cN, M.sN, M.cNi, M.sNi, M.ok.cfg, M.ζ, M.ζi, M.hζ, M.hI, M.hinv, M.hcs, M.hcsi⟩

theorem k961 (M : F64Mod K) : M.k ≤ 961 := by have := M.hk; omega

theorem agree_nn (M : F64Mod K) {x : Array Int} {asz asl : ℕ} {f : ℕ → ℕ → ℤ} (hag : Agree M.N x asz asl f) :
    Agree M.parts.nn x asz asl f := by rw [M.nn]; exact hag

/-- budget of the pure round trip `idft (dft a)` of one limb: box, flags of the two transforms, and
    `17·log2(N)·2^-53·na < 1/2` for some `na ≥ ‖a‖₂` -/
def RtBudget (M : F64Mod K) (a : Array Int) : Prop :=
  Box M.k a ∧ RtOk M.c M.k M.cN M.sN M.cNi M.sNi a ∧
  ∃ na : K, 0 ≤ na ∧ n2sq K a M.N ≤ na ^ 2 ∧ ((17 * (M.k + 1 : ℚ) * u64 : ℚ) : K) * na < 1 / 2

/-- budget of one product `a ⊛ b` through DFT space (the hypotheses of `C01Err.small_product_exact_f64_partial`):
    boxes, the stage-wise flags `PipeOk`, and `E' = 12·log2(N)·2^-53·(‖a‖₁·nb + na·‖b‖₁) < 1/2` -/
def ProdBudget (M : F64Mod K) (a b : Array Int) : Prop :=
  Box M.k a ∧ Box M.k b ∧ PipeOk M.c M.k M.cN M.sN M.cNi M.sNi a b ∧
  ∃ na nb : K, 0 ≤ na ∧ 0 ≤ nb ∧ n2sq K a M.N ≤ na ^ 2 ∧ n2sq K b M.N ≤ nb ^ 2 ∧ nb ≤ n1 K b M.N ∧
    ((12 * (M.k + 1 : ℚ) * u64 : ℚ) : K) * (n1 K a M.N * nb + na * n1 K b M.N) < 1 / 2

/-- budget of output column `j` of a vector-matrix product (the hypotheses of `C02Err.vmp_exact_f64_partial`; vector
    and matrix given as flat arrays of stride `N`): flags `VmpOk` and
    `E_sum = (12·log2(N) + 2n + 3)·2^-53·Σ_{i<n} (‖a_i‖₁·nb_i + na_i·‖M_ij‖₁) < 1/2` -/
def VmpColBudget (M : F64Mod K) (mat : Array Int) (nrows ncols : ℕ) (a : Array Int) (asz rsz j : ℕ) : Prop :=
  VmpOk M.c M.k M.cN M.sN M.cNi M.sNi mat nrows ncols a asz M.N rsz j ∧
  ∃ na nb : ℕ → K, (∀ i, i < min nrows asz → 0 ≤ na i) ∧ (∀ i, i < min nrows asz → 0 ≤ nb i) ∧
    (∀ i, i < min nrows asz → n2sq K (limbOf a i M.N M.N) M.N ≤ na i ^ 2) ∧
    (∀ i, i < min nrows asz → n2sq K (matEntry mat ncols M.N i j) M.N ≤ nb i ^ 2) ∧
    (∀ i, i < min nrows asz → nb i ≤ n1 K (matEntry mat ncols M.N i j) M.N) ∧
    Esum K M.k mat nrows ncols a asz M.N j na nb < 1 / 2

/-- budget of a whole `vmp_apply_dft` with `rsz` result limbs: at most `2^25 − 1` rows, boxes of the rows used and of
    the matrix, and the column budget of every column `j < min ncols rsz` that is not trivially zero -/
def VmpBudget (M : F64Mod K) (mat : Array Int) (nrows ncols : ℕ) (a : Array Int) (asz rsz : ℕ) : Prop :=
  2 * min nrows asz + 2 ≤ 67108864 ∧
  (∀ i, i < min nrows asz → Box M.k (limbOf a i M.N M.N)) ∧
  (∀ i j, i < nrows → j < ncols → Box M.k (matEntry mat ncols M.N i j)) ∧
  ∀ j, j < min ncols rsz → (M.k < 2 → 0 < min nrows asz) → VmpColBudget M mat nrows ncols a asz rsz j

theorem fromZnx_size (c : Cfg) (k : ℕ) (hnn : c.nn = 2 * 2 ^ k) (hb : c.fromBnd50 = true → 1 ≤ k) (x : Array Int) :
    ((Cfg.parts c).fromZnx x).size = 2 * 2 ^ k := by
  have hm : c.nn / 2 = 2 ^ k := by rw [hnn]; exact two_mul_pow_half k
  have hpos : 0 < 2 ^ k := Nat.two_pow_pos k
  show (if c.fromBnd50 then fromZnx64Bnd50 (c.nn / 2) x else fromZnx64Ref (c.nn / 2) x).size = _
  rw [hm]
  cases hfb : c.fromBnd50 with
  | false =>
    simp only [Bool.false_eq_true, if_false]
    exact scalarLoop_size _ _
  | true =>
    simp only [if_true]
    exact chunks4_size _ _ hpos (two_mul_pow_mod_four k (hb hfb))

theorem fwd_size (M : F64Mod K) (x : Array Int) : (M.parts.fft (M.parts.fromZnx x)).size = M.N := by
  rw [parts_fft M.c M.k M.cN M.sN M.cNi M.sNi M.ok.cfg]
  exact reimFft_size M.c.fftFma M.k M.cN M.sN _ (fromZnx_size M.c M.k M.ok.cfg.nn M.ok.cfg.fromBnd50 x)

theorem vecDft_limbs (M : F64Mod K) (x : Array Int) (asz asl rsz : ℕ) (f : ℕ → ℕ → ℤ) (hag : Agree M.N x asz asl f) :
    (vecDft M.parts rsz x asz asl).size = rsz * M.N ∧
    ∀ i, i < rsz → dlimb (vecDft M.parts rsz x asz asl) i M.N =
      if i < asz then M.parts.fft (M.parts.fromZnx (polyArr M.N (f i))) else Array.replicate M.N 0 := by
  have hnn := M.nn
  have a := vecDft_spec M.parts rsz x asz asl
    (fun i => if i < asz then M.parts.fft (M.parts.fromZnx (polyArr M.N (f i))) else Array.replicate M.N 0)
    (by
      intro i _
      by_cases h : i < asz
      · rw [if_pos h, if_pos h, hnn, limbOf_agree hag i h]
      · rw [if_neg h, if_neg h, hnn]; rfl)
    (by
      intro i _
      by_cases h : i < asz
      · rw [if_pos h, hnn]; exact fwd_size M _
      · rw [if_neg h, hnn]; simp)
  rw [hnn] at a
  exact a

theorem svpApply_limbs (M : F64Mod K) (x : Array Int) (asz asl rsz : ℕ) (f : ℕ → ℕ → ℤ) (hag : Agree M.N x asz asl f)
    (sp : Array Int) :
    (svpApply M.parts rsz (svpPrepare M.parts sp) x asz asl).size = rsz * M.N ∧
    ∀ i, i < rsz → dlimb (svpApply M.parts rsz (svpPrepare M.parts sp) x asz asl) i M.N =
      if i < asz then stM M.c M.k M.cN M.sN (polyArr M.N (f i)) sp else Array.replicate M.N 0 := by
  have hnn := M.nn
  obtain ⟨a1, a2⟩ := svpApply_spec M.parts rsz (svpPrepare M.parts sp) x asz asl
    (fun i => if i < asz then stM M.c M.k M.cN M.sN (polyArr M.N (f i)) sp else Array.replicate M.N 0)
    (by
      intro i _
      by_cases h : i < asz
      · rw [if_pos h, if_pos h, hnn, limbOf_agree hag i h, mul_eq_mulA M.c M.k M.ok.cfg.nn, parts_fft M.c M.k M.cN M.sN M.cNi M.sNi M.ok.cfg]
        unfold svpPrepare
        rw [parts_fft M.c M.k M.cN M.sN M.cNi M.sNi M.ok.cfg]
        rfl
      · rw [if_neg h, if_neg h, hnn]; rfl)
    (by
      intro i _
      by_cases h : i < asz
      · rw [if_pos h, hnn]
        exact (mulA_cells F64.arith M.c.mulFma (2 ^ M.k) (fun hf => pow_mod_four M.k (M.ok.cfg.mulFma hf)) _ _).1
      · rw [if_neg h, hnn]; simp)
  rw [hnn] at a1 a2
  exact ⟨a1, a2⟩

/-- **`LimbExact M P sz d`**: the binary64 DFT-space object `d` (`sz` limbs) REPRESENTS the integer polynomial vector
    `P`: the inverse transform + final rounding of every limb is exactly the limb of `P`.  (This is what the consumer
    `vec_znx_idft` needs; `vmp_apply_dft_to_dft` consumes the bits themselves.) -/
def LimbExact (M : F64Mod K) (P : Val) (sz : ℕ) (d : Array ℕ) : Prop :=
  ∀ i, i < sz → M.parts.toZnx (M.parts.ifft (dlimb d i M.N)) = polyArr M.N (P.coef i)

theorem idft_row (M : F64Mod K) (rsz2 : ℕ) (d : Array ℕ) (dsz i : ℕ) (hi : i < rsz2) :
    dlimb (vecIdft M.parts rsz2 d dsz) i M.N =
      if i < dsz then M.parts.toZnx (M.parts.ifft (dlimb d i M.N)) else Array.replicate M.N 0 :=
  idft_limb M.c M.k M.ok.cfg.nn M.ok.cfg.toVar rsz2 d dsz i hi

theorem idft_read (M : F64Mod K) (P : Val) (sz rsz : ℕ) (d : Array ℕ)
    (h : ∀ i, i < sz → i < rsz → M.parts.toZnx (M.parts.ifft (dlimb d i M.N)) = polyArr M.N (P.coef i)) (i t : ℕ)
    (hi : i < rsz) (ht : t < M.N) :
    (vecIdft M.parts rsz d sz).getD (i * M.N + t) 0 = zext sz (fun i t => P.coef i t) i t := by
  have e2 : (vecIdft M.parts rsz d sz).getD (i * M.N + t) 0 = (dlimb (vecIdft M.parts rsz d sz) i M.N).getD t 0 := by
    unfold dlimb
    rw [getD_extract, if_pos (by omega)]
  rw [e2, idft_row M rsz d sz i hi, zext]
  by_cases hs : i < sz
  · rw [if_pos hs, if_pos hs, h i hs hi, getD_polyArr _ _ _ ht]
  · rw [if_neg hs, if_neg hs]
    exact getD_replicate 0 _ t

theorem idft_of_limbExact (M : F64Mod K) (P : Val) (sz rsz : ℕ) (d : Array ℕ) (h : LimbExact M P sz d) (i t : ℕ)
    (hi : i < rsz) (ht : t < M.N) :
    (vecIdft M.parts rsz d sz).getD (i * M.N + t) 0 = zext sz (fun i t => P.coef i t) i t :=
  idft_read M P sz rsz d (fun i hs _ => h i hs) i t hi ht

theorem polyArr_zero (N : ℕ) (f : ℕ → ℤ) (h : ∀ t, t < N → f t = 0) : polyArr N f = Array.replicate N 0 := by
  apply ext_getD 0 (by simp)
  intro t ht
  rw [size_polyArr] at ht
  rw [getD_polyArr _ _ _ ht, h t ht, getD_replicate]

theorem eq_polyArr_of_getD (N : ℕ) (x : Array Int) (f : ℕ → ℤ) (hs : x.size = N) (h : ∀ t, t < N → x.getD t 0 = f t) :
    x = polyArr N f := by
  apply ext_getD 0 (by rw [hs, size_polyArr])
  intro t ht
  rw [hs] at ht
  rw [h t ht, getD_polyArr _ _ _ ht]

theorem polyArr_coef_mk (N sz : ℕ) (g : ℕ → ℕ → ℤ) (i : ℕ) (hi : i < sz) :
    polyArr N ((Val.mk N sz g).coef i) = polyArr N (g i) :=
  polyArr_congr _ _ _ fun t ht => coef_mk _ _ _ _ _ hi ht

theorem zext_pos {asz : ℕ} (f : ℕ → ℕ → ℤ) {i : ℕ} (h : i < asz) : zext asz f i = f i := by
  funext t; rw [zext, if_pos h]

theorem zext_neg {asz : ℕ} (f : ℕ → ℕ → ℤ) {i : ℕ} (h : ¬ i < asz) : zext asz f i = fun _ => 0 := by
  funext t; rw [zext, if_neg h]

theorem polyArr_polyMul (N : ℕ) (fa : ℕ → ℤ) (sp : Array Int) :
    polyArr N (polyMul N fa fun t => sp.getD t 0) = nmul N (polyArr N fa) sp :=
  (eq_polyArr_of_getD _ _ _ (size_nmul _ _ _) fun t ht =>
    getD_nmul _ _ _ _ _ (fun u hu => getD_polyArr _ _ _ hu) (fun _ _ => rfl) t ht).symm

/-- **a limb rule gives the vector rule.**  `Q i dl x` reads "limb `dl` stands for the polynomial `x`" (`LimbExact`:
    `toZnx (ifft dl) = x`; `MetricRep`: `LimbMetric M dl x (δ i)`).  Every vector operation of the module computes the
    limbs `i` with `live i` by the limb operation and leaves the others as padding, whose exact rows `g i` are zero:
    the rule for the padding (`Q` of the zero polynomial) is the caller's, since the two invariants get it differently. -/
theorem limbwise (N sz : ℕ) (Q : ℕ → Array ℕ → Array ℤ → Prop) (d : Array ℕ) (live : ℕ → Prop) (g : ℕ → ℕ → ℤ)
    (hin : ∀ i, i < sz → live i → Q i (dlimb d i N) (polyArr N (g i)))
    (hdead : ∀ i, i < sz → ¬ live i → Q i (dlimb d i N) (Array.replicate N 0) ∧ ∀ t, t < N → g i t = 0) :
    ∀ i, i < sz → Q i (dlimb d i N) (polyArr N ((Val.mk N sz g).coef i)) := by
  intro i hi
  rw [polyArr_coef_mk N sz g i hi]
  by_cases h : live i
  · exact hin i hi h
  · rw [polyArr_zero N (g i) (hdead i hi h).2]
    exact (hdead i hi h).1

end Spq.ProgErr
