/-
  C16 helpers for the DFT-space layer: reading a variable as the flat array the module-level model
  receives, storing a returned limb vector, and the store-update bookkeeping of `Prog.RD`.
-/
import SpqProofs.Lemmas.ProgVals
namespace Spq.Prog
open Spq Heap Spq.C08

variable {α : Type} {nn hsz : Nat} {vars : List Var}

theorem flat_getD (h : Heap Int) (a : Var) (i c : Nat) (hi : i < a.size) (hc : c < a.stride) :
    (flat h a).getD (i * a.stride + c) 0 = h.mem.getD (a.off + i * a.stride + c) 0 := by
  have h1 := mul_step i a.size a.stride (by omega)
  have h2 : i * a.stride + c < a.size * a.stride := by omega
  simp [flat, Array.getD, h2, Nat.add_assoc]

theorem flat_agree (wf : WF nn hsz vars) {env : Env} {h : Heap Int} (hR : R nn hsz vars env h)
    (a : Var) (ha : a ∈ vars) : Agree nn (flat h a) a.size a.stride (fun i t => (env a).coef i t) := by
  have hst := wf.stride a ha
  refine ⟨fun i hi => ?_, fun i c hi hc => ?_⟩
  · have h1 := mul_step i a.size a.stride (by omega)
    simp only [flat, Array.size_ofFn]
    omega
  · rw [flat_getD h a i c hi (by omega)]
    exact getD_of_R hR a ha i c hi hc

theorem limbOf0_getD (x : Array Int) (sl nn t : Nat) (ht : t < nn) :
    (Module.limbOf x 0 sl nn).getD t 0 = x.getD t 0 := by
  unfold Module.limbOf
  simp only [Array.getD_eq_getD_getElem?, Array.getElem?_extract, Nat.zero_mul, Nat.zero_add, Nat.sub_zero]
  by_cases h : t < x.size
  · have : t < min nn x.size := by omega
    simp [this]
  · have h1 : ¬ t < min nn x.size := by omega
    have h2 : x[t]? = none := by simp; omega
    simp [h1, h2]

theorem flat_limb0 (wf : WF nn hsz vars) {env : Env} {h : Heap Int} (hR : R nn hsz vars env h)
    (a : Var) (ha : a ∈ vars) (hsz0 : 0 < a.size) (t : Nat) (ht : t < nn) :
    (Module.limbOf (flat h a) 0 a.stride nn).getD t 0 = (env a).coef 0 t := by
  rw [limbOf0_getD _ _ _ _ ht]
  have := (flat_agree wf hR a ha).2 0 t hsz0 ht
  simpa using this

theorem storeVec_spec (h : Heap Int) (d : Var) (x : Array Int) (hsl : nn ≤ d.stride)
    (hres : InBounds nn h.mem.size d.off d.size d.stride) :
    (storeVec nn h d x).mem.size = h.mem.size ∧ (storeVec nn h d x).ok = h.ok ∧
    (∀ i c, i < d.size → c < nn →
      (storeVec nn h d x).mem[d.off + i * d.stride + c]? = some (x.getD (i * nn + c) 0)) ∧
    Frame nn d.off d.size d.stride h.mem (storeVec nn h d x).mem := by
  obtain ⟨a, b, cv, e⟩ := C08.store_post (0 : Int) nn (fun i => Array.ofFn (n := nn) fun c => x.getD (i * nn + c.val) 0)
    (fun _ => by simp) h d.off d.size d.stride hsl hres
  exact ⟨a, b, fun i c hi hc => (cv i c hi hc).trans (by simp [hc]), e⟩

theorem R_storeVec (wf : WF nn hsz vars) {env : Env} {h : Heap Int} (hR : R nn hsz vars env h) (d : Var) (hd : d ∈ vars)
    (x : Array Int) (f : Nat → Nat → Int) (hx : ∀ i t, i < d.size → t < nn → x.getD (i * nn + t) 0 = f i t) :
    R nn hsz vars (env.set d (Val.mk nn d.size f)) (storeVec nn h d x) := by
  obtain ⟨s1, s2, s3, s4⟩ := storeVec_spec (nn := nn) h d x (wf.stride d hd)
    (inBounds_of_R wf hR d hd _ (Nat.le_refl _))
  exact R_step wf env h _ d hd f hR s1 s2 (fun i t hi ht => by rw [s3 i t hi ht, hx i t hi ht]) s4

theorem upd_same {κ β : Type} [DecidableEq κ] (f : κ → β) (k : κ) (v : β) : upd f k v k = v := by
  simp [upd]
theorem upd_other {κ β : Type} [DecidableEq κ] (f : κ → β) (k j : κ) (v : β) (h : j ≠ k) :
    upd f k v j = f j := by
  simp [upd, h]

theorem upd_rel {κ β γ δ : Type} [DecidableEq κ] (Rel : κ → δ → β → γ → Prop) {f : κ → Option β} {g : κ → γ}
    {e : κ → δ} (h : ∀ j v, f j = some v → Rel j (e j) v (g j)) (k : κ) (b : β) (c : γ) (x : δ) (hk : Rel k x b c) :
    ∀ j v, upd f k (some b) j = some v → Rel j (upd e k x j) v (upd g k c j) := by
  intro j v hv
  by_cases q : j = k
  · subst q
    rw [upd_same] at hv ⊢
    rw [upd_same]
    cases hv
    exact hk
  · rw [upd_other _ _ _ _ q] at hv ⊢
    rw [upd_other _ _ _ _ q]
    exact h j v hv

theorem ext_eq_zext (env : Env) (a : Var) : ext env a = zext a.size (fun i t => (env a).coef i t) := rfl

theorem mk_ext_eq (env : Env) (a : Var) (sz : Nat) (h : sz ≤ a.size) :
    Val.mk nn sz (ext env a) = Val.mk nn sz (fun i t => (env a).coef i t) := by
  unfold Val.mk
  congr 1; funext i; congr 1; funext t
  exact ext_of_lt env a i t (Nat.lt_of_lt_of_le i.isLt h)

theorem RD_init {c : Module.Parts α} (S : DftOpsSound c nn) (env : Env) (s : CState α)
    (hR : R nn hsz vars env s.heap) :
    RD S hsz vars ⟨env, fun _ => none, fun _ => none, fun _ => none, fun _ => none⟩ s := by
  refine ⟨hR, ?_, ?_, ?_, ?_⟩ <;> intro _ _ h <;> cases h

end Spq.Prog
