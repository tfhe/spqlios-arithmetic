/-
  Closing C16: the record `DftOpsSound c c.nn` from H1–H4 (`ExactArith`, `ExactDft`) and `FromLocal` (`fromZnx` reads
  exactly the `nn` coefficients of its argument, as `Conv.fromZnx64Ref` does).  A DFT-space object is represented by
  the integer data whose exact transform it IS (`RepVx`, `RepSx`, `RepMx`), so all budgets are `True`.
  This file: the limb-level facts; `ClosedSound2`: the record.
-/
import SpqProofs.Lemmas.ClosedPoly
import SpqProofs.Lemmas.ModuleVmpExact
set_option linter.unusedSectionVars false
namespace Spq.Closed
open Finset Spq Spq.Module Spq.Prog Reim4

variable {R : Type} [CommRing R]

def FromLocal (c : Parts R) : Prop :=
  ∀ x y : Array Int, (∀ t, t < c.nn → x.getD t 0 = y.getD t 0) → c.fromZnx x = c.fromZnx y

def RepVx (c : Parts R) (P : Val) (sz : ℕ) (d : Array R) : Prop :=
  d.size = sz * c.nn ∧ ∀ i, i < sz → dlimb d i c.nn = c.fft (c.fromZnx (polyArr c.nn (P.coef i)))

def RepSx (c : Parts R) (sp : Array Int) (s : Array R) : Prop :=
  s = c.fft (c.fromZnx (polyArr c.nn (fun t => sp.getD t 0)))

def RepMx (c : Parts R) (M : Val) (nrows ncols : ℕ) (pm : Array R) : Prop :=
  ∃ mat : Array Int,
    (∀ i j, i < nrows → j < ncols → (matEntry mat ncols c.nn i j).size = c.nn ∧
      ∀ t, t < c.nn → (matEntry mat ncols c.nn i j).getD t 0 = M.coef (i * ncols + j) t) ∧
    pm = vmpPrepare c mat nrows ncols

section
variable (c : Parts R) (z : ℕ → Cx R) (ha : ExactArith c) (hd : ExactDft c z) (hl : FromLocal c)
include ha hd hl

omit ha hd in
theorem fft_congr (x y : Array Int) (h : ∀ t, t < c.nn → x.getD t 0 = y.getD t 0) :
    c.fft (c.fromZnx x) = c.fft (c.fromZnx y) := by rw [hl x y h]

theorem zero_limb (f : ℕ → ℤ) (hf : ∀ t, t < c.nn → f t = 0) :
    Array.replicate c.nn c.ar.zero = c.fft (c.fromZnx (polyArr c.nn f)) := by
  have hz : c.ar.zero = 0 := by rw [ha.har]; rfl
  rw [hz, ← fft_zero c z ha hd]
  apply fft_congr c hl
  intro t ht
  rw [getD_polyArr _ _ _ ht, hf t ht]
  simp [Array.getD_eq_getD_getElem?, ht]

omit ha hd hl in
theorem limbOf_getD (x : Array Int) (i sl nn t : ℕ) (ht : t < nn) :
    (limbOf x i sl nn).getD t 0 = x.getD (i * sl + t) 0 := by
  unfold limbOf
  rw [getD_extract, if_pos (by omega)]

theorem dft_sound (x : Array Int) (asz asl rsz : ℕ) (f : ℕ → ℕ → ℤ) (hag : Agree c.nn x asz asl f) :
    RepVx c (Val.mk c.nn rsz (zext asz f)) rsz (vecDft c rsz x asz asl) := by
  apply vecDft_spec
  · intro i hi
    by_cases h : i < asz
    · rw [if_pos h]
      apply fft_congr c hl
      intro t ht
      rw [limbOf_getD _ _ _ _ _ ht, hag.2 i t h ht, getD_polyArr _ _ _ ht, coef_mk _ _ _ _ _ hi ht, zext, if_pos h]
    · rw [if_neg h]
      apply zero_limb c z ha hd hl
      intro t ht
      rw [coef_mk _ _ _ _ _ hi ht, zext, if_neg h]
  · intro i _
    exact hd.fft_size _ (hd.fromZnx_size _ (size_polyArr _ _))

omit ha hd in
theorem svp_prepare_sound (x : Array Int) (f : ℕ → ℤ) (hx : ∀ t, t < c.nn → x.getD t 0 = f t) :
    RepSx c (Array.ofFn (n := c.nn) fun t => f t.val) (svpPrepare c x) := by
  unfold RepSx svpPrepare
  apply fft_congr c hl
  intro t ht
  rw [hx t ht, getD_polyArr _ _ _ ht]
  exact (getD_polyArr c.nn f t ht).symm

theorem svp_sound (x : Array Int) (asz asl rsz : ℕ) (f : ℕ → ℕ → ℤ) (sp : Array Int) (s : Array R)
    (hag : Agree c.nn x asz asl f) (hs : RepSx c sp s) :
    RepVx c (Val.mk c.nn rsz fun i t => polyMul c.nn (zext asz f i) (fun u => sp.getD u 0) t) rsz
      (svpApply c rsz s x asz asl) := by
  apply svpApply_spec
  · intro i hi
    by_cases h : i < asz
    · rw [if_pos h, hs, fft_prod c z ha hd _ _ (size_limbOf _ _ _ _ (hag.1 i h)) (size_polyArr _ _)]
      apply fft_congr c hl
      intro t ht
      rw [getD_polyArr _ _ _ ht, coef_mk _ _ _ _ _ hi ht]
      apply getD_nmul _ _ _ _ _ _ _ t ht
      · intro u hu; rw [limbOf_getD _ _ _ _ _ hu, hag.2 i u h hu, zext, if_pos h]
      · intro u hu; exact getD_polyArr _ _ _ hu
    · rw [if_neg h]
      apply zero_limb c z ha hd hl
      intro t ht
      rw [coef_mk _ _ _ _ _ hi ht]
      have : zext asz f i = fun _ => 0 := by funext u; simp [zext, h]
      rw [this, polyMul_zero_left]
  · intro i _
    exact hd.fft_size _ (hd.fromZnx_size _ (size_polyArr _ _))

end
end Spq.Closed
