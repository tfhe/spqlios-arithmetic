/-
  C01 rounding budget: the exact side.  `pkC x m p = x_p + i·x_{m+p}` (the reim packing of an integer
  polynomial of `2m` coefficients).  The exact forward network `V ζ (pkC x m) k 0 j` is the evaluation of `x` at
  `z_j = ζ^(1 + 4·brev_k j)`, `z_j^N = −1`; hence
    * `V(a)_j · V(b)_j = V(nmul a b)_j`            (negacyclic convolution theorem),
    * `|V(x)_j| ≤ ‖x‖₁`,   `Σ_j |V(x)_j|² = m·‖x‖₂²`.
-/
import SpqProofs.Lemmas.ProdErrNet
import SpqProofs.Lemmas.ModuleSpec
set_option linter.unusedSectionVars false
namespace Spq.ProdErr
open Finset Spq Spq.Module Spq.Fft.Alg Spq.FftErr
variable {K : Type} [Field K] [LinearOrder K] [IsStrictOrderedRing K]

/-- packed complex coefficient `p` of an integer polynomial of `2m` coefficients -/
def pkC (x : Array Int) (m p : ℕ) : Cplx K := toC (((x.getD p 0 : Int) : K), ((x.getD (m + p) 0 : Int) : K))

theorem toC_int (n n' : Int) : (toC (((n : Int) : K), ((n' : Int) : K)) : Cplx K) = (n : Cplx K) + Ic * (n' : Cplx K) := by
  ext <;> simp [toC, Ic, QuadraticAlgebra.re_mul, QuadraticAlgebra.im_mul]

theorem Ic_sq : (Ic : Cplx K) * Ic = -1 := by
  rw [Ic_mul]; ext <;> simp [Ic, QuadraticAlgebra.re_one, QuadraticAlgebra.im_one]

theorem Ic_pow4 : (Ic : Cplx K) ^ 4 = 1 := by
  have : (Ic : Cplx K) ^ 4 = (Ic * Ic) * (Ic * Ic) := by ring
  rw [this, Ic_sq]; ring

/-- the evaluation points: `z^m = i` -/
theorem zpt_pow (k : ℕ) (ζ : Cplx K) (hI : ζ ^ 2 ^ k = Ic) (b : ℕ) : (ζ ^ (1 + 4 * b)) ^ 2 ^ k = Ic := by
  rw [← pow_mul, Nat.mul_comm, pow_mul, hI, pow_add, pow_one, pow_mul, Ic_pow4, one_pow, mul_one]

theorem V_eval (k : ℕ) (ζ : Cplx K) (hI : ζ ^ 2 ^ k = Ic) (x : Array Int) (j : ℕ) (hj : j < 2 ^ k) :
    V ζ (pkC x (2 ^ k)) k 0 j =
      evalF (2 * 2 ^ k) (fun t => ((icoef x t : Int) : Cplx K)) (ζ ^ (1 + 4 * brev k j)) := by
  rw [V_top ζ _ k (pow_two_mul_of_I hI) j hj, sumTo_eq_sum,
    reim_evalF (2 ^ k) _ (ζ ^ (1 + 4 * brev k j)) Ic (zpt_pow k ζ hI _)]
  apply sum_congr rfl
  intro p _
  rw [pow_mul]
  congr 1
  unfold pkC icoef
  rw [toC_int, Nat.add_comm p]

theorem V_prod (k : ℕ) (ζ : Cplx K) (hI : ζ ^ 2 ^ k = Ic) (a b : Array Int) (j : ℕ) (hj : j < 2 ^ k) :
    V ζ (pkC a (2 ^ k)) k 0 j * V ζ (pkC b (2 ^ k)) k 0 j = V ζ (pkC (nmul (2 * 2 ^ k) a b) (2 ^ k)) k 0 j := by
  rw [V_eval k ζ hI a j hj, V_eval k ζ hI b j hj, V_eval k ζ hI _ j hj]
  have hz : (ζ ^ (1 + 4 * brev k j)) ^ (2 * 2 ^ k) = -1 := by
    rw [show 2 * 2 ^ k = 2 ^ k * 2 from Nat.mul_comm _ _, pow_mul, zpt_pow k ζ hI, pow_two, Ic_sq]
  rw [← eval_nmulF (2 * 2 ^ k) _ _ _ hz]
  unfold evalF
  apply sum_congr rfl
  intro t ht
  simp only []
  rw [icoef_nmul _ _ _ _ (mem_range.1 ht)]
  exact congrArg (· * (ζ ^ (1 + 4 * brev k j)) ^ t)
    (map_nmulF (Int.castRingHom (Cplx K)) (2 * 2 ^ k) (icoef a) (icoef b) t).symm

theorem nsq_pkC (x : Array Int) (m p : ℕ) :
    nsq (pkC x m p : Cplx K) = ((x.getD p 0 : Int) : K) ^ 2 + ((x.getD (m + p) 0 : Int) : K) ^ 2 := rfl

theorem V_sup (k : ℕ) (ζ : Cplx K) (hζ : nsq ζ = 1) (hI : ζ ^ 2 ^ k = Ic) (x : Array Int) (j : ℕ) (hj : j < 2 ^ k) :
    nsq (V ζ (pkC x (2 ^ k)) k 0 j) ≤ (∑ t ∈ range (2 * 2 ^ k), |((x.getD t 0 : Int) : K)|) ^ 2 := by
  rw [V_top ζ _ k (pow_two_mul_of_I hI) j hj, sum_halves]
  apply nsq_sumTo_le
  · intro t _; positivity
  · intro t _
    rw [nsq_mul, nsq_pow, hζ, one_pow, mul_one, nsq_pkC]
    have h1 := abs_nonneg ((x.getD t 0 : Int) : K)
    have h2 := abs_nonneg ((x.getD (2 ^ k + t) 0 : Int) : K)
    rw [← sq_abs ((x.getD t 0 : Int) : K), ← sq_abs ((x.getD (2 ^ k + t) 0 : Int) : K)]
    have := mul_nonneg h1 h2
    linarith

theorem V_sum (k : ℕ) (ζ : Cplx K) (hζ : nsq ζ = 1) (x : Array Int) :
    ∑ j ∈ range (2 ^ k), nsq (V ζ (pkC x (2 ^ k)) k 0 j) =
      2 ^ k * ∑ t ∈ range (2 * 2 ^ k), ((x.getD t 0 : Int) : K) ^ 2 := by
  rw [V_norm ζ hζ _ k k 0 (by omega), sum_halves]
  rfl

end Spq.ProdErr
