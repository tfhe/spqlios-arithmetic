/-
  Structural schedule theorem (forward cplx): the per-block butterflies `gNetC` of the cplx schedules (`cbfs2` for
  m ≤ 8, `cbfs16` for m ≤ 2048, `crec16` above), table readers, the twiddle pass with doubled twiddle, `cbfs16` (its
  radix-4 levels and 16-point leaves are those of the reim schedule, `ReimFrom`), the radix-2 schedule `cbfs2`, `crec16`
  and the top-level theorem `cfftRI_struct`.
-/
import SpqProofs.Lemmas.FftSchedTop
set_option linter.unusedSectionVars false
namespace Spq.Fft.SchedC
open Spq.Fft Spq.Fft.Alg Spq.Fft.View Spq.Fft.Sim Spq.Fft.SimP Spq.Fft.LevelN Spq.Fft.KernN Spq.Fft.Tw Spq.Fft.SchedN
open Spq.Fft.Kern (leafE)

variable {R : Type} [Inhabited R]

/-- stored value of a table entry: kind 0 = cos, 1 = sin, 2 = −sin, 3 = −cos -/
def valQ (c s ns nc : ℕ → R) (x : Ent) : R :=
  if x.kind = 0 then c x.e else if x.kind = 1 then s x.e else if x.kind = 2 then ns x.e else nc x.e

/-- the `h = 1` butterfly of `cbfs2` with its four table entries `(ω, ω')` as a function on pairs -/
def lastV (f4 : Bf4 R) (wr wi nwr nwi : R) : R × R → R × R → (R × R) × (R × R) :=
  bfV (fun ra ia rb ib w1 w2 => f4 ra ia rb ib w1 w2 nwr nwi) wr wi

/-- the butterfly of block `b` at level `(ℓ, d)` of the cplx transform of size `2^k` -/
def gNetC (F : CFlav R) (c s ns nc : ℕ → R) (k ℓ d b : ℕ) : R × R → R × R → (R × R) × (R × R) :=
  if k ≤ 3 then
    (if d = 0 then lastV F.last (c (twE ℓ d b)) (s (twE ℓ d b)) (nc (twE ℓ d b)) (ns (twE ℓ d b))
     else bfV F.ctTop (c (twE ℓ d b)) (s (twE ℓ d b)))
  else if 12 ≤ k - ℓ then bfV F.ctTop (c (twE ℓ d b)) (s (twE ℓ d b))
  else if (k - ℓ) % 2 = 1 ∧ (k - ℓ = 11 ∨ ℓ = 0) then bfV F.ctOdd (c (twE ℓ d b)) (s (twE ℓ d b))
  else gNet F.big c s k ℓ d b

/-- a member of a butterfly family with four table functions, for every value type at once -/
abbrev PolyBfQ :=
  ∀ {R : Type}, CFlav R → (ℕ → R) → (ℕ → R) → (ℕ → R) → (ℕ → R) → R × R → R × R → (R × R) × (R × R)

/-- Which butterfly block `b` of level `(ℓ, d)` runs (one of four; `lastV` only at `d = 0`), as a case analysis whose
    motive ranges over the butterfly for every value type at once: a fact about one run and a fact relating two runs
    on different types are both instances. -/
theorem gNetC_pick (k ℓ d b : ℕ) (Q : PolyBfQ → Prop)
    (hlast : d = 0 → Q (fun F c s ns nc =>
      lastV F.last (c (twE ℓ d b)) (s (twE ℓ d b)) (nc (twE ℓ d b)) (ns (twE ℓ d b))))
    (htop : Q (fun F c s _ _ => bfV F.ctTop (c (twE ℓ d b)) (s (twE ℓ d b))))
    (hodd : Q (fun F c s _ _ => bfV F.ctOdd (c (twE ℓ d b)) (s (twE ℓ d b))))
    (hbig : Q (fun F c s _ _ => gNet F.big c s k ℓ d b)) :
    Q (fun F c s ns nc => gNetC F c s ns nc k ℓ d b) := by
  unfold gNetC
  split_ifs with h1 h2
  exacts [hlast h2, htop, htop, hodd, hbig]

variable (F : CFlav R) (c s ns nc : ℕ → R) (k : ℕ) (a : ℕ → R × R)

theorem gNetC_low (ℓ d b : ℕ) (hk : 4 ≤ k) (hr : k - ℓ ≤ 10) (h : 1 ≤ ℓ ∨ k % 2 = 0) :
    gNetC F c s ns nc k ℓ d b = gNet F.big c s k ℓ d b := by
  unfold gNetC
  rw [if_neg (by omega), if_neg (by omega), if_neg (by omega)]

theorem gNetC_odd (ℓ d b : ℕ) (hk : 4 ≤ k) (hr : k - ℓ ≤ 11) (ho : (k - ℓ) % 2 = 1) (h : k - ℓ = 11 ∨ ℓ = 0) :
    gNetC F c s ns nc k ℓ d b = bfV F.ctOdd (c (twE ℓ d b)) (s (twE ℓ d b)) := by
  unfold gNetC
  rw [if_neg (by omega), if_neg (by omega), if_pos ⟨ho, h⟩]

theorem gNetC_top (ℓ d b : ℕ) (hk : 4 ≤ k) (hr : 12 ≤ k - ℓ) :
    gNetC F c s ns nc k ℓ d b = bfV F.ctTop (c (twE ℓ d b)) (s (twE ℓ d b)) := by
  unfold gNetC
  rw [if_neg (by omega), if_pos hr]

theorem gNetC_small (ℓ d b : ℕ) (hk : k ≤ 3) (hd : d ≠ 0) :
    gNetC F c s ns nc k ℓ d b = bfV F.ctTop (c (twE ℓ d b)) (s (twE ℓ d b)) := by
  unfold gNetC
  rw [if_pos hk, if_neg hd]

theorem gNetC_last (ℓ b : ℕ) (hk : k ≤ 3) :
    gNetC F c s ns nc k ℓ 0 b =
      lastV F.last (c (twE ℓ 0 b)) (s (twE ℓ 0 b)) (nc (twE ℓ 0 b)) (ns (twE ℓ 0 b)) := by
  unfold gNetC
  rw [if_pos hk, if_pos rfl]

omit [Inhabited R] in
theorem gNetC_cases (ℓ d b : ℕ) (P : (R × R → R × R → (R × R) × (R × R)) → Prop)
    (hlast : d = 0 → P (lastV F.last (c (twE ℓ d b)) (s (twE ℓ d b)) (nc (twE ℓ d b)) (ns (twE ℓ d b))))
    (htop : P (bfV F.ctTop (c (twE ℓ d b)) (s (twE ℓ d b))))
    (hodd : P (bfV F.ctOdd (c (twE ℓ d b)) (s (twE ℓ d b))))
    (hbig : P (gNet F.big c s k ℓ d b)) : P (gNetC F c s ns nc k ℓ d b) :=
  gNetC_pick k ℓ d b (fun g => P (g F c s ns nc)) hlast htop hodd hbig

theorem read_ePQ (T : Array R) (t x : ℕ) (h : SegP T t ((eP x).map (valQ c s ns nc))) :
    T[t]! = c x ∧ T[t + 1]! = s x :=
  ⟨h 0 Nat.zero_lt_two, h 1 Nat.one_lt_two⟩

theorem read_eNQ (T : Array R) (t x : ℕ) (h : SegP T t ((eN x).map (valQ c s ns nc))) :
    T[t]! = nc x ∧ T[t + 1]! = ns x :=
  ⟨h 0 Nat.zero_lt_two, h 1 Nat.one_lt_two⟩

theorem real_of_eq (f : Bf R) (wr wi : R) (gb : R × R → R × R → (R × R) × (R × R)) (h : bfV f wr wi = gb) :
    RealisesP f wr wi (fun u v => (gb u v).1) (fun u v => (gb u v).2) := by
  subst h; exact realP f wr wi

variable (g : ℕ → ℕ → ℕ → R × R → R × R → (R × R) × (R × R))

/-- `twPassL`: the twiddle is stored twice (the second copy matters only when `lanes`); whatever copy a lane reads,
    the butterfly is the block's -/
theorem twPassL_adv {gl : ℕ → R × R → R × R → (R × R) × (R × R)} {d : ℕ} {A B : ℕ → R × R} (hL : Step gl d A B) (f : Bf R)
    (lanes : Bool) (T : Array R) (t N b off : ℕ) (hoff : off = 2 * 2 ^ d * b) (hN : off + 2 * 2 ^ d ≤ N)
    (hq0 : bfV f T[t]! T[t + 1]! = gl b) (hq1 : lanes = true → bfV f T[t + 2]! T[t + 3]! = gl b) :
    Adv N (twPassL f lanes T t (2 ^ d) off) A B off (2 * 2 ^ d) := by
  intro s0 hs
  unfold twPassL
  have l := SimP.loop_sim N
    (fun i s => bf f s (off + i) (off + 2 ^ d + i) T[if (lanes && i % 2 == 1) = true then t + 2 else t]!
      T[(if (lanes && i % 2 == 1) = true then t + 2 else t) + 1]!)
    (fun i x => G (fun u v => (gl b u v).1) (fun u v => (gl b u v).2) (off + i) (off + 2 ^ d + i) x) (2 ^ d)
    (fun j s hj hs => by
      by_cases hc : (lanes && j % 2 == 1) = true
      · have hl : lanes = true := by cases lanes <;> simp_all
        rw [if_pos hc, show t + 2 + 1 = t + 3 by ring]
        exact SimP.bf_sim N f _ _ _ _ (real_of_eq f _ _ _ (hq1 hl)) s _ _ hs (by omega) (by omega) (by omega)
      · rw [if_neg hc]
        exact SimP.bf_sim N f _ _ _ _ (real_of_eq f _ _ _ hq0) s _ _ hs (by omega) (by omega) (by omega)) s0 hs
  rw [loop1] at l
  rw [l.1]
  exact ⟨hL.tw _ b off hoff _ rfl, l.2⟩

theorem cFill16_vals (U e : ℕ) : (cFill16 U e).map (valQ c s ns nc) =
    [c (e / 2), s (e / 2), c (e / 4), s (e / 4), c (e / 8), s (e / 8), c (e / 8 + U / 8), s (e / 8 + U / 8),
     c (e / 16), s (e / 16), c (e / 16 + U / 8), s (e / 16 + U / 8), c (e / 16 + U / 16), s (e / 16 + U / 16), c (e / 16 + U / 8 + U / 16), s (e / 16 + U / 8 + U / 16)] := rfl

theorem cleaf_readN (T : Array R) (t e U : ℕ) (h : SegP T t ((cFill16 U e).map (valQ c s ns nc))) :
    ∀ q, q < 8 → cplxW16 T t q = (c (leafE e U q), s (leafE e U q)) := by
  rw [cFill16_vals] at h
  have g : ∀ j, j < 16 → T[t + j]! = _ := h
  intro q hq
  have : q = 0 ∨ q = 1 ∨ q = 2 ∨ q = 3 ∨ q = 4 ∨ q = 5 ∨ q = 6 ∨ q = 7 := by omega
  rcases this with rfl | rfl | rfl | rfl | rfl | rfl | rfl | rfl
  · exact Prod.ext (g 0 (by omega)) (g 1 (by omega))
  · exact Prod.ext (g 2 (by omega)) (g 3 (by omega))
  · exact Prod.ext (g 4 (by omega)) (g 5 (by omega))
  · exact Prod.ext (g 6 (by omega)) (g 7 (by omega))
  · exact Prod.ext (g 8 (by omega)) (g 9 (by omega))
  · exact Prod.ext (g 10 (by omega)) (g 11 (by omega))
  · exact Prod.ext (g 12 (by omega)) (g 13 (by omega))
  · exact Prod.ext (g 14 (by omega)) (g 15 (by omega))

/-- below its top passes the cplx network runs the reim butterflies of `F.big` with the same table values: the
radix-4 levels and the leaves of `cbfs16` are those of the reim schedule -/
theorem gNetC_reimFrom (hk : 4 ≤ k) (L : ℕ) (hL : k ≤ L + 10) (h : 1 ≤ L ∨ k % 2 = 0) :
    ReimFrom F.big c s k (gNetC F c s ns nc k) (valQ c s ns nc) L :=
  ⟨fun ℓ hℓ d b => gNetC_low F c s ns nc k ℓ d b hk (by omega) (by omega), fun _ => rfl, fun _ => rfl⟩

theorem cbfsLevels_eq (T : Array R) (m off : ℕ) : ∀ fuel mm (st : RI R × ℕ),
    cbfsLevels F T m off fuel mm st = bfsLevels F.big T m off fuel mm st := by
  intro fuel
  induction fuel with
  | zero => intro mm st; rfl
  | succ f ih =>
    intro mm st
    rw [cbfsLevels, bfsLevels]
    split
    · exact ih _ _
    · rfl

theorem twL_runs (f : Bf R) (lanes : Bool) {ℓ D b m off pw x : ℕ} (hB : Blk k ℓ (D + 1) b m off pw)
    (hg : gNetC F c s ns nc k ℓ D b = bfV f (c (twE ℓ D b)) (s (twE ℓ D b))) (hx : x = twE ℓ D b) :
    Runs (valQ c s ns nc) (eP x ++ eP x) (fun T st => (twPassL f lanes T st.2 (m / 2) off st.1, st.2 + 4))
      (VN (gNetC F c s ns nc k) a ℓ (D + 1)) (VN (gNetC F c s ns nc k) a (ℓ + 1) D) off m :=
  (Runs.step 4 rfl (fun T t s0 => twPassL f lanes T t (2 ^ D) off s0) (fun N T t s0 hs hN hT => by
    rw [List.map_append] at hT
    obtain ⟨w0, w0'⟩ := read_ePQ c s ns nc T t _ hT.left
    obtain ⟨w1, w1'⟩ := read_ePQ c s ns nc T (t + 2) _ hT.right
    exact twPassL_adv (VN_step (gNetC F c s ns nc k) a ℓ D) f lanes T t N b off hB.pass hN (by rw [hg, w0, w0', hx])
      (fun _ => by rw [hg, w1, w1', hx]) s0 hs)).of_eq rfl (fun T st => by rw [hB.half]) rfl hB.two_pow

/-- `cbfs16` on a block of log-size `4 ≤ D ≤ 11` (the blocks of a larger transform have size 2048) -/
theorem cbfs16_runs {ℓ0 D b0 m off pw : ℕ} (hB : Blk k ℓ0 D b0 m off pw) (hD : 4 ≤ D) (hD11 : D ≤ 11)
    (hb0 : D = 11 ∨ ℓ0 = 0) :
    Runs (valQ c s ns nc) (cBfs16 (4 * 2 ^ k) m pw) (fun T st => cbfs16 F T m off st)
      (VN (gNetC F c s ns nc k) a ℓ0 D) (VN (gNetC F c s ns nc k) a k 0) off m := by
  have hk := hB.lvl
  have lv := fun j (hr : ReimFrom F.big c s k (gNetC F c s ns nc k) (valQ c s ns nc) (ℓ0 + j)) => hr.levels a
    (cBfs16Levels (4 * 2 ^ k) m) cplxW16 cFill16 (fun _ _ => rfl) (fun T t e U => cleaf_readN c s ns nc T t e U) hB
    (fun f mm ss h => by rw [cBfs16Levels, if_pos h]) (fun f mm ss h => by rw [cBfs16Levels, if_neg h]) hD11
  by_cases hodd : (m.log2 % 2 == 1) = true
  · obtain ⟨i, rfl⟩ : ∃ i, D = 4 + 2 * i + 1 := ⟨(D - 5) / 2, by rw [hB.log2] at hodd; simp at hodd; omega⟩
    have s1 := twL_runs F c s ns nc k a F.ctOdd F.lanesOdd hB
      (gNetC_odd F c s ns nc k ℓ0 (4 + 2 * i) b0 (by omega) (by omega) (by omega) (by omega)) hB.pw_half
    have s2 := lv 1 (gNetC_reimFrom F c s ns nc k (by omega) (ℓ0 + 1) (by omega) (by omega)) i m 1 (m / 2) (pw / 2)
      (Nat.add_comm _ _) le_rfl hB.half hB.pw_half (Nat.div_le_self m 2)
    exact (s1.seq s2).of_eq (by rw [cBfs16, if_pos hodd])
      (fun T st => by unfold cbfs16; rw [if_pos hodd, ← cbfsLevels_eq]) rfl rfl
  · obtain ⟨i, rfl⟩ : ∃ i, D = 4 + 2 * i := ⟨(D - 4) / 2, by rw [hB.log2] at hodd; simp at hodd; omega⟩
    have s2 := lv 0 (gNetC_reimFrom F c s ns nc k (by omega) (ℓ0 + 0) (by omega) (by omega)) i m 0 m pw
      (Nat.zero_add _) le_rfl hB.size hB.pwr (Nat.le_refl _)
    exact s2.of_eq (by rw [cBfs16, if_neg hodd])
      (fun T st => by unfold cbfs16; rw [if_neg hodd, ← cbfsLevels_eq]) rfl rfl

/-- one twiddle level of `cbfs2` over a block (all sub-blocks of size `2h`, `h ≥ 2`) -/
theorem clevel_runs (hk3 : k ≤ 3) {ℓ0 D b0 m off pw j d h ss : ℕ} (hB : Blk k ℓ0 D b0 m off pw)
    (hD : D = j + (d + 1)) (hd : d ≠ 0) (hh : h = 2 ^ d) (hss : ss = twE ℓ0 d b0) :
    Runs (valQ c s ns nc) ((List.range (m / (2 * h))).flatMap (fun b =>
        eP (ss + frbN (4 * 2 ^ k) b / 2) ++ eP (ss + frbN (4 * 2 ^ k) b / 2)))
      (fun T st => iterFrom (fun b (st : RI R × ℕ) =>
        (twPassL F.ctTop F.lanesTop T st.2 h (off + b * (2 * h)) st.1, st.2 + 4)) (m / (2 * h)) 0 st)
      (VN (gNetC F c s ns nc k) a (ℓ0 + j) (d + 1)) (VN (gNetC F c s ns nc k) a (ℓ0 + j + 1) d) off m :=
  Runs.blocks k hB hD (show 2 * h = 2 ^ (d + 1) by rw [hh, pow_succ]; ring) rfl
    (fun b => eP (ss + frbN (4 * 2 ^ k) b / 2) ++ eP (ss + frbN (4 * 2 ^ k) b / 2))
    (fun b T st => (twPassL F.ctTop F.lanesTop T st.2 h (off + b * (2 * h)) st.1, st.2 + 4)) fun b hb hS =>
    (twL_runs F c s ns nc k a F.ctTop F.lanesTop hS (gNetC_small F c s ns nc k (ℓ0 + j) d (b0 * 2 ^ j + b) hk3 hd)
      (hB.sub_pass hD hss hb)).of_eq rfl (fun T st => by rw [Nat.mul_div_cancel_left h Nat.two_pos]) rfl rfl

/-- the `h = 1` loop of `cbfs2`: one butterfly per pair, table `(ω, −ω)` -/
theorem clast_runs (hk3 : k ≤ 3) {ℓ0 D1 b0 m off pw ss : ℕ} (hB : Blk k ℓ0 (D1 + 1) b0 m off pw)
    (hss : ss = twE ℓ0 0 b0) :
    Runs (valQ c s ns nc) ((List.range (m / 2)).flatMap (fun i =>
        eP (ss + frbN (4 * 2 ^ k) i / 2) ++ eN (ss + frbN (4 * 2 ^ k) i / 2)))
      (fun T st => iterFrom (fun j (st : RI R × ℕ) =>
        let t := st.2
        let s := st.1
        let a := off + 2 * j
        let r := F.last s.re[a]! s.im[a]! s.re[a + 1]! s.im[a + 1]! T[t]! T[t + 1]! T[t + 2]! T[t + 3]!
        ((⟨(s.re.set! a r.1).set! (a + 1) r.2.2.1, (s.im.set! a r.2.1).set! (a + 1) r.2.2.2⟩ : RI R), t + 4))
        (m / 2) 0 st)
      (VN (gNetC F c s ns nc k) a (ℓ0 + D1) 1) (VN (gNetC F c s ns nc k) a k 0) off m :=
  Runs.blocks k hB (j := D1) (e := 0 + 1) rfl (by norm_num : 2 = 2 ^ (0 + 1)) rfl
    (fun i => eP (ss + frbN (4 * 2 ^ k) i / 2) ++ eN (ss + frbN (4 * 2 ^ k) i / 2))
    (fun j T st => (bf (fun ra ia rb ib wr wi => F.last ra ia rb ib wr wi T[st.2 + 2]! T[st.2 + 3]!) st.1 (off + 2 * j)
      (off + 2 * j + 1) T[st.2]! T[st.2 + 1]!, st.2 + 4)) fun j hj hS =>
    Runs.step 4 rfl (fun T t s => bf (fun ra ia rb ib wr wi => F.last ra ia rb ib wr wi T[t + 2]! T[t + 3]!)
      s (off + 2 * j) (off + 2 * j + 1) T[t]! T[t + 1]!) fun N T t s1 hs1 hN hT => by
      rw [List.map_append] at hT
      obtain ⟨g0, g1⟩ := read_ePQ c s ns nc T t _ hT.left
      obtain ⟨g2, g3⟩ := read_eNQ c s ns nc T (t + 2) _ hT.right
      rw [hB.sub_pass rfl hss hj] at g0 g1 g2 g3
      rw [Nat.mul_comm j 2] at hS hN ⊢
      have := pair1_adv (VN_step (gNetC F c s ns nc k) a (ℓ0 + D1) 0)
        (fun ra ia rb ib wr wi => F.last ra ia rb ib wr wi T[t + 2]! T[t + 3]!) T[t]! T[t + 1]! (b0 * 2 ^ D1 + j)
        (off + 2 * j) (off + 2 * j + 1) hS.pos rfl hN (by rw [gNetC_last F c s ns nc k _ _ hk3, g0, g1, g2, g3]; rfl)
        s1 hs1
      rw [show ℓ0 + D1 + 1 = k from hS.lvl.symm] at this
      exact this

/-- the twiddle levels of `cbfs2`, from blocks of size `2·2^d` down to blocks of size 2, followed by the `h = 1`
loop `last` -/
theorem cbfs2Levels_runs (hk3 : k ≤ 3) {ℓ0 D1 b0 m off pw : ℕ} (hB : Blk k ℓ0 (D1 + 1) b0 m off pw)
    (last : Array R → RI R × ℕ → RI R × ℕ)
    (hlast : Runs (valQ c s ns nc) ((List.range (m / 2)).flatMap (fun i =>
        eP (twE ℓ0 0 b0 + frbN (4 * 2 ^ k) i / 2) ++ eN (twE ℓ0 0 b0 + frbN (4 * 2 ^ k) i / 2)))
      last (VN (gNetC F c s ns nc k) a (ℓ0 + D1) 1) (VN (gNetC F c s ns nc k) a k 0) off m) :
    ∀ d fuel j h ss, j + d = D1 → h = 2 ^ d → ss = twE ℓ0 d b0 → d + 1 ≤ fuel →
      Runs (valQ c s ns nc) (cBfs2Levels (4 * 2 ^ k) m fuel h ss)
        (fun T st => last T (cbfs2Levels F T m off fuel h st))
        (VN (gNetC F c s ns nc k) a (ℓ0 + j) (d + 1)) (VN (gNetC F c s ns nc k) a k 0) off m := by
  intro d
  induction d with
  | zero =>
    intro fuel j h ss hj hh hss hfuel
    obtain ⟨f, rfl⟩ : ∃ f, fuel = f + 1 := Nat.exists_eq_add_one.2 hfuel
    obtain rfl : h = 1 := hh
    obtain rfl : j = D1 := hj
    exact hlast.of_eq (by rw [cBfs2Levels, if_neg (by norm_num), hss])
      (fun T st => by rw [cbfs2Levels, if_neg (by norm_num)]) rfl rfl
  | succ d ih =>
    intro fuel j h ss hj hh hss hfuel
    obtain ⟨f, rfl⟩ : ∃ f, fuel = f + 1 := Nat.exists_eq_add_one.2 (Nat.lt_of_lt_of_le (Nat.succ_pos _) hfuel)
    have hge : h ≥ 2 := hh ▸ Nat.le_self_pow (Nat.succ_ne_zero d) 2
    have st := clevel_runs F c s ns nc k a hk3 hB (j := j) (d := d + 1) (by rw [← hj]; ring) (Nat.succ_ne_zero d) hh hss
    have nx := ih f (j + 1) (h / 2) (ss / 2) (by rw [← hj]; ring)
      (by rw [hh, pow_succ]; exact Nat.mul_div_cancel _ Nat.two_pos)
      (by rw [hss, twE_dsucc]; exact Nat.mul_div_cancel _ Nat.two_pos) (Nat.le_of_succ_le_succ hfuel)
    rw [show ℓ0 + (j + 1) = ℓ0 + j + 1 by ring] at nx
    exact (st.seq nx).of_eq (by rw [cBfs2Levels, if_pos hge]) (fun T st => by rw [cbfs2Levels, if_pos hge]) rfl rfl

theorem cbfs2_runs (hk3 : k ≤ 3) {ℓ0 D1 b0 m off pw : ℕ} (hB : Blk k ℓ0 (D1 + 1) b0 m off pw) :
    Runs (valQ c s ns nc) (cBfs2 (4 * 2 ^ k) m pw) (fun T st => cbfs2 F T m off st)
      (VN (gNetC F c s ns nc k) a ℓ0 (D1 + 1)) (VN (gNetC F c s ns nc k) a k 0) off m :=
  cbfs2Levels_runs F c s ns nc k a hk3 hB _ (clast_runs F c s ns nc k a hk3 hB rfl) D1 m 0 (m / 2) (pw / 2)
    (Nat.zero_add _) hB.half hB.pw_half (Nat.le_of_lt hB.lt_size)

theorem crec16_runs : ∀ fuel {D ℓ0 b0 m off pw : ℕ}, Blk k ℓ0 D b0 m off pw → 11 ≤ D → m ≤ fuel →
    Runs (valQ c s ns nc) (cRec (4 * 2 ^ k) fuel m pw) (fun T st => crec16 F T fuel m off st)
      (VN (gNetC F c s ns nc k) a ℓ0 D) (VN (gNetC F c s ns nc k) a k 0) off m :=
  Runs.recB k 11 2048 (by norm_num) (Tab := cRec (4 * 2 ^ k)) (rec := fun T f m off st => crec16 F T f m off st)
    (Epre := fun x => eP x ++ eP x) (Epost := fun _ => [])
    (pre := fun T h off st => (twPassL F.ctTop F.lanesTop T st.2 h off st.1, st.2 + 4)) (post := fun _ _ _ st => st)
    (In := fun ℓ D => VN (gNetC F c s ns nc k) a ℓ D) (Out := fun _ _ => VN (gNetC F c s ns nc k) a k 0)
    (fun f m pw h => by
      rw [cRec, if_neg (fun h1 => h (Nat.le_trans h1 (by norm_num))), if_neg (fun h8 => h (Nat.le_trans h8 (by norm_num))),
        if_neg h, List.append_nil, List.append_assoc (_ ++ _)])
    (fun T f m off st h => by
      rw [crec16, if_neg (fun h1 => h (Nat.le_trans h1 (by norm_num))),
        if_neg (fun h8 => h (Nat.le_trans h8 (by norm_num))), if_neg h])
    (fun f D ℓ b m off pw hB hD hle => by
      have hD11 := hB.below (C := 11) (by norm_num) hle
      have hge := hB.size_ge (C := 11) (c := 2048) (by norm_num) hD
      exact (cbfs16_runs F c s ns nc k a hB (Nat.le_trans (by norm_num) hD) hD11
        (Or.inl (Nat.le_antisymm hD11 hD))).of_eq
        (by rw [cRec, if_neg (by omega), if_neg (by omega), if_pos hle])
        (fun T st => by rw [crec16, if_neg (by omega), if_neg (by omega), if_pos hle]) rfl rfl)
    (fun {D ℓ b m off pw} hB hD => twL_runs F c s ns nc k a F.ctTop F.lanesTop hB
      (gNetC_top F c s ns nc k ℓ D b (by have := hB.lvl; omega) (by have := hB.lvl; omega)) hB.pw_half)
    (fun _ _ => Runs.id _ _ _ _)

theorem cfftRI_advN (s0 : RI R) (hs : Valid (2 ^ k) s0) :
    AdvN (gNetC F c s ns nc k) a (prs s0)
        (prs (cfftRI F (2 ^ k) (((cplxFftEnts (2 ^ k)).map (valQ c s ns nc)).toArray) s0)) 0 k k 0 0 (2 ^ k) ∧
      Valid (2 ^ k) (cfftRI F (2 ^ k) (((cplxFftEnts (2 ^ k)).map (valQ c s ns nc)).toArray) s0) := by
  have hB : Blk k 0 k 0 (2 ^ k) 0 (2 ^ k) := Blk.top rfl
  by_cases hk0 : k = 0
  · subst hk0
    simp only [cfftRI, pow_zero, Nat.le_refl, ↓reduceIte]
    exact ⟨AdvG.id _ _ _ _, hs⟩
  have h2 : 2 ≤ 2 ^ k := by
    have : 2 ^ 1 ≤ 2 ^ k := Nat.pow_le_pow_right (by omega) (by omega)
    simpa using this
  unfold cfftRI cplxFftEnts
  rw [if_neg (show ¬ 2 ^ k ≤ 1 by omega)]
  simp only
  by_cases h8 : 2 ^ k ≤ 8
  · rw [if_pos h8, if_pos h8]
    have hk3 : k ≤ 3 := by
      by_contra hc
      have : 2 ^ 4 ≤ 2 ^ k := Nat.pow_le_pow_right (by omega) (by omega)
      omega
    obtain ⟨k1, rfl⟩ := Nat.exists_eq_add_one_of_ne_zero hk0
    exact (cbfs2_runs F c s ns nc (k1 + 1) a hk3 hB).run s0 hs
  rw [if_neg h8, if_neg h8]
  have hD4 : 4 ≤ k := by
    by_contra hc
    have : k ≤ 3 := by omega
    have : 2 ^ k ≤ 2 ^ 3 := Nat.pow_le_pow_right (by omega) this
    omega
  by_cases hle : 2 ^ k ≤ 2048
  · rw [if_pos hle, if_pos hle]
    exact (cbfs16_runs F c s ns nc k a hB hD4 (hB.below (C := 11) (by norm_num) hle) (Or.inr rfl)).run s0 hs
  · rw [if_neg hle, if_neg hle]
    obtain ⟨k1, hk1, h11⟩ := hB.above (C := 11) (by norm_num) hle
    exact (crec16_runs F c s ns nc k a (2 ^ k) hB (hk1 ▸ Nat.le_succ_of_le h11) (Nat.le_refl _)).run s0 hs

theorem cfftRI_struct (s0 : RI R) (hs : Valid (2 ^ k) s0) :
    (∀ p, p < 2 ^ k → prs (cfftRI F (2 ^ k) (((cplxFftEnts (2 ^ k)).map (valQ c s ns nc)).toArray) s0) p
      = VN (gNetC F c s ns nc k) (prs s0) k 0 p) ∧
    Valid (2 ^ k) (cfftRI F (2 ^ k) (((cplxFftEnts (2 ^ k)).map (valQ c s ns nc)).toArray) s0) := by
  have key := cfftRI_advN F c s ns nc k (prs s0) s0 hs
  refine ⟨fun p hp => ?_, key.2⟩
  exact key.1.1 (fun q _ _ => rfl) p (Nat.zero_le _) (by omega)

end Spq.Fft.SchedC
