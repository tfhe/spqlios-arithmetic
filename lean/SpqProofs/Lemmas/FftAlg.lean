/-
  C06, algebra layer: the radix-2 level network `V` (the "naive halving recursion", breadth first) over a
  commutative ring, and its invariant `V_ev`: after `ℓ` levels cell `r` of block `b` holds coefficient `r` of the
  residue of the input polynomial modulo `X^(2^d) − ζ^(2^d (1 + 4·brev ℓ b))`; after all `k` levels cell `j` holds the
  evaluation at `ζ^(1 + 4·brev k j)` (`V_top`).
-/
import Mathlib.Tactic.Ring
import SpqProofs.Lemmas.NatBasic
import Mathlib.Tactic.LinearCombination
namespace Spq.Fft.Alg

/-- bit reversal of the `ℓ` low bits -/
def brev : ℕ → ℕ → ℕ
  | 0, _ => 0
  | ℓ + 1, b => brev ℓ (b / 2) + 2 ^ ℓ * (b % 2)

theorem brev_zero_right (ℓ : ℕ) : brev ℓ 0 = 0 := by
  induction ℓ with
  | zero => rfl
  | succ ℓ ih => simp [brev, ih]

theorem brev_even (ℓ b : ℕ) : brev (ℓ + 1) (2 * b) = brev ℓ b := by
  simp [brev]

theorem brev_odd (ℓ b : ℕ) : brev (ℓ + 1) (2 * b + 1) = brev ℓ b + 2 ^ ℓ := by
  have h1 : (2 * b + 1) / 2 = b := by omega
  have h2 : (2 * b + 1) % 2 = 1 := by omega
  simp [brev, h1, h2]

theorem brev_lt (ℓ b : ℕ) : brev ℓ b < 2 ^ ℓ := by
  induction ℓ generalizing b with
  | zero => simp [brev]
  | succ ℓ ih =>
    have := ih (b / 2)
    have h2 : b % 2 < 2 := Nat.mod_lt _ (by omega)
    have : 2 ^ ℓ * (b % 2) ≤ 2 ^ ℓ * 1 := Nat.mul_le_mul_left _ (by omega)
    simp only [brev, pow_succ]
    omega

theorem brev_add (ℓ0 d b0 b : ℕ) (hb : b < 2 ^ d) :
    brev (ℓ0 + d) (b0 * 2 ^ d + b) = brev ℓ0 b0 + 2 ^ ℓ0 * brev d b := by
  induction d generalizing b with
  | zero =>
    have : b = 0 := by simpa using hb
    subst this
    simp [brev]
  | succ d ih =>
    have e0 : b0 * 2 ^ (d + 1) = 2 * (b0 * 2 ^ d) := by rw [pow_succ]; ring
    have e1 : (b0 * 2 ^ (d + 1) + b) / 2 = b0 * 2 ^ d + b / 2 := by
      rw [e0]; omega
    have e2 : (b0 * 2 ^ (d + 1) + b) % 2 = b % 2 := by
      rw [e0]; omega
    have hb2 : b / 2 < 2 ^ d := by rw [pow_succ] at hb; omega
    show brev (ℓ0 + d + 1) _ = _
    rw [brev, e1, e2, ih _ hb2, brev, pow_add]
    ring

section sums
variable {R : Type} [CommRing R]

def sumTo : ℕ → (ℕ → R) → R
  | 0, _ => 0
  | n + 1, f => sumTo n f + f n

theorem sumTo_congr {n : ℕ} {f g : ℕ → R} (h : ∀ q, q < n → f q = g q) : sumTo n f = sumTo n g := by
  induction n with
  | zero => rfl
  | succ n ih =>
    simp only [sumTo]
    rw [ih (fun q hq => h q (by omega)), h n (by omega)]

theorem sumTo_zero {n : ℕ} {f : ℕ → R} (h : ∀ q, q < n → f q = 0) : sumTo n f = 0 := by
  induction n with
  | zero => rfl
  | succ n ih => rw [sumTo, ih (fun q hq => h q (by omega)), h n (by omega), add_zero]

theorem sumTo_add (n : ℕ) (f g : ℕ → R) : sumTo n (fun q => f q + g q) = sumTo n f + sumTo n g := by
  induction n with
  | zero => simp [sumTo]
  | succ n ih => simp only [sumTo, ih]; ring

theorem sumTo_sub (n : ℕ) (f g : ℕ → R) : sumTo n (fun q => f q - g q) = sumTo n f - sumTo n g := by
  induction n with
  | zero => simp [sumTo]
  | succ n ih => simp only [sumTo, ih]; ring

theorem sumTo_mul_left (n : ℕ) (c : R) (f : ℕ → R) : sumTo n (fun q => c * f q) = c * sumTo n f := by
  induction n with
  | zero => simp [sumTo]
  | succ n ih => simp only [sumTo, ih]; ring

theorem sumTo_double (n : ℕ) (f : ℕ → R) :
    sumTo (2 * n) f = sumTo n (fun q => f (2 * q)) + sumTo n (fun q => f (2 * q + 1)) := by
  induction n with
  | zero => simp [sumTo]
  | succ n ih =>
    have : 2 * (n + 1) = 2 * n + 1 + 1 := by ring
    rw [this]
    simp only [sumTo, ih]
    ring

end sums
section levels
variable {R : Type} [CommRing R] (ζ : R) (a : ℕ → R)

/-- twiddle exponent of block `b` when `ℓ` levels are done and the next half-size is `2^d` -/
def twE (ℓ d b : ℕ) : ℕ := 2 ^ d * (1 + 4 * brev ℓ b)

theorem twE_even (ℓ d c : ℕ) : twE (ℓ + 1) d (2 * c) = twE ℓ d c := by rw [twE, twE, brev_even]

theorem twE_odd (ℓ d c : ℕ) : twE (ℓ + 1) d (2 * c + 1) = twE ℓ d c + 2 * 2 ^ (ℓ + 1 + d) := by
  rw [twE, twE, brev_odd, pow_add, pow_succ]; ring

theorem twE_dsucc (ℓ d c : ℕ) : twE ℓ (d + 1) c = twE ℓ d c * 2 := by rw [twE, twE, pow_succ]; ring

/-- The level network: `V ℓ d p` is the content of cell `p` after `ℓ` radix-2 levels, when the blocks
then have size `2^d` (so the transform size is `2^(ℓ+d)`).  One level: in every block of size `2^(d+1)`,
`(x_p, x_{p+h}) ← (x_p + w·x_{p+h}, x_p − w·x_{p+h})`, `h = 2^d`, `w = ζ^(twE ℓ d b)`. -/
def V : ℕ → ℕ → ℕ → R
  | 0, _, p => a p
  | ℓ + 1, d, p =>
    if p % (2 * 2 ^ d) < 2 ^ d then
      V ℓ (d + 1) p + ζ ^ twE ℓ d (p / (2 * 2 ^ d)) * V ℓ (d + 1) (p + 2 ^ d)
    else
      V ℓ (d + 1) (p - 2 ^ d) - ζ ^ twE ℓ d (p / (2 * 2 ^ d)) * V ℓ (d + 1) p

theorem pos (h b r : ℕ) (hr : r < 2 * h) : (2 * h * b + r) % (2 * h) = r ∧ (2 * h * b + r) / (2 * h) = b :=
  ⟨mul_add_mod_of_lt hr, mul_add_div_of_lt hr⟩

theorem pos_off {h b off p : ℕ} (hoff : off = 2 * h * b) (h1 : off ≤ p) (h2 : p < off + 2 * h) :
    p % (2 * h) = p - off ∧ p / (2 * h) = b := by
  obtain ⟨r, rfl⟩ : ∃ r, p = off + r := ⟨p - off, by omega⟩
  rw [Nat.add_sub_cancel_left, hoff]
  exact pos h b r (by omega)

theorem cell_cases (h : ℕ) (hh : 0 < h) (p : ℕ) : ∃ b r, r < h ∧ (p = 2 * h * b + r ∨ p = 2 * h * b + r + h) := by
  have h1 := Nat.div_add_mod p (2 * h)
  have h2 := Nat.mod_lt p (show 0 < 2 * h by omega)
  by_cases hlt : p % (2 * h) < h
  · exact ⟨p / (2 * h), p % (2 * h), hlt, Or.inl h1.symm⟩
  · exact ⟨p / (2 * h), p % (2 * h) - h, by omega, Or.inr (by omega)⟩

/-- the children `2c`, `2c+1` (blocks of `h` cells) of block `c` (of `2h` cells) -/
theorem child0 (h c r : ℕ) : h * (2 * c) + r = 2 * h * c + r := by rw [Nat.mul_left_comm, Nat.mul_assoc]
theorem child1 (h c r : ℕ) : h * (2 * c + 1) + r = 2 * h * c + r + h := by
  rw [Nat.mul_add, Nat.mul_one, Nat.mul_left_comm, Nat.mul_assoc, Nat.add_right_comm]

/-- the cells `p < 2^k` form whole blocks at every level -/
theorem block_lt {k ℓ d p : ℕ} (hk : ℓ + d + 1 = k) (hp : p < 2 ^ k) :
    p / (2 * 2 ^ d) < 2 ^ ℓ ∧ (p % (2 * 2 ^ d) < 2 ^ d → p + 2 ^ d < 2 ^ k) := by
  have hk2 : 2 ^ k = 2 * 2 ^ d * 2 ^ ℓ := by rw [← hk, pow_succ, pow_add]; ring
  have hb : p / (2 * 2 ^ d) < 2 ^ ℓ := by
    apply Nat.div_lt_of_lt_mul; rw [← hk2]; exact hp
  refine ⟨hb, fun hlt => ?_⟩
  have hblk : 2 * 2 ^ d * (p / (2 * 2 ^ d) + 1) ≤ 2 ^ k := by rw [hk2]; exact Nat.mul_le_mul_left _ hb
  have := Nat.div_add_mod p (2 * 2 ^ d)
  rw [Nat.mul_add] at hblk
  omega

theorem V_lo (ℓ d b r : ℕ) (hr : r < 2 ^ d) :
    V ζ a (ℓ + 1) d (2 * 2 ^ d * b + r)
      = V ζ a ℓ (d + 1) (2 * 2 ^ d * b + r) + ζ ^ twE ℓ d b * V ζ a ℓ (d + 1) (2 * 2 ^ d * b + r + 2 ^ d) := by
  obtain ⟨e1, e2⟩ := pos (2 ^ d) b r (by omega)
  rw [V, e1, e2, if_pos hr]

theorem V_hi (ℓ d b r : ℕ) (hr : r < 2 ^ d) :
    V ζ a (ℓ + 1) d (2 * 2 ^ d * b + r + 2 ^ d)
      = V ζ a ℓ (d + 1) (2 * 2 ^ d * b + r) - ζ ^ twE ℓ d b * V ζ a ℓ (d + 1) (2 * 2 ^ d * b + r + 2 ^ d) := by
  obtain ⟨e1, e2⟩ := pos (2 ^ d) b (r + 2 ^ d) (by omega)
  rw [Nat.add_assoc, V, e1, e2, if_neg (by omega), ← Nat.add_assoc, Nat.add_sub_cancel]

/-- `Σ_{q<n} a (r + s·q) · w^q`: coefficient `r` of the input polynomial modulo `X^s − w`, when `n·s` is its length -/
def ev (s n r : ℕ) (w : R) : R := sumTo n (fun q => a (r + s * q) * w ^ q)

/-- the radix-2 step; the upper half of a butterfly is the same fact at `−w` -/
theorem ev_split (s n r : ℕ) (w : R) :
    ev a s (2 * n) r w = ev a (2 * s) n r (w ^ 2) + w * ev a (2 * s) n (r + s) (w ^ 2) := by
  unfold ev
  rw [sumTo_double, ← sumTo_mul_left]
  congr 1
  · apply sumTo_congr; intro q _
    rw [pow_mul, Nat.mul_left_comm, ← Nat.mul_assoc]
  · apply sumTo_congr; intro q _
    rw [pow_succ, pow_mul, Nat.mul_add, Nat.mul_one, Nat.mul_left_comm, ← Nat.mul_assoc, Nat.add_comm (2 * s * q),
      ← Nat.add_assoc]
    ring

theorem pt_odd {k ℓ d : ℕ} (hζ : ζ ^ (2 * 2 ^ k) = -1) (hk : ℓ + 1 + d = k) (c : ℕ) :
    ζ ^ twE (ℓ + 1) d (2 * c + 1) = -ζ ^ twE ℓ d c := by
  rw [twE_odd, pow_add, hk, hζ, mul_neg_one]

/-- After `ℓ` levels, cell `r` of block `b` (block size `h = 2^d`) holds coefficient `r` of the input modulo
`X^h − ζ^twE ℓ d b`.  In the coordinates `(b, r)` the step has no `%` or `/`: block `c` of the level before splits into
`2c` (at the point `w`) and `2c+1` (at `−w`), and `w² = ζ^twE ℓ (d+1) c` is the point of `c`. -/
theorem V_ev (k : ℕ) (hζ : ζ ^ (2 * 2 ^ k) = -1) :
    ∀ ℓ d h b r, ℓ + d = k → h = 2 ^ d → b < 2 ^ ℓ → r < h →
      V ζ a ℓ d (h * b + r) = ev a h (2 ^ ℓ) r (ζ ^ twE ℓ d b) := by
  intro ℓ
  induction ℓ with
  | zero =>
    intro d h b r _ _ hb _
    obtain rfl : b = 0 := by simpa using hb
    simp [V, ev, sumTo]
  | succ ℓ ih =>
    intro d h b r hk hh hb hr
    subst hh
    rw [pow_succ'] at hb
    have hk' : ℓ + (d + 1) = k := by omega
    have h2 : 2 * 2 ^ d = 2 ^ (d + 1) := (pow_succ' 2 d).symm
    have ih1 := fun c hc => ih (d + 1) (2 * 2 ^ d) c r hk' h2 hc (by omega)
    have ih2 := fun c hc => ih (d + 1) (2 * 2 ^ d) c (r + 2 ^ d) hk' h2 hc (by omega)
    simp only [← Nat.add_assoc] at ih2
    obtain ⟨c, rfl | rfl⟩ := Nat.even_or_odd' b
    · have hc : c < 2 ^ ℓ := by omega
      rw [child0, V_lo ζ a ℓ d c r hr, ih1 c hc, ih2 c hc, pow_succ' 2 ℓ, ev_split, twE_even, twE_dsucc, pow_mul]
    · have hc : c < 2 ^ ℓ := by omega
      rw [child1, V_hi ζ a ℓ d c r hr, ih1 c hc, ih2 c hc, pow_succ' 2 ℓ, ev_split, pt_odd ζ hζ (by omega), twE_dsucc,
        pow_mul, neg_sq, neg_mul, sub_eq_add_neg]

theorem V_top (k : ℕ) (hζ : ζ ^ (2 * 2 ^ k) = -1) (j : ℕ) (hj : j < 2 ^ k) :
    V ζ a k 0 j = sumTo (2 ^ k) (fun i => a i * ζ ^ ((1 + 4 * brev k j) * i)) := by
  have key := V_ev ζ a k hζ k 0 1 j 0 (by omega) rfl hj (by omega)
  rw [Nat.one_mul, Nat.add_zero] at key
  rw [key]
  unfold ev twE
  apply sumTo_congr; intro q _
  rw [← pow_mul, pow_zero, Nat.one_mul, Nat.one_mul, Nat.zero_add]

end levels
end Spq.Fft.Alg
