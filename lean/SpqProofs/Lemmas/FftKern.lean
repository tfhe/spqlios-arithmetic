/-
  C06: in exact arithmetic every butterfly shape of the library (reference C, FMA shapes of the AVX2 C code and of the
  assembly leaves, cplx variants) realises the same map on complex values: a butterfly is a shape (`real_fwd`, `real_fwdS`,
  `real_inv`: where the product goes) around a computed complex product (`CMulR`, `cmulR_*`: which product it is);
  hence each implementation (`Flav`, `CFlav`) is exact (`FwdOK`, `InvOK`, `CFwdOK`, `CInvOK`).  `Ctx` / `ICtx`: the data of one transform size.
-/
import SpqProofs.Lemmas.FftSim
import SpqProofs.Lemmas.FftLevel
namespace Spq.Fft.Sim
open Spq.Fft Spq.Fft.Level

variable {R : Type} [CommRing R]

def iφ (u v : R) : R := u + v
def iψ (W : R) (u v : R) : R := (u - v) * W

variable (I : R)

def CMulR (n : R → R → R × R) (W : R) : Prop := ∀ rb ib, (n rb ib).1 + I * (n rb ib).2 = W * (rb + I * ib)

theorem real_fwd {f : Bf R} {wr wi W : R} (n : R → R → R × R) (hn : CMulR I n W)
    (hf : ∀ ra ia rb ib, f ra ia rb ib wr wi = (ra + (n rb ib).1, ia + (n rb ib).2, ra - (n rb ib).1, ia - (n rb ib).2)) :
    Realises I f wr wi (fφ W) (fψ W) := by
  intro ra ia rb ib
  rw [hf]
  simp only [fφ, fψ]
  rw [← hn rb ib]
  constructor <;> ring

/-- forward shape with the outputs the other way round: the product of `−W` is subtracted / added -/
theorem real_fwdS {f : Bf R} {wr wi W : R} (n : R → R → R × R) (hn : CMulR I n (-W))
    (hf : ∀ ra ia rb ib, f ra ia rb ib wr wi = (ra - (n rb ib).1, ia - (n rb ib).2, ra + (n rb ib).1, ia + (n rb ib).2)) :
    Realises I f wr wi (fφ W) (fψ W) := by
  intro ra ia rb ib
  rw [hf]
  simp only [fφ, fψ]
  have h := hn rb ib
  constructor
  · linear_combination (-1 : R) * h
  · linear_combination h

theorem real_inv {f : Bf R} {wr wi W : R} (n : R → R → R × R) (hn : CMulR I n W)
    (hf : ∀ ra ia rb ib, f ra ia rb ib wr wi = (ra + rb, ia + ib, (n (ra - rb) (ia - ib)).1, (n (ra - rb) (ia - ib)).2)) :
    Realises I f wr wi iφ (iψ W) := by
  intro ra ia rb ib
  rw [hf]
  simp only [iφ, iψ]
  rw [hn]
  constructor <;> ring

theorem CMulR.congr {n : R → R → R × R} {W W' : R} (h : CMulR I n W) (e : W = W') : CMulR I n W' := e ▸ h

variable (hI : I * I = -1)
include hI

theorem cmulR_ref (wr wi : R) : CMulR I (fun rb ib => (rb * wr - ib * wi, rb * wi + ib * wr)) (wr + I * wi) :=
  fun rb ib => by linear_combination (-(wi * ib)) * hI
theorem cmulR_fma (wr wi : R) : CMulR I (fun rb ib => (rb * wr - ib * wi, ib * wr + rb * wi)) (wr + I * wi) :=
  fun rb ib => by linear_combination (-(wi * ib)) * hI
theorem cmulR_fmaB (wr wi : R) : CMulR I (fun rb ib => (wi * rb + wr * ib, wi * ib - wr * rb)) (-I * (wr + I * wi)) :=
  fun rb ib => by linear_combination (wi * rb + wr * ib + I * wi * ib) * hI

theorem cmulR_fmaC (wr wi : R) :
    CMulR I (fun rb ib => (ib * (0 - wi) + rb * wr, rb * (0 + wi) + ib * wr)) (wr + I * wi) :=
  fun rb ib => by linear_combination (-(wi * ib)) * hI
theorem cmulR_citRef (wr wi : R) :
    CMulR I (fun rb ib => (-rb * wi - ib * wr, rb * wr - ib * wi)) (I * (wr + I * wi)) :=
  fun rb ib => by linear_combination (-(rb * wi + ib * wr + I * ib * wi)) * hI
theorem cmulR_icitRef (wr wi : R) :
    CMulR I (fun rd id => (rd * wi + id * wr, -rd * wr + id * wi)) (-I * (wr + I * wi)) :=
  fun rd id => by linear_combination (wi * rd + wr * id + I * wi * id) * hI

theorem ctRef_real (wr wi : R) : Realises I (ctRef ringA) wr wi (fφ (wr + I * wi)) (fψ (wr + I * wi)) :=
  real_fwd I _ (cmulR_ref I hI wr wi) (fun _ _ _ _ => rfl)
theorem ctFma_real (wr wi : R) : Realises I (ctFma ringA) wr wi (fφ (wr + I * wi)) (fψ (wr + I * wi)) :=
  real_fwd I _ (cmulR_fma I hI wr wi) (fun _ _ _ _ => rfl)
theorem ictRef_real (wr wi : R) : Realises I (ictRef ringA) wr wi iφ (iψ (wr + I * wi)) :=
  real_inv I _ (cmulR_ref I hI wr wi) (fun _ _ _ _ => rfl)
theorem ictFma_real (wr wi : R) : Realises I (ictFma ringA) wr wi iφ (iψ (wr + I * wi)) :=
  real_inv I _ (cmulR_fma I hI wr wi) (fun _ _ _ _ => rfl)
theorem citFmaB_real (wr wi : R) :
    Realises I (citFmaB ringA) wr wi (fφ (I * (wr + I * wi))) (fψ (I * (wr + I * wi))) :=
  real_fwdS I _ ((cmulR_fmaB I hI wr wi).congr I (neg_mul _ _)) (fun _ _ _ _ => rfl)

/-- shape N: `ctFma` called with the twiddle `(−ωi, ωr)`, i.e. the product of `−ωi + i·ωr = i·W` -/
theorem citFmaN_real (wr wi : R) :
    Realises I (citFmaN ringA) wr wi (fφ (I * (wr + I * wi))) (fψ (I * (wr + I * wi))) := by
  have e : -wi + I * wr = I * (wr + I * wi) := by linear_combination (-wi) * hI
  have key := real_fwd I (f := citFmaN ringA) (wr := wr) (wi := wi) _ (cmulR_fma I hI (-wi) wr) (fun _ _ _ _ => rfl)
  rw [e] at key
  exact key

theorem ctFmaC_real (wr wi : R) : Realises I (ctFmaC ringA 0) wr wi (fφ (wr + I * wi)) (fψ (wr + I * wi)) :=
  real_fwd I _ (cmulR_fmaC I hI wr wi) (fun _ _ _ _ => rfl)
theorem citRef_real (wr wi : R) :
    Realises I (citRef ringA) wr wi (fφ (I * (wr + I * wi))) (fψ (I * (wr + I * wi))) :=
  real_fwd I _ (cmulR_citRef I hI wr wi) (fun _ _ _ _ => rfl)
theorem ictFmaC_real (wr wi : R) : Realises I (ictFmaC ringA 0) wr wi iφ (iψ (wr + I * wi)) :=
  real_inv I _ (cmulR_fmaC I hI wr wi) (fun _ _ _ _ => rfl)
theorem icitRef_real (wr wi : R) : Realises I (icitRef ringA) wr wi iφ (iψ (-I * (wr + I * wi))) :=
  real_inv I _ (cmulR_icitRef I hI wr wi) (fun _ _ _ _ => rfl)
theorem icitFmaB_real (wr wi : R) : Realises I (icitFmaB ringA) wr wi iφ (iψ (-I * (wr + I * wi))) :=
  real_inv I _ (cmulR_fmaB I hI wr wi) (fun _ _ _ _ => rfl)
theorem icitFmaN_real (wr wi : R) : Realises I (icitFmaN ringA) wr wi iφ (iψ (-I * (wr + I * wi))) := by
  have e : wi + I * -wr = -I * (wr + I * wi) := by linear_combination wi * hI
  have key := real_inv I (f := icitFmaN ringA) (wr := wr) (wi := wi) _ (cmulR_fma I hI wi (-wr)) (fun _ _ _ _ => rfl)
  rw [e] at key
  exact key

end Spq.Fft.Sim

namespace Spq.Fft.Kern
open Spq.Fft Spq.Fft.Alg Spq.Fft.Level Spq.Fft.Sim

variable {R : Type} [CommRing R]

structure FwdOK (I : R) (F : Flav R) : Prop where
  ct : ∀ wr wi, Realises I F.ct wr wi (fφ (wr + I * wi)) (fψ (wr + I * wi))
  cit : ∀ wr wi, Realises I F.cit wr wi (fφ (I * (wr + I * wi))) (fψ (I * (wr + I * wi)))
  ctS : ∀ wr wi, Realises I F.ctS wr wi (fφ (wr + I * wi)) (fψ (wr + I * wi))
  citS : ∀ wr wi, Realises I F.citS wr wi (fφ (I * (wr + I * wi))) (fψ (I * (wr + I * wi)))
  ct2 : ∀ wr wi, Realises I F.ct2 wr wi (fφ (wr + I * wi)) (fψ (wr + I * wi))

theorem fwdRef_ok (I : R) (hI : I * I = -1) : FwdOK I (fwdRef ringA) :=
  ⟨ctRef_real I hI, citRef_real I hI, ctRef_real I hI, citRef_real I hI, ctRef_real I hI⟩
theorem fwdFma_ok (I : R) (hI : I * I = -1) : FwdOK I (fwdFma ringA) :=
  ⟨ctFma_real I hI, citFmaB_real I hI, ctFma_real I hI, citFmaN_real I hI, ctRef_real I hI⟩

structure Ctx (R : Type) [CommRing R] where
  ζ : R
  I : R
  k : ℕ
  c : ℕ → R
  s : ℕ → R
  a : ℕ → R
  hI : ζ ^ 2 ^ k = I
  hI2 : I * I = -1
  hcs : ∀ e, c e + I * s e = ζ ^ e

theorem Ctx.V_top (X : Ctx R) (j : ℕ) (hj : j < 2 ^ X.k) :
    V X.ζ X.a X.k 0 j = sumTo (2 ^ X.k) (fun i => X.a i * X.ζ ^ ((1 + 4 * brev X.k j) * i)) :=
  Alg.V_top X.ζ X.a X.k (by rw [Nat.mul_comm, pow_mul, X.hI, pow_two, X.hI2]) j hj

structure InvOK (I : R) (F : Flav R) : Prop where
  ct : ∀ wr wi, Realises I F.ct wr wi iφ (iψ (wr + I * wi))
  cit : ∀ wr wi, Realises I F.cit wr wi iφ (iψ (-I * (wr + I * wi)))
  ctS : ∀ wr wi, Realises I F.ctS wr wi iφ (iψ (wr + I * wi))
  citS : ∀ wr wi, Realises I F.citS wr wi iφ (iψ (-I * (wr + I * wi)))
  ct2 : ∀ wr wi, Realises I F.ct2 wr wi iφ (iψ (wr + I * wi))

theorem invRef_ok (I : R) (hI : I * I = -1) : InvOK I (invRef ringA) :=
  ⟨ictRef_real I hI, icitRef_real I hI, ictRef_real I hI, icitRef_real I hI, ictRef_real I hI⟩
theorem invFma_ok (I : R) (hI : I * I = -1) : InvOK I (invFma ringA) :=
  ⟨ictFma_real I hI, icitFmaB_real I hI, ictFma_real I hI, icitFmaN_real I hI, ictRef_real I hI⟩

/-- the extra data of the inverse transform: `ζi = ζ⁻¹`, and the table holds `(cos, −sin)` -/
structure ICtx (R : Type) [CommRing R] extends Ctx R where
  ζi : R
  hζi : ζ * ζi = 1
  hcsi : ∀ e, c e - I * s e = ζi ^ e

variable (Y : ICtx R)

theorem inv_pow (e : ℕ) : Y.ζ ^ e * Y.ζi ^ e = 1 := by rw [← mul_pow, Y.hζi, one_pow]

theorem inv_shift (e : ℕ) : Y.ζ ^ (2 ^ Y.k + e) * (-Y.I * Y.ζi ^ e) = 1 := by
  rw [pow_add, Y.hI]
  linear_combination (-(Y.I * Y.I)) * inv_pow Y e - Y.hI2

end Spq.Fft.Kern

namespace Spq.Fft.CplxFwd
open Spq.Fft Spq.Fft.Level Spq.Fft.Sim Spq.Fft.Kern

variable {R : Type} [CommRing R]

structure CFwdOK (I : R) (F : CFlav R) : Prop where
  ctTop : ∀ wr wi, Realises I F.ctTop wr wi (fφ (wr + I * wi)) (fψ (wr + I * wi))
  ctOdd : ∀ wr wi, Realises I F.ctOdd wr wi (fφ (wr + I * wi)) (fψ (wr + I * wi))
  /-- the `h = 1` butterfly, called with the table entries `(ω, −ω)` -/
  last : ∀ wr wi, Realises I (fun ra ia rb ib wr' wi' => F.last ra ia rb ib wr' wi' (-wr) (-wi)) wr wi
    (fφ (wr + I * wi)) (fψ (wr + I * wi))
  big : FwdOK I F.big

theorem cfwdRef_ok (I : R) (hI : I * I = -1) : CFwdOK I (cfwdRef ringA) :=
  ⟨ctRef_real I hI, ctRef_real I hI, fun wr wi => ctRef_real I hI wr wi, fwdRef_ok I hI⟩

theorem lastFma_real (I : R) (hI : I * I = -1) (wr wi : R) :
    Realises I (fun ra ia rb ib wr' wi' => lastFma ringA ra ia rb ib wr' wi' (-wr) (-wi)) wr wi
      (fφ (wr + I * wi)) (fψ (wr + I * wi)) := by
  intro ra ia rb ib; simp only [lastFma, ringA, fφ, fψ]; constructor <;> grind

theorem cfwdFma_ok (I : R) (hI : I * I = -1) : CFwdOK I (cfwdFma ringA 0) :=
  ⟨ctFmaC_real I hI, ctFma_real I hI, lastFma_real I hI, fwdFma_ok I hI⟩

end Spq.Fft.CplxFwd

namespace Spq.Fft.CplxInv
open Spq.Fft Spq.Fft.Sim Spq.Fft.Kern

variable {R : Type} [CommRing R]

structure CInvOK (I : R) (F : CFlav R) : Prop where
  ctTop : ∀ wr wi, Realises I F.ctTop wr wi iφ (iψ (wr + I * wi))
  ctOdd : ∀ wr wi, Realises I F.ctOdd wr wi iφ (iψ (wr + I * wi))
  last : ∀ wr wi nwr nwi, Realises I (fun ra ia rb ib wr' wi' => F.last ra ia rb ib wr' wi' nwr nwi) wr wi
    iφ (iψ (wr + I * wi))
  big : InvOK I F.big
  /-- the odd-log pass of `cibfs16` stores ONE complex per block: no lane may read a second copy -/
  lanesOdd : F.lanesOdd = false

theorem cinvRef_ok (I : R) (hI : I * I = -1) : CInvOK I (cinvRef ringA) :=
  ⟨ictRef_real I hI, ictRef_real I hI, fun wr wi _ _ => ictRef_real I hI wr wi, invRef_ok I hI, rfl⟩
theorem cinvFma_ok (I : R) (hI : I * I = -1) : CInvOK I (cinvFma ringA 0) :=
  ⟨ictFmaC_real I hI, ictFmaC_real I hI, fun wr wi _ _ => ictFma_real I hI wr wi, invFma_ok I hI, rfl⟩

end Spq.Fft.CplxInv
