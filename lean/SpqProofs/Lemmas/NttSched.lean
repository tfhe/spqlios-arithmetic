/-
  Array layer of the q120 NTT model: cell-wise reading of a pass, block-by-block = level-by-level
  (`blocks` distributes over passes that only read their own block), shape of the step lists, and the
  description of the level-by-level schedule as a chain of function-level passes (`runAll` of `NttCert`).
-/
import SpqProofs.Lemmas.NttCert
import SpqProofs.Lemmas.ArrayBasic
import SpqProofs.Lemmas.NatBasic

namespace Spq.Q120Ntt

theorem rd_of_lt (x : Array Nat) {i : Nat} (h : i < x.size) : rd x i = x[i] := getD_of_lt x 0 h

theorem rd_of_ge (x : Array Nat) {i : Nat} (h : x.size ≤ i) : rd x i = 0 := getD_of_size_le x i 0 h

theorem ext_rd {x y : Array Nat} (hs : x.size = y.size) (h : ∀ i < x.size, rd x i = rd y i) : x = y :=
  ext_getD 0 hs h

@[simp] theorem size_pass (g : (Nat → Nat) → Nat → Nat) (x : Array Nat) : (pass g x).size = x.size := by
  simp [pass]

theorem rd_pass (g : (Nat → Nat) → Nat → Nat) (x : Array Nat) (i : Nat) :
    rd (pass g x) i = if i < x.size then g (rd x) i else 0 := by
  by_cases h : i < x.size
  · rw [rd_of_lt _ (by simpa using h), if_pos h]; simp [pass]
  · rw [rd_of_ge _ (by simpa using h), if_neg h]

theorem rd_pass_fun (g : (Nat → Nat) → Nat → Nat) (x : Array Nat) :
    rd (pass g x) = clip x.size (g (rd x)) := funext fun i => rd_pass g x i

@[simp] theorem size_blocks (bsz : Nat) (g : Array Nat → Array Nat) (x : Array Nat) :
    (blocks bsz g x).size = x.size := by simp [blocks]

theorem rd_blocks (bsz : Nat) (g : Array Nat → Array Nat) (x : Array Nat) (hdiv : bsz ∣ x.size)
    {i : Nat} (hi : i < x.size) :
    rd (blocks bsz g x) i = rd (g (x.extract (i / bsz * bsz) (i / bsz * bsz + bsz))) (i % bsz) := by
  have hb : i / bsz < x.size / bsz := Nat.div_lt_div_of_lt_of_dvd hdiv hi
  rw [rd_of_lt _ (by simpa using hi)]
  simp [blocks, Array.getD, hb]

theorem rd_extract (x : Array Nat) (c bsz : Nat) {j : Nat} (hj : j < bsz) :
    rd (x.extract (c * bsz) (c * bsz + bsz)) j = rd x (c * bsz + j) := by
  unfold rd
  rw [getD_extract, if_pos (by omega)]

theorem block_in_range {n bsz i : Nat} (hdiv : bsz ∣ n) (hi : i < n) : i / bsz * bsz + bsz ≤ n := by
  obtain ⟨d, rfl⟩ := hdiv
  have h1 : i / bsz < d := Nat.div_lt_of_lt_mul hi
  rw [Nat.mul_comm bsz d]; exact mul_step _ _ _ h1

/-- `g` computes cell `c*bsz + r` from block `c` only, and in the same way in every block -/
def BlockLocal (bsz : Nat) (g : (Nat → Nat) → Nat → Nat) : Prop :=
  ∀ (f f' : Nat → Nat) (c r : Nat), r < bsz → (∀ j < bsz, f' j = f (c * bsz + j)) → g f' r = g f (c * bsz + r)

theorem blocks_pass (bsz : Nat) (g : (Nat → Nat) → Nat → Nat) (hloc : BlockLocal bsz g)
    (x : Array Nat) (hdiv : bsz ∣ x.size) : blocks bsz (pass g) x = pass g x := by
  apply ext_rd (by simp)
  intro i hi
  have hi' : i < x.size := by simpa using hi
  have hr := block_in_range hdiv hi'
  have hb : 0 < bsz := Nat.pos_of_dvd_of_pos hdiv (by omega)
  rw [rd_blocks bsz _ x hdiv hi', rd_pass, rd_pass, if_pos hi', size_extract_of_le x _ bsz hr,
    if_pos (Nat.mod_lt _ hb)]
  have := hloc (rd x) (rd (x.extract (i / bsz * bsz) (i / bsz * bsz + bsz))) (i / bsz) (i % bsz) (Nat.mod_lt _ hb)
    (fun j hj => rd_extract x (i / bsz) bsz hj)
  rw [this]
  congr 1
  rw [Nat.mul_comm]; exact Nat.div_add_mod i bsz

theorem blocks_id (bsz : Nat) (x : Array Nat) (hdiv : bsz ∣ x.size) : blocks bsz (fun b => b) x = x := by
  apply ext_rd (by simp)
  intro i hi
  have hi' : i < x.size := by simpa using hi
  have hr := block_in_range hdiv hi'
  have hb : 0 < bsz := Nat.pos_of_dvd_of_pos hdiv (by omega)
  rw [rd_blocks bsz _ x hdiv hi', rd_extract x _ bsz (Nat.mod_lt _ hb)]
  congr 1
  rw [Nat.mul_comm]; exact Nat.div_add_mod i bsz

theorem blocks_comp (bsz : Nat) (g1 g2 : Array Nat → Array Nat) (hs : ∀ y, (g1 y).size = y.size)
    (x : Array Nat) (hdiv : bsz ∣ x.size) :
    blocks bsz (fun b => g2 (g1 b)) x = blocks bsz g2 (blocks bsz g1 x) := by
  apply ext_rd (by simp)
  intro i hi
  have hi' : i < x.size := by simpa using hi
  have hr := block_in_range hdiv hi'
  have hb : 0 < bsz := Nat.pos_of_dvd_of_pos hdiv (by omega)
  rw [rd_blocks bsz _ x hdiv hi', rd_blocks bsz g2 _ (by simpa using hdiv) (by simpa using hi')]
  congr 2
  apply ext_rd
  · rw [hs, size_extract_of_le x _ bsz hr, size_extract_of_le _ _ bsz (by simpa using hr)]
  · intro j hj
    rw [hs, size_extract_of_le x _ bsz hr] at hj
    rw [rd_extract _ _ bsz hj]
    have hlt : i / bsz * bsz + j < x.size := by omega
    rw [rd_blocks bsz g1 x hdiv hlt]
    have e1 : (i / bsz * bsz + j) / bsz = i / bsz := by
      rw [Nat.add_comm, Nat.add_mul_div_right _ _ hb, Nat.div_eq_of_lt hj, Nat.zero_add]
    have e2 : (i / bsz * bsz + j) % bsz = j := by
      rw [Nat.add_comm, Nat.add_mul_mod_self_right, Nat.mod_eq_of_lt hj]
    rw [e1, e2]

theorem blocks_foldl {σ : Type} (bsz : Nat) (P : σ → Array Nat → Array Nat)
    (hsize : ∀ s y, (P s y).size = y.size) (l : List σ)
    (hP : ∀ s ∈ l, ∀ y : Array Nat, bsz ∣ y.size → blocks bsz (P s) y = P s y)
    (x : Array Nat) (hdiv : bsz ∣ x.size) :
    blocks bsz (fun b => l.foldl (fun y s => P s y) b) x = l.foldl (fun y s => P s y) x := by
  induction l generalizing x with
  | nil => exact blocks_id bsz x hdiv
  | cons s l ih =>
    simp only [List.foldl_cons]
    rw [blocks_comp bsz (P s) (fun b => l.foldl (fun y s => P s y) b) (hsize s) x hdiv,
      hP s (List.mem_cons_self ..) x hdiv]
    exact ih (fun t ht => hP t (List.mem_cons_of_mem _ ht)) _ (by rw [hsize]; exact hdiv)

theorem fwdAt_blockLocal (nn : Nat) (L : Level) (R : Reduc) (tw : Nat → Nat) (bsz : Nat) (hdiv : nn ∣ bsz) :
    BlockLocal bsz (fwdAt nn L R tw) := by
  intro f f' c r hr hf
  have hmod : (c * bsz + r) % nn = r % nn := by
    obtain ⟨d, rfl⟩ := hdiv
    rw [show c * (nn * d) + r = r + nn * (c * d) by ring, Nat.add_mul_mod_self_left]
  simp only [fwdAt, hmod]
  by_cases hj : r % nn < nn / 2
  · simp only [if_pos hj]
    rw [hf r hr, hf _ (idx_add_half hdiv hr hj), Nat.add_assoc]
  · simp only [if_neg hj]
    have hle : nn / 2 ≤ r := le_trans (by omega) (Nat.mod_le r nn)
    rw [hf r hr, hf (r - nn / 2) (by omega), show c * bsz + (r - nn / 2) = c * bsz + r - nn / 2 by omega]

theorem invAt_blockLocal (nn : Nat) (L : Level) (R : Reduc) (tw : Nat → Nat) (bsz : Nat) (hdiv : nn ∣ bsz) :
    BlockLocal bsz (invAt nn L R tw) := by
  intro f f' c r hr hf
  have hmod : (c * bsz + r) % nn = r % nn := by
    obtain ⟨d, rfl⟩ := hdiv
    rw [show c * (nn * d) + r = r + nn * (c * d) by ring, Nat.add_mul_mod_self_left]
  simp only [invAt, hmod]
  by_cases hj : r % nn < nn / 2
  · simp only [if_pos hj]
    rw [hf r hr, hf _ (idx_add_half hdiv hr hj), Nat.add_assoc]
  · simp only [if_neg hj]
    have hle : nn / 2 ≤ r := le_trans (by omega) (Nat.mod_le r nn)
    rw [hf r hr, hf (r - nn / 2) (by omega), show c * bsz + (r - nn / 2) = c * bsz + r - nn / 2 by omega]

@[simp] theorem size_fwdPass (R : Reduc) (tbl : Array Nat) (s : Step) (x : Array Nat) :
    (fwdPass R tbl s x).size = x.size := by simp [fwdPass]
@[simp] theorem size_invPass (R : Reduc) (tbl : Array Nat) (s : Step) (x : Array Nat) :
    (invPass R tbl s x).size = x.size := by simp [invPass]

/-- level `t` (from the top) of the forward list has size `2^(k-t)`; its table offset is the start offset plus the
    `2^(k-u-1) - 1` words of each level `u < t` above it -/
theorem fwdSteps_eq (levels : Array Level) (k idx off : Nat) :
    fwdSteps levels k idx off
      = (List.range k).map fun t => ⟨2 ^ (k - t), levels.getD (idx + t) default, off + (2 ^ k - 2 ^ (k - t)) - t⟩ := by
  induction k generalizing idx off with
  | zero => rfl
  | succ k ih =>
    rw [fwdSteps, ih, List.range_succ_eq_map, List.map_cons, List.map_map]
    refine congrArg₂ _ (by simp) (List.map_congr_left fun t ht => ?_)
    have := List.mem_range.1 ht
    have h1 : 2 ^ (k - t) ≤ 2 ^ k := Nat.pow_le_pow_right (by omega) (Nat.sub_le _ _)
    have e : k + 1 - (t + 1) = k - t := by omega
    have hk : 2 ^ (k + 1) = 2 * 2 ^ k := by ring
    have hpos := Nat.two_pow_pos k
    simp only [Function.comp, e, hk, Step.mk.injEq, true_and]
    exact ⟨by rw [Nat.add_assoc, Nat.add_comm 1 t], by omega⟩

theorem invSteps_eq (levels : Array Level) (c l off : Nat) :
    invSteps levels c l off
      = (List.range c).map fun t => ⟨2 ^ (l + t + 1), levels.getD (l + t) default, off + (2 ^ (l + t) - 2 ^ l) - t⟩ := by
  induction c generalizing l off with
  | zero => rfl
  | succ c ih =>
    rw [invSteps, ih, List.range_succ_eq_map, List.map_cons, List.map_map]
    refine congrArg₂ _ (by simp) (List.map_congr_left fun t _ => ?_)
    have h1 : 2 ^ l ≤ 2 ^ (l + t) := Nat.pow_le_pow_right (by omega) (Nat.le_add_right _ _)
    have e : l + 1 + t = l + (t + 1) := by omega
    have hk : 2 ^ (l + 1) = 2 * 2 ^ l := by ring
    have hk' : 2 ^ (l + (t + 1)) = 2 * 2 ^ (l + t) := by ring
    have hpos := Nat.two_pow_pos l
    simp only [Function.comp, e, Nat.succ_eq_add_one, Step.mk.injEq, true_and, hk', hk]
    omega

theorem mem_fwdSteps_drop (levels : Array Level) (k idx off d : Nat) (s : Step)
    (h : s ∈ (fwdSteps levels k idx off).drop d) : ∃ a, 1 ≤ a ∧ a ≤ k - d ∧ s.nn = 2 ^ a := by
  rw [fwdSteps_eq, ← List.map_drop, List.mem_map] at h
  obtain ⟨t, ht, rfl⟩ := h
  have h1 := List.mem_range.1 (List.mem_of_mem_drop ht)
  have h2 : d ≤ t := by
    rw [List.range_eq_range', List.drop_range', List.mem_range'_1] at ht; omega
  exact ⟨k - t, by omega, by omega, rfl⟩

theorem mem_invSteps_take (levels : Array Level) (c l off t : Nat) (s : Step)
    (h : s ∈ (invSteps levels c l off).take t) : ∃ a, l + 1 ≤ a ∧ a ≤ l + t ∧ a ≤ l + c ∧ s.nn = 2 ^ a := by
  rw [invSteps_eq, ← List.map_take, List.take_range, List.mem_map] at h
  obtain ⟨u, hu, rfl⟩ := h
  have := List.mem_range.1 hu
  exact ⟨l + u + 1, by omega, by omega, by omega, rfl⟩

theorem mem_fwdSteps (levels : Array Level) (k idx off : Nat) (s : Step) (h : s ∈ fwdSteps levels k idx off) :
    ∃ a, 1 ≤ a ∧ a ≤ k ∧ s.nn = 2 ^ a := by
  rw [fwdSteps_eq, List.mem_map] at h
  obtain ⟨t, ht, rfl⟩ := h
  have := List.mem_range.1 ht
  exact ⟨k - t, by omega, by omega, rfl⟩

theorem mem_invSteps (levels : Array Level) (c l off : Nat) (s : Step) (h : s ∈ invSteps levels c l off) :
    ∃ a, l + 1 ≤ a ∧ a ≤ l + c ∧ s.nn = 2 ^ a := by
  rw [invSteps_eq, List.mem_map] at h
  obtain ⟨t, ht, rfl⟩ := h
  have := List.mem_range.1 ht
  exact ⟨l + t + 1, by omega, by omega, rfl⟩

/-- forward transform, every level over the whole vector -/
def nttPlain (k : Nat) (levels : Array Level) (R : Reduc) (tbl : Array Nat) (x : Array Nat) : Array Nat :=
  if k = 0 then x else
  (fwdSteps levels k 1 (2 ^ k)).foldl (fun x s => fwdPass R tbl s x)
    (pass (twistAt (levels.getD 0 default) R false (fun t => rd tbl t)) x)

/-- inverse transform, every level over the whole vector -/
def inttPlain (k : Nat) (levels : Array Level) (R : Reduc) (tbl : Array Nat) (x : Array Nat) : Array Nat :=
  if k = 0 then x else
  pass (twistAt (levels.getD k default) R (levels.getD k default).reduce (fun t => rd tbl (2 ^ k - 1 - k + t)))
    ((invSteps levels k 0 0).foldl (fun x s => invPass R tbl s x) x)

/-- the mixed level-by-level / block-by-block schedule of `q120_ntt_bb_avx2` computes the same vector as the
    plain level-by-level schedule, for every split point `2^ks ≤ n` -/
theorem nttLaneS_eq_plain (ks k : Nat) (hks : ks ≤ k) (levels : Array Level) (R : Reduc) (tbl x : Array Nat)
    (hx : x.size = 2 ^ k) : nttLaneS ks k levels R tbl x = nttPlain k levels R tbl x := by
  unfold nttLaneS nttPlain
  split
  · rfl
  · simp only
    have hsz : ∀ (l : List Step) (y : Array Nat), (l.foldl (fun x s => fwdPass R tbl s x) y).size = y.size :=
      fun l y => size_foldl_of_step (fun y s => fwdPass R tbl s y) (by simp) l y
    rw [blocks_foldl (2 ^ ks) (fun s y => fwdPass R tbl s y) (by simp)]
    · rw [← List.foldl_append, List.take_append_drop]
    · intro s hs y hy
      obtain ⟨a, _, h2, h3⟩ := mem_fwdSteps_drop _ _ _ _ _ s hs
      exact blocks_pass _ _ (fwdAt_blockLocal _ _ _ _ _ (by rw [h3]; exact pow_dvd_pow 2 (by omega))) y hy
    · rw [hsz, size_pass, hx]; exact pow_dvd_pow 2 hks

theorem inttLaneS_eq_plain (ks k : Nat) (hks : ks ≤ k) (levels : Array Level) (R : Reduc) (tbl x : Array Nat)
    (hx : x.size = 2 ^ k) : inttLaneS ks k levels R tbl x = inttPlain k levels R tbl x := by
  unfold inttLaneS inttPlain
  split
  · rfl
  · simp only
    rw [blocks_foldl (2 ^ ks) (fun s y => invPass R tbl s y) (by simp)]
    · rw [← List.foldl_append, List.take_append_drop]
    · intro s hs y hy
      obtain ⟨a, _, h2, _, h3⟩ := mem_invSteps_take _ _ _ _ _ s hs
      exact blocks_pass _ _ (invAt_blockLocal _ _ _ _ _ (by rw [h3]; exact pow_dvd_pow 2 (by omega))) y hy
    · rw [hx]; exact pow_dvd_pow 2 hks

theorem runAll_append {q : Nat} (n : Nat) (R : Reduc) (l1 l2 : List (LStep q)) (f : Nat → Nat) :
    runAll n R (l1 ++ l2) f = runAll n R l2 (runAll n R l1 f) := by
  induction l1 generalizing f with
  | nil => rfl
  | cons s l ih => simp only [List.cons_append, runAll]; exact ih _

/-- on vectors of `n` cells the array function `F` is, read cell by cell, the chain `ls` of function-level passes.
    Built from single passes by composition; the certificate (`cert_sim`) speaks about the chain. -/
structure RunsChain {q : Nat} (n : Nat) (R : Reduc) (F : Array Nat → Array Nat) (ls : List (LStep q)) : Prop where
  size : ∀ x, x.size = n → (F x).size = n
  cells : ∀ x, x.size = n → rd (F x) = runAll n R ls (rd x)

namespace RunsChain
variable {q n : Nat} {R : Reduc}

theorem congr {F G : Array Nat → Array Nat} {ls : List (LStep q)} (h : ∀ x, x.size = n → F x = G x)
    (hG : RunsChain n R G ls) : RunsChain n R F ls :=
  ⟨fun x hx => by rw [h x hx]; exact hG.size x hx, fun x hx => by rw [h x hx]; exact hG.cells x hx⟩

theorem nil : RunsChain n R (fun x => x) ([] : List (LStep q)) := ⟨fun _ hx => hx, fun _ _ => rfl⟩

theorem one (s : LStep q) : RunsChain n R (pass (runL R s.d s.tw)) [s] :=
  ⟨fun x hx => by rw [size_pass, hx], fun x hx => by rw [rd_pass_fun, hx]; rfl⟩

theorem comp {F G : Array Nat → Array Nat} {l1 l2 : List (LStep q)} (h1 : RunsChain n R F l1) (h2 : RunsChain n R G l2) :
    RunsChain n R (fun x => G (F x)) (l1 ++ l2) :=
  ⟨fun x hx => h2.size _ (h1.size x hx),
   fun x hx => by rw [h2.cells _ (h1.size x hx), h1.cells x hx, runAll_append]⟩

theorem foldl (P : Step → Array Nat → Array Nat) (mk : Step → LStep q)
    (hP : ∀ s x, P s x = pass (runL R (mk s).d (mk s).tw) x) (l : List Step) :
    RunsChain n R (fun x => l.foldl (fun x s => P s x) x) (l.map mk) := by
  induction l with
  | nil => exact nil
  | cons s l ih =>
    exact congr (G := fun x => l.foldl (fun x s => P s x) (pass (runL R (mk s).d (mk s).tw) x))
      (fun x _ => by simp only [List.foldl_cons, hP]) ((one (mk s)).comp ih)

end RunsChain

end Spq.Q120Ntt
