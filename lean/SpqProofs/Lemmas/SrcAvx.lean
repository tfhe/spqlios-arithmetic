/-
  Vector lanes (`__m256i` = 4 cells, `__m128i` = 2 cells): unfolding equations of the vector expressions and of
  lane loads / stores, pointers with a non-zero offset, pointer locals advanced by `++`, pointer ordering, and the
  count of a `do … while (rr < rrend)` loop.
-/
import SpqProofs.Lemmas.SrcVec
import SpqProofs.Lemmas.SrcSim
namespace Spq.CIR
open Spq

theorem exec_vstore (Γ : List Ptr) (n : Nat) (b : PBase) (o : Expr) (v : VExpr) (f : Nat) (σ : State) :
    exec Γ (.vstore n b o v) f σ = (eval Γ σ o).bind fun ov => (ptrAt Γ σ.env b ov).bind fun p =>
      (evalV Γ σ v).bind fun vs =>
        if vs.length = n then (storeLanes σ.mem p 0 vs).bind fun m => .ok (.norm, { σ with mem := m })
        else .err .unsupported := rfl
theorem evalV_vload (Γ : List Ptr) (σ : State) (n : Nat) (b : PBase) (o : Expr) :
    evalV Γ σ (.vload n b o) = (eval Γ σ o).bind fun v => (ptrAt Γ σ.env b v).bind fun p => loadLanes σ.mem p 0 n :=
  rfl
theorem evalV_vadd (Γ : List Ptr) (σ : State) (a b : VExpr) :
    evalV Γ σ (.vadd a b) = (evalV Γ σ a).bind fun x => (evalV Γ σ b).bind fun y => zipLanes addS x y := rfl
theorem evalV_vsub (Γ : List Ptr) (σ : State) (a b : VExpr) :
    evalV Γ σ (.vsub a b) = (evalV Γ σ a).bind fun x => (evalV Γ σ b).bind fun y => zipLanes subS x y := rfl
theorem evalV_vset1 (Γ : List Ptr) (σ : State) (n : Nat) (e : Expr) :
    evalV Γ σ (.vset1 n e) = (eval Γ σ e).bind fun v => .ok (List.replicate n (wrapS v)) := rfl
theorem eval_ptrLt (Γ : List Ptr) (σ : State) (b1 b2 : PBase) (o1 o2 : Expr) :
    eval Γ σ (.ptrLt b1 o1 b2 o2) = (eval Γ σ o1).bind fun v1 => (eval Γ σ o2).bind fun v2 =>
      (ptrAt Γ σ.env b1 v1).bind fun p1 => (ptrAt Γ σ.env b2 v2).bind fun p2 => ptrLtVal p1 p2 := rfl
theorem ptrLtVal_same (b o1 o2 : Nat) : ptrLtVal (some (b, o1)) (some (b, o2)) = .ok (b2i (decide (o1 < o2))) := by
  simp [ptrLtVal]

theorem loadLanes_zero (m : Mem) (p : Ptr) (i : Nat) : loadLanes m p i 0 = .ok [] := rfl
theorem loadLanes_succ (m : Mem) (p : Ptr) (i n : Nat) :
    loadLanes m p i (n + 1) = (loadCell m p (i : Int)).bind fun v => (loadLanes m p (i + 1) n).bind fun vs =>
      .ok (v :: vs) := rfl
theorem storeLanes_nil (m : Mem) (p : Ptr) (i : Nat) : storeLanes m p i [] = .ok m := rfl
theorem storeLanes_cons (m : Mem) (p : Ptr) (i : Nat) (v : Int) (vs : List Int) :
    storeLanes m p i (v :: vs) = (storeCell m p (i : Int) v).bind fun m' => storeLanes m' p (i + 1) vs := rfl
theorem zipLanes_nil (f : Int → Int → Int) : zipLanes f [] [] = .ok [] := rfl
theorem zipLanes_cons (f : Int → Int → Int) (x y : Int) (xs ys : List Int) :
    zipLanes f (x :: xs) (y :: ys) = (zipLanes f xs ys).bind fun r => .ok (f x y :: r) := rfl

theorem ptrAt_param_zero (Γ : List Ptr) (env : List Int) (i bf o : Nat) (h : Γ.getD i none = some (bf, o)) :
    ptrAt Γ env (.param i) 0 = .ok (some (bf, o)) :=
  ptrAt_param_off Γ env i bf o 0 0 rfl h

/-- the vector loop `do { …; ++rr; … } while (rr < rrend)`: `q` iterations -/
theorem termA_count (q : Nat) : ∀ m k, 1 ≤ m → k + m = q →
    TermA (fun k : Nat => k + 1) (fun k => decide (q ≤ k)) m k := by
  intro m
  induction m with
  | zero => intro k h; omega
  | succ m ih =>
    intro k _ hk
    by_cases h : q ≤ k + 1
    · exact Or.inl (decide_eq_true h)
    · exact Or.inr (ih (k + 1) (by omega) (by omega))

theorem walkA_count (q : Nat) : ∀ m k, 1 ≤ m → k + m = q →
    walkA (fun k : Nat => k + 1) (fun k => decide (q ≤ k)) m k = q := by
  intro m
  induction m with
  | zero => intro k h; omega
  | succ m ih =>
    intro k _ hk
    simp only [walkA]
    by_cases h : q ≤ k + 1
    · rw [if_pos (decide_eq_true h)]; omega
    · rw [if_neg (by simpa using h)]
      exact ih (k + 1) (by omega) (by omega)
theorem loadCell_shift (m : Mem) (b o i : Nat) :
    loadCell m (some (b, o)) (i : Int) = loadCell m (some (b, 0)) ((o + i : Nat) : Int) := by
  simp only [loadCell]
  have : ((0 : Nat) : Int) + ((o + i : Nat) : Int) = (o : Int) + (i : Int) := by omega
  rw [this]
theorem storeCell_shift (m : Mem) (b o i : Nat) (v : Int) :
    storeCell m (some (b, o)) (i : Int) v = storeCell m (some (b, 0)) ((o + i : Nat) : Int) v := by
  simp only [storeCell]
  have : ((0 : Nat) : Int) + ((o + i : Nat) : Int) = (o : Int) + (i : Int) := by omega
  rw [this]
theorem loadLanes_shift (m : Mem) (b o : Nat) : ∀ (n i : Nat),
    loadLanes m (some (b, o)) i n = loadLanes m (some (b, 0)) (o + i) n := by
  intro n
  induction n with
  | zero => intro i; rfl
  | succ n ih => intro i; rw [loadLanes_succ, loadLanes_succ, loadCell_shift, ih (i + 1)]; rfl
theorem storeLanes_shift (b o : Nat) : ∀ (vs : List Int) (m : Mem) (i : Nat),
    storeLanes m (some (b, o)) i vs = storeLanes m (some (b, 0)) (o + i) vs := by
  intro vs
  induction vs with
  | nil => intro m i; rfl
  | cons v vs ih =>
    intro m i
    rw [storeLanes_cons, storeLanes_cons, storeCell_shift]
    congr 1
    funext m'
    exact ih m' (i + 1)
theorem subS_zero_left (x : Int) : subS 0 x = negS x := by
  simp only [subS, negS, Int.zero_sub]
theorem wrapS_wrap_zero : wrapS (Ty.i64.wrap 0) = 0 := by decide

end Spq.CIR
