/-
  The phases of a limb-vector wrapper: `for (i = lo; i < hi; ++i) kernel(nn, res + i*res_sl, src + i*src_sl, …)` run on
  the arena is the model's `forLimbs lo hi (limb0/1/2 …)`.  The kernel is a PARAMETER: all a phase needs of it is its
  effect on windows of the arena (`hker`; the lemmas `arena_*` of `SrcVecKern.lean` for the reference kernels,
  `arena_*_avx` of `SrcAvxKern.lean` for the AVX ones), so the reference and the AVX wrappers are instances of the same
  statements.  Slot numbers are variables, matched against the generated term.

  Each phase is a derivation in the judgement of `SrcTr.lean`: the loop rule `Tr.for` around one call rule (`Tr.limbs`:
  a kernel call on a result window and a list of source windows against `limbL`, of which `limb0/1/2` are the lists of
  length 0, 1, 2), read off on a heap whose `ok` is only known at the end (`Tr.run`).
-/
import SpqProofs.Lemmas.SrcTr
import SpqProofs.Lemmas.SrcInv
namespace Spq.Src
open Spq Spq.CIR Heap ModuleHeap

/-- limb kernel with the sources `as` (`limb0`, `limb1`, `limb2` of `Spq/Heap.lean` are the lists of length 0, 1, 2, by
    `rfl`) -/
def limbL (nn : Nat) (K : List (Array Int) → Array Int) (r : Nat) (as : List Nat) (h : Heap Int) : Heap Int :=
  (as.foldl (fun h a => h.touch a nn) h).writeLimb r (K (as.map fun a => h.readLimb 0 a nn))

theorem foldl_touch (nn : Nat) (as : List Nat) (h : Heap Int) :
    (as.foldl (fun h a => h.touch a nn) h).mem = h.mem ∧
      ((as.foldl (fun h a => h.touch a nn) h).ok = true ↔ h.ok = true ∧ ∀ a ∈ as, a + nn ≤ h.mem.size) := by
  induction as generalizing h with
  | nil => simp
  | cons a as ih =>
    obtain ⟨h1, h2⟩ := ih (h.touch a nn)
    refine ⟨h1, ?_⟩
    rw [List.foldl_cons, h2]
    simp [Heap.touch, and_assoc]

theorem limbL_mem (nn : Nat) (K : List (Array Int) → Array Int) (r : Nat) (as : List Nat) (h : Heap Int) :
    (limbL nn K r as h).mem = writeArr h.mem r (K (as.map fun a => win h.mem a nn)) := by
  simp only [limbL, Heap.writeLimb, (foldl_touch nn as h).1]
  rfl

theorem limbL_ok (nn : Nat) (K : List (Array Int) → Array Int) (r : Nat) (as : List Nat) (h : Heap Int)
    (hk : (limbL nn K r as h).ok = true) :
    h.ok = true ∧ (∀ a ∈ as, a + nn ≤ h.mem.size) ∧ r + (K (as.map fun a => win h.mem a nn)).size ≤ h.mem.size := by
  simp only [limbL, Heap.writeLimb, Bool.and_eq_true, decide_eq_true_eq, (foldl_touch nn as h).1,
    (foldl_touch nn as h).2] at hk
  exact ⟨hk.1.1, hk.1.2, hk.2⟩

theorem good_limbL (nn : Nat) (K : List (Array Int) → Array Int) (r : Nat) (as : List Nat) : Good (limbL nn K r as) :=
  ⟨fun h hk => (limbL_ok nn K r as h hk).1, fun h => by rw [limbL_mem, Heap.size_writeArr]⟩

theorem good_limb0 (K : Array Int) (r : Nat) : Good (limb0 K r) := good_limbL K.size (fun _ => K) r []
theorem good_limb1 (nn : Nat) (K : Array Int → Array Int) (r a : Nat) : Good (limb1 0 nn K r a) :=
  good_limbL nn (fun l => K (l.headD #[])) r [a]
theorem good_limb2 (nn : Nat) (K : Array Int → Array Int → Array Int) (r a b : Nat) : Good (limb2 0 nn K r a b) :=
  good_limbL nn (fun l => K (l.headD #[]) (l.tail.headD #[])) r [a, b]

theorem forLimbs_eq_loop (lo hi : Nat) (F : Nat → Heap Int → Heap Int) (h : Heap Int) :
    forLimbs lo hi F h = loop (hi - lo) (fun k => F (k + lo)) h := by
  simp [forLimbs, loop, List.range'_eq_map_range, List.foldl_map, Nat.add_comm]

theorem Good.forLimbs (lo hi : Nat) {F : Nat → Heap Int → Heap Int} (hF : ∀ i, Good (F i)) : Good (forLimbs lo hi F) := by
  rw [funext (forLimbs_eq_loop lo hi F)]
  exact Good.loop _ fun i => hF (i + lo)

theorem forLimbs_ok_prefix {F : Nat → Heap Int → Heap Int} (hF : ∀ i, Good (F i)) (lo : Nat) (h : Heap Int) (hi : Nat)
    (hle : lo ≤ hi) (hok : (forLimbs lo hi F h).ok = true) (k : Nat) (h1 : lo ≤ k) (h2 : k ≤ hi) :
    (forLimbs lo k F h).ok = true := by
  rw [forLimbs_eq_loop] at hok ⊢
  exact loop_ok_prefix _ (fun i => (hF (i + lo)).mono) h (hi - lo) (k - lo) (by omega) hok

section
variable {K' : ExtSem} {Γ : List Ptr} {m0 : Mem} {B N fb : Nat} {env : List Int}

/-- a call of a translated kernel whose effect on windows of the arena is the array function `K`: result window `r`,
    source windows `as`; what the kernel needs of their relative position is the business of whoever supplies `hker` -/
theorem Tr.limbs (fn : Fn) (sargs : List Expr) (pargs : List (PBase × Expr)) (vs : List Int) (nn : Nat)
    (K : List (Array Int) → Array Int) (hK : ∀ l, (K l).size = nn) (r : Nat) (as : List Nat)
    (hargs : ∀ m, r + nn ≤ N → (∀ a ∈ as, a + nn ≤ N) → evalList Γ ⟨env, m⟩ sargs = .ok vs ∧
      evalPtrs Γ ⟨env, m⟩ pargs = .ok (some (B, r) :: as.map fun a => some (B, a)))
    (hker : ∀ X : Array Int, X.size = N → r + nn ≤ N → (∀ a ∈ as, a + nn ≤ N) → ∀ f, fb ≤ f →
      runK K' f fn vs (some (B, r) :: as.map fun a => some (B, a)) (m0.setIfInBounds B X)
        = .ok (m0.setIfInBounds B (writeArr X r (K (as.map fun a => win X a nn))))) :
    Tr K' Γ m0 B N fb (· = env) (.call fn.body fn.nslots sargs pargs) (limbL nn K r as) (· = env) := by
  refine ⟨good_limbL nn K r as, ?_⟩
  rintro e H rfl _ hN hk f hf
  obtain ⟨_, b1, b2⟩ := limbL_ok nn K r as H hk
  rw [hK, hN] at b2
  rw [hN] at b1
  obtain ⟨h1, h2⟩ := hargs (m0.setIfInBounds B H.mem) b2 b1
  refine ⟨e, ?_, rfl⟩
  rw [execK_call_run, h1, h2, R.bind_ok, R.bind_ok, hker H.mem hN b2 b1 f hf, limbL_mem]
  rfl

/-- a phase of a limb-vector wrapper: the body leaves the slots as they are, the slot list at the loop head is
    `lset env js j` -/
theorem Tr.forLimbs (js : Nat) (e0 hiE : Expr) (body : Stmt) (F : Nat → Heap Int → Heap Int) (hF : ∀ i, Good (F i))
    (lo hi : Nat) (hlh : lo ≤ hi) (h64 : hi < 18446744073709551616) (hjs : ∀ v, lget (lset env js v) js = v)
    (he0 : ∀ m, eval Γ ⟨env, m⟩ e0 = .ok (lo : Int))
    (hhiE : ∀ (v : Int) m, eval Γ ⟨lset env js v, m⟩ hiE = .ok (hi : Int))
    (hbody : ∀ j, lo ≤ j → j < hi →
      Tr K' Γ m0 B N fb (· = lset env js (j : Int)) body (F j) (· = lset env js (j : Int))) :
    Tr K' Γ m0 B N (hi - lo + fb) (· = env) (.for (.assign js e0) (.bin .lt .u64 (.var js) hiE)
      (.assign js (.bin .add .u64 (.var js) (.lit 1))) body) (Heap.forLimbs lo hi F) (· = lset env js (hi : Int)) := by
  rw [funext (forLimbs_eq_loop lo hi F)]
  exact (Tr.for js e0 hiE body F hF lo hi hlh h64 (fun v (_ : Unit) => lset env js v) ⟨he0, (), rfl⟩
    (fun v _ => ⟨hjs v, fun w => lset_lset env js v w, hhiE v⟩)
    fun j _ h1 h2 => (hbody j h1 h2).pick ()).conseq (fun _ h => h) fun _ ⟨_, h⟩ => h

/-- a derivation run on a heap whose `ok` is not known beforehand -/
theorem Tr.run {s : Stmt} {k : Heap Int → Heap Int} {env' : List Int} (h : Tr K' Γ m0 B N fb (· = env) s k (· = env'))
    (h0 : Heap Int) (hN : h0.mem.size = N) (hok : (k h0).ok = true) {f : Nat} (hf : fb ≤ f) :
    execK K' Γ s f ⟨env, m0.setIfInBounds B h0.mem⟩ = .ok (.norm, ⟨env', m0.setIfInBounds B (k h0).mem⟩) := by
  obtain ⟨_, e, rfl⟩ := h.2 env h0 rfl (h.1.mono _ hok) hN hok f hf
  exact e

end
end Spq.Src

namespace Spq.CIR
open Spq Heap Spq.Src ModuleHeap

/-- the remaining statements after a statement that completes normally -/
theorem memOf_seqK_eq {x : Out} {k : State → Out} {σ' : State} {M : R Mem} (h : x = .ok (.norm, σ'))
    (hk : memOf (k σ') = M) : memOf (seqK x k) = M := by
  rw [h, seqK_norm]; exact hk

theorem memOf_seq_eq {Γ : List Ptr} {a b : Stmt} {f : Nat} {σ σ' : State} {M : R Mem}
    (h : exec Γ a f σ = .ok (.norm, σ')) (hk : memOf (exec Γ b f σ') = M) : memOf (exec Γ (.seq a b) f σ) = M :=
  memOf_seqK_eq h hk

theorem memOf_eq {x : Out} {σ' : State} {M : Mem} (h : x = .ok (.norm, σ')) (hM : σ'.mem = M) : memOf x = .ok M := by
  rw [h, ← hM]; rfl

/-- the pointer argument `param p + i * stride` at iteration `k` -/
theorem evalPtrs_stride (Γ : List Ptr) (env : List Int) (m : Mem) (p js sr bf o k sl : Nat)
    (rest : List (PBase × Expr)) (qs : List Ptr) (hΓ : Γ.getD p none = some (bf, o))
    (hj : lget env js = (k : Int)) (hr : lget env sr = (sl : Int)) (h : k * sl < 18446744073709551616)
    (hrest : evalPtrs Γ ⟨env, m⟩ rest = .ok qs) :
    evalPtrs Γ ⟨env, m⟩ ((.param p, .bin .mul .u64 (.var js) (.var sr)) :: rest) = .ok (some (bf, o + k * sl) :: qs) :=
  evalPtrs_param (eval_mul_u64 (eval_var_eq hj) (eval_var_eq hr) h) hΓ hrest

theorem evalList_var (Γ : List Ptr) (env : List Int) (m : Mem) (s : Nat) (v : Int) (h : lget env s = v) :
    evalList Γ ⟨env, m⟩ [.var s] = .ok [v] := by
  rw [evalList_cons, eval_var, h, evalList_nil]; rfl

/-- the fuel of a phase over the limbs `lo .. hi`, `hi ≤ n`, out of the fuel `n + fb` of the wrapper -/
theorem fuel_le {lo hi n fb f : Nat} (h : hi ≤ n) (hf : n + fb ≤ f) : hi - lo + fb ≤ f :=
  Nat.le_trans (Nat.add_le_add_right (Nat.le_trans (Nat.sub_le _ _) h) _) hf
theorem fuel_le0 {lo hi n k f : Nat} (h : hi ≤ n) (hf : n + k ≤ f) : hi - lo + 0 ≤ f :=
  Nat.le_trans (Nat.le_trans (Nat.sub_le _ _) h) (Nat.le_trans (Nat.le_add_right _ _) hf)

section phases
variable {Γ : List Ptr} {js sn sr : Nat} {e0 hiE : Expr} {fn : Fn} {env : List Int} (m0 : Mem) (B nn : Nat)
  (res rsl : Nat) (h0 : Heap Int) (lo hi fb : Nat) (hX : h0.mem.size < 18446744073709551616) (hlh : lo ≤ hi)
  (h64 : hi < 18446744073709551616)
include hX hlh h64

/-- a phase without source (`znx_zero`) -/
theorem for_limb0 (K : Array Int) (hK : K.size = nn)
    (hker : ∀ (X : Array Int) ro, ro + nn ≤ X.size → ∀ f, fb ≤ f →
      run f fn [(nn : Int)] [some (B, ro)] (m0.setIfInBounds B X) = .ok (m0.setIfInBounds B (writeArr X ro K)))
    (hok : (forLimbs lo hi (fun i => limb0 K (res + i * rsl)) h0).ok = true)
    {pr : Nat} (hΓr : Γ.getD pr none = some (B, res)) (hjs : ∀ v, lget (lset env js v) js = v)
    (hn : ∀ v, lget (lset env js v) sn = (nn : Int)) (hr : ∀ v, lget (lset env js v) sr = (rsl : Int))
    (he0 : ∀ m, eval Γ ⟨env, m⟩ e0 = .ok (lo : Int))
    (hhiE : ∀ (v : Int) m, eval Γ ⟨lset env js v, m⟩ hiE = .ok (hi : Int)) :
    ∀ f, (hi - lo) + fb ≤ f →
      exec Γ (.for (.assign js e0) (.bin .lt .u64 (.var js) hiE) (.assign js (.bin .add .u64 (.var js) (.lit 1)))
          (.call fn.body fn.nslots [.var sn] [(.param pr, .bin .mul .u64 (.var js) (.var sr))])) f
          ⟨env, m0.setIfInBounds B h0.mem⟩
        = .ok (.norm, ⟨lset env js (hi : Int),
            m0.setIfInBounds B (forLimbs lo hi (fun i => limb0 K (res + i * rsl)) h0).mem⟩) :=
  fun _ hf => (Tr.forLimbs (K' := ExtSem.none) js e0 hiE _ _ (fun i => good_limb0 K (res + i * rsl)) lo hi hlh h64 hjs
    he0 hhiE fun k _ _ => Tr.limbs fn _ _ [(nn : Int)] nn (fun _ => K) (fun _ => hK) (res + k * rsl) []
      (fun m b _ => ⟨evalList_var Γ _ m sn _ (hn _), evalPtrs_stride Γ _ m pr js sr B res k rsl [] [] hΓr (hjs _) (hr _)
        (by omega) (evalPtrs_nil _ _)⟩)
      fun X e b _ f hf => hker X _ (e ▸ b) f hf).run h0 rfl hok hf

/-- a phase with one source -/
theorem for_limb1 (K : Array Int → Array Int) (hK : ∀ x, (K x).size = nn) (src sl : Nat)
    (hA : ∀ k, lo ≤ k → k < hi → SameOrDisj nn (res + k * rsl) (src + k * sl))
    (hker : ∀ (X : Array Int) ro ao, ro + nn ≤ X.size → ao + nn ≤ X.size → SameOrDisj nn ro ao → ∀ f, fb ≤ f →
      run f fn [(nn : Int)] [some (B, ro), some (B, ao)] (m0.setIfInBounds B X)
        = .ok (m0.setIfInBounds B (writeArr X ro (K (win X ao nn)))))
    (hok : (forLimbs lo hi (fun i => limb1 0 nn K (res + i * rsl) (src + i * sl)) h0).ok = true)
    {pr ps ss : Nat} (hΓr : Γ.getD pr none = some (B, res)) (hΓs : Γ.getD ps none = some (B, src))
    (hjs : ∀ v, lget (lset env js v) js = v)
    (hn : ∀ v, lget (lset env js v) sn = (nn : Int)) (hr : ∀ v, lget (lset env js v) sr = (rsl : Int))
    (hs : ∀ v, lget (lset env js v) ss = (sl : Int))
    (he0 : ∀ m, eval Γ ⟨env, m⟩ e0 = .ok (lo : Int))
    (hhiE : ∀ (v : Int) m, eval Γ ⟨lset env js v, m⟩ hiE = .ok (hi : Int)) :
    ∀ f, (hi - lo) + fb ≤ f →
      exec Γ (.for (.assign js e0) (.bin .lt .u64 (.var js) hiE) (.assign js (.bin .add .u64 (.var js) (.lit 1)))
          (.call fn.body fn.nslots [.var sn]
            [(.param pr, .bin .mul .u64 (.var js) (.var sr)), (.param ps, .bin .mul .u64 (.var js) (.var ss))])) f
          ⟨env, m0.setIfInBounds B h0.mem⟩
        = .ok (.norm, ⟨lset env js (hi : Int),
            m0.setIfInBounds B (forLimbs lo hi (fun i => limb1 0 nn K (res + i * rsl) (src + i * sl)) h0).mem⟩) :=
  fun _ hf => (Tr.forLimbs (K' := ExtSem.none) js e0 hiE _ _ (fun i => good_limb1 nn K (res + i * rsl) (src + i * sl))
    lo hi hlh h64 hjs he0 hhiE fun k h1 h2 => Tr.limbs fn _ _ [(nn : Int)] nn (fun l => K (l.headD #[])) (fun _ => hK _)
      (res + k * rsl) [src + k * sl]
      (fun m b ba => ⟨evalList_var Γ _ m sn _ (hn _), evalPtrs_stride Γ _ m pr js sr B res k rsl _ _ hΓr (hjs _) (hr _)
        (by omega) (evalPtrs_stride Γ _ m ps js ss B src k sl [] [] hΓs (hjs _) (hs _)
          (by have := ba _ (.head _); omega) (evalPtrs_nil _ _))⟩)
      fun X e b ba f hf => hker X _ _ (e ▸ b) (e ▸ ba _ (.head _)) (hA k h1 h2) f hf).run h0 rfl hok hf

/-- a phase with two sources -/
theorem for_limb2 (K : Array Int → Array Int → Array Int) (hK : ∀ x y, (K x y).size = nn) (a asl b bsl : Nat)
    (hA : ∀ k, lo ≤ k → k < hi → SameOrDisj nn (res + k * rsl) (a + k * asl))
    (hBd : ∀ k, lo ≤ k → k < hi → SameOrDisj nn (res + k * rsl) (b + k * bsl))
    (hker : ∀ (X : Array Int) ro ao bo, ro + nn ≤ X.size → ao + nn ≤ X.size → bo + nn ≤ X.size →
      SameOrDisj nn ro ao → SameOrDisj nn ro bo → ∀ f, fb ≤ f →
      run f fn [(nn : Int)] [some (B, ro), some (B, ao), some (B, bo)] (m0.setIfInBounds B X)
        = .ok (m0.setIfInBounds B (writeArr X ro (K (win X ao nn) (win X bo nn)))))
    (hok : (forLimbs lo hi (fun i => limb2 0 nn K (res + i * rsl) (a + i * asl) (b + i * bsl)) h0).ok = true)
    {pr pa pb sa sb : Nat} (hΓr : Γ.getD pr none = some (B, res)) (hΓa : Γ.getD pa none = some (B, a))
    (hΓb : Γ.getD pb none = some (B, b)) (hjs : ∀ v, lget (lset env js v) js = v)
    (hn : ∀ v, lget (lset env js v) sn = (nn : Int)) (hr : ∀ v, lget (lset env js v) sr = (rsl : Int))
    (hsa : ∀ v, lget (lset env js v) sa = (asl : Int)) (hsb : ∀ v, lget (lset env js v) sb = (bsl : Int))
    (he0 : ∀ m, eval Γ ⟨env, m⟩ e0 = .ok (lo : Int))
    (hhiE : ∀ (v : Int) m, eval Γ ⟨lset env js v, m⟩ hiE = .ok (hi : Int)) :
    ∀ f, (hi - lo) + fb ≤ f →
      exec Γ (.for (.assign js e0) (.bin .lt .u64 (.var js) hiE) (.assign js (.bin .add .u64 (.var js) (.lit 1)))
          (.call fn.body fn.nslots [.var sn]
            [(.param pr, .bin .mul .u64 (.var js) (.var sr)), (.param pa, .bin .mul .u64 (.var js) (.var sa)),
              (.param pb, .bin .mul .u64 (.var js) (.var sb))])) f
          ⟨env, m0.setIfInBounds B h0.mem⟩
        = .ok (.norm, ⟨lset env js (hi : Int), m0.setIfInBounds B
            (forLimbs lo hi (fun i => limb2 0 nn K (res + i * rsl) (a + i * asl) (b + i * bsl)) h0).mem⟩) :=
  fun _ hf => (Tr.forLimbs (K' := ExtSem.none) js e0 hiE _ _
    (fun i => good_limb2 nn K (res + i * rsl) (a + i * asl) (b + i * bsl)) lo hi hlh h64 hjs he0 hhiE
    fun k h1 h2 => Tr.limbs fn _ _ [(nn : Int)] nn (fun l => K (l.headD #[]) (l.tail.headD #[])) (fun _ => hK _ _)
      (res + k * rsl) [a + k * asl, b + k * bsl]
      (fun m br bs => ⟨evalList_var Γ _ m sn _ (hn _), evalPtrs_stride Γ _ m pr js sr B res k rsl _ _ hΓr (hjs _) (hr _)
        (by omega) (evalPtrs_stride Γ _ m pa js sa B a k asl _ _ hΓa (hjs _) (hsa _) (by have := bs _ (.head _); omega)
          (evalPtrs_stride Γ _ m pb js sb B b k bsl [] [] hΓb (hjs _) (hsb _)
            (by have := bs _ (.tail _ (.head _)); omega) (evalPtrs_nil _ _)))⟩)
      fun X e br bs f hf => hker X _ _ _ (e ▸ br) (e ▸ bs _ (.head _)) (e ▸ bs _ (.tail _ (.head _))) (hA k h1 h2)
        (hBd k h1 h2) f hf).run h0 rfl hok hf

end phases
theorem memOf_seqK_exists {x : Out} {k : State → Out} {M : R Mem} (P : State → Prop)
    (h : ∃ σ', x = .ok (.norm, σ') ∧ P σ') (hk : ∀ σ', P σ' → memOf (k σ') = M) : memOf (seqK x k) = M := by
  obtain ⟨σ', h1, h2⟩ := h
  exact memOf_seqK_eq h1 (hk σ' h2)

theorem limb1_bound (nn : Nat) (K : Array Int → Array Int) (r a : Nat) (h : Heap Int)
    (hk : (limb1 0 nn K r a h).ok = true) : a + nn ≤ h.mem.size ∧ r + (K (win h.mem a nn)).size ≤ h.mem.size := by
  rw [limb1_ok] at hk
  simp only [Bool.and_eq_true, decide_eq_true_eq] at hk
  exact ⟨hk.1.2, hk.2⟩

theorem good_limbAlias (nn : Nat) (KI : Array Int → Array Int) (KO : Array Int → Array Int → Array Int) (r s : Nat) :
    Good (if r = s then limb1 0 nn KI r r else fun h => limb1 0 nn (KO (win h.mem r nn)) r s h) := by
  split
  · exact good_limb1 nn KI r r
  · exact Good.dep (fun h => win h.mem r nn) fun y => good_limb1 nn (KO y) r s

/-- The limb loop of rotation / automorphism: the two limb pointers go into the pointer locals `s1`, `s2`; when they are
    equal the in-place kernel `fnI` is called, otherwise `fnO`, which may also read the old result limb (first argument of
    `KO`).  `E j b1 o1 b2 o2` is the environment as a function of the five slots the loop writes; at a call site it is a
    list literal and every hypothesis about it is `rfl`. -/
theorem for_limb_alias {Γ : List Ptr} {js s1 s2 sr ss pr ps : Nat} {e0 hiE : Expr} {fnI fnO : Fn} {xs : List Expr}
    (vs : List Int) (E : Int → Int → Int → Int → Int → List Int) (m0 : Mem) (B nn res rsl src sl : Nat) (h0 : Heap Int)
    (hi fb : Nat) (hX : h0.mem.size < 18446744073709551616) (h64 : hi < 18446744073709551616)
    (KI : Array Int → Array Int) (KO : Array Int → Array Int → Array Int)
    (hKO : ∀ y x, y.size = nn → (KO y x).size = nn)
    (hA : ∀ k, k < hi → SameOrDisj nn (res + k * rsl) (src + k * sl))
    (hkerI : ∀ (X : Array Int) ro, ro + nn ≤ X.size → ∀ f, fb ≤ f →
      run f fnI vs [some (B, ro)] (m0.setIfInBounds B X) = .ok (m0.setIfInBounds B (writeArr X ro (KI (win X ro nn)))))
    (hkerO : ∀ (X : Array Int) ro ao, ro + nn ≤ X.size → ao + nn ≤ X.size → ro + nn ≤ ao ∨ ao + nn ≤ ro →
      ∀ f, fb ≤ f → run f fnO vs [some (B, ro), some (B, ao)] (m0.setIfInBounds B X)
        = .ok (m0.setIfInBounds B (writeArr X ro (KO (win X ro nn) (win X ao nn)))))
    (hok : (forLimbs 0 hi (fun i => if res + i * rsl = src + i * sl then
          limb1 0 nn KI (res + i * rsl) (res + i * rsl)
        else fun h => limb1 0 nn (KO (win h.mem (res + i * rsl) nn)) (res + i * rsl) (src + i * sl) h) h0).ok = true)
    (hΓr : Γ.getD pr none = some (B, res)) (hΓs : Γ.getD ps none = some (B, src))
    (hset : ∀ j b1 o1 b2 o2 v, lset (E j b1 o1 b2 o2) js v = E v b1 o1 b2 o2)
    (hset1 : ∀ j b1 o1 b2 o2 (b o : Nat), encPtr (E j b1 o1 b2 o2) s1 (some (b, o)) = E j b o b2 o2)
    (hset2 : ∀ j b1 o1 b2 o2 (b o : Nat), encPtr (E j b1 o1 b2 o2) s2 (some (b, o)) = E j b1 o1 b o)
    (hget : ∀ j b1 o1 b2 o2, lget (E j b1 o1 b2 o2) js = j ∧ lget (E j b1 o1 b2 o2) s1 = b1 ∧
      lget (E j b1 o1 b2 o2) (s1 + 1) = o1 ∧ lget (E j b1 o1 b2 o2) s2 = b2 ∧ lget (E j b1 o1 b2 o2) (s2 + 1) = o2 ∧
      lget (E j b1 o1 b2 o2) sr = (rsl : Int) ∧ lget (E j b1 o1 b2 o2) ss = (sl : Int))
    (hxs : ∀ j b1 o1 b2 o2 m, evalList Γ ⟨E j b1 o1 b2 o2, m⟩ xs = .ok vs)
    (hhiE : ∀ j b1 o1 b2 o2 m, eval Γ ⟨E j b1 o1 b2 o2, m⟩ hiE = .ok (hi : Int))
    (j0 b1 o1 b2 o2 : Int) (he0 : ∀ m, eval Γ ⟨E j0 b1 o1 b2 o2, m⟩ e0 = .ok 0) :
    ∀ f, hi + fb ≤ f → ∃ σ', exec Γ (.for (.assign js e0) (.bin .lt .u64 (.var js) hiE)
        (.assign js (.bin .add .u64 (.var js) (.lit 1)))
        (.seq (.passign s1 (.param pr) (.bin .mul .u64 (.var js) (.var sr)))
          (.seq (.passign s2 (.param ps) (.bin .mul .u64 (.var js) (.var ss)))
            (.ite (.ptrEq (.pvar s1) (.lit 0) (.pvar s2) (.lit 0))
              (.call fnI.body fnI.nslots xs [(.pvar s1, .lit 0)])
              (.call fnO.body fnO.nslots xs [(.pvar s1, .lit 0), (.pvar s2, .lit 0)]))))) f
        ⟨E j0 b1 o1 b2 o2, m0.setIfInBounds B h0.mem⟩ = .ok (.norm, σ') ∧
      ∃ b1' o1' b2' o2', σ' = ⟨E (hi : Int) b1' o1' b2' o2', m0.setIfInBounds B (forLimbs 0 hi (fun i =>
        if res + i * rsl = src + i * sl then limb1 0 nn KI (res + i * rsl) (res + i * rsl)
        else fun h => limb1 0 nn (KO (win h.mem (res + i * rsl) nn)) (res + i * rsl) (src + i * sl) h) h0).mem⟩ := by
  intro f hf
  -- the model's step with the test inside the heap transformer, as `Tr.ite` produces it
  let kI : Nat → Heap Int → Heap Int := fun i => limb1 0 nn KI (res + i * rsl) (res + i * rsl)
  let kO : Nat → Heap Int → Heap Int := fun i h =>
    limb1 0 nn (KO (win h.mem (res + i * rsl) nn)) (res + i * rsl) (src + i * sl) h
  have hFF : (fun i => if res + i * rsl = src + i * sl then limb1 0 nn KI (res + i * rsl) (res + i * rsl)
      else fun h => limb1 0 nn (KO (win h.mem (res + i * rsl) nn)) (res + i * rsl) (src + i * sl) h)
      = fun i h => if res + i * rsl = src + i * sl then kI i h else kO i h := funext fun i => by split <;> rfl
  rw [hFF, funext (forLimbs_eq_loop 0 hi _)] at hok ⊢
  have gI : ∀ i, Good (kI i) := fun i => good_limb1 nn KI _ _
  have gO : ∀ i, Good (kO i) := fun i => Good.dep (fun h => win h.mem (res + i * rsl) nn) fun y => good_limb1 nn (KO y) _ _
  have hb : ∀ i (H : Heap Int), H.mem.size = h0.mem.size →
      (if res + i * rsl = src + i * sl then kI i H else kO i H).ok = true →
      res + i * rsl + nn ≤ h0.mem.size ∧ src + i * sl + nn ≤ h0.mem.size := by
    intro i H hN hh
    split at hh
    next he =>
      have := (limb1_bound nn _ _ _ H hh).1
      exact ⟨hN ▸ this, he ▸ hN ▸ this⟩
    next =>
      obtain ⟨b1, b2⟩ := limb1_bound nn _ _ _ H hh
      rw [hKO _ _ (size_win _ _ _)] at b2
      exact ⟨hN ▸ b2, hN ▸ b1⟩
  have gjs := fun j b1 o1 b2 o2 => (hget j b1 o1 b2 o2).1
  have gsr := fun j b1 o1 b2 o2 => (hget j b1 o1 b2 o2).2.2.2.2.2.1
  have gss := fun j b1 o1 b2 o2 => (hget j b1 o1 b2 o2).2.2.2.2.2.2
  -- the statement (the `_`) is read off the goal by the `exact` inside the `by`, before the derivation is elaborated
  suffices T : Tr ExtSem.none Γ m0 B h0.mem.size (hi - 0 + fb) (· = E j0 b1 o1 b2 o2) _
      (loop (hi - 0) fun i h => if res + (i + 0) * rsl = src + (i + 0) * sl then kI (i + 0) h else kO (i + 0) h)
      (fun env => ∃ x : Int × Int × Int × Int, env = E hi x.1 x.2.1 x.2.2.1 x.2.2.2) by
    obtain ⟨env', e, ⟨a, b, c, d⟩, rfl⟩ := T.2 _ h0 rfl (T.1.mono _ hok) rfl hok f hf
    exact ⟨_, e, a, b, c, d, rfl⟩
  exact Tr.for js e0 hiE _ (fun i h => if res + i * rsl = src + i * sl then kI i h else kO i h)
    (fun i => (gI i).ite _ (gO i)) 0 hi (Nat.zero_le _) h64
    (fun j (x : Int × Int × Int × Int) => E j x.1 x.2.1 x.2.2.1 x.2.2.2)
    ⟨he0, (b1, o1, b2, o2), hset _ _ _ _ _ _⟩
    (fun v x => ⟨(hget _ _ _ _ _).1, fun w => hset _ _ _ _ _ w, hhiE _ _ _ _ _⟩)
    fun k x _ hk => Tr.of_ok ((gI k).ite _ (gO k)) (hb k) fun hbs => by
      obtain ⟨br, bs⟩ := hbs
      have er := mul_wrap k rsl (by omega)
      have es := mul_wrap k sl (by omega)
      have g := hget (k : Int) (B : Int) ((res + k * rsl : Nat) : Int) (B : Int) ((src + k * sl : Nat) : Int)
      have pr1 := ptrAt_pvar Γ _ s1 B (res + k * rsl) g.2.1 g.2.2.1
      have pr2 := ptrAt_pvar Γ _ s2 B (src + k * sl) g.2.2.2.1 g.2.2.2.2.1
      refine Tr.passign s1 _ _ ((k * rsl : Nat) : Int) B (res + k * rsl)
        (fun m => by simp only [eval_bin, eval_var, gjs, gsr, R.bind_ok, evalBin_mul_u64, er])
        (ptrAt_param Γ _ pr B res (k * rsl) hΓr) ?_
      rw [← encPtr_some, hset1]
      refine Tr.passign s2 _ _ ((k * sl : Nat) : Int) B (src + k * sl)
        (fun m => by simp only [eval_bin, eval_var, gjs, gss, R.bind_ok, evalBin_mul_u64, es])
        (ptrAt_param Γ _ ps B src (k * sl) hΓs) ?_
      rw [← encPtr_some, hset2]
      refine (Tr.ite (res + k * rsl = src + k * sl)
        (fun m => evalB_ptrEq Γ _ _ _ _ _ 0 0 B _ _ (eval_lit _ _ _) (eval_lit _ _ _) pr1 pr2) (gI k) (gO k)
        (fun _ => Tr.call fnI xs _ (gI k) vs [some (B, res + k * rsl)]
          (fun H _ _ => ⟨hxs _ _ _ _ _ _, by simp only [evalPtrs_cons, evalPtrs_nil, eval_lit, R.bind_ok, pr1]⟩)
          fun X hN _ f hf => hkerI X _ (hN ▸ br) f hf)
        (fun he => Tr.call fnO xs _ (gO k) vs [some (B, res + k * rsl), some (B, src + k * sl)]
          (fun H _ _ => ⟨hxs _ _ _ _ _ _, by simp only [evalPtrs_cons, evalPtrs_nil, eval_lit, R.bind_ok, pr1, pr2]⟩)
          fun X hN _ f hf => hkerO X _ _ (hN ▸ br) (hN ▸ bs)
            ((hA k hk).resolve_left fun h => he h.symm) f hf)).pick (_, _, _, _)

end Spq.CIR
