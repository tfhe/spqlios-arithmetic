/-
  The evaluation calculus: one rule per expression form, each with the values of the parts as hypotheses
  `eval Γ σ e = .ok v`, so that a right-hand side, a test or an argument list is evaluated by a TERM that follows the
  expression (no rewriting, no literal slot list: a variable is read through `lget σ.env x = v`, which holds by `rfl` on
  a literal environment and by a hypothesis on an abstract one).  `uint64_t` arithmetic is stated on natural numbers
  with the absence of wrap-around as a side condition on the exact value of that node.
-/
import SpqProofs.Lemmas.SrcRotFill
namespace Spq.CIR
section
variable {Γ : List Ptr} {σ : State}

theorem eval_bin_ok {op : BinOp} {t : Ty} {e1 e2 : Expr} {x y z : Int} (h1 : eval Γ σ e1 = .ok x) (h2 : eval Γ σ e2 = .ok y)
    (h : evalBin op t x y = .ok z) : eval Γ σ (.bin op t e1 e2) = .ok z := by
  rw [eval_bin, h1, R.bind_ok, h2, R.bind_ok, h]

theorem eval_lit_nat (n : Nat) : eval Γ σ (.lit (n : Int)) = .ok (n : Int) := rfl

theorem eval_cast_u64 {e : Expr} {a : Nat} (h : eval Γ σ e = .ok (a : Int)) (ha : a < 18446744073709551616) :
    eval Γ σ (.cast .u64 e) = .ok (a : Int) := by
  rw [eval_cast, h, R.bind_ok, wrap_u64]
  congr 1
  omega

theorem eval_mul_u64 {e1 e2 : Expr} {a b : Nat} (h1 : eval Γ σ e1 = .ok (a : Int)) (h2 : eval Γ σ e2 = .ok (b : Int))
    (h : a * b < 18446744073709551616) : eval Γ σ (.bin .mul .u64 e1 e2) = .ok ((a * b : Nat) : Int) := by
  rw [eval_bin_ok h1 h2 (evalBin_mul_u64 _ _), ← Int.natCast_mul]
  congr 1
  omega

theorem eval_min_u64 {e1 e2 : Expr} {a b : Nat} (h1 : eval Γ σ e1 = .ok (a : Int)) (h2 : eval Γ σ e2 = .ok (b : Int)) :
    eval Γ σ (.cond (.bin .lt .u64 e1 e2) e1 e2) = .ok ((min a b : Nat) : Int) := by
  rw [eval_cond, eval_bin, h1, R.bind_ok, h2, R.bind_ok, evalBin_lt_u64, R.bind_ok]
  by_cases h : a < b
  · have : (a : Int) < (b : Int) := by omega
    rw [Nat.min_eq_left (by omega)]
    simp [b2i, this]
  · have : ¬ (a : Int) < (b : Int) := by omega
    rw [Nat.min_eq_right (by omega)]
    simp [b2i, this]

theorem evalList_cons_ok {e : Expr} {es : List Expr} {v : Int} {vs : List Int} (he : eval Γ σ e = .ok v)
    (hs : evalList Γ σ es = .ok vs) : evalList Γ σ (e :: es) = .ok (v :: vs) := by
  rw [evalList_cons, he, R.bind_ok, hs, R.bind_ok]

theorem evalPtrs_cons_ok {b : PBase} {o : Expr} {ps : List (PBase × Expr)} {v : Int} {p : Ptr}
    {qs : List Ptr} (ho : eval Γ σ o = .ok v) (hp : ptrAt Γ σ.env b v = .ok p) (hq : evalPtrs Γ σ ps = .ok qs) :
    evalPtrs Γ σ ((b, o) :: ps) = .ok (p :: qs) := by
  rw [evalPtrs_cons, ho, R.bind_ok, hp, R.bind_ok, hq, R.bind_ok]

/-- a pointer argument `param i + o` with `o` a natural number -/
theorem evalPtrs_param {i : Nat} {o : Expr} {ps : List (PBase × Expr)} {k bf off : Nat} {qs : List Ptr}
    (ho : eval Γ σ o = .ok (k : Int)) (hΓ : Γ.getD i none = some (bf, off)) (hq : evalPtrs Γ σ ps = .ok qs) :
    evalPtrs Γ σ ((.param i, o) :: ps) = .ok (some (bf, off + k) :: qs) :=
  evalPtrs_cons_ok ho (ptrAt_param_off Γ σ.env i bf off k k rfl hΓ) hq

theorem evalPtrs_param0 {i : Nat} {ps : List (PBase × Expr)} {bf off : Nat} {qs : List Ptr}
    (hΓ : Γ.getD i none = some (bf, off)) (hq : evalPtrs Γ σ ps = .ok qs) :
    evalPtrs Γ σ ((.param i, .lit 0) :: ps) = .ok (some (bf, off) :: qs) :=
  evalPtrs_param (k := 0) rfl hΓ hq

/-- a pointer argument `q + o` for a pointer local `q` -/
theorem evalPtrs_pvar {s : Nat} {o : Expr} {ps : List (PBase × Expr)} {k bf off : Nat} {qs : List Ptr}
    (ho : eval Γ σ o = .ok (k : Int)) (h1 : lget σ.env s = (bf : Int)) (h2 : lget σ.env (s + 1) = (off : Int))
    (hq : evalPtrs Γ σ ps = .ok qs) : evalPtrs Γ σ ((.pvar s, o) :: ps) = .ok (some (bf, off + k) :: qs) :=
  evalPtrs_cons_ok ho (ptrAt_pvar_off Γ σ.env s bf off k k rfl h1 h2) hq

theorem evalPtrs_pvar0 {s : Nat} {ps : List (PBase × Expr)} {bf off : Nat} {qs : List Ptr}
    (h1 : lget σ.env s = (bf : Int)) (h2 : lget σ.env (s + 1) = (off : Int)) (hq : evalPtrs Γ σ ps = .ok qs) :
    evalPtrs Γ σ ((.pvar s, .lit 0) :: ps) = .ok (some (bf, off) :: qs) :=
  evalPtrs_pvar (k := 0) rfl h1 h2 hq
end
end Spq.CIR
