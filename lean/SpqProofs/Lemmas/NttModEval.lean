/-
  One limb of a module that satisfies `ModSpec`, ZMod side: zero limbs, evaluation form, products in DFT space.
-/
import SpqProofs.Lemmas.NttModLimb

namespace Spq.ModuleNtt
open Spq Spq.Q120 Spq.Q120Ntt Finset

theorem rd_lane_zero (c : Array Nat) (hc : ∀ i, c.getD i 0 = 0) (j t : Nat) : rd (lane c j) t = 0 := by
  by_cases ht : t < c.size / 4
  · rw [rd_lane _ _ _ ht]; exact hc _
  · unfold rd; exact getD_of_size_le _ _ _ (by rw [size_lane]; omega)

theorem ModSpec.idft_zero_limb {M : ModPre} {w v ninv : (j : Nat) → ZMod (M.P.q j)} (S : ModSpec M w v ninv)
    (c : Array Nat) (hsz : c.size = 4 * 2 ^ M.k) (hc : ∀ i, c.getD i 0 = 0)
    (t : Nat) (ht : t < 2 ^ M.k) : (idftLimb M c).getD t 0 = 0 := by
  apply idftLimb_eq M S.crt _ t ht 0 (S.i64_centered 0 (by unfold IsI64; omega))
  intro j hj
  apply cast_eq_iff_int_mod.1
  have hw : Words M.k (lane c j) :=
    ⟨by rw [size_lane, hsz]; omega, fun i _ => by rw [rd_lane_zero c hc j i]; decide⟩
  rw [Int.cast_zero]
  exact (S.laneOK j hj).zero _ hw (fun i _ => by rw [res, rd_lane_zero c hc j i]; simp) t ht

/-- **evaluation form of a DFT limb**: with `w_j` a primitive `2n`-th root of unity modulo `q_j`, cell `(p, j)` of
    the DFT limb of the int64 limb `x` is, in `ZMod q_j`, the value of `Σ_t x_t X^t` at `w_j^(2·brev_k(p)+1)`
    (for `k = 0`: the constant polynomial and `w = -1`) -/
theorem ModSpec.dft_limb_eval {M : ModPre} {w v ninv : (j : Nat) → ZMod (M.P.q j)} (S : ModSpec M w v ninv)
    (j : Nat) (hj : j < 4) (x : Array Int) (hx : ∀ t, IsI64 (x.getD t 0)) :
    w j ^ (2 ^ M.k) = -1 ∧
    ∀ p < 2 ^ M.k,
      (((dftLimb M x).getD (4 * p + j) 0 : Nat) : ZMod (M.P.q j))
        = ∑ t ∈ range (2 ^ M.k), ((x.getD t 0 : Int) : ZMod (M.P.q j)) * w j ^ (t * (2 * brev M.k p + 1)) := by
  obtain ⟨hb, hc⟩ := S.lane_b j hj x hx
  refine ⟨(S.laneOK j hj).hw, fun p hp => ?_⟩
  rw [getD_dftLimb M j p hp hj x]
  exact ((S.laneOK j hj).eval _ hb p hp).trans (sum_congr rfl fun t ht => by rw [hc t (mem_range.1 ht)])

/-- coefficient `i` of the negacyclic product `x·y mod X^n + 1` of two integer limbs (exact integers) -/
def nprodZ (n : Nat) (x y : Array Int) (i : Nat) : Int :=
  nmul n (fun t => x.getD t 0) (fun t => y.getD t 0) i

theorem nmul_congr {K : Type} [CommRing K] (n : Nat) (g g' h h' : Nat → K) (hg : ∀ a < n, g a = g' a)
    (hh : ∀ b < n, h b = h' b) (i : Nat) : nmul n g h i = nmul n g' h' i := by
  unfold nmul
  apply sum_congr rfl
  intro a ha
  apply sum_congr rfl
  intro b hb
  rw [hg a (mem_range.1 ha), hh b (mem_range.1 hb)]

theorem cast_nmul (q n : Nat) (g h : Nat → Int) (i : Nat) :
    ((nmul n g h i : Int) : ZMod q) = nmul n (fun t => ((g t : Int) : ZMod q)) (fun t => ((h t : Int) : ZMod q)) i := by
  unfold nmul
  rw [Int.cast_sum]
  apply sum_congr rfl
  intro a _
  rw [Int.cast_sum]
  apply sum_congr rfl
  intro b _
  split
  · rw [Int.cast_mul]
  · split
    · rw [Int.cast_neg, Int.cast_mul]
    · rw [Int.cast_zero]

theorem idftLimb_mod (M : ModPre) (ok : crtOK M.P = true) (c : Array Nat) (t : Nat) (ht : t < 2 ^ M.k) (j : Nat) (hj : j < 4) :
    (idftLimb M c).getD t 0 % (M.P.q j : Int)
      = ((rd (inttLane M.k (M.inv j).levels (M.inv j).R (M.inv j).tbl (lane c j)) t : Nat) : Int) % (M.P.q j : Int) := by
  unfold idftLimb
  rw [bToZnx128Vec_getD _ M.nn _ _ ht, bToZnx128_mod M.P ok _ _ _ _ j hj, sel4_getD _ t j hj,
    getD_inttCells M c t j ht hj, Int.natCast_mod]

/-- one lane of `ModSpec.idft_prod_limb` -/
theorem ModSpec.prod_lane {M : ModPre} {w v ninv : (j : Nat) → ZMod (M.P.q j)} (S : ModSpec M w v ninv)
    (j : Nat) (hj : j < 4) (x y : Array Int) (hx : ∀ t, IsI64 (x.getD t 0)) (hy : ∀ t, IsI64 (y.getD t 0))
    (pc : Array Nat) (hsz : pc.size = 4 * 2 ^ M.k) (hlt : ∀ i, pc.getD i 0 < W64)
    (hprod : ∀ t < 2 ^ M.k, pc.getD (4 * t + j) 0 % M.P.q j
      = ((dftLimb M x).getD (4 * t + j) 0 * (dftLimb M y).getD (4 * t + j) 0) % M.P.q j)
    (t : Nat) (ht : t < 2 ^ M.k) :
    ((rd (inttLane M.k (M.inv j).levels (M.inv j).R (M.inv j).tbl (lane pc j)) t : Nat) : Int) % (M.P.q j : Int)
      = nprodZ (2 ^ M.k) x y t % (M.P.q j : Int) := by
  obtain ⟨hbx, hcx⟩ := S.lane_b j hj x hx
  obtain ⟨hby, hcy⟩ := S.lane_b j hj y hy
  have hrd : ∀ i < 2 ^ M.k, rd (lane pc j) i = pc.getD (4 * i + j) 0 := fun i hi =>
    rd_lane _ _ _ (by rw [hsz]; omega)
  have hp : Words M.k (lane pc j) := ⟨by rw [size_lane, hsz]; omega, fun i hi => by rw [hrd i hi]; exact hlt _⟩
  apply cast_eq_iff_int_mod.1
  refine ((S.laneOK j hj).mul _ _ _ hbx hby hp (fun i hi => by
    rw [res, hrd i hi, cast_of_mod_eq (hprod i hi), Nat.cast_mul, getD_dftLimb M j i hi hj, getD_dftLimb M j i hi hj]
    rfl) t ht).trans ?_
  rw [nprodZ, cast_nmul]
  exact nmul_congr _ _ _ _ _ hcx hcy t

end Spq.ModuleNtt
