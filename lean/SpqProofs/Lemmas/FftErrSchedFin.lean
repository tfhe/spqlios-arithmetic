/-
  C06.4: assembling the a-priori rounding bound of the forward reim FFT in binary64.  The assembly itself
  (`err_assemble`: transfer + network error ⇒ bound on the output array) is shared with the other three transforms.
-/
import SpqProofs.Lemmas.FftErrSchedIXfer
import Mathlib.Tactic.IntervalCases
namespace Spq.FftErr
open Finset Spq.Fft Spq.Fft.Alg Spq.Fft.RelN Spq.Fft.SimP Spq.Fft.LevelN Spq.Fft.SchedN Spq.F64
variable {K : Type} [Field K] [LinearOrder K] [IsStrictOrderedRing K]

theorem eta_cast (u τ : ℚ) : eta (u : K) (τ : K) = ((eta u τ : ℚ) : K) := by
  unfold eta rho gam; push_cast; ring

theorem eta64_le : eta ((u64 : ℚ) : K) (((7 / 2 * u64 : ℚ)) : K) ≤ ((8 * u64 : ℚ) : K) := by
  rw [eta_cast]
  exact (Rat.cast_le (K := K)).2 (by unfold u64; exact eta_f64_le)

theorem pow_sub_one_sq_mono (η η' : K) (h0 : 0 ≤ η) (h : η ≤ η') (k : ℕ) :
    ((1 + η) ^ k - 1) ^ 2 ≤ ((1 + η') ^ k - 1) ^ 2 := by
  have h1 : (1 : K) ≤ (1 + η) ^ k := one_le_pow₀ (by linarith)
  have h2 : (1 + η) ^ k ≤ (1 + η') ^ k := pow_le_pow_left₀ (by linarith) (by linarith) k
  exact pow_le_pow_left₀ (by linarith) (by linarith) 2

theorem net_bound_on (k : ℕ) (η η' : K) (hη0 : 0 ≤ η) (hη : η ≤ η') (X Y O E : ℕ → Cplx K)
    (ne : ∑ j ∈ range (2 ^ k), nsq (X j - Y j) ≤ ((1 + η) ^ k - 1) ^ 2 * ∑ j ∈ range (2 ^ k), nsq (Y j))
    (e1 : ∀ j ∈ range (2 ^ k), X j = O j) (e2 : ∀ j ∈ range (2 ^ k), Y j = E j) :
    ∑ j ∈ range (2 ^ k), nsq (O j - E j) ≤ ((1 + η') ^ k - 1) ^ 2 * ∑ j ∈ range (2 ^ k), nsq (E j) := by
  rw [sum_congr rfl (fun j hj => by rw [e1 j hj, e2 j hj] : ∀ j ∈ range (2 ^ k), nsq (X j - Y j) = nsq (O j - E j)),
    sum_congr rfl (fun j hj => by rw [e2 j hj] : ∀ j ∈ range (2 ^ k), nsq (Y j) = nsq (E j))] at ne
  refine le_trans ne (mul_le_mul_of_nonneg_right (pow_sub_one_sq_mono _ _ hη0 hη k) ?_)
  exact sum_nonneg (fun j _ => nsq_nonneg _)

theorem tau64_nonneg : (0 : K) ≤ ((7 / 2 * u64 : ℚ) : K) := by
  have : (0 : ℚ) ≤ 7 / 2 * u64 := by unfold u64; positivity
  exact_mod_cast this

theorem eta64_nonneg : (0 : K) ≤ eta ((u64 : ℚ) : K) (((7 / 2 * u64 : ℚ)) : K) := by
  have : (0 : ℚ) ≤ u64 := by unfold u64; positivity
  exact eta_nonneg (by exact_mod_cast this) tau64_nonneg

theorem pow_two_mul_of_I {k : ℕ} {ζ : Cplx K} (hI : ζ ^ 2 ^ k = Ic) : ζ ^ (2 * 2 ^ k) = -1 := by
  rw [Nat.mul_comm, pow_mul, hI, pow_two, Ic_mul]
  ext <;> simp [Ic, QuadraticAlgebra.re_one, QuadraticAlgebra.im_one]

/-- The assembly shared by the four transforms.  Output `j` of the transform sits in the cells `ix j`, `iy j` of
    `out`; `xf` is what `transfer` concludes (`Z`: the network on the guarded arithmetic lifted to `K`), `ne` the
    error of that network against the exact one. -/
theorem err_assemble (k : ℕ) (ix iy : ℕ → ℕ) (hcov : ∀ p, p < 2 * 2 ^ k → ∃ j, j < 2 ^ k ∧ (ix j = p ∨ iy j = p))
    (out : Array ℕ) (Z : ℕ → K × K) (Y E : ℕ → Cplx K)
    (xf : ∀ j, j < 2 ^ k → Fin64 out[ix j]! ∧ Fin64 out[iy j]! ∧
      ((val out[ix j]! : ℚ) : K) = (Z j).1 ∧ ((val out[iy j]! : ℚ) : K) = (Z j).2)
    (ne : ∑ j ∈ range (2 ^ k), nsq (toC (Z j) - Y j) ≤
      ((1 + eta ((u64 : ℚ) : K) (((7 / 2 * u64 : ℚ)) : K)) ^ k - 1) ^ 2 * ∑ j ∈ range (2 ^ k), nsq (Y j))
    (e2 : ∀ j ∈ range (2 ^ k), Y j = E j) :
    (∀ p, p < 2 * 2 ^ k → Fin64 out[p]!) ∧
    ∑ j ∈ range (2 ^ k), nsq (toC (((val out[ix j]! : ℚ) : K), ((val out[iy j]! : ℚ) : K)) - E j) ≤
      ((1 + ((8 * u64 : ℚ) : K)) ^ k - 1) ^ 2 * ∑ j ∈ range (2 ^ k), nsq (E j) := by
  refine ⟨fun p hp => ?_, net_bound_on k _ _ eta64_nonneg eta64_le _ _ _ _ ne (fun j hj => ?_) e2⟩
  · obtain ⟨j, hj, h | h⟩ := hcov p hp
    · rw [← h]; exact (xf j hj).1
    · rw [← h]; exact (xf j hj).2.1
  · obtain ⟨_, _, h3, h4⟩ := xf j (mem_range.1 hj)
    unfold toC
    rw [h3, h4]

/-- `ne` is the error of the network on the lifted arithmetic
    (`fwdN_err` / `invN_err` with the per-butterfly lemma of the family), `e2` names the exact outputs -/
theorem NetCells.err {k : ℕ} {Φ Tw : Type → Type} {run : ∀ {R : Type} [Inhabited R], Φ R → Tw R → Array R → Array R}
    {ok : ∀ {R : Type}, Φ R → Prop}
    {G : ∀ {R : Type}, Φ R → Tw R → ℕ → ℕ → ℕ → R × R → R × R → (R × R) × (R × R)}
    {N : ∀ {γ : Type}, (ℕ → ℕ → ℕ → γ → γ → γ × γ) → (ℕ → γ) → ℕ → γ} {ix iy : ℕ → ℕ}
    (hC : NetCells k run ok G N ix iy) (Fb : Φ ℕ) (FB : Φ (ℕ × Prop)) (FQ : Φ ℚ) (FK : Φ K) (hb : ok Fb) (hB : ok FB)
    (tb : Tw ℕ) (tB : Tw (ℕ × Prop)) (tQ : Tw ℚ) (tK : Tw K)
    (h1 : NetSim (R2 (fun (x : Nat × Prop) (b : Nat) => x.1 = b)) (G FB tB) (G Fb tb))
    (h2 : NetSim (R2 RelQ) (G FB tB) (G FQ tQ))
    (h3 : NetSim (R2 (fun (q : ℚ) (x : K) => x = (q : K))) (G FQ tQ) (G FK tK))
    (data : Array ℕ) (hdata : data.size = 2 * 2 ^ k)
    (hok : ∀ p, p < 2 * 2 ^ k → ((run FB tB (data.map lift))[p]!).2) (Y E : ℕ → Cplx K)
    (ne : ∑ j ∈ range (2 ^ k),
        nsq (toC (N (G FK tK) (fun p => (((val data[ix p]! : ℚ) : K), ((val data[iy p]! : ℚ) : K))) j) - Y j) ≤
      ((1 + eta ((u64 : ℚ) : K) (((7 / 2 * u64 : ℚ)) : K)) ^ k - 1) ^ 2 * ∑ j ∈ range (2 ^ k), nsq (Y j))
    (e2 : ∀ j ∈ range (2 ^ k), Y j = E j) :
    (∀ p, p < 2 * 2 ^ k → Fin64 (run Fb tb data)[p]!) ∧
    ∑ j ∈ range (2 ^ k),
        nsq (toC (((val (run Fb tb data)[ix j]! : ℚ) : K), ((val (run Fb tb data)[iy j]! : ℚ) : K)) - E j) ≤
      ((1 + ((8 * u64 : ℚ) : K)) ^ k - 1) ^ 2 * ∑ j ∈ range (2 ^ k), nsq (E j) :=
  err_assemble k ix iy hC.cov _ _ _ _ (hC.transfer Fb FB FQ FK hb hB tb tB tQ tK h1 h2 h3 data hdata hok) ne e2

theorem bound16 (k : ℕ) (hk : k ≤ 16) : (1 + 8 * u64) ^ k - 1 ≤ 8 * (k + 1 : ℚ) * u64 := by
  unfold u64
  have h : (2 : ℚ) ^ (-53 : ℤ) = 1 / 9007199254740992 := by norm_num
  rw [h]
  interval_cases k <;> norm_num

theorem bound16K (k : ℕ) (hk : k ≤ 16) :
    ((1 + ((8 * u64 : ℚ) : K)) ^ k - 1) ^ 2 ≤ (((8 * (k + 1 : ℚ) * u64 : ℚ)) : K) ^ 2 := by
  have hb := bound16 k hk
  have h1 : (1 : ℚ) ≤ (1 + 8 * u64) ^ k := one_le_pow₀ (by unfold u64; norm_num)
  have h2 : ((1 + 8 * u64) ^ k - 1) ^ 2 ≤ (8 * (k + 1 : ℚ) * u64) ^ 2 :=
    pow_le_pow_left₀ (by linarith) hb 2
  have := (Rat.cast_le (K := K)).2 h2
  push_cast at this ⊢
  exact this

/-- from the a-priori bound `(1+8u)^k − 1` of a transform of size `2^k ≤ 2^16` to the property's `8·log2(2m)·u` -/
theorem prop_of_err {ι : Type} (s : Finset ι) (D E : ι → Cplx K) (k : ℕ) (hk : k ≤ 16)
    (h : ∑ j ∈ s, nsq (D j) ≤ ((1 + ((8 * u64 : ℚ) : K)) ^ k - 1) ^ 2 * ∑ j ∈ s, nsq (E j)) :
    ∑ j ∈ s, nsq (D j) ≤ (((8 * (k + 1 : ℚ) * u64 : ℚ)) : K) ^ 2 * ∑ j ∈ s, nsq (E j) :=
  le_trans h (mul_le_mul_of_nonneg_right (bound16K k hk) (sum_nonneg (fun _ _ => nsq_nonneg _)))

/-- the exact forward transform of the values of `data`: output `j` -/
def exactOut (ζ : Cplx K) (k : ℕ) (data : Array ℕ) (j : ℕ) : Cplx K :=
  sumTo (2 ^ k) (fun i => toC (((val data[i]! : ℚ) : K), ((val data[2 ^ k + i]! : ℚ) : K)) * ζ ^ ((1 + 4 * brev k j) * i))

/-- the values of the binary64 output cell `j` as a complex number over `K` -/
def outC (out : Array ℕ) (k j : ℕ) : Cplx K := toC (((val out[j]! : ℚ) : K), ((val out[2 ^ k + j]! : ℚ) : K))

theorem fft_err_fam (Fam : ∀ {α : Type}, Arith α → Flav α) (hFam : FamOK Fam)
    (hErr : ∀ (A : Arith K) (u τ : K), FStd A u → 0 ≤ τ → FwdErrOK (Fam A) τ (eta u τ))
    (k : ℕ) (ζ : Cplx K) (hζ : nsq ζ = 1) (hI : ζ ^ 2 ^ k = Ic) (cN sN : ℕ → ℕ)
    (hcs : ∀ ℓ d b, ℓ + d + 1 = k → b < 2 ^ ℓ →
      nsq (toC (((val (cN (twE ℓ d b)) : ℚ) : K), ((val (sN (twE ℓ d b)) : ℚ) : K)) - ζ ^ twE ℓ d b) ≤
        (((7 / 2 * u64 : ℚ)) : K) ^ 2)
    (data : Array ℕ) (hdata : data.size = 2 * 2 ^ k)
    (hok : ∀ p, p < 2 * 2 ^ k →
      ((reimFftA (Fam aOk) (2 ^ k) ((((reimFftEnts (2 ^ k)).map (valP cN sN)).toArray).map lift) (data.map lift))[p]!).2) :
    (∀ p, p < 2 * 2 ^ k → Fin64 ((reimFftA (Fam f64) (2 ^ k) ((reimFftEnts (2 ^ k)).map (valP cN sN)).toArray data)[p]!)) ∧
    ∑ j ∈ range (2 ^ k), nsq (outC (reimFftA (Fam f64) (2 ^ k) ((reimFftEnts (2 ^ k)).map (valP cN sN)).toArray data) k j
        - exactOut ζ k data j) ≤
      ((1 + ((8 * u64 : ℚ) : K)) ^ k - 1) ^ 2 * ∑ j ∈ range (2 ^ k), nsq (exactOut ζ k data j) := by
  rw [table_map lift cN sN] at hok
  obtain ⟨s1, s2, s3⟩ := gNet_sims (K := K) Fam hFam k cN sN
  exact (xformF k).netCells.err (Fam f64) (Fam aOk) (Fam aG) (Fam (liftA aG : Arith K)) trivial trivial (cN, sN)
    (_, _) (_, _) (_, _)     s1 s2 s3 data hdata hok _ _
    (fwdN_err ζ hζ _ eta64_nonneg k _
      (gC_err (Fam (liftA aG : Arith K)) (fun e => ((val (cN e) : ℚ) : K)) (fun e => ((val (sN e) : ℚ) : K)) k ζ
        _ _ (hErr (liftA aG) _ _ (liftA_fstd aG u64 aG_fstd) tau64_nonneg) hζ hI hcs) _)
    (fun j hj => V_top ζ _ k (pow_two_mul_of_I hI) j (mem_range.1 hj))

def famOf (fma : Bool) : ∀ {α : Type}, Arith α → Flav α := fun {α} A => if fma then fwdFma (α := α) A else fwdRef A

theorem reimFft_eq (fma : Bool) (m : ℕ) (T data : Array ℕ) :
    reimFft (if fma then "fma" else "ref") m T data = reimFftA (famOf fma f64) m T data := by
  cases fma <;> rfl

end Spq.FftErr
