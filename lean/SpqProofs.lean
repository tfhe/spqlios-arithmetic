-- property theorems: SpqProofs/Properties/Cxx.lean ; helper lemmas: SpqProofs/Lemmas/*.lean
import SpqProofs.Properties.C03
import SpqProofs.Properties.C05
import SpqProofs.Properties.C08
import SpqProofs.Properties.C09
import SpqProofs.Properties.C11
import SpqProofs.Properties.C12
import SpqProofs.Properties.C13
import SpqProofs.Properties.C15
import SpqProofs.Properties.C17
import SpqProofs.Properties.C18
import SpqProofs.Properties.C07
import SpqProofs.Properties.C10
import SpqProofs.Properties.C16
import SpqProofs.Properties.Bridge
import SpqProofs.Properties.C01
import SpqProofs.Properties.C02
import SpqProofs.Properties.C04
import SpqProofs.Properties.C06
import SpqProofs.Properties.C06Err
import SpqProofs.Properties.C01Err
import SpqProofs.Properties.C02Err
import SpqProofs.Properties.C16Err
import SpqProofs.Properties.ModHeap
import SpqProofs.Properties.ErrWitness
import SpqProofs.Properties.C14
import SpqProofs.Properties.Closed
import SpqProofs.Properties.Numerics
import SpqProofs.Properties.Cover
import SpqProofs.Properties.C03Mod
import SpqProofs.Properties.SrcElem
import SpqProofs.Properties.SrcRot
import SpqProofs.Properties.SrcNorm
import SpqProofs.Properties.SrcVec
import SpqProofs.Properties.SrcAutIn
import SpqProofs.Lemmas.SrcAutInTac
import SpqProofs.Lemmas.SrcVecTac
import SpqProofs.Properties.SrcAvx
import SpqProofs.Properties.SrcVecAvx
import SpqProofs.Properties.SrcVecNorm
import SpqProofs.Properties.SrcQ120
import SpqProofs.Properties.SrcQ120X2
import SpqProofs.Properties.SrcQ120Avx
import SpqProofs.Properties.SrcMod
import SpqProofs.Properties.SrcModVmp
import SpqProofs.Properties.BridgeFft
import SpqProofs.Properties.C14Sel
import SpqProofs.Properties.C13Ok
import SpqProofs.Properties.C16Err2
import SpqProofs.Properties.C12Warm
import SpqProofs.Properties.ErrWitness2
